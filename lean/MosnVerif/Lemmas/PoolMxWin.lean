import MosnVerif.Model.PoolMxWin
import MosnVerif.Lemmas.Pool
import MosnVerif.Lemmas.Schedule
/-! The request ledger of the multiplex and HTTP/2 pools under every interleaving (`Model/PoolMxWin.lean`): for every set of
handler programs of the decidable class `ledgerOk` the breaker and the two request_active gauges equal the requests in flight
plus what the handlers in progress still owe, in EVERY intermediate state. -/
namespace MosnVerif.Lemmas.PoolMxWin
open MosnVerif.Model.PoolMxWin MosnVerif.Gen.Pool
open MosnVerif.Model.Pool (resIncrease_eq resDecrease_eq)

def zeroD (l : List Stmt) : Bool := l.all (fun st => dH st == 0 && dC st == 0 && dR st == 0 && dP st == 0)

def noListen (l : List Stmt) : Bool := !l.contains .listen

/-- where the stream can be reset from the moment it is created: the statement that makes the pool listen is followed by
exactly one closed-connection test (and no second listener registration) -/
def listenOk : List Stmt → Bool
  | [] => true
  | .listen :: r => r.count .undoChk == 1 && noListen r
  | _ :: r => listenOk r

def lisOk (pg : Progs) : Bool :=
  noListen pg.reset && (noListen pg.destroy && (noListen pg.close && (noListen pg.goAway && (!pg.placeVisible || listenOk pg.nsPost))))

def cntOk (pg : Progs) : Bool :=
  zeroD pg.nsPre &&
  (dsum dH pg.nsPost == 1 && dsum dC pg.nsPost == 1 && dsum dR pg.nsPost == 1 && dsum dP pg.nsPost == 1) &&
  (dsum dH pg.destroy == -1 && dsum dC pg.destroy == -1 && dsum dR pg.destroy == -1 && dsum dP pg.destroy == 0) &&
  zeroD pg.reset && zeroD pg.close && zeroD pg.goAway

/-- the class of handler programs for which the ledger is exact: NewStream takes nothing before the breaker test and each
counter exactly once after it, creating the stream once; OnDestroyStream gives each counter back exactly once; the reset
handler, the close handler and the go-away handler move nothing. -/
def ledgerOk (pg : Progs) : Bool := lisOk pg && cntOk pg

/-- a column of the ledger: what a statement moves, what the ledger shows (both relative to the requests in flight) -/
structure Col where
  f : Stmt → Int
  v : Led → Int

def colH : Col := { f := fun st => dH st - dP st, v := fun l => l.rqHost - l.streams.length }
def colC : Col := { f := fun st => dC st - dP st, v := fun l => l.rqCluster - l.streams.length }
def colR : Col := { f := fun st => dR st - dP st, v := fun l => l.reqCur - l.ext - l.streams.length }

def E (c : Col) (s : State) : Int := c.v s.led + pend c.f s.tasks

structure ColOk (m : Nat) (pg : Progs) (c : Col) : Prop where
  led : ∀ (vis : Bool) (l : Led) (o : Option Nat) (st : Stmt), l.maxReq = m → c.v (ledStmt vis l o st) = c.v l + c.f st
  undo0 : c.f .undoChk = 0
  lis : c.f .listen = -1
  drop : ∀ (l : Led) (k : Nat), c.v (l.drop k) = c.v l + (l.streams.count k : Nat)
  erase : ∀ (l : Led) (k : Nat), k ∈ l.streams → c.v { l with streams := l.streams.erase k } = c.v l + 1
  zero : ∀ l, zeroD l = true → dsum c.f l = 0
  post : dsum c.f pg.nsPost = 0
  destroy : dsum c.f pg.destroy = -1
  extI : ∀ l : Led, l.maxReq = m → c.v { l with reqCur := resIncrease l.maxReq l.reqCur, ext := l.ext + 1 } = c.v l
  extD : ∀ l : Led, l.maxReq = m → l.ext > 0 → c.v { l with reqCur := resDecrease l.maxReq l.reqCur, ext := l.ext - 1 } = c.v l

theorem dsum_nil (f : Stmt → Int) : dsum f [] = 0 := rfl
theorem dsum_cons (f : Stmt → Int) (a : Stmt) (l : List Stmt) : dsum f (a :: l) = f a + dsum f l := by simp [dsum]
theorem dsum_append (f : Stmt → Int) (a b : List Stmt) : dsum f (a ++ b) = dsum f a + dsum f b := by simp [dsum]
theorem dsum_replicate (f : Stmt → Int) (n : Nat) (p : List Stmt) : dsum f (List.replicate n p).flatten = n * dsum f p := by
  induction n with
  | zero => simp [dsum]
  | succ n ih => simp only [List.replicate_succ, List.flatten_cons, dsum_append, ih]; push_cast; rw [Int.add_mul]; omega

theorem dsum_sub (f g : Stmt → Int) (l : List Stmt) : dsum (fun st => f st - g st) l = dsum f l - dsum g l := by
  induction l with
  | nil => rfl
  | cons a l ih => simp only [dsum_cons, ih]; omega

theorem pend_append (f : Stmt → Int) (ts : List Task) (t : Task) : pend f (ts ++ [t]) = pend f ts + dsum f t.rest := by
  simp [pend]

theorem pend_set (f : Stmt → Int) (ts : List Task) (k : Nat) (t t' : Task) (hk : ts[k]? = some t) :
    pend f (ts.set k t') = pend f ts - dsum f t.rest + dsum f t'.rest := by
  induction ts generalizing k with
  | nil => simp at hk
  | cons a r ih =>
    cases k with
    | zero =>
      simp only [List.getElem?_cons_zero, Option.some.injEq] at hk
      subst hk
      simp [pend]; omega
    | succ k =>
      simp only [List.getElem?_cons_succ] at hk
      have := ih k hk
      simp only [pend, List.set_cons_succ, List.map_cons, List.sum_cons] at *
      omega

theorem pend_sub (f g : Stmt → Int) (ts : List Task) : pend (fun st => f st - g st) ts = pend f ts - pend g ts := by
  induction ts with
  | nil => rfl
  | cons a r ih => simp only [pend, List.map_cons, List.sum_cons, dsum_sub] at *; omega

theorem filter_count (l : List Nat) (c : Nat) : ((l.filter (· != c)).length : Int) + (l.count c : Nat) = l.length := by
  -- an entry is `c` or it is not
  have := List.length_eq_countP_add_countP (· != c) (l := l)
  simp only [bne_iff_ne, ne_eq, Decidable.not_not, ← beq_iff_eq (a := _) (b := c), Bool.decide_eq_true,
    List.countP_eq_length_filter, ← List.count_eq_length_filter] at this
  omega

theorem zeroD_cons (a : Stmt) (l : List Stmt) :
    zeroD (a :: l) = true ↔ (dH a = 0 ∧ dC a = 0 ∧ dR a = 0 ∧ dP a = 0) ∧ zeroD l = true := by
  simp only [zeroD, List.all_cons, Bool.and_eq_true, beq_iff_eq, and_assoc]

theorem zeroD_tail (a : Stmt) (l : List Stmt) (h : zeroD (a :: l) = true) : zeroD l = true := ((zeroD_cons a l).mp h).2

theorem zeroD_dsum (g : Stmt → Int) (hg : ∀ st, dH st = 0 → dC st = 0 → dR st = 0 → dP st = 0 → g st = 0)
    (l : List Stmt) (h : zeroD l = true) : dsum g l = 0 := by
  induction l with
  | nil => rfl
  | cons a l ih =>
    obtain ⟨⟨h1, h2, h3, h4⟩, hl⟩ := (zeroD_cons a l).mp h
    rw [dsum_cons, hg a h1 h2 h3 h4, ih hl]; rfl

theorem lostProg_dsum (c : Col) (pg : Progs) (n : Nat) (hr : dsum c.f pg.reset = 0) (hd : dsum c.f pg.destroy = -1)
    (hc : dsum c.f pg.close = 0) : dsum c.f (lostProg pg n) = -(n : Int) := by
  unfold lostProg
  split <;> simp only [dsum_append, dsum_replicate, hr, hd, hc] <;> omega

theorem noListen_iff {l : List Stmt} : noListen l = true ↔ Stmt.listen ∉ l := by
  simp [noListen]

theorem ledgerOk_lis (pg : Progs) (h : ledgerOk pg = true) :
    .listen ∉ pg.reset ∧ .listen ∉ pg.destroy ∧ .listen ∉ pg.close ∧ .listen ∉ pg.goAway ∧
    (pg.placeVisible = true → listenOk pg.nsPost = true) := by
  simp only [ledgerOk, lisOk, Bool.and_eq_true, Bool.or_eq_true, Bool.not_eq_true', noListen_iff] at h
  obtain ⟨⟨h1, h2, h3, h4, h5⟩, _⟩ := h
  exact ⟨h1, h2, h3, h4, fun hv => h5.resolve_left (by rw [hv]; nofun)⟩

theorem ledgerOk_spec (pg : Progs) (h : ledgerOk pg = true) :
    zeroD pg.nsPre = true ∧ (dsum dH pg.nsPost = 1 ∧ dsum dC pg.nsPost = 1 ∧ dsum dR pg.nsPost = 1 ∧ dsum dP pg.nsPost = 1) ∧
    (dsum dH pg.destroy = -1 ∧ dsum dC pg.destroy = -1 ∧ dsum dR pg.destroy = -1 ∧ dsum dP pg.destroy = 0) ∧
    zeroD pg.reset = true ∧ zeroD pg.close = true ∧ zeroD pg.goAway = true := by
  have h2 : cntOk pg = true := by simp only [ledgerOk, Bool.and_eq_true] at h; exact h.2
  simpa [cntOk, and_assoc] using h2

/-- what one statement does to the ledger -/
structure LedStep (l l' : Led) (st : Stmt) : Prop where
  rqHost : l'.rqHost = l.rqHost + dH st
  rqCluster : l'.rqCluster = l.rqCluster + dC st
  reqCur : l.maxReq ≠ 0 → l'.reqCur = l.reqCur + dR st
  /-- unlimited breaker: `Requests().Cur()` never moves -/
  req0 : l.maxReq = 0 → l'.reqCur = l.reqCur
  ext : l'.ext = l.ext
  maxReq : l'.maxReq = l.maxReq
  streams : (l'.streams.length : Int) = l.streams.length + dP st

theorem ledStmt_step (vis : Bool) (l : Led) (o : Option Nat) (st : Stmt) : LedStep l (ledStmt vis l o st) st := by
  have z : ∀ x : Int, x = x + 0 := fun x => (Int.add_zero x).symm
  cases st with
  | decHost | incHost => exact ⟨rfl, z _, fun _ => z _, fun _ => rfl, rfl, rfl, z _⟩
  | decCluster | incCluster => exact ⟨z _, rfl, fun _ => z _, fun _ => rfl, rfl, rfl, z _⟩
  | decRes =>
    exact ⟨z _, z _, fun hm => (resDecrease_eq _ _).trans (if_neg hm), fun h0 => (resDecrease_eq _ _).trans (if_pos h0), rfl, rfl, z _⟩
  | incRes =>
    exact ⟨z _, z _, fun hm => (resIncrease_eq _ _).trans (if_neg hm), fun h0 => (resIncrease_eq _ _).trans (if_pos h0), rfl, rfl, z _⟩
  | listen => exact ⟨z _, z _, fun _ => z _, fun _ => rfl, rfl, rfl, congrArg Int.ofNat (List.length_append ..)⟩
  | place => cases vis <;> exact ⟨z _, z _, fun _ => z _, fun _ => rfl, rfl, rfl, z _⟩
  | _ => exact ⟨z _, z _, fun _ => z _, fun _ => rfl, rfl, rfl, z _⟩

theorem colOk_of {m : Nat} {pg : Progs} (h : ledgerOk pg = true) (d : Stmt → Int) (g : Led → Int)
    (hled : ∀ (vis : Bool) (l : Led) (o : Option Nat) (st : Stmt), l.maxReq = m → g (ledStmt vis l o st) = g l + d st)
    (hfr : ∀ (l : Led) (ss dd : List Nat), g { l with streams := ss, deaf := dd } = g l)
    (hz : ∀ st, dH st = 0 → dC st = 0 → dR st = 0 → d st = 0) (hpost : dsum d pg.nsPost = 1) (hdes : dsum d pg.destroy = -1)
    (hI : ∀ l : Led, l.maxReq = m → g { l with reqCur := resIncrease l.maxReq l.reqCur, ext := l.ext + 1 } = g l)
    (hD : ∀ l : Led, l.maxReq = m → l.ext > 0 → g { l with reqCur := resDecrease l.maxReq l.reqCur, ext := l.ext - 1 } = g l) :
    ColOk m pg { f := fun st => d st - dP st, v := fun l => g l - l.streams.length } := by
  have hp := ledgerOk_spec pg h
  have hu : d .undoChk = 0 := hz _ rfl rfl rfl
  have hl : d .listen = 0 := hz _ rfl rfl rfl
  refine ⟨?_, by show d .undoChk - dP .undoChk = 0; rw [hu]; rfl, by show d .listen - dP .listen = -1; rw [hl]; rfl,
    ?_, ?_, ?_, ?_, ?_, ?_, ?_⟩
  · intro vis l o st e
    show g (ledStmt vis l o st) - ((ledStmt vis l o st).streams.length : Int) = g l - l.streams.length + (d st - dP st)
    rw [hled vis l o st e, (ledStmt_step vis l o st).streams]; omega
  · intro l k
    have := filter_count l.streams k
    show g (l.drop k) - ((l.streams.filter (· != k)).length : Int) = g l - l.streams.length + (l.streams.count k : Nat)
    rw [show g (l.drop k) = g l from hfr l _ _]; omega
  · intro l k hk
    have : 0 < l.streams.length := List.length_pos_of_mem hk
    show g { l with streams := l.streams.erase k } - ((l.streams.erase k).length : Int) = g l - l.streams.length + 1
    rw [show g { l with streams := l.streams.erase k } = g l from hfr l _ _, List.length_erase_of_mem hk]; omega
  · intro l hl
    exact zeroD_dsum _ (fun st h1 h2 h3 h4 => by show d st - dP st = 0; rw [hz st h1 h2 h3, h4]; rfl) l hl
  · show dsum (fun st => d st - dP st) pg.nsPost = 0
    rw [dsum_sub, hpost, hp.2.1.2.2.2]; rfl
  · show dsum (fun st => d st - dP st) pg.destroy = -1
    rw [dsum_sub, hdes, hp.2.2.1.2.2.2]; rfl
  · intro l e
    show g _ - (l.streams.length : Int) = g l - l.streams.length
    rw [hI l e]
  · intro l e hx
    show g _ - (l.streams.length : Int) = g l - l.streams.length
    rw [hD l e hx]

theorem colH_ok (m : Nat) (pg : Progs) (h : ledgerOk pg = true) : ColOk m pg colH :=
  have hp := ledgerOk_spec pg h
  colOk_of h dH (·.rqHost) (fun vis l o st _ => (ledStmt_step vis l o st).rqHost) (fun _ _ _ => rfl) (fun _ h _ _ => h)
    hp.2.1.1 hp.2.2.1.1 (fun _ _ => rfl) (fun _ _ _ => rfl)

theorem colC_ok (m : Nat) (pg : Progs) (h : ledgerOk pg = true) : ColOk m pg colC :=
  have hp := ledgerOk_spec pg h
  colOk_of h dC (·.rqCluster) (fun vis l o st _ => (ledStmt_step vis l o st).rqCluster) (fun _ _ _ => rfl) (fun _ _ h _ => h)
    hp.2.1.2.1 hp.2.2.1.2.1 (fun _ _ => rfl) (fun _ _ _ => rfl)

theorem colR_ok (m : Nat) (hm : m ≠ 0) (pg : Progs) (h : ledgerOk pg = true) : ColOk m pg colR :=
  have hp := ledgerOk_spec pg h
  colOk_of h dR (fun l => l.reqCur - l.ext)
    (fun vis l o st e => by rw [(ledStmt_step vis l o st).reqCur (e ▸ hm), (ledStmt_step vis l o st).ext]; omega) (fun _ _ _ => rfl)
    (fun _ _ _ h => h) hp.2.1.2.2.1 hp.2.2.1.2.2.1
    (fun l e => by show resIncrease l.maxReq l.reqCur - ((l.ext + 1 : Nat) : Int) = _; rw [resIncrease_eq, if_neg (e ▸ hm)]; omega)
    (fun l e hx => by show resDecrease l.maxReq l.reqCur - ((l.ext - 1 : Nat) : Int) = _; rw [resDecrease_eq, if_neg (e ▸ hm)]; omega)

theorem listenOk_cons {a : Stmt} (h : a ≠ .listen) (l : List Stmt) : listenOk (a :: l) = listenOk l := by
  cases a <;> first | rfl | exact absurd rfl h

theorem listenOk_append (a b : List Stmt) (h : .listen ∉ a) : listenOk (a ++ b) = listenOk b := by
  induction a with
  | nil => rfl
  | cons x a ih => rw [List.cons_append, listenOk_cons (List.ne_of_not_mem_cons h).symm, ih (List.not_mem_of_not_mem_cons h)]

theorem listenOk_of_not_mem (l : List Stmt) (h : .listen ∉ l) : listenOk l = true :=
  (List.append_nil l ▸ listenOk_append l [] h :)

theorem listenOk_tail (a : Stmt) (l : List Stmt) (h : listenOk (a :: l) = true) : listenOk l = true := by
  cases a <;> try exact h
  simp only [listenOk, Bool.and_eq_true] at h
  exact listenOk_of_not_mem l (noListen_iff.1 h.2)

theorem not_listen_of_zeroD (l : List Stmt) (h : zeroD l = true) : .listen ∉ l :=
  fun hm => nomatch List.all_eq_true.1 h _ hm

theorem expand_not_listen (pg : Progs) (l : List Stmt) (hd : .listen ∉ pg.destroy) (h : .listen ∉ l) :
    .listen ∉ expandUndo pg l := fun hm => by
  obtain ⟨st, hst, hin⟩ := List.mem_flatMap.1 hm
  split at hin
  · exact hd hin
  · exact h (List.mem_singleton.1 hin ▸ hst)

theorem dsum_expand (f : Stmt → Int) (pg : Progs) (l : List Stmt) (h0 : f .undoChk = 0) :
    dsum f (expandUndo pg l) = dsum f l + (l.count .undoChk : Nat) * dsum f pg.destroy := by
  induction l with
  | nil => simp [expandUndo, dsum]
  | cons a l ih =>
    simp only [expandUndo, List.flatMap_cons] at ih ⊢
    rw [dsum_append, ih, dsum_cons, List.count_cons]
    by_cases ha : a = .undoChk
    · subst ha; simp only [if_true, h0, beq_self_eq_true]; push_cast; rw [Int.add_mul]; omega
    · have : (a == Stmt.undoChk) = false := by simpa using ha
      simp only [if_neg ha, this, dsum_cons, dsum_nil]; simp [Int.add_assoc]

theorem lostProg_not_listen (pg : Progs) (n : Nat) (hr : .listen ∉ pg.reset) (hd : .listen ∉ pg.destroy) (hc : .listen ∉ pg.close) :
    .listen ∉ lostProg pg n := by
  have : .listen ∉ (List.replicate n (pg.reset ++ pg.destroy)).flatten := fun hm => by
    obtain ⟨p, hp, hin⟩ := List.mem_flatten.1 hm
    rw [(List.mem_replicate.1 hp).2] at hin
    exact (List.mem_append.1 hin).elim hr hd
  unfold lostProg
  split <;> simp only [List.mem_append, this, hc, or_self, not_false_eq_true]

theorem bookStmt_lost (pg : Progs) (led : Led) (b : Books) (t : Task) (st : Stmt)
    (h : (bookStmt pg led b t st).2.2 = .lost) : st = .listen ∧ pg.placeVisible = true := by
  cases st <;> simp only [bookStmt] at h <;> (try (repeat' split at h)) <;> first | cases h | skip
  rename_i hv
  rw [Bool.and_eq_true] at hv
  exact ⟨rfl, hv.1⟩

theorem bookStmt_undo (pg : Progs) (led : Led) (b : Books) (t : Task) (st : Stmt) (c : Nat)
    (h : (bookStmt pg led b t st).2.2 = .undo c) : st = .undoChk := by
  cases st <;> simp only [bookStmt] at h <;> (try (repeat' split at h)) <;> first | rfl | cases h

/-- a NewStream that has not passed the breaker test owes nothing; where a created stream can be reset at once, a task
that still has to make the pool listen has exactly one closed-connection test behind that statement -/
def TOk (pg : Progs) (t : Task) : Prop :=
  (t.pre = true → zeroD t.rest = true) ∧ (pg.placeVisible = true → listenOk t.rest = true)

def PreInv (s : State) : Prop := ∀ t ∈ s.tasks, TOk s.pg t

theorem newTask_E (c : Col) (s : State) (t : Task) : E c (newTask s t) = E c s + dsum c.f t.rest := by
  simp only [E, newTask, pend_append]; omega

theorem newTask_pre (s : State) (t : Task) (h : PreInv s) (ht : TOk s.pg t) : PreInv (newTask s t) := by
  intro t' ht'
  simp only [newTask, List.mem_append, List.mem_singleton] at ht'
  rcases ht' with h1 | rfl
  · exact h t' h1
  · exact ht

theorem TOk.post {pg : Progs} {t : Task} (hpre : t.pre = false) (h : pg.placeVisible = true → listenOk t.rest = true) : TOk pg t :=
  ⟨fun h' => (nomatch hpre.symm.trans h'), h⟩

/-- a step after which column `c` shows what it showed and every task still has the shape `TOk` -/
structure Keeps (c : Col) (s s' : State) : Prop where
  bal : E c s' = E c s
  pre : PreInv s'
  pg : s'.pg = s.pg
  mx : s'.led.maxReq = s.led.maxReq
  /-- unlimited breaker: `Requests().Cur()` never moves -/
  req0 : s.led.maxReq = 0 → s'.led.reqCur = s.led.reqCur

theorem Keeps.refl {c : Col} {s : State} (hp : PreInv s) : Keeps c s s := ⟨rfl, hp, rfl, rfl, fun _ => rfl⟩

/-- task `k` goes from `t` to `t'` and the ledger to `l`: what the two show together in column `c` is what it was -/
theorem Keeps.set (c : Col) {s : State} {k : Nat} {t : Task} (hp : PreInv s) (htk : s.tasks[k]? = some t) (b : Books) {l : Led}
    {t' : Task} (hE : c.v l + dsum c.f t'.rest = c.v s.led + dsum c.f t.rest) (hT : TOk s.pg t')
    (hm : l.maxReq = s.led.maxReq) (h0 : s.led.maxReq = 0 → l.reqCur = s.led.reqCur) :
    Keeps c s { s with bk := b, led := l, tasks := s.tasks.set k t' } :=
  ⟨by simp only [E]; rw [pend_set _ _ _ _ _ htk]; omega, Lemmas.Schedule.forall_mem_set hp k hT, rfl, hm, h0⟩

/-- a new task `t` starts and the ledger goes to `l`: the task owes in column `c` what the ledger lost -/
theorem Keeps.new (c : Col) {s : State} (hp : PreInv s) (b : Books) {l : Led} {t : Task}
    (hE : c.v l + dsum c.f t.rest = c.v s.led) (hT : TOk s.pg t) (hm : l.maxReq = s.led.maxReq)
    (h0 : s.led.maxReq = 0 → l.reqCur = s.led.reqCur) : Keeps c s (newTask { s with bk := b, led := l } t) :=
  ⟨by rw [newTask_E]; simp only [E]; omega, newTask_pre _ _ hp hT, rfl, hm, h0⟩

theorem stepTask_E {m : Nat} (c : Col) (s : State) (ok : ColOk m s.pg c) (hok : ledgerOk s.pg = true) (hr : dsum c.f s.pg.reset = 0)
    (hc : dsum c.f s.pg.close = 0) (hm : s.led.maxReq = m) (hp : PreInv s) (k : Nat) : Keeps c s (stepTask s k) := by
  obtain ⟨lr, ld, lc, _, lpost⟩ := ledgerOk_lis _ hok
  unfold stepTask
  split
  · exact .refl hp
  · rename_i t htk
    split
    · exact .refl hp
    · rename_i st rest heq
      have hT : dsum c.f t.rest = c.f st + dsum c.f rest := by rw [heq, dsum_cons]
      have hmem := List.mem_of_getElem? htk
      have hL : s.pg.placeVisible = true → listenOk (st :: rest) = true := fun hv => by rw [← heq]; exact (hp t hmem).2 hv
      have hLr : s.pg.placeVisible = true → listenOk rest = true := fun hv => listenOk_tail st rest (hL hv)
      split
      · exact .refl hp -- blocked
      · rename_i hpre -- refuse: what is left of `nsPre` moves nothing
        exact .set c hp htk _ (by rw [ok.zero _ ((hp t hmem).1 hpre)]; rfl) ⟨nofun, fun _ => rfl⟩ rfl fun _ => rfl
      · rename_i hpre -- pass: the task goes on with `nsPost`, which sums to 0
        exact .set c hp htk _ (by rw [ok.zero _ ((hp t hmem).1 hpre)]; exact congrArg _ ok.post) ⟨nofun, lpost⟩ rfl fun _ => rfl
      · rename_i b c' cc _ hpre -- close: the streams dropped from the ledger are owed by `lostProg`
        split
        · refine .set c hp htk _ ?_ (.post hpre fun hv => ?_) (ledStmt_step ..).maxReq (ledStmt_step ..).req0
          · rw [ok.drop, ok.led _ _ _ _ hm, hT]
            simp only [dsum_append, lostProg_dsum c s.pg _ hr ok.destroy hc]; omega
          · show listenOk (lostProg s.pg _ ++ rest) = true
            rw [listenOk_append _ _ (lostProg_not_listen _ _ lr ld lc)]; exact hLr hv
        · exact .set c hp htk _ (by rw [ok.led _ _ _ _ hm, hT]; exact Int.add_assoc ..) (.post hpre hLr) (ledStmt_step ..).maxReq (ledStmt_step ..).req0
      · rename_i b c' hb hpre -- lost: the listener's -1 is owed by the one destroy that `expandUndo` puts behind the test
        obtain ⟨rfl, hv⟩ := bookStmt_lost s.pg s.led s.bk t st (by rw [hb])
        have hlo := hL hv
        simp only [listenOk, Bool.and_eq_true, beq_iff_eq] at hlo
        refine .set c hp htk _ ?_ (.post hpre fun _ => listenOk_of_not_mem _ (expand_not_listen _ _ ld (noListen_iff.1 hlo.2))) rfl fun _ => rfl
        simp only [dsum_expand c.f s.pg rest ok.undo0, hlo.1, ok.destroy, hT, ok.lis]; omega
      · rename_i b c' cc hb hpre -- undo: the stream taken off the ledger is owed by the reset and destroy programs put in front
        have hu := bookStmt_undo s.pg s.led s.bk t st cc (by rw [hb])
        subst hu
        split
        · rename_i hin
          refine .set c hp htk _ ?_ (.post hpre fun hv => ?_) rfl fun _ => rfl
          · rw [ok.erase _ _ hin, hT, ok.undo0]
            simp only [dsum_append, hr, ok.destroy]; omega
          · show listenOk (s.pg.reset ++ s.pg.destroy ++ rest) = true
            rw [listenOk_append _ _ fun h => (List.mem_append.1 h).elim lr ld]; exact hLr hv
        · exact .set c hp htk _ (by rw [hT, ok.undo0, Int.zero_add]) (.post hpre hLr) rfl fun _ => rfl
      · rename_i hpre -- any other statement before the breaker test
        have z' : zeroD rest = true := zeroD_tail st rest (by rw [← heq]; exact (hp t hmem).1 hpre)
        exact .set c hp htk _ (by rw [ok.zero _ ((hp t hmem).1 hpre)]; exact congrArg _ (ok.zero _ z')) ⟨fun _ => z', hLr⟩ rfl fun _ => rfl
      · rename_i hpre -- any other statement after it
        exact .set c hp htk _ (by rw [ok.led _ _ _ _ hm, hT]; exact Int.add_assoc ..) (.post hpre hLr) (ledStmt_step ..).maxReq (ledStmt_step ..).req0

theorem step_E {m : Nat} (c : Col) (s : State) (ok : ColOk m s.pg c) (hok : ledgerOk s.pg = true)
    (hm : s.led.maxReq = m) (hp : PreInv s) (l : Label) : Keeps c s (step s l) := by
  have sp := ledgerOk_spec _ hok
  obtain ⟨lr, ld, lc, lg, _⟩ := ledgerOk_lis _ hok
  have hr := ok.zero _ sp.2.2.2.1
  have hc := ok.zero _ sp.2.2.2.2.1
  have nl : ∀ {t : Task}, t.pre = false → .listen ∉ t.rest → TOk s.pg t :=
    fun hpre h => .post hpre fun _ => listenOk_of_not_mem _ h
  cases l with
  | newStream slot d =>
    exact .new c hp s.bk (by rw [ok.zero _ sp.1]; exact Int.add_zero _) ⟨fun _ => sp.1, fun _ => listenOk_of_not_mem _ (not_listen_of_zeroD _ sp.1)⟩ rfl fun _ => rfl
  | connect slot d => exact ⟨rfl, hp, rfl, rfl, fun _ => rfl⟩
  | endStream cc cause =>
    simp only [step]
    split
    · rename_i hin
      refine .new c hp s.bk ?_ (nl rfl ?_) rfl fun _ => rfl
      · rw [ok.erase _ _ hin, dsum_append, ok.destroy]
        split <;> simp only [dsum_nil, hr] <;> omega
      · show .listen ∉ (if cause = .complete then [] else s.pg.reset) ++ s.pg.destroy
        split <;> simp only [List.mem_append, List.not_mem_nil, lr, ld, or_self, not_false_eq_true]
    · exact .refl hp
  | taskStep k => exact stepTask_E c s ok hok hr hc hm hp k
  | netClose cc =>
    simp only [step]
    split
    · exact .new c hp _ (by rw [ok.drop, lostProg_dsum c s.pg _ hr ok.destroy hc]; omega)
        (nl rfl (lostProg_not_listen _ _ lr ld lc)) rfl fun _ => rfl
    · exact .refl hp
  | goAway cc =>
    simp only [step]
    split
    · exact .new c hp s.bk (by rw [ok.zero _ sp.2.2.2.2.2]; exact Int.add_zero _) (nl rfl lg) rfl fun _ => rfl
    · exact .refl hp
  | extInc => exact ⟨by simp only [step, E, ok.extI _ hm], hp, rfl, rfl, fun h0 => (resIncrease_eq _ _).trans (if_pos h0)⟩
  | extDec =>
    simp only [step]
    split
    · rename_i hx; exact ⟨by simp only [E, ok.extD _ hm hx], hp, rfl, rfl, fun h0 => (resDecrease_eq _ _).trans (if_pos h0)⟩
    · exact .refl hp

structure LInv (m : Nat) (s : State) : Prop where
  ok : ledgerOk s.pg = true
  mx : s.led.maxReq = m
  pre : PreInv s
  host : E colH s = 0
  cluster : E colC s = 0
  res : m ≠ 0 → E colR s = 0
  res0 : m = 0 → s.led.reqCur = 0

theorem linv_init (k : Kind) (n m : Nat) (pg : Progs) (h : ledgerOk pg = true) : LInv m (initWith k n m pg) :=
  ⟨h, rfl, (by intro t ht; cases ht), rfl, rfl, fun _ => rfl, fun _ => rfl⟩

theorem linv_step {m : Nat} (s : State) (h : LInv m s) (l : Label) : LInv m (step s l) := by
  have a := step_E colH s (colH_ok m _ h.ok) h.ok h.mx h.pre l
  have b := step_E colC s (colC_ok m _ h.ok) h.ok h.mx h.pre l
  refine ⟨by rw [a.pg]; exact h.ok, by rw [a.mx]; exact h.mx, a.pre, by rw [a.bal]; exact h.host, by rw [b.bal]; exact h.cluster, ?_, ?_⟩
  · intro hm
    rw [(step_E colR s (colR_ok m hm _ h.ok) h.ok h.mx h.pre l).bal]; exact h.res hm
  · intro hm
    rw [a.req0 (h.mx.trans hm)]; exact h.res0 hm

theorem linv_run {m : Nat} (s : State) (h : LInv m s) (ls : List Label) : LInv m (run s ls) := by
  induction ls generalizing s with
  | nil => exact h
  | cons l r ih => exact ih _ (linv_step s h l)


def Ledger (maxReq : Nat) (s : State) : Prop :=
  s.led.rqHost + pend dH s.tasks = s.led.streams.length + pend dP s.tasks ∧
  s.led.rqCluster + pend dC s.tasks = s.led.streams.length + pend dP s.tasks ∧
  (maxReq ≠ 0 → s.led.reqCur + pend dR s.tasks = (s.led.ext : Int) + s.led.streams.length + pend dP s.tasks) ∧
  (maxReq = 0 → s.led.reqCur = 0)

theorem ledger_of_linv {m : Nat} (s : State) (h : LInv m s) : Ledger m s := by
  have a := h.host
  have b := h.cluster
  simp only [E, colH, colC, pend_sub] at a b
  refine ⟨by omega, by omega, ?_, h.res0⟩
  intro hm
  have c := h.res hm
  simp only [E, colR, pend_sub] at c
  omega

theorem request_ledger_exact_steps (k : Kind) (nSlots maxReq : Nat) (pg : Progs) (h : ledgerOk pg = true) (ls : List Label) :
    Ledger maxReq (run (initWith k nSlots maxReq pg) ls) :=
  ledger_of_linv _ (linv_run _ (linv_init k nSlots maxReq pg h) ls)

theorem pend_quiet (f : Stmt → Int) (ts : List Task) (h : ∀ t ∈ ts, t.rest = []) : pend f ts = 0 := by
  induction ts with
  | nil => rfl
  | cons a r ih =>
    simp only [pend, List.map_cons, List.sum_cons] at *
    rw [h a (List.mem_cons_self ..), ih (fun t ht => h t (List.mem_cons_of_mem _ ht))]; rfl

theorem ledger_quiescent (maxReq : Nat) (s : State) (h : Ledger maxReq s) (q : s.quiescent) :
    s.led.rqHost = 0 ∧ s.led.rqCluster = 0 ∧ s.led.reqCur = if maxReq = 0 then 0 else (s.led.ext : Int) := by
  obtain ⟨h1, h2, h3, h4⟩ := h
  simp only [pend_quiet _ _ q.1, q.2, List.length_nil] at h1 h2 h3
  refine ⟨by omega, by omega, ?_⟩
  split
  · rename_i hm; exact h4 hm
  · rename_i hm; have := h3 hm; omega

/-! ### no lease on a client that received go-away (multiplex) -/
/-- once OnGoAway wrote a client's state word the client is never `Connected` again -/
def GaInv (s : State) : Prop := ∀ c, (s.bk.client c).gaSeen = true → (s.bk.client c).state ≠ MosnVerif.Gen.PoolMux.muxConnected

end MosnVerif.Lemmas.PoolMxWin
