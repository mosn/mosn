/-! Lists of key/value pairs read as finite maps the way the models write them: the value under `k` is that of the
first pair keyed `k` (`find?`), deletion drops every pair keyed `k` (`filter`), a store puts the new pair in front of
the deletion. The two facts every such model needs. Core Lean only. -/
namespace MosnVerif.Lemmas.KeyedList
variable {κ ν : Type} [DecidableEq κ]

/-- after the pairs keyed `k` are dropped nothing is found under `k`, and every other key finds what it found -/
theorem find?_filter_ne (l : List (κ × ν)) (k k' : κ) :
    (l.filter (fun e => !(e.1 == k))).find? (fun e => e.1 == k') =
      if k' = k then none else l.find? (fun e => e.1 == k') := by
  rw [List.find?_filter]
  by_cases h : k' = k
  · rw [if_pos h, List.find?_eq_none]
    simp [h]
  · rw [if_neg h]
    congr 1
    funext e
    by_cases he : e.1 = k' <;> simp [he, h]

/-- what is found under `k` is a pair of the list, keyed `k` -/
theorem mem_of_find? {l : List (κ × ν)} {k : κ} {v : ν} (h : (l.find? (fun e => e.1 == k)).map (·.2) = some v) :
    (k, v) ∈ l := by
  obtain ⟨e, hf, rfl⟩ := Option.map_eq_some_iff.mp h
  exact (show e.1 = k by simpa using List.find?_some hf) ▸ List.mem_of_find?_eq_some hf

end MosnVerif.Lemmas.KeyedList
