import MosnVerif.Model.PubVal
/-! Value discipline of an update: every value a reader can see between two steps is the complete old or the complete new set. -/
namespace MosnVerif.Model.PubVal
open MosnVerif.Gen.ClusterPub MosnVerif.Gen.PubVal

/-- a complete set: the one the cluster had or the one this update computes. -/
def Good (v : Val) : Prop := v = .old ∨ v = .new

structure Inv (k : K) (s : S) : Prop where
  vis : Good (s.cl s.map)
  mapLt : s.map < s.next
  nc : k.hasNc = true → ∃ a, s.nc = some a ∧ a < s.next ∧ (k.ncFilled = true → Good (s.cl a))
  noNc : k.hasNc = false → s.nc = none
  oc : k.hasOc = true → ∃ b, s.oc = some b ∧ b < s.next ∧ Good (s.cl b)
  vars : ∀ x, k.good.contains x = true → s.vars x = .new

theorem inv_init : Inv {} {} :=
  ⟨Or.inl rfl, by decide, by simp, by simp, by simp, by simp⟩

theorem good_set {cl : Nat → Val} {t c : Nat} {v : Val} (hv : Good v) (hc : Good (cl c)) : Good (setCl cl t v c) := by
  unfold setCl; split
  · exact hv
  · exact hc

theorem good_alloc {cl : Nat → Val} {n c : Nat} {v : Val} (hlt : c < n) (hc : Good (cl c)) : Good (setCl cl n v c) := by
  unfold setCl
  have : c ≠ n := by omega
  simp [this, hc]

theorem srcVal_full : srcVal .full = .new := rfl

theorem argOk_good {k : K} {s : S} (J : Inv k s) {a : Arg} (h : argOk k.good a = true) : Good (argVal s a) := by
  cases a with
  | var x => exact Or.inr (J.vars x h)
  | fresh r =>
    cases r <;> simp [argOk] at h
    exact Or.inr rfl
  | unknown => simp [argOk] at h

theorem bind_vars {k : K} {s : S} (J : Inv k s) (x : Nat) (r : Src) :
    ∀ y, (bind k.good x r).contains y = true → (if y = x then srcVal r else s.vars y) = .new := by
  intro y hy
  unfold bind at hy
  by_cases hr : r = .full
  · subst hr
    simp only [if_true, List.contains_cons, Bool.or_eq_true, beq_iff_eq] at hy
    by_cases hyx : y = x
    · simp [hyx, srcVal]
    · simp only [hyx, if_false]
      rcases hy with h | h
      · exact absurd h hyx
      · exact J.vars y h
  · simp only [hr, if_false] at hy
    have hm : y ∈ k.good.filter (fun z => z != x) := by simpa using hy
    rw [List.mem_filter] at hm
    have hyx : y ≠ x := by simpa using hm.2
    simp only [hyx, if_false]
    exact J.vars y (by simpa using hm.1)

/-- a complete set written into any cell keeps the invariant; written into the new cluster's cell it fills it. -/
theorem inv_write {k : K} {s : S} (J : Inv k s) (t : Nat) {v : Val} (hg : Good v) :
    Inv k { s with cl := setCl s.cl t v } ∧
    (s.nc = some t → Inv { k with ncFilled := true } { s with cl := setCl s.cl t v }) := by
  have base : Inv k { s with cl := setCl s.cl t v } :=
    ⟨good_set hg J.vis, J.mapLt, fun h => let ⟨a, h1, h2, h3⟩ := J.nc h; ⟨a, h1, h2, fun f => good_set hg (h3 f)⟩,
      J.noNc, fun h => let ⟨b, h1, h2, h3⟩ := J.oc h; ⟨b, h1, h2, good_set hg h3⟩, J.vars⟩
  refine ⟨base, fun hn => { base with nc := fun h => ?_ }⟩
  obtain ⟨a, h1, h2, _⟩ := J.nc h
  cases h1.symm.trans hn
  exact ⟨t, hn, h2, fun _ => by simpa [setCl] using hg⟩

theorem stepV_publish {s : S} (a : Arg) {t : Nat} (h : target s = some t) :
    stepV s (.h (.publish a)) = { s with cl := setCl s.cl t (argVal s a) } := by
  simp only [stepV, h]

theorem stepV_inherit {s : S} {n o : Nat} (hn : s.nc = some n) (ho : s.oc = some o) :
    stepV s (.h .inherit) = { s with cl := setCl s.cl n (s.cl o) } := by
  simp only [stepV, hn, ho]

theorem trace_good (prog : List VStep) : ∀ (k : K) (s : S), Inv k s → okV k prog = true →
    ∀ p ∈ trace s prog, Good p.2 := by
  induction prog with
  | nil => intro k s _ _ p hp; simp [trace] at hp
  | cons a rest ih =>
    intro k s J hok p hp
    -- it suffices to find the facts for the rest
    suffices h : ∃ k', Inv k' (stepV s a) ∧ okV k' rest = true by
      obtain ⟨k', J', hok'⟩ := h
      simp only [trace, List.mem_cons] at hp
      rcases hp with rfl | hp
      · exact J'.vis
      · exact ih k' _ J' hok' p hp
    -- what the value check says at the head step; it refuses seven of the control steps
    cases a with
    | h hs =>
      cases hs <;> simp only [okV, Bool.and_eq_true] at hok
      case build x r => exact ⟨{ k with good := bind k.good x r }, { J with vars := bind_vars J x r }, hok⟩
      case publish a =>
        obtain ⟨ha, hrest⟩ := hok
        have hg := argOk_good J ha
        by_cases hn : k.hasNc = true
        · rw [if_pos hn] at hrest
          obtain ⟨n, hn1, _⟩ := J.nc hn
          refine ⟨_, ?_, hrest⟩
          rw [stepV_publish a (t := n) (by simp only [target, hn1])]
          exact (inv_write J n hg).2 hn1
        · rw [if_neg hn, Bool.and_eq_true] at hrest
          obtain ⟨b, hb1, _⟩ := J.oc hrest.1
          refine ⟨k, ?_, hrest.2⟩
          rw [stepV_publish a (t := b) (by simp only [target, J.noNc (by simpa using hn), hb1])]
          exact (inv_write J b hg).1
      case inherit =>
        obtain ⟨⟨hn, ho⟩, hrest⟩ := hok
        obtain ⟨n, hn1, _⟩ := J.nc hn
        obtain ⟨b, hb1, _, hb3⟩ := J.oc ho
        refine ⟨_, ?_, hrest⟩
        rw [stepV_inherit hn1 hb1]
        exact (inv_write J n hb3).2 hn1
    | ctl c =>
      cases c <;> simp only [okV, Bool.and_eq_true, Bool.not_eq_true', Bool.false_eq_true] at hok
      case newCluster =>
        refine ⟨_, ?_, hok.2⟩
        refine ⟨good_alloc J.mapLt J.vis, by simp only [stepV]; have := J.mapLt; omega,
          fun _ => ⟨s.next, rfl, by simp [stepV], fun h => by simp at h⟩, fun h => by simp at h, ?_, J.vars⟩
        intro ho
        obtain ⟨b, hb1, hb2, hb3⟩ := J.oc ho
        exact ⟨b, hb1, by simp only [stepV]; omega, good_alloc hb2 hb3⟩
      case loadOld | loadCur =>
        exact ⟨{ k with hasOc := true }, { J with oc := fun _ => ⟨s.map, rfl, J.mapLt, J.vis⟩ }, hok⟩
      case storeNew =>
        obtain ⟨⟨hn, hf⟩, hrest⟩ := hok
        obtain ⟨n, hn1, hn2, hn3⟩ := J.nc hn
        have hs : stepV s (.ctl .storeNew) = { s with map := n } := by simp [stepV, hn1]
        refine ⟨k, ?_, hrest⟩
        rw [hs]
        exact { J with vis := hn3 hf, mapLt := hn2 }
      case other => exact ⟨k, J, hok⟩

end MosnVerif.Model.PubVal
