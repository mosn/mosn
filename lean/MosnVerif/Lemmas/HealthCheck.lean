import MosnVerif.Model.HealthCheck
/-! The regenerated threshold automaton of a session checker (`step`, `run`) equals the run-length reference `spec`. -/
namespace MosnVerif.Model.HealthCheck
open MosnVerif.Gen.HealthCheck

/-- `newHealthChecker`: a zero threshold means the default, 1 -/
theorem effUnhealthyThreshold_eq (cfg : Nat) : effUnhealthyThreshold cfg = ((if cfg = 0 then 1 else cfg : Nat) : Int) := by
  simp only [effUnhealthyThreshold, defaultUnhealthyThreshold]
  split <;> split <;> simp_all

theorem effHealthyThreshold_eq (cfg : Nat) : effHealthyThreshold cfg = ((if cfg = 0 then 1 else cfg : Nat) : Int) := by
  simp only [effHealthyThreshold, defaultHealthyThreshold]
  split <;> split <;> simp_all

theorem isSucc_eq_ok (r : Result) : r.isSucc = r.ok := by cases r <;> rfl

theorem ok_true_iff (r : Result) : r.ok = true ↔ r = .success := by cases r <;> simp [Result.ok]

theorem trail_cons (p : Result → Bool) (r : Result) (rev : List Result) :
    trail p (r :: rev) = if p r then trail p rev + 1 else 0 := by
  simp only [trail, List.takeWhile_cons]
  split <;> simp

theorem step_success (u h un hc : Int) (flag : Bool) :
    step u h ⟨un, hc, flag⟩ .success =
      (⟨0, if flag then hc + 1 else hc, flag && !decide (hc + 1 = h)⟩,
       ⟨flag && decide (hc + 1 = h), true, flag && !decide (hc + 1 = h)⟩) := by
  cases flag
  · simp [step, isSucc_eq_ok, Result.ok, handleSuccess, incHealthyChanged]
  · by_cases e : hc + 1 = h <;> simp [step, isSucc_eq_ok, Result.ok, handleSuccess, incHealthyChanged, e]

theorem step_bad (u h un hc : Int) (flag : Bool) (r : Result) (hr : r.ok = false) :
    step u h ⟨un, hc, flag⟩ r =
      (⟨if flag then un else un + 1, 0, flag || decide (un + 1 = u)⟩,
       ⟨!flag && decide (un + 1 = u), false, flag || decide (un + 1 = u)⟩) := by
  cases flag
  · by_cases e : un + 1 = u <;> cases r <;> simp_all [step, isSucc_eq_ok, Result.ok, handleFailure, decHealthyChanged]
  · cases r <;> simp_all [step, isSucc_eq_ok, Result.ok, handleFailure, decHealthyChanged]

/-- One check of a session checker of which only this is known: its counters do not exceed the run lengths of its own
history (the flag may have other writers). -/
theorem step_of_le (u h : Int) (st : St) (rev : List Result) (r : Result)
    (hh : st.healthCount ≤ trail Result.ok rev) (hu : st.unHealthCount ≤ trail Result.bad rev) :
    (step u h st r).2 = ⟨st.flag != (step u h st r).1.flag, r.ok, (step u h st r).1.flag⟩ ∧
    (step u h st r).1.healthCount ≤ trail Result.ok (r :: rev) ∧
    (step u h st r).1.unHealthCount ≤ trail Result.bad (r :: rev) ∧
    (st.flag = true → (step u h st r).1.flag = false → r = .success ∧ h ≤ trail Result.ok (r :: rev)) ∧
    (st.flag = false → (step u h st r).1.flag = true → r.bad = true ∧ u ≤ trail Result.bad (r :: rev)) := by
  obtain ⟨un, hc, flag⟩ := st
  simp only [trail_cons] at hh hu ⊢
  rcases (by cases r <;> simp [Result.ok] : r = .success ∨ r.ok = false) with rfl | hr
  · rw [step_success]; cases flag <;> simp [Result.ok, Result.bad] <;> omega
  · rw [step_bad _ _ _ _ _ _ hr]; cases flag <;> simp [hr, Result.bad] <;> omega

/-- the counters are the current run lengths, and stay strictly below their thresholds -/
def Inv (u h : Nat) (st : St) (rev : List Result) : Prop :=
  (st.flag = false → st.unHealthCount = (trail Result.bad rev : Int) ∧ trail Result.bad rev < u) ∧
  (st.flag = true → st.healthCount = (trail Result.ok rev : Int) ∧ trail Result.ok rev < h) ∧
  0 ≤ st.unHealthCount ∧ st.unHealthCount ≤ u ∧ 0 ≤ st.healthCount ∧ st.healthCount ≤ h

theorem inv_init (u h : Nat) (hu : 1 ≤ u) (hh : 1 ≤ h) (f0 : Bool) : Inv u h (St.init f0) [] := by
  simp only [Inv, St.init, trail, List.takeWhile_nil, List.length_nil]
  omega

theorem step_spec (u h : Nat) (hu : 1 ≤ u) (hh : 1 ≤ h) (st : St) (rev : List Result) (r : Result) (hinv : Inv u h st rev) :
    let changed := (!st.flag && r.bad && trail Result.bad (r :: rev) == u) ||
                   (st.flag && r.ok && trail Result.ok (r :: rev) == h)
    let unh' := if changed then !st.flag else st.flag
    (step u h st r).2 = ⟨changed, r.ok, unh'⟩ ∧ (step u h st r).1.flag = unh' ∧ Inv u h (step u h st r).1 (r :: rev) := by
  obtain ⟨uc, hc, flag⟩ := st
  obtain ⟨h1, h2, hb⟩ := hinv
  have hbad : r.bad = !r.ok := rfl
  simp only [trail_cons, hbad] at hb ⊢
  cases hr : r.ok with
  | true =>
    obtain rfl := (ok_true_iff r).1 hr
    rw [step_success]
    cases flag with
    | false => simp [Inv, trail_cons, hbad, hr]; omega
    | true =>
      obtain ⟨e, l⟩ := h2 rfl
      simp only at e
      by_cases e' : hc + 1 = h <;> simp [Inv, trail_cons, hbad, hr, e'] <;> omega
  | false =>
    rw [step_bad u h uc hc flag r hr]
    cases flag with
    | true => simp [Inv, trail_cons, hbad, hr]; omega
    | false =>
      obtain ⟨e, l⟩ := h1 rfl
      simp only at e
      by_cases e' : uc + 1 = u <;> simp [Inv, trail_cons, hbad, hr, e'] <;> omega

theorem run_eq_spec (u h : Nat) (hu : 1 ≤ u) (hh : 1 ≤ h) (st : St) (rev : List Result) (rs : List Result) (hinv : Inv u h st rev) :
    run u h st rs = spec u h st.flag rev rs := by
  induction rs generalizing st rev with
  | nil => rfl
  | cons r rs ih =>
    obtain ⟨ho, hf, hi⟩ := step_spec u h hu hh st rev r hinv
    simp only [run, spec]
    rw [ho, ih _ _ hi, hf]

theorem inv_finalSt (u h : Nat) (hu : 1 ≤ u) (hh : 1 ≤ h) (st : St) (rev rs : List Result) (hinv : Inv u h st rev) :
    Inv u h (finalSt u h st rs) (rs.reverse ++ rev) := by
  induction rs generalizing st rev with
  | nil => exact hinv
  | cons r rs ih =>
    rw [List.reverse_cons, List.append_assoc]
    exact ih _ _ (step_spec u h hu hh st rev r hinv).2.2

theorem spec_length (u h : Nat) (unh : Bool) (rev rs : List Result) : (spec u h unh rev rs).length = rs.length := by
  induction rs generalizing unh rev with
  | nil => rfl
  | cons x xs ih => simp only [spec, List.length_cons, ih]

/-- the reference read at one position: with `before` = the flag before check `i` and `hist` = the results up to and including
it (latest first), the output is given by the two run lengths alone -/
theorem spec_pointwise (u h : Nat) (r : Result) (rs : List Result) (unh : Bool) (rev : List Result) (i : Nat)
    (hi : rs[i]? = some r) :
    let outs := spec u h unh rev rs
    let before := ((unh :: outs.map (·.flagAfter))[i]?).getD false
    let hist := (rs.take (i + 1)).reverse ++ rev
    let changed := (!before && r.bad && trail Result.bad hist == u) || (before && r.ok && trail Result.ok hist == h)
    outs[i]? = some ⟨changed, r.ok, if changed then !before else before⟩ := by
  induction rs generalizing unh rev i with
  | nil => simp at hi
  | cons x xs ih =>
    cases i with
    | zero =>
      simp only [List.getElem?_cons_zero, Option.some.injEq] at hi
      subst hi
      simp [spec]
    | succ k =>
      simp only [List.getElem?_cons_succ] at hi
      have := ih (if ((!unh && x.bad && trail Result.bad (x :: rev) == u) ||
                 (unh && x.ok && trail Result.ok (x :: rev) == h)) then !unh else unh) (x :: rev) k hi
      simp only [spec, List.getElem?_cons_succ, List.map_cons, List.take_succ_cons, List.reverse_cons,
        List.append_assoc, List.singleton_append] at this ⊢
      exact this

end MosnVerif.Model.HealthCheck
