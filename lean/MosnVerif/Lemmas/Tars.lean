import MosnVerif.Model.Tars
import MosnVerif.Model.EnvelopeRef
import MosnVerif.Lemmas.Bytes
/-! lemmas about the tars envelope / TarsGo writer model (core only) -/
namespace MosnVerif.Model.Tars
open MosnVerif.Model MosnVerif.Model.Bytes
open MosnVerif.Model.EnvelopeRef.Tars (readHead intSize locate splice)

/-- an integer field as TarsGo writes it: one head byte (tag < 15) with an integer wire type, then its payload -/
structure IsIntField (w : Bytes) (t : Nat) : Prop where
  tag_lt : t < 15
  shape : ∃ ty sz data, w = UInt8.ofNat (t * 16 + ty) :: data ∧ data.length = sz ∧ intSize ty = some sz ∧ ty < 16

theorem head_small (ty t : Nat) (h : t < 15) : head ty t = [UInt8.ofNat (t * 16 + ty)] := by
  simp [head, h]

theorem wInt8_field (v : Int) (t : Nat) (h : t < 15) : IsIntField (wInt8 v t) t := by
  refine ⟨h, ?_⟩
  unfold wInt8
  split
  · exact ⟨12, 0, [], by rw [head_small _ _ h], rfl, rfl, by decide⟩
  · exact ⟨0, 1, be 1 (twos 1 v), by rw [head_small _ _ h]; rfl, by simp, rfl, by decide⟩

theorem wInt16_field (v : Int) (t : Nat) (h : t < 15) : IsIntField (wInt16 v t) t := by
  unfold wInt16
  split
  · exact wInt8_field v t h
  · exact ⟨h, 1, 2, be 2 (twos 2 v), by rw [head_small _ _ h]; rfl, by simp, rfl, by decide⟩

theorem wInt32_field (v : Int) (t : Nat) (h : t < 15) : IsIntField (wInt32 v t) t := by
  unfold wInt32
  split
  · exact wInt16_field v t h
  · exact ⟨h, 2, 4, be 4 (twos 4 v), by rw [head_small _ _ h]; rfl, by simp, rfl, by decide⟩

theorem readHead_field {w : Bytes} {t : Nat} (F : IsIntField w t) (rest : Bytes) :
    ∃ ty sz, readHead (w ++ rest) = some (ty, t, 1) ∧ intSize ty = some sz ∧ w.length = 1 + sz := by
  obtain ⟨ty, sz, data, rfl, hl, hs, hty⟩ := F.shape
  have ht := F.tag_lt
  refine ⟨ty, sz, ?_, hs, by rw [List.length_cons, hl, Nat.add_comm]⟩
  -- the head byte holds tag and type without overflow, and the tag is not the escape value 15
  obtain ⟨h0, h1, h2⟩ : (t * 16 + ty) % 2 ^ 8 = t * 16 + ty ∧ (t * 16 + ty) / 16 = t ∧ (t * 16 + ty) % 16 = ty := by omega
  have h3 : (t == 15) = false := beq_false_of_ne (by omega)
  simp only [List.cons_append, readHead, UInt8.toNat_ofNat', h0, h1, h2, h3, Bool.false_eq_true, if_false]

/-- `locate` at a cut point where an integer field `w` starts: it steps over `w` when its tag is smaller … -/
theorem locate_skip {w : Bytes} {t : Nat} (F : IsIntField w t) {p rest : Bytes} {off : Nat} (hd : p.drop off = w ++ rest)
    (tag fuel : Nat) (hlt : t < tag) : locate p tag (fuel + 1) off = locate p tag fuel (off + w.length) := by
  obtain ⟨ty, sz, hr, hs, hl⟩ := readHead_field F rest
  rw [locate, hd, hr]
  simp only [hs]
  have h1 : (t == tag) = false := by simp; omega
  simp only [h1, Bool.false_eq_true, if_false, hlt, if_true]
  rw [hl, Nat.add_assoc]

/-- … and stops at the field with the wanted tag -/
theorem locate_hit {w : Bytes} {t : Nat} (F : IsIntField w t) {p rest : Bytes} {off : Nat} (hd : p.drop off = w ++ rest)
    (fuel : Nat) : locate p t (fuel + 1) off = some (off, off + w.length) := by
  obtain ⟨ty, sz, hr, hs, hl⟩ := readHead_field F rest
  rw [locate, hd, hr]
  simp only [hs, beq_self_eq_true, if_true]
  rw [hl, Nat.add_assoc]

/-- the fields in front of the request id are integers with ascending tags: `locate` walks the cut points between them -/
theorem locate_req (p : Req) : locate (wReq p) 4 8 0 = some ((reqPre p).length, (reqPre p).length + (wInt32 p.iRequestId 4).length) := by
  have d1 : (wReq p).drop 0 = wInt16 p.iVersion 1 ++ (wInt8 p.cPacketType 2 ++ (wInt32 p.iMessageType 3 ++
      (wInt32 p.iRequestId 4 ++ reqPost p))) := by
    simp only [wReq, reqPre, List.append_assoc, List.drop_zero]
  have d2 := drop_of_drop d1 rfl
  have d3 := drop_of_drop d2 rfl
  have d4 := drop_of_drop d3 rfl
  rw [locate_skip (wInt16_field _ 1 (by decide)) d1 4 7 (by decide), locate_skip (wInt8_field _ 2 (by decide)) d2 4 6 (by decide),
    locate_skip (wInt32_field _ 3 (by decide)) d3 4 5 (by decide), locate_hit (wInt32_field _ 4 (by decide)) d4 4]
  simp only [reqPre, List.length_append, Nat.zero_add]

theorem locate_resp (p : Resp) : locate (wResp p) 3 8 0 = some ((respPre p).length, (respPre p).length + (wInt32 p.iRequestId 3).length) := by
  have d1 : (wResp p).drop 0 = wInt16 p.iVersion 1 ++ (wInt8 p.cPacketType 2 ++ (wInt32 p.iRequestId 3 ++ respPost p)) := by
    simp only [wResp, respPre, List.append_assoc, List.drop_zero]
  have d2 := drop_of_drop d1 rfl
  have d3 := drop_of_drop d2 rfl
  rw [locate_skip (wInt16_field _ 1 (by decide)) d1 3 7 (by decide), locate_skip (wInt8_field _ 2 (by decide)) d2 3 6 (by decide),
    locate_hit (wInt32_field _ 3 (by decide)) d3 5]
  simp only [respPre, List.length_append, Nat.zero_add]

theorem envelope_length (body : Bytes) : (envelope body).length = 4 + body.length := by
  simp [envelope, Gen.C01Tars.MessageSizeLen]

/-- the length prefix of what `Encode` writes is the total length of the frame, itself included -/
theorem envelope_prefix (body : Bytes) (h : 4 + body.length < 4294967296) :
    getBE (envelope body) 0 4 = (envelope body).length := by
  rw [envelope_length]
  exact (getBE_prefix (be 4 (4 + body.length)) body).trans (toNat_be_of_lt h)

theorem frameLen_envelope (body rest : Bytes) (h : 4 + body.length ≤ 10485760) :
    frameLen? (envelope body ++ rest) = some (4 + body.length) := by
  have hp := envelope_prefix body (by omega)
  have hl := envelope_length body
  unfold frameLen?
  rw [getBE_append_left _ _ _ _ (by omega), hp, hl]
  have n1 : ¬ ((envelope body ++ rest).length < 4) := by simp [hl]; omega
  have n2 : ¬ (4 + body.length < 4 ∨ 4 + body.length > 10485760) := by omega
  have n3 : ¬ ((envelope body ++ rest).length < 4 + body.length) := by simp [hl]
  simp only [n1, n2, n3, if_false]

theorem body_of_envelope (body rest : Bytes) :
    ((envelope body ++ rest).take (4 + body.length)).drop 4 = body := by
  have hl := envelope_length body
  rw [← hl, List.take_left' rfl]
  simp [envelope]

/-- **tars, canonical form**: for a frame in TarsGo's canonical form (whatever follows it in the buffer), whose request-id
field `w` sits between `pre` and `post` where `locate` finds it, the frame re-serialised with another id is the received
one with only that field re-encoded and the length prefix adjusted — exactly what the reference `splice` demands -/
theorem splice_at (pre w post rest : Bytes) (isReq : Bool) (id : Nat)
    (hloc : locate (pre ++ w ++ post) (if isReq then 4 else 3) 8 0 = some (pre.length, pre.length + w.length))
    (h : 4 + (pre ++ w ++ post).length ≤ 10485760) :
    splice (envelope (pre ++ w ++ post) ++ rest) isReq id =
      some (envelope (pre ++ wInt32 (idOf id) (if isReq then 4 else 3) ++ post)) := by
  unfold splice
  rw [frameLen_envelope _ _ h]
  simp only [body_of_envelope, hloc]
  have e1 : (pre ++ w ++ post).take pre.length = pre := by rw [List.append_assoc, List.take_left' rfl]
  have e2 : (pre ++ w ++ post).drop (pre.length + w.length) = post := by rw [← List.length_append, List.drop_left' rfl]
  rw [e1, e2]
  rfl

theorem splice_req (p : Req) (rest : Bytes) (id : Nat) (h : 4 + (wReq p).length ≤ 10485760) :
    splice (envelope (wReq p) ++ rest) true id = some (encodeReq p id) :=
  splice_at (reqPre p) (wInt32 p.iRequestId 4) (reqPost p) rest true id (locate_req p) h

theorem splice_resp (p : Resp) (rest : Bytes) (id : Nat) (h : 4 + (wResp p).length ≤ 10485760) :
    splice (envelope (wResp p) ++ rest) false id = some (encodeResp p id) :=
  splice_at (respPre p) (wInt32 p.iRequestId 3) (respPost p) rest false id (locate_resp p) h

end MosnVerif.Model.Tars
