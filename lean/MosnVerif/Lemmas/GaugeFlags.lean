import MosnVerif.Model.GaugeFlags
/-!
Lemmas about `Model/GaugeFlags.lean` (C10): an unconditional list of movements moves its metric by the same
amount under every valuation of the condition atoms.
-/
namespace MosnVerif.Lemmas.GaugeFlags
open MosnVerif.Gen.GaugeSites MosnVerif.Model.GaugeFlags

theorem fires_of_nil (ρ : Val) (m : Move) (h : m.conds.isEmpty = true) : fires ρ m = true := by
  unfold fires
  cases hc : m.conds with
  | nil => rfl
  | cons a b => simp [hc] at h

theorem delta_uncond (ρ ρ' : Val) : ∀ ms : List Move, uncond ms = true → delta ρ ms = delta ρ' ms
  | [], _ => rfl
  | m :: ms, h => by
    simp only [uncond, List.all_cons, Bool.and_eq_true] at h
    simp only [delta, fires_of_nil ρ m h.1, fires_of_nil ρ' m h.1]
    rw [delta_uncond ρ ρ' ms (by simpa [uncond] using h.2)]

/-- a gauge whose movements at creation and at clean are unconditional has the same value under all valuations -/
theorem gaugeAfter_uncond (t : List Move) (ρ₀ ρ₁ ρ₀' ρ₁' : Val) (o : Owner) (g : String) (cleaned : Bool)
    (h0 : uncond (sitesOf t startFn o g) = true) (h1 : uncond (sitesOf t endFn o g) = true) :
    gaugeAfter t ρ₀ ρ₁ o g cleaned = gaugeAfter t ρ₀' ρ₁' o g cleaned := by
  unfold gaugeAfter
  rw [delta_uncond ρ₀ ρ₀' _ h0, delta_uncond ρ₁ ρ₁' _ h1]

end MosnVerif.Lemmas.GaugeFlags
