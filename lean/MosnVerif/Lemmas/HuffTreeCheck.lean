import MosnVerif.Model.HuffTree
/-!
What `buildRootHuffmanNode` must have built, checked by the kernel on the tree the model builds from the regenerated
table with the regenerated `addDecoderNode` expressions.
-/
namespace MosnVerif.Lemmas.HuffTreeCheck
open MosnVerif.Gen.Hpack MosnVerif.Gen.HpackHuff MosnVerif.Model.Huffman MosnVerif.Model.HuffTree

/-- the internal nodes reachable from the root with the bits that lead to them: (id, depth in bytes, path value) -/
def nodePathsFrom (t : Tree) : Nat → List (Nat × Nat × Nat) → List (Nat × Nat × Nat)
  | 0, _ => []
  | fuel + 1, frontier =>
    frontier ++ nodePathsFrom t fuel (frontier.flatMap (fun n =>
      (List.range 256).filterMap (fun idx => match t.child n.1 idx with
        | .ptr id => some (id, n.2.1 + 1, n.2.2 * 256 + idx)
        | _ => Option.none)))

def nodePathsOf (t : Tree) : List (Nat × Nat × Nat) := nodePathsFrom t 5 [(0, 0, 0)]

/-- child `idx` of the node reached by the `8d` bits `pv` is what the code table prescribes: a leaf carries the symbol
whose code is those bits followed by the first `r` bits of `idx`; a pointer leads to a listed node; a nil child means
that the bits start with EOS.  `cOf` / `lOf` look the table up. -/
def entOk (cOf lOf : Nat → Nat) (ps : List (Nat × Nat × Nat)) (d pv idx : Nat) : Ent → Bool
  | .leaf sym r =>
    1 ≤ r && r ≤ 8 && sym < 256 && lOf sym == 8 * d + r && cOf sym == pv * 2 ^ r + idx / 2 ^ (8 - r)
  | .ptr id => ps.contains (id, d + 1, pv * 256 + idx)
  | .none => isPrefixCode (MosnVerif.Model.Huffman.eosCode, MosnVerif.Model.Huffman.eosLen) (pv * 256 + idx, 8 * (d + 1))

def treeOkFor (cOf lOf : Nat → Nat) (t : Tree) (ps : List (Nat × Nat × Nat)) : Bool :=
  ps.contains (0, 0, 0) &&
  ps.all (fun n => decide (n.2.2 < 2 ^ (8 * n.2.1)) && decide (n.2.1 < 4) &&
    -- no code is a prefix of the bits that lead to an internal node
    (List.range 256).all (fun s => !(isPrefixCode (cOf s, lOf s) (n.2.2, 8 * n.2.1))) &&
    (List.range 256).all (fun idx => entOk cOf lOf ps n.2.1 n.2.2 idx (t.child n.1 idx)))

/-! the code table as one number (40 bits per symbol), so that the check looks a symbol up by arithmetic -/

def packFold : List (Nat × Nat) → Nat → Nat → Nat
  | [], _, acc => acc
  | cl :: r, i, acc => packFold r (i + 1) (acc + (cl.1 % 2 ^ 32 + 2 ^ 32 * (cl.2 % 256)) * 2 ^ (40 * i))

def packedCode (tab s : Nat) : Nat := tab / 2 ^ (40 * s) % 2 ^ 32
def packedLen (tab s : Nat) : Nat := tab / 2 ^ (40 * s + 32) % 256

/-- every table entry is found in the packed table -/
def packedOk (tab : Nat) (l : List (Nat × Nat)) : Bool :=
  l.zipIdx.all fun e => packedCode tab e.2 == e.1.1 && packedLen tab e.2 == e.1.2

/-- the packed table of the check -/
def tabP : Nat := packFold (huffmanCodes.zip huffmanCodeLen) 0 0

/-- the internal nodes of the tree `buildRootHuffmanNode` builds, with the bits leading to them -/
def nodePaths : List (Nat × Nat × Nat) := nodePathsOf huffTree

theorem tree_eta (t : Tree) : (⟨t.cells, t.count⟩ : Tree) = t := rfl

/-- evaluated by the kernel: the tree is built from the regenerated table and the 256 slots of each of its 15 nodes are
compared with the table -/
theorem check_facts :
    huffmanCodes.length = 256 ∧ huffmanCodeLen.length = 256 ∧
    packedOk tabP (huffmanCodes.zip huffmanCodeLen) = true ∧ buildRoot.bad = false ∧
    treeOkFor (packedCode tabP) (packedLen tabP) huffTree nodePaths = true := by decide +kernel

theorem table_len : huffmanCodes.length = 256 ∧ huffmanCodeLen.length = 256 := ⟨check_facts.1, check_facts.2.1⟩

theorem zip_get (s : Nat) (hs : s < 256) : (huffmanCodes.zip huffmanCodeLen)[s]? = some (codeOf s, lenOf s) := by
  have h1 : s < huffmanCodes.length := by rw [table_len.1]; exact hs
  have h2 : s < huffmanCodeLen.length := by rw [table_len.2]; exact hs
  unfold codeOf lenOf
  rw [List.getD_eq_getElem?_getD, List.getD_eq_getElem?_getD, List.getElem?_eq_getElem h1, List.getElem?_eq_getElem h2,
    Option.getD_some, Option.getD_some]
  exact List.getElem?_zip_eq_some.2 ⟨List.getElem?_eq_getElem h1, List.getElem?_eq_getElem h2⟩

theorem packed_eq (s : Nat) (hs : s < 256) : packedCode tabP s = codeOf s ∧ packedLen tabP s = lenOf s := by
  have h := List.all_eq_true.1 check_facts.2.2.1 ((codeOf s, lenOf s), s) (List.mem_zipIdx_iff_getElem?.2 (zip_get s hs))
  simp only [Bool.and_eq_true, beq_iff_eq] at h
  exact h

theorem entOk_congr (c l c' l' : Nat → Nat) (hc : ∀ s, s < 256 → c s = c' s ∧ l s = l' s)
    (ps : List (Nat × Nat × Nat)) (d pv idx : Nat) (e : Ent) (h : entOk c l ps d pv idx e = true) :
    entOk c' l' ps d pv idx e = true := by
  cases e with
  | none => exact h
  | leaf sym r =>
    simp only [entOk, Bool.and_eq_true, decide_eq_true_eq, beq_iff_eq] at h ⊢
    obtain ⟨⟨⟨⟨h1, h2⟩, h3⟩, h4⟩, h5⟩ := h
    exact ⟨⟨⟨⟨h1, h2⟩, h3⟩, by rw [← (hc sym h3).2]; exact h4⟩, by rw [← (hc sym h3).1]; exact h5⟩
  | ptr id => exact h

theorem build_ok : buildRoot.bad = false := check_facts.2.2.2.1

theorem root_mem : (0, 0, 0) ∈ nodePaths := by
  have h := check_facts.2.2.2.2
  simp only [treeOkFor, Bool.and_eq_true, List.contains_iff_mem] at h
  exact h.1

theorem node_ok (n d pv : Nat) (hn : (n, d, pv) ∈ nodePaths) :
    pv < 2 ^ (8 * d) ∧ d < 4 ∧ (∀ s, s < 256 → isPrefixCode (codeOf s, lenOf s) (pv, 8 * d) = false) ∧
    ∀ idx, idx < 256 → entOk codeOf lenOf nodePaths d pv idx (huffTree.child n idx) = true := by
  have h := check_facts.2.2.2.2
  simp only [treeOkFor, Bool.and_eq_true, List.all_eq_true, decide_eq_true_eq, List.mem_range, Bool.not_eq_true'] at h
  have := h.2 (n, d, pv) hn
  refine ⟨this.1.1.1, this.1.1.2, fun s hs => ?_, fun idx hi => entOk_congr _ _ _ _ packed_eq _ _ _ _ _ (this.2 idx hi)⟩
  rw [← (packed_eq s hs).1, ← (packed_eq s hs).2]
  exact this.1.2 s hs

theorem enc_lt (sym codeLen : Nat) : (Ent.leaf sym codeLen).enc < 2 ^ slotBits := by
  simp only [Ent.enc, slotBits]
  have := Nat.mod_lt sym (show 0 < 256 by decide)
  have := Nat.mod_lt codeLen (show 0 < 256 by decide)
  omega

/-- `1 + 2^32 + … + 2^(32(n-1))` -/
def rep : Nat → Nat
  | 0 => 0
  | n + 1 => 1 + 2 ^ slotBits * rep n

theorem rep_closed (n : Nat) : rep n = (2 ^ (slotBits * n) - 1) / (2 ^ slotBits - 1) := by
  have key : ∀ n, rep n * (2 ^ slotBits - 1) = 2 ^ (slotBits * n) - 1 := by
    intro n
    induction n with
    | zero => simp [rep]
    | succ n ih =>
      have hp : 1 ≤ 2 ^ (slotBits * n) := Nat.two_pow_pos _
      have hq : 1 ≤ 2 ^ slotBits := Nat.two_pow_pos _
      rw [rep, Nat.add_mul, Nat.mul_assoc, ih, Nat.mul_add slotBits n 1, Nat.mul_one, Nat.pow_add, Nat.one_mul,
        Nat.mul_sub_one, Nat.mul_comm (2 ^ slotBits)]
      have : 2 ^ slotBits ≤ 2 ^ (slotBits * n) * 2 ^ slotBits := Nat.le_mul_of_pos_left _ hp
      omega
  have hpos : 0 < 2 ^ slotBits - 1 := by unfold slotBits; decide
  rw [← key n, Nat.mul_div_cancel _ hpos]

end MosnVerif.Lemmas.HuffTreeCheck
