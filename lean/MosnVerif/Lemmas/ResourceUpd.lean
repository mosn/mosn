import MosnVerif.Model.ResourceUpd
import MosnVerif.Lemmas.Fold
/-! Lemmas for the resource-threshold part of C12 (Model/ResourceUpd.lean). -/
namespace MosnVerif.Model.ResourceUpd
open MosnVerif.Gen.ResourceUpd

/-- the regenerated `updateResourceValue` stores ALL four new thresholds, whatever their value -/
theorem updateResourceValue_eq (o n : Maxes) : updateResourceValue o n = n := by
  cases o; cases n; rfl

theorem wanted_eq_newRM (cb : List Maxes) : Spec.wanted cb = newRM cb := by
  cases cb with
  | nil => rfl
  | cons t _ => cases t; rfl

theorem handler_max (via : Via) (old : Option Live) (cfg : Cfg) : (handler via old cfg).max = newRM cfg.cb := by
  unfold handler
  cases old with
  | none => rfl
  | some o =>
    simp only [handler_typeGuard, handler_handsOver, handler_updatesOld, if_true, updateResourceValue_eq]
    split
    · rfl
    · split <;> rfl

/-- the old manager object is handed over whatever the cluster types are: the counters survive every update -/
theorem handler_cur (via : Via) (o : Live) (cfg : Cfg) : (handler via (some o) cfg).cur = o.rm.cur := by
  have hv : runsHandler via = true := by cases via <;> rfl
  simp [handler, hv, handler_typeGuard, handler_handsOver]

theorem handler_cur_new (via : Via) (cfg : Cfg) : (handler via none cfg).cur = Curs.zero := rfl

/-- the invariant: live thresholds = thresholds of a fresh cluster built from the stored configuration -/
def Inv (s : State) : Prop := liveMax s = rebuilt s

theorem inv_init : Inv init := rfl

theorem bump_max (f : Int → Int → Int) (rm : RM) (r : Rsrc) : (bump f rm r).max = rm.max := rfl

theorem inv_step (s : State) (op : Op) (h : Inv s) : Inv (step s op) := by
  unfold Inv liveMax rebuilt at *
  cases op with
  | update via cfg => simp [step, handler_max]
  | setHosts has =>
    cases hl : s.live with
    | none => simpa [step, hl] using h
    | some l => simpa [step, hl] using h
  | remove =>
    cases hl : s.live with
    | none => simpa [step, hl] using h
    | some l => simp [step, hl]
  | incr r =>
    cases hl : s.live with
    | none => simpa [step, hl] using h
    | some l => simpa [step, hl, bump_max] using h
  | decr r =>
    cases hl : s.live with
    | none => simpa [step, hl] using h
    | some l => simpa [step, hl, bump_max] using h

theorem inv_runFrom (s : State) (ops : List Op) (h : Inv s) : Inv (runFrom s ops) :=
  Lemmas.Fold.foldl_inv inv_step ops s h

theorem runFrom_append (s : State) (a b : List Op) : runFrom s (a ++ b) = runFrom (runFrom s a) b := by
  simp [runFrom, List.foldl_append]

/-- what `Spec.holdsFrom` remembers about the state before a step -/
def prevOf (s : State) : Option (RM × Nat) := s.live.map (fun l => (l.rm, l.typ))

theorem stepOk_model (s : State) (op : Op) (h : Inv s) :
    Spec.stepOk (prevOf s) op (observe (result s op) (step s op)) = true := by
  have h' := inv_step s op h
  unfold Inv liveMax rebuilt at h'
  have ha : ((observe (result s op) (step s op)).live.map (·.max)) = (observe (result s op) (step s op)).reb := by
    simpa [observe, rebuilt, Option.map_map, Function.comp_def] using h'
  have hb : Spec.hostOk (observe (result s op) (step s op)) = true := by
    simp only [observe, Spec.hostOk]
    cases (step s op).live with
    | none => rfl
    | some l => cases hh : l.hasHost <;> simp [hh]
  have hc : Spec.opOk (prevOf s) op (observe (result s op) (step s op)) = true := by
    cases op with
    | update via cfg =>
      cases hl : s.live with
      | none => simp [Spec.opOk, Spec.cursOk, observe, step, rebuilt, wanted_eq_newRM, prevOf, hl, handler_cur_new]
      | some l => simp [Spec.opOk, Spec.cursOk, observe, step, rebuilt, wanted_eq_newRM, prevOf, hl, handler_cur]
    | setHosts has => rfl
    | remove =>
      cases hl : s.live with
      | none => simp [Spec.opOk, observe, result, hl]
      | some l => simp [Spec.opOk, observe, step, rebuilt, hl]
    | incr r => rfl
    | decr r => rfl
  simp [Spec.stepOk, ha, hb, hc]

theorem prevOf_step (s : State) (op : Op) :
    Spec.nextPrev (prevOf s) op (observe (result s op) (step s op)).live = prevOf (step s op) := by
  cases op with
  | update via cfg => simp [Spec.nextPrev, observe, step, prevOf]
  | setHosts has => cases hl : s.live <;> simp [Spec.nextPrev, observe, step, prevOf, hl]
  | remove => cases hl : s.live <;> simp [Spec.nextPrev, observe, step, prevOf, hl]
  | incr r => cases hl : s.live <;> simp [Spec.nextPrev, observe, step, prevOf, hl]
  | decr r => cases hl : s.live <;> simp [Spec.nextPrev, observe, step, prevOf, hl]

theorem holdsFrom_model (s : State) (ops : List Op) (h : Inv s) :
    Spec.holdsFrom (prevOf s) ops (trace s ops) = true := by
  induction ops generalizing s with
  | nil => rfl
  | cons op r ih =>
    simp only [trace, Spec.holdsFrom, Bool.and_eq_true]
    refine ⟨stepOk_model s op h, ?_⟩
    rw [prevOf_step]
    exact ih (step s op) (inv_step s op h)

/-! ## the skip-zero variant (what the seeded change does): negation witness material -/

/-- `updateResourceValue` with every store guarded by `if nrm.<r>.max != 0` -/
def updateSkipZero (orm nrm : Maxes) : Maxes :=
  ⟨if nrm.connections != 0 then nrm.connections else orm.connections,
   if nrm.pendingRequests != 0 then nrm.pendingRequests else orm.pendingRequests,
   if nrm.requests != 0 then nrm.requests else orm.requests,
   if nrm.retries != 0 then nrm.retries else orm.retries⟩

end MosnVerif.Model.ResourceUpd
