import MosnVerif.Model.ConfigOrder
import MosnVerif.Lemmas.Fold
import MosnVerif.Lemmas.InsertSort
/-!
Lemmas of the order model of the dump (C19): a start leaves distinct keys; loading a list with distinct keys is the
identity (so reloading a dump changes nothing beyond what the dump did); a sort is a permutation.
-/
namespace MosnVerif.Lemmas.ConfigOrder
open MosnVerif.Model.OrderTypes MosnVerif.Model.ConfigOrder

set_option linter.unusedSectionVars false
variable {κ : Type} [DecidableEq κ]

theorem put_of_not_mem (e : Elem κ) (t : Table κ) (h : e.key ∉ keys t) : put e t = t ++ [e] := by
  fun_induction put e t with
  | case1 => rfl
  | case2 x r hx => exact absurd (hx ▸ List.mem_cons_self) h
  | case3 x r _ ih => rw [ih fun hm => h (List.mem_cons_of_mem _ hm), List.cons_append]

theorem keys_put_of_mem (e : Elem κ) (t : Table κ) (h : e.key ∈ keys t) : keys (put e t) = keys t := by
  fun_induction put e t with
  | case1 => cases h
  | case2 x r hx => simp [keys, hx]
  | case3 x r hx ih =>
    have hr : e.key ∈ keys r := (List.mem_cons.mp h).resolve_left (Ne.symm hx)
    simp only [keys, List.map_cons] at ih ⊢
    rw [ih hr]

theorem put_keys_nodup (t : Table κ) (e : Elem κ) (h : (keys t).Nodup) : (keys (put e t)).Nodup := by
  by_cases hm : e.key ∈ keys t
  · rw [keys_put_of_mem e t hm]; exact h
  · rw [put_of_not_mem e t hm]
    simp only [keys, List.map_append, List.map_cons, List.map_nil, List.nodup_append, List.mem_singleton]
    exact ⟨h, by simp, fun a ha b hb hab => hm (hb ▸ hab ▸ ha)⟩

/-- the effective tables of a start have pairwise distinct keys, whatever the configuration repeats -/
theorem loadTable_keys_nodup (l : List (Elem κ)) : (keys (loadTable l)).Nodup :=
  Fold.foldl_inv put_keys_nodup l [] (by simp [keys])

theorem foldl_put_of_nodup (l : List (Elem κ)) (acc : Table κ) (h : (keys (acc ++ l)).Nodup) :
    l.foldl (fun t e => put e t) acc = acc ++ l := by
  induction l generalizing acc with
  | nil => simp
  | cons e r ih =>
    have hnot : e.key ∉ keys acc := by
      simp only [keys, List.map_append, List.map_cons] at h
      rw [List.nodup_append] at h
      intro hm
      exact h.2.2 _ (by simpa [keys] using hm) _ (List.mem_cons_self) rfl
    simp only [List.foldl_cons]
    rw [put_of_not_mem e acc hnot, ih (acc ++ [e]) (by simpa [List.append_assoc] using h)]
    simp [List.append_assoc]

theorem loadTable_of_nodup (l : List (Elem κ)) (h : (keys l).Nodup) : loadTable l = l := by
  have := foldl_put_of_nodup l [] (by simpa using h)
  simpa [loadTable] using this

theorem insBy_isIns {α : Type} (le : α → α → Bool) : InsertSort.IsIns (fun a b => le a b = true) (insBy le) :=
  ⟨fun _ => rfl, fun _ _ _ => rfl⟩

theorem isort_perm {α : Type} (le : α → α → Bool) (l : List α) : (isort le l).Perm l := by
  induction l with
  | nil => exact List.Perm.refl _
  | cons a r ih => exact ((insBy_isIns le).perm a _).trans (List.Perm.cons a ih)

theorem keys_nodup_of_perm {t u : Table κ} (h : t.Perm u) (hu : (keys u).Nodup) : (keys t).Nodup :=
  ((h.map (fun e : Elem κ => e.key)).nodup_iff).2 hu

/-- a name-keyed list of the dump (rebuilt from a map, possibly sorted, no element edited) is a permutation of the table -/
theorem dumpList_keyed_perm (le : κ → κ → Bool) (lp : ListPlan) (m : String) (hs : lp.src = .fromMap m)
    (it : Table κ → Table κ) (hit : ∀ t, (it t).Perm t) (t : Table κ) :
    (dumpList le lp [] it t).Perm t := by
  simp only [dumpList, hs, List.filter_nil, List.foldl_nil]
  split
  · exact (isort_perm _ _).trans (hit t)
  · exact hit t

/-- an in-order, unsorted, unedited list of the dump IS the effective slice -/
theorem dumpList_ordered_eq (le : κ → κ → Bool) (lp : ListPlan) (s : String) (hs : lp.src = .inOrder s) (h0 : lp.sorts = 0)
    (it : Table κ → Table κ) (t : Table κ) : dumpList le lp [] it t = t := by
  simp [dumpList, hs, h0]

/-- lookup by key in tables with distinct keys does not depend on the order -/
theorem find_perm {t u : Table κ} (h : u.Perm t) (ht : (keys t).Nodup) (k : κ) :
    u.find? (fun e => e.key = k) = t.find? (fun e => e.key = k) := by
  -- the elements under `k` in the two tables are permutations of each other, and `t` has at most one
  have hp := h.filter (fun e => e.key = k)
  have h1 : (t.filter fun e => e.key = k).length ≤ 1 := by
    have := List.nodup_iff_count.mp ht k
    rwa [keys, List.count_eq_countP, List.countP_map, List.countP_eq_length_filter] at this
  rw [← List.head?_filter, ← List.head?_filter]
  generalize t.filter (fun e => e.key = k) = t' at hp h1
  match t', h1, hp with
  | [], _, hp => rw [hp.eq_nil]
  | [x], _, hp => rw [List.perm_singleton.mp hp]
  | _ :: _ :: _, h1, _ => simp at h1

/-- **a name-keyed list across dump and reload**: the table a start builds has distinct keys, so its dump (rebuilt from the map in
any iteration order, sorted or not, no element edited) is a permutation of it, loading that dump changes nothing, and the reloaded
table holds the same element under every key -/
theorem keyed_dump_reload (le : κ → κ → Bool) (lp : ListPlan) (m : String) (hs : lp.src = .fromMap m)
    (it : Table κ → Table κ) (hit : ∀ t, (it t).Perm t) (l : List (Elem κ)) :
    (dumpList le lp [] it (loadTable l)).Perm (loadTable l) ∧
    (loadTable (dumpList le lp [] it (loadTable l))).Perm (loadTable l) ∧
    ∀ k, (loadTable (dumpList le lp [] it (loadTable l))).find? (fun e => e.key = k) =
      (loadTable l).find? (fun e => e.key = k) := by
  have hd := dumpList_keyed_perm le lp m hs it hit (loadTable l)
  have hn := loadTable_keys_nodup l
  rw [loadTable_of_nodup _ (keys_nodup_of_perm hd hn)]
  exact ⟨hd, hd, find_perm hd hn⟩

end MosnVerif.Lemmas.ConfigOrder
