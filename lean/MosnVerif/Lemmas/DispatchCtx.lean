import MosnVerif.Model.DispatchCtx
import MosnVerif.Model.DispatchCtxSpec
import MosnVerif.Lemmas.Fold
/-! invariants of the Dispatch context model (`Model/DispatchCtx.lean`) -/
namespace MosnVerif.Model.DispatchCtx

/-- what holds between two frames when `Get` is a statement of the loop and `Next` follows every frame: the current
context is unused, every context used so far is older, every receiver sees its own frame -/
structure Inv (sh : Shape) (pf : Bool) (s : St) : Prop where
  lt  : s.cur < s.fresh
  dec : ∀ c ∈ s.decoded, c < s.cur
  del : ∀ d ∈ s.delivered, d.ctx < s.cur ∧ readback sh pf s d = own d.frame
  mem : ∀ d ∈ s.delivered, d.ctx ∈ s.decoded
  nd  : s.decoded.Nodup
  ndd : (s.delivered.map (·.ctx)).Nodup

theorem inv_init (sh : Shape) (pf : Bool) : Inv sh pf init :=
  ⟨by decide, by simp [init], by simp [init], by simp [init], by simp [init], by simp [init]⟩

theorem upd_ne {st : Nat → CtxObj} {c i : Nat} {o : CtxObj} (h : i ≠ c) : upd st c o i = st i := by
  simp [upd, h]

theorem upd_self {st : Nat → CtxObj} {c : Nat} {o : CtxObj} : upd st c o c = o := by
  simp [upd]

theorem seen_own_request (sh : Shape) (pf : Bool) (o : CtxObj) (f : Frame) :
    seenOf sh pf (streamObj sh (decodeObj pf o f) f) f = own f ∨ f.kind.stype = .response := by
  obtain ⟨k, id, tf, tr⟩ := f
  cases k <;> cases pf <;> cases hs : sh.streamPooled <;> simp [seenOf, streamObj, decodeObj, own, Kind.stype, hs]

private theorem nodup_snoc {l : List Nat} {c : Nat} (h : l.Nodup) (hc : ∀ x ∈ l, x < c) : (l ++ [c]).Nodup := by
  rw [List.nodup_append]
  refine ⟨h, by simp, ?_⟩
  intro a ha b hb
  simp at hb
  subst hb
  exact Nat.ne_of_lt (hc a ha)

theorem inv_step {sh : Shape} (h : sh.perFrame) (pf : Bool) (loc : Nat) (s : St) (f : Frame) (hi : Inv sh pf s) :
    Inv sh pf (frameStep sh pf loc s f) := by
  obtain ⟨hg, hn⟩ := h
  have hnx : sh.nextAfter f.kind.stype = true := hn _
  have hdec' : ∀ c ∈ s.decoded ++ [s.cur], c < s.fresh :=
    List.forall_mem_append.2 ⟨fun c hc => Nat.lt_trans (hi.dec c hc) hi.lt, List.forall_mem_singleton.2 hi.lt⟩
  have hold (o : CtxObj) : ∀ d ∈ s.delivered,
      d.ctx < s.fresh ∧ seenOf sh pf (upd s.store s.cur o d.ctx) d.frame = own d.frame := fun d hd => by
    have := hi.del d hd
    exact ⟨Nat.lt_trans this.1 hi.lt, upd_ne (Nat.ne_of_lt this.1) ▸ this.2⟩
  have hmem : ∀ d ∈ s.delivered, d.ctx ∈ s.decoded ++ [s.cur] :=
    fun d hd => List.mem_append_left _ (hi.mem d hd)
  cases hk : f.kind
  case heartbeat | response =>
    simp only [hk, Kind.stype] at hnx
    simp only [frameStep, hg, hk, Kind.stype, hnx, if_true]
    exact ⟨Nat.lt_succ_self _, hdec', hold _, hmem, nodup_snoc hi.nd hi.dec, hi.ndd⟩
  all_goals
    simp only [hk, Kind.stype] at hnx
    simp only [frameStep, hg, hk, Kind.stype, hnx, if_true]
    refine ⟨Nat.lt_succ_self _, hdec', List.forall_mem_append.2 ⟨hold _, List.forall_mem_singleton.2 ⟨hi.lt, ?_⟩⟩,
      List.forall_mem_append.2 ⟨hmem, List.forall_mem_singleton.2 (by simp)⟩, nodup_snoc hi.nd hi.dec, ?_⟩
    · -- the new receiver reads back what this frame just wrote into the fresh context
      simp only [readback, upd_self]
      exact (seen_own_request sh pf (s.store s.cur) f).resolve_right (by simp [hk, Kind.stype])
    · rw [List.map_append]
      exact nodup_snoc hi.ndd (List.forall_mem_map.2 fun d hd => (hi.del d hd).1)

theorem inv_dispatch {sh : Shape} (h : sh.perFrame) (pf : Bool) (fs : List Frame) (loc : Nat) (s : St) (hi : Inv sh pf s) :
    Inv sh pf (fs.foldl (frameStep sh pf loc) s) :=
  Lemmas.Fold.foldl_inv (inv_step h pf loc) fs s hi

theorem inv_run {sh : Shape} (h : sh.perFrame) (pf : Bool) (calls : List (List Frame)) :
    Inv sh pf (run sh pf calls) :=
  Lemmas.Fold.foldl_inv (f := dispatch sh pf) (fun s c => inv_dispatch h pf c s.cur s) calls init (inv_init sh pf)

theorem isolated_of_inv {sh : Shape} {pf : Bool} {s : St} (hi : Inv sh pf s) : Isolated sh pf s :=
  ⟨fun d hd => (hi.del d hd).2, hi.nd, hi.ndd⟩

/-! ### exactly once (any shape): the receivers and acknowledgements are those of the frames, in order -/

theorem step_delivered (sh : Shape) (pf : Bool) (loc : Nat) (s : St) (f : Frame) :
    (frameStep sh pf loc s f).delivered.map (·.frame) = s.delivered.map (·.frame) ++ (if f.kind.delivers then [f] else []) ∧
    (frameStep sh pf loc s f).acks = s.acks ++ (if f.kind = .heartbeat then [f.id] else []) := by
  -- `Next()` touches neither list
  simp only [frameStep, apply_ite St.delivered, apply_ite St.acks, ite_self]
  cases hk : f.kind <;> simp [Kind.delivers]

theorem dispatch_delivered (sh : Shape) (pf : Bool) (loc : Nat) (fs : List Frame) (s : St) :
    (fs.foldl (frameStep sh pf loc) s).delivered.map (·.frame) = s.delivered.map (·.frame) ++ fs.filter (·.kind.delivers) ∧
    (fs.foldl (frameStep sh pf loc) s).acks = s.acks ++ (fs.filter (·.kind = .heartbeat)).map (·.id) := by
  induction fs generalizing s with
  | nil => simp
  | cons f fs ih =>
    have h1 := step_delivered sh pf loc s f
    have h2 := ih (frameStep sh pf loc s f)
    simp only [List.foldl_cons]
    rw [h2.1, h2.2, h1.1, h1.2]
    constructor
    · by_cases hd : f.kind.delivers <;> simp [hd]
    · by_cases hd : f.kind = .heartbeat <;> simp [hd]

theorem run_delivered (sh : Shape) (pf : Bool) (calls : List (List Frame)) :
    (run sh pf calls).delivered.map (·.frame) = calls.flatten.filter (·.kind.delivers) ∧
    (run sh pf calls).acks = (calls.flatten.filter (·.kind = .heartbeat)).map (·.id) := by
  have key : ∀ (s : St),
      (calls.foldl (dispatch sh pf) s).delivered.map (·.frame) = s.delivered.map (·.frame) ++ calls.flatten.filter (·.kind.delivers) ∧
      (calls.foldl (dispatch sh pf) s).acks = s.acks ++ (calls.flatten.filter (·.kind = .heartbeat)).map (·.id) := by
    induction calls with
    | nil => intro s; simp
    | cons c cs ih =>
      intro s
      have h1 := dispatch_delivered sh pf s.cur c s
      have h2 := ih (dispatch sh pf s c)
      simp only [List.foldl_cons]
      rw [h2.1, h2.2]
      unfold dispatch
      rw [h1.1, h1.2]
      simp [List.filter_append, List.append_assoc]
  have := key init
  simpa [run, init] using this

theorem views_of_inv {sh : Shape} {pf : Bool} {s : St} (hi : Inv sh pf s) :
    views sh pf s = (s.delivered.map (·.frame)).map own := by
  rw [views, List.map_map]
  apply List.map_congr_left
  intro d hd
  exact (hi.del d hd).2

theorem views_eq {sh : Shape} (h : sh.perFrame) (pf : Bool) (calls : List (List Frame)) :
    views sh pf (run sh pf calls) = (calls.flatten.filter (·.kind.delivers)).map own := by
  rw [views_of_inv (inv_run h pf calls), (run_delivered sh pf calls).1]

theorem runA_eq {sh : Shape} (h : sh.perFrame) (pf : Bool) (calls : List (List Frame)) (s : St) (acc : List Seen)
    (hi : Inv sh pf s) (hacc : acc = (s.delivered.map (·.frame)).map own) :
    (runA sh pf s acc calls).1 = calls.foldl (dispatch sh pf) s ∧
    (runA sh pf s acc calls).2 = ((calls.foldl (dispatch sh pf) s).delivered.map (·.frame)).map own := by
  induction calls generalizing s acc with
  | nil => exact ⟨rfl, hacc⟩
  | cons c cs ih =>
    have hi' : Inv sh pf (dispatch sh pf s c) := inv_dispatch h pf c s.cur s hi
    have hd := (dispatch_delivered sh pf s.cur c s).1
    simp only [runA, List.foldl_cons]
    apply ih _ _ hi'
    rw [views_of_inv hi']
    unfold dispatch
    rw [hd, hacc, List.map_append]
    simp

/-- an element's first index identifies it among the members of the list -/
theorem idxOf_inj {l : List Nat} {a b : Nat} (ha : a ∈ l) (hb : b ∈ l) (h : l.idxOf a = l.idxOf b) : a = b := by
  have h1 := List.getElem_idxOf (List.idxOf_lt_length_of_mem ha)
  have h2 := List.getElem_idxOf (List.idxOf_lt_length_of_mem hb)
  rw [← h1, ← h2]
  simp [h]

theorem classes_nodup {sh : Shape} {pf : Bool} {s : St} (hi : Inv sh pf s) : (deliveredClasses s).Nodup := by
  have : deliveredClasses s = (s.delivered.map (·.ctx)).map (fun c => s.decoded.idxOf c) := by
    simp [deliveredClasses, List.map_map, Function.comp_def]
  rw [this]
  unfold List.Nodup
  rw [List.pairwise_map]
  refine List.Pairwise.imp_of_mem ?_ hi.ndd
  intro a b ha hb hne hab
  obtain ⟨d, hd, rfl⟩ := List.mem_map.mp ha
  obtain ⟨e, he, rfl⟩ := List.mem_map.mp hb
  exact hne (idxOf_inj (hi.mem d hd) (hi.mem e he) hab)

/-- the executable predicate of the `ctx` cases (snapshots after each call and at the end, context classes, heartbeat
acknowledgements) holds of the model's output, for every loop shape with one context per frame -/
theorem specCtx_on_model {sh : Shape} (hsh : sh.perFrame) (pf : Bool) (calls : List (List Frame)) :
    specCtx calls.flatten (runA sh pf init [] calls).2 (views sh pf (runA sh pf init [] calls).1)
      (deliveredClasses (runA sh pf init [] calls).1) (runA sh pf init [] calls).1.acks = true := by
  have hA := runA_eq hsh pf calls init [] (inv_init _ _) (by simp [init])
  have hr : List.foldl (dispatch sh pf) init calls = run sh pf calls := rfl
  rw [hA.1, hA.2, hr]
  have hi := inv_run hsh pf calls
  have hd := run_delivered sh pf calls
  have hown : expect = own := rfl
  have hlen : (deliveredClasses (run sh pf calls)).length = (calls.flatten.filter (·.kind.delivers)).length := by
    rw [← hd.1]; simp [deliveredClasses]
  simp only [specCtx, views_of_inv hi, hd.1, hd.2, hown, hlen, List.length_map, beq_self_eq_true, Bool.true_and,
    Bool.and_true, decide_eq_true_eq]
  exact classes_nodup hi

end MosnVerif.Model.DispatchCtx
