import MosnVerif.Lemmas.PoolH2
/-! The observation of an HTTP/2-pool model state satisfying the invariant satisfies the executable predicate; the
connection_active gauges as a COUNT of connections. -/
namespace MosnVerif.Model.PoolH2
open MosnVerif.Gen.PoolH2 MosnVerif.Gen.Pool
open MosnVerif.Model.Pool (Stream Dial countLive OStream)

/-! ### counting connections -/

theorem length_filter_range_countP (p : Nat → Bool) (n : Nat) : ((List.range n).filter p).length = countP p n := by
  induction n with
  | zero => rfl
  | succ n ih =>
    rw [List.range_succ, List.filter_append, List.length_append, ih]
    simp only [countP, List.filter_cons, List.filter_nil]
    split <;> simp

/-- a predicate that holds of no index below `n`, and one that holds of exactly one -/
theorem filter_range_none (p : Nat → Bool) (n : Nat) (h : ∀ c, c < n → p c = false) : (List.range n).filter p = [] :=
  List.filter_eq_nil_iff.mpr fun c hc => by simp [h c (List.mem_range.mp hc)]

theorem filter_range_single (p : Nat → Bool) (a n : Nat) (ha : a < n) (hp : ∀ c, c < n → (p c = true ↔ c = a)) :
    (List.range n).filter p = [a] := by
  -- on the index list `p` is the test `· == a`, and the index list holds `a` once
  rw [List.filter_congr fun c hc => Bool.eq_iff_iff.mpr ((hp c (List.mem_range.mp hc)).trans beq_iff_eq.symm),
    List.filter_beq, List.count_range, if_pos ha]
  rfl

theorem countP_none (p : Nat → Bool) (n : Nat) (h : ∀ c, c < n → p c = false) : countP p n = 0 := by
  rw [← length_filter_range_countP, filter_range_none p n h]; rfl

theorem countP_single (p : Nat → Bool) (a n : Nat) (ha : a < n) (hp : ∀ c, c < n → (p c = true ↔ c = a)) : countP p n = 1 := by
  rw [← length_filter_range_countP, filter_range_single p a n ha hp]; rfl

/-- **the gauge as a count**: the number of open connections that are the pool's client or have not been told to go
away is 1 when the pool holds a client and 0 otherwise -/
theorem countP_counted (s : State) (h : Inv s) : (countP s.counted s.nConns : Int) = gaugeOf s := by
  unfold gaugeOf
  cases ha : s.active with
  | none =>
    have : countP s.counted s.nConns = 0 := by
      apply countP_none
      intro c hc
      cases ho : (s.conn c).netOpen
      · simp [State.counted, ho]
      · by_cases hg : (s.conn c).goaway = 0
        · have := h.openOk c hc ho hg
          rw [ha] at this; cases this
        · simp [State.counted, ho, hg, ha]
    simp [this]
  | some a =>
    have ⟨ha1, ha2⟩ := h.activeOk a ha
    have : countP s.counted s.nConns = 1 := by
      apply countP_single _ a _ ha1
      intro c hc
      constructor
      · intro hcnt
        simp only [State.counted, Bool.and_eq_true, Bool.or_eq_true, beq_iff_eq, ha, Option.some.injEq] at hcnt
        rcases hcnt.2 with hg | hg
        · have := h.openOk c hc hcnt.1 hg
          rw [ha] at this; cases this; rfl
        · exact hg.symm
      · intro e; subst e
        simp [State.counted, ha2, ha]
    simp [this]

theorem countLive_zero (f : Nat → Stream) (n : Nat) (h : ∀ i, i < n → (f i).live = false) : countLive f n = 0 := by
  rw [Pool.countLive_eq, List.countP_eq_zero]
  exact fun i hi => by rw [h i (List.mem_range.mp hi)]; nofun

/-- once every connection is closed the pool holds no client, no request is in flight, every gauge is 0 and the requests
breaker is back at what the other pools hold -/
theorem all_closed (s : State) (h : Inv s) (hall : ∀ c, c < s.nConns → (s.conn c).netOpen = false) :
    s.active = none ∧ s.connHost = 0 ∧ s.connCluster = 0 ∧ s.liveCount = 0 ∧ s.actHost = 0 ∧ s.actCluster = 0 ∧
    s.reqCur = (if s.maxReq = 0 then 0 else (s.ext : Int)) := by
  have hact : s.active = none := by
    cases ha : s.active with
    | none => rfl
    | some a =>
      have ⟨h1, h2⟩ := h.activeOk a ha
      rw [hall a h1] at h2; cases h2
  have hlive : s.liveCount = 0 := by
    apply countLive_zero
    intro i hi
    cases hl : (s.stream i).live
    · rfl
    · have ⟨h1, h2⟩ := h.liveOk i hi hl
      rw [hall _ h1] at h2; cases h2
  have hg := h.gauge
  simp only [gaugeOf, hact, Option.isSome_none, Bool.false_eq_true, if_false] at hg
  refine ⟨hact, hg.1, hg.2, hlive, by rw [h.act.1, hlive]; rfl, by rw [h.act.2, hlive]; rfl, ?_⟩
  rw [h.req, hlive]; simp

/-! ### the observation -/

theorem mem_liveConns (s : State) (h : Inv s) (c : Nat) :
    c ∈ (obsOf s).liveConns ↔ ∃ i, i < s.nStreams ∧ (s.stream i).live = true ∧ (s.stream i).conn = c :=
  Pool.mem_liveConns_obsStreams s.stream s.nStreams h.once c

theorem isOpen_obsOf (s : State) (c : Nat) :
    (obsOf s).isOpen c = (decide (c < s.nConns) && (s.conn c).netOpen) := Pool.getD_map_range _ _ c

theorem active_obsOf (s : State) : (obsOf s).active = s.active := rfl
theorem activeGone_obsOf (s : State) : (obsOf s).activeGone = decide (s.curGoaway ≠ 0) := rfl
theorem connHost_obsOf (s : State) : (obsOf s).connHost = s.connHost := rfl
theorem connCluster_obsOf (s : State) : (obsOf s).connCluster = s.connCluster := rfl

theorem conns_length (s : State) : (obsOf s).conns.length = s.nConns := by simp [obsOf]

theorem obsSpec_holds (s : State) (h : Inv s) : obsSpec s.maxReq s.ext s.told (obsOf s) = true := by
  have hlen : (obsOf s).liveConns.length = s.liveCount := Pool.length_liveConns_obsStreams _ _ h.once
  -- the count of clause 5
  have hcount : (((List.range (obsOf s).conns.length).filter
      (fun c => (obsOf s).isOpen c && (!s.told c || (obsOf s).active == some c))).length : Int) = gaugeOf s := by
    rw [conns_length, ← countP_counted s h, ← length_filter_range_countP]
    congr 2
    apply List.filter_congr
    intro c hc
    have hc' := List.mem_range.mp hc
    simp only [isOpen_obsOf, active_obsOf, hc', decide_true, Bool.true_and, State.counted, State.told]
    cases (s.conn c).netOpen <;> simp
    by_cases hg : (s.conn c).goaway = 0 <;> simp [hg]
  unfold obsSpec
  simp only [Bool.and_eq_true, decide_eq_true_eq, List.all_eq_true, Bool.or_eq_true, Bool.not_eq_true']
  refine ⟨⟨⟨⟨⟨⟨⟨?_, ?_⟩, ?_⟩, ?_⟩, ?_⟩, ?_⟩, ?_⟩, ?_⟩
  · show s.reqCur = if s.maxReq = 0 then 0 else (s.ext : Int) + ((obsOf s).liveConns.length : Int)
    rw [hlen]; exact h.req
  · show s.actHost = ((obsOf s).liveConns.length : Int)
    rw [hlen]; exact h.act.1
  · show s.actCluster = ((obsOf s).liveConns.length : Int)
    rw [hlen]; exact h.act.2
  · intro c hcl
    obtain ⟨i, hi, hl, hcc⟩ := (mem_liveConns s h c).mp hcl
    subst hcc
    have ⟨h1, h2⟩ := h.liveOk i hi hl
    rw [isOpen_obsOf]; simp [h1, h2]
  · show (match s.active with
        | some c => (obsOf s).isOpen c && ((obsOf s).activeGone == s.told c)
        | none => true) = true
    cases ha : s.active with
    | none => rfl
    | some a =>
      have ⟨h1, h2⟩ := h.activeOk a ha
      simp only [isOpen_obsOf, activeGone_obsOf, h1, h2, decide_true, Bool.true_and, State.curGoaway, ha, State.told]
      simp
  · intro c hcr
    have hc' : c < s.nConns := by simpa [obsOf] using List.mem_range.mp hcr
    rw [isOpen_obsOf]
    cases ho : (s.conn c).netOpen
    · left; left; simp
    · by_cases hg : (s.conn c).goaway = 0
      · right
        have := h.openOk c hc' ho hg
        simp [active_obsOf, this]
      · left; right; simp [State.told, hg]
  · rw [hcount, connHost_obsOf, connCluster_obsOf]
    exact h.gauge
  · intro st hst
    simpa using Pool.obsStreams_once s.stream s.nStreams h.once st hst

end MosnVerif.Model.PoolH2
