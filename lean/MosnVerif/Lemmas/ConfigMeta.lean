import MosnVerif.Model.ConfigCodec
/-! Metadata (`configToMetadata` / `metadataToConfig`) and positions in a field table. -/
namespace MosnVerif.Model.ConfigCodec
open MosnVerif.Model MosnVerif.Model.GoDuration

theorem dedupLast_sublist (ms : List (String × Json)) : (dedupLast ms).Sublist ms := by
  fun_induction dedupLast ms with
  | case1 => exact .slnil
  | case2 k v r _ ih => exact ih.cons _
  | case3 k v r _ ih => exact ih.cons_cons _

theorem dedupLast_nodup (ms : List (String × Json)) : ((dedupLast ms).map (·.1)).Nodup := by
  fun_induction dedupLast ms with
  | case1 => exact .nil
  | case2 k v r _ ih => exact ih
  | case3 k v r hno ih =>
    refine List.nodup_cons.mpr ⟨fun hmem => hno ?_, ih⟩
    obtain ⟨m, hm, hk⟩ := List.mem_map.mp (((dedupLast_sublist r).map _).subset hmem)
    exact List.any_eq_true.mpr ⟨m, hm, by simp [hk]⟩

theorem dedupLast_id (ms : List (String × Json)) (h : (ms.map (·.1)).Nodup) : dedupLast ms = ms := by
  fun_induction dedupLast ms with
  | case1 => rfl
  | case2 k v r hany =>
    obtain ⟨m, hm, hk⟩ := List.any_eq_true.mp hany
    exact absurd (List.mem_map.mpr ⟨m, hm, by simpa using hk⟩) (List.nodup_cons.mp h).1
  | case3 k v r _ ih => rw [ih (List.nodup_cons.mp h).2]
theorem toMeta_nodup (j : Json) : ((toMeta j).map (·.1)).Nodup := by
  unfold toMeta
  split
  · next ms =>
    -- the string members keep their keys, so the keys are a sublist of those of `dedupLast ms`
    refine List.Nodup.sublist ?_ (dedupLast_nodup ms)
    generalize dedupLast ms = l
    induction l with
    | nil => simp
    | cons m r ih =>
      simp only [List.filterMap_cons]
      split
      · exact ih.cons _
      · next b hb =>
        cases hv : m.2 <;> simp [hv] at hb
        subst hb
        exact ih.cons_cons _
  · simp

theorem toMeta_fromMeta (md : List (String × String)) (h : (md.map (·.1)).Nodup) :
    toMeta (.obj (md.map (fun m => (m.1, Json.str m.2)))) = md := by
  unfold toMeta
  simp only
  rw [dedupLast_id _ (by simpa [List.map_map, Function.comp_def] using h), List.filterMap_map]
  exact List.filterMap_some

mutual
theorem Shape.eq_of_beq : (a b : Shape) → Shape.beq a b = true → a = b
  | .str, b, h | .num, b, h | .bool, b, h | .hole, b, h | .hmap, b, h | .dur, b, h => by
    cases b <;> simp [Shape.beq] at h <;> rfl
  | .struct fa, b, h => by
    cases b <;> simp [Shape.beq] at h
    rename_i fb; rw [Fields.eq_of_beq fa fb h]
  | .slice ea, b, h | .map ea, b, h | .ptr ea, b, h | .boxed ea, b, h => by
    cases b <;> simp [Shape.beq] at h
    rename_i eb; rw [Shape.eq_of_beq ea eb h]
  | .metaS i fa, b, h => by
    cases b <;> simp [Shape.beq] at h
    rename_i j fb; rw [h.1, Fields.eq_of_beq fa fb h.2]
theorem Fields.eq_of_beq : (a b : Fields) → Fields.beq a b = true → a = b
  | .nil, b, h => by cases b <;> simp [Fields.beq] at h <;> rfl
  | .cons k o s r, b, h => by
    cases b <;> simp [Fields.beq] at h
    rename_i k' o' s' r'
    obtain ⟨⟨⟨h1, h2⟩, h3⟩, h4⟩ := h
    rw [h1, h2, Shape.eq_of_beq s s' h3, Fields.eq_of_beq r r' h4]
end

theorem wtF_length : (fs : Fields) → (vs : List CVal) → wtF fs vs = true → vs.length = fs.length
  | .nil, [], _ => rfl
  | .nil, _ :: _, h => by simp [wtF] at h
  | .cons _ _ _ r, [], h => by simp [wtF] at h
  | .cons _ _ _ r, v :: vs, h => by
    simp only [wtF, Bool.and_eq_true] at h
    simp [Fields.length, wtF_length r vs h.2]

theorem get?_lt (fs : Fields) (i : Nat) (x : String × Bool × Shape) (h : fs.get? i = some x) : i < fs.length := by
  fun_induction Fields.get? fs i with
  | case1 => cases h
  | case2 => exact Nat.zero_lt_succ _
  | case3 _ _ _ r i ih => exact Nat.succ_lt_succ (ih h)

theorem wtF_set (fs : Fields) (vs : List CVal) (i : Nat) (k : String) (o : Bool) (sh : Shape) (v : CVal)
    (h : wtF fs vs = true) (hg : fs.get? i = some (k, o, sh)) (hv : wt sh v = true) : wtF fs (vs.set i v) = true := by
  fun_induction Fields.get? fs i generalizing vs with
  | case1 => cases hg
  | case2 k' o' sh' r =>
    cases hg
    cases vs with
    | nil => simp [wtF] at h
    | cons v' vs =>
      simp only [wtF, Bool.and_eq_true] at h
      simp [wtF, hv, h.2]
  | case3 k' o' sh' r i ih =>
    cases vs with
    | nil => simp [wtF] at h
    | cons v' vs =>
      simp only [wtF, Bool.and_eq_true] at h
      simp [wtF, h.1, ih vs h.2 hg]

theorem normF_get (fs : Fields) (vs : List CVal) (i : Nat) (k : String) (o : Bool) (sh : Shape) (v : CVal)
    (hg : fs.get? i = some (k, o, sh)) (hv : vs[i]? = some v) :
    (normF fs vs)[i]? = some (if o && isEmpty v then zero sh else norm sh v) := by
  fun_induction Fields.get? fs i generalizing vs with
  | case1 => cases hg
  | case2 k' o' sh' r =>
    cases hg
    cases vs with
    | nil => cases hv
    | cons v' vs =>
      cases hv
      simp [normF]
  | case3 k' o' sh' r i ih =>
    cases vs with
    | nil => cases hv
    | cons v' vs => simp [normF, ih vs hg hv]

theorem set_self (l : List CVal) (i : Nat) (v : CVal) (h : l[i]? = some v) : l.set i v = l := by
  obtain ⟨hi, rfl⟩ := List.getElem?_eq_some_iff.mp h
  exact List.set_getElem_self hi

theorem metaAt_get (fs : Fields) (i : Nat) (h : metaAt fs i = true) : ∃ k, fs.get? i = some (k, true, metaShape) := by
  unfold metaAt at h
  split at h
  · rename_i k o sh hg
    simp only [Bool.and_eq_true] at h
    obtain ⟨ho, hs⟩ := h
    subst ho
    exact ⟨k, by rw [hg, Shape.eq_of_beq sh metaShape hs]⟩
  · simp at h

theorem wt_fromMeta (md : List (String × String)) : wt metaShape (fromMeta md) = true := by
  unfold fromMeta metaShape; split <;> simp [wt, wtF, wtL, ptrElemOK, isObjOrNull]

/-- the metadata member written by `metadataToConfig` comes back unchanged from one cycle -/
theorem norm_fromMeta (md : List (String × String)) :
    (if true && isEmpty (fromMeta md) then zero metaShape else norm metaShape (fromMeta md)) = fromMeta md := by
  unfold fromMeta metaShape
  split
  · simp [isEmpty, zero]
  · simp [isEmpty, norm, normL, normF]

theorem mdOf_fromMeta (md : List (String × String)) (h : (md.map (·.1)).Nodup) : mdOf (some (fromMeta md)) = md := by
  unfold fromMeta
  by_cases he : md = []
  · simp [he, mdOf]
  · have he' : md.isEmpty = false := by cases hq : md <;> simp_all
    simp [he', mdOf, toMeta_fromMeta md h]

theorem mdOf_nodup (v : Option CVal) : ((mdOf v).map (·.1)).Nodup := by
  unfold mdOf
  split
  · exact toMeta_nodup _
  · simp

end MosnVerif.Model.ConfigCodec
