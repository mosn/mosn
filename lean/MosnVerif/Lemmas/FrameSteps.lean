import MosnVerif.Lemmas.Framing
import MosnVerif.Model.FrameSteps
/-! prefix-stability of the header stage of every xprotocol decoder (over the regenerated length tests of `Gen.FrameLen`) -/
namespace MosnVerif.Model.FrameSteps
open MosnVerif.Model.Framing MosnVerif.Model.FrameBytes MosnVerif.Model.KVBlock
open MosnVerif.Gen.FrameLen MosnVerif.Gen.FrameConsts

theorem be_append (p e : Bytes) (lo hi : Nat) (h : hi ≤ p.length) : be (p ++ e) lo hi = be p lo hi := by
  simp [be, List.take_append_of_le_length h]

theorem fld_append (p e : Bytes) (r : Nat × Nat) (h : r.2 ≤ p.length) : fld (p ++ e) r = fld p r :=
  be_append p e r.1 r.2 h

theorem u8_append (p e : Bytes) (i : Nat) (h : i < p.length) : u8 (p ++ e) i = u8 p i :=
  be_append p e i (i + 1) h

/-- The shape every xprotocol header stage and most matchers have: a first length test, behind which the fields the
verdict depends on (`val`) are buffered; then a verdict from those fields and the buffered length.  When both tests are
monotone in the buffered length, a verdict other than `wait` is final on every extension — arithmetic on naturals. -/
theorem guarded_final {α ρ : Type} (wait : ρ) (h : Bytes → ρ) (short : Nat → Bool) (val : Bytes → α) (body : Nat → α → ρ)
    (hh : ∀ b, h b = if short b.length then wait else body b.length (val b))
    (shortMono : ∀ l k, short l = false → short (l + k) = false)
    (valExt : ∀ p e, short p.length = false → val (p ++ e) = val p)
    (bodyFinal : ∀ l k v, body l v ≠ wait → body (l + k) v = body l v) : Final wait h := by
  intro p e hp
  rw [hh] at hp
  cases hs : short p.length with
  | true => simp [hs] at hp
  | false =>
    simp only [hs, Bool.false_eq_true, ↓reduceIte] at hp
    simp only [hh, List.length_append, shortMono _ e.length hs, hs, valExt p e hs, Bool.false_eq_true, ↓reduceIte]
    exact bodyFinal _ _ _ hp

/-- … and such a header stage is prefix-stable when a frame length is positive and within the buffer. -/
theorem guarded_stable {α : Type} (h : Bytes → Hdr) (short : Nat → Bool) (val : Bytes → α) (body : Nat → α → Hdr)
    (hh : ∀ b, h b = if short b.length then .needMore else body b.length (val b))
    (shortMono : ∀ l k, short l = false → short (l + k) = false)
    (valExt : ∀ p e, short p.length = false → val (p ++ e) = val p)
    (bodyFinal : ∀ l k v, body l v ≠ .needMore → body (l + k) v = body l v)
    (bodyPos : ∀ l v n, body l v = .len n → 0 < n ∧ n ≤ l) : HdrStable h := by
  refine .of_final (fun p n hp => ?_) (guarded_final .needMore h short val body hh shortMono valExt bodyFinal)
  rw [hh] at hp
  split at hp
  · cases hp
  · exact bodyPos _ _ n hp

/-- arithmetic facts about the regenerated pieces of a bolt `decodeRequest/Response`: where the three length fields lie, what
the two length tests guarantee (and that they are monotone in the buffered length), how the frame length and the indices
are computed -/
structure LayoutOk (L : Layout) : Prop where
  f1 : L.cl.1 ≤ L.cl.2 ∧ L.hl.1 ≤ L.hl.2 ∧ L.ctl.1 ≤ L.ctl.2
  f2 : ∀ l, L.short1 l = false → L.cl.2 ≤ l ∧ L.hl.2 ≤ l ∧ L.ctl.2 ≤ l ∧ L.hdrLen ≤ l
  f3 : ∀ l n, L.short2 l n = false → n ≤ l
  f4 : ∀ a b c, L.flen a b c = L.hdrLen + a + b + c
  f5 : ∀ a, L.hidx a = L.hdrLen + a
  f6 : ∀ h b, L.cidx h b = h + b
  f7 : ∀ n, L.drain n = n
  f8 : 0 < L.hdrLen
  f9 : L.cl.2 ≤ L.hdrLen ∧ L.hl.2 ≤ L.hdrLen ∧ L.ctl.2 ≤ L.hdrLen
  s1m : ∀ l k, L.short1 l = false → L.short1 (l + k) = false
  s2m : ∀ l n k, L.short2 l n = false → L.short2 (l + k) n = false

/-- the shape the four regenerated layouts share: a header of `H` bytes that ends with classLen (2 bytes at `a`),
headerLen (2) and contentLen (4); the frame is the header and the three parts -/
theorem layoutOk_of_shape (H a : Nat) (ha : a + 8 ≤ H) :
    LayoutOk ⟨H, fun l => decide (l < H), (a, a + 2), (a + 2, a + 4), (a + 4, a + 8), fun c h t => H + c + h + t,
      fun l n => decide (l < n), fun n => n, fun c => H + c, fun i h => i + h⟩ where
  f1 := by dsimp only; omega
  f2 l h := by have : H ≤ l := by simpa using h
               dsimp only; omega
  f3 l n h := by simpa using h
  f4 _ _ _ := rfl
  f5 _ := rfl
  f6 _ _ := rfl
  f7 _ := rfl
  f8 := by dsimp only; omega
  f9 := by dsimp only; omega
  s1m l k h := by have : H ≤ l := by simpa using h
                  simp only [decide_eq_false_iff_not]; omega
  s2m l n k h := by have : n ≤ l := by simpa using h
                    simp only [decide_eq_false_iff_not]; omega

theorem layoutOk : ∀ id, LayoutOk (layoutOf id)
  | .v1req => layoutOk_of_shape 22 14 (by omega)
  | .v1resp => layoutOk_of_shape 20 12 (by omega)
  | .v2req => layoutOk_of_shape 24 16 (by omega)
  | .v2resp => layoutOk_of_shape 22 14 (by omega)

theorem layoutHdr_stable (L : Layout) (hL : LayoutOk L) : HdrStable (layoutHdr L) := by
  refine guarded_stable _ L.short1 (fun b => (fld b L.cl, fld b L.hl, fld b L.ctl))
    (fun l v => if L.short2 l (L.flen v.1 v.2.1 v.2.2) then .needMore else .len (L.drain (L.flen v.1 v.2.1 v.2.2)))
    (fun b => rfl) hL.s1m (fun p e hs => ?_) (fun l k v hb => ?_) (fun l v n hb => ?_)
  · have ⟨a, b, c, _⟩ := hL.f2 _ hs
    simp only [fld_append p e _ a, fld_append p e _ b, fld_append p e _ c]
  · cases h2 : L.short2 l (L.flen v.1 v.2.1 v.2.2) with
    | true => simp [h2] at hb
    | false => simp [hL.s2m _ _ k h2]
  · split at hb
    · cases hb
    · rename_i h2
      cases hb
      rw [hL.f7]
      exact ⟨by rw [hL.f4]; have := hL.f8; omega, hL.f3 _ _ (by simpa using h2)⟩

theorem sel_needMore_of_short_v1 (p : Bytes) (h : bolt_enough p.length = false) : v1rules p = .needMore := by
  simp [v1rules, h]

theorem v1rules_ext : Final .needMore v1rules := by
  refine guarded_final Sel.needMore _ (fun l => !bolt_enough l) (fun b => u8 b bolt_cmdTypeIdx) (fun _ v =>
    match sw bolt_switch v with | some 0 => .lay .v1req | some _ => .lay .v1resp | none => Sel.error)
    (fun b => rfl) ?_ (fun p e hs => u8_append p e _ ?_) (fun _ _ _ _ => rfl)
  all_goals (intros; frame_len_defs; grind)

theorem v2rules_ext : Final .needMore v2rules := by
  refine guarded_final Sel.needMore _ (fun l => !boltv2_enough l) (fun b => u8 b boltv2_cmdTypeIdx) (fun _ v =>
    match sw boltv2_switch v with | some 0 => .lay .v2req | some _ => .lay .v2resp | none => Sel.error)
    (fun b => rfl) ?_ (fun p e hs => u8_append p e _ ?_) (fun _ _ _ _ => rfl)
  all_goals (intros; frame_len_defs; grind)

/-- `boltSel` looks at the first byte only to choose whose rules decide (or to run out of fuel): two non-empty buffers with
the same first byte are sent the same way -/
theorem boltSel_route (k : Nat) (v2 : Bool) {p q : Bytes} (hp : 0 < p.length) (hq : 0 < q.length) (hb : u8 p 0 = u8 q 0) :
    ∃ r : Bytes → Sel, (r = v1rules ∨ r = v2rules ∨ r = fun _ => .error) ∧
      boltSel k v2 p = r p ∧ boltSel k v2 q = r q := by
  induction k generalizing v2 with
  | zero => exact ⟨_, .inr (.inr rfl), rfl, rfl⟩
  | succ k ih =>
    cases v2 <;> unfold boltSel
    · simp only [bolt_nonEmpty, bolt_codeIdx, hp, hq, hb, decide_true, Bool.true_and]
      split
      · exact ih true
      · exact ⟨_, .inl rfl, rfl, rfl⟩
    · simp only [boltv2_nonEmpty, boltv2_codeIdx, hp, hq, hb, decide_true, Bool.true_and]
      split
      · exact ih false
      · exact ⟨_, .inr (.inl rfl), rfl, rfl⟩

theorem boltSel_ext (k : Nat) (v2 : Bool) : Final .needMore (boltSel k v2) := by
  intro p e h
  by_cases hp : p = []
  · subst hp
    cases k with
    | zero => rfl
    | succ k => exact absurd (by cases v2 <;> rfl) h
  · have hpos : 0 < p.length := List.length_pos_iff.2 hp
    obtain ⟨r, hr, h1, h2⟩ := boltSel_route k v2 hpos (q := p ++ e) (by rw [List.length_append]; omega)
      (u8_append p e 0 hpos).symm
    rw [h1] at h ⊢
    rw [h2]
    rcases hr with rfl | rfl | rfl
    · exact v1rules_ext p e h
    · exact v2rules_ext p e h
    · rfl

theorem boltHdr_stable (v2 : Bool) : HdrStable (boltHdr v2) := by
  refine .of_final (fun p n h => ?_) (fun p e h => ?_)
  · unfold boltHdr at h
    split at h <;> try (simp at h)
    rename_i id _
    exact (layoutHdr_stable _ (layoutOk id)).pos p n h
  · have hs : boltSel selFuel v2 p ≠ .needMore := fun hc => h (by simp [boltHdr, hc])
    unfold boltHdr at h ⊢
    rw [boltSel_ext selFuel v2 p e hs]
    cases hsel : boltSel selFuel v2 p with
    | lay id => rw [hsel] at h; exact (layoutHdr_stable _ (layoutOk id)).final p e h
    | _ => rfl

theorem dubboHdr_stable : HdrStable dubboHdr := by
  refine guarded_stable _ (fun l => !dubbo_enough1 l) (fun b => fld b dubbo_payLoadLen)
    (fun l v => if !dubbo_enough2 l v then .needMore else .len (dubbo_drain (dubbo_frameLen v)))
    (fun b => rfl) ?_ (fun p e hs => fld_append p e _ ?_) ?_ ?_
  all_goals (intros; frame_len_defs; grind)

theorem thriftHdr_stable : HdrStable thriftHdr := by
  refine guarded_stable _ (fun l => !thrift_enough1 l) (fun b => fld b thrift_sizeField)
    (fun l v => if !thrift_enough2 l v then .needMore else .len (thrift_drain (thrift_frameLength v)))
    (fun b => rfl) ?_ (fun p e hs => fld_append p e _ ?_) ?_ ?_
  all_goals (intros; frame_len_defs; grind)

theorem tarsHdr_stable : HdrStable tarsHdr := by
  refine guarded_stable _ (fun l => decide (l < tars_lenFieldSize)) (fun b => be b 0 tars_lenFieldSize)
    (fun l n => if n < tars_minPackageLength ∨ n > tars_maxPackageLength then
        (if tars_packageErrorFails then .error else .needMore)
      else if l < n then .needMore else .len n)
    (fun b => by simp [tarsHdr]) ?_ (fun p e hs => be_append p e 0 _ ?_) ?_ ?_
  all_goals (intros; frame_consts_defs; grind)

theorem stable_bolt : Stable frameStep_bolt := envelope_stable _ (boltHdr_stable false) _
theorem stable_boltv2 : Stable frameStep_boltv2 := envelope_stable _ (boltHdr_stable true) _
theorem stable_dubbo (oracle : Bytes → Bool) : Stable (frameStep_dubbo oracle) := envelope_stable _ dubboHdr_stable _
theorem stable_tars (oracle : Bytes → Bool) : Stable (frameStep_tars oracle) := envelope_stable _ tarsHdr_stable _

end MosnVerif.Model.FrameSteps
