import MosnVerif.Model.H1Serve
/-! The HTTP/1 serve loop returns on every input if each parsed message consumes bytes and an error ends it. Core Lean only. -/
namespace MosnVerif.Lemmas.H1Serve
open MosnVerif.Model.H1Serve

theorem turn_calls (p : Policy) (parse : List UInt8 → PStep) (c : Cfg) :
    (turn p parse c).1.calls = c.calls + 1 := by
  fun_cases turn p parse c <;> rfl

/-- a turn behind which the loop goes round again was a message (the error branch returns) -/
theorem turn_none (p : Policy) (hs : p.errAgain = false) (parse : List UInt8 → PStep) (hp : Progress parse) (c : Cfg)
    (h : (turn p parse c).2 = none) :
    ∃ n, 0 < n ∧ n ≤ c.buf.length ∧ (turn p parse c).1.buf = c.buf.drop n := by
  revert h
  fun_cases turn p parse c with
  | case2 n cont close hm => exact fun _ => ⟨n, (hp _ _ _ _ hm).1, (hp _ _ _ _ hm).2, rfl⟩
  | case5 _ _ _ _ he => rw [hs] at he; cases he
  | _ => nofun

/-- the loop stops turning on EVERY input: at most one parse call per unconsumed byte, plus one -/
theorem returns_of_progress (p : Policy) (hs : p.errAgain = false) (parse : List UInt8 → PStep) (hp : Progress parse) :
    ∀ (k : Nat) (c : Cfg), c.buf.length = k →
      ∃ c' f, Returns p parse c c' f ∧ c'.calls ≤ c.calls + k + 1 ∧ c.calls < c'.calls := by
  intro k
  induction k using Nat.strongRecOn with
  | _ k ih =>
    intro c hk
    cases h : (turn p parse c).2 with
    | some f =>
      refine ⟨_, f, .done h, ?_, ?_⟩ <;> rw [turn_calls] <;> omega
    | none =>
      obtain ⟨n, hn0, hnl, hb⟩ := turn_none p hs parse hp c h
      have hl : (turn p parse c).1.buf.length = k - n := by rw [hb, List.length_drop, hk]
      obtain ⟨c', f, hr, hb1, hb2⟩ := ih (k - n) (by omega) (turn p parse c).1 hl
      rw [turn_calls] at hb1 hb2
      exact ⟨c', f, .more h hr, by omega, by omega⟩

theorem turn_fin_contained (p : Policy) (hc : p.Contained) (parse : List UInt8 → PStep) (c : Cfg) (f : Fin)
    (h : (turn p parse c).2 = some f) : f = .waiting ∨ f = .closed := by
  obtain ⟨h1, h2, h3, h4⟩ := hc
  revert h
  fun_cases turn p parse c with
  | case1 => rintro ⟨⟩; exact .inr rfl
  | case2 => nofun
  | case3 _ _ _ _ _ _ _ ho => exact absurd h4 ho
  | case4 => rintro ⟨⟩; exact .inl rfl
  | case5 _ _ _ _ he => rw [h1] at he; cases he
  | case6 => rintro ⟨⟩; exact .inr (if_pos (by simpa using h2))
  | case7 => rintro ⟨⟩; exact .inr (if_pos (by simpa using h3))

theorem returns_fin_contained (p : Policy) (hc : p.Contained) (parse : List UInt8 → PStep) {c c' : Cfg} {f : Fin}
    (h : Returns p parse c c' f) : f = .waiting ∨ f = .closed := by
  induction h with
  | done h => exact turn_fin_contained p hc parse _ _ h
  | more _ _ ih => exact ih

/-- `run` with enough fuel computes what `Returns` derives -/
theorem run_of_returns (p : Policy) (parse : List UInt8 → PStep) {c c' : Cfg} {f : Fin} (h : Returns p parse c c' f) :
    ∃ fuel, run p parse fuel c = some (c', f) := by
  induction h with
  | @done c f h =>
    refine ⟨1, ?_⟩
    unfold run
    have : turn p parse c = ((turn p parse c).1, some f) := by rw [← h]
    rw [this]
  | @more c c' f h _ ih =>
    obtain ⟨fuel, hf⟩ := ih
    refine ⟨fuel + 1, ?_⟩
    unfold run
    have : turn p parse c = ((turn p parse c).1, none) := by rw [← h]
    rw [this]
    exact hf

/-- a loop that goes round again behind an error never stops when the parser keeps failing -/
theorem spins (p : Policy) (hs : p.errAgain = true) (parse : List UInt8 → PStep) (he : ∀ b, parse b = .err false)
    {c c' : Cfg} {f : Fin} (h : Returns p parse c c' f) : False := by
  induction h with
  | @done c f h =>
    unfold turn at h
    rw [he] at h
    dsimp only at h
    rw [hs] at h
    simp at h
  | more _ _ ih => exact ih

end MosnVerif.Lemmas.H1Serve
