import MosnVerif.Model.RouteRegex
/-!
Lemmas about the reference regex matcher (C04): a meta-free pattern parses to the sequence of its characters, and that
sequence matches a text iff the pattern is a contiguous sub-string of it.  Core Lean only.
-/
namespace MosnVerif.Model.RouteRegex

theorem ends_lit (n : Nat) (p t : Txt) :
    ends n (lit p) t = if p.isPrefixOf t then [t.drop p.length] else [] := by
  induction p generalizing t with
  | nil => simp [lit, ends]
  | cons c r ih =>
    cases t with
    | nil => simp [lit, ends]
    | cons d t' =>
      simp only [lit, ends]
      by_cases h : d = c
      · subst h; simp [ih]
      · have hcd : (c == d) = false := by simp; exact fun e => h e.symm
        simp [h, List.isPrefixOf, hcd]

theorem mem_sufs {t v : Txt} : t ∈ sufs v ↔ t <:+ v := by
  induction v with
  | nil => simp [sufs]
  | cons c r ih => simp [sufs, List.suffix_cons_iff, ih]

/-- the literal expression matches exactly the texts that contain the literal -/
theorem matches_lit (p v : Txt) : matchesRe (lit p) v = true ↔ p <:+: v := by
  simp only [matchesRe, List.any_eq_true, ends_lit]
  rw [List.infix_iff_prefix_suffix]
  constructor
  · rintro ⟨t, ht, h⟩
    refine ⟨t, ?_, mem_sufs.mp ht⟩
    by_cases hp : p.isPrefixOf t = true
    · exact List.isPrefixOf_iff_prefix.mp hp
    · simp [hp] at h
  · rintro ⟨t, hp, hs⟩
    exact ⟨t, mem_sufs.mpr hs, by simp [List.isPrefixOf_iff_prefix.mpr hp]⟩

theorem postOp_nonmeta (a : Re) (r : Txt) (h : ∀ c ∈ r, isMeta c = false) : postOp a r = some (a, r) := by
  cases r with
  | nil => rfl
  | cons c r' => simp [postOp, h c (by simp)]

theorem parse_atom_nonmeta (f : Nat) (c : Char) (r : Txt) (hc : isMeta c = false) :
    parse (f + 1) .atom (c :: r) = some (.chr c, r) := by
  simp [parse, hc]

theorem parse_seq_cons (f : Nat) (c : Char) (r : Txt) (b : Re) (r3 : Txt) (hc : isMeta c = false)
    (hr : ∀ x ∈ r, isMeta x = false) (hat : parse f .atom (c :: r) = some (.chr c, r))
    (hs : parse f .seq r = some (b, r3)) :
    parse (f + 1) .seq (c :: r) = some (.cat (.chr c) b, r3) := by
  simp only [parse, hc, hat, postOp_nonmeta _ _ hr, hs]
  simp

theorem parse_seq_lit (p : Txt) (h : ∀ c ∈ p, isMeta c = false) :
    ∀ f, p.length + 1 ≤ f → parse f .seq p = some (lit p, []) := by
  induction p with
  | nil =>
    intro f hf
    obtain ⟨f1, rfl⟩ : ∃ f1, f = f1 + 1 := ⟨f - 1, by omega⟩
    simp [parse, lit]
  | cons c r ih =>
    intro f hf
    obtain ⟨hc, hr⟩ := List.forall_mem_cons.mp h
    simp only [List.length_cons] at hf
    obtain ⟨f2, rfl⟩ : ∃ f2, f = f2 + 1 + 1 := ⟨f - 2, by omega⟩
    have ih' := ih hr (f2 + 1) (by omega)
    exact parse_seq_cons (f2 + 1) c r (lit r) [] hc hr (parse_atom_nonmeta f2 c r hc) ih'

theorem parse_alt_of_seq (f : Nat) (s : Txt) (a : Re) (h : parse f .seq s = some (a, [])) :
    parse (f + 1) .alt s = some (a, []) := by
  simp only [parse]
  rw [h]

/-- a pattern without meta characters is inside the subset and denotes the sequence of its characters -/
theorem parseRe_literal (p : Txt) (h : ∀ c ∈ p, isMeta c = false) : parseRe p = some (lit p) := by
  have hs := parse_seq_lit p h (3 * p.length + 2) (by omega)
  have ha := parse_alt_of_seq _ _ _ hs
  unfold parseRe
  rw [ha]

theorem isLiteral_iff (p : Txt) : isLiteral p = true ↔ ∀ c ∈ p, isMeta c = false := by
  simp [isLiteral]

end MosnVerif.Model.RouteRegex
