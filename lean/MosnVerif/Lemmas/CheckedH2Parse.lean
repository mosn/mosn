import MosnVerif.Lemmas.CheckedGo
import MosnVerif.Gen.C08H2Parse
/-!
C08: the regenerated HTTP/2 frame payload parsers (Gen/C08H2Parse: `parseDataFrame`, `parseHeadersFrame`, …, `readByte`,
`readUint32`, `SettingsFrame.Value/Setting/NumSettings` of pkg/module/http2/frame.go, every index / slice / big-endian
read a checked primitive) never access the payload outside `[0, len)`, for EVERY frame header and EVERY payload; what
they hand on lies inside the payload; padding is validated before it is used as a slice bound.

Each proof walks its parser along the rules of `Chk.Safe`.  A join point of the regenerated code (`cj_n`: the statements
behind an `if` without `else`) is taken out of the term and given a specification of its own, used at each of its calls.
-/
namespace MosnVerif.Lemmas.CheckedH2Parse
open MosnVerif.Model.CheckedGo MosnVerif.Gen.C08H2Parse

theorem has_spec (f v : Int) : (h2p_Flags_Has f v).Safe (fun r => r = decide (land f v = v)) := Safe.ok rfl

theorem readByte_spec (p : Bytes) : (h2p_readByte p).Safe
    (fun r => (r.2.2 = Err.nil → (len r.1 = len p - 1 ∧ byteAt p 0 = r.2.1 ∧ 0 ≤ r.2.1 ∧ r.2.1 < 256)) ∧
      (r.2.2 = Err.nil ∨ r.2.2 = Err.eof)) := by
  unfold h2p_readByte
  refine Safe.ite (fun _ => Safe.ok ⟨nofun, .inr rfl⟩) (fun h => ?_)
  have h1 : 1 ≤ len p := by have := len_nonneg p; simp at h; omega
  refine Safe.bind (Safe.slc (by omega) h1 (Int.le_refl _)) (fun r hr => ?_)
  exact Safe.bind (Safe.idx (Int.le_refl 0) (by omega)) (fun v hv => Safe.ok ⟨fun _ => ⟨hr.2, hv⟩, .inl rfl⟩)

theorem readUint32_spec (p : Bytes) : (h2p_readUint32 p).Safe
    (fun r => (r.2.2 = Err.nil → (len r.1 = len p - 4 ∧ 0 ≤ r.2.1)) ∧ (r.2.2 = Err.nil ∨ r.2.2 = Err.eof)) := by
  unfold h2p_readUint32
  refine Safe.ite (fun _ => Safe.ok ⟨nofun, .inr rfl⟩) (fun h => ?_)
  have h4 : 4 ≤ len p := by simpa using h
  refine Safe.bind (Safe.slc (by omega) h4 (Int.le_refl _)) (fun r hr => ?_)
  refine Safe.bind (Safe.slc (Int.le_refl 0) (by omega) h4) (fun s hs => ?_)
  exact Safe.bind (Safe.beU (by omega)) (fun v hv => Safe.ok ⟨fun _ => ⟨hr.2, hv.2⟩, .inl rfl⟩)

/-- a parser's answer is ONE fragment of `n` bytes — or an error and no frame -/
def OneFrag (n : Int) (r : Frm × Err) : Prop :=
  (r.2 = Err.nil → ∃ d, r.1.bs = [d] ∧ r.1.isNil = false ∧ len d = n) ∧ (r.2 ≠ Err.nil → r.1 = Frm.nil)

theorem OneFrag.error {n : Int} {e : Err} (he : e ≠ Err.nil) : OneFrag n (Frm.nil, e) :=
  ⟨fun h => absurd h he, fun _ => rfl⟩

theorem OneFrag.frame {n : Int} {d : Bytes} {vs : List Int} (h : len d = n) : OneFrag n (Frm.mk false [d] vs, Err.nil) :=
  ⟨fun _ => ⟨d, rfl, rfl, h⟩, fun h => absurd rfl h⟩

/-- what a parser of a frame type with optional padding answers: ONE fragment that, together with the pad-length octet
and the padding (when PADDED) and the fixed fields, is exactly the payload — or an error and no frame -/
def PadSpec (padded : Bool) (fixed : Int) (p : Bytes) (r : Frm × Err) : Prop :=
  (r.2 = Err.nil → ∃ d, r.1.bs = [d] ∧ r.1.isNil = false ∧
      len d + (if padded then 1 + byteAt p 0 else 0) + fixed = len p) ∧
  (r.2 ≠ Err.nil → r.1 = Frm.nil)

theorem OneFrag.pad {n fixed : Int} {padded : Bool} {p : Bytes} {r : Frm × Err} (h : OneFrag n r)
    (hn : n + (if padded then 1 + byteAt p 0 else 0) + fixed = len p) : PadSpec padded fixed p r :=
  ⟨fun he => (h.1 he).imp fun d hd => ⟨hd.1, hd.2.1, by rw [hd.2.2]; exact hn⟩, h.2⟩

theorem PadSpec.error {padded : Bool} {fixed : Int} {p : Bytes} {e : Err} (he : e ≠ Err.nil) :
    PadSpec padded fixed p (Frm.nil, e) :=
  ⟨fun h => absurd h he, fun _ => rfl⟩

/-- read from outside: the parser answers; a pad length beyond what is left behind the pad-length octet and the fixed
fields is an error; a frame comes with one fragment that fills the payload exactly -/
theorem PadSpec.answer {padded : Bool} {fixed : Int} {p : Bytes} {x : Chk (Frm × Err)} (hx : x.Safe (PadSpec padded fixed p)) :
    ∃ f e, x = .ok (f, e) ∧ (len p < (if padded then 1 + byteAt p 0 else 0) + fixed → e ≠ .nil) ∧
      (e = .nil → ∃ d, f.bs = [d] ∧ len d + (if padded then 1 + byteAt p 0 else 0) + fixed = len p) := by
  obtain ⟨⟨f, e⟩, hr, hp⟩ := hx
  refine ⟨f, e, hr, fun hlt he => ?_, fun he => ?_⟩
  · obtain ⟨d, _, _, hl⟩ := hp.1 he
    have : 0 ≤ len d := len_nonneg d
    omega
  · obtain ⟨d, hd, _, hl⟩ := hp.1 he
    exact ⟨d, hd, hl⟩

/-- the end of `parseDataFrame`, `parseHeadersFrame` and `parsePushPromise`: behind a guard `c` that refuses a pad length
above what is left of the payload, the fragment is what is left without the padding -/
theorem fragment_spec {c : Prop} [Decidable c] {q : Bytes} {pad n : Int} {e : Err} {vs : List Int}
    (h0 : 0 ≤ pad) (hc : ¬c → pad ≤ len q) (he : e ≠ Err.nil) (hn : n = len q - pad) :
    (if c then Chk.ok (Frm.nil, e) else
      Chk.bind (slc q 0 (len q - pad)) fun d => Chk.ok (Frm.mk false [d] vs, Err.nil)).Safe (OneFrag n) :=
  Safe.ite (fun _ => Safe.ok (OneFrag.error he))
    (fun h => Safe.bind (Safe.slc (Int.le_refl 0) (by have := hc h; omega) (by omega))
      (fun _ hd => Safe.ok (OneFrag.frame (by omega))))

/-- the pad-length octet in front of a padded frame's payload: `rest` is run on the payload with no padding, or behind
`readByte` on the remainder with the octet's value -/
theorem padded_spec {fixed : Int} {p : Bytes} {padded : Bool} {rest : Bytes → Err → Int → Chk (Frm × Err)}
    (hrest : ∀ q e pad, 0 ≤ pad → (rest q e pad).Safe (OneFrag (len q - pad - fixed))) :
    (if padded then Chk.bind (h2p_readByte p) fun b =>
        if decide (b.2.2 ≠ Err.nil) then Chk.ok (Frm.nil, b.2.2) else rest b.1 b.2.2 b.2.1
      else rest p Err.nil 0).Safe (PadSpec padded fixed p) := by
  cases padded
  · exact Safe.mono (hrest p _ 0 (Int.le_refl 0)) (fun _ hr => hr.pad (by simp))
  · exact read_then (readByte_spec p) PadSpec.error fun b ⟨hl, hv, h0, _⟩ =>
      Safe.mono (hrest b.1 _ b.2.1 h0) (fun _ hr => hr.pad (by simp; omega))

theorem data_spec (fh : FH) (p : Bytes) : (h2p_parseDataFrame fh p).Safe
    (PadSpec (decide (land fh.Flags 8 = 8)) 0 p) := by
  unfold h2p_parseDataFrame
  refine Safe.ite (fun _ => Safe.ok (PadSpec.error nofun)) (fun _ => ?_)
  refine Safe.bind (has_spec _ _) (fun padded hp => ?_)
  subst hp
  extract_lets fragment
  exact padded_spec (rest := fun q _ pad => fragment q pad)
    (fun q _ pad h0 => fragment_spec h0 (fun h => by simpa using h) nofun (by omega))

theorem headers_spec (fh : FH) (p : Bytes) : (h2p_parseHeadersFrame fh p).Safe
    (PadSpec (decide (land fh.Flags 8 = 8)) (if land fh.Flags 32 = 32 then 5 else 0) p) := by
  unfold h2p_parseHeadersFrame
  refine Safe.ite (fun _ => Safe.ok (PadSpec.error nofun)) (fun _ => ?_)
  refine Safe.bind (has_spec _ _) (fun padded hp => ?_)
  subst hp
  extract_lets _ priority
  refine padded_spec (rest := priority) (fun q e pad h0 => ?_)
  refine Safe.bind (has_spec _ _) (fun prio hprio => ?_)
  extract_lets fragment
  have hfragment (q' : Bytes) (e : Err) (sd : Int) (ex : Bool) (w n : Int) (hn : n = len q' - pad) :
      (fragment q' e sd ex w).Safe (OneFrag n) :=
    fragment_spec h0 (fun h => by simp at h; omega) nofun hn
  refine Safe.ite (fun h => ?_) (fun h => hfragment q e _ _ _ _ ?_)
  · -- PRIORITY: the stream dependency (4 octets) and the weight (1 octet) come first
    have h32 : land fh.Flags 32 = 32 := of_decide_eq_true (hprio ▸ h)
    refine read_then (readUint32_spec q) OneFrag.error fun u hu => read_then (readByte_spec u.1) OneFrag.error fun w hw => ?_
    exact hfragment w.1 w.2.2 _ _ _ _ (by omega)
  · have h32 : ¬land fh.Flags 32 = 32 := of_decide_eq_false (by simpa [hprio] using h)
    omega

theorem push_spec (fh : FH) (p : Bytes) : (h2p_parsePushPromise fh p).Safe
    (PadSpec (decide (land fh.Flags 8 = 8)) 4 p) := by
  unfold h2p_parsePushPromise
  refine Safe.ite (fun _ => Safe.ok (PadSpec.error nofun)) (fun _ => ?_)
  refine Safe.bind (has_spec _ _) (fun padded hp => ?_)
  subst hp
  extract_lets promised
  refine padded_spec (rest := promised) fun q _ pad h0 => read_then (readUint32_spec q) OneFrag.error fun u hu => ?_
  exact fragment_spec h0 (fun h => by simpa using h) nofun (by omega)

/-- what every parser answers: an error and no frame, or a frame whose byte-slice fields are no longer than the payload -/
def FragSpec (p : Bytes) (r : Frm × Err) : Prop :=
  (r.2 ≠ Err.nil → r.1 = Frm.nil) ∧
  (r.2 = Err.nil → r.1.isNil = false ∧ ∀ d ∈ r.1.bs, len d ≤ len p)

theorem FragSpec.error {p : Bytes} {e : Err} (he : e ≠ Err.nil) : FragSpec p (Frm.nil, e) :=
  ⟨fun _ => rfl, fun h => absurd h he⟩

theorem refused {c : Prop} [Decidable c] {p : Bytes} {e : Err} {x : Chk (Frm × Err)} (he : e ≠ Err.nil)
    (hx : ¬c → x.Safe (FragSpec p)) : (if c then Chk.ok (Frm.nil, e) else x).Safe (FragSpec p) :=
  Safe.ite (fun _ => Safe.ok (FragSpec.error he)) hx

theorem FragSpec.frame {p : Bytes} {bs : List Bytes} {vs : List Int} (h : ∀ d ∈ bs, len d ≤ len p) :
    FragSpec p (Frm.mk false bs vs, Err.nil) :=
  ⟨fun h => absurd rfl h, fun _ => ⟨rfl, h⟩⟩

/-- a padded parser hands on one fragment, and that lies inside the payload -/
theorem frag_of_pad {padded : Bool} {fixed : Int} {p : Bytes} {x : Chk (Frm × Err)} (hx : x.Safe (PadSpec padded fixed p))
    (h0 : 0 ≤ fixed) : x.Safe (FragSpec p) := by
  refine Safe.mono hx fun r h => ⟨h.2, fun he => ?_⟩
  obtain ⟨d, hd, hn, hl⟩ := h.1 he
  refine ⟨hn, fun d' hd' => ?_⟩
  rw [hd, List.mem_singleton] at hd'
  subst hd'
  have := byteAt_nonneg p 0
  have : 0 ≤ (if padded then 1 + byteAt p 0 else 0) := by split <;> omega
  omega

theorem priority_spec (fh : FH) (p : Bytes) : (h2p_parsePriorityFrame fh p).Safe (FragSpec p) := by
  unfold h2p_parsePriorityFrame
  refine refused nofun (fun _ => refused nofun (fun h => ?_))
  have h5 : len p = 5 := by simpa using h
  refine beAt_safe (Int.le_refl 0) rfl (by omega) (fun _ => ?_)
  exact Safe.bind (Safe.idx (by omega) (by omega)) (fun _ _ => Safe.ok (FragSpec.frame nofun))

theorem rst_spec (fh : FH) (p : Bytes) : (h2p_parseRSTStreamFrame fh p).Safe (FragSpec p) := by
  unfold h2p_parseRSTStreamFrame
  refine refused nofun (fun h => refused nofun (fun _ => ?_))
  have h4 : len p = 4 := by simpa using h
  exact beAt_safe (Int.le_refl 0) rfl (by omega) (fun _ => Safe.ok (FragSpec.frame nofun))

theorem len_copyInto (dst src : Bytes) (h : dst.length = src.length) : len (copyInto dst src) = len src := by
  simp only [len, copyInto, List.length_append, List.length_take, List.length_drop]
  omega

theorem ping_spec (fh : FH) (p : Bytes) : (h2p_parsePingFrame fh p).Safe (FragSpec p) := by
  unfold h2p_parsePingFrame
  refine refused nofun (fun h => refused nofun (fun _ => ?_))
  have h8 : len p = 8 := by simpa using h
  refine Safe.ok (FragSpec.frame (List.forall_mem_singleton.2 (Int.le_of_eq (len_copyInto _ p ?_))))
  simp only [len, List.length_replicate] at h8 ⊢
  omega

theorem goaway_spec (fh : FH) (p : Bytes) : (h2p_parseGoAwayFrame fh p).Safe (FragSpec p) := by
  unfold h2p_parseGoAwayFrame
  refine refused nofun (fun _ => refused nofun (fun h => ?_))
  have h8 : 8 ≤ len p := by simpa using h
  refine beAt_safe (Int.le_refl 0) rfl (by omega) (fun _ => beAt_safe (by omega) rfl h8 (fun _ => ?_))
  refine Safe.bind (Safe.slc (by omega) h8 (Int.le_refl _)) (fun d hd => Safe.ok (FragSpec.frame (List.forall_mem_singleton.2 ?_)))
  omega

theorem windowUpdate_spec (fh : FH) (p : Bytes) : (h2p_parseWindowUpdateFrame fh p).Safe (FragSpec p) := by
  unfold h2p_parseWindowUpdateFrame
  refine refused nofun (fun h => ?_)
  have h4 : len p = 4 := by simpa using h
  refine beAt_safe (Int.le_refl 0) rfl (by omega) (fun _ => Safe.ite (fun _ => ?_) (fun _ => Safe.ok (FragSpec.frame nofun)))
  exact refused nofun (fun _ => Safe.ok (FragSpec.error nofun))

theorem continuation_spec (fh : FH) (p : Bytes) : (h2p_parseContinuationFrame fh p).Safe (FragSpec p) :=
  Safe.ite (fun _ => Safe.ok (FragSpec.error nofun))
    (fun _ => Safe.ok (FragSpec.frame (List.forall_mem_singleton.2 (Int.le_refl _))))

theorem unknown_spec (fh : FH) (p : Bytes) : (h2p_parseUnknownFrame fh p).Safe (FragSpec p) :=
  Safe.ok (FragSpec.frame (List.forall_mem_singleton.2 (Int.le_refl _)))

theorem numSettings_spec (fh : FH) (p : Bytes) : (h2p_SettingsFrame_NumSettings fh p).Safe (fun n => n = len p / 6) :=
  Safe.ok rfl

/-- `Setting(i)` for an index below `NumSettings()` -/
theorem setting_spec (fh : FH) (p : Bytes) (i : Int) (h0 : 0 ≤ i) (h1 : i < len p / 6) :
    (h2p_SettingsFrame_Setting fh p i).Safe (fun _ => True) :=
  beAt_safe (by omega) rfl (by omega) (fun _ => beAt_safe (by omega) (by omega) (by omega) (fun _ => Safe.ok trivial))

/-- `Value(id)`: the loop over the settings stays below `NumSettings()` -/
theorem value_spec (fh : FH) (p : Bytes) (id : Int) : (h2p_SettingsFrame_Value fh p id).Safe (fun _ => True) := by
  unfold h2p_SettingsFrame_Value
  refine Safe.bind (numSettings_spec fh p) (fun n hn => ?_)
  subst hn
  exact Safe.forRange (fun i _ h0 h1 hnext => Safe.bind (setting_spec fh p i h0 h1)
    (fun _ _ => Safe.ite (fun _ => Safe.ok trivial) (fun _ => hnext))) (Safe.ok trivial)

theorem settings_spec (fh : FH) (p : Bytes) : (h2p_parseSettingsFrame fh p).Safe (FragSpec p) := by
  unfold h2p_parseSettingsFrame
  refine Safe.bind (has_spec _ _) (fun _ _ => refused nofun (fun _ => ?_))
  refine refused nofun (fun _ => refused nofun (fun _ => ?_))
  refine Safe.bind (value_spec fh p 4) (fun _ _ => refused nofun (fun _ => ?_))
  exact Safe.ok (FragSpec.frame (List.forall_mem_singleton.2 (Int.le_refl _)))

/-- the dispatch on the frame type: every parser of the table and `parseUnknownFrame` -/
theorem parse_spec (fh : FH) (p : Bytes) : (h2p_parse fh p).Safe (FragSpec p) :=
  Safe.ite (fun _ => frag_of_pad (data_spec fh p) (Int.le_refl 0)) fun _ =>
  Safe.ite (fun _ => frag_of_pad (headers_spec fh p) (by split <;> omega)) fun _ =>
  Safe.ite (fun _ => priority_spec fh p) fun _ =>
  Safe.ite (fun _ => rst_spec fh p) fun _ =>
  Safe.ite (fun _ => settings_spec fh p) fun _ =>
  Safe.ite (fun _ => frag_of_pad (push_spec fh p) (by omega)) fun _ =>
  Safe.ite (fun _ => ping_spec fh p) fun _ =>
  Safe.ite (fun _ => goaway_spec fh p) fun _ =>
  Safe.ite (fun _ => windowUpdate_spec fh p) fun _ =>
  Safe.ite (fun _ => continuation_spec fh p) fun _ => unknown_spec fh p

end MosnVerif.Lemmas.CheckedH2Parse
