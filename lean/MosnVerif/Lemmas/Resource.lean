import MosnVerif.Gen.Resource
/-! Closed forms of `resource.CanCreate/Increase/Decrease` as regenerated in `Gen.Resource`.  `Gen.Pool` holds the same three
Go functions regenerated for the pool package, with the same bodies, so its versions follow by unfolding. -/
namespace MosnVerif.Lemmas.Resource
open MosnVerif.Gen.Resource

/-- on a non-negative counter the breaker's admission test is "unlimited or below the limit" -/
theorem canCreate_iff (m : Nat) (n : Int) (hn : 0 ≤ n) : canCreate (m : Int) n = true ↔ (m = 0 ∨ n < m) := by
  unfold canCreate
  by_cases hm : m = 0
  · simp [hm]
  · have hneg : ¬ n < 0 := by omega
    simp [hm, hneg]

theorem increase_eq (m : Nat) (n : Int) : increase (m : Int) n = if m = 0 then n else n + 1 := by
  unfold increase; by_cases h : m = 0 <;> simp [h]

theorem decrease_eq (m : Nat) (n : Int) : decrease (m : Int) n = if m = 0 then n else n - 1 := by
  unfold decrease; by_cases h : m = 0 <;> simp [h] <;> omega

end MosnVerif.Lemmas.Resource
