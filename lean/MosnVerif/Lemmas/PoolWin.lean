import MosnVerif.Model.PoolWin
import MosnVerif.Lemmas.PoolSteps
/-! The intermediate states of `OnDestroyStream` (model `Model/PoolWin.lean`): for every statement program in which the
close test comes strictly before the single, final put back (`progOk`), under every interleaving of the labels, the idle
list only holds open, unclosed, clean, unleased connections, and a lease never hands out a dirty connection.
At the end: the class of programs (`ledgerOk`) for which `Lemmas/PoolWinLedger.lean` proves the request ledger (gauges and
breaker) exact in every intermediate state. -/
namespace MosnVerif.Lemmas.PoolWin
open MosnVerif.Model.PoolWin MosnVerif.Gen.Pool MosnVerif.Gen.PoolDestroy
open MosnVerif.Model.Pool (Kind Dial Res putBack closeOnDestroy markClose removeIdle mem_removeIdle nodup_removeIdle
  removeIdle_of_not_mem putBack_eq closeOnDestroy_eq)

/-- after the close statement: only gauge / resource decrements, then at most one final put -/
def tailOk : List DStep → Bool
  | [] => true
  | [.put] => true
  | .decHost :: r | .decCluster :: r | .decRes :: r => tailOk r
  | _ => false

/-- the close test comes strictly before the (single, final) put -/
def progOk : List DStep → Bool
  | .closeIf _ :: r => tailOk r
  | .decHost :: r | .decCluster :: r | .decRes :: r => progOk r
  | _ => false

def idleClean (s : State) : Prop :=
  ∀ c, c ∈ s.idle → c < s.nClients ∧ (s.client c).closed = false ∧ (s.client c).netOpen = true ∧
    (s.client c).dirty = false ∧ (s.client c).live = false

def P (cl : Client) : Prop := cl.closed = true ∨ (cl.netOpen = true ∧ cl.dirty = false)
def Q (cl : Client) : Prop := cl.closed = true ∨ (cl.netOpen = true ∧ (cl.dirty = true → cl.closeConn = true))

def taskOk (cl : Client) (p : List DStep) : Prop :=
  (progOk p = true ∧ Q cl) ∨ (tailOk p = true ∧ P cl) ∨
  (∃ ret r, p = .poolEvent ret :: r ∧ tailOk r = true ∧ cl.netOpen = false ∧ cl.closed = false)

structure InvF (idle : List Nat) (n : Nat) (cl : Nat → Client) (ts : List Task) (prog : List DStep) : Prop where
  clean : ∀ c, c ∈ idle → c < n ∧ (cl c).closed = false ∧ (cl c).netOpen = true ∧ (cl c).dirty = false ∧ (cl c).live = false
  nodup : idle.Nodup
  prog : progOk prog = true
  liveOk : ∀ c, c < n → (cl c).live = true →
    (∀ p, (c, p) ∉ ts) ∧ (cl c).netOpen = true ∧ (cl c).closed = false ∧ (cl c).dirty = false
  task : ∀ c p, (c, p) ∈ ts → c < n ∧ c ∉ idle ∧ (cl c).live = false ∧ taskOk (cl c) p
  distinct : (ts.map Prod.fst).Nodup

/-- the inductive invariant -/
def Inv (s : State) : Prop := InvF s.idle s.nClients s.client s.tasks s.prog

/-- the task list around task `k` (clients are distinct): no other task belongs to its client -/
theorem tasks_split (ts : List Task) (k c : Nat) (p : List DStep) (hd : (ts.map Prod.fst).Nodup) (hk : ts[k]? = some (c, p)) :
    k < ts.length ∧ ∀ x, x ∈ ts.take k ++ ts.drop (k + 1) → x ∈ ts ∧ x.1 ≠ c := by
  obtain ⟨hlt, he⟩ := List.getElem?_eq_some_iff.mp hk
  rw [← List.take_append_drop k ts, List.drop_eq_getElem_cons hlt, he, List.map_append, List.map_cons, List.nodup_append,
    List.nodup_cons] at hd
  refine ⟨hlt, fun x hx => ?_⟩
  rcases List.mem_append.mp hx with hx | hx
  · exact ⟨List.mem_of_mem_take hx, fun e => hd.2.2 _ (List.mem_map_of_mem hx) _ List.mem_cons_self e⟩
  · have hm : x.1 ∈ (ts.drop (k + 1)).map Prod.fst := List.mem_map_of_mem hx
    exact ⟨List.mem_of_mem_drop hx, fun e => hd.2.1.1 (e ▸ hm)⟩

theorem mem_setTask (ts : List Task) (k c : Nat) (p rest' : List DStep) (hd : (ts.map Prod.fst).Nodup)
    (hk : ts[k]? = some (c, p)) (x : Task) (hx : x ∈ setTask ts k c rest') :
    (x = (c, rest') ∧ rest' ≠ []) ∨ (x ∈ ts ∧ x.1 ≠ c) := by
  obtain ⟨hlt, hoth⟩ := tasks_split ts k c p hd hk
  unfold setTask at hx
  split at hx
  · rw [List.eraseIdx_eq_take_drop_succ] at hx
    exact Or.inr (hoth x hx)
  · rename_i hne
    rw [List.set_eq_take_append_cons_drop, if_pos hlt, List.mem_append, List.mem_cons] at hx
    rcases hx with hx | hx | hx
    · exact Or.inr (hoth x (List.mem_append_left _ hx))
    · exact Or.inl ⟨hx, by simpa using hne⟩
    · exact Or.inr (hoth x (List.mem_append_right _ hx))

theorem nodup_setTask (ts : List Task) (k c : Nat) (p rest' : List DStep) (hd : (ts.map Prod.fst).Nodup)
    (hk : ts[k]? = some (c, p)) : ((setTask ts k c rest').map Prod.fst).Nodup := by
  unfold setTask
  split
  · exact hd.sublist ((List.eraseIdx_sublist ts k).map _)
  · obtain ⟨hlt, he⟩ := List.getElem?_eq_some_iff.mp hk
    have : (ts.map Prod.fst)[k]'(by rw [List.length_map]; exact hlt) = c := by rw [List.getElem_map, he]
    rw [List.map_set, ← this, List.set_getElem_self]; exact hd

/-! ### preservation, on the five components the invariant reads -/
section pres
variable {idle : List Nat} {n : Nat} {cl : Nat → Client} {ts : List Task} {prog : List DStep}

/-- One client `c` moves: every other client keeps its entry and enters neither list; what the invariant says of `c` is shown
afresh. The seven transitions below are its instances. -/
theorem invF_move {n' : Nat} (h : InvF idle n cl ts prog) (c : Nat) {g : Nat → Client} {idle' : List Nat} {ts' : List Task}
    (hne : ∀ k, k ≠ c → g k = cl k) (hn : ∀ x, x ≠ c → (x < n' ↔ x < n))
    (hi : ∀ x, x ∈ idle' → x ≠ c → x ∈ idle) (hin : idle'.Nodup)
    (ht : ∀ x p, (x, p) ∈ ts' → x ≠ c → (x, p) ∈ ts) (htn : (ts'.map Prod.fst).Nodup)
    (clean : c ∈ idle' →
      c < n' ∧ (g c).closed = false ∧ (g c).netOpen = true ∧ (g c).dirty = false ∧ (g c).live = false)
    (liveOk : c < n' → (g c).live = true →
      (∀ p, (c, p) ∉ ts') ∧ (g c).netOpen = true ∧ (g c).closed = false ∧ (g c).dirty = false)
    (task : ∀ p, (c, p) ∈ ts' → c < n' ∧ c ∉ idle' ∧ (g c).live = false ∧ taskOk (g c) p) :
    InvF idle' n' g ts' prog := by
  refine ⟨fun x hx => ?_, hin, h.prog, fun x hx hl => ?_, fun x p hp => ?_, htn⟩
  · by_cases e : x = c
    · exact e ▸ clean (e ▸ hx)
    · rw [hne x e, hn x e]; exact h.clean x (hi x hx e)
  · by_cases e : x = c
    · subst e; exact liveOk hx hl
    · rw [hne x e] at hl ⊢
      have := h.liveOk x ((hn x e).mp hx) hl
      exact ⟨fun p hp => this.1 p (ht x p hp e), this.2⟩
  · by_cases e : x = c
    · subst e; exact task p hp
    · rw [hne x e, hn x e]
      have := h.task x p (ht x p hp e)
      exact ⟨this.1, fun hm => this.2.1 (hi x hm e), this.2.2⟩

theorem invF_new (h : InvF idle n cl ts prog) (g : Nat → Client) (hg : g n = { live := true })
    (hne : ∀ k, k ≠ n → g k = cl k) : InvF idle (n + 1) g ts prog := by
  refine invF_move h n hne (fun x e => by omega) (fun _ hx _ => hx) h.nodup (fun _ _ hp _ => hp) h.distinct
    (fun hm => absurd (h.clean n hm).1 (Nat.lt_irrefl n)) (fun _ _ => ?_)
    (fun p hp => absurd (h.task n p hp).1 (Nat.lt_irrefl n))
  rw [hg]
  exact ⟨fun p hp => absurd (h.task n p hp).1 (Nat.lt_irrefl n), rfl, rfl, rfl⟩

theorem invF_pop {ys : List Nat} {c : Nat} (h : InvF (ys ++ [c]) n cl ts prog) (g : Nat → Client)
    (hg : g c = { cl c with live := true }) (hne : ∀ k, k ≠ c → g k = cl k) : InvF ys n g ts prog := by
  have hnd := List.nodup_append.mp h.nodup
  have hcc := h.clean c (by simp)
  refine invF_move h c hne (fun _ _ => Iff.rfl) (fun x hx _ => List.mem_append_left _ hx) hnd.1 (fun _ _ hp _ => hp)
    h.distinct (fun hm => absurd rfl (hnd.2.2 c hm c (by simp))) (fun _ _ => ?_)
    (fun p hp => absurd (by simp) (h.task c p hp).2.1)
  rw [hg]
  exact ⟨fun p hp => (h.task c p hp).2.1 (by simp), hcc.2.2.1, hcc.2.1, hcc.2.2.2.1⟩

theorem invF_end (h : InvF idle n cl ts prog) (c : Nat) (hc : c < n) (hl : (cl c).live = true) (g : Nat → Client)
    (hgl : (g c).live = false) (hq : Q (g c)) (hne : ∀ k, k ≠ c → g k = cl k) :
    InvF idle n g (ts ++ [(c, prog)]) prog := by
  have hlc := h.liveOk c hc hl
  have hci : c ∉ idle := fun hm => by have := (h.clean c hm).2.2.2.2; rw [hl] at this; cases this
  refine invF_move h c hne (fun _ _ => Iff.rfl) (fun _ hx _ => hx) h.nodup (fun x p hp e => ?_) ?_
    (fun hm => absurd hm hci) (fun _ hl' => by rw [hgl] at hl'; cases hl') (fun p hp => ?_)
  · rcases List.mem_append.mp hp with hp | hp
    · exact hp
    · cases List.mem_singleton.mp hp; exact absurd rfl e
  · rw [List.map_append, List.nodup_append]
    refine ⟨h.distinct, by simp, ?_⟩
    intro a ha b hb e
    simp only [List.map_cons, List.map_nil, List.mem_singleton] at hb
    subst hb; subst e
    obtain ⟨⟨x, p⟩, hm, rfl⟩ := List.mem_map.mp ha
    exact hlc.1 p hm
  · rcases List.mem_append.mp hp with hp | hp
    · exact absurd hp (hlc.1 p)
    · cases List.mem_singleton.mp hp; exact ⟨hc, hci, hgl, Or.inl ⟨h.prog, hq⟩⟩

theorem invF_closeIdle (h : InvF idle n cl ts prog) (k : Kind) (c : Nat) (hnet : (cl c).netOpen = true)
    (hl : (cl c).live = false) (g : Nat → Client)
    (hg : g c = { cl c with netOpen := false, closed := true }) (hne : ∀ k, k ≠ c → g k = cl k) :
    InvF (removeIdle k idle c) n g ts prog := by
  have hmem := mem_removeIdle k idle h.nodup c
  have hci : c ∉ removeIdle k idle c := fun hm => absurd rfl ((hmem c).mp hm).2
  refine invF_move h c hne (fun _ _ => Iff.rfl) (fun x hx _ => ((hmem x).mp hx).1) (nodup_removeIdle k idle h.nodup c)
    (fun _ _ hp _ => hp) h.distinct (fun hm => absurd hm hci)
    (fun _ hl' => by rw [hg] at hl'; exact absurd (hl.symm.trans hl') Bool.false_ne_true) (fun p hp => ?_)
  have := h.task c p hp
  rw [hg]
  refine ⟨this.1, hci, hl, ?_⟩
  rcases this.2.2.2 with ⟨hp1, _⟩ | ⟨hp1, _⟩ | ⟨_, _, _, _, hno, _⟩
  · exact Or.inl ⟨hp1, Or.inl rfl⟩
  · exact Or.inr (Or.inl ⟨hp1, Or.inl rfl⟩)
  · rw [hnet] at hno; cases hno

theorem invF_flag (h : InvF idle n cl ts prog) (c : Nat) (g : Nat → Client)
    (hg : g c = { cl c with closeConn := true }) (hne : ∀ k, k ≠ c → g k = cl k) : InvF idle n g ts prog := by
  refine invF_move h c hne (fun _ _ => Iff.rfl) (fun _ hx _ => hx) h.nodup (fun _ _ hp _ => hp) h.distinct
    (fun hm => by rw [hg]; exact h.clean c hm) (fun hc hl => by rw [hg] at hl ⊢; exact h.liveOk c hc hl)
    (fun p hp => ?_)
  have := h.task c p hp
  rw [hg]
  refine ⟨this.1, this.2.1, this.2.2.1, ?_⟩
  rcases this.2.2.2 with ⟨a, b⟩ | h2 | h3
  · exact Or.inl ⟨a, b.imp_right fun b => ⟨b.1, fun _ => rfl⟩⟩
  · exact Or.inr (Or.inl h2)
  · exact Or.inr (Or.inr h3)

/-- a task statement that leaves the idle list alone -/
theorem invF_task_keep (h : InvF idle n cl ts prog) (k c : Nat) (p : List DStep) (hk : ts[k]? = some (c, p))
    (g : Nat → Client) (hne : ∀ k, k ≠ c → g k = cl k) (hgl : (g c).live = false) (rest' : List DStep)
    (hok : rest' ≠ [] → taskOk (g c) rest') : InvF idle n g (setTask ts k c rest') prog := by
  have hc := h.task c p (List.mem_of_getElem? hk)
  have hm := mem_setTask ts k c p rest' h.distinct hk
  refine invF_move h c hne (fun _ _ => Iff.rfl) (fun _ hx _ => hx) h.nodup (fun x q hq e => ?_)
    (nodup_setTask ts k c p rest' h.distinct hk) (fun hm => absurd hm hc.2.1)
    (fun _ hl => by rw [hgl] at hl; cases hl) (fun q hq => ?_)
  · rcases hm _ hq with ⟨e', _⟩ | ⟨hq', _⟩
    · exact absurd (congrArg Prod.fst e') e
    · exact hq'
  · rcases hm _ hq with ⟨e', hr⟩ | ⟨_, e'⟩
    · cases e'; exact ⟨hc.1, hc.2.1, hgl, hok hr⟩
    · exact absurd rfl e'

/-- the final put back -/
theorem invF_task_put (h : InvF idle n cl ts prog) (k c : Nat) (p : List DStep) (hk : ts[k]? = some (c, p))
    (hcl : (cl c).closed = false) (hnet : (cl c).netOpen = true) (hd : (cl c).dirty = false) :
    InvF (idle ++ [c]) n cl (setTask ts k c []) prog := by
  have hc := h.task c p (List.mem_of_getElem? hk)
  have hm := mem_setTask ts k c p [] h.distinct hk
  refine invF_move h c (fun _ _ => rfl) (fun _ _ => Iff.rfl) (fun x hx e => ?_) ?_ (fun x q hq e => ?_)
    (nodup_setTask ts k c p [] h.distinct hk) (fun _ => ⟨hc.1, hcl, hnet, hd, hc.2.2.1⟩)
    (fun _ hl => by rw [hc.2.2.1] at hl; cases hl) (fun q hq => ?_)
  · exact (List.mem_append.mp hx).resolve_right fun hx => e (List.mem_singleton.mp hx)
  · exact List.nodup_append.mpr ⟨h.nodup, by simp, fun a ha b hb e => hc.2.1 (List.mem_singleton.mp hb ▸ e ▸ ha)⟩
  · exact (hm _ hq).elim (fun hq => absurd rfl hq.2) (·.1)
  · exact (hm _ hq).elim (fun hq => absurd rfl hq.2) (fun hq => absurd rfl hq.2)

end pres

/-! ### the counter movements do not touch what the invariant reads -/
structure Frame (s s' : State) : Prop where
  idle : s'.idle = s.idle
  client : s'.client = s.client
  tasks : s'.tasks = s.tasks
  nClients : s'.nClients = s.nClients
  prog : s'.prog = s.prog
  kind : s'.kind = s.kind
  maxReq : s'.maxReq = s.maxReq
  liveN : s'.liveN = s.liveN
  ext : s'.ext = s.ext

theorem frame_applyMove (s : State) (m : Nat) : Frame s (applyMove s m) := by
  unfold applyMove; split <;> constructor <;> rfl

theorem frame_applyMoves (s : State) (l : List Nat) : Frame s (applyMoves s l) := by
  refine Lemmas.Fold.foldl_inv (P := Frame s) (fun t a f2 => ?_) l s (by constructor <;> rfl)
  have f1 := frame_applyMove t a
  exact ⟨f1.idle.trans f2.idle, f1.client.trans f2.client, f1.tasks.trans f2.tasks, f1.nClients.trans f2.nClients,
    f1.prog.trans f2.prog, f1.kind.trans f2.kind, f1.maxReq.trans f2.maxReq, f1.liveN.trans f2.liveN, f1.ext.trans f2.ext⟩

theorem inv_of_frame {s s' : State} (f : Frame s s') : Inv s' ↔ Inv s := by
  unfold Inv; rw [f.idle, f.client, f.tasks, f.nClients, f.prog]

theorem inv_applyMoves (s : State) (l : List Nat) : Inv (applyMoves s l) ↔ Inv s := inv_of_frame (frame_applyMoves s l)

/-- the three outcomes of `NewStream`: a dial and a lease of the new client; a lease of the last idle client; no lease, where
at most the connection counter has moved (breaker, connection limit, failed dial) -/
theorem newStream_cases (s : State) (d : Dial) :
    (∃ t, s.idle = [] ∧ newStream s d = (lease (newClient { s with total := t }) s.nClients, .ok s.nClients)) ∨
    (∃ ys c, s.idle = ys ++ [c] ∧ newStream s d = (lease { s with idle := ys } c, .ok c)) ∨
    (∃ t r, (∀ c, r ≠ .ok c) ∧ newStream s d = ({ s with total := t }, r)) := by
  unfold newStream
  split
  · rcases he : acquire s d with ⟨s1, r⟩
    simp only [acquire] at he
    split at he
    · rename_i hi
      have hi' : s.idle = [] := by simpa using hi
      (repeat' split at he) <;> (obtain ⟨rfl, rfl⟩ := Prod.mk.inj he) <;>
        first
        | exact Or.inl ⟨_, hi', rfl⟩
        | exact Or.inr (Or.inr ⟨_, _, by nofun, rfl⟩)
        | exact Or.inr (Or.inr ⟨s.total, _, by nofun, rfl⟩)
    · rename_i hi
      split at he <;> (obtain ⟨rfl, rfl⟩ := Prod.mk.inj he)
      · exact Or.inr (Or.inr ⟨s.total, _, by nofun, rfl⟩)
      · rcases List.eq_nil_or_concat s.idle with e | ⟨ys, c, e⟩
        · exact absurd (by rw [e]; rfl) hi
        · rw [List.concat_eq_append] at e
          exact Or.inr (Or.inl ⟨ys, c, e, by simp [e]⟩)
  · exact Or.inr (Or.inr ⟨s.total, _, by nofun, rfl⟩)

/-! ### the regenerated connection gauge movements; the dial and the pool's close handler as one update each -/
theorem closeGaugeCodes_eq (k : Kind) : closeGaugeCodes k = [20, 21] := by cases k <;> rfl
theorem dialGaugeCodes_eq (k : Kind) : dialGaugeCodes k = [22, 23] := by cases k <;> rfl

theorem newClient_eq (s : State) : newClient s =
    { s with nClients := s.nClients + 1, openN := s.openN + 1, client := fun k => if k = s.nClients then {} else s.client k,
             cnHost := s.cnHost + 1, cnCluster := s.cnCluster + 1 } := by
  rw [newClient, dialGaugeCodes_eq]; rfl

theorem poolOnClose_eq (s : State) (c : Nat) : poolOnClose s c =
    { s with client := fun k => if k = c then { s.client c with closed := true } else s.client k,
             total := s.total + MosnVerif.Model.Pool.closeDelta s.kind, idle := removeIdle s.kind s.idle c,
             cnHost := s.cnHost - 1, cnCluster := s.cnCluster - 1 } := by
  simp only [poolOnClose, closeGaugeCodes_eq, applyMoves, List.foldl, applyMove, State.updC]

theorem inv_lease_new (s : State) (h : Inv s) : Inv (lease (newClient s) s.nClients) := by
  unfold lease
  rw [inv_applyMoves, newClient_eq]
  exact invF_new h _ (by simp [State.updC]) fun k hk => by simp [State.updC, hk]

theorem inv_lease_pop (s : State) (h : Inv s) {ys : List Nat} {c : Nat} (e : s.idle = ys ++ [c]) :
    Inv (lease { s with idle := ys } c) := by
  unfold lease
  rw [inv_applyMoves]
  have h' : InvF (ys ++ [c]) s.nClients s.client s.tasks s.prog := e ▸ h
  exact invF_pop h' _ (by simp [State.updC]) fun k hk => by simp [State.updC, hk]

theorem inv_newStream (s : State) (d : Dial) (h : Inv s) : Inv (newStream s d).1 := by
  rcases newStream_cases s d with ⟨t, _, e⟩ | ⟨ys, c, hi, e⟩ | ⟨t, r, _, e⟩ <;> rw [e]
  · exact inv_lease_new { s with total := t } h
  · exact inv_lease_pop s h hi
  · exact h

theorem Q_endMarks (k : Kind) (cause : Cause) (cl : Client) (hn : cl.netOpen = true) (hd : cl.dirty = false)
    (hc : cl.closed = false) (hg : cause = .remoteReset → k = .h1) : Q { endMarks k cause cl with live := false } := by
  unfold Q; right
  cases cause <;> cases k <;>
    simp_all [endMarks, markClose, h1MarkClose, ppMarkClose, reasonStreamLocalReset, reasonStreamRemoteReset]

theorem inv_endStream (s : State) (c : Nat) (cause : Cause) (h : Inv s) : Inv (step s (.endStream c cause)).1 := by
  simp only [step]
  split
  · rename_i hg
    have hl := h.liveOk c hg.1 hg.2.1
    refine invF_end h c hg.1 hg.2.1 _ ?_ ?_ ?_
    · simp [State.updC]
    · simp only [State.updC, if_true]
      exact Q_endMarks s.kind cause (s.client c) hl.2.1 hl.2.2.2 hl.2.2.1 hg.2.2
    · intro k hk; simp [State.updC, hk]
  · exact h

/-- the connection of `c` is marked closed (first half of `netClose`) -/
def Y (s : State) (c : Nat) : State := { s.updC c (fun cl => { cl with netOpen := false }) with openN := s.openN - 1 }
/-- … and the pool's handler has run -/
def X (s : State) (c : Nat) : State := poolOnClose (Y s c) c

theorem X_eq (s : State) (c : Nat) : X s c =
    { s with client := fun k => if k = c then { s.client c with netOpen := false, closed := true } else s.client k,
             openN := s.openN - 1, total := s.total + MosnVerif.Model.Pool.closeDelta s.kind,
             idle := removeIdle s.kind s.idle c, cnHost := s.cnHost - 1, cnCluster := s.cnCluster - 1 } := by
  -- under `k ≠ c` the entry of `Y s c` is that of `s`
  rw [X, poolOnClose_eq]
  simp +contextual only [Y, State.updC, if_true, if_false]

theorem X_liveN (s : State) (c : Nat) : (X s c).liveN = s.liveN := by rw [X_eq]

theorem step_netClose_eq (s : State) (c : Nat) : step s (.netClose c) =
    if c < s.nClients ∧ (s.client c).netOpen = true then
      (if (s.client c).live = true then
        ({ (X s c).updC c (fun cl => { cl with live := false, dirty := true }) with
           liveN := (X s c).liveN - 1, tasks := (X s c).tasks ++ [(c, (X s c).prog)] }, .none)
      else (X s c, .none))
    else (s, .none) := rfl

theorem inv_netClose (s : State) (c : Nat) (h : Inv s) : Inv (step s (.netClose c)).1 := by
  rw [step_netClose_eq]
  split
  · rename_i hg
    split
    · rename_i hl
      have hci : c ∉ s.idle := fun hm => by have := (h.clean c hm).2.2.2.2; rw [hl] at this; cases this
      rw [X_eq]
      show InvF (removeIdle s.kind s.idle c) s.nClients _ (s.tasks ++ [(c, s.prog)]) s.prog
      rw [removeIdle_of_not_mem _ _ _ hci]
      refine invF_end h c hg.1 hl _ ?_ ?_ ?_
      · simp [State.updC]
      · simp only [State.updC, if_true]; exact Or.inl rfl
      · intro k hk; simp [State.updC, hk]
    · rename_i hl
      rw [X_eq]
      exact invF_closeIdle h s.kind c hg.2 (by simpa using hl) _ (if_pos rfl) (fun k hk => if_neg hk)
  · exact h

theorem inv_goAway (s : State) (c : Nat) (h : Inv s) : Inv (step s (.goAway c)).1 := by
  simp only [step]
  split
  · refine invF_flag h c _ ?_ ?_
    · simp [State.updC]
    · intro k hk; simp [State.updC, hk]
  · exact h

/-- what a task in progress needs of its client, by the statement it is at -/
theorem taskOk_cons (cl : Client) (st : DStep) (rest : List DStep) :
    taskOk cl (st :: rest) ↔
      match st with
      | .decHost | .decCluster | .decRes => progOk rest = true ∧ Q cl ∨ tailOk rest = true ∧ P cl
      | .closeIf _ => tailOk rest = true ∧ Q cl
      | .put => rest = [] ∧ P cl
      | .poolEvent _ => tailOk rest = true ∧ cl.netOpen = false ∧ cl.closed = false
      | .bad => False := by
  cases st with
  | put => cases rest <;> simp [taskOk, progOk, tailOk]
  | poolEvent ret =>
    refine ⟨?_, fun h => .inr (.inr ⟨_, _, rfl, h⟩)⟩
    rintro (⟨a, _⟩ | ⟨a, _⟩ | ⟨_, _, e, h⟩)
    · cases a
    · cases a
    · cases e; exact h
  | _ => simp [taskOk, progOk, tailOk]

theorem inv_dec (s : State) (h : Inv s) (m k c : Nat) (st : DStep) (rest : List DStep)
    (hk : s.tasks[k]? = some (c, st :: rest)) (hst : st = .decHost ∨ st = .decCluster ∨ st = .decRes) :
    Inv { applyMove s m with tasks := setTask (applyMove s m).tasks k c rest } := by
  have f := frame_applyMove s m
  show InvF _ _ _ _ _
  simp only []
  rw [f.idle, f.client, f.tasks, f.nClients, f.prog]
  have hc := h.task c _ (List.mem_of_getElem? hk)
  exact invF_task_keep h k c _ hk s.client (fun _ _ => rfl) hc.2.2.1 rest fun _ => by
    have := (taskOk_cons _ _ _).mp hc.2.2.2
    rcases hst with rfl | rfl | rfl <;> exact this.imp_right .inl

theorem inv_taskStep (s : State) (k : Nat) (h : Inv s) : Inv (step s (.taskStep k)).1 := by
  simp only [step]
  split
  · rename_i c st rest hk
    have hc := h.task c _ (List.mem_of_getElem? hk)
    cases st with
    | decHost => exact inv_dec s h 0 k c _ rest hk (Or.inl rfl)
    | decCluster => exact inv_dec s h 1 k c _ rest hk (Or.inr (Or.inl rfl))
    | decRes => exact inv_dec s h 2 k c _ rest hk (Or.inr (Or.inr rfl))
    | bad => exact ((taskOk_cons _ _ _).mp hc.2.2.2).elim
    | put =>
      obtain ⟨rfl, hP⟩ := (taskOk_cons _ _ _).mp hc.2.2.2
      cases hcl : (s.client c).closed
      · have hP' : (s.client c).netOpen = true ∧ (s.client c).dirty = false := by
          rcases hP with hP | hP
          · rw [hcl] at hP; cases hP
          · exact hP
        simp only [execStep, hcl, putBack_eq, Bool.not_false, if_true]
        exact invF_task_put h k c _ hk hcl hP'.1 hP'.2
      · simp only [execStep, hcl, putBack_eq, Bool.not_true, Bool.false_eq_true, if_false]
        exact invF_task_keep h k c _ hk s.client (fun _ _ => rfl) hc.2.2.1 [] (fun hne => absurd rfl hne)
    | closeIf ret =>
      have ht : tailOk rest = true ∧ Q (s.client c) := (taskOk_cons _ _ _).mp hc.2.2.2
      by_cases hclose : (s.client c).closed = false ∧ (s.client c).closeConn = true
      · have hnet : (s.client c).netOpen = true := by
          rcases ht.2 with hq | hq
          · rw [hclose.1] at hq; cases hq
          · exact hq.1
        simp only [execStep, hclose.1, hclose.2, closeOnDestroy_eq, Bool.not_false, Bool.and_self, hnet, if_true]
        show InvF s.idle s.nClients (fun x => if x = c then { s.client c with netOpen := false } else s.client x)
          (setTask s.tasks k c (.poolEvent ret :: rest)) s.prog
        refine invF_task_keep h k c _ hk _ ?_ ?_ _ ?_
        · intro x hx; simp [hx]
        · simpa using hc.2.2.1
        intro _
        refine Or.inr (Or.inr ⟨ret, rest, rfl, ht.1, ?_, ?_⟩)
        · simp
        · simpa using hclose.1
      · have hcd' : closeOnDestroy s.kind (s.client c).closed (s.client c).closeConn = false := by
          rw [closeOnDestroy_eq]
          cases h1 : (s.client c).closed <;> cases h2 : (s.client c).closeConn <;> simp_all
        simp only [execStep, hcd', Bool.false_eq_true, if_false]
        refine invF_task_keep h k c _ hk s.client (fun _ _ => rfl) hc.2.2.1 rest (fun _ => Or.inr (Or.inl ⟨ht.1, ?_⟩))
        rcases ht.2 with hq | hq
        · exact Or.inl hq
        · cases h1 : (s.client c).closed
          · refine Or.inr ⟨hq.1, ?_⟩
            cases h3 : (s.client c).dirty
            · rfl
            · exact absurd ⟨h1, hq.2 h3⟩ hclose
          · exact Or.inl h1
    | poolEvent ret =>
      have ht : tailOk rest = true ∧ _ := (taskOk_cons _ _ _).mp hc.2.2.2
      simp only [execStep, poolOnClose_eq]
      show InvF (removeIdle s.kind s.idle c) s.nClients _ (setTask s.tasks k c (if ret = true then [] else rest)) s.prog
      rw [removeIdle_of_not_mem _ _ _ hc.2.1]
      refine invF_task_keep h k c _ hk _ (fun x hx => if_neg hx) (by rw [if_pos rfl]; exact hc.2.2.1) _
        (fun _ => Or.inr (Or.inl ⟨?_, by rw [if_pos rfl]; exact Or.inl rfl⟩))
      cases ret
      · simpa using ht.1
      · simp [tailOk]
  · exact h

theorem inv_step (s : State) (l : Label) (h : Inv s) : Inv (step s l).1 := by
  cases l with
  | newStream d => exact inv_newStream s d h
  | endStream c cause => exact inv_endStream s c cause h
  | taskStep k => exact inv_taskStep s k h
  | netClose c => exact inv_netClose s c h
  | goAway c => exact inv_goAway s c h
  | extInc => exact h
  | extDec =>
    simp only [step]
    split
    · exact h
    · exact h

theorem inv_run_of (s : State) (h : Inv s) (ls : List Label) : Inv (run s ls) := by
  induction ls generalizing s with
  | nil => exact h
  | cons l r ih => exact ih (step s l).1 (inv_step s l h)

theorem inv_init (k : Kind) (mc mr : Nat) (prog : List DStep) (h : progOk prog = true) : Inv (initWith k mc mr prog) :=
  ⟨(by intro c hc; cases hc), List.nodup_nil, h, (by intro c hc; exact absurd hc (Nat.not_lt_zero c)), (by intro c p hp; cases hp), List.nodup_nil⟩

theorem inv_run (k : Kind) (mc mr : Nat) (prog : List DStep) (h : progOk prog = true) (ls : List Label) :
    Inv (run (initWith k mc mr prog) ls) := inv_run_of _ (inv_init k mc mr prog h) ls

/-- the idle list only ever holds open, unclosed, clean connections without a request in flight -/
theorem idle_clean_always (k : Kind) (mc mr : Nat) (prog : List DStep) (h : progOk prog = true) (ls : List Label) :
    idleClean (run (initWith k mc mr prog) ls) := (inv_run k mc mr prog h ls).clean

theorem lease_clean_of_inv (s : State) (h : Inv s) (d : Dial) (c : Nat) (s' : State)
    (hs : step s (.newStream d) = (s', .ok c)) :
    c = s.nClients ∨ (c < s.nClients ∧ (s.client c).dirty = false ∧ (s.client c).live = false ∧
      (s.client c).netOpen = true ∧ (s.client c).closed = false) := by
  rcases newStream_cases s d with ⟨t, _, e⟩ | ⟨ys, c', hi, e⟩ | ⟨t, r, hr, e⟩ <;>
    have hc := (Prod.mk.inj ((show newStream s d = _ from hs).symm.trans e)).2
  · exact Or.inl (Res.ok.inj hc)
  · have := h.clean c (by rw [Res.ok.inj hc, hi]; simp)
    exact Or.inr ⟨this.1, this.2.2.2.1, this.2.2.2.2, this.2.2.1, this.2.1⟩
  · exact absurd hc.symm (hr c)

/-- a lease hands out either a fresh connection or an open, unclosed, clean one that carries no request -/
theorem lease_never_dirty (k : Kind) (mc mr : Nat) (prog : List DStep) (h : progOk prog = true) (ls : List Label)
    (d : Dial) (c : Nat) (s' : State) :
    step (run (initWith k mc mr prog) ls) (.newStream d) = (s', .ok c) →
    let s := run (initWith k mc mr prog) ls
    (c = s.nClients ∨ (c < s.nClients ∧ (s.client c).dirty = false ∧ (s.client c).live = false ∧
      (s.client c).netOpen = true ∧ (s.client c).closed = false)) := by
  intro hs
  exact lease_clean_of_inv _ (inv_run k mc mr prog h ls) d c s' hs

/-! ### the request ledger: program class -/
/-- what the tasks in progress still owe of one kind of decrement -/
def owed (st : DStep) (ts : List Task) : Nat := (ts.map (fun t => t.2.count st)).sum
def noDecs (p : List DStep) : Bool := p.all (fun st => st != .decHost && st != .decCluster && st != .decRes)
/-- no decrement is skipped by an early return after the close -/
def retSafe : List DStep → Bool
  | [] => true
  | .closeIf true :: r => noDecs r && retSafe r
  | .poolEvent true :: r => noDecs r && retSafe r
  | _ :: r => retSafe r
def ledgerOk (k : Kind) (p : List DStep) : Bool :=
  retSafe p && p.count .decHost == 1 && p.count .decCluster == 1 && p.count .decRes == 1 && takeCodes k == [10, 11, 12]

end MosnVerif.Lemmas.PoolWin
