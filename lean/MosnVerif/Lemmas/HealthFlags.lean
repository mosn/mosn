import MosnVerif.Model.HealthFlags
import MosnVerif.Lemmas.Schedule
/-! Linearizability of the CAS-loop shape of `SetHealthFlag/ClearHealthFlag`: every run is explained by its log (`run_cas`). -/
namespace MosnVerif.Model.HealthFlags
open MosnVerif.Gen.HealthFlags (Atom Prog)

/-- The current source has the CAS-loop shape.  This is the lemma that stops compiling when the regenerated step
structure of `SetHealthFlag`/`ClearHealthFlag` changes (e.g. back to load / modify / store). -/
theorem genP_cas : genP = casLoopP := by
  funext op; cases op <;> rfl

/-- the regenerated modifications are `old | flag` and `old &^ flag` -/
theorem apply_eq_ref (op : Op) (w : Word) : op.apply w = op.ref w := by
  cases op <;> rfl

theorem set_same {α : Type} (l : List α) (i : Nat) (x : α) (h : l[i]? = some x) : l.set i x = l := by
  obtain ⟨hlt, rfl⟩ := List.getElem?_eq_some_iff.mp h
  exact List.set_getElem_self hlt

/-- what a single atomic access of a thread does, for the CAS-loop shape: either nothing visible (a load, a failed
CAS, a finished or stuck thread): word and pending calls unchanged; or the successful CAS of the head call `op`:
the word becomes `op.apply` of the CURRENT word and the call is removed. -/
theorem thread_step_cas (w : Word) (t : Thread) :
    ((t.step casLoopP w).2.2 = none ∧ (t.step casLoopP w).1 = w ∧ (t.step casLoopP w).2.1.ops = t.ops) ∨
    (∃ op, (t.step casLoopP w).2.2 = some op ∧ t.ops = op :: (t.step casLoopP w).2.1.ops ∧
      (t.step casLoopP w).1 = op.apply w) := by
  obtain ⟨ops, pc, reg⟩ := t
  cases ops with
  | nil => left; simp [Thread.step]
  | cons op rest =>
    match pc with
    | 0 => left; simp [Thread.step, casLoopP, Thread.next]
    | 1 =>
      by_cases h : w = reg
      · right; exact ⟨op, by simp [Thread.step, casLoopP, h]⟩
      · left; simp [Thread.step, casLoopP, Thread.next, h]
    | n + 2 => left; simp [Thread.step, casLoopP]

def Config.pendingAt (c : Config) (j : Nat) : List Op := (c.threads[j]?.map (·.ops)).getD []

theorem proj_nil (j : Nat) : proj j [] = [] := rfl

theorem mem_proj (e : Nat × Op) (l : List (Nat × Op)) (h : e ∈ l) : e.2 ∈ proj e.1 l :=
  List.mem_map.mpr ⟨e, List.mem_filter.mpr ⟨h, beq_self_eq_true _⟩, rfl⟩

theorem proj_append (j : Nat) (a b : List (Nat × Op)) : proj j (a ++ b) = proj j a ++ proj j b := by
  simp [proj, List.filter_append]

theorem proj_cons (j : Nat) (e : Nat × Op) (l : List (Nat × Op)) :
    proj j (e :: l) = if e.1 = j then e.2 :: proj j l else proj j l := by
  by_cases h : e.1 = j
  · simp [proj, h]
  · have : (e.1 == j) = false := by simp [h]
    simp [proj, h, this]

theorem applyAll_append (w : Word) (a b : List (Nat × Op)) : applyAll w (a ++ b) = applyAll (applyAll w a) b := by
  simp [applyAll, List.foldl_append]

theorem pending_length (c : Config) : c.pending.length = c.threads.length := by simp [Config.pending]

theorem pending_getElem? (c : Config) (j : Nat) : c.pending[j]? = c.threads[j]?.map (·.ops) := by
  simp [Config.pending]

theorem pendingAt_eq (c : Config) (j : Nat) : c.pendingAt j = c.pending[j]?.getD [] := by
  rw [pending_getElem?]; rfl

/-- one scheduler step of the CAS-loop shape, seen on the word and the pending calls: silent (both unchanged), or the head
call of thread `i` takes effect on the CURRENT word, is logged and leaves the pending calls of `i` -/
theorem config_step_cases (c : Config) (i : Nat) :
    ((c.step casLoopP i).2 = none ∧ (c.step casLoopP i).1.word = c.word ∧ (c.step casLoopP i).1.pending = c.pending) ∨
    ∃ op r, (c.step casLoopP i).2 = some (i, op) ∧ c.pending[i]? = some (op :: r) ∧
      (c.step casLoopP i).1.word = op.apply c.word ∧ (c.step casLoopP i).1.pending = c.pending.set i r := by
  unfold Config.step
  cases hti : c.threads[i]? with
  | none => exact .inl ⟨rfl, rfl, rfl⟩
  | some t =>
    have hpi : c.pending[i]? = some t.ops := by rw [pending_getElem?, hti]; rfl
    dsimp only
    rcases thread_step_cas c.word t with ⟨hn, hw, ho⟩ | ⟨op, hs, ho, hw⟩
    · exact .inl ⟨by rw [hn]; rfl, hw, by rw [Config.pending, List.map_set, ho]; exact set_same _ _ _ hpi⟩
    · exact .inr ⟨op, _, by rw [hs]; rfl, ho ▸ hpi, hw, List.map_set⟩

/-- one scheduler step of the CAS-loop shape: the word moves by exactly the logged call (if any), and the logged call is
exactly what left the pending list of its thread. -/
theorem config_step_cas (c : Config) (i : Nat) :
    (c.step casLoopP i).1.word = applyAll c.word (c.step casLoopP i).2.toList ∧
    ∀ j, proj j (c.step casLoopP i).2.toList ++ (c.step casLoopP i).1.pendingAt j = c.pendingAt j := by
  rcases config_step_cases c i with ⟨hn, hw, hp⟩ | ⟨op, r, hs, hpi, hw, hp⟩
  · exact ⟨by rw [hn, hw]; rfl, fun j => by rw [hn, pendingAt_eq, hp, pendingAt_eq]; rfl⟩
  · refine ⟨by rw [hs, hw]; rfl, fun j => ?_⟩
    rw [hs, pendingAt_eq, hp, pendingAt_eq, Option.toList_some, proj_cons, proj_nil]
    by_cases hij : i = j
    · subst hij; rw [if_pos rfl, List.getElem?_set_self (List.getElem?_eq_some_iff.mp hpi).1, hpi]; rfl
    · rw [if_neg hij, List.getElem?_set_ne hij]; rfl

/-- **invariant of every run** (CAS-loop shape, any configuration, any schedule — complete or not): the word is the
sequential result of the calls logged so far, and each thread's logged calls followed by its still-pending calls are
its original calls in program order. -/
theorem run_cas (c : Config) (s : List Nat) :
    (c.run casLoopP s).word = applyAll c.word (c.log casLoopP s) ∧
    ∀ j, proj j (c.log casLoopP s) ++ (c.run casLoopP s).pendingAt j = c.pendingAt j := by
  induction s generalizing c with
  | nil => simp [Config.run, Config.log, applyAll, proj]
  | cons i s ih =>
    obtain ⟨hw, hp⟩ := config_step_cas c i
    obtain ⟨hw', hp'⟩ := ih (c.step casLoopP i).1
    refine ⟨?_, fun j => ?_⟩
    · simp only [Config.run, Config.log, applyAll_append, hw', hw]
    · simp only [Config.run, Config.log, proj_append, List.append_assoc, hp' j, hp j]

theorem done_pendingAt (c : Config) (h : c.done = true) (j : Nat) : c.pendingAt j = [] := by
  unfold Config.pendingAt
  cases hj : c.threads[j]? with
  | none => rfl
  | some t =>
    have hm : t ∈ c.threads := List.mem_of_getElem? hj
    have := (List.all_eq_true.mp h) t hm
    simpa using this

theorem init_pendingAt (w : Word) (ops : List (List Op)) (j : Nat) : (Config.init w ops).pendingAt j = ops[j]?.getD [] := by
  simp only [Config.pendingAt, Config.init, List.getElem?_map, Option.map_map]
  cases ops[j]? <;> rfl

/-! ### bits evolve independently under a sequential list of calls -/

/-- a word is zero exactly when no bit of it is set -/
theorem eq_zero_iff_getLsbD (w : Word) : w = 0 ↔ ∀ i, w.getLsbD i = false :=
  ⟨fun h i => by rw [h]; simp, fun h => BitVec.eq_of_getLsbD_eq fun i _ => by rw [h i]; simp⟩

theorem ref_getLsbD (op : Op) (w : Word) (i : Nat) :
    (op.ref w).getLsbD i = if op.flag.getLsbD i then op.isSet else w.getLsbD i := by
  cases op with
  | set f =>
    simp only [Op.ref, Op.flag, Op.isSet, BitVec.getLsbD_or]
    by_cases hf : f.getLsbD i = true <;> simp [hf]
  | clear f =>
    simp only [Op.ref, Op.flag, Op.isSet, BitVec.getLsbD_and, BitVec.getLsbD_not]
    by_cases hi : i < 64
    · simp [hi, Bool.and_comm]
    · have h1 : w.getLsbD i = false := BitVec.getLsbD_of_ge _ _ (by omega)
      have h2 : f.getLsbD i = false := BitVec.getLsbD_of_ge _ _ (by omega)
      simp [h1, h2]

theorem applyAll_getLsbD (w : Word) (l : List (Nat × Op)) (i : Nat) :
    (applyAll w l).getLsbD i = bitRun i (w.getLsbD i) (l.map (·.2)) := by
  rw [bitRun, List.foldl_map]
  exact (List.foldl_hom (fun w : Word => w.getLsbD i) fun w e => by rw [apply_eq_ref, ref_getLsbD]).symm

theorem bitRun_cons (i : Nat) (b : Bool) (op : Op) (r : List Op) :
    bitRun i b (op :: r) = bitRun i (if op.flag.getLsbD i then op.isSet else b) r := rfl

/-- calls that do not name bit `i` can be dropped from the sequence without changing bit `i` -/
theorem bitRun_named (i : Nat) (b : Bool) (l : List Op) : bitRun i b l = bitRun i b (l.filter (·.flag.getLsbD i)) := by
  rw [bitRun, bitRun, List.foldl_filter]
  congr
  funext b op
  cases op.flag.getLsbD i <;> rfl

theorem bitRun_untouched (i : Nat) (b : Bool) (l : List Op) (h : ∀ op ∈ l, op.flag.getLsbD i = false) :
    bitRun i b l = b := by
  rw [bitRun_named, List.filter_eq_nil_iff.mpr fun op hop => by rw [h op hop]; exact Bool.false_ne_true]
  rfl

/-- if only thread `t` names bit `i`, the log and `t`'s part of it name bit `i` in the same calls -/
theorem bitRun_filter (i : Nat) (b : Bool) (l : List (Nat × Op)) (t : Nat)
    (h : ∀ e ∈ l, e.2.flag.getLsbD i = true → e.1 = t) :
    bitRun i b (l.map (·.2)) = bitRun i b (proj t l) := by
  rw [bitRun_named, bitRun_named i b (proj t l), proj, List.filter_map, List.filter_map, List.filter_filter]
  congr 2
  apply List.filter_congr
  intro e he
  cases hb : e.2.flag.getLsbD i
  · simp [hb]
  · simp [hb, h e he hb]

/-! ### the executable predicate accepts every trace of the CAS-loop shape -/

theorem linCheck_trace_cas (c : Config) (s : List Nat) (hd : (c.run casLoopP s).done = true) :
    linCheck c.pending c.word (c.trace casLoopP s) = true := by
  induction s generalizing c with
  | nil =>
    simp only [Config.trace, linCheck]
    simpa [Config.run, Config.done, Config.pending, List.all_map] using hd
  | cons i s ih =>
    have ih' := ih (c.step casLoopP i).1 (by simpa [Config.run] using hd)
    simp only [Config.trace, linCheck, Bool.or_eq_true, Bool.and_eq_true, beq_iff_eq]
    rcases config_step_cases c i with ⟨_, hw, hp⟩ | ⟨op, r, _, hpi, hw, hp⟩
    · rw [hp, hw] at ih'
      exact .inl ⟨hw, ih'⟩
    · rw [hp] at ih'
      refine .inr (List.any_eq_true.mpr ⟨i, List.mem_range.mpr (List.getElem?_eq_some_iff.mp hpi).1, ?_⟩)
      rw [hpi]
      simp only [Bool.and_eq_true, beq_iff_eq]
      exact ⟨by rw [hw, apply_eq_ref], ih'⟩

/-! ### a completing schedule exists from every reachable configuration (non-vacuity of "runs to completion", and
lock-freedom: a thread that is scheduled alone completes its call in at most three steps) -/

/-- reachable control states of the CAS-loop shape -/
def Config.WF (c : Config) : Prop := ∀ t ∈ c.threads, t.pc ≤ 1

theorem run_append (P : Op → Prog) (c : Config) (a b : List Nat) : c.run P (a ++ b) = (c.run P a).run P b := by
  induction a generalizing c with
  | nil => rfl
  | cons i a ih => simp only [List.cons_append, Config.run]; exact ih _

theorem getElem?_set_of_some {α : Type} (l : List α) (i : Nat) (t t' : α) (h : l[i]? = some t) : (l.set i t')[i]? = some t' :=
  List.getElem?_set_self (List.getElem?_eq_some_iff.mp h).1

/-- thread `t` performs `n` atomic accesses in a row against the word `w`: what a schedule `replicate n i` does -/
def Thread.solo (P : Op → Prog) : Nat → Word → Thread → Word × Thread
  | 0, w, t => (w, t)
  | n + 1, w, t => Thread.solo P n (t.step P w).1 (t.step P w).2.1

theorem run_replicate (P : Op → Prog) (n i : Nat) (c : Config) (t : Thread) (h : c.threads[i]? = some t) :
    c.run P (List.replicate n i) = ⟨(t.solo P n c.word).1, c.threads.set i (t.solo P n c.word).2⟩ := by
  induction n generalizing c t with
  | zero => rw [Thread.solo, set_same _ _ _ h]; rfl
  | succ n ih =>
    have hs : (c.step P i).1 = ⟨(t.step P c.word).1, c.threads.set i (t.step P c.word).2.1⟩ := by
      simp only [Config.step, h]
    rw [List.replicate_succ, Config.run, hs, ih _ _ (getElem?_set_of_some _ _ _ _ h), List.set_set, Thread.solo]

/-- a thread inside a call (control state reachable for the CAS loop) that runs alone completes the call within three
accesses: (load,) CAS, and after a failed CAS load and CAS again -/
theorem solo_call (w : Word) (op : Op) (rest : List Op) (pc : Nat) (reg : Word) (hpc : pc ≤ 1) :
    ∃ n r', Thread.solo casLoopP n w ⟨op :: rest, pc, reg⟩ = (op.apply w, ⟨rest, 0, r'⟩) := by
  match pc, hpc with
  | 0, _ => exact ⟨2, w, by simp [Thread.solo, Thread.step, casLoopP, Thread.next]⟩
  | 1, _ =>
    by_cases hw : w = reg
    · exact ⟨1, reg, by simp [Thread.solo, Thread.step, casLoopP, hw]⟩
    · exact ⟨3, w, by simp [Thread.solo, Thread.step, casLoopP, Thread.next, hw]⟩

theorem exists_complete_cas (c : Config) (hwf : c.WF) : ∃ s, (c.run casLoopP s).done = true := by
  obtain ⟨s, hs⟩ := Lemmas.Schedule.exists_run_cost_zero Config.threads (Config.run casLoopP) (·.ops.length) Config.WF
    (fun _ => rfl) (run_append casLoopP) (fun c i t hwf hi hpos => by
      obtain ⟨_ | ⟨op, rest⟩, pc, reg⟩ := t
      · cases hpos
      · obtain ⟨n, r', hn⟩ := solo_call c.word op rest pc reg (hwf _ (List.mem_of_getElem? hi))
        refine ⟨List.replicate n i, ⟨rest, 0, r'⟩, ?_⟩
        rw [run_replicate _ _ _ _ _ hi, hn]
        exact ⟨rfl, Nat.lt_succ_self _, Lemmas.Schedule.forall_mem_set hwf i (Nat.zero_le 1)⟩) _ c hwf rfl
  exact ⟨s, List.all_eq_true.mpr fun t ht => List.isEmpty_iff.mpr (List.length_eq_zero_iff.mp (hs t ht))⟩

theorem init_WF (w : Word) (ops : List (List Op)) : (Config.init w ops).WF := by
  exact List.forall_mem_map.mpr fun _ _ => Nat.zero_le 1

end MosnVerif.Model.HealthFlags
