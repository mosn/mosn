import MosnVerif.Model.DispatchLoop
import MosnVerif.Lemmas.TurnLoop
/-! The dispatch loop returns on every buffer: the measure is the length of the read buffer. -/
namespace MosnVerif.Lemmas.DispatchLoop
open MosnVerif.Model.DispatchLoop

theorem run_sound (p : Policy) (dec : List UInt8 → DStep) :
    ∀ (fuel : Nat) (c c' : Cfg), run p dec fuel c = some c' → Returns p dec c c' :=
  TurnLoop.sound (fun _ => rfl) (fun _ _ => rfl) (fun _ => .done) (fun _ _ => .more)

/-- the variant: with a safe policy and a decoder that makes progress, a turn that goes round again has shortened the
buffer; every turn makes at most one Decode call and never one on an empty buffer -/
theorem turn_measure (p : Policy) (dec : List UInt8 → DStep) (hp : p.Safe) (hd : Progress dec) (c : Cfg)
    (ha : (turn p dec c).2 = true) :
    (turn p dec c).1.buf.length < c.buf.length ∧ (turn p dec c).1.calls = c.calls + 1 := by
  obtain ⟨h1, h2, h3, h4⟩ := hp
  revert ha
  fun_cases turn p dec c with
  | case1 => rw [h1]; nofun
  | case2 => rw [h2]; nofun
  | case3 => rw [h3]; nofun
  | case4 => rw [h4]; nofun
  | case5 he n hs =>
    have := hd _ _ hs
    have hne : 0 < c.buf.length := List.length_pos_iff.2 fun hb => he (by rw [hb]; rfl)
    exact fun _ => ⟨by simp only [List.length_drop]; omega, rfl⟩

/-- a turn makes at most one Decode call, none on an empty buffer, and never enlarges the buffer -/
theorem turn_le (p : Policy) (dec : List UInt8 → DStep) (c : Cfg) :
    (turn p dec c).1.calls ≤ c.calls + min 1 c.buf.length ∧ (turn p dec c).1.buf.length ≤ c.buf.length := by
  unfold turn
  cases hb : c.buf with
  | nil => simp [hb]
  | cons a t => cases dec (a :: t) <;> simp [List.length_drop] <;> omega

/-- the loop returns within `|buf| + 1` turns, after at most `|buf|` Decode calls, never enlarging the buffer -/
theorem run_terminates (p : Policy) (dec : List UInt8 → DStep) (hp : p.Safe) (hd : Progress dec) :
    ∀ (n : Nat) (c : Cfg), c.buf.length ≤ n →
      ∃ c', run p dec (n + 1) c = some c' ∧ c'.calls ≤ c.calls + c.buf.length ∧ c'.buf.length ≤ c.buf.length := by
  refine TurnLoop.total (turn := turn p dec) (fun _ _ => rfl) _ _
    (fun c ht => (turn_measure p dec hp hd c ht).1) (fun c _ => ⟨?_, (turn_le p dec c).2⟩) (fun c c' ht hq => ?_)
  · have := (turn_le p dec c).1
    omega
  · have := turn_measure p dec hp hd c ht
    exact ⟨by omega, by omega⟩

/-- a buffer that a turn reproduces with "again" is never left: Dispatch does not return -/
theorem fixed_point_diverges (p : Policy) (dec : List UInt8 → DStep) (buf : List UInt8)
    (hfix : ∀ k, (turn p dec ⟨buf, k⟩) = (⟨buf, k + 1⟩, true)) :
    ∀ c0 c', Returns p dec c0 c' → c0.buf = buf → False := by
  intro c0 c' h
  induction h with
  | @done c1 hf =>
    rintro rfl
    rw [hfix c1.calls] at hf
    cases hf
  | @more c1 c2 _ _ ih =>
    rintro rfl
    exact ih (by rw [hfix c1.calls])

end MosnVerif.Lemmas.DispatchLoop
