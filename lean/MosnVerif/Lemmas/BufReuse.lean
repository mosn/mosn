import MosnVerif.Model.BufReuse
namespace MosnVerif.Model.BufReuse
open MosnVerif.Gen.BufReset

theorem clearsPart_of_full {c : BufCtx} (hf : fullReset c = true) {f : String} (hm : c.fields.contains f = true)
    (sub : String) : clearsPart c f sub = true := by
  unfold fullReset at hf
  unfold clearsPart
  cases hw : c.whole with
  | true => simp
  | false =>
    rw [hw] at hf
    simp only [Bool.false_or, List.all_eq_true] at hf
    have hmem : f ∈ c.fields := by
      simpa using hm
    have := hf f hmem
    rw [this]; simp

theorem resetObj_full {c : BufCtx} (hf : fullReset c = true) (hc : covers c = true) (o : Obj) :
    resetObj c o = Obj.zero := by
  have hc' : ∀ f ∈ msgFields, ∀ sub, clearsPart c f sub = true := fun f hm =>
    clearsPart_of_full hf (List.all_eq_true.mp hc f hm)
  simp only [msgFields, List.forall_mem_cons, List.not_mem_nil, false_imp_iff, implies_true, and_true] at hc'
  simp [resetObj, keep, Obj.zero, hc']

/-- on a clean object every party receives only its own exchange's tokens -/
theorem serve_zero_own (e : Ex) : ownOut e (serve Obj.zero e).2 = true := by
  obtain ⟨k, fwd, head, reqBody, ans, direct, status⟩ := e
  -- clause by clause (status, response header, response body, upstream request): each reads few of the inputs
  simp only [ownOut, serve, Obj.zero, Bool.and_eq_true]
  refine ⟨⟨⟨?_, ?_⟩, ?_⟩, ?_⟩
  · simp
  · cases fwd <;> rcases ans with _ | _ <;> simp
  · cases fwd <;> cases head <;> rcases ans with _ | (_ | _) <;> cases direct <;> simp [expectedBody]
  · cases fwd <;> cases reqBody <;> simp

def allZero (pool : List Obj) : Prop := ∀ o ∈ pool, o = Obj.zero

theorem takeObj_zero {pool : List Obj} (h : allZero pool) (pick : Nat) :
    (takeObj pool pick).1 = Obj.zero ∧ allZero (takeObj pool pick).2 := by
  unfold takeObj
  cases hp : pool[pick]? with
  | none => exact ⟨rfl, h⟩
  | some o =>
    refine ⟨h o (List.mem_of_getElem? hp), ?_⟩
    intro x hx
    exact h x (List.mem_of_mem_eraseIdx hx)

theorem step_zero {c : BufCtx} (hf : fullReset c = true) (hc : covers c = true) {pool : List Obj} (h : allZero pool)
    (x : Ex × Nat) : allZero (step c pool x).1 ∧ (step c pool x).2 = (serve Obj.zero x.1).2 := by
  have ht := takeObj_zero h x.2
  constructor
  · intro o ho
    simp only [step, List.mem_cons] at ho
    rcases ho with ho | ho
    · rw [ho]; exact resetObj_full hf hc _
    · exact ht.2 o ho
  · simp only [step, ht.1]

theorem run_zero {c : BufCtx} (hf : fullReset c = true) (hc : covers c = true) :
    ∀ (xs : List (Ex × Nat)) (pool : List Obj), allZero pool →
      run c pool xs = xs.map (fun x => (serve Obj.zero x.1).2) := by
  intro xs
  induction xs with
  | nil => intro _ _; rfl
  | cons x xs ih =>
    intro pool h
    have hs := step_zero hf hc h x
    simp only [run, List.map_cons, hs.2, ih _ hs.1]

end MosnVerif.Model.BufReuse
