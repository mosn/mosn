import MosnVerif.Lemmas.ConfigCodec
/-! Fixpoint laws of the custom (Un)MarshalJSON pairs (C19). -/
namespace MosnVerif.Model.ConfigCodec
open MosnVerif.Model MosnVerif.Model.GoDuration

theorem fc_keysOK (tls filter : Shape) (h1 : keysOK tls = true) (h2 : keysOK filter = true) (h3 : ptrElemOK tls = true) :
    keysOK (fcShape tls filter) = true := by
  have hk : (["match", "tls_context", "tls_context_set", "filters"].map fold).Pairwise (· ≠ ·) := by decide +kernel
  simp only [List.map, List.pairwise_cons, List.mem_cons, List.not_mem_nil, or_false, forall_eq_or_imp, forall_eq] at hk
  obtain ⟨⟨e1, e2, e3⟩, ⟨e4, e5⟩, e6, -⟩ := hk
  simp [fcShape, keysOK, keysOKF, Fields.keys, h1, h2, h3, e1.symm, e2.symm, e3.symm, e4.symm, e5.symm, e6.symm]

theorem host_keysOK : keysOK hostShape = true := by decide +kernel

/-- **Host**: the metadata is rebuilt from `MetaData` on every `MarshalJSON`, non-string `mosn.lb` values are dropped by
the first `UnmarshalJSON`; after that the pair is at a fixpoint. -/
theorem host_fixpoint (w : Json) (x : HostV) (hU : hostU w = some x) :
    ∃ y, hostU (hostM x) = some y ∧ hostM y = hostM x := by
  have hk := host_keysOK
  revert hU
  fun_cases hostU w with
  | case1 a h wgt md t hdec =>
    intro hU
    have hw := dw _ hk w _ hdec
    simp only [hostShape, wt, wtF, Bool.and_eq_true, Bool.and_true] at hw
    obtain ⟨hwa, hwh, hww, _, hwt⟩ := hw
    have hx := (Option.some.inj hU).symm
    have hmd : (x.md.map (·.1)).Nodup := by
      rw [hx]; simp only []
      split
      · exact toMeta_nodup _
      · simp
    have hcfg : x.cfg = .struct [a, h, wgt, .ptr md, t] := by rw [hx]
    have hM : hostM x = encode hostShape (.struct [a, h, wgt, fromMeta x.md, t]) := by simp [hostM, hcfg]
    have hwc1 : wt hostShape (.struct [a, h, wgt, fromMeta x.md, t]) = true := by
      simp only [hostShape, wt, wtF, Bool.and_eq_true, Bool.and_true]
      exact ⟨hwa, hwh, hww, wt_fromMeta x.md, hwt⟩
    have hrt := rt _ hk _ hwc1
    have hen := en _ _ hwc1
    have hnorm : norm hostShape (.struct [a, h, wgt, fromMeta x.md, t]) =
        .struct [(if isEmpty a then zero .str else norm .str a), (if isEmpty h then zero .str else norm .str h),
                 (if isEmpty wgt then zero .num else norm .num wgt), fromMeta x.md,
                 (if isEmpty t then zero .bool else norm .bool t)] := by
      have hnm := norm_fromMeta x.md
      simp only [metaShape, Bool.true_and] at hnm
      simp only [hostShape, norm, normF, Bool.true_and, hnm]
    refine ⟨⟨norm hostShape (.struct [a, h, wgt, fromMeta x.md, t]), x.md⟩, ?_, ?_⟩
    · rw [hM]
      unfold hostU
      rw [hrt, hnorm]
      by_cases he : x.md = []
      · simp [fromMeta, he]
      · have he' : x.md.isEmpty = false := by cases hq : x.md <;> simp_all
        simp [fromMeta, he', toMeta_fromMeta x.md hmd]
    · rw [hM, ← hen, hnorm]
      simp [hostM]
  | case2 => nofun

theorem decodeL_nums : (cs : List String) → decodeL (decode .num) (cs.map Json.num) = some (cs.map CVal.num)
  | [] => by simp [decodeL]
  | c :: r => by simp [decodeL, decode, decodeL_nums r]

theorem filterMap_nums (cs : List String) :
    (cs.map CVal.num).filterMap (fun c => match c with | .num l => some l | _ => none) = cs := by
  rw [List.filterMap_map]
  exact List.filterMap_some

theorem retry_readback (x : RetryV) (hd : durU (.str (fmtDur x.timeout)) = some x.timeout) :
    retryU (retryM x) = some ⟨x.on, x.timeout, x.num, x.codes.isEmpty, x.codes⟩ := by
  have hk : (["retry_on", "retry_timeout", "num_retries", "status_codes"].map fold).Pairwise (· ≠ ·) := by decide +kernel
  simp only [List.map, List.pairwise_cons, List.mem_cons, List.not_mem_nil, or_false, forall_eq_or_imp, forall_eq] at hk
  obtain ⟨⟨f1, f2, f3⟩, ⟨f4, f5⟩, f6, -⟩ := hk
  obtain ⟨on, d, n, nl, cs⟩ := x
  simp only at hd
  cases on <;> by_cases hn : n = "0" <;> cases cs <;>
    simp [retryU, retryM, lookupLast, hn, hd, f1, f2, f3, f4, f5, f6, f1.symm, f2.symm, f3.symm, f4.symm, f5.symm, f6.symm,
      decode, codesShape, decodeL_nums, decodeL] <;> exact List.filterMap_map.symm.trans (filterMap_nums _)

end MosnVerif.Model.ConfigCodec
