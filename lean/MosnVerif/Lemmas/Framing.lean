import MosnVerif.Model.Framing
import MosnVerif.Model.FrameSpec
/-! The dispatch loop of a prefix-stable decoder: what it hands on depends only on the concatenation of the chunks (core Lean only). -/
namespace MosnVerif.Model.Framing

variable {F : Type}

/-- `h` answers `w` ("wait") while it has not seen enough; any other answer is final on every extension of the buffer.
The extension clauses of `Stable`, `HdrStable`, `SStable`, `PStable` and `Match.Monotone` all say this. -/
def Final {ρ : Type} (w : ρ) (h : Bytes → ρ) : Prop := ∀ p e, h p ≠ w → h (p ++ e) = h p

/-- a final answer, spelt as an extension clause -/
theorem Final.ext {ρ : Type} {w r : ρ} {h : Bytes → ρ} (hf : Final w h) {p : Bytes} (hp : h p = r) (hr : r ≠ w) (e : Bytes) :
    h (p ++ e) = r := by
  rw [hf p e (hp ▸ hr), hp]

/-- … and read backwards: what `h` answers on a prefix of `b`, unless it waits there, it answers on `b` -/
theorem Final.take {ρ : Type} {w : ρ} {h : Bytes → ρ} (hf : Final w h) (b : Bytes) (n : Nat) (hn : h (b.take n) ≠ w) :
    h (b.take n) = h b := by
  rw [← hf (b.take n) (b.drop n) hn, List.take_append_drop]

theorem Final.of_step {d : Bytes → Step F} (ext : ∀ p f n e, d p = .frame f n → d (p ++ e) = .frame f n)
    (errExt : ∀ p e, d p = .error → d (p ++ e) = .error) : Final .needMore d := fun p e h => by
  cases hd : d p with
  | needMore => exact absurd hd h
  | error => exact errExt p e hd
  | frame f n => exact ext p f n e hd

theorem Stable.final {d : Bytes → Step F} (hs : Stable d) : Final .needMore d := .of_step hs.ext hs.errExt

theorem Stable.of_final {d : Bytes → Step F} (pos : ∀ p f n, d p = .frame f n → 0 < n ∧ n ≤ p.length)
    (final : Final .needMore d) : Stable d :=
  ⟨pos, fun _ _ _ e hp => final.ext hp nofun e, fun _ e hp => final.ext hp nofun e⟩

theorem HdrStable.final {h : Bytes → Hdr} (hh : HdrStable h) : Final .needMore h := fun p e hne => by
  cases hd : h p with
  | needMore => exact absurd hd hne
  | error => exact hh.errExt p e hd
  | len n => exact hh.ext p n e hd

theorem HdrStable.of_final {h : Bytes → Hdr} (pos : ∀ p n, h p = .len n → 0 < n ∧ n ≤ p.length)
    (final : Final .needMore h) : HdrStable h :=
  ⟨pos, fun _ _ e hp => final.ext hp nofun e, fun _ e hp => final.ext hp nofun e⟩

theorem drain_fuel (d : Bytes → Step F) (hs : Stable d) :
    ∀ (f1 f2 : Nat) (b : Bytes), b.length < f1 → b.length < f2 → drain d f1 b = drain d f2 b := by
  intro f1
  induction f1 with
  | zero => intro f2 b h; omega
  | succ k ih =>
    intro f2 b h1 h2
    cases f2 with
    | zero => omega
    | succ k2 =>
      unfold drain
      by_cases hb : b.isEmpty
      · simp [hb]
      · simp only [hb, Bool.false_eq_true, ↓reduceIte]
        cases hstep : d b with
        | needMore => rfl
        | error => rfl
        | frame f n =>
          have ⟨hn0, hnl⟩ := hs.pos b f n hstep
          have hl : (b.drop n).length < k := by simp [List.length_drop]; omega
          have hl2 : (b.drop n).length < k2 := by simp [List.length_drop]; omega
          simp only [ih k2 (b.drop n) hl hl2]

/-- the dispatch loop with sufficient fuel -/
def drainAll (d : Bytes → Step F) (b : Bytes) : List F × Bytes × Bool := drain d (b.length + 1) b

theorem drainAll_of_fuel (d : Bytes → Step F) (hs : Stable d) (fuel : Nat) (b : Bytes) (h : b.length < fuel) :
    drain d fuel b = drainAll d b :=
  drain_fuel d hs fuel (b.length + 1) b h (by omega)

theorem drainAll_nil (d : Bytes → Step F) : drainAll d [] = ([], [], false) := by
  simp [drainAll, drain]

theorem drainAll_needMore (d : Bytes → Step F) (b : Bytes) (h : d b = .needMore) : drainAll d b = ([], b, false) := by
  unfold drainAll drain
  by_cases hb : b.isEmpty
  · simp [hb]
  · simp [hb, h]

theorem drainAll_error (d : Bytes → Step F) (b : Bytes) (hb : b ≠ []) (h : d b = .error) :
    drainAll d b = ([], b, true) := by
  unfold drainAll drain
  have : b.isEmpty = false := by cases b <;> simp_all
  simp [this, h]

theorem drainAll_frame (d : Bytes → Step F) (hs : Stable d) (b : Bytes) (f : F) (n : Nat) (h : d b = .frame f n) :
    drainAll d b = (f :: (drainAll d (b.drop n)).1, (drainAll d (b.drop n)).2) := by
  have ⟨hn0, hnl⟩ := hs.pos b f n h
  have hl : (b.drop n).length < b.length := by simp [List.length_drop]; omega
  have := drainAll_of_fuel d hs b.length (b.drop n) hl
  unfold drainAll at *
  rw [drain]
  have he : b.isEmpty = false := by cases b <;> simp_all
  simp only [he, Bool.false_eq_true, ↓reduceIte, h, this]

/-- key lemma: draining `b ++ e` = the frames of `b`, then draining `residue ++ e` (or, after a failure, nothing more) -/
theorem drainAll_append (d : Bytes → Step F) (hs : Stable d) (b e : Bytes) :
    drainAll d (b ++ e) =
      if (drainAll d b).2.2 then ((drainAll d b).1, (drainAll d b).2.1 ++ e, true)
      else ((drainAll d b).1 ++ (drainAll d ((drainAll d b).2.1 ++ e)).1, (drainAll d ((drainAll d b).2.1 ++ e)).2) := by
  induction hk : b.length using Nat.strongRecOn generalizing b with
  | _ k ih =>
    by_cases hnil : b = []
    · subst hnil; simp [drainAll_nil]
    · have hne : b ++ e ≠ [] := by simp [hnil]
      cases hstep : d b with
      | needMore => simp [drainAll_needMore d b hstep]
      | error =>
        rw [drainAll_error d b hnil hstep, drainAll_error d (b ++ e) hne (hs.errExt b e hstep)]
        simp
      | frame f n =>
        have ⟨hn0, hnl⟩ := hs.pos b f n hstep
        have hext := hs.ext b f n e hstep
        have hdrop : (b ++ e).drop n = b.drop n ++ e := List.drop_append_of_le_length hnl
        rw [drainAll_frame d hs (b ++ e) f n hext, hdrop,
          ih (b.drop n).length (by rw [List.length_drop]; omega) (b.drop n) rfl, drainAll_frame d hs b f n hstep]
        by_cases hf : (drainAll d (b.drop n)).2.2 <;> simp [hf]

theorem feed_eq (d : Bytes → Step F) (c : Conn F) (x : Bytes) :
    feed d c x = if c.failed then { c with buf := c.buf ++ x } else
      { buf := (drainAll d (c.buf ++ x)).2.1, out := c.out ++ (drainAll d (c.buf ++ x)).1,
        failed := (drainAll d (c.buf ++ x)).2.2 } := rfl

theorem feed_feed (d : Bytes → Step F) (hs : Stable d) (c : Conn F) (x y : Bytes) :
    feed d (feed d c x) y = feed d c (x ++ y) := by
  by_cases hc : c.failed
  · simp [feed_eq, hc]
  · have hx := drainAll_append d hs (c.buf ++ x) y
    rw [feed_eq d c x, feed_eq d c (x ++ y)]
    simp only [hc, Bool.false_eq_true, ↓reduceIte]
    rw [← List.append_assoc, hx, feed_eq]
    by_cases hf : (drainAll d (c.buf ++ x)).2.2
    · simp [hf]
    · simp [hf]

/-- a feed that composes over concatenation composes over a whole list of chunks (both dispatch loops) -/
theorem foldl_act {γ : Type} {f : γ → Bytes → γ} (hf : ∀ c x y, f (f c x) y = f c (x ++ y)) (xs : List Bytes) (c : γ)
    (x : Bytes) : xs.foldl f (f c x) = f c (x ++ xs.flatten) := by
  induction xs generalizing x with
  | nil => simp
  | cons y ys ih => simp only [List.foldl_cons, List.flatten_cons]; rw [hf, ih, List.append_assoc]

theorem feed_init_nil (d : Bytes → Step F) : feed d (Conn.init : Conn F) [] = Conn.init := by
  simp [feed, Conn.init, drain]

theorem run_eq_feed (d : Bytes → Step F) (hs : Stable d) (chunks : List Bytes) :
    run d chunks = feed d Conn.init chunks.flatten := by
  cases chunks with
  | nil => simp [run, feed_init_nil]
  | cons x xs => simp only [run, List.foldl_cons, List.flatten_cons]; exact foldl_act (feed_feed d hs) xs _ x

/-- the envelope waits exactly when its header stage waits -/
theorem envelope_needMore {h : Bytes → Hdr} {ok : Bytes → Bool} {p : Bytes} :
    envelope h ok p = .needMore ↔ h p = .needMore := by
  unfold envelope
  split
  · simp [*]
  · simp [*]
  · split <;> simp [*]

theorem envelope_stable (h : Bytes → Hdr) (hh : HdrStable h) (ok : Bytes → Bool) : Stable (envelope h ok) := by
  refine .of_final (fun p f n hd => ?_) (fun p e hd => ?_)
  · unfold envelope at hd
    split at hd <;> try (simp at hd)
    rename_i m hm
    split at hd <;> simp at hd
    exact hd.2 ▸ hh.pos p m hm
  · have hne : h p ≠ .needMore := mt envelope_needMore.2 hd
    unfold envelope
    rw [hh.final p e hne]
    cases hm : h p with
    | len m => simp only [List.take_append_of_le_length (hh.pos p m hm).2]
    | _ => rfl

/-- a stream made of frames each of which the decoder accepts in isolation (raw bytes, what is handed on), followed by a
tail on which the decoder asks for more data, dispatches to exactly those frames, in order, each once, and leaves exactly
the tail. -/
theorem drainAll_frames (d : Bytes → Step F) (hs : Stable d) (fs : List (Bytes × F)) (t : Bytes)
    (hv : ∀ f ∈ fs, d f.1 = .frame f.2 f.1.length) (ht : t = [] ∨ d t = .needMore) :
    drainAll d ((fs.map (·.1)).flatten ++ t) = (fs.map (·.2), t, false) := by
  induction fs with
  | nil =>
    rcases ht with rfl | ht
    · simp [drainAll_nil]
    · simpa using drainAll_needMore d t ht
  | cons f fs ih =>
    have hf := hv f (by simp)
    have hext := hs.ext f.1 f.2 f.1.length ((fs.map (·.1)).flatten ++ t) hf
    simp only [List.map_cons, List.flatten_cons, List.append_assoc]
    rw [drainAll_frame d hs _ f.2 f.1.length hext, List.drop_left,
      ih (fun g hg => hv g (by simp [hg]))]

/-- … in any segmentation -/
theorem run_frames (d : Bytes → Step F) (hs : Stable d) (fs : List (Bytes × F)) (t : Bytes)
    (hv : ∀ f ∈ fs, d f.1 = .frame f.2 f.1.length) (ht : t = [] ∨ d t = .needMore)
    (chunks : List Bytes) (hc : chunks.flatten = (fs.map (·.1)).flatten ++ t) :
    run d chunks = { buf := t, out := fs.map (·.2), failed := false } := by
  rw [run_eq_feed d hs chunks, hc, feed_eq]
  simp only [Conn.init, Bool.false_eq_true, ↓reduceIte, List.nil_append]
  rw [drainAll_frames d hs fs t hv ht]

/-- on a proper prefix of a frame that the decoder accepts, a prefix-stable decoder can only ask for more data -/
theorem prefix_needMore (d : Bytes → Step Bytes) (hs : Stable d) (g : Bytes) (hg : d g = .frame g g.length)
    (k : Nat) (hk : k < g.length) : d (g.take k) = .needMore := by
  refine Classical.byContradiction fun hne => ?_
  -- an answer on the prefix would be the answer on `g`: a frame of more bytes than the prefix has
  have := (hs.pos _ g g.length ((hs.final.take g k hne).trans hg)).2
  rw [List.length_take] at this
  omega

/-- an incomplete tail: empty, or a proper prefix of an acceptable frame -/
def TailOk (d : Bytes → Step Bytes) (t : Bytes) : Prop :=
  t = [] ∨ ∃ g m, d g = .frame g g.length ∧ m < g.length ∧ t = g.take m

theorem tailOk_take (d : Bytes → Step Bytes) (hs : Stable d) (t : Bytes) (ht : TailOk d t) (k : Nat) :
    drainAll d (t.take k) = ([], t.take k, false) := by
  rcases ht with rfl | ⟨g, m, hg, hm, rfl⟩
  · simp [drainAll_nil]
  · rw [List.take_take]
    exact drainAll_needMore d _ (prefix_needMore d hs g hg _ (by omega))

theorem tailOk_needMore (d : Bytes → Step Bytes) (hs : Stable d) (t : Bytes) (ht : TailOk d t) :
    t = [] ∨ d t = .needMore := by
  rcases ht with rfl | ⟨g, m, hg, hm, rfl⟩
  · left; rfl
  · right; exact prefix_needMore d hs g hg m hm

open MosnVerif.Model.FrameSpec (completeBy splitBy)

theorem completeBy_le (ls : List Nat) (k : Nat) : completeBy ls k ≤ ls.length := by
  induction ls generalizing k with
  | nil => simp [completeBy]
  | cons n ns ih =>
    simp only [completeBy, List.length_cons]
    split
    · have := ih (k - n); omega
    · omega

theorem splitBy_flatten (fs : List Bytes) (t : Bytes) : splitBy (fs.flatten ++ t) (fs.map List.length) = (fs, t) := by
  induction fs with
  | nil => simp [splitBy]
  | cons f fs ih => simp [splitBy, ih]

/-- after receiving only the first `k` bytes of a stream of acceptable frames (+ incomplete tail), exactly the frames
that lie wholly inside those `k` bytes have been handed on; the rest — an incomplete frame — is untouched in the buffer -/
theorem drainAll_prefix (d : Bytes → Step Bytes) (hs : Stable d) (t : Bytes) (ht : TailOk d t) :
    ∀ (fs : List Bytes) (k : Nat), (∀ f ∈ fs, d f = .frame f f.length) →
      (drainAll d ((fs.flatten ++ t).take k)).1 = fs.take (completeBy (fs.map List.length) k) ∧
      (drainAll d ((fs.flatten ++ t).take k)).2.2 = false ∧
      (fs.take (completeBy (fs.map List.length) k)).flatten ++ (drainAll d ((fs.flatten ++ t).take k)).2.1
        = (fs.flatten ++ t).take k := by
  intro fs
  induction fs with
  | nil =>
    intro k _
    simp [completeBy, tailOk_take d hs t ht k]
  | cons f fs ih =>
    intro k hv
    have hf := hv f (by simp)
    simp only [List.flatten_cons, List.append_assoc, List.map_cons, completeBy]
    by_cases hk : f.length ≤ k
    · have htake : (f ++ (fs.flatten ++ t)).take k = f ++ (fs.flatten ++ t).take (k - f.length) := by
        rw [List.take_append]; simp [List.take_of_length_le hk]
      have hext := hs.ext f f f.length ((fs.flatten ++ t).take (k - f.length)) hf
      have ⟨i1, i2, i3⟩ := ih (k - f.length) (fun g hg => hv g (by simp [hg]))
      rw [htake, drainAll_frame d hs _ f f.length hext, List.drop_left]
      simp only [hk, ↓reduceIte, Nat.add_comm 1, List.take_succ_cons, List.flatten_cons, List.append_assoc]
      exact ⟨by rw [i1], i2, by rw [i3]⟩
    · have hlt : k < f.length := by omega
      have htake : (f ++ (fs.flatten ++ t)).take k = f.take k := by
        rw [List.take_append]; simp [Nat.sub_eq_zero_of_le (Nat.le_of_lt hlt)]
      rw [htake, drainAll_needMore d _ (prefix_needMore d hs f hf k hlt)]
      simp [hk]

end MosnVerif.Model.Framing
