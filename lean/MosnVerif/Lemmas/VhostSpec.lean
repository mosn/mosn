import MosnVerif.Lemmas.VhostTable
import MosnVerif.Lemmas.KeyedList
import MosnVerif.Model.VhostCase
/-!
The fast index follows the route list, and the `vht` cases of the harness (one lookup concurrent with
`RemoveAllRoutes; AddRoute new₀; …`): the tables the writer calls publish in issue order are the reference tables of
`Model/VhostSpec.lean`.
-/
namespace MosnVerif.Model.VhostTable
open MosnVerif.Gen.VhostLocks MosnVerif.Model

variable {α K : Type} [DecidableEq K]

/-- the index entry of every key is the LAST route of the table filed under that key -/
def IndexOk (keyOf : α → Option K) (v : View α K) : Prop :=
  ∀ q, lookupK (some q) v.2 = ((v.1.filter (fun r => keyOf r == some q)).getLast?).toList

theorem indexOk_removeAll (keyOf : α → Option K) (v : View α K) : IndexOk keyOf (removeAllSpec v) := by
  intro q; simp [removeAllSpec, lookupK]

theorem indexOk_add (keyOf : α → Option K) (v : View α K) (x : α) (h : IndexOk keyOf v) :
    IndexOk keyOf (addRouteSpec { route := some x, key := keyOf x } v) := by
  intro q
  have hq := h q
  simp only [addRouteSpec, List.filter_append, List.filter_cons, List.filter_nil]
  cases hk : keyOf x with
  | none =>
    dsimp only at hq ⊢
    have : (none == some q) = false := rfl
    simp only [this, Bool.false_eq_true, if_false, List.append_nil]
    exact hq
  | some k =>
    by_cases e : q = k
    · subst e
      simp [lookupK, upsert]
    · have hne : (some k == some q) = false := by
        simp only [beq_eq_false_iff_ne, ne_eq, Option.some.injEq]
        exact fun x => e x.symm
      simp only [hne, Bool.false_eq_true, if_false, List.append_nil]
      rw [← hq]
      simp only [lookupK, upsert, List.find?_cons]
      have : (k == q) = false := by simp only [beq_eq_false_iff_ne, ne_eq]; exact fun x => e x.symm
      simp only [this]
      rw [Lemmas.KeyedList.find?_filter_ne, if_neg e]

/-- a call that files every added route under `keyOf` of that route -/
def keyed (keyOf : α → Option K) : Call α K → Prop
  | .add r key => key = keyOf r
  | _ => True

theorem indexOk_specOf (keyOf : α → Option K) (cl : Call α K) (hk : keyed keyOf cl) (v : View α K) (h : IndexOk keyOf v) :
    IndexOk keyOf (specOf cl v) := by
  cases cl with
  | add r key => simp only [keyed] at hk; subst hk; exact indexOk_add keyOf v r h
  | removeAll => exact indexOk_removeAll keyOf v
  | entries mt => exact h
  | all mt => exact h
  | kv k => exact h

open VhostSpec

theorem caseCalls_keyed (new : List R) (first : Bool) (q : Nat) (t : Nat) : keyed R.key (caseCalls new first q t) := by
  match t with
  | 0 => cases first <;> simp [caseCalls, keyed]
  | 1 => simp [caseCalls, keyed]
  | t + 2 =>
    simp only [caseCalls]
    cases new[t]? <;> simp [keyed]

/-- the adds in issue order from the table `new.take j` produce the tables `new.take j`, `new.take (j+1)`, … -/
theorem serial_adds (new : List R) (first : Bool) (q : Nat) (n j : Nat) (v : View R Nat) (hj : j + n ≤ new.length)
    (hv : v.1 = new.take j) :
    (serialPubs (fun t => specOf (caseCalls new first q t)) (List.range' (j + 2) n) v).map (·.1) =
      (List.range' j (n + 1)).map (fun i => new.take i) := by
  induction n generalizing j v with
  | zero => simp [serialPubs, hv]
  | succ n ih =>
    rw [List.range'_succ, serialPubs, List.map_cons, List.range'_succ, List.map_cons, hv]
    congr 1
    have hlt : j < new.length := by omega
    have hget : new[j]? = some new[j] := List.getElem?_eq_getElem hlt
    have := ih (j + 1) (specOf (caseCalls new first q (j + 2)) v) (by omega) (by
      simp only [caseCalls, hget, specOf, addRouteSpec, hv]
      rw [List.take_add_one, hget]; rfl)
    simpa [Nat.add_assoc] using this

/-- the routes of every view published by the first `m` writer calls in issue order are one of the reference tables -/
theorem serial_tables (old new : List R) (first : Bool) (q : Nat) (m : Nat) (hm : m ≤ new.length + 1) (v0 : View R Nat)
    (h0 : v0.1 = old) :
    ∀ v ∈ serialPubs (fun t => specOf (caseCalls new first q t)) (List.range' 1 m) v0, v.1 ∈ tables old new := by
  intro v hv
  cases m with
  | zero =>
    simp [serialPubs] at hv
    subst hv
    simp [tables, h0]
  | succ m =>
    rw [List.range'_succ, serialPubs, List.mem_cons] at hv
    rcases hv with e | hv
    · subst e; simp [tables, h0]
    · have hmem : v.1 ∈ (serialPubs (fun t => specOf (caseCalls new first q t)) (List.range' (0 + 2) m)
          (specOf (caseCalls new first q 1) v0)).map (·.1) := List.mem_map.2 ⟨v, hv, rfl⟩
      rw [serial_adds new first q m 0 _ (by omega) (by simp [caseCalls, specOf, removeAllSpec])] at hmem
      obtain ⟨i, hi, hiv⟩ := List.mem_map.1 hmem
      rw [List.mem_range'_1] at hi
      simp only [tables, List.mem_cons, List.mem_map, List.mem_range]
      right
      exact ⟨i, by omega, hiv⟩

end MosnVerif.Model.VhostTable
