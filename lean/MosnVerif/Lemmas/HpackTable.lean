import MosnVerif.Model.HpackTable
import MosnVerif.Lemmas.Fold
/-! Lemmas for the HPACK table model: `lastIdx`/`searchPos` correctness, eviction algebra, per-field and per-block
synchronisation of the encoder and decoder dynamic tables. -/
namespace MosnVerif.Lemmas.HpackTable
open MosnVerif.Model.HpackTable MosnVerif.Model.HpackInt

/-- a non-zero `lastIdx` is the 1-based position of an element satisfying `p`: every step of the scan keeps that -/
theorem lastIdx_spec (p : Entry → Bool) (l : List Entry) (h : lastIdx p l ≠ 0) :
    ∃ e, l[lastIdx p l - 1]? = some e ∧ p e = true := by
  refine (Fold.foldl_inv_mem (P := fun r => r = 0 ∨ ∃ e, l[r - 1]? = some e ∧ p e = true) l.zipIdx ?_ 0 (.inl rfl)).resolve_left h
  rintro acc ⟨e, k⟩ hm hacc
  by_cases hp : p e = true
  · exact .inr ⟨e, by simp only [hp, if_true]; exact List.mk_mem_zipIdx_iff_getElem?.1 hm, hp⟩
  · simp only [hp]; exact hacc

/-- the size field is the sum of the entry sizes -/
def Consistent (t : DynTab) : Prop := t.size = sizeOf' t.ents
where sizeOf' (l : List Entry) : Nat := (l.map entrySize).sum

theorem evictGo_consistent (m : Nat) (l : List Entry) (s : Nat) (hs : s = Consistent.sizeOf' l) :
    (evictGo m l s).2 = Consistent.sizeOf' (evictGo m l s).1 ∧ (evictGo m l s).2 ≤ m := by
  fun_induction evictGo m l s with
  | case1 s => subst hs; exact ⟨rfl, Nat.zero_le _⟩
  | case2 e r s h ih => exact ih (by simp only [Consistent.sizeOf', List.map_cons, List.sum_cons] at hs ⊢; omega)
  | case3 e r s h => exact ⟨hs, by omega⟩

/-- once within `m`, eviction at any `m' ≥ m` changes nothing -/
theorem evictGo_noop (m : Nat) (l : List Entry) (s : Nat) (h : s ≤ m) : evictGo m l s = (l, s) := by
  cases l with
  | nil => simp [evictGo]
  | cons e r => simp only [evictGo]; rw [if_neg (by omega)]

/-- evicting to `m1` and then to `m2` is evicting to the smaller of the two -/
theorem evictGo_evictGo (m1 m2 : Nat) (l : List Entry) (s : Nat) :
    evictGo m2 (evictGo m1 l s).1 (evictGo m1 l s).2 = evictGo (min m1 m2) l s := by
  fun_induction evictGo (min m1 m2) l s with
  | case1 s => rfl
  | case2 e r s h ih =>
    rw [← ih]
    by_cases h1 : s > m1
    · rw [evictGo, if_pos h1]
    · -- `s ≤ m1`: eviction at `m1` leaves `e :: r` alone, and so it does `r` once `e` is gone
      rw [evictGo_noop m1 (e :: r) s (by omega), evictGo_noop m1 r _ (by omega), evictGo, if_pos (by omega)]
  | case3 e r s h => rw [evictGo_noop m1 _ s (by omega), evictGo_noop m2 _ s (by omega)]

/-- `search` answers with the 1-based position of the field itself when it reports a name-value match (never for a
sensitive field), otherwise with that of an entry with the field's name, or with 0 -/
theorem searchPos_spec (l : List Entry) (f : Field) :
    let r := searchPos l f
    (r.2 = true → f.sensitive = false ∧ r.1 ≠ 0 ∧ l[r.1 - 1]? = some (f.name, f.value)) ∧
    (r.2 = false → r.1 ≠ 0 → ∃ v, l[r.1 - 1]? = some (f.name, v)) := by
  simp only [searchPos]
  -- the search by name alone, used when the field is sensitive or no entry has name and value
  have hname (h : lastIdx (fun e => e.1 == f.name) l ≠ 0) :
      ∃ v, l[lastIdx (fun e => e.1 == f.name) l - 1]? = some (f.name, v) := by
    obtain ⟨e, h3, h4⟩ := lastIdx_spec _ l h
    have : e.1 = f.name := by simpa using h4
    exact ⟨e.2, by rw [h3, ← this]⟩
  by_cases hs : f.sensitive = true
  · simp only [hs, if_true, ne_eq, not_true_eq_false, if_false]
    exact ⟨nofun, fun _ => hname⟩
  · have hs' : f.sensitive = false := by simpa using hs
    simp only [hs', Bool.false_eq_true, if_false]
    by_cases hnv : lastIdx (fun e => e.1 == f.name && e.2 == f.value) l = 0
    · simp only [hnv, ne_eq, not_true_eq_false, if_false]
      exact ⟨nofun, fun _ => hname⟩
    · obtain ⟨e, h3, h4⟩ := lastIdx_spec _ l hnv
      simp only [ne_eq, hnv, not_false_eq_true, if_true]
      refine ⟨fun _ => ⟨trivial, trivial, ?_⟩, nofun⟩
      have h5 : e.1 = f.name ∧ e.2 = f.value := by simpa using h4
      rw [h3]; congr 1; exact Prod.ext h5.1 h5.2

theorem sizeOf'_append (l : List Entry) (e : Entry) :
    Consistent.sizeOf' (l ++ [e]) = Consistent.sizeOf' l + entrySize e := by
  simp [Consistent.sizeOf']

theorem add_consistent (t : DynTab) (e : Entry) (hc : Consistent t) :
    Consistent (t.add e) ∧ (t.add e).size ≤ (t.add e).maxSize ∧ (t.add e).maxSize = t.maxSize := by
  simp only [DynTab.add, DynTab.evict, Consistent]
  have := evictGo_consistent t.maxSize (t.ents ++ [e]) (t.size + entrySize e) (by rw [sizeOf'_append, hc])
  exact ⟨this.1, this.2, trivial⟩

theorem setMaxSize_consistent (t : DynTab) (v : Nat) (hc : Consistent t) :
    Consistent (t.setMaxSize v) ∧ (t.setMaxSize v).size ≤ v ∧ (t.setMaxSize v).maxSize = v := by
  simp only [DynTab.setMaxSize, DynTab.evict, Consistent]
  have := evictGo_consistent v t.ents t.size hc
  exact ⟨this.1, this.2, trivial⟩

/-- HPACK index `i` is position `i` of the static table -/
theorem at_static (d : Dec) {i : Nat} {x : Entry} (h1 : i ≠ 0) (h : staticEntries[i - 1]? = some x) : d.at i = some x := by
  have h2 : i ≤ staticLen := by have := (List.getElem?_eq_some_iff.1 h).1; unfold staticLen; omega
  simp only [Dec.at]
  rw [if_neg h1, if_pos h2, h]

/-- position `jp` of the dynamic table (1 = oldest) is HPACK index `len + 1 - jp` behind the static table -/
theorem at_dynamic (d : Dec) {jp : Nat} {x : Entry} (h1 : jp ≠ 0) (h : d.tab.ents[jp - 1]? = some x) :
    d.tab.ents.length + 1 - jp ≠ 0 ∧ d.at (d.tab.ents.length + 1 - jp + staticLen) = some x := by
  have h2 := (List.getElem?_eq_some_iff.1 h).1
  refine ⟨by omega, ?_⟩
  generalize hj : d.tab.ents.length + 1 - jp = j
  have e : d.tab.ents.length - (j + staticLen - staticLen) = jp - 1 := by omega
  simp only [Dec.at]
  rw [if_neg (by omega), if_neg (by omega), if_neg (by omega), e, h]

/-- what `Dec.apply` must do for one representation written by the encoder for field `f` -/
structure FieldOk (e e' : Enc) (d : Dec) (f : Field) (r : Rep) : Prop where
  applied : ∃ d', d.apply r = .ok (d', some f) ∧ d'.tab = e'.tab ∧ d'.firstField = false ∧
      d'.maxStrLen = d.maxStrLen ∧ d'.allowedMax = d.allowedMax
  cons : Consistent e'.tab
  le : e'.tab.size ≤ e'.tab.maxSize
  maxSize : e'.tab.maxSize = e.tab.maxSize
  same : e'.minSize = e.minSize ∧ e'.maxSizeLimit = e.maxSizeLimit ∧ e'.tableSizeUpdate = e.tableSizeUpdate

theorem field_eta (f : Field) : ({ name := f.name, value := f.value, sensitive := f.sensitive } : Field) = f := by
  cases f; rfl

theorem field_mk_eq (f : Field) (s : Bool) (h : f.sensitive = s) : ({ name := f.name, value := f.value, sensitive := s } : Field) = f := by
  subst h; exact field_eta f

/-- the literal branch of `Enc.plan` for a chosen name index -/
def planLit (e : Enc) (f : Field) (idx : Nat) : Enc × List Rep :=
  let indexing := !f.sensitive && decide (entrySize (f.name, f.value) ≤ e.tab.maxSize)
  let e' := if indexing then { e with tab := e.tab.add (f.name, f.value) } else e
  (e', [Rep.literal (litKind indexing f.sensitive) idx (if idx = 0 then f.name else []) f.value])

theorem callEmit_ok (d : Dec) (hm : d.maxStrLen = 0) (g : Field) : callEmit d g = .ok () := by simp [callEmit, hm]

theorem apply_indexed (d : Dec) (i : Nat) (e : Entry) (hm : d.maxStrLen = 0) (h : d.at i = some e) :
    d.apply (.indexed i) = .ok ({ d with firstField := false }, some { name := e.1, value := e.2 }) := by
  simp only [Dec.apply, h, callEmit_ok d hm]

theorem apply_literal (d : Dec) (k : LitKind) (idx : Nat) (name value n : Bytes) (hm : d.maxStrLen = 0)
    (h : d.resolveName idx name = .ok n) :
    d.apply (.literal k idx name value) =
      .ok ({ (if k = .incremental then { d with tab := d.tab.add (n, value) } else d) with firstField := false },
        some { name := n, value := value, sensitive := decide (k = .never) }) := by
  simp only [Dec.apply, h, callEmit_ok d hm]

theorem litKind_never (i s : Bool) : decide (litKind i s = .never) = s := by cases i <;> cases s <;> rfl

theorem litKind_incremental (i s : Bool) : litKind i s = .incremental ↔ (i = true ∧ s = false) := by
  cases i <;> cases s <;> simp [litKind]

theorem planLit_ok (e : Enc) (d : Dec) (f : Field) (idx : Nat) (htab : d.tab = e.tab)
    (hmax : d.maxStrLen = 0) (hc : Consistent e.tab) (hle : e.tab.size ≤ e.tab.maxSize)
    (hn : idx ≠ 0 → ∃ v, d.at idx = some (f.name, v)) :
    ∃ r, (planLit e f idx).2 = [r] ∧ FieldOk e (planLit e f idx).1 d f r := by
  have hres : d.resolveName idx (if idx = 0 then f.name else []) = .ok f.name := by
    simp only [Dec.resolveName]
    by_cases h0 : idx = 0
    · simp [h0]
    · obtain ⟨v, hv⟩ := hn h0
      simp [Nat.pos_of_ne_zero h0, hv]
  have hap := apply_literal d (litKind (!f.sensitive && decide (entrySize (f.name, f.value) ≤ e.tab.maxSize)) f.sensitive)
    idx _ f.value f.name hmax hres
  rw [litKind_never] at hap
  refine ⟨_, rfl, ?_⟩
  simp only [planLit]
  -- the literal is added to both tables, or to neither: indexing is never chosen for a sensitive field
  by_cases hix : (!f.sensitive && decide (entrySize (f.name, f.value) ≤ e.tab.maxSize)) = true
  · have hsens : f.sensitive = false := by
      cases hfs : f.sensitive <;> simp [hfs] at hix ⊢
    obtain ⟨ac, al, am⟩ := add_consistent e.tab (f.name, f.value) hc
    rw [hix, if_pos ((litKind_incremental _ _).2 ⟨rfl, hsens⟩)] at hap
    rw [hix, if_pos rfl]
    exact ⟨⟨_, hap, by rw [htab], rfl, rfl, rfl⟩, ac, al, am, rfl, rfl, rfl⟩
  · rw [eq_false_of_ne_true hix, if_neg fun h => Bool.false_ne_true ((litKind_incremental _ _).1 h).1] at hap
    rw [eq_false_of_ne_true hix, if_neg Bool.false_ne_true]
    exact ⟨⟨_, hap, htab, rfl, rfl, rfl⟩, hc, hle, rfl, rfl, rfl, rfl⟩

/-- `searchTable` answers with an index that `Decoder.at` resolves on equal tables: to the field itself when it reports
a name-value match (never for a sensitive field), otherwise to an entry with the field's name, or it answers 0 -/
theorem searchTable_spec (e : Enc) (d : Dec) (f : Field) (htab : d.tab = e.tab) :
    ((searchTable e f).2 = true → f.sensitive = false ∧ d.at (searchTable e f).1 = some (f.name, f.value)) ∧
    ((searchTable e f).2 = false → (searchTable e f).1 ≠ 0 → ∃ v, d.at (searchTable e f).1 = some (f.name, v)) := by
  have S := searchPos_spec staticEntries f
  have D := searchPos_spec d.tab.ents f
  simp only [searchTable, ← htab]
  generalize searchPos staticEntries f = sr at S
  obtain ⟨i, nv⟩ := sr
  generalize searchPos d.tab.ents f = dr at D
  obtain ⟨jp, nvd⟩ := dr
  simp only at S D ⊢
  cases nv with
  | true =>
    obtain ⟨hsens, h1, h3⟩ := S.1 rfl
    simp only [if_true]
    exact ⟨fun _ => ⟨hsens, at_static d h1 h3⟩, nofun⟩
  | false =>
    simp only [Bool.false_eq_true, if_false]
    cases nvd with
    | true =>
      obtain ⟨hsens, h1, h3⟩ := D.1 rfl
      simp only [Bool.true_or, if_true, if_neg h1]
      exact ⟨fun _ => ⟨hsens, (at_dynamic d h1 h3).2⟩, nofun⟩
    | false =>
      simp only [Bool.false_or]
      by_cases hi0 : i = 0
      · by_cases hj0 : jp = 0
        · subst hi0 hj0
          exact ⟨nofun, fun _ h => absurd rfl h⟩
        · obtain ⟨v, h3⟩ := D.2 rfl hj0
          obtain ⟨hne, hat⟩ := at_dynamic d hj0 h3
          simp only [if_neg hj0, hi0, beq_self_eq_true, bne_iff_ne.2 hne, Bool.and_self, if_true]
          exact ⟨nofun, fun _ _ => ⟨v, hat⟩⟩
      · obtain ⟨v, h3⟩ := S.2 rfl hi0
        simp only [beq_eq_false_iff_ne.2 hi0, Bool.false_and, Bool.false_eq_true, if_false]
        exact ⟨nofun, fun _ _ => ⟨v, at_static d hi0 h3⟩⟩

/-- **one field**: with equal tables and no size update pending, the encoder writes exactly one representation, the
decoder turns it back into the field (sensitivity included), and the tables are equal again. -/
theorem field_sync (e : Enc) (d : Dec) (f : Field) (htab : d.tab = e.tab) (hflag : e.tableSizeUpdate = false)
    (hmax : d.maxStrLen = 0) (hc : Consistent e.tab) (hle : e.tab.size ≤ e.tab.maxSize) :
    ∃ r, (e.plan f).2 = [r] ∧ FieldOk e (e.plan f).1 d f r := by
  have hplan : e.plan f =
      (if (searchTable e f).2 then (e, [Rep.indexed (searchTable e f).1]) else planLit e f (searchTable e f).1) := by
    simp only [Enc.plan, hflag, Bool.false_eq_true, if_false, List.nil_append, planLit]
  obtain ⟨hnv, hname⟩ := searchTable_spec e d f htab
  rw [hplan]
  cases hs : (searchTable e f).2 with
  | true =>
    obtain ⟨hsens, hat⟩ := hnv hs
    rw [if_pos rfl]
    refine ⟨_, rfl, ⟨{ d with firstField := false }, ?_, htab, rfl, rfl, rfl⟩, hc, hle, rfl, rfl, rfl, rfl⟩
    rw [apply_indexed d _ _ hmax hat, field_mk_eq f false hsens]
  | false =>
    rw [if_neg Bool.false_ne_true]
    exact planLit_ok e d f _ htab hmax hc hle (hname hs)


/-- `WriteField` over the fields of one header block -/
def planBlock (e : Enc) : List Field → Enc × List Rep
  | [] => (e, [])
  | f :: fs => ((planBlock (e.plan f).1 fs).1, (e.plan f).2 ++ (planBlock (e.plan f).1 fs).2)

set_option linter.unusedSimpArgs false in
theorem applyAll_cons_ok (d d' : Dec) (r : Rep) (rs : List Rep) (f : Option Field) (h : d.apply r = .ok (d', f)) :
    d.applyAll (r :: rs) = match d'.applyAll rs with
      | .error e => .error e
      | .ok (d'', fs) => .ok (d'', consOpt f fs) := by
  rw [Dec.applyAll, h]
  rfl

/-- a representation that hands no field over is skipped by `applyAll` -/
theorem applyAll_cons_none (d d' : Dec) (r : Rep) (rs : List Rep) (h : d.apply r = .ok (d', none)) :
    d.applyAll (r :: rs) = d'.applyAll rs := by
  rw [applyAll_cons_ok d d' r rs none h]
  cases d'.applyAll rs with
  | error e => rfl
  | ok x => obtain ⟨x1, x2⟩ := x; rfl

/-- a size update within `allowedMax` in front of the first field of a block only resizes the table -/
theorem applyAll_sizeUpdate (d : Dec) (v : Nat) (rs : List Rep) (hf : d.firstField = true) (hv : v ≤ d.allowedMax) :
    d.applyAll (Rep.sizeUpdate v :: rs) = ({ d with tab := d.tab.setMaxSize v } : Dec).applyAll rs := by
  refine applyAll_cons_none d _ _ rs ?_
  simp only [Dec.apply, hf, Bool.not_true, Bool.false_and, Bool.false_eq_true, if_false]
  rw [if_neg (by omega)]

theorem tab_eta (t : DynTab) (m : Nat) (h : m = t.maxSize) :
    ({ ents := t.ents, size := t.size, maxSize := m } : DynTab) = t := by
  subst h; cases t; rfl

theorem planBlock_cons (e : Enc) (f : Field) (fs : List Field) :
    planBlock e (f :: fs) = ((planBlock (e.plan f).1 fs).1, (e.plan f).2 ++ (planBlock (e.plan f).1 fs).2) := rfl

/-- what holds between two header blocks -/
structure Rel (e : Enc) (d : Dec) : Prop where
  maxStr : d.maxStrLen = 0
  first : d.firstField = true
  limit : e.maxSizeLimit = d.allowedMax
  limitle : e.maxSizeLimit ≤ uint32Max
  consd : Consistent d.tab
  led : d.tab.size ≤ d.tab.maxSize
  maxle : e.tab.maxSize ≤ e.maxSizeLimit
  sync : e.tableSizeUpdate = false → d.tab = e.tab ∧ e.minSize = uint32Max
  pend : e.tableSizeUpdate = true → e.minSize ≤ e.tab.maxSize ∧
    (e.tab.ents, e.tab.size) = evictGo e.minSize d.tab.ents d.tab.size

theorem rel_initial : Rel Enc.new (Dec.new 4096) := by
  refine ⟨rfl, rfl, rfl, by decide, rfl, by decide, by decide, fun _ => ⟨rfl, rfl⟩, fun h => by simp [Enc.new] at h⟩

/-- the relation with `firstField` set: what holds inside a block as well, once nothing is pending -/
theorem Rel.close {e : Enc} {d : Dec} (h : Rel e d) : Rel e { d with firstField := true } :=
  { h with first := rfl }

/-- a run of fields with nothing pending: all decode back, and the relation holds behind them with the tables equal -/
theorem fields_sync (fs : List Field) : ∀ (e : Enc) (d : Dec), Rel e { d with firstField := true } →
    e.tableSizeUpdate = false →
    ∃ d', d.applyAll (planBlock e fs).2 = .ok (d', fs) ∧ Rel (planBlock e fs).1 d' ∧ d'.tab = (planBlock e fs).1.tab ∧
      (planBlock e fs).1.tableSizeUpdate = false := by
  induction fs with
  | nil => exact fun e d h hflag => ⟨_, rfl, h, (h.sync hflag).1, hflag⟩
  | cons f rest ih =>
    intro e d h hflag
    obtain ⟨htab, hmin⟩ : d.tab = e.tab ∧ e.minSize = uint32Max := h.sync hflag
    obtain ⟨r, hr, ok⟩ := field_sync e d f htab hflag h.maxStr (htab ▸ h.consd) (htab ▸ h.led)
    obtain ⟨d1, ha, ht1, _, hm1, hal1⟩ := ok.applied
    obtain ⟨s1, s2, s3⟩ := ok.same
    obtain ⟨d2, hb, hrel, ht2, fl2⟩ := ih (e.plan f).1 d1
      ⟨hm1.trans h.maxStr, rfl, (s2.trans h.limit).trans hal1.symm, s2 ▸ h.limitle, ht1 ▸ ok.cons, ht1 ▸ ok.le,
        ok.maxSize ▸ s2 ▸ h.maxle, fun _ => ⟨ht1, s1.trans hmin⟩, fun hp => absurd ((s3.trans hflag) ▸ hp) nofun⟩
      (s3.trans hflag)
    rw [planBlock_cons]
    refine ⟨d2, ?_, hrel, ht2, fl2⟩
    simp only [hr, List.singleton_append]
    rw [applyAll_cons_ok d d1 r _ (some f) ha, hb]
    rfl

/-- pending or not, the encoder's table is the decoder's evicted to the smallest size set since the last block -/
theorem Rel.evicted {e : Enc} {d : Dec} (h : Rel e d) :
    (e.tab.ents, e.tab.size) = evictGo e.minSize d.tab.ents d.tab.size := by
  cases hf : e.tableSizeUpdate with
  | true => exact (h.pend hf).2
  | false =>
    obtain ⟨p1, p2⟩ := h.sync hf
    have hs : d.tab.size ≤ uint32Max := by
      have h1 := h.led
      have h2 := h.maxle
      have h3 := h.limitle
      rw [p1] at h1 ⊢
      omega
    rw [p2, evictGo_noop _ _ _ hs, p1]

/-- `SetMaxDynamicTableSize` (the peer's SETTINGS_HEADER_TABLE_SIZE) between blocks keeps the relation: the decoder
has not been told yet, the encoder remembers the smallest size -/
theorem rel_setSize (e : Enc) (d : Dec) (v : Nat) (h : Rel e d) : Rel (e.setMaxDynamicTableSize v) d := by
  have hl := h.limitle
  simp only [Enc.setMaxDynamicTableSize]
  generalize hv : (if v > e.maxSizeLimit then e.maxSizeLimit else v) = v'
  have hv' : v' ≤ e.maxSizeLimit := by rw [← hv]; split <;> omega
  refine { h with maxle := ?_, sync := fun hf => by simp at hf, pend := fun _ => ⟨?_, ?_⟩ }
  · simp only [DynTab.setMaxSize, DynTab.evict]; exact hv'
  · simp only [DynTab.setMaxSize, DynTab.evict]; split <;> omega
  · simp only [DynTab.setMaxSize, DynTab.evict]
    have p := h.evicted
    rw [show e.tab.ents = _ from congrArg Prod.fst p, show e.tab.size = _ from congrArg Prod.snd p, evictGo_evictGo,
      show min e.minSize v' = (if v' < e.minSize then v' else e.minSize) by simp only [Nat.min_def]; split <;> split <;> omega]

/-- the encoder once the pending size update is written -/
def flush (e : Enc) : Enc := if e.tableSizeUpdate then { e with tableSizeUpdate := false, minSize := uint32Max } else e

/-- the size updates `WriteField` puts in front of the first field written after `SetMaxDynamicTableSize` -/
def sizeUpdates (e : Enc) : List Rep :=
  if e.tableSizeUpdate then
    (if e.minSize < e.tab.maxSize then [Rep.sizeUpdate e.minSize] else []) ++ [Rep.sizeUpdate e.tab.maxSize]
  else []

theorem flush_flag (e : Enc) : (flush e).tableSizeUpdate = false := by
  unfold flush
  cases h : e.tableSizeUpdate <;> simp [h]

/-- `WriteField` = the pending size updates, then `WriteField` with nothing pending -/
theorem plan_flush (e : Enc) (f : Field) : e.plan f = (((flush e).plan f).1, sizeUpdates e ++ ((flush e).plan f).2) := by
  unfold flush sizeUpdates
  by_cases hf : e.tableSizeUpdate = true
  · simp only [Enc.plan, hf, if_true, Bool.false_eq_true, if_false, List.nil_append]
    rcases searchTable { e with tableSizeUpdate := false, minSize := uint32Max } f with ⟨idx, nv⟩
    cases nv <;> rfl
  · rw [if_neg hf, if_neg hf]; rfl

theorem planBlock_flush (e : Enc) (f : Field) (fs : List Field) :
    planBlock e (f :: fs) = ((planBlock (flush e) (f :: fs)).1, sizeUpdates e ++ (planBlock (flush e) (f :: fs)).2) := by
  rw [planBlock_cons, planBlock_cons, plan_flush e f, List.append_assoc]

/-- the decoder takes the size updates in front of a block, and then stands in the relation to the flushed encoder -/
theorem sizeUpdates_sync (e : Enc) (d : Dec) (h : Rel e d) :
    ∃ d1, (∀ rs, d.applyAll (sizeUpdates e ++ rs) = d1.applyAll rs) ∧ Rel (flush e) d1 := by
  unfold flush sizeUpdates
  by_cases hf : e.tableSizeUpdate = true
  · obtain ⟨p1, p2⟩ := h.pend hf
    have hcE : Consistent e.tab ∧ e.tab.size ≤ e.minSize := by
      have := evictGo_consistent e.minSize d.tab.ents d.tab.size h.consd
      rw [← p2] at this
      exact this
    have hallowed : e.tab.maxSize ≤ d.allowedMax := by rw [← h.limit]; exact h.maxle
    -- the decoder's table after the updates is the encoder's
    have hdec : ∃ t, t = e.tab ∧ ∀ rs, d.applyAll ((if e.minSize < e.tab.maxSize then [Rep.sizeUpdate e.minSize] else []) ++
        [Rep.sizeUpdate e.tab.maxSize] ++ rs) = ({ d with tab := t } : Dec).applyAll rs := by
      by_cases hlt : e.minSize < e.tab.maxSize
      · refine ⟨(d.tab.setMaxSize e.minSize).setMaxSize e.tab.maxSize, ?_, fun rs => ?_⟩
        · simp only [DynTab.setMaxSize, DynTab.evict]
          rw [evictGo_evictGo, Nat.min_eq_left (Nat.le_of_lt hlt), ← p2]
        · simp only [if_pos hlt, List.cons_append, List.nil_append]
          rw [applyAll_sizeUpdate d _ _ h.first (by omega),
            applyAll_sizeUpdate { d with tab := d.tab.setMaxSize e.minSize } _ _ h.first hallowed]
      · have hmin : e.minSize = e.tab.maxSize := by omega
        refine ⟨d.tab.setMaxSize e.tab.maxSize, ?_, fun rs => ?_⟩
        · simp only [DynTab.setMaxSize, DynTab.evict]
          rw [← hmin, ← p2]
          exact tab_eta e.tab e.minSize hmin
        · rw [if_neg hlt, List.nil_append, List.singleton_append, applyAll_sizeUpdate d _ _ h.first hallowed]
    obtain ⟨t, ht, hrun⟩ := hdec
    rw [if_pos hf, if_pos hf]
    exact ⟨_, hrun, h.maxStr, h.first, h.limit, h.limitle, ht ▸ hcE.1, ht ▸ (show e.tab.size ≤ e.tab.maxSize by omega),
      h.maxle, fun _ => ⟨ht, rfl⟩, nofun⟩
  · rw [if_neg hf, if_neg hf]
    exact ⟨d, fun _ => rfl, h⟩

/-- **one header block**: from the between-blocks relation, every field of the block decodes back (in order, with
its sensitivity), and the relation holds again with the tables EQUAL and no update pending (if the block was
non-empty). -/
theorem block_sync (e : Enc) (d : Dec) (fs : List Field) (h : Rel e d) :
    ∃ d', d.applyAll (planBlock e fs).2 = .ok (d', fs) ∧ Rel (planBlock e fs).1 d' ∧
      (fs ≠ [] → d'.tab = (planBlock e fs).1.tab ∧ (planBlock e fs).1.tableSizeUpdate = false) := by
  cases fs with
  | nil => exact ⟨_, rfl, h.close, fun h => absurd rfl h⟩
  | cons f rest =>
    obtain ⟨d1, hrun, h1⟩ := sizeUpdates_sync e d h
    obtain ⟨d2, hb, hrel, ht2, fl2⟩ := fields_sync (f :: rest) (flush e) d1 h1.close (flush_flag e)
    rw [planBlock_flush]
    exact ⟨d2, by rw [hrun, hb], hrel, fun _ => ⟨ht2, fl2⟩⟩

/-- what happens on the encoder side of a connection: the peer's SETTINGS_HEADER_TABLE_SIZE (server.go:
`hpackEncoder.SetMaxDynamicTableSize`) between header blocks, and header blocks -/
inductive Op
  | setSize (v : Nat)
  | block (fs : List Field)

def blocksOf : List Op → List (List Field)
  | [] => []
  | .setSize _ :: r => blocksOf r
  | .block fs :: r => fs :: blocksOf r

/-- run the operations: each block is planned by the encoder and applied by the decoder; returns the final states
and what the decoder emitted per block -/
def runOps (e : Enc) (d : Dec) : List Op → Except DErr (Enc × Dec × List (List Field))
  | [] => .ok (e, d, [])
  | .setSize v :: r => runOps (e.setMaxDynamicTableSize v) d r
  | .block fs :: r =>
    match d.applyAll (planBlock e fs).2 with
    | .error x => .error x
    | .ok (d', out) =>
      match runOps (planBlock e fs).1 d' r with
      | .error x => .error x
      | .ok (e'', d'', outs) => .ok (e'', d'', out :: outs)

theorem runOps_sync (ops : List Op) : ∀ (e : Enc) (d : Dec), Rel e d →
    ∃ e' d', runOps e d ops = .ok (e', d', blocksOf ops) ∧ Rel e' d' := by
  induction ops with
  | nil => intro e d h; exact ⟨e, d, rfl, h⟩
  | cons op r ih =>
    intro e d h
    cases op with
    | setSize v =>
      obtain ⟨e', d', h1, h2⟩ := ih _ _ (rel_setSize e d v h)
      exact ⟨e', d', by simp only [runOps, blocksOf]; exact h1, h2⟩
    | block fs =>
      obtain ⟨d1, ha, hrel, _⟩ := block_sync e d fs h
      obtain ⟨e', d', h1, h2⟩ := ih _ _ hrel
      refine ⟨e', d', ?_, h2⟩
      simp only [runOps, blocksOf, ha, h1]

/-- operations used by the non-vacuity examples of Props/C18: repeated and sensitive fields, an entry evicted by a
shrink, two size updates opening the next block -/
def demoOps : List Op :=
  [.block [⟨[120, 45, 97], [49], false⟩, ⟨[120, 45, 97], [49], false⟩, ⟨[120, 45, 98], [50], true⟩],
   .setSize 40, .setSize 4096,
   .block [⟨[120, 45, 97], [49], false⟩, ⟨[58, 109, 101, 116, 104, 111, 100], [71, 69, 84], false⟩]]

end MosnVerif.Lemmas.HpackTable
