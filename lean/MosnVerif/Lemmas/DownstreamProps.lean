import MosnVerif.Lemmas.Downstream
/-! consequences of the invariant used by the property theorems of C03 and C10 -/
namespace MosnVerif.Model.Downstream
open MosnVerif.Gen.ProxyPhase MosnVerif.Gen.ProxyReason MosnVerif.Gen.ProxyRetry

theorem sndStep_bad_mono (g : Snd) (e : Ev) (h : g.bad = true) : (sndStep g e).bad = true := by
  cases e <;> simp [sndStep, h]

theorem foldl_bad_mono (t : List Ev) (g : Snd) (h : g.bad = true) : (t.foldl sndStep g).bad = true :=
  Lemmas.Fold.foldl_inv (P := fun g => g.bad = true) sndStep_bad_mono t g h

/-- an accepted sender call: headers only while none were sent, a terminal call (end of stream or reset) only while the stream
is open; `hdr` and `ended`/`reset` record exactly these calls -/
theorem sndStep_ok (g : Snd) (e : Ev) (h : (sndStep g e).bad = false) :
    ((if isHeaders e then 1 else 0) + (if g.hdr then 1 else 0) = if (sndStep g e).hdr then 1 else 0) ∧
    ((if isEos e then 1 else 0) + (if isReset e then 1 else 0) + (if g.ended || g.reset then 1 else 0) =
      if (sndStep g e).ended || (sndStep g e).reset then 1 else 0) := by
  obtain ⟨hdr, ended, reset, bad⟩ := g
  cases e <;> simp_all [sndStep, isHeaders, isEos, isReset] <;> rfl

/-- a trace accepted by the sender automaton from state `g` has at most one more `AppendHeaders` (none when headers
were already sent) and at most one more terminal call (end of stream or reset; none when the stream already ended) -/
theorem counts_of_ok (t : List Ev) (g : Snd) (h : (t.foldl sndStep g).bad = false) :
    (t.filter isHeaders).length + (if g.hdr then 1 else 0) ≤ 1 ∧
    (t.filter isEos).length + (t.filter isReset).length + (if g.ended || g.reset then 1 else 0) ≤ 1 := by
  induction t generalizing g with
  | nil => constructor <;> simp only [List.filter_nil, List.length_nil, Nat.zero_add] <;> split <;> omega
  | cons e r ih =>
    rw [List.foldl_cons] at h
    have hb : (sndStep g e).bad = false := by
      cases hh : (sndStep g e).bad with
      | false => rfl
      | true => rw [foldl_bad_mono r _ hh] at h; cases h
    obtain ⟨i1, i2⟩ := ih (sndStep g e) h
    obtain ⟨s1, s2⟩ := sndStep_ok g e hb
    simp only [length_filter_cons]
    omega

/-- the event is a `ConnectionPool.NewStream` call (admitted or refused) -/
def isNewStream : Ev → Bool
  | .un _ => true
  | .uf _ _ => true
  | _ => false

theorem sndStep_hdr_mono (g : Snd) (e : Ev) (h : g.hdr = true) : (sndStep g e).hdr = true := by
  cases e <;> simp [sndStep, h]

/-- once response headers were sent, a later `NewStream` makes the automaton reject the trace -/
theorem foldl_attempt_bad (t : List Ev) (g : Snd) (h : g.hdr = true) (ha : t.any isNewStream = true) :
    (t.foldl sndStep g).bad = true := by
  induction t generalizing g with
  | nil => simp at ha
  | cons e r ih =>
    simp only [List.any_cons, Bool.or_eq_true] at ha
    simp only [List.foldl_cons]
    by_cases he : isNewStream e = true
    · apply foldl_bad_mono
      cases e <;> simp [isNewStream] at he <;> simp [sndStep, h]
    · rcases ha with ha | ha
      · exact absurd ha he
      · exact ih _ (sndStep_hdr_mono g e h) ha

/-- in a trace accepted by the sender automaton nothing is sent upstream after the response headers -/
theorem no_attempt_after_headers_of_ok (t1 t2 : List Ev) (st : Nat) (eos : Bool)
    (h : (snd (t1 ++ Ev.dh st eos :: t2)).bad = false) : t2.any isNewStream = false := by
  cases ha : t2.any isNewStream with
  | false => rfl
  | true =>
    unfold snd at h
    rw [List.foldl_append, List.foldl_cons] at h
    have := foldl_attempt_bad t2 (sndStep (List.foldl sndStep Snd.init t1) (Ev.dh st eos)) (by simp [sndStep]) ha
    rw [h] at this; cases this

/-- a worker that has returned does nothing more -/
theorem work_of_stopped (c : Cfg) (s : S) (h : s.running = false) : work c s = s := by
  unfold work
  rw [if_pos (by rw [h]; rfl)]

/-! the label `work` of a running worker at the phases the scenarios below go through (equations of the 17-arm switch) -/

theorem work_woken (c : Cfg) (s : S) (hrun : s.running = true) (hp : s.phase = .WaitNotify) (hn : s.notify = true) :
    work c s = finishPhase c { s with notify := false } := by
  unfold work
  rw [if_neg (by simp [hrun]), if_neg (by simp [bodyWait, hp]), hp]
  simp only []
  rw [if_pos hn]

theorem work_upFilter (c : Cfg) (s : S) (hrun : s.running = true) (hp : s.phase = .UpFilter) :
    work c s = match processError c s with
      | (s, some p) => reenter s p
      | (s, none) => { s with up := (if s.up.isNone then some none else s.up), phase := s.phase.next } := by
  unfold work
  rw [if_neg (by simp [hrun]), if_neg (by simp [bodyWait, hp]), hp]
  rfl

theorem work_upHeaders (c : Cfg) (s : S) (hrun : s.running = true) (hp : s.phase = .UpRecvHeader) (r : Resp) (hr : s.resp = some r) :
    work c s = finishPhase c (if processDone s || s.setupRetry then s else onUpstreamHeaders c s (!r.hasData && !r.hasTrailers)) := by
  unfold work
  rw [if_neg (by simp [hrun]), if_neg (by simp [bodyWait, hp]), hp, hr]

theorem work_upData (c : Cfg) (s : S) (hrun : s.running = true) (hbw : bodyWait s = false) (hp : s.phase = .UpRecvData) (r : Resp)
    (hr : s.resp = some r) :
    work c s = if r.hasData then finishPhase c (if processDone s || s.setupRetry then s else onUpstreamData c s (!r.hasTrailers))
      else { s with phase := .UpRecvTrailer } := by
  unfold work
  rw [if_neg (by simp [hrun]), if_neg (by simp [hbw]), hp, hr]
  rfl

theorem work_upTrailers (c : Cfg) (s : S) (hrun : s.running = true) (hbw : bodyWait s = false) (hp : s.phase = .UpRecvTrailer)
    (r : Resp) (hr : s.resp = some r) (ht : r.hasTrailers = true) :
    work c s = finishPhase c (if processDone s || s.setupRetry then s else onUpstreamTrailers c s) := by
  unfold work
  rw [if_neg (by simp [hrun]), if_neg (by simp [hbw]), hp, hr]
  simp only []
  rw [if_pos ht]

/-- the worker handles an upstream reset that arrived after the response head was forwarded: no retry, the downstream
stream is reset, the stream is cleaned -/
theorem started_reset_finish (c : Cfg) (s : S) (hcl : s.cleaned = false) (how : c.oneway = false) (hur : s.upReset = true)
    (hrst : s.respStarted = true) (hpd : s.procDone = false) (h6 : K6 s) :
    (finishPhase c s).cleaned = true ∧ (finishPhase c s).running = false ∧
    (finishPhase c s).trace = s.trace ++ [Ev.dr, Ev.log TimeoutExceptionCode s.flags] := by
  obtain ⟨rr, nt, e⟩ := finishPhase_started c s hcl how hur hrst hpd fun hdl => (h6 hdl).resolve_right (by simp [hcl])
  rw [e, reenter_end, dsResetStream_eq c _ (by exact hcl)]
  -- the projections of the update are reduced first: matched against it as it stands, `cleanBody` would be unfolded
  dsimp only
  refine ⟨cleanBody_cleaned c _, rfl, ?_⟩
  rw [cleanBody_trace_done c _ rfl]
  exact List.append_assoc s.trace [Ev.dr] _

/-- from every reachable state in which an upstream reset is pending after the response started, at most two worker
steps (the data phase is skipped when the response has only trailers) end the exchange: the client stream is reset, the
access log is written, and NO new upstream attempt is made -/
theorem started_reset_run (c : Cfg) (ar aq : Nat) (s : S) (h : Inv c ar aq s) (hrun : s.running = true)
    (hur : s.upReset = true) (hrst : s.respStarted = true) :
    (work c (work c s)).cleaned = true ∧ (work c (work c s)).running = false ∧
    (work c (work c s)).trace = s.trace ++ [Ev.dr, Ev.log TimeoutExceptionCode s.flags] := by
  have hcl := inv_not_cleaned h hrun
  have hupp : upPhase s.phase = true := by
    cases hu : upPhase s.phase with
    | true => rfl
    | false => have := h.k16 hcl hu; rw [hrst] at this; cases this
  obtain ⟨_, hresp, hwhere, _, hrst0, hmore, htr⟩ := h.k15 hcl hupp
  have how := two_way h hcl (Or.inl hupp)
  have hpd := inv_not_procDone h hcl
  obtain ⟨r, hr⟩ := Option.isSome_iff_exists.1 hresp
  have hbw : bodyWait s = false := by simp [bodyWait, processDone, hur]
  have hdone : (processDone s || s.setupRetry) = true := by simp [processDone, hur]
  -- the step that handles the reset at the phase the worker is in; after it the worker is gone
  have stop := started_reset_finish c s hcl how hur hrst hpd h.k6
  have fin : work c s = finishPhase c s → (work c (work c s)).cleaned = true ∧ (work c (work c s)).running = false ∧
      (work c (work c s)).trace = s.trace ++ [Ev.dr, Ev.log TimeoutExceptionCode s.flags] := fun e1 => by
    rw [e1, work_of_stopped c _ stop.2.1]; exact stop
  rcases hwhere hur with hp | hp | hp
  · by_cases hd : r.hasData = true
    · exact fin (by rw [work_upData c s hrun hbw hp r hr, if_pos hd, if_pos hdone])
    · have ht : r.hasTrailers = true := by have := hmore hp; simpa [respHasMore, hr, hd] using this
      rw [work_upData c s hrun hbw hp r hr, if_neg hd, work_upTrailers c _ (by exact hrun)
        (by simp [bodyWait, processDone, hur]) (by rfl) r (by exact hr) ht, if_pos (by exact hdone)]
      exact started_reset_finish c { s with phase := .UpRecvTrailer } hcl how hur hrst hpd h.k6
  · have ht : r.hasTrailers = true := by have := htr hp; simpa [respHasTrailers, hr] using this
    exact fin (by rw [work_upTrailers c s hrun hbw hp r hr ht, if_pos hdone])
  · -- before the head is forwarded nothing was sent yet
    rcases hp.1 with h1 | h1 <;> (rw [hrst, h1] at hrst0; cases hrst0)

/-- the worker waits for the rest of a streamed response: what holds then -/
theorem bodyWait_facts (c : Cfg) (ar aq : Nat) (s : S) (h : Inv c ar aq s) (hw : bodyWait s = true) :
    s.cleaned = false ∧ c.oneway = false ∧ s.respStarted = true ∧ s.urr = true ∧ 0 < liveCount s.streams ∧
    s.upReset = false ∧ s.downReset = false := by
  simp only [bodyWait, Bool.and_eq_true, Bool.or_eq_true, beq_iff_eq, Bool.not_eq_true'] at hw
  obtain ⟨⟨⟨hrun, hp⟩, hopen⟩, hpd⟩ := hw
  have hcl := inv_not_cleaned h hrun
  obtain ⟨hupp, hrst, how, _⟩ := up_started h hrun hp
  have hlc := (h.k15 hcl hupp).1
  -- in a two-way request every live stream is counted: were none counted, none would be live, the current one included
  have hpos : 0 < liveCount s.streams := Nat.pos_of_ne_zero fun hl0 => by
    have hdead := allDead_of_counted s.streams (h.k22 how) hl0
    simp only [bodyOpen] at hopen
    cases hc : curStream s with
    | none => simp [hc] at hopen
    | some k =>
      simp only [hc, streamLive] at hopen
      cases hk : s.streams[k]? with
      | none => simp [hk] at hopen
      | some st => simp [hk, allDead_get hdead hk] at hopen
  have hurr : s.urr = true := by
    rcases hlc with h0 | h1
    · omega
    · exact h1.1
  simp only [processDone, Bool.or_eq_false_iff] at hpd
  exact ⟨hcl, how, hrst, hurr, hpos, hpd.2, hpd.1.2⟩

theorem asleep_of_stopped (s : S) (h : s.running = false) : asleep s = false := by
  simp [asleep, parked, backoff, h]

theorem terminateG_of_awake (c : Cfg) (s : S) (hid code : Nat) (f : S → S) (h : asleep s = false) :
    terminateG c s hid code f = s := by
  unfold terminateG
  rw [if_pos (by rw [h]; rfl)]

/-- the frames, resets and ends of client streams never write the trace nor the `cleaned` word -/
theorem upResp_trace_cleaned (c : Cfg) (s : S) (k code : Nat) (d t : Bool) :
    (upResp c s k code d t).trace = s.trace ∧ (upResp c s k code d t).cleaned = s.cleaned := by
  unfold upResp
  cases s.streams[k]? with
  | none => exact ⟨rfl, rfl⟩
  | some st => simp only [apply_ite S.trace, apply_ite S.cleaned, destroyStream_trace, destroyStream_cleaned, ite_self, and_self]

theorem upRespS_trace_cleaned (c : Cfg) (s : S) (k code : Nat) (d t : Bool) :
    (upRespS c s k code d t).trace = s.trace ∧ (upRespS c s k code d t).cleaned = s.cleaned := by
  unfold upRespS
  cases s.streams[k]? with
  | none => simp only [apply_ite S.trace, apply_ite S.cleaned, upResp_trace_cleaned, ite_self, and_self]
  | some st => simp only [apply_ite S.trace, apply_ite S.cleaned, upResp_trace_cleaned, ite_self, and_self]

theorem upEndL_trace_cleaned (c : Cfg) (s : S) (k : Nat) :
    (upEndL c s k).trace = s.trace ∧ (upEndL c s k).cleaned = s.cleaned := by
  unfold upEndL
  cases s.streams[k]? with
  | none => exact ⟨rfl, rfl⟩
  | some st => simp only [apply_ite S.trace, apply_ite S.cleaned, destroyStream_trace, destroyStream_cleaned, ite_self, and_self]

theorem upResetL_trace_cleaned (c : Cfg) (s : S) (k : Nat) (r : Reason) :
    (upResetL c s k r).trace = s.trace ∧ (upResetL c s k r).cleaned = s.cleaned := by
  unfold upResetL
  cases s.streams[k]? with
  | none => exact ⟨rfl, rfl⟩
  | some st =>
    simp only [apply_ite S.trace, apply_ite S.cleaned, destroyStream_trace, destroyStream_cleaned, upOnResetStream, ite_self,
      and_self]

/-- after `cleanStream` no label changes the trace (nor un-cleans the stream) -/
theorem trace_frozen (c : Cfg) (ar aq : Nat) (s : S) (l : Label) (h : Inv c ar aq s) (hcl : s.cleaned = true) :
    (step c s l).trace = s.trace ∧ (step c s l).cleaned = true := by
  have hrun : s.running = false := by have := h.k0; simp only [K0, hcl] at this; simpa using this
  have hsl := asleep_of_stopped s hrun
  have hbo : backoff s = false := by simp [backoff, hrun]
  rw [← hcl]
  cases l with
  | work => rw [step, work_of_stopped c s hrun]; exact ⟨rfl, rfl⟩
  | upResp k code d t => exact upResp_trace_cleaned c s k code d t
  | upRespS k code d t => exact upRespS_trace_cleaned c s k code d t
  | upEnd k => exact upEndL_trace_cleaned c s k
  | upReset k r => exact upResetL_trace_cleaned c s k r
  | poolFail f => exact ⟨rfl, rfl⟩
  | hostsGone => exact ⟨rfl, rfl⟩
  | perTryFire =>
    show (perTryFire c s).trace = _ ∧ (perTryFire c s).cleaned = _
    unfold perTryFire
    simp only [hcl, if_true, apply_ite S.trace, apply_ite S.cleaned, ite_self, and_self]
  | globalFire =>
    show (globalFire c s).trace = _ ∧ (globalFire c s).cleaned = _
    unfold globalFire
    simp only [hcl, if_true, apply_ite S.trace, apply_ite S.cleaned, ite_self, and_self]
  | downReset r =>
    show (downResetL c s r).trace = _ ∧ (downResetL c s r).cleaned = _
    unfold downResetL
    simp only [apply_ite S.trace, apply_ite S.cleaned, dsOnResetStream, ite_self, and_self]
  | connClose =>
    show (connClose s).trace = _ ∧ (connClose s).cleaned = _
    unfold connClose
    simp only [apply_ite S.trace, apply_ite S.cleaned, dsOnResetStream, ite_self, and_self]
  | terminate code => rw [step, terminateL, terminateG_of_awake c s _ _ _ hsl]; exact ⟨rfl, rfl⟩
  | terminateStale g code => rw [step, terminateG_of_awake c s _ _ _ hsl]; exact ⟨rfl, rfl⟩
  | terminateRaced code k d t => rw [step, terminateG_of_awake c s _ _ _ hsl]; exact ⟨rfl, rfl⟩
  | lateResp k d t =>
    show (lateBackoff s k d t).trace = _ ∧ (lateBackoff s k d t).cleaned = _
    unfold lateBackoff
    rw [hbo]; exact ⟨rfl, rfl⟩
  | gtInSetup b =>
    show (gtInSetup s b).trace = _ ∧ (gtInSetup s b).cleaned = _
    unfold gtInSetup
    simp only [apply_ite S.trace, apply_ite S.cleaned, ite_self, and_self]

/-- a cleaned stream has a classified outcome: the three reasons of K33 are the tests of `outcome` -/
theorem outcome_of_cleaned {c : Cfg} {ar aq : Nat} {s : S} (h : Inv c ar aq s) (hcl : s.cleaned = true) :
    outcome c s ≠ .silent := by
  unfold outcome
  rcases h.k33 hcl with hh | hh | hh <;> simp only [hh, if_true] <;> repeat' split
  all_goals nofun

/-- the worker takes a pending local reply of a two-way request (no reset pending, before the response pass): the retry state is
released and the worker re-enters at `UpFilter` -/
theorem finishPhase_reply (c : Cfg) (s : S) (hcl : s.cleaned = false) (hur : s.upReset = false) (hdr : s.downReset = false)
    (hdir : s.direct = true) (hsr : s.setupRetry = false) (how : c.oneway = false) (hph : s.phase ≠ .UpFilter) (hps : s.pass = 0) :
    finishPhase c s = { s with direct := false, rs := none, retries := (rsReset c s).retries, pass := 1, phase := .UpFilter,
                               notify := false } := by
  rw [finishPhase_eq, processError_quiet c s hcl hur, peTail_direct c s false hdr hdir hsr, if_neg (by simp [how]), if_pos hph]
  simp [finishOf, reenter, hps, loopBudget]

/-- the worker answers a pending upstream reset that the regenerated gate does not let retry, before anything went downstream: the
error reply of the reset reason is stored (retry slot given back, timers off) and taken at once — back to `UpFilter` -/
theorem finishPhase_resetReply (c : Cfg) (s : S) (hcl : s.cleaned = false) (hur : s.upReset = true) (how : c.oneway = false)
    (hgate : Gen.ProxyReset.retryGate s.resetReason (resetFlags c s) = false) (hrst : s.respStarted = false)
    (hdr : s.downReset = false) (hsr : s.setupRetry = false) (hph : s.phase ≠ .UpFilter) (hps : s.pass = 0) :
    finishPhase c s =
      { s with rs := none, retries := (rsReset c s).retries, perTry := false, global := false, gtObj := false,
               flags := s.flags ||| reasonToFlag s.resetReason, upReset := false, respCode := reasonToCode s.resetReason,
               statusVar := some (reasonToCode s.resetReason), resp := some ⟨false, false⟩, direct := false,
               hTok := .loc, dTok := .none, tTok := .none, pass := 1, phase := .UpFilter, notify := false } := by
  have hf := (rsReset_facts c s).2.1
  rw [finishPhase_eq, processError_reset c s hcl hur how, onUpstreamReset_eq, if_neg (by simp [hgate]), if_neg (by simp [hgate]),
    resetReply_eq c s _ hrst, peTail_direct c _ true (by exact hdr) (by rfl) (by exact hsr), if_neg (by simp [how]), if_pos (by exact hph)]
  -- the slot was given back with the reply: releasing the retry state once more changes nothing
  generalize rsReset c s = q at hf ⊢
  rw [rsReset_retries_of_not_held c _ (by exact hf)]
  simp [finishOf, reenter, hps, loopBudget]

/-- the `UpFilter` phase with nothing pending: on to the response headers -/
theorem work_upFilter_plain (c : Cfg) (s : S) (hrun : s.running = true) (hp : s.phase = .UpFilter)
    (hcl : s.cleaned = false) (hur : s.upReset = false) (hdr : s.downReset = false) (hdir : s.direct = false)
    (hsr : s.setupRetry = false) (hpd : s.procDone = false) (hup : s.up.isSome = true) :
    work c s = { s with phase := .UpRecvHeader } := by
  rw [work_upFilter c s hrun hp, processError_quiet c s hcl hur, peTail_plain c s hdr hdir hsr hpd]
  simp only []
  rw [if_neg (by simp [Option.isSome_iff_ne_none.1 hup]), hp]
  rfl

/-- a stored local reply (headers only) is sent with end of stream: the stream is cleaned, the worker returns -/
theorem work_reply_eos (c : Cfg) (s : S) (code : Nat) (hrun : s.running = true) (hp : s.phase = .UpRecvHeader)
    (hcl : s.cleaned = false) (hur : s.upReset = false) (hdr : s.downReset = false)
    (hsr : s.setupRetry = false) (hpd : s.procDone = false) (hrs : s.rs = none)
    (hresp : s.resp = some ⟨false, false⟩) (hrq : s.reqSent = true) (hsv : s.statusVar = some code) :
    (work c s).cleaned = true ∧ (work c s).running = false ∧
    (work c s).trace = (s.trace ++ [Ev.dh code true]) ++ [Ev.log s.respCode s.flags] := by
  rw [work_upHeaders c s hrun hp _ hresp, if_neg (by simp [processDone, hpd, hdr, hur, hsr])]
  -- the body: headers with end of stream
  have e1 : onUpstreamHeaders c s (!false && !false) = cleanBody c
      { (cleanUp c { s with respStarted := true }) with
        procDone := true, trace := s.trace ++ [Ev.dh code true], downLive := false } := by
    unfold onUpstreamHeaders
    rw [if_neg (by simp [hrs])]
    unfold onUpstreamHeadersFinish dsAppendHeaders emit endStream cleanStream onUpstreamResponseRecvFinished
    simp [hrq, hcl, hsv]
  rw [e1, finishPhase_eq, processError_cleaned c _ (by simp)]
  simp only [finishOf]
  rw [reenter_end]
  dsimp only
  refine ⟨cleanBody_cleaned c _, rfl, ?_⟩
  rw [cleanBody_trace_done c _ rfl]
  simp

theorem work_work_work {c : Cfg} {g h1 h2 : S} (e1 : work c g = h1) (e2 : work c h1 = h2) :
    work c (work c (work c g)) = work c h2 := by rw [e1, e2]

/-- a woken worker of a complete two-way request finds an upstream reset that the regenerated gate does not let retry, before anything
went downstream: three worker steps answer the request with the code and the response flag of the reset reason -/
theorem reset_reply_run (c : Cfg) (g : S) (hrun : g.running = true) (hp : g.phase = .WaitNotify) (hn : g.notify = true)
    (hcl : g.cleaned = false) (hur : g.upReset = true) (how : c.oneway = false)
    (hgate : Gen.ProxyReset.retryGate g.resetReason (resetFlags c g) = false) (hrst : g.respStarted = false)
    (hdr : g.downReset = false) (hsr : g.setupRetry = false) (hps : g.pass = 0) (hpd : g.procDone = false)
    (hup : g.up.isSome = true) (hrq : g.reqSent = true) :
    (work c (work c (work c g))).cleaned = true ∧ (work c (work c (work c g))).running = false ∧
    (work c (work c (work c g))).trace = (g.trace ++ [Ev.dh (reasonToCode g.resetReason) true]) ++
      [Ev.log (reasonToCode g.resetReason) (g.flags ||| reasonToFlag g.resetReason)] := by
  -- the reset is turned into the pending error reply; nothing pending at `UpFilter`; the reply goes out
  rw [work_work_work
    ((work_woken c g hrun hp hn).trans
      (finishPhase_resetReply c _ (by exact hcl) (by exact hur) how (by exact hgate) (by exact hrst) (by exact hdr)
        (by exact hsr) (by rw [hp]; decide) (by exact hps)))
    (work_upFilter_plain c _ (by exact hrun) (by rfl) (by exact hcl) (by rfl) (by exact hdr) (by rfl) (by exact hsr)
      (by exact hpd) (by exact hup))]
  exact work_reply_eos c _ (reasonToCode g.resetReason) hrun rfl hcl rfl hdr hsr hpd rfl rfl hrq rfl

/-- a woken worker of a complete two-way request finds a pending local reply (headers only): three worker steps send it -/
theorem reply_run (c : Cfg) (g : S) (code : Nat) (hrun : g.running = true) (hp : g.phase = .WaitNotify) (hn : g.notify = true)
    (hcl : g.cleaned = false) (hur : g.upReset = false) (hdr : g.downReset = false) (hdir : g.direct = true)
    (how : c.oneway = false) (hsr : g.setupRetry = false) (hps : g.pass = 0) (hpd : g.procDone = false)
    (hup : g.up.isSome = true) (hrq : g.reqSent = true) (hresp : g.resp = some ⟨false, false⟩) (hsv : g.statusVar = some code) :
    (work c (work c (work c g))).cleaned = true ∧ (work c (work c (work c g))).running = false ∧
    (work c (work c (work c g))).trace = (g.trace ++ [Ev.dh code true]) ++ [Ev.log g.respCode g.flags] := by
  -- the pending reply is taken; nothing pending at `UpFilter`; the reply goes out
  rw [work_work_work
    ((work_woken c g hrun hp hn).trans
      (finishPhase_reply c _ (by exact hcl) (by exact hur) (by exact hdr) (by exact hdir) (by exact hsr) how
        (by rw [hp]; decide) (by exact hps)))
    (work_upFilter_plain c _ (by exact hrun) (by rfl) (by exact hcl) (by exact hur) (by exact hdr) (by rfl) (by exact hsr)
      (by exact hpd) (by exact hup))]
  exact work_reply_eos c _ code hrun rfl hcl hur hdr hsr hpd rfl hresp hrq hsv

/-- from a parked worker the global timer's firing is enabled and three worker steps complete the request with the
timeout reply (code and response flag from the regenerated tables) -/
theorem timeout_run (c : Cfg) (ar aq : Nat) (s : S) (h : Inv c ar aq s) (hb : blocked s = true) :
    (work c (work c (work c (globalFire c s)))).cleaned = true ∧
    (work c (work c (work c (globalFire c s)))).running = false ∧
    (work c (work c (work c (globalFire c s)))).trace =
      ((globalFire c s).trace ++ [Ev.dh (reasonToCode .UpstreamGlobalTimeout) true]) ++
        [Ev.log (reasonToCode .UpstreamGlobalTimeout) (s.flags ||| reasonToFlag .UpstreamGlobalTimeout)] := by
  obtain ⟨hcl, how, hg, hurr, hur, hdr, hge, hrq, hrst, hrs, hup⟩ := blocked_facts c ar aq s h hb
  simp only [blocked, Bool.and_eq_true, Bool.not_eq_true', beq_iff_eq] at hb
  obtain ⟨⟨hrun, hp⟩, hn⟩ := hb
  have hsr := (h.k7 hcl).1
  -- the callback wins the CAS, resets the upstream request and records an upstream reset
  obtain ⟨sts, rq, ua, t, eg⟩ : ∃ sts rq ua t, globalFire c s =
      { s with global := false, globalExpired := true, urr := true, streams := sts, requests := rq, upActive := ua, trace := t,
               upReset := true, resetReason := Reason.UpstreamGlobalTimeout, notify := true } := ⟨_, _, _, _, by
    unfold globalFire
    rw [if_neg (by simp [hg])]
    simp only
    rw [if_neg (by simp [hcl])]
    simp only [show globalCallbackRecordsExpiry = true from by decide, if_true]
    rw [if_neg (by simp [hurr]), if_pos (by simpa using hup), resetUpstream_frame,
      upOnResetStream_fire _ _ (by exact hsr) (by exact hur)]⟩
  rw [eg]
  have hpd := inv_not_procDone h hcl
  exact reset_reply_run c _ hrun hp rfl hcl rfl how (by rw [retryGate_eq]; simp) hrst hdr hsr (h.k25 hcl how hrs) hpd hup hrq

/-- an accepted asynchronous `TerminateStream` on a parked worker completes the exchange in three worker steps -/
theorem terminate_run (c : Cfg) (ar aq : Nat) (s : S) (code : Nat) (h : Inv c ar aq s) (hb : blocked s = true)
    (hnr : s.resp.isSome = false) :
    (work c (work c (work c (terminateL c s code)))).cleaned = true ∧
    (work c (work c (work c (terminateL c s code)))).running = false ∧
    (work c (work c (work c (terminateL c s code)))).trace =
      ((terminateL c s code).trace ++ [Ev.dh code true]) ++ [Ev.log code (s.flags ||| DownStreamTerminate)] := by
  obtain ⟨hcl, how, hg, hurr, hur, hdr, hge, hrq, hrst, hrs, hup⟩ := blocked_facts c ar aq s h hb
  simp only [blocked, Bool.and_eq_true, Bool.not_eq_true', beq_iff_eq] at hb
  obtain ⟨⟨hrun, hp⟩, hn⟩ := hb
  -- the call is accepted: the upstream request is reset, the local reply stored, the worker woken
  obtain ⟨sts, rq, ua, t, et⟩ : ∃ sts rq ua t, terminateL c s code =
      { s with streams := sts, requests := rq, upActive := ua, trace := t, urr := true, perTry := false, global := false,
               flags := s.flags ||| DownStreamTerminate, respCode := code, statusVar := some code,
               resp := some ⟨false, false⟩, direct := true, notify := true, hTok := .loc, dTok := .none, tTok := .none } :=
    ⟨_, _, _, _, by
      rw [terminateL_eq, if_neg (by simp [asleep, parked, hrun, hp, hn]), if_neg (by simp [hnr]), if_neg (by simp [hcl]),
        if_neg (by simp [hurr])]
      unfold terminateAcc
      rw [resetUpstream_frame]⟩
  rw [et]
  have hpd := inv_not_procDone h hcl
  exact reply_run c _ code hrun hp rfl hcl hur hdr rfl how (h.k7 hcl).1 (h.k25 hcl how hrs) hpd hup hrq rfl rfl

end MosnVerif.Model.Downstream
