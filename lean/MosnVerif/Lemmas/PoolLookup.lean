import MosnVerif.Model.PoolLookup
/-! The request path hands back the host the balancer chose in this lookup, paired with a pool for that host's address. -/
namespace MosnVerif.Model.PoolLookup
open MosnVerif.Gen.PoolLookup
open MosnVerif.Model.HostOps (H)

theorem find_some {ps : List Entry} {sc : Option Nat} {k : Nat} {p : Pool} (h : find ps sc k = some p) :
    ∃ e ∈ ps, e.key = k ∧ e.pool = p := by
  obtain ⟨e, hf, hp⟩ := Option.map_eq_some_iff.mp h
  have hk := List.find?_some hf
  simp only [hit, Bool.and_eq_true, beq_iff_eq] at hk
  exact ⟨e, List.mem_of_find?_eq_some hf, hk.2, hp⟩

theorem keyed_erase {σ : St} (h : Keyed σ) (sc : Option Nat) (k : Nat) : ∀ e ∈ erase σ.pools sc k, e.pool.created.a = e.key := by
  intro e he
  exact h e (List.mem_filter.mp he).1

theorem keyed_store {ps : List Entry} (h : ∀ e ∈ ps, e.pool.created.a = e.key) (sc : Option Nat) (k : Nat) (p : Pool)
    (hp : p.created.a = k) : ∀ e ∈ store ps sc k p, e.pool.created.a = e.key :=
  List.forall_mem_cons.mpr ⟨hp, fun e he => h e (List.mem_filter.mp he).1⟩

theorem check_pools (σ : St) (p : Pool) : (check σ p).2.pools = σ.pools := by
  unfold check
  by_cases h : (nrOf σ.nr p.created.a == 0) = true <;> simp [h]

theorem keyed_check {σ : St} (h : Keyed σ) (p : Pool) : Keyed (check σ p).2 := by
  unfold Keyed
  rw [check_pools]
  exact h

/-- load-or-create under the discipline: the pool of the iteration was created for the chosen host's address. -/
theorem obtain_spec (mh mp : Nat) (rc : ReplaceCond) (env : Env) (sc : Option Nat) (σ : St) (sl : Slots) (i : Nat) (h : H)
    (hk : Keyed σ) (σ1 : St) (evs : List Ev) (p : Pool)
    (ho : obtain (canon mh mp rc) env sc σ sl i h = some (σ1, evs, p)) : p.created.a = h.a ∧ Keyed σ1 := by
  simp only [obtain, canon, keyVal, hostRef, Option.map_some] at ho
  cases hf : find σ.pools sc h.a with
  | some q =>
    simp only [hf] at ho
    by_cases hc : (rc == ReplaceCond.tlsHashDiffers && q.hash != env.hashOf h) = true
    · simp only [hc, if_true, Option.some.injEq, Prod.mk.injEq] at ho
      obtain ⟨rfl, _, rfl⟩ := ho
      refine ⟨rfl, ?_⟩
      exact keyed_store (keyed_erase hk sc h.a) sc h.a _ rfl
    · simp only [hc] at ho
      obtain ⟨rfl, _, rfl⟩ := ho
      obtain ⟨e, he, hkey, hpool⟩ := find_some hf
      exact ⟨by rw [← hpool, hk e he, hkey], hk⟩
  | none =>
    simp only [hf, Option.some.injEq, Prod.mk.injEq] at ho
    obtain ⟨rfl, _, rfl⟩ := ho
    exact ⟨rfl, keyed_store hk sc h.a _ rfl⟩

/-- what is known of a (pool, host) pair of the lookup with oracle `lb` and `B` iterations. -/
def PairOk (lb : List (Option H)) (B : Nat) (x : Pool × H) : Prop :=
  x.1.created.a = x.2.a ∧ ∃ k, k < B ∧ lb[k]? = some (some x.2)

def SlotsOk (sl : Slots) (it : List (Pool × H)) : Prop :=
  ∀ j p, sl.ps j = some p → ∃ x, sl.hs j = some x ∧ (p, x) ∈ it

def RetOk (r : Ret) (it : List (Pool × H)) : Prop :=
  (∀ p x, r = (some p, some x) → (p, x) ∈ it) ∧ (r.1 = none ↔ r.2 = none)

theorem retOk_none (it : List (Pool × H)) : RetOk (none, none) it :=
  ⟨by intro p x h; simp at h, by simp⟩

theorem retOk_some {it : List (Pool × H)} {p : Pool} {x : H} (h : (p, x) ∈ it) : RetOk (some p, some x) it := by
  refine ⟨?_, by simp⟩
  intro p' x' he
  simp only [Prod.mk.injEq, Option.some.injEq] at he
  obtain ⟨rfl, rfl⟩ := he
  exact h

theorem loop1_spec (mh mp : Nat) (rc : ReplaceCond) (env : Env) (sc : Option Nat) (lb : List (Option H)) (B : Nat) :
    ∀ (n i : Nat) (σ : St) (sl : Slots) (tr : List Ev) (it : List (Pool × H)),
      i + n = B → Keyed σ → (∀ x ∈ it, PairOk lb B x) → SlotsOk sl it →
      let l := loop1 (canon mh mp rc) env sc lb n i σ sl tr it
      Keyed l.st ∧ (∀ x ∈ l.it, PairOk lb B x) ∧ SlotsOk l.sl l.it ∧ (∀ r, l.done = some r → RetOk r l.it) := by
  intro n
  induction n with
  | zero =>
    intro i σ sl tr it _ hk hit hsl
    exact ⟨hk, hit, hsl, fun r hr => nomatch hr⟩
  | succ n ih =>
    intro i σ sl tr it hB hk hit hsl
    -- the two exits without a pool hand back nothing
    have hfail : ∀ r, some ((none, none) : Ret) = some r → RetOk r it := fun r hr => Option.some.inj hr ▸ retOk_none it
    simp only [loop1]
    cases hl : (lb[i]?).join with
    | none => exact ⟨hk, hit, hsl, hfail⟩
    | some h =>
      simp only
      cases ho : obtain (canon mh mp rc) env sc σ sl i h with
      | none => exact ⟨hk, hit, hsl, hfail⟩
      | some t =>
        obtain ⟨σ1, evs, p⟩ := t
        obtain ⟨hpa, hk1⟩ := obtain_spec mh mp rc env sc σ sl i h hk σ1 evs p ho
        have hk2 : Keyed (check σ1 p).2 := keyed_check hk1 p
        have hlb : lb[i]? = some (some h) := by
          cases hx : lb[i]? with
          | none => simp [hx] at hl
          | some o => simp only [hx, Option.join_some] at hl; rw [hl]
        have hit' : ∀ x ∈ it ++ [(p, h)], PairOk lb B x :=
          List.forall_mem_append.mpr ⟨hit, List.forall_mem_singleton.mpr ⟨hpa, i, by omega, hlb⟩⟩
        have hsl' : SlotsOk sl (it ++ [(p, h)]) := fun j q hq =>
          let ⟨x, hx, hm⟩ := hsl j q hq
          ⟨x, hx, List.mem_append_left _ hm⟩
        simp only
        split
        · -- ready: returned with the chosen host
          refine ⟨hk2, hit', hsl', fun r hr => ?_⟩
          cases hr
          exact retOk_some (List.mem_append_right _ (List.mem_singleton.mpr rfl))
        · -- not ready: both arrays get slot i
          apply ih (i + 1) _ _ _ _ (by omega) hk2 hit'
          intro j q hq
          simp only [canon, ixVal, poolRef, hostRef, setP, setH] at hq ⊢
          by_cases hj : j = i
          · simp only [hj, if_true, Option.some.injEq] at hq ⊢
            subst hq
            exact ⟨h, rfl, List.mem_append_right _ (List.mem_singleton.mpr rfl)⟩
          · simp only [hj, if_false] at hq ⊢
            exact hsl' j q hq

theorem pollRound_spec (mh mp : Nat) (rc : ReplaceCond) (sl : Slots) (it : List (Pool × H)) (hsl : SlotsOk sl it) :
    ∀ (n i : Nat) (σ : St) (tr : List Ev), Keyed σ →
      Keyed (pollRound (canon mh mp rc) sl n i σ tr).1 ∧
      ∀ r, (pollRound (canon mh mp rc) sl n i σ tr).2.2 = some r → RetOk r it := by
  intro n
  induction n with
  | zero =>
    intro i σ tr hk
    simp only [pollRound]
    exact ⟨hk, by intro r hr; simp at hr⟩
  | succ n ih =>
    intro i σ tr hk
    simp only [pollRound, canon, poolRef, hostRef, ixVal]
    cases hp : sl.ps i with
    | none => simpa [canon] using ih (i + 1) σ tr hk
    | some p =>
      simp only
      split
      · refine ⟨keyed_check hk p, ?_⟩
        intro r hr
        cases hr
        obtain ⟨x, hx, hm⟩ := hsl i p hp
        simp only [hx]
        exact retOk_some hm
      · simpa [canon] using ih (i + 1) _ _ (keyed_check hk p)

theorem poll_spec (mh mp : Nat) (rc : ReplaceCond) (sl : Slots) (it : List (Pool × H)) (hsl : SlotsOk sl it) (try_ : Nat) :
    ∀ (r : Nat) (σ : St) (tr : List Ev), Keyed σ →
      Keyed (poll (canon mh mp rc) sl try_ r σ tr).1 ∧ RetOk (poll (canon mh mp rc) sl try_ r σ tr).2.2 it := by
  intro r
  induction r with
  | zero =>
    intro σ tr hk
    simp only [poll]
    exact ⟨hk, retOk_none it⟩
  | succ r ih =>
    intro σ tr hk
    have hr := pollRound_spec mh mp rc sl it hsl try_ 0 σ tr hk
    simp only [poll]
    split
    · rename_i ret heq
      exact ⟨hr.1, hr.2 ret heq⟩
    · exact ih _ _ hr.1

theorem lookup_spec (fl : Flow) (hf : flowOk fl = true) (env : Env) (σ : St) (q : Query) (hk : Keyed σ) :
    Keyed (lookup fl env σ q).st ∧
    (∀ x ∈ (lookup fl env σ q).iter, PairOk q.lb (min q.hostNum fl.maxHosts) x) ∧
    RetOk (lookup fl env σ q).ret (lookup fl env σ q).iter := by
  have he : fl = canon fl.maxHosts fl.maxPolls fl.replaceCond := by
    unfold flowOk at hf
    exact of_decide_eq_true (by simpa using hf)
  generalize fl.maxHosts = mh at he
  generalize fl.maxPolls = mp at he
  generalize fl.replaceCond = rc at he
  subst he
  unfold lookup
  split
  · exact ⟨hk, by intro x hx; simp at hx, retOk_none _⟩
  · have hmh : (canon mh mp rc).maxHosts = mh := rfl
    have hmp : (canon mh mp rc).maxPolls = mp := rfl
    simp only [hmh, hmp]
    have L := loop1_spec mh mp rc env (scopeOf env q.cluster) q.lb (min q.hostNum mh) (min q.hostNum mh) 0 σ {} [] []
      (by omega) hk (by intro x hx; simp at hx) (by intro j p hp; simp at hp)
    simp only at L
    obtain ⟨L1, L2, L3, L4⟩ := L
    split
    · rename_i r hr
      exact ⟨L1, L2, L4 r hr⟩
    · have P := poll_spec mh mp rc _ _ L3 (min q.hostNum mh) mp _ (loop1 (canon mh mp rc) env (scopeOf env q.cluster) q.lb (min q.hostNum mh) 0 σ {} [] []).tr L1
      exact ⟨P.1, L2, P.2⟩

theorem keyed_applyOp (fl : Flow) (hf : flowOk fl = true) (env : Env) (w : World) (o : Op) (hk : Keyed w.st) :
    Keyed (applyOp fl env w o).1.st := by
  cases o with
  | setHosts c l => exact hk
  | lookup q => exact (lookup_spec fl hf env w.st q hk).1
  | shutdown a =>
    intro e he
    exact hk e (List.mem_filter.mp he).1
  | staleHash a =>
    refine List.forall_mem_map.mpr fun e0 he0 => ?_
    split
    · exact hk e0 he0
    · exact hk e0 he0
  | notReady a k => exact hk

def Good (fl : Flow) (x : List H × Query × Res) : Prop :=
  (∀ y ∈ x.2.2.iter, PairOk x.2.1.lb (min x.2.1.hostNum fl.maxHosts) y) ∧ RetOk x.2.2.ret x.2.2.iter

theorem runHist_good (fl : Flow) (hf : flowOk fl = true) (env : Env) (ops : List Op) :
    ∀ (w : World), Keyed w.st → ∀ x ∈ runHist fl env w ops, Good fl x := by
  induction ops with
  | nil => intro w _ x hx; simp [runHist] at hx
  | cons o r ih =>
    intro w hk x hx
    have hk' := keyed_applyOp fl hf env w o hk
    cases o <;> simp only [runHist, applyOp] at hx
    case lookup q =>
      rcases List.mem_cons.mp hx with rfl | hx
      · exact (lookup_spec fl hf env w.st q hk).2
      · exact ih _ hk' x hx
    all_goals exact ih _ hk' x hx

theorem keyed_init : Keyed ({} : St) := by intro e he; simp at he

end MosnVerif.Model.PoolLookup
