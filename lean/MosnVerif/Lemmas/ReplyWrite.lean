import MosnVerif.Model.ReplyWrite
import MosnVerif.Lemmas.Fold
/-!
Lemmas about the reply write path (`Model/ReplyWrite.lean`); core Lean and `Lemmas/Fold` only.

Two kinds:
* **for ANY program over the vocabulary** (induction on the op list): the body of `cleanStream` runs at most once, the
  active gauge and the membership in the active-stream list move with it (`exec_cleanInv`) — whatever the append functions
  look like, whatever the sender returns, wherever resets land;
* **for the REGENERATED programs**: the clean-up runs at LEAST once, `endStream` follows the part that ends the stream, the worker
  returns.  For a client that is there at the start: exhaustive evaluation of the finite space reply shape × outcome vector ×
  kind and position of the client's departure up to the end of the op list (`good_bounded`; positions beyond the end do not
  change the op list, `writeReply_late`).  For a client that has gone already a second departure changes nothing at any
  position (`exec_insertAt_gone`): one run per reply shape and outcome vector (`good_gone`).
-/
namespace MosnVerif.Model.ReplyWrite
open MosnVerif.Gen.ProxyReplyWrite MosnVerif.Gen.ProxyPhase

/-- the model's `insertAt` is core's `List.insertIdx` -/
theorem insertAt_eq_insertIdx {α : Type} (a : α) : ∀ (n : Nat) (l : List α), insertAt n a l = l.insertIdx n a
  | 0, _ => rfl
  | _ + 1, [] => rfl
  | n + 1, x :: l => congrArg (x :: ·) (insertAt_eq_insertIdx a n l)

theorem insertAt_beyond {α : Type} (a : α) (n : Nat) (l : List α) (h : l.length < n) : insertAt n a l = l := by
  rw [insertAt_eq_insertIdx, List.insertIdx_of_length_lt h]

theorem insertAt_length {α : Type} (a : α) : ∀ (n : Nat) (l : List α), n ≤ l.length → (insertAt n a l).length = l.length + 1 :=
  fun n l h => by rw [insertAt_eq_insertIdx, List.length_insertIdx_of_le_length h]

/-- the regenerated op list of a reply has at most 16 ops (three parts of five ops, `End`) -/
theorem ops_length_le (r : Reply) : (ops genProgs r).length ≤ 16 := by
  obtain ⟨b, t⟩ := r
  cases b <;> cases t <;> decide

/-- a reset position beyond the end of the op list: the reset reaches a stream whose worker has returned -/
theorem writeReply_late (P : Progs) (r : Reply) (o : Outs) (rp : Nat) (vc : Bool) (s : RW) (h : (ops P r).length < rp) :
    writeReply P r o rp vc s = exec o s (ops P r) := by
  unfold writeReply
  rw [insertAt_beyond _ rp _ h]

/-- the clean-up body ran exactly when the stream is cleaned, the gauge and the list membership moved with it -/
structure CleanInv (s : RW) : Prop where
  count : cleans s = if s.cleaned then 1 else 0
  gauge : s.active = 1 - (cleans s : Int)
  listed : s.listed = !s.cleaned

theorem cleans_append_other (s : RW) (e : Ev) (h : isClean e = false) :
    (({ s with ev := s.ev ++ [e] } : RW).ev.filter isClean).length = cleans s := by
  simp [cleans, List.filter_append, h]

/-- the regenerated facts about `cleanStream` the invariant rests on: the compare-and-swap is there, the body gives the
gauge back and takes the stream off the active list -/
theorem gen_clean_facts : cleanOnce = true ∧ hasStep .metrics = true ∧ metricsCountDown = true ∧ hasStep .delete = true ∧
    endStreamCleans = true := by decide

theorem cleanStream_inv (s : RW) (h : CleanInv s) : CleanInv (cleanStream s) := by
  obtain ⟨g1, g2, g3, g4, _⟩ := gen_clean_facts
  unfold cleanStream
  by_cases hc : s.cleaned = true
  · simp only [g1, hc, Bool.and_self, if_true]; exact h
  · simp only [Bool.not_eq_true] at hc
    have h0 : cleans s = 0 := by have := h.count; simpa [hc] using this
    have hg := h.gauge
    rw [h0] at hg
    have h1 : (List.filter isClean [Ev.clean]).length = 1 := rfl
    have h2 : (List.filter isClean [Ev.ur, Ev.clean]).length = 1 := rfl
    simp only [g1, hc, Bool.and_false, Bool.false_eq_true, if_false, cleanBody, g2, g3, g4, Bool.and_self, if_true, Bool.not_true]
    constructor
    · simp only [cleans, if_true]
      simp only [cleans] at h0
      split <;> simp [List.filter_append, h0, h1, h2]
    · simp only [cleans]
      simp only [cleans] at h0
      split <;> simp [List.filter_append, h0, hg, h1, h2]
    · simp

theorem CleanInv.congr {s s' : RW} (h : CleanInv s) (he : cleans s' = cleans s) (hc : s'.cleaned = s.cleaned)
    (ha : s'.active = s.active) (hl : s'.listed = s.listed) : CleanInv s' :=
  ⟨by rw [he, hc]; exact h.count, by rw [he, ha]; exact h.gauge, by rw [hl, hc]; exact h.listed⟩

theorem streamReset_inv (s : RW) (h : CleanInv s) : CleanInv (streamReset s) := by
  unfold streamReset onResetStream
  split
  · exact h.congr rfl rfl rfl rfl
  · exact h

theorem resetStream_inv (s : RW) (h : CleanInv s) : CleanInv (resetStream s) := by
  unfold resetStream
  split
  · exact h
  · apply streamReset_inv
    exact h.congr (by simp [cleans, List.filter_append, isClean]) rfl rfl rfl

theorem act_inv (o : Outs) (s : RW) (a : Act) (h : CleanInv s) : CleanInv (act o s a) := by
  cases a with
  | store v => exact h.congr rfl rfl rfl rfl
  | call => exact h.congr (by simp [act, cleans, List.filter_append, isClean]) rfl rfl rfl
  | endStream =>
    simp only [act, gen_clean_facts.2.2.2.2, if_true]
    apply cleanStream_inv
    exact h.congr (by simp [cleans, List.filter_append, isClean]) rfl rfl rfl
  | cleanStream => exact cleanStream_inv s h
  | resetStream => exact resetStream_inv s h
  | ret => exact h.congr rfl rfl rfl rfl

theorem processError_state (s : RW) :
    (Gen.ProxyError.processError peOps s).1 = s ∨ (Gen.ProxyError.processError peOps s).1 = cleanStream s := by
  simp only [Gen.ProxyError.processError, peOps, Bool.not_true, Bool.false_eq_true, if_false, Bool.true_and, id]
  by_cases hc : s.cleaned = true
  · simp [hc]
  · by_cases hd : s.downReset = true
    · simp [hc, hd]
    · by_cases hp : s.procDone = true <;> simp [hc, hd, hp]

theorem step_inv (o : Outs) (s : RW) (op : Op) (h : CleanInv s) : CleanInv (step o s op) := by
  cases op with
  | reset => exact streamReset_inv s h
  | connClose =>
    simp only [step]
    split
    · exact h
    · exact h.congr rfl rfl rfl rfl
  | enter p eos g =>
    simp only [step]
    split
    · exact h
    · split
      · exact h.congr rfl rfl rfl rfl
      · exact h.congr rfl rfl rfl rfl
  | stmt g a =>
    simp only [step]
    split
    · exact h
    · split
      · exact act_inv o s a h
      · exact h
  | procErr =>
    simp only [step]
    split
    · exact h
    · have h' : CleanInv { s with skipping := false } := h.congr rfl rfl rfl rfl
      rcases processError_state { s with skipping := false } with he | he
      · exact h'.congr (by simp only [cleans]; rw [he]) (by rw [he]) (by rw [he]) (by rw [he])
      · have := cleanStream_inv _ h'
        exact this.congr (by simp only [cleans]; rw [he]) (by rw [he]) (by rw [he]) (by rw [he])
  | finish => exact h.congr rfl rfl rfl rfl

theorem exec_cleanInv (o : Outs) (l : List Op) (s : RW) (h : CleanInv s) : CleanInv (exec o s l) :=
  Lemmas.Fold.foldl_inv (step_inv o) l s h

theorem start_inv (cg ul : Bool) : CleanInv (start cg ul) := ⟨rfl, rfl, rfl⟩

/-- `chk` of the final state, for the departure `d` at every position of the op list `l` (positions counted from `n`) and
behind it; the run up to the position is shared between the positions -/
def sweep (o : Outs) (d : Op) (chk : Nat → RW → Bool) : Nat → RW → List Op → Bool
  | n, s, [] => chk n (step o s d) && chk (n + 1) s
  | n, s, x :: l => chk n (exec o (step o s d) (x :: l)) && sweep o d chk (n + 1) (step o s x) l

theorem sweep_spec (o : Outs) (d : Op) (chk : Nat → RW → Bool) : ∀ (l : List Op) (n : Nat) (s : RW),
    sweep o d chk n s l = true → ∀ rp, rp ≤ l.length + 1 → chk (n + rp) (exec o s (insertAt rp d l)) = true
  | [], n, s, h, rp, hrp => by
    simp only [sweep, Bool.and_eq_true] at h
    match rp, hrp with
    | 0, _ => exact h.1
    | 1, _ => exact h.2
  | x :: l, n, s, h, rp, hrp => by
    simp only [sweep, Bool.and_eq_true] at h
    cases rp with
    | zero => exact h.1
    | succ rp =>
      have := sweep_spec o d chk l (n + 1) (step o s x) h.2 rp (by simpa using hrp)
      rw [Nat.add_right_comm, Nat.add_assoc] at this
      exact this

/-- what the property asks of the final state `f` of one write beyond `CleanInv` (which gives the number of clean-up bodies,
the gauge and the list membership from `f.cleaned`), as one executable conjunction -/
def goodEnd (r : Reply) (o : Outs) (cg stays entered : Bool) (f : RW) : Bool :=
  f.returned && f.cleaned && decide (ends f ≤ 1) && endsAfterEos f.ev && f.procDone &&
  -- the client stays: every part of the reply is handed to the sender, in order, the last one ends the stream, endStream follows once
  (cg || !stays || (f.ev.filter isCall == expectedCalls r o && ends f == 1)) &&
  -- a reset that lands after the part was entered does not keep a header-only reply from being written and ended
  (cg || r.hasBody || r.hasTrailers || !entered || (f.ev.take 2 == [Ev.call .headers true o.h, Ev.endStream] && ends f == 1))

/-- … for the departure at position `rp`: the client stays when that is behind the op list, the first part is entered when
it is not the very first -/
def good (r : Reply) (o : Outs) (rp : Nat) (vc cg ul : Bool) : Bool :=
  goodEnd r o cg (decide ((ops genProgs r).length < rp)) (rp != 0) (writeReply genProgs r o rp vc (start cg ul))

/-- with the client staying at the start, every position of the departure (every reply shape, outcome vector, kind of departure) -/
theorem good_bounded : ∀ hb ht oh od ot vc ul : Bool,
    sweep ⟨oh, od, ot⟩ (departure vc)
      (fun rp f => goodEnd ⟨hb, ht⟩ ⟨oh, od, ot⟩ false (decide ((ops genProgs ⟨hb, ht⟩).length < rp)) (rp != 0) f)
      0 (start false ul) (ops genProgs ⟨hb, ht⟩) = true := by
  decide +kernel

/-- the client has gone already: `OnResetStream` ran, the downstream stream is reset -/
def gone (s : RW) : Prop := s.downReset = true ∧ s.downLive = false

/-- a second departure changes nothing -/
theorem departure_gone (o : Outs) (vc : Bool) (s : RW) (h : gone s) : step o s (departure vc) = s := by
  obtain ⟨h1, h2⟩ := h
  cases vc
  · simp only [departure, Bool.false_eq_true, if_false, step, streamReset, h2]
  · simp only [departure, if_true, step, onResetStream]
    split
    · rfl
    · cases s; simp_all

theorem gone_cleanStream (s : RW) (h : gone s) : gone (cleanStream s) := by
  unfold cleanStream cleanBody; split <;> exact h

theorem gone_streamReset (s : RW) (h : gone s) : gone (streamReset s) := by
  unfold streamReset; rw [h.2]; exact h

/-- … and no step of the write brings the client back -/
theorem gone_step (o : Outs) (s : RW) (op : Op) (h : gone s) : gone (step o s op) := by
  cases op with
  | reset => exact gone_streamReset s h
  | connClose => simp only [step]; split <;> exact ⟨by first | exact h.1 | rfl, h.2⟩
  | enter p eos g => simp only [step]; split <;> (try split) <;> exact h
  | stmt g a =>
    simp only [step]
    split
    · exact h
    · split
      · cases a with
        | store v => exact h
        | call => exact ⟨h.1, by simp [act, h.2]⟩
        | endStream => simp only [act]; split <;> first | exact gone_cleanStream _ h | exact h
        | cleanStream => exact gone_cleanStream s h
        | resetStream => simp only [act, resetStream]; split <;> first | exact h | exact gone_streamReset _ h
        | ret => exact h
      · exact h
  | procErr =>
    simp only [step]
    split
    · exact h
    · rcases processError_state { s with skipping := false } with he | he <;> rw [he]
      · exact h
      · exact gone_cleanStream _ h
  | finish => exact h

/-- so its position does not matter -/
theorem exec_insertAt_gone (o : Outs) (vc : Bool) : ∀ (l : List Op) (rp : Nat) (s : RW), gone s →
    exec o s (insertAt rp (departure vc) l) = exec o s l
  | l, 0, s, h => by simp only [insertAt, exec, List.foldl_cons, departure_gone o vc s h]
  | [], _ + 1, _, _ => rfl
  | x :: l, rp + 1, s, h => by
    simp only [insertAt, exec, List.foldl_cons]
    exact exec_insertAt_gone o vc l rp _ (gone_step o s x h)

/-- the writes to a client that has gone already -/
theorem good_gone : ∀ hb ht oh od ot ul : Bool,
    goodEnd ⟨hb, ht⟩ ⟨oh, od, ot⟩ true true true (exec ⟨oh, od, ot⟩ (start true ul) (ops genProgs ⟨hb, ht⟩)) = true := by
  decide +kernel

/-- every position behind the op list is the one right behind it -/
theorem good_late (r : Reply) (o : Outs) (rp : Nat) (vc cg ul : Bool) (h : (ops genProgs r).length < rp) :
    good r o rp vc cg ul = goodEnd r o cg true true (exec o (start cg ul) (ops genProgs r)) := by
  unfold good
  rw [writeReply_late _ _ _ _ _ _ h, decide_eq_true h, bne_iff_ne.mpr (by omega)]

theorem good_all (r : Reply) (o : Outs) (rp : Nat) (vc cg ul : Bool) : good r o rp vc cg ul = true := by
  obtain ⟨hb, ht⟩ := r
  obtain ⟨oh, od, ot⟩ := o
  cases cg
  · have all := sweep_spec _ _ _ _ _ _ (good_bounded hb ht oh od ot vc ul)
    by_cases h : rp ≤ (ops genProgs ⟨hb, ht⟩).length + 1
    · simpa only [Nat.zero_add, good, writeReply] using all rp h
    · rw [good_late _ _ rp vc false ul (by omega), ← good_late _ _ _ vc false ul (Nat.lt_succ_self _)]
      simpa only [Nat.zero_add, good, writeReply] using all _ (Nat.le_refl _)
  · -- what is asked of a write to a client that has gone does not depend on the position
    have e : ∀ a b f, goodEnd ⟨hb, ht⟩ ⟨oh, od, ot⟩ true a b f = goodEnd ⟨hb, ht⟩ ⟨oh, od, ot⟩ true true true f := fun a b f => by
      simp only [goodEnd, Bool.true_or]
    unfold good writeReply
    rw [exec_insertAt_gone _ vc _ rp _ ⟨rfl, rfl⟩, e]
    exact good_gone hb ht oh od ot ul

/-- `good_all` read as propositions, of the final state `f` of a write: how every write ends; what the client that stays
receives; the header-only reply -/
theorem writeReply_facts (r : Reply) (o : Outs) (rp : Nat) (vc cg ul : Bool) (f : RW)
    (hf : f = writeReply genProgs r o rp vc (start cg ul)) :
    (f.returned = true ∧ f.cleaned = true ∧ cleans f = 1 ∧ ends f ≤ 1 ∧ endsAfterEos f.ev = true) ∧
    (f.active = 0 ∧ f.listed = false ∧ f.procDone = true) ∧
    (cg = false → (ops genProgs r).length < rp → f.ev.filter isCall = expectedCalls r o ∧ ends f = 1) ∧
    (cg = false → r.hasBody = false → r.hasTrailers = false → 1 ≤ rp →
      f.ev.take 2 = [Ev.call .headers true o.h, Ev.endStream] ∧ ends f = 1) := by
  subst hf
  have h := good_all r o rp vc cg ul
  simp only [good, goodEnd, Bool.and_eq_true, beq_iff_eq, decide_eq_true_eq, Bool.or_eq_true, Bool.not_eq_true',
    decide_eq_false_iff_not, bne_eq_false_iff_eq] at h
  obtain ⟨⟨⟨⟨⟨⟨h1, h2⟩, h4⟩, h5⟩, h8⟩, h9⟩, h10⟩ := h
  -- cleaned, hence: one clean-up body, the gauge given back, off the active list
  have inv : CleanInv (writeReply genProgs r o rp vc (start cg ul)) := exec_cleanInv o _ _ (start_inv cg ul)
  have h3 : cleans (writeReply genProgs r o rp vc (start cg ul)) = 1 := by rw [inv.count, h2]; rfl
  refine ⟨⟨h1, h2, h3, h4, h5⟩, ⟨by rw [inv.gauge, h3]; rfl, by rw [inv.listed, h2]; rfl, h8⟩, fun hc hrp => ?_,
    fun hc hb ht hrp => ?_⟩
  · rcases h9 with (hh | hh) | hh
    · rw [hc] at hh; cases hh
    · omega
    · exact hh
  · rcases h10 with (((hh | hh) | hh) | hh) | hh
    · rw [hc] at hh; cases hh
    · rw [hb] at hh; cases hh
    · rw [ht] at hh; cases hh
    · omega
    · exact hh

/-- once the worker has returned, nothing the stream layer or the connection can still do runs the clean-up: a stream the
worker left uncleaned stays uncleaned (the late events only set a flag nobody reads any more) -/
theorem stranded_stays (o : Outs) (s : RW) (l : List Op) (hl : ∀ op ∈ l, op = Op.reset ∨ op = Op.connClose) :
    (exec o s l).cleaned = s.cleaned ∧ (exec o s l).ev = s.ev ∧ (exec o s l).listed = s.listed ∧ (exec o s l).active = s.active := by
  have := Lemmas.Fold.foldl_frame (fun x : RW => (x.cleaned, x.ev, x.listed, x.active)) (step o) l (fun op hop x => ?_) s
  · simpa only [exec, Prod.mk.injEq] using this
  · rcases hl op hop with rfl | rfl
    · simp only [step, streamReset, onResetStream]; split <;> rfl
    · simp only [step, onResetStream]; split <;> rfl

/-- the write path's view of a downstream-machine state: its flags, and one `clean` event per access-log event of its trace
(stated over the flags and the count, not the machine's types, so that the machine's files are not imported here) -/
def viewOf (procDone cleaned downReset downLive : Bool) (nLog : Nat) : RW :=
  { procDone := procDone, cleaned := cleaned, downReset := downReset, downLive := downLive,
    active := 1 - (nLog : Int), listed := !cleaned, ev := List.replicate nLog Ev.clean }

theorem viewOf_inv (procDone cleaned downReset downLive : Bool) (n : Nat) (h : n = if cleaned then 1 else 0) :
    CleanInv (viewOf procDone cleaned downReset downLive n) := by
  subst h
  cases cleaned <;> exact ⟨rfl, rfl, rfl⟩

end MosnVerif.Model.ReplyWrite
