import MosnVerif.Lemmas.HeaderMaps
import MosnVerif.Model.RouteFinalize
namespace MosnVerif.Model.RouteFinalize
open MosnVerif.Model.Headers MosnVerif.Gen.HeaderMutation MosnVerif.Gen.RouteFinalize

theorem length_pos_iff_ne_empty (x : String) : 0 < x.length ↔ x ≠ "" := by
  rw [Nat.pos_iff_ne_zero, ne_eq, String.length_eq_zero_iff]

theorem lenpos (x : String) : ((x.length : Int) > 0) ↔ x ≠ "" := by
  rw [← length_pos_iff_ne_empty]
  omega

/-- what `finalizePathHeader` does, in closed form: the path variable is rewritten, the received path recorded when it was -/
def pathResult (r : Route) (s : Req) : Req :=
  { hdrs := match s.path with
      | some p => if (specRewrite r p).isSome then set s.hdrs headerOriginalPath p else s.hdrs
      | none => s.hdrs
    path := specPath r s.path, host := s.host }

theorem pathHeader_eq (r : Route) (s : Req) :
    finalizePathHeader (ops r.levels) r.cfg r.regexReplace r.matched s = pathResult r s := by
  obtain ⟨h, p, ho⟩ := s
  cases p with
  | none => simp [finalizePathHeader, ops, pathResult, specPath]
  | some p =>
    simp only [finalizePathHeader, ops, pathResult, specPath, specRewrite, goHasPrefix, goDrop]
    -- along the branches of the regenerated function
    by_cases h3 : p = ""
    · simp [h3]
    · by_cases h1 : r.cfg.prefixRewrite = ""
      · by_cases h2 : r.cfg.regex = ""
        · simp [h1, h2, h3]
        · by_cases h6 : r.cfg.hasPattern = true
          · by_cases h5 : r.regexReplace p = p <;> simp [h1, h2, h3, h5, h6]
          · simp [h1, h2, h3, h6]
      · by_cases h4 : r.matched.toList.isPrefixOf p.toList = true <;> simp [h1, h3, h4]

/-- what `finalizeRequestHeaders` does, in closed form -/
theorem requestHeaders_eq (r : Route) (s : Req) :
    finalizeRequestHeaders (ops r.levels) r.cfg r.env s =
      { hdrs := finalize requestOrder r.levels s.hdrs, path := s.path,
        host := specHost r s } := by
  have hf : finalize (requestOrder.drop 1) r.levels (finalize (requestOrder.take 1) r.levels s.hdrs) =
      finalize requestOrder r.levels s.hdrs := (List.foldl_append ..).symm
  have hg : get (finalize requestOrder r.levels s.hdrs) r.cfg.autoHostRewriteHeader = _ :=
    get_finalize r.levels s.hdrs r.cfg.autoHostRewriteHeader
  simp only [finalizeRequestHeaders, ops, specHost, hf, hg]
  by_cases h1 : r.cfg.hostRewrite = ""
  · by_cases h2 : r.cfg.autoHostRewriteHeader = ""
    · cases r.cfg.autoHostRewrite
      · simp [h1, h2]
      · by_cases h4 : r.env.hasSnapshot = true ∧ r.env.clusterType = strictDNSCluster <;> simp [h1, h2, h4]
    · cases specValue (specOps r.levels) r.cfg.autoHostRewriteHeader (get s.hdrs r.cfg.autoHostRewriteHeader) <;>
        simp [h1, h2, length_pos_iff_ne_empty]
  · simp [h1, length_pos_iff_ne_empty]

theorem orderOf_eq (k : Kind) : orderOf k = [.requestHeaders, .pathHeader] := by
  cases k <;> decide

/-- the whole hop in closed form: the three-level header mutations and the host rewrite first, then the path rewrite on the
path variable, recording the received path -/
theorem finalizeRequest_eq (r : Route) (s : Req) :
    finalizeRequest r s =
      pathResult r { hdrs := finalize requestOrder r.levels s.hdrs, path := s.path, host := specHost r s } := by
  simp only [finalizeRequest, orderOf_eq, List.foldl_cons, List.foldl_nil, applyStep, requestHeaders_eq, pathHeader_eq]

end MosnVerif.Model.RouteFinalize
