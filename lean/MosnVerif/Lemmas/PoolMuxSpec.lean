import MosnVerif.Lemmas.PoolMux
/-! The observation of a multiplex-pool model state satisfying the invariant satisfies the executable predicate. -/
namespace MosnVerif.Model.PoolMux
open MosnVerif.Gen.PoolMux MosnVerif.Gen.Pool
open MosnVerif.Model.Pool (Stream Dial countLive OStream)

theorem exists_of_countOn_pos (f : Nat → Stream) (c n : Nat) (h : 0 < countOn f c n) :
    ∃ i, i < n ∧ (f i).live = true ∧ (f i).conn = c := by
  rw [countOn_eq, List.countP_pos_iff] at h
  obtain ⟨i, hi, hp⟩ := h
  rw [Bool.and_eq_true, beq_iff_eq] at hp
  exact ⟨i, List.mem_range.mp hi, hp⟩


theorem mem_liveConns (s : State) (h : Inv s) (c : Nat) :
    c ∈ (obsOf s).liveConns ↔ ∃ i, i < s.nStreams ∧ (s.stream i).live = true ∧ (s.stream i).conn = c :=
  Pool.mem_liveConns_obsStreams s.stream s.nStreams h.core.once c

theorem isOpen_obsOf (s : State) (c : Nat) :
    (obsOf s).isOpen c = (decide (c < s.nClients) && (s.client c).netOpen) := Pool.getD_map_range _ _ c

theorem mem_usable (s : State) (c : Nat) :
    c ∈ (obsOf s).usable ↔ ∃ i, i < s.nSlots ∧ s.slot i = .real c ∧ (s.client c).state = muxConnected := by
  simp only [Obs.usable, obsOf, List.mem_filterMap, List.mem_map, List.mem_range]
  constructor
  · rintro ⟨sl, ⟨i, hi, rfl⟩, hsl⟩
    cases hs : s.slot i with
    | empty => simp [hs] at hsl
    | fake st => simp [hs] at hsl
    | real c' =>
      simp only [hs, Bool.true_and, decide_eq_true_eq] at hsl
      split at hsl
      · rename_i hst; cases hsl; exact ⟨i, hi, hs, hst⟩
      · cases hsl
  · rintro ⟨i, hi, hs, hst⟩
    exact ⟨_, ⟨i, hi, rfl⟩, by simp [hs, hst]⟩

theorem obsSpec_holds (s : State) (h : Inv s) : obsSpec s.maxReq s.ext (obsOf s) = true := by
  have hc := h.core
  have hlen : (obsOf s).liveConns.length = s.liveCount := Pool.length_liveConns_obsStreams _ _ h.core.once
  unfold obsSpec
  simp only [Bool.and_eq_true, decide_eq_true_eq, List.all_eq_true, Bool.or_eq_true, Bool.not_eq_true',
    List.contains_iff_mem, isOpen_obsOf, beq_iff_eq, hlen]
  refine ⟨⟨⟨⟨⟨⟨hc.req, hc.act.1⟩, hc.act.2⟩, ?_⟩, ?_⟩, ?_⟩, ?_⟩
  · intro c hcu
    obtain ⟨i, _, hs, hst⟩ := (mem_usable s c).mp hcu
    have ⟨h1, _, h3⟩ := hc.slotOk i c hs
    exact ⟨h1, h3 hst⟩
  · intro c hcl
    obtain ⟨i, hi, hl, hcc⟩ := (mem_liveConns s h c).mp hcl
    subst hcc
    exact hc.liveOk i hi hl
  · intro c hcr
    have hc' : c < s.nClients := by simpa [obsOf] using List.mem_range.mp hcr
    cases ho : (s.client c).netOpen
    · left; left; simp
    · by_cases hg : (s.client c).goaway = 0
      · left; right
        have hs := hc.openOk c hc' ho hg
        exact (mem_usable s c).mpr ⟨_, hc.slotRange _ c hs, hs, (hc.st c hc').mpr hg⟩
      · right
        obtain ⟨i, hi, hl, hcc⟩ := exists_of_countOn_pos _ _ _ (h.drain c hc' ho hg)
        exact (mem_liveConns s h c).mpr ⟨i, hi, hl, hcc⟩
  · exact Pool.obsStreams_once s.stream s.nStreams hc.once

end MosnVerif.Model.PoolMux
