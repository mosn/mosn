import MosnVerif.Model.BoltV2
import MosnVerif.Model.BoltRef
import MosnVerif.Lemmas.Bytes
import MosnVerif.Lemmas.BoltHeader
/-! lemmas about the bolt-family codec model (core only) -/
namespace MosnVerif.Model.Bolt
open MosnVerif.Model MosnVerif.Model.Bytes

/-- the response decoders are only ever entered with `oneway = false` -/
def owOK (id : KindId) (ow : Bool) : Prop :=
  match id with
  | .v1resp | .v2resp => ow = false
  | _ => True

/-- the fixed fields a decoder of kind `id` can produce (`oneway` = how the protocol switch entered the decoder) -/
def metaWF (id : KindId) (m : Meta) (ow : Bool) : Prop :=
  owOK id ow ∧ m.cmdCode < 65536 ∧ m.version < 256 ∧ m.reqId < 4294967296 ∧ m.codec < 256 ∧
  match id with
  | .v1req => m.proto = 1 ∧ m.cmdType = (if ow then 2 else 1) ∧ m.timeout < 4294967296 ∧ m.status = 0 ∧ m.ver1 = 0 ∧ m.switchCode = 0
  | .v1resp => m.proto = 1 ∧ m.cmdType = 0 ∧ m.timeout = 0 ∧ m.status < 65536 ∧ m.ver1 = 0 ∧ m.switchCode = 0
  | .v2req => m.proto = 2 ∧ m.cmdType = (if ow then 2 else 1) ∧ m.timeout < 4294967296 ∧ m.status = 0 ∧ m.ver1 < 256 ∧ m.switchCode < 256
  | .v2resp => m.proto = 2 ∧ m.cmdType = 0 ∧ m.timeout = 0 ∧ m.status < 65536 ∧ m.ver1 < 256 ∧ m.switchCode < 256

/-- what the generic proofs need to know about a frame kind -/
structure KindOK (K : Kind) : Prop where
  frameLen_eq : ∀ c h n, K.frameLen c h n = K.hdrLen + c + h + n
  headerIndex_eq : ∀ c, K.headerIndex c = K.hdrLen + c
  contentIndex_eq : ∀ hi h, K.contentIndex hi h = hi + h
  id_in_hdr : K.idIdx + K.idWidth ≤ K.hdrLen
  idWidth_eq : K.idWidth = 4
  meta_len : ∀ m c h n, (K.encodeMeta m c h n).length = K.hdrLen
  /-- a written header reads back: the three length fields and the fixed fields -/
  read_back : ∀ m c h n rest ow, metaWF K.id m ow → c < 65536 → h < 65536 → n < 4294967296 →
    getBE (K.encodeMeta m c h n ++ rest) K.cls.1 K.cls.2 = c ∧ getBE (K.encodeMeta m c h n ++ rest) K.hdr.1 K.hdr.2 = h ∧
    getBE (K.encodeMeta m c h n ++ rest) K.cnt.1 K.cnt.2 = n ∧ K.decodeMeta (K.encodeMeta m c h n ++ rest) ow = m
  meta_wf : ∀ b ow, owOK K.id ow → metaWF K.id (K.decodeMeta b ow) ow

/-! ### the four kinds satisfy `KindOK` (literal reference kinds; the regenerated kinds are equal to them)

Each header writer is `fields` of its row of `layout`, so every read of `decodeMeta` / `decodeKind` on a written header is
evaluated by `getBE_fields_hit` / `getBE_fields_skip`. -/

theorem Meta.eq_of {a b : Meta} (h1 : a.proto = b.proto) (h2 : a.cmdType = b.cmdType) (h3 : a.cmdCode = b.cmdCode)
    (h4 : a.version = b.version) (h5 : a.reqId = b.reqId) (h6 : a.codec = b.codec) (h7 : a.timeout = b.timeout)
    (h8 : a.status = b.status) (h9 : a.ver1 = b.ver1) (h10 : a.switchCode = b.switchCode) : a = b := by
  cases a; cases b; simp_all

/-- the header of each kind in wire order: widths, and the values written for fixed fields `m` and class / header /
content lengths `c`, `h`, `n` -/
def layout : KindId → List Nat × (Meta → Nat → Nat → Nat → List Nat)
  | .v1req => ([1, 1, 2, 1, 4, 1, 4, 2, 2, 4],
      fun m c h n => [m.proto, m.cmdType, m.cmdCode, m.version, m.reqId, m.codec, m.timeout, c, h, n])
  | .v1resp => ([1, 1, 2, 1, 4, 1, 2, 2, 2, 4],
      fun m c h n => [m.proto, m.cmdType, m.cmdCode, m.version, m.reqId, m.codec, m.status, c, h, n])
  | .v2req => ([1, 1, 1, 2, 1, 4, 1, 1, 4, 2, 2, 4],
      fun m c h n => [m.proto, m.ver1, m.cmdType, m.cmdCode, m.version, m.reqId, m.codec, m.switchCode, m.timeout, c, h, n])
  | .v2resp => ([1, 1, 1, 2, 1, 4, 1, 1, 2, 2, 2, 4],
      fun m c h n => [m.proto, m.ver1, m.cmdType, m.cmdCode, m.version, m.reqId, m.codec, m.switchCode, m.status, c, h, n])

/-- every header writer is `fields` of its row of the table -/
theorem encodeMeta_eq (id : KindId) (m : Meta) (c h n : Nat) :
    (Ref.kindOf id).encodeMeta m c h n = fields (layout id).1 ((layout id).2 m c h n) := by
  cases id <;>
    simp only [Ref.kindOf, Ref.v1req, Ref.v1resp, Ref.v2req, Ref.v2resp, layout, fields, List.headD, List.tail,
      List.append_assoc, List.append_nil]

/-- the reference kinds satisfy `KindOK`: the shape facts by evaluation, the reads of `decodeKind` / `decodeMeta` on a
written header by the two rules for a read of `fields` -/
theorem refKind_ok (id : KindId) : KindOK (Ref.kindOf id) where
  frameLen_eq := by cases id <;> intros <;> rfl
  headerIndex_eq := by cases id <;> intros <;> rfl
  contentIndex_eq := by cases id <;> intros <;> rfl
  id_in_hdr := by cases id <;> decide
  idWidth_eq := by cases id <;> rfl
  meta_len := by intro m c h n; rw [encodeMeta_eq, fields_length]; cases id <;> rfl
  read_back := by
    intro m c h n rest ow hw hc hh hn
    obtain ⟨_, h1, h2, h3, h4, hk⟩ := hw
    rw [encodeMeta_eq]
    cases id <;> obtain ⟨hp, ht, h7, h8, h9, h10⟩ := hk <;>
      simp only [Ref.kindOf, Ref.v1req, Ref.v1resp, Ref.v2req, Ref.v2resp, layout, getBE_fields_hit, getBE_fields_skip,
        Nat.reduceLeDiff, Nat.reduceSub, Nat.reducePow, Nat.mod_eq_of_lt hc, Nat.mod_eq_of_lt hh, Nat.mod_eq_of_lt hn,
        Nat.mod_eq_of_lt h1, Nat.mod_eq_of_lt h2, Nat.mod_eq_of_lt h3, Nat.mod_eq_of_lt h4, true_and]
    · exact Meta.eq_of hp.symm ht.symm rfl rfl rfl rfl (Nat.mod_eq_of_lt h7) h8.symm h9.symm h10.symm
    · exact Meta.eq_of hp.symm ht.symm rfl rfl rfl rfl h7.symm (Nat.mod_eq_of_lt h8) h9.symm h10.symm
    · exact Meta.eq_of hp.symm ht.symm rfl rfl rfl rfl (Nat.mod_eq_of_lt h7) h8.symm (Nat.mod_eq_of_lt h9) (Nat.mod_eq_of_lt h10)
    · exact Meta.eq_of hp.symm ht.symm rfl rfl rfl rfl h7.symm (Nat.mod_eq_of_lt h8) (Nat.mod_eq_of_lt h9) (Nat.mod_eq_of_lt h10)
  meta_wf := by
    intro b ow ho
    cases id
    · exact ⟨ho, getBE_lt b 2 4, getBE_one_lt b 4, getBE_lt b 5 9, getBE_one_lt b 9, rfl, rfl, getBE_lt b 10 14, rfl, rfl, rfl⟩
    · exact ⟨ho, getBE_lt b 2 4, getBE_one_lt b 4, getBE_lt b 5 9, getBE_one_lt b 9, rfl, rfl, rfl, getBE_lt b 10 12, rfl, rfl⟩
    · exact ⟨ho, getBE_lt b 3 5, getBE_one_lt b 5, getBE_lt b 6 10, getBE_one_lt b 10, rfl, rfl, getBE_lt b 12 16, rfl,
        getBE_one_lt b 1, getBE_one_lt b 11⟩
    · exact ⟨ho, getBE_lt b 3 5, getBE_one_lt b 5, getBE_lt b 6 10, getBE_one_lt b 10, rfl, rfl, rfl, getBE_lt b 12 14,
        getBE_one_lt b 1, getBE_one_lt b 11⟩

/-- the regenerated kinds are the reference kinds: every offset, width and the field order of the writers agree -/
theorem v1req_eq : V1.req = Ref.v1req := rfl
theorem v1resp_eq : V1.resp = Ref.v1resp := rfl
theorem v2req_eq : V2.req = Ref.v2req := rfl
theorem v2resp_eq : V2.resp = Ref.v2resp := rfl

theorem kindOf_eq (id : KindId) : kindOf id = Ref.kindOf id := by
  cases id <;> rfl

theorem kindOf_ok (id : KindId) : KindOK (kindOf id) := kindOf_eq id ▸ refKind_ok id

theorem kindOf_id (id : KindId) : (kindOf id).id = id := by cases id <;> rfl

end MosnVerif.Model.Bolt
