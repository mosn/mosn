import MosnVerif.Lemmas.FrameSteps
import MosnVerif.Model.NeedMoreLive
/-! A "need more data" answer of a decoder is honest: some continuation of the buffer ends the wait -/
namespace MosnVerif.Lemmas.NeedMoreLive
open MosnVerif.Model.Framing MosnVerif.Model.FrameBytes MosnVerif.Model.FrameSteps MosnVerif.Model.NeedMoreLive
open MosnVerif.Gen.FrameLen MosnVerif.Gen.FrameConsts

def zeros (n : Nat) : Bytes := List.replicate n 0

/-- `h` never waits for ever: a buffer it answers needMore on has a continuation it answers a length or an error on -/
def HdrLive (h : Bytes → Hdr) : Prop := ∀ p, h p = .needMore → ∃ e, h (p ++ e) ≠ .needMore

theorem tarsHdr_needMore_not_hopeless (b : Bytes) (h : tarsHdr b = .needMore) : hopeless "tars" b = false := by
  have hF : tars_packageErrorFails = true := by decide
  unfold tarsHdr at h
  simp only [hF, if_true] at h
  simp only [hopeless, beq_self_eq_true, Bool.true_and, Bool.and_eq_false_iff, Bool.or_eq_false_iff, decide_eq_false_iff_not]
  by_cases h1 : b.length < tars_lenFieldSize
  · left; exact Nat.not_le_of_lt h1
  · simp only [h1, if_false] at h
    split at h
    · cases h
    · rename_i h2
      right
      simp only [tars_minPackageLength, tars_maxPackageLength, tars_lenFieldSize] at h2 ⊢; omega

/-- a header stage that answers once `k` bytes are buffered and, with the length field `r` inside them, `need` of its value:
zeros up to `k` bytes and then up to what the field then announces end the wait -/
theorem live_of_field (h : Bytes → Hdr) (k : Nat) (r : Nat × Nat) (need : Nat → Nat) (hr : r.2 ≤ k)
    (hh : ∀ b, k ≤ b.length → need (fld b r) ≤ b.length → h b ≠ .needMore) : HdrLive h := by
  intro p _
  refine ⟨zeros k ++ zeros (need (fld (p ++ zeros k) r)), ?_⟩
  rw [← List.append_assoc]
  have hl : k ≤ (p ++ zeros k).length := by simp [zeros]
  refine hh _ (by rw [List.length_append]; omega) ?_
  rw [fld_append _ _ r (by omega), List.length_append]
  simp only [zeros, List.length_replicate]
  omega

theorem dubboHdr_live : HdrLive dubboHdr :=
  live_of_field _ 16 dubbo_payLoadLen (16 + ·) (by decide) fun b h1 h2 => by
    have e1 : dubbo_enough1 b.length = true := by simpa [dubbo_enough1] using h1
    have e2 : dubbo_enough2 b.length (fld b dubbo_payLoadLen) = true := by simpa [dubbo_enough2] using h2
    simp [dubboHdr, e1, e2]

theorem thriftHdr_live : HdrLive thriftHdr :=
  live_of_field _ 6 thrift_sizeField (· + 4) (by decide) fun b h1 h2 => by
    have e1 : thrift_enough1 b.length = true := by simpa [thrift_enough1] using h1
    have e2 : thrift_enough2 b.length (fld b thrift_sizeField) = true := by simpa [thrift_enough2] using h2
    simp [thriftHdr, e1, e2]

theorem tarsHdr_live : HdrLive tarsHdr :=
  live_of_field _ 4 (0, tars_lenFieldSize) id (by decide) fun b h1 (h2 : be b 0 tars_lenFieldSize ≤ b.length) => by
    unfold tarsHdr
    rw [if_neg (by show ¬b.length < 4; omega)]
    dsimp only
    split
    · rw [if_pos (by decide)]
      nofun
    · simp [Nat.not_lt.2 h2]

/-- liveness passes through the envelope: the decoder then yields a frame or an error -/
theorem envelope_live (h : Bytes → Hdr) (ok : Bytes → Bool) (hl : HdrLive h) (p : Bytes)
    (hp : envelope h ok p = .needMore) : ∃ e, envelope h ok (p ++ e) ≠ .needMore :=
  (hl p (envelope_needMore.1 hp)).imp fun _ he => mt envelope_needMore.1 he

end MosnVerif.Lemmas.NeedMoreLive
