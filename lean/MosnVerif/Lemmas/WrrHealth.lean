import MosnVerif.Model.WrrHealth
import MosnVerif.Lemmas.LB
/-! Weighted round robin under health changes: the scheduler built by the regenerated `refresh` holds every host; the
scheduler's pick sequence does not depend on health; what one lookup owes; counts of weighted serves. Core Lean only. -/
namespace MosnVerif.Model.WrrHealth
open MosnVerif.Gen MosnVerif.Model.EDF MosnVerif.Model.LB

theorem mkH_length (ws : List Nat) (h : List Bool) : (mkH ws h).length = ws.length := by simp [mkH]

theorem hAt_mkH (ws : List Nat) (h : List Bool) (i : Nat) :
    hAt (mkH ws h) i = (decide (i < ws.length) && h.getD i false) := by
  unfold hAt mkH
  by_cases hi : i < ws.length
  · simp [hi]
  · simp [hi]

theorem hAt_mkH_lt {ws : List Nat} {h : List Bool} {i : Nat} (hi : i < ws.length) :
    hAt (mkH ws h) i = h.getD i false := by
  rw [hAt_mkH]; simp [hi]

theorem weights_mkH (ws : List Nat) (h : List Bool) : (mkH ws h).map (·.weight) = ws := by
  apply List.ext_getElem
  · simp [mkH]
  · intro i h1 h2
    simp [mkH, h2]

theorem wrrWf_mkH (ws : List Nat) (h : List Bool) : wrrWf (mkH ws h) = wrrWeight ws := by
  funext i
  unfold wrrWf fixedWeight wrrWeight wrrW statAt
  by_cases hi : i < ws.length
  · simp [mkH, hi]
  · simp [mkH, hi]

theorem weightsEqual_map (hs : Hosts) : weightsEqual hs = wsEqual (hs.map (·.weight)) := by
  cases hs with
  | nil => rfl
  | cons x r => simp [weightsEqual, wsEqual, List.all_map]; rfl

theorem weightsEqual_mkH (ws : List Nat) (h : List Bool) : weightsEqual (mkH ws h) = wsEqual ws := by
  rw [weightsEqual_map, weights_mkH]

theorem pattern_length (n : Nat) (hp : List Bool) : (pattern n hp).length = n := by simp [pattern]

/-- a Range whose callback adds every host and never stops adds the hosts `i, i+1, …` in order. -/
theorem rangeAdd_all (step : Bool → Bool × Bool) (hstep : ∀ b, step b = (true, true)) (wf : Nat → Rat)
    (hp : List Bool) (i : Nat) (s : Sched) :
    rangeAdd step wf hp i s = (List.range' i hp.length).foldl (fun s k => s.add k (wf k)) s := by
  induction hp generalizing i s with
  | nil => simp [rangeAdd]
  | cons h r ih =>
    simp only [rangeAdd, hstep, if_true, List.length_cons, List.range'_succ, List.foldl_cons]
    exact ih (i + 1) _

theorem rangeAdd_regenerated (wf : Nat → Rat) (hp : List Bool) :
    rangeAdd EdfRefresh.rangeStep wf hp 0 {} = initWith wf hp.length := by
  rw [rangeAdd_all EdfRefresh.rangeStep (fun b => by simp [EdfRefresh.rangeStep]), initWith, List.range_eq_range']

/-- **the regenerated `refresh` adds EVERY host**, whatever the hosts' health when the balancer is built, and never
drops the scheduler: it is the scheduler `EDF.refresh` the window bound is proved about. -/
theorem build_eq_refresh (wf : Nat → Rat) (hp : List Bool) (pre : List (Option Nat)) :
    build wf hp pre = some (refresh wf hp.length pre) := by
  unfold build buildWith
  rw [rangeAdd_regenerated]
  simp [EdfRefresh.dropsEmpty, refresh]

theorem expectSched_iff (ws : List Nat) : expectSched ws = true ↔ 2 ≤ ws.length ∧ wsEqual ws = false := by
  unfold expectSched
  simp

/-- the regenerated early returns: a scheduler is built exactly when `expectSched` says so, and then it is `EDF.refresh`. -/
theorem newStateH_sched_eq (ws : List Nat) (hp0 : List Bool) (rr0 : Nat) (pre : List (Option Nat)) :
    (newStateH ws hp0 rr0 pre).sched = if expectSched ws then some (refresh (wrrWeight ws) ws.length pre) else none := by
  have hb := build_eq_refresh (wrrWeight ws) (pattern ws.length hp0) pre
  rw [build, pattern_length] at hb
  simp only [newStateH, newStateWith, expectSched, hb, EdfRefresh.skipSmall, EdfRefresh.skipEqual]
  by_cases h2 : 2 ≤ ws.length
  · have : ¬ (ws.length : Int) ≤ 1 := by omega
    by_cases h : wsEqual ws = true <;> simp [h2, this, h]
  · have : (ws.length : Int) ≤ 1 := by omega
    simp [h2, this]

theorem newStateH_sched (ws : List Nat) (h2 : 2 ≤ ws.length) (hneq : wsEqual ws = false) (hp0 : List Bool) (rr0 : Nat)
    (pre : List (Option Nat)) :
    (newStateH ws hp0 rr0 pre).sched = some (refresh (wrrWeight ws) ws.length pre) := by
  rw [newStateH_sched_eq, if_pos ((expectSched_iff ws).mpr ⟨h2, hneq⟩)]

/-- the balancer state built through the regenerated `refresh` is the state `LB.newState` of the C05 model. -/
theorem newStateH_eq_newState (ws : List Nat) (hp0 : List Bool) (rr0 : Nat) (pre : List (Option Nat)) :
    newStateH ws hp0 rr0 pre = newState .wrr (mkH ws hp0) rr0 pre := by
  unfold newState
  simp only [mkH_length, hasEdf, Bool.true_and, weightsEqual_mkH, policyWf, wrrWf_mkH]
  exact congrArg (LBState.mk _) (newStateH_sched_eq ws hp0 rr0 pre)

/-! ### the scheduler under lookups: its picks do not depend on health -/

/-- the scheduler of a balancer over `ws`. -/
abbrev SchedOK (ws : List Nat) (s : Sched) : Prop := Ready (wrrWeight ws) ws.length s

theorem refresh_ok (ws : List Nat) (pre : List (Option Nat)) : SchedOK ws (refresh (wrrWeight ws) ws.length pre) :=
  ready_refresh _ (wrrWeight_pos ws) _ _

theorem loopH_edfLoop (hs : Hosts) (wf : Nat → Rat) (k : Nat) (s : Sched) (hints : List (Option Nat)) :
    (loopH hs wf k s hints).2 = edfLoop hs wf k s hints := by
  induction k generalizing s hints with
  | zero => rfl
  | succ k ih =>
    unfold loopH edfLoop
    cases hn : s.nextAndPush wf (hints.headD none) with
    | none => rfl
    | some p =>
      obtain ⟨i, s'⟩ := p
      simp only
      split
      · rfl
      · exact ih s' hints.tail

/-- the weighted loop: its picks are a run of the scheduler (whatever the health pattern); it makes a pick (when allowed
one); every pick but the last one was unhealthy; its result is the last pick if that is healthy; without result it made all
`k` picks. -/
theorem loopH_spec (ws : List Nat) (hs : Hosts) (hn : 0 < ws.length) (k : Nat) (s : Sched) (hok : SchedOK ws s)
    (hints : List (Option Nat)) {picks : List Nat} {res : Option Nat} {s' : Sched} {h' : List (Option Nat)}
    (hr : loopH hs (wrrWeight ws) k s hints = (picks, res, s', h')) :
    (∃ H, s.run (wrrWeight ws) H = (picks, s')) ∧ (0 < k → picks ≠ []) ∧ (∀ x ∈ picks.dropLast, hAt hs x = false) ∧
    res = picks.getLast?.filter (hAt hs) ∧ (res = none → picks.length = k) := by
  induction k generalizing s hints picks res s' h' with
  | zero =>
    cases hr
    exact ⟨⟨[], rfl⟩, fun h => absurd h (Nat.lt_irrefl 0), fun _ h => absurd h List.not_mem_nil, rfl, fun _ => rfl⟩
  | succ k ih =>
    obtain ⟨i, s1, hnp⟩ := nextAndPush_some (hok.ne_nil hn) (wrrWeight ws) (hints.headD none)
    unfold loopH at hr
    simp only [hnp] at hr
    by_cases hh : hAt hs i = true
    · rw [if_pos hh] at hr
      cases hr
      exact ⟨⟨[hints.headD none], by rw [run_cons_some [] hnp]; rfl⟩, fun _ => List.cons_ne_nil _ _,
        fun _ h => absurd h List.not_mem_nil,
        by rw [List.getLast?_singleton, Option.filter_some, if_pos hh], fun h => nomatch h⟩
    · rw [if_neg hh] at hr
      rcases hr1 : loopH hs (wrrWeight ws) k s1 hints.tail with ⟨p, r, s2, h2⟩
      rw [hr1] at hr
      cases hr
      obtain ⟨⟨H, h1⟩, _, f2, f3, f4⟩ := ih s1 (hok.next (wrrWeight_pos ws) hnp).1 hints.tail hr1
      refine ⟨⟨hints.headD none :: H, by rw [run_cons_some H hnp, h1]⟩, fun _ => List.cons_ne_nil _ _, ?_, ?_, ?_⟩
      · cases p with
        | nil => exact fun _ h => absurd h List.not_mem_nil
        | cons y ys =>
          rw [List.dropLast_cons_cons]
          exact List.forall_mem_cons.mpr ⟨by simpa using hh, f2⟩
      · cases p with
        | nil => rw [List.getLast?_singleton, Option.filter_some, if_neg hh]; exact f3
        | cons y ys => rw [List.getLast?_cons_cons]; exact f3
      · intro hnone
        rw [List.length_cons, f4 hnone]

theorem weighted_of_last {r : Rec} {l : Nat} (h : r.picks.getLast? = some l) : r.weighted = r.healthyAt l := by
  unfold Rec.weighted; rw [h]

/-- the executable per-lookup predicate, read as a proposition. -/
theorem lookupOk_iff (ws : List Nat) (r : Rec) : lookupOk ws r = true ↔
    (∀ x ∈ r.picks, x < ws.length) ∧ (∀ x ∈ r.picks.dropLast, r.healthyAt x = false) ∧
    (expectSched ws = true → r.picks ≠ []) ∧ (r.weighted = true → r.result = r.picks.getLast?) ∧
    (r.weighted = false →
      (expectSched ws = true → r.picks.length = ws.length) ∧ specChoice (mkH ws r.health) r.result = true) := by
  unfold lookupOk
  cases r.weighted <;> cases expectSched ws <;>
    simp only [Bool.not_false, Bool.not_true, Bool.true_or, Bool.false_or, Bool.and_true, Bool.true_and, Bool.false_eq_true,
      Bool.true_eq_false, if_true, if_false, Bool.and_eq_true, List.all_eq_true, decide_eq_true_eq, Bool.not_eq_eq_eq_not,
      List.isEmpty_eq_false_iff, beq_iff_eq, and_assoc, ne_eq, false_implies, forall_const, true_and, and_true]

/-- one `ChooseHost` of a balancer with a scheduler over ≥ 2 hosts, in terms of the traced loop. -/
theorem look_step (ws : List Nat) (h2 : 2 ≤ ws.length) (health : List Bool) (st : LBState) (s : Sched)
    (hst : st.sched = some s) (hints : List (Option Nat)) {picks : List Nat} {res : Option Nat} {s' : Sched}
    {h' : List (Option Nat)} (hr : loopH (mkH ws health) (wrrWeight ws) ws.length s hints = (picks, res, s', h')) :
    (wrrChoose (mkH ws health) st { hints := hints }).st.sched = some s' ∧
    picksOf (mkH ws health) st hints = picks ∧
    (∀ i, res = some i → (wrrChoose (mkH ws health) st { hints := hints }).result = some i) ∧
    (res = none → Good (mkH ws health) (wrrChoose (mkH ws health) st { hints := hints }).result) := by
  have e := loopH_edfLoop (mkH ws health) (wrrWeight ws) ws.length s hints
  rw [hr] at e
  have h0 : ¬ ws.length = 0 := by omega
  have h1 : ¬ ws.length = 1 := by omega
  have hle : ¬ ws.length ≤ 1 := by omega
  have hp : picksOf (mkH ws health) st hints = picks := by
    unfold picksOf
    simp only [mkH_length, hle, if_false, hst, wrrWf_mkH, hr]
  unfold wrrChoose edfFront
  simp only [mkH_length, h0, h1, if_false, hst, wrrWf_mkH, ← e]
  cases res with
  | none => exact ⟨rfl, hp, nofun, fun _ => rrChoose_good _ _⟩
  | some j => exact ⟨rfl, hp, fun _ hi => hi ▸ rfl, nofun⟩

/-- one lookup of a balancer with a scheduler over ≥ 2 hosts: its picks are a run of the scheduler, which the balancer
keeps in the state that run leaves, and the lookup satisfies the per-lookup predicate. -/
theorem look_spec (ws : List Nat) (h2 : 2 ≤ ws.length) (health : List Bool) (st : LBState) (s : Sched)
    (hst : st.sched = some s) (hok : SchedOK ws s) (hints : List (Option Nat)) :
    (∃ H s', s.run (wrrWeight ws) H = (picksOf (mkH ws health) st hints, s') ∧
      (wrrChoose (mkH ws health) st { hints := hints }).st.sched = some s') ∧
    lookupOk ws { health := health, picks := picksOf (mkH ws health) st hints,
                  result := (wrrChoose (mkH ws health) st { hints := hints }).result } = true := by
  have hn : 0 < ws.length := by omega
  rcases hr : loopH (mkH ws health) (wrrWeight ws) ws.length s hints with ⟨picks, lres, s', h'⟩
  obtain ⟨hs', hp, hsome, hnone⟩ := look_step ws h2 health st s hst hints hr
  obtain ⟨⟨H, hrun⟩, f0, f2, f3, f4⟩ := loopH_spec ws (mkH ws health) hn ws.length s hok hints hr
  have f1 := hok.run_lt (wrrWeight_pos ws) H
  rw [hrun] at f1
  rw [hp]
  refine ⟨⟨H, s', hrun, hs'⟩, ?_⟩
  obtain ⟨l, hlast⟩ := Option.isSome_iff_exists.mp (List.getLast?_isSome.mpr (f0 hn))
  have hl : l < ws.length := f1 l (List.mem_of_getLast? hlast)
  rw [hlast, Option.filter_some, hAt_mkH_lt hl] at f3
  generalize (wrrChoose (mkH ws health) st { hints := hints }).result = res at hsome hnone
  rw [lookupOk_iff, weighted_of_last (r := { health := health, picks := picks, result := res }) hlast]
  refine ⟨f1, fun x hx => ?_, fun _ => f0 hn, fun (hw : health.getD l false = true) => ?_,
    fun (hw : health.getD l false = false) => ?_⟩
  · exact (hAt_mkH_lt (f1 x (List.dropLast_subset _ hx))).symm.trans (f2 x hx)
  · rw [if_pos hw] at f3
    exact (hsome l f3).trans hlast.symm
  · rw [if_neg (ne_true_of_eq_false hw)] at f3
    exact ⟨fun _ => f4 f3, good_specChoice (hnone f3)⟩

/-- all scheduler picks of a sequence of lookups, in order. -/
def allPicks (recs : List Rec) : List Nat := recs.flatMap (·.picks)

/-- the lookups `recs` were made one after the other on a balancer whose scheduler was `s` before the first of them:
their picks, concatenated, are a run of `s`, and each of them satisfies the per-lookup predicate. -/
def IsRun (ws : List Nat) (s : Sched) (recs : List Rec) : Prop :=
  ∃ H s', s.run (wrrWeight ws) H = (allPicks recs, s') ∧ ∀ r ∈ recs, lookupOk ws r = true

/-- **the scheduler does not see health**: over any sequence of health flips and lookups the scheduler picks made by
the lookups (skipped and served ones), concatenated, are ONE run of the scheduler the sequence started with, every lookup
satisfies the per-lookup predicate, and the balancer keeps a scheduler over all hosts. -/
theorem runEv_isRun (ws : List Nat) (h2 : 2 ≤ ws.length) (evs : List Ev) (health : List Bool) (st : LBState) (s : Sched)
    (hst : st.sched = some s) (hok : SchedOK ws s) :
    IsRun ws s (runEv ws health st evs).1 ∧
      ∃ s', (runEv ws health st evs).2.2.sched = some s' ∧ SchedOK ws s' := by
  induction evs generalizing health st s with
  | nil => exact ⟨⟨[], s, rfl, by simp [runEv]⟩, s, hst, hok⟩
  | cons e r ih =>
    cases e with
    | flip i b =>
      simp only [runEv, stepEv]
      exact ih (health.set i b) st s hst hok
    | look hints =>
      obtain ⟨⟨H1, s1, r1, q1⟩, hl⟩ := look_spec ws h2 health st s hst hok hints
      have r3 := hok.run (wrrWeight_pos ws) H1
      rw [r1] at r3
      obtain ⟨⟨H2, s', i3, i5⟩, fin⟩ := ih health (wrrChoose (mkH ws health) st { hints := hints }).st _ q1 r3
      simp only [runEv, stepEv]
      refine ⟨⟨H1 ++ H2, s', ?_, ?_⟩, fin⟩
      · rw [hok.run_append (wrrWeight_pos ws) (by omega), r1]
        simp only [i3, allPicks, List.flatMap_cons]
      · exact List.forall_mem_cons.mpr ⟨hl, i5⟩

/-- a lookup that sees host `i` healthy picks `i` exactly when it serves `i` by a weighted pick. -/
theorem count_picks_of_ok {ws : List Nat} {r : Rec} (hok : lookupOk ws r = true) {i : Nat}
    (hi : r.healthyAt i = true) : r.picks.count i = if (r.weighted && r.result == some i) then 1 else 0 := by
  obtain ⟨_, b, _, d, _⟩ := (lookupOk_iff ws r).mp hok
  cases hlast : r.picks.getLast? with
  | none =>
    have : r.picks = [] := List.getLast?_eq_none_iff.mp hlast
    simp [this, Rec.weighted]
  | some l =>
    obtain ⟨ys, hys⟩ := List.getLast?_eq_some_iff.mp hlast
    have hd : r.picks.dropLast = ys := by rw [hys]; simp
    have hnot : i ∉ ys := by
      intro hm
      have := b i (by rw [hd]; exact hm)
      rw [hi] at this; simp at this
    rw [hys, List.count_append, List.count_eq_zero_of_not_mem hnot, weighted_of_last hlast, List.count_singleton]
    cases hw : r.healthyAt l
    · -- the last pick was unhealthy, so it is not `i`
      have hli : ¬ l = i := fun h => by rw [h, hi] at hw; cases hw
      simp [hli]
    · -- the last pick was healthy and is the result
      have hres := d (by rw [weighted_of_last hlast]; exact hw)
      rw [hlast] at hres
      simp [hres]

theorem count_allPicks {ws : List Nat} {recs : List Rec} (hok : ∀ r ∈ recs, lookupOk ws r = true) {i : Nat}
    (hi : healthyThroughout recs i = true) : (allPicks recs).count i = served recs i := by
  induction recs with
  | nil => rfl
  | cons r rs ih =>
    simp only [healthyThroughout, List.all_cons, Bool.and_eq_true] at hi
    obtain ⟨hr, hrs⟩ := List.forall_mem_cons.mp hok
    have h1 := count_picks_of_ok hr hi.1
    have h2 := ih hrs hi.2
    simp only [allPicks, List.flatMap_cons, List.count_append, served, List.countP_cons] at h2 ⊢
    rw [h1, h2]
    omega

theorem length_allPicks {ws : List Nat} {recs : List Rec} (he : expectSched ws = true)
    (hok : ∀ r ∈ recs, lookupOk ws r = true) : recs.length ≤ (allPicks recs).length := by
  induction recs with
  | nil => simp
  | cons r rs ih =>
    obtain ⟨hr, hrs⟩ := List.forall_mem_cons.mp hok
    have h1 := ((lookupOk_iff ws r).mp hr).2.2.1 he
    have h2 := ih hrs
    have : 0 < r.picks.length := List.length_pos_iff.mpr h1
    simp only [allPicks, List.flatMap_cons, List.length_append, List.length_cons] at h2 ⊢
    omega

theorem run_lag_int (ws : List Nat) (s : Sched) (hok : SchedOK ws s) (H : List (Option Nat)) (i j : Nat)
    (hi : i < ws.length) (hj : j < ws.length) :
    (((s.run (wrrWeight ws) H).1.count i : Nat) : Int) * wrrW ws j -
      (((s.run (wrrWeight ws) H).1.count j : Nat) : Int) * wrrW ws i ≤ wrrW ws i + wrrW ws j := by
  -- all lags lie in an interval `[L, U]` of width `wᵢ + wⱼ` that contains the lag 0 of the empty run
  obtain ⟨L, U, hLU, hb⟩ := lag_interval (wrrW ws) (wrrW_pos ws) s hok.1 hok.2.1 (hok.mem hi) (hok.mem hj)
  have h0 := (hb []).1
  rw [run_nil, lagVal_nil] at h0
  have := range_arith L U 0 _ _ hLU h0 (hb H).2
  rwa [Int.sub_zero] at this

/-! ### a host that waits: how many picks can pass -/

theorem sum_map_le {l : List Nat} {f g : Nat → Nat} (h : ∀ j ∈ l, f j ≤ g j) : (l.map f).sum ≤ (l.map g).sum := by
  induction l with
  | nil => simp
  | cons a r ih =>
    obtain ⟨h1, hr⟩ := List.forall_mem_cons.mp h
    have h2 := ih hr
    simp only [List.map_cons, List.sum_cons]
    omega

theorem sum_map_mul (l : List Nat) (f : Nat → Nat) (c : Nat) : (l.map f).sum * c = (l.map (fun j => f j * c)).sum := by
  induction l with
  | nil => simp
  | cons a r ih => simp only [List.map_cons, List.sum_cons, Nat.add_mul, ih]

theorem sum_map_add (l : List Nat) (f g : Nat → Nat) :
    (l.map (fun j => f j + g j)).sum = (l.map f).sum + (l.map g).sum := by
  induction l with
  | nil => simp
  | cons a r ih => simp only [List.map_cons, List.sum_cons, ih]; omega

theorem sum_map_const (l : List Nat) (c : Nat) : (l.map (fun _ => c)).sum = l.length * c := by
  rw [List.map_const', List.sum_replicate_nat]

theorem sum_indicator (l : List Nat) (x : Nat) : (l.map (fun j => if x == j then 1 else 0)).sum = l.count x := by
  induction l with
  | nil => rfl
  | cons a r ih => rw [List.map_cons, List.sum_cons, ih, List.count_cons, Nat.add_comm, BEq.comm]

/-- every pick is a host below `n`: the per-host counts add up to the number of picks. -/
theorem length_eq_sum_count (n : Nat) (p : List Nat) (h : ∀ x ∈ p, x < n) :
    ((List.range n).map (fun j => p.count j)).sum = p.length := by
  induction p with
  | nil => simp [sum_map_const]
  | cons x r ih =>
    obtain ⟨hx, hr⟩ := List.forall_mem_cons.mp h
    have e : (fun j => (x :: r).count j) = (fun j => r.count j + (if x == j then 1 else 0)) :=
      funext fun j => List.count_cons
    rw [e, sum_map_add, ih hr, sum_indicator, List.count_range, if_pos hx, List.length_cons]

/-- effective weights as naturals. -/
def wN (ws : List Nat) (k : Nat) : Nat := (wrrW ws k).toNat

theorem wN_cast (ws : List Nat) (k : Nat) : ((wN ws k : Nat) : Int) = wrrW ws k := by
  unfold wN
  exact Int.toNat_of_nonneg (Int.le_of_lt (wrrW_pos ws k))

theorem wN_pos (ws : List Nat) (k : Nat) : 0 < wN ws k := by
  have := wrrW_pos ws k
  have := wN_cast ws k
  omega

/-- **a waiting host bounds the run**: in a run of the scheduler that never picks host `i`, host `j` is picked at most
`wⱼ/wᵢ + 1` times, so the run is shorter than `⌊Σw/wᵢ⌋ + n + 1`. -/
theorem serve_gap (ws : List Nat) (s : Sched) (hok : SchedOK ws s) (H : List (Option Nat)) (i : Nat) (hi : i < ws.length)
    (hc : (s.run (wrrWeight ws) H).1.count i = 0) :
    (s.run (wrrWeight ws) H).1.length < serveWindow ws i := by
  have hlt := hok.run_lt (wrrWeight_pos ws) H
  generalize hp : (s.run (wrrWeight ws) H).1 = picks at hc hlt
  have hj : ∀ j ∈ List.range ws.length, picks.count j * wN ws i ≤ wN ws i + wN ws j := by
    intro j hj
    have hj' : j < ws.length := by simpa using hj
    have := run_lag_int ws s hok H j i hj' hi
    rw [hp, hc, ← wN_cast ws i, ← wN_cast ws j] at this
    simp only [Int.natCast_zero, Int.zero_mul, Int.sub_zero] at this
    have h2 : ((picks.count j * wN ws i : Nat) : Int) ≤ ((wN ws i + wN ws j : Nat) : Int) := by
      rw [Int.natCast_mul, Int.natCast_add]; omega
    exact Int.ofNat_le.mp h2
  have hsum := sum_map_le hj
  rw [← sum_map_mul, length_eq_sum_count ws.length picks hlt, sum_map_add, sum_map_const, List.length_range] at hsum
  unfold serveWindow effW
  have hw := wN_pos ws i
  generalize hT : ((List.range ws.length).map (fun j => wN ws j)).sum = T at hsum
  have hT' : ((List.range ws.length).map (fun j => (wrrW ws j).toNat)).sum = T := hT
  rw [hT']
  show picks.length < T / wN ws i + ws.length + 1
  -- `(|picks| − n)·wᵢ ≤ Σw`, divided by `wᵢ`
  have h3 : (picks.length - ws.length) * wN ws i ≤ T := by rw [Nat.sub_mul]; omega
  have := (Nat.le_div_iff_mul_le hw).mpr h3
  omega

theorem allPicks_append (A B : List Rec) : allPicks (A ++ B) = allPicks A ++ allPicks B := by
  simp [allPicks]

/-- a run of lookups splits: the later lookups are a run from the (reachable) scheduler the earlier ones leave. -/
theorem isRun_split (ws : List Nat) (s : Sched) (hok : SchedOK ws s) (A B : List Rec)
    (h : IsRun ws s (A ++ B)) : IsRun ws s A ∧ ∃ s1, SchedOK ws s1 ∧ IsRun ws s1 B := by
  obtain ⟨H, s', h1, h3⟩ := h
  obtain ⟨H1, H2, e1, e2⟩ := run_split (wrrWeight ws) H s (a := allPicks A) (b := allPicks B)
    (by rw [h1, allPicks_append])
  rw [h1] at e2
  obtain ⟨hA, hB⟩ := List.forall_mem_append.mp h3
  exact ⟨⟨H1, _, Prod.ext e1 rfl, hA⟩, _, hok.run (wrrWeight_pos ws) H1, H2, s', e2, hB⟩

/-- every window (start `a`, length `len`) of a run of lookups is a run of lookups from a reachable scheduler. -/
theorem isRun_window (ws : List Nat) (s : Sched) (hok : SchedOK ws s) (recs : List Rec)
    (h : IsRun ws s recs) (a len : Nat) : ∃ s1, SchedOK ws s1 ∧ IsRun ws s1 ((recs.drop a).take len) := by
  rw [← List.take_append_drop a recs] at h
  obtain ⟨_, s1, ok1, run1⟩ := isRun_split ws s hok _ _ h
  rw [← List.take_append_drop len (recs.drop a)] at run1
  obtain ⟨run2, _⟩ := isRun_split ws s1 ok1 _ _ run1
  exact ⟨s1, ok1, run2⟩

/-- **served within the window**: a host healthy throughout a window of at least `serveWindow` lookups is served by a
weighted pick in it. -/
theorem isRun_serves (ws : List Nat) (he : expectSched ws = true) (s : Sched) (hok : SchedOK ws s) (recs : List Rec)
    (h : IsRun ws s recs) (i : Nat) (hi : i < ws.length) (hh : healthyThroughout recs i = true)
    (hw : serveWindow ws i ≤ recs.length) : 0 < served recs i := by
  obtain ⟨H, s', h1, h3⟩ := h
  apply Nat.pos_of_ne_zero
  intro h0
  have hc : (s.run (wrrWeight ws) H).1.count i = 0 := by rw [h1]; simp only; rw [count_allPicks h3 hh, h0]
  have := serve_gap ws s hok H i hi hc
  rw [h1] at this
  have := length_allPicks he h3
  simp only at *
  omega

/-- **the lag bound over hosts healthy throughout the window** (integer form: multiplied by `wᵢ·wⱼ`). -/
theorem isRun_pair_int (ws : List Nat) (s : Sched) (hok : SchedOK ws s) (recs : List Rec) (h : IsRun ws s recs)
    (i j : Nat) (hi : i < ws.length) (hj : j < ws.length) (hhi : healthyThroughout recs i = true)
    (hhj : healthyThroughout recs j = true) :
    ((served recs i : Nat) : Int) * wrrW ws j - ((served recs j : Nat) : Int) * wrrW ws i ≤ wrrW ws i + wrrW ws j := by
  obtain ⟨H, s', h1, h3⟩ := h
  have := run_lag_int ws s hok H i j hi hj
  rw [h1] at this
  simp only at this
  rw [count_allPicks h3 hhi, count_allPicks h3 hhj] at this
  exact this

/-- … and in the statement's form `nᵢ/wᵢ − nⱼ/wⱼ ≤ 1/wᵢ + 1/wⱼ`. -/
theorem isRun_pair_rat (ws : List Nat) (s : Sched) (hok : SchedOK ws s) (recs : List Rec) (h : IsRun ws s recs)
    (i j : Nat) (hi : i < ws.length) (hj : j < ws.length) (hhi : healthyThroughout recs i = true)
    (hhj : healthyThroughout recs j = true) :
    ((served recs i : Nat) : Rat) / wrrWeight ws i - ((served recs j : Nat) : Rat) / wrrWeight ws j
      ≤ 1 / wrrWeight ws i + 1 / wrrWeight ws j := by
  obtain ⟨H, s', h1, h3⟩ := h
  have := window_bound (wrrWeight ws) (wrrWeight_pos ws) H s hok.1 hok.2.1 (hok.mem hi) (hok.mem hj)
  rw [h1] at this
  simp only at this
  rw [count_allPicks h3 hhi, count_allPicks h3 hhj] at this
  exact this

theorem isRun_windowOk (ws : List Nat) (he : expectSched ws = true) (s : Sched) (hok : SchedOK ws s) (recs : List Rec)
    (h : IsRun ws s recs) : windowOk ws recs = true := by
  unfold windowOk
  simp only [List.all_eq_true, List.mem_range, Bool.or_eq_true, Bool.not_eq_true', Bool.and_eq_true,
    decide_eq_true_eq]
  intro i hi
  cases hhi : healthyThroughout recs i
  · exact Or.inl rfl
  · right
    refine ⟨?_, ?_⟩
    · by_cases hw : recs.length < serveWindow ws i
      · exact Or.inl hw
      · exact Or.inr (isRun_serves ws he s hok recs h i hi hhi (by omega))
    · intro j hj
      cases hhj : healthyThroughout recs j
      · exact Or.inl rfl
      · right
        unfold pairBound effW
        simp only [decide_eq_true_eq]
        exact isRun_pair_int ws s hok recs h i j hi hj hhi hhj

theorem mem_windows {recs w : List Rec} (h : w ∈ windows recs) : ∃ a len, w = (recs.drop a).take len := by
  unfold windows at h
  simp only [List.mem_flatMap, List.mem_map] at h
  obtain ⟨a, _, len, _, rfl⟩ := h
  exact ⟨a, len, rfl⟩

theorem isRun_specH (ws : List Nat) (he : expectSched ws = true) (s : Sched) (hok : SchedOK ws s) (recs : List Rec)
    (h : IsRun ws s recs) : specH ws recs = true := by
  unfold specH
  simp only [Bool.and_eq_true, List.all_eq_true, Bool.or_eq_true]
  refine ⟨h.choose_spec.choose_spec.2, Or.inr ?_⟩
  intro w hw
  obtain ⟨a, len, rfl⟩ := mem_windows hw
  obtain ⟨s1, ok1, run1⟩ := isRun_window ws s hok recs h a len
  exact isRun_windowOk ws he s1 ok1 _ run1

/-! ### a balancer without scheduler (fewer than two hosts, or equal configured weights) -/

theorem wrrChoose_sched_none (hs : Hosts) (st : LBState) (c : Call) (hst : st.sched = none) :
    (wrrChoose hs st c).st.sched = none := by
  unfold wrrChoose edfFront
  simp only [hst]
  by_cases h0 : hs.length = 0
  · simp only [h0, if_true]; exact hst
  · by_cases h1 : hs.length = 1
    · simp only [h1, if_true, if_false, Nat.succ_ne_zero]; exact hst
    · simp only [h0, h1, if_false]; exact hst

theorem runEv_nosched (ws : List Nat) (he : expectSched ws = false) (evs : List Ev) (health : List Bool) (st : LBState)
    (hst : st.sched = none) :
    (runEv ws health st evs).2.2.sched = none ∧ ∀ r ∈ (runEv ws health st evs).1, lookupOk ws r = true := by
  induction evs generalizing health st with
  | nil => simpa [runEv] using hst
  | cons e r ih =>
    cases e with
    | flip i b =>
      simp only [runEv, stepEv]
      exact ih (health.set i b) st hst
    | look hints =>
      simp only [runEv, stepEv]
      have hp : picksOf (mkH ws health) st hints = [] := by
        unfold picksOf; simp [hst]
      have hst' := wrrChoose_sched_none (mkH ws health) st { hints := hints } hst
      obtain ⟨i1, i2⟩ := ih health _ hst'
      refine ⟨i1, List.forall_mem_cons.mpr ⟨?_, i2⟩⟩
      unfold lookupOk
      simp only [hp, he, Rec.weighted]
      have := good_specChoice (wrrChoose_good (mkH ws health) st { hints := hints })
      simp [this]

/-- C05 for a lookup that satisfies the per-lookup predicate: a member of the set; healthy when some host is healthy;
no host only when none is. -/
theorem lookupOk_specChoice {ws : List Nat} {r : Rec} (h : lookupOk ws r = true) :
    specChoice (mkH ws r.health) r.result = true := by
  obtain ⟨a, _, _, d, e⟩ := (lookupOk_iff ws r).mp h
  cases hw : r.weighted
  · exact (e hw).2
  · have hres := d hw
    unfold Rec.weighted at hw
    cases hl : r.picks.getLast? with
    | none => rw [hl] at hw; simp at hw
    | some l =>
      rw [hl] at hw hres
      have hlt := a l (List.mem_of_getLast? hl)
      have hh : hAt (mkH ws r.health) l = true := by rw [hAt_mkH_lt hlt]; exact hw
      rw [hres]
      exact good_specChoice (good_some hh)

/-- the lookups of a window of events, after any earlier events, are a run of lookups from a scheduler over all hosts. -/
theorem runEv_window (ws : List Nat) (h2 : 2 ≤ ws.length) (hneq : wsEqual ws = false) (hp0 : List Bool) (rr0 : Nat)
    (pre : List (Option Nat)) (before window : List Ev) :
    ∃ s1, SchedOK ws s1 ∧ IsRun ws s1 (runEv ws (runEv ws hp0 (newStateH ws hp0 rr0 pre) before).2.1
      (runEv ws hp0 (newStateH ws hp0 rr0 pre) before).2.2 window).1 := by
  obtain ⟨_, s1, hs1, ok1⟩ :=
    runEv_isRun ws h2 before hp0 _ _ (newStateH_sched ws h2 hneq hp0 rr0 pre) (refresh_ok ws pre)
  exact ⟨s1, ok1, (runEv_isRun ws h2 window _ _ s1 hs1 ok1).1⟩

/-- the executable predicate holds of the lookups of EVERY sequence of health flips and lookups, from every state
reachable after the balancer was built over ANY build-time health pattern — all weight vectors (weighted or not). -/
theorem specH_model (ws : List Nat) (hp0 : List Bool) (rr0 : Nat) (pre : List (Option Nat)) (before window : List Ev) :
    specH ws (runEv ws (runEv ws hp0 (newStateH ws hp0 rr0 pre) before).2.1
      (runEv ws hp0 (newStateH ws hp0 rr0 pre) before).2.2 window).1 = true := by
  cases he : expectSched ws
  · have h0 : (newStateH ws hp0 rr0 pre).sched = none := by rw [newStateH_sched_eq, he]; rfl
    obtain ⟨h1, _⟩ := runEv_nosched ws he before hp0 _ h0
    obtain ⟨_, h2⟩ := runEv_nosched ws he window _ _ h1
    unfold specH
    simp only [he, Bool.not_false, Bool.true_or, Bool.and_true, List.all_eq_true]
    exact h2
  · obtain ⟨h2, hneq⟩ := (expectSched_iff ws).mp he
    obtain ⟨s1, ok1, run2⟩ := runEv_window ws h2 hneq hp0 rr0 pre before window
    exact isRun_specH ws he s1 ok1 _ run2

end MosnVerif.Model.WrrHealth
