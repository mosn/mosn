import MosnVerif.Model.PoolMux
import MosnVerif.Lemmas.Resource
/-! helper lemmas for C09: list surgery of the idle list, live-stream counting, the invariant `Inv` and its
preservation by the canonical transitions every pool operation reduces to. Core Lean only. -/
namespace MosnVerif.Model.Pool
open MosnVerif.Gen.Pool
open MosnVerif.Model.PoolMux (ended)

/-- the live streams among the first `n`, counted over the index list -/
theorem countLive_eq (f : Nat → Stream) (n : Nat) : countLive f n = (List.range n).countP fun i => (f i).live := by
  induction n with
  | zero => rfl
  | succ n ih => rw [List.range_succ, List.countP_append, ← ih, List.countP_singleton]; rfl

theorem countLive_congr (f g : Nat → Stream) (n : Nat) (h : ∀ k, k < n → (f k).live = (g k).live) :
    countLive f n = countLive g n := by
  rw [countLive_eq, countLive_eq]
  exact List.countP_congr fun k hk => by rw [h k (List.mem_range.mp hk)]

/-- stream `i` is taken out of the index list: it counts in `f` and not in `g`, the others count alike -/
theorem countLive_kill (f g : Nat → Stream) (n i : Nat) (hi : i < n) (hl : (f i).live = true) (hd : (g i).live = false)
    (h : ∀ k, k ≠ i → (g k).live = (f k).live) : countLive g n + 1 = countLive f n := by
  have hp := List.perm_cons_erase (List.mem_range.mpr hi)
  rw [countLive_eq, countLive_eq, hp.countP_eq, hp.countP_eq, List.countP_cons, List.countP_cons, hl, hd,
    List.countP_congr fun k hk => by rw [h k (List.nodup_range.mem_erase_iff.mp hk).1]]
  rfl

/-- an operation behind a guard: nothing happens when the guard fails -/
theorem guarded {σ ρ : Type} {P : σ → Prop} {g : Prop} [Decidable g] {s t : σ} {r r' : ρ} (h : P s) (ht : g → P t) :
    P (if g then (t, r) else (s, r')).1 := by
  split
  · exact ht ‹_›
  · exact h

theorem nodup_concat {α : Type} (l : List α) (a : α) : (l ++ [a]).Nodup ↔ l.Nodup ∧ a ∉ l :=
  ((List.perm_append_singleton a l).nodup_iff.trans List.nodup_cons).trans And.comm

theorem map_repl_of_not_mem (ys : List Nat) (c last : Nat) (h : c ∉ ys) :
    ys.map (fun x => if x = c then last else x) = ys :=
  (List.map_congr_left fun x hx => if_neg fun (e : x = c) => h (e ▸ hx)).trans (List.map_id' ys)

/-- in a duplicate-free list that holds `c`, writing `last` over `c` removes `c` and adds `last`, up to order -/
theorem map_repl_perm (ys : List Nat) (c last : Nat) (hnd : ys.Nodup) (hc : c ∈ ys) :
    (ys.map (fun x => if x = c then last else x)).Perm (last :: ys.erase c) := by
  induction ys with
  | nil => cases hc
  | cons y r ih =>
    rw [List.nodup_cons] at hnd
    rw [List.map_cons]
    by_cases hy : y = c
    · subst hy
      rw [if_pos rfl, map_repl_of_not_mem r y last hnd.1, List.erase_cons_head]
    · rw [if_neg hy, List.erase_cons_tail (by simpa using hy)]
      exact ((ih hnd.2 ((List.mem_cons.mp hc).resolve_left (Ne.symm hy))).cons y).trans (List.Perm.swap last y _)

theorem swapRemove_concat (ys : List Nat) (last c : Nat) :
    swapRemove (ys ++ [last]) c = if c ∈ ys ++ [last] then ys.map (fun x => if x = c then last else x) else ys ++ [last] := by
  simp [swapRemove]

/-- the ping-pong pool's removal (the entry is overwritten by the last one, the list cut by one) is removal up to order -/
theorem swapRemove_perm (l : List Nat) (hnd : l.Nodup) (c : Nat) : (swapRemove l c).Perm (l.erase c) := by
  rcases List.eq_nil_or_concat l with rfl | ⟨ys, last, rfl⟩
  · exact .refl _
  · rw [List.concat_eq_append] at *
    obtain ⟨hys, hl⟩ := (nodup_concat ys last).mp hnd
    rw [swapRemove_concat]
    by_cases hcy : c ∈ ys
    · rw [if_pos (List.mem_append_left _ hcy), List.erase_append_left _ hcy]
      exact (map_repl_perm ys c last hys hcy).trans (List.perm_append_singleton last _).symm
    · rw [List.erase_append_right _ hcy]
      by_cases hcl : c = last
      · subst hcl
        rw [if_pos (List.mem_append_right _ (List.mem_singleton.mpr rfl)), map_repl_of_not_mem ys c c hcy, List.erase_cons_head,
          List.append_nil]
      · rw [if_neg (fun hm => (List.mem_append.mp hm).elim hcy (fun h => hcl (List.mem_singleton.mp h))),
          List.erase_cons_tail (by simpa using Ne.symm hcl)]
        exact .refl _

theorem swapRemove_of_not_mem (l : List Nat) (c : Nat) (hc : c ∉ l) : swapRemove l c = l := by
  unfold swapRemove
  split
  · rfl
  · rw [if_neg hc]

/-- removal from the idle list, of either kind, is removal up to order -/
theorem removeIdle_perm (k : Kind) (l : List Nat) (hnd : l.Nodup) (c : Nat) : (removeIdle k l c).Perm (l.erase c) := by
  cases k
  · exact .refl _
  · exact swapRemove_perm l hnd c

theorem mem_removeIdle (k : Kind) (l : List Nat) (hnd : l.Nodup) (c x : Nat) :
    x ∈ removeIdle k l c ↔ x ∈ l ∧ x ≠ c := by
  rw [(removeIdle_perm k l hnd c).mem_iff, hnd.mem_erase_iff]; exact And.comm

theorem nodup_removeIdle (k : Kind) (l : List Nat) (hnd : l.Nodup) (c : Nat) : (removeIdle k l c).Nodup :=
  (removeIdle_perm k l hnd c).nodup_iff.mpr (hnd.erase c)

theorem length_removeIdle (k : Kind) (l : List Nat) (hnd : l.Nodup) (c : Nat) (hc : c ∈ l) :
    (removeIdle k l c).length + 1 = l.length := by
  rw [(removeIdle_perm k l hnd c).length_eq, List.length_erase_of_mem hc]
  have : 0 < l.length := List.length_pos_of_mem hc
  omega

theorem removeIdle_of_not_mem (k : Kind) (l : List Nat) (c : Nat) (hc : c ∉ l) : removeIdle k l c = l := by
  cases k
  · exact List.erase_of_not_mem hc
  · exact swapRemove_of_not_mem l c hc

structure Inv (s : State) : Prop where
  books : s.total = (s.liveCount : Int) + (s.idle.length : Int)
  idleNodup : s.idle.Nodup
  idleOk : ∀ c, c ∈ s.idle → c < s.nClients ∧ (s.client c).closed = false ∧
      ∀ i, i < s.nStreams → (s.stream i).live = true → (s.stream i).conn ≠ c
  excl : ∀ i j, i < s.nStreams → j < s.nStreams → (s.stream i).live = true → (s.stream j).live = true →
      (s.stream i).conn = (s.stream j).conn → i = j
  liveOk : ∀ i, i < s.nStreams → (s.stream i).live = true → (s.client (s.stream i).conn).closed = false
  connOk : ∀ i, i < s.nStreams → (s.stream i).conn < s.nClients
  flagTruth : ∀ c, c < s.nClients → (s.client c).netOpen = !(s.client c).closed
  noLeak : ∀ c, c < s.nClients → (s.client c).closed = false →
      c ∈ s.idle ∨ ∃ i, i < s.nStreams ∧ (s.stream i).live = true ∧ (s.stream i).conn = c
  dirtyClosed : ∀ c, c < s.nClients → (s.client c).dirty = true → (s.client c).closed = true
  req : s.reqCur = if s.maxReq = 0 then 0 else (s.ext : Int) + (s.liveCount : Int)
  liveFresh : ∀ i, i < s.nStreams → (s.stream i).live = true →
      (s.stream i).recv = 0 ∧ (s.stream i).resets = [] ∧ (s.stream i).destroys = 0
  deadOnce : ∀ i, i < s.nStreams → (s.stream i).live = false →
      (s.stream i).destroys = 1 ∧ (s.stream i).recv ≤ 1 ∧ (s.stream i).resets.length ≤ 1 ∧
      ((s.stream i).recv = 1 → (s.stream i).resets = [])
  resetDirty : ∀ i, i < s.nStreams → (s.stream i).resets ≠ [] → (s.client (s.stream i).conn).dirty = true
  deadWhy : ∀ i, i < s.nStreams → (s.stream i).live = false → (s.stream i).recv = 1 ∨ (s.stream i).resets ≠ []

theorem resIncrease_eq (m : Nat) (cur : Int) : resIncrease m cur = if m = 0 then cur else cur + 1 :=
  Lemmas.Resource.increase_eq m cur
theorem resDecrease_eq (m : Nat) (cur : Int) : resDecrease m cur = if m = 0 then cur else cur - 1 :=
  Lemmas.Resource.decrease_eq m cur

/-- the breaker equation `cur = if max = 0 then 0 else x` after one slot is taken / given back -/
theorem req_inc {m : Nat} {q x y : Int} (h : q = if m = 0 then 0 else x) (hy : y = x + 1) :
    resIncrease m q = if m = 0 then 0 else y := by
  rw [resIncrease_eq, h, hy]; split <;> rfl
theorem req_dec {m : Nat} {q x y : Int} (h : q = if m = 0 then 0 else x) (hy : y + 1 = x) :
    resDecrease m q = if m = 0 then 0 else y := by
  rw [resDecrease_eq, h, ← hy]; split
  · rfl
  · omega

theorem inv_init (k : Kind) (mc mr : Nat) : Inv (init k mc mr) := by
  refine { books := rfl, idleNodup := List.nodup_nil, idleOk := ?_, excl := ?_, liveOk := ?_, connOk := ?_,
           flagTruth := ?_, noLeak := ?_, dirtyClosed := ?_, req := ?_, liveFresh := ?_, deadOnce := ?_, resetDirty := ?_, deadWhy := ?_ }
  all_goals simp [init, State.liveCount, countLive]

theorem live_new (c : Nat) : ({ conn := c } : Stream).live = true := by simp [Stream.live]

/-- the listeners of a live stream have been told nothing; those of a stream that ended, one end: a response or a reset -/
def Once (st : Stream) : Prop :=
  (st.live = true → st.destroys = 0 ∧ st.recv = 0 ∧ st.resets = []) ∧
  (st.live = false → st.destroys = 1 ∧ st.recv ≤ 1 ∧ st.resets.length ≤ 1 ∧ (st.recv = 1 → st.resets = []))

def OnceOk (f : Nat → Stream) (n : Nat) : Prop := ∀ i, i < n → Once (f i)

/-- a live stream ends, by a response or by a reset -/
theorem once_ended {st : Stream} (h : Once st) (hl : st.live = true) (reset : Option String) : Once (ended st reset) := by
  obtain ⟨f1, f2, f3⟩ := h.1 hl
  have hd : (ended st reset).live = false := rfl
  refine ⟨fun hh => absurd (hd.symm.trans hh) Bool.false_ne_true, fun _ => ?_⟩
  cases reset <;> simp [ended, f1, f2, f3]

theorem onceOk_lease (f : Nat → Stream) (n : Nat) (h : OnceOk f n) (c : Nat) :
    OnceOk (fun k => if k = n then { conn := c } else f k) (n + 1) := by
  intro i hi
  dsimp only
  split
  · exact ⟨fun _ => ⟨rfl, rfl, rfl⟩, fun hd => by cases (live_new c).symm.trans hd⟩
  · rename_i hin; exact h i (Nat.lt_of_le_of_ne (Nat.le_of_lt_succ hi) hin)

theorem onceOk_ended (f : Nat → Stream) (n : Nat) (h : OnceOk f n) (i : Nat) (hi : i < n) (hl : (f i).live = true)
    (reset : Option String) : OnceOk (fun k => if k = i then ended (f i) reset else f k) n := by
  intro k hk
  dsimp only
  split
  · exact once_ended (h i hi) hl reset
  · exact h k hk

theorem Inv.onceOk {s : State} (h : Inv s) : OnceOk s.stream s.nStreams := fun i hi =>
  ⟨fun hl => have ⟨f1, f2, f3⟩ := h.liveFresh i hi hl; ⟨f3, f1, f2⟩, h.deadOnce i hi⟩

theorem countLive_lease (f : Nat → Stream) (n c : Nat) :
    countLive (fun k => if k = n then ({ conn := c } : Stream) else f k) (n + 1) = countLive f n + 1 := by
  simp only [countLive, live_new, if_true]
  rw [countLive_congr _ f n (fun k hk => by rw [if_neg (Nat.ne_of_lt hk)])]

theorem liveCount_lease (s : State) (c : Nat) : (lease s c).liveCount = s.liveCount + 1 :=
  countLive_lease s.stream s.nStreams c

theorem lease_stream_cases (s : State) (c k : Nat) (hk : k < (lease s c).nStreams) :
    (k < s.nStreams ∧ (lease s c).stream k = s.stream k) ∨ (k = s.nStreams ∧ (lease s c).stream k = { conn := c }) := by
  rcases Nat.lt_succ_iff_lt_or_eq.mp hk with h | h
  · exact Or.inl ⟨h, if_neg (Nat.ne_of_lt h)⟩
  · exact Or.inr ⟨h, if_pos h⟩

/-- stream `i` is replaced by one that is no longer live: a live stream of the new table is an old one -/
theorem live_of_upd_dead {f : Nat → Stream} {i k : Nat} {st' : Stream} (hd : st'.live = false)
    (hl : (if k = i then st' else f k).live = true) : k ≠ i ∧ (if k = i then st' else f k) = f k := by
  by_cases hk : k = i
  · rw [if_pos hk, hd] at hl; cases hl
  · exact ⟨hk, if_neg hk⟩

def withNewClient (s : State) : State :=
  { s with total := s.total + 1, nClients := s.nClients + 1, client := fun k => if k = s.nClients then {} else s.client k }

/-- a dialled connection enters the pool as an idle client: only the client table, the count and the idle list change -/
theorem inv_dial (s : State) (h : Inv s) : Inv { withNewClient s with idle := s.idle ++ [s.nClients] } := by
  have old : ∀ k, k < s.nClients → (if k = s.nClients then ({} : Client) else s.client k) = s.client k :=
    fun k hk => if_neg (Nat.ne_of_lt hk)
  have fresh : s.nClients ∉ s.idle := fun hm => Nat.lt_irrefl _ (h.idleOk _ hm).1
  have last : s.nClients ∈ s.idle ++ [s.nClients] := List.mem_append_right _ (List.mem_singleton.mpr rfl)
  refine { h with books := ?_, idleNodup := (nodup_concat _ _).mpr ⟨h.idleNodup, fresh⟩, idleOk := ?_, liveOk := ?_,
                  connOk := fun i hi => Nat.lt_succ_of_lt (h.connOk i hi), flagTruth := ?_, noLeak := ?_, dirtyClosed := ?_,
                  resetDirty := ?_ }
  · show s.total + 1 = (s.liveCount : Int) + ((s.idle ++ [s.nClients]).length : Int)
    rw [h.books, List.length_append, List.length_singleton]; omega
  · intro c hc
    simp only [withNewClient]
    rcases List.mem_append.mp hc with hc | hc
    · obtain ⟨h1, h2, h3⟩ := h.idleOk c hc
      rw [old c h1]; exact ⟨Nat.lt_succ_of_lt h1, h2, h3⟩
    · cases List.mem_singleton.mp hc
      rw [if_pos rfl]
      exact ⟨Nat.lt_succ_self _, rfl, fun i hi _ e => Nat.lt_irrefl _ (e ▸ h.connOk i hi)⟩
  · intro i hi hl
    simp only [withNewClient]
    rw [old _ (h.connOk i hi)]; exact h.liveOk i hi hl
  · intro c hc
    simp only [withNewClient] at hc ⊢
    rcases Nat.lt_succ_iff_lt_or_eq.mp hc with hc | hc
    · rw [old c hc]; exact h.flagTruth c hc
    · rw [if_pos hc]; rfl
  · intro c hc hcl
    simp only [withNewClient] at hc hcl ⊢
    rcases Nat.lt_succ_iff_lt_or_eq.mp hc with hc | hc
    · rw [old c hc] at hcl
      rcases h.noLeak c hc hcl with h1 | h1
      · exact Or.inl (List.mem_append_left _ h1)
      · exact Or.inr h1
    · exact Or.inl (hc ▸ last)
  · intro c hc hd
    simp only [withNewClient] at hc hd ⊢
    rcases Nat.lt_succ_iff_lt_or_eq.mp hc with hc | hc
    · rw [old c hc] at hd ⊢; exact h.dirtyClosed c hc hd
    · rw [if_pos hc] at hd; cases hd
  · intro i hi hr
    simp only [withNewClient]
    rw [old _ (h.connOk i hi)]; exact h.resetDirty i hi hr

/-- the last idle client is leased: only the stream table, the breaker and the idle list change -/
theorem inv_lease_pop (s : State) (h : Inv s) (rest : List Nat) (c : Nat) (hidle : s.idle = rest ++ [c]) :
    Inv (lease { s with idle := rest } c) := by
  have hnd : rest.Nodup ∧ c ∉ rest := (nodup_concat rest c).mp (hidle ▸ h.idleNodup)
  have hsub : ∀ x, x ∈ rest → x ∈ s.idle := fun x hx => hidle ▸ List.mem_append_left _ hx
  obtain ⟨hc1, hc2, hc3⟩ := h.idleOk c (hidle ▸ List.mem_append_right _ (List.mem_singleton.mpr rfl))
  have hlc : (lease { s with idle := rest } c).liveCount = s.liveCount + 1 := liveCount_lease _ _
  have hst := lease_stream_cases { s with idle := rest } c
  have once := onceOk_lease s.stream s.nStreams h.onceOk c
  refine { h with books := ?_, idleNodup := hnd.1, idleOk := ?_, excl := ?_, liveOk := ?_, connOk := ?_, noLeak := ?_,
                  req := ?_, liveFresh := fun i hi hl => have ⟨d, r, e⟩ := (once i hi).1 hl; ⟨r, e, d⟩,
                  deadOnce := fun i hi => (once i hi).2, resetDirty := ?_, deadWhy := ?_ }
  · have hb := h.books
    rw [hidle, List.length_append, List.length_singleton] at hb
    show s.total = ((lease { s with idle := rest } c).liveCount : Int) + (rest.length : Int)
    rw [hlc]; omega
  · intro x hx
    obtain ⟨h1, h2, h3⟩ := h.idleOk x (hsub x hx)
    refine ⟨h1, h2, fun i hi hl => ?_⟩
    rcases hst i hi with ⟨hi', e⟩ | ⟨_, e⟩ <;> rw [e] at hl ⊢
    · exact h3 i hi' hl
    · exact fun e' => hnd.2 ((show c = x from e') ▸ hx)
  · intro i j hi hj hli hlj hc
    rcases hst i hi with ⟨hi', ei⟩ | ⟨hi', ei⟩ <;> rcases hst j hj with ⟨hj', ej⟩ | ⟨hj', ej⟩ <;>
      rw [ei] at hli hc <;> rw [ej] at hlj hc
    · exact h.excl i j hi' hj' hli hlj hc
    · exact absurd hc (hc3 i hi' hli)
    · exact absurd hc.symm (hc3 j hj' hlj)
    · rw [hi', hj']
  · intro i hi hl
    rcases hst i hi with ⟨hi', e⟩ | ⟨_, e⟩ <;> rw [e] at hl ⊢
    · exact h.liveOk i hi' hl
    · exact hc2
  · intro i hi
    rcases hst i hi with ⟨hi', e⟩ | ⟨_, e⟩ <;> rw [e]
    · exact h.connOk i hi'
    · exact hc1
  · intro k hk hcl
    by_cases hkc : k = c
    · have e : (lease { s with idle := rest } c).stream s.nStreams = { conn := c } := if_pos rfl
      exact Or.inr ⟨s.nStreams, Nat.lt_succ_self _, by rw [e]; exact live_new c, by rw [e, hkc]⟩
    · rcases h.noLeak k hk hcl with h1 | ⟨i, hi, hl, hc'⟩
      · rw [hidle] at h1
        rcases List.mem_append.mp h1 with h1 | h1
        · exact Or.inl h1
        · exact absurd (List.mem_singleton.mp h1) hkc
      · have e : (lease { s with idle := rest } c).stream i = s.stream i := if_neg (Nat.ne_of_lt hi)
        exact Or.inr ⟨i, Nat.lt_succ_of_lt hi, by rw [e]; exact hl, by rw [e]; exact hc'⟩
  · exact req_inc h.req (by rw [hlc]; show (s.ext : Int) + ((s.liveCount + 1 : Nat) : Int) = _; omega)
  · intro i hi hr
    rcases hst i hi with ⟨hi', e⟩ | ⟨_, e⟩ <;> rw [e] at hr ⊢
    · exact h.resetDirty i hi' hr
    · exact absurd rfl hr
  · intro i hi hl
    rcases hst i hi with ⟨hi', e⟩ | ⟨_, e⟩ <;> rw [e] at hl ⊢
    · exact h.deadWhy i hi' hl
    · cases (live_new c).symm.trans hl

theorem inv_lease_new (s : State) (h : Inv s) : Inv (lease (withNewClient s) s.nClients) :=
  inv_lease_pop _ (inv_dial s h) s.idle s.nClients rfl

/-- live stream `i` on client `c` has ended as `st'` and the client's entry is `cl'`: marked closed (the pool forgets the
connection) or as it was and back at the end of the idle list -/
def tFinish (s : State) (i c : Nat) (st' : Stream) (cl' : Client) : State :=
  { s with total := if cl'.closed then s.total - 1 else s.total,
           idle := if cl'.closed then removeIdle s.kind s.idle c else s.idle ++ [c],
           reqCur := resDecrease s.maxReq s.reqCur,
           client := fun k => if k = c then cl' else s.client k,
           stream := fun k => if k = i then st' else s.stream k }

def tCloseIdle (s : State) (c : Nat) (cl' : Client) : State :=
  { s with total := s.total - 1, idle := removeIdle s.kind s.idle c,
           client := fun k => if k = c then cl' else s.client k }

theorem Inv.clean {s : State} (h : Inv s) {c : Nat} (hc : c < s.nClients) (hcl : (s.client c).closed = false) :
    (s.client c).dirty = false := by
  cases hd : (s.client c).dirty
  · rfl
  · cases hcl.symm.trans (h.dirtyClosed c hc hd)

theorem Inv.open_iff {s : State} (h : Inv s) {c : Nat} (hc : c < s.nClients) :
    (s.client c).netOpen = true ↔ (s.client c).closed = false := by
  rw [h.flagTruth c hc]; cases (s.client c).closed <;> decide

theorem inv_finish (s : State) (h : Inv s) (i c : Nat) (reset : Option String) (cl' : Client) (hi : i < s.nStreams)
    (hl : (s.stream i).live = true) (hc : (s.stream i).conn = c) (h7 : reset.isSome = true → cl'.dirty = true)
    (h8 : cl'.dirty = true → cl'.closed = true) (h9 : cl'.netOpen = !cl'.closed) :
    Inv (tFinish s i c (ended (s.stream i) reset) cl') := by
  have h2 : (ended (s.stream i) reset).live = false := rfl
  obtain ⟨f1, f2, _⟩ := h.liveFresh i hi hl
  have hlc : (tFinish s i c (ended (s.stream i) reset) cl').liveCount + 1 = s.liveCount :=
    countLive_kill s.stream _ s.nStreams i hi hl (congrArg Stream.live (if_pos rfl)) fun k hk => congrArg Stream.live (if_neg hk)
  have hcn : c < s.nClients := hc ▸ h.connOk i hi
  have hcl : (s.client c).closed = false := hc ▸ h.liveOk i hi hl
  have hci : c ∉ s.idle := fun hm => (h.idleOk c hm).2.2 i hi hl hc
  have hrm : removeIdle s.kind s.idle c = s.idle := removeIdle_of_not_mem _ _ _ hci
  -- a stream that stays live runs on another client, whose entry is untouched
  have other : ∀ k, k < s.nStreams → (s.stream k).live = true → k ≠ i →
      (if (s.stream k).conn = c then cl' else s.client (s.stream k).conn) = s.client (s.stream k).conn :=
    fun k hk hlk hki => if_neg (fun e => hki (h.excl k i hk hi hlk hl (e.trans hc.symm)))
  have once := onceOk_ended s.stream s.nStreams h.onceOk i hi hl reset
  refine { books := ?_, idleNodup := ?_, idleOk := ?_, excl := ?_, liveOk := ?_, connOk := ?_, flagTruth := ?_,
           noLeak := ?_, dirtyClosed := ?_, req := ?_, liveFresh := fun k hk hlk => have ⟨d, r, e⟩ := (once k hk).1 hlk; ⟨r, e, d⟩,
           deadOnce := fun k hk => (once k hk).2, resetDirty := ?_, deadWhy := ?_ }
  · show (if cl'.closed then s.total - 1 else s.total) = ((tFinish s i c (ended (s.stream i) reset) cl').liveCount : Int) +
      ((if cl'.closed then removeIdle s.kind s.idle c else s.idle ++ [c]).length : Int)
    rw [hrm, h.books, ← hlc]
    split
    · omega
    · rw [List.length_append, List.length_singleton]; omega
  · simp only [tFinish, hrm]
    split
    · exact h.idleNodup
    · exact (nodup_concat _ _).mpr ⟨h.idleNodup, hci⟩
  · intro x hx
    simp only [tFinish, hrm] at hx ⊢
    have hx' : x ∈ s.idle ∨ (x = c ∧ cl'.closed = false) := by
      split at hx
      · exact Or.inl hx
      · rename_i hcd
        rcases List.mem_append.mp hx with hx | hx
        · exact Or.inl hx
        · exact Or.inr ⟨List.mem_singleton.mp hx, Bool.eq_false_iff.mpr hcd⟩
    rcases hx' with hx | ⟨hxc, hcd⟩
    · obtain ⟨a, b, d⟩ := h.idleOk x hx
      rw [if_neg (fun (e : x = c) => hci (e ▸ hx))]
      refine ⟨a, b, fun k hk hlk => ?_⟩
      obtain ⟨_, e⟩ := live_of_upd_dead h2 hlk
      rw [e] at hlk ⊢; exact d k hk hlk
    · rw [hxc, if_pos rfl]
      refine ⟨hcn, hcd, fun k hk hlk => ?_⟩
      obtain ⟨hki, e⟩ := live_of_upd_dead h2 hlk
      rw [e] at hlk ⊢
      exact fun e' => hki (h.excl k i hk hi hlk hl (e'.trans hc.symm))
  · intro a b ha hb hla hlb hcab
    simp only [tFinish] at ha hb hla hlb hcab
    obtain ⟨_, ea⟩ := live_of_upd_dead h2 hla
    obtain ⟨_, eb⟩ := live_of_upd_dead h2 hlb
    rw [ea] at hla hcab; rw [eb] at hlb hcab
    exact h.excl a b ha hb hla hlb hcab
  · intro k hk hlk
    simp only [tFinish] at hk hlk ⊢
    obtain ⟨hki, e⟩ := live_of_upd_dead h2 hlk
    rw [e] at hlk ⊢
    rw [other k hk hlk hki]; exact h.liveOk k hk hlk
  · intro k hk
    simp only [tFinish] at hk ⊢
    by_cases hki : k = i
    · rw [if_pos hki]; exact h.connOk i hi
    · rw [if_neg hki]; exact h.connOk k hk
  · intro k hk
    simp only [tFinish] at hk ⊢
    by_cases hkc : k = c
    · rw [if_pos hkc]; exact h9
    · rw [if_neg hkc]; exact h.flagTruth k hk
  · intro k hk hkc
    simp only [tFinish, hrm] at hk hkc ⊢
    by_cases hkc' : k = c
    · rw [if_pos hkc'] at hkc
      rw [if_neg (Bool.eq_false_iff.mp hkc)]
      exact Or.inl (List.mem_append_right _ (List.mem_singleton.mpr hkc'))
    · rw [if_neg hkc'] at hkc
      rcases h.noLeak k hk hkc with h' | ⟨j, hj, hjl, hjc⟩
      · refine Or.inl ?_
        split
        · exact h'
        · exact List.mem_append_left _ h'
      · have hji : j ≠ i := fun e => hkc' (by rw [← hjc, e, hc])
        exact Or.inr ⟨j, hj, by rw [if_neg hji]; exact hjl, by rw [if_neg hji]; exact hjc⟩
  · intro k hk hd
    simp only [tFinish] at hk hd ⊢
    by_cases hkc : k = c
    · rw [if_pos hkc] at hd ⊢; exact h8 hd
    · rw [if_neg hkc] at hd ⊢; exact h.dirtyClosed k hk hd
  · exact req_dec h.req (by show (s.ext : Int) + ((tFinish s i c (ended (s.stream i) reset) cl').liveCount : Int) + 1 = _; omega)
  · intro k hk hr
    simp only [tFinish] at hk hr ⊢
    by_cases hki : k = i
    · rw [if_pos hki] at hr ⊢
      rw [show (ended (s.stream i) reset).conn = c from hc, if_pos rfl]
      cases reset
      · exact absurd f2 hr
      · exact h7 rfl
    · rw [if_neg hki] at hr ⊢
      have hd := h.resetDirty k hk hr
      by_cases hkc : (s.stream k).conn = c
      · rw [hkc, h.clean hcn hcl] at hd; cases hd
      · rw [if_neg hkc]; exact hd
  · intro k hk hlk
    simp only [tFinish] at hk hlk ⊢
    by_cases hki : k = i
    · rw [if_pos hki]; cases reset <;> simp [ended, f1, f2]
    · rw [if_neg hki] at hlk ⊢; exact h.deadWhy k hk hlk

/-- idle client `c` loses its connection -/
theorem inv_close_idle (s : State) (h : Inv s) (c : Nat) (cl' : Client) (hm : c ∈ s.idle)
    (h8 : cl'.closed = true) (h9 : cl'.netOpen = false) : Inv (tCloseIdle s c cl') := by
  obtain ⟨hcn, hcl, hns⟩ := h.idleOk c hm
  have hmem := mem_removeIdle s.kind s.idle h.idleNodup c
  refine { h with books := ?_, idleNodup := nodup_removeIdle _ _ h.idleNodup _, idleOk := ?_, liveOk := ?_,
                  flagTruth := ?_, noLeak := ?_, dirtyClosed := ?_, resetDirty := ?_ }
  · show s.total - 1 = (s.liveCount : Int) + ((removeIdle s.kind s.idle c).length : Int)
    rw [h.books, ← length_removeIdle s.kind s.idle h.idleNodup c hm]; omega
  · intro x hx
    simp only [tCloseIdle] at hx ⊢
    obtain ⟨hx, hxc⟩ := (hmem x).mp hx
    rw [if_neg hxc]; exact h.idleOk x hx
  · intro k hk hlk
    simp only [tCloseIdle]
    rw [if_neg (hns k hk hlk)]; exact h.liveOk k hk hlk
  · intro k hk
    simp only [tCloseIdle] at hk ⊢
    by_cases hkc : k = c
    · rw [if_pos hkc, h8, h9]; rfl
    · rw [if_neg hkc]; exact h.flagTruth k hk
  · intro k hk hkc
    simp only [tCloseIdle] at hk hkc ⊢
    by_cases hkc' : k = c
    · rw [if_pos hkc', h8] at hkc; cases hkc
    · rw [if_neg hkc'] at hkc
      rcases h.noLeak k hk hkc with h' | h'
      · exact Or.inl ((hmem k).mpr ⟨h', hkc'⟩)
      · exact Or.inr h'
  · intro k hk hd
    simp only [tCloseIdle] at hk hd ⊢
    by_cases hkc : k = c
    · rw [if_pos hkc]; exact h8
    · rw [if_neg hkc] at hd ⊢; exact h.dirtyClosed k hk hd
  · intro k hk hr
    simp only [tCloseIdle]
    have hd := h.resetDirty k hk hr
    by_cases hkc : (s.stream k).conn = c
    · rw [hkc, h.clean hcn hcl] at hd; cases hd
    · rw [if_neg hkc]; exact hd

/-- only the `closeConn` / `closeWithActiveReq` flags of clients change -/
theorem inv_flags (s : State) (h : Inv s) (g : Nat → Client)
    (hg : ∀ k, (g k).closed = (s.client k).closed ∧ (g k).netOpen = (s.client k).netOpen ∧ (g k).dirty = (s.client k).dirty) :
    Inv { s with client := g } := by
  refine { h with idleOk := ?_, liveOk := ?_, flagTruth := ?_, noLeak := ?_, dirtyClosed := ?_, resetDirty := ?_ }
  · intro c hc; simp only [(hg c).1]; exact h.idleOk c hc
  · intro i hi hl; simp only [(hg _).1]; exact h.liveOk i hi hl
  · intro c hc; simp only [(hg c).1, (hg c).2.1]; exact h.flagTruth c hc
  · intro c hc hcl; simp only [(hg c).1] at hcl; exact h.noLeak c hc hcl
  · intro c hc hd; simp only [(hg c).1, (hg c).2.2] at hd ⊢; exact h.dirtyClosed c hc hd
  · intro i hi hr; simp only [(hg _).2.2]; exact h.resetDirty i hi hr

/-- another pool of the cluster takes / returns a slot of the shared requests breaker -/
theorem inv_ext_inc (s : State) (h : Inv s) :
    Inv { s with reqCur := resIncrease s.maxReq s.reqCur, ext := s.ext + 1 } :=
  { h with req := req_inc h.req (by show ((s.ext + 1 : Nat) : Int) + (s.liveCount : Int) = _; omega) }

theorem inv_ext_dec (s : State) (h : Inv s) (hpos : s.ext > 0) :
    Inv { s with reqCur := resDecrease s.maxReq s.reqCur, ext := s.ext - 1 } :=
  { h with req := req_dec h.req (by show ((s.ext - 1 : Nat) : Int) + (s.liveCount : Int) + 1 = _; omega) }

end MosnVerif.Model.Pool
