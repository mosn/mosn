import MosnVerif.Model.ProxyGen
/-! Invariant of the pooled-object machine (Model/ProxyGen) for guarded callback shapes. -/
namespace MosnVerif.Lemmas.ProxyGen
open MosnVerif.Model.ProxyGen
open MosnVerif.Gen.ProxyGen (Step)

/-- what is known about one callback, relative to the object's generation / reuse flag and the counter -/
structure CbOk (gen : Nat) (reuse : Bool) (ctr : Nat) (c : Cb) : Prop where
  capArm : c.fresh = false → c.cap = c.own ∧ 1 ≤ c.cap ∧ c.cap ≤ ctr
  nrOk : c.nr = true → c.fresh = false → gen = c.cap → reuse = false
  pgOk : c.pg = true → gen = c.cap ∧ c.fresh = false ∧ c.nr = true
  safe : ∀ p, c.pc = some p → safeProg p c.nr c.fresh c.pg = true
  idle : c.pc = none → c.nr = false ∧ c.fresh = false ∧ c.pg = false

structure Inv (s : St) : Prop where
  genLe : s.o.gen ≤ s.ctr
  pool : s.o.held = false → s.o.gen = 0
  heldPos : s.o.held = true → 1 ≤ s.o.gen
  cbs : ∀ c ∈ s.cbs, CbOk s.o.gen s.o.reuse s.ctr c
  hits : ∀ h ∈ s.hits, h.hit = h.own ∧ h.held = true
  touched : ∀ t ∈ s.touched, t.2 = t.1
  replies : ∀ r ∈ s.replies, r.2 = r.1

/-- what holds of every callback, and of the rewritten one, holds of every callback of `updAt l i f` -/
theorem forall_mem_updAt {P : Cb → Prop} {l : List Cb} {i : Nat} {f : Cb → Cb} (h : ∀ c ∈ l, P c)
    (hf : ∀ c, l[i]? = some c → P (f c)) : ∀ c ∈ updAt l i f, P c := by
  fun_induction updAt l i f with
  | case1 => exact List.forall_mem_nil _
  | case2 c r => exact List.forall_mem_cons.mpr ⟨hf c rfl, fun x hx => h x (.tail _ hx)⟩
  | case3 c r i ih => exact List.forall_mem_cons.mpr ⟨h c (.head _), ih (fun x hx => h x (.tail _ hx)) hf⟩

theorem CbOk.mono {gen : Nat} {reuse : Bool} {ctr ctr' : Nat} {c : Cb} (h : CbOk gen reuse ctr c) (hc : ctr ≤ ctr') :
    CbOk gen reuse ctr' c :=
  { h with capArm := fun hf => ⟨(h.capArm hf).1, (h.capArm hf).2.1, Nat.le_trans (h.capArm hf).2.2 hc⟩ }

/-- the reuse flag is cleared (or kept) -/
theorem CbOk.clear {gen : Nat} {reuse reuse' : Bool} {ctr : Nat} {c : Cb} (h : CbOk gen reuse ctr c)
    (hr : reuse' = false ∨ reuse' = reuse) : CbOk gen reuse' ctr c :=
  { h with nrOk := fun a b d => by rcases hr with hr | hr <;> simp [hr, h.nrOk a b d] }

/-- the object gets a generation no armed callback can hold (0, or above the counter), and `c` had not passed its test -/
theorem CbOk.regen {gen gen' : Nat} {reuse reuse' : Bool} {ctr ctr' : Nat} {c : Cb} (h : CbOk gen reuse ctr c)
    (hpg : c.pg = false) (hg : gen' = 0 ∨ ctr < gen') (hc : ctr ≤ ctr') : CbOk gen' reuse' ctr' c :=
  ⟨fun hf => ⟨(h.capArm hf).1, (h.capArm hf).2.1, Nat.le_trans (h.capArm hf).2.2 hc⟩,
   fun _ b d => by have := h.capArm b; omega,
   fun a => by simp [hpg] at a, h.safe, h.idle⟩

/-- the callback moves on to statements that are safe for its flags -/
theorem CbOk.goto {gen : Nat} {reuse : Bool} {ctr : Nat} {c : Cb} (h : CbOk gen reuse ctr c) {p : List Step}
    (hs : safeProg p c.nr c.fresh c.pg = true) : CbOk gen reuse ctr { c with pc := some p } :=
  ⟨h.capArm, h.nrOk, h.pgOk, fun _ hq => Option.some.inj hq ▸ hs, nofun⟩

/-- a callback that passed its test pins the object: held, generation = own, never reusable -/
theorem pinned {s : St} (inv : Inv s) {c : Cb} (hc : c ∈ s.cbs) (hpg : c.pg = true) :
    s.o.held = true ∧ s.o.reuse = false ∧ s.o.gen = c.own := by
  have h := inv.cbs c hc
  obtain ⟨hg, hf, hn⟩ := h.pgOk hpg
  have ha := h.capArm hf
  refine ⟨?_, h.nrOk hn hf hg, by omega⟩
  cases hh : s.o.held with
  | true => rfl
  | false => have := inv.pool hh; omega

theorem pg_false {s : St} (inv : Inv s) {c : Cb} (hc : c ∈ s.cbs) (h : s.o.held = false ∨ s.o.reuse = true) :
    c.pg = false := by
  cases hpg : c.pg with
  | false => rfl
  | true =>
    have hpin := pinned inv hc hpg
    rcases h with h | h
    · rw [hpin.1] at h; cases h
    · rw [hpin.2.1] at h; cases h

theorem safeProg_guard {a : Step} {p : List Step} {nr fresh pg : Bool} (h : safeProg (a :: p) nr fresh pg = true)
    (ha : a = .act ∨ a = .casResp ∨ a = .markExpired) : pg = true ∧ safeProg p nr fresh pg = true := by
  rcases ha with ha | ha | ha <;> subst ha <;> simpa [safeProg] using h

/-- one statement of a started callback keeps the callback's facts, leaves generation / held alone, can only clear the
reuse flag, and whatever it hits or touches is its own exchange -/
theorem stmt_ok {s : St} (inv : Inv s) {c : Cb} (hc : c ∈ s.cbs) {a : Step} {p : List Step} (hpc : c.pc = some (a :: p)) :
    (stmt s.o c a p).1.gen = s.o.gen ∧ (stmt s.o c a p).1.held = s.o.held ∧
    ((stmt s.o c a p).1.reuse = false ∨ (stmt s.o c a p).1.reuse = s.o.reuse) ∧
    CbOk s.o.gen (stmt s.o c a p).1.reuse s.ctr (stmt s.o c a p).2.1 ∧
    (∀ h ∈ (stmt s.o c a p).2.2.1, h.hit = h.own ∧ h.held = true) ∧
    (∀ t ∈ (stmt s.o c a p).2.2.2, t.2 = t.1) := by
  have h0 := inv.cbs c hc
  have hs := h0.safe _ hpc
  have nil1 : ∀ h ∈ ([] : List Hit), h.hit = h.own ∧ h.held = true := List.forall_mem_nil _
  have nil2 : ∀ t ∈ ([] : List (Nat × Nat)), t.2 = t.1 := List.forall_mem_nil _
  have ret : CbOk s.o.gen s.o.reuse s.ctr { c with pc := some [] } := h0.goto rfl
  cases a with
  | noReuse =>
    rw [stmt]
    refine ⟨rfl, rfl, Or.inl rfl, ⟨h0.capArm, fun _ _ _ => rfl, fun x => ⟨(h0.pgOk x).1, (h0.pgOk x).2.1, rfl⟩, fun q hq => ?_, fun x => by simp at x⟩, nil1, nil2⟩
    simp only [Option.some.injEq] at hq; subst hq; simpa [safeProg] using hs
  | loadGen =>
    rw [stmt]
    refine ⟨rfl, rfl, Or.inr rfl, ⟨fun x => by simp at x, fun _ x => by simp at x, fun x => by simp at x, fun q hq => ?_, fun x => by simp at x⟩, nil1, nil2⟩
    simp only [Option.some.injEq] at hq; subst hq; simpa [safeProg] using hs
  | testCleaned =>
    have hs' : safeProg p c.nr c.fresh c.pg = true := by simpa [safeProg] using hs
    rw [stmt]
    split
    · exact ⟨rfl, rfl, Or.inr rfl, ret, nil1, nil2⟩
    · exact ⟨rfl, rfl, Or.inr rfl, h0.goto hs', nil1, nil2⟩
  | testGen =>
    rw [stmt]
    split
    · rename_i heq
      refine ⟨rfl, rfl, Or.inr rfl, ⟨h0.capArm, h0.nrOk, fun x => ?_, fun q hq => ?_, fun x => by simp at x⟩, nil1, nil2⟩
      · simp only [Bool.or_eq_true, Bool.and_eq_true, Bool.not_eq_true'] at x
        rcases x with x | x
        · exact h0.pgOk x
        · exact ⟨heq.symm, x.2, x.1⟩
      · simp only [Option.some.injEq] at hq; subst hq; simpa [safeProg] using hs
    · exact ⟨rfl, rfl, Or.inr rfl, ret, nil1, nil2⟩
  | markExpired =>
    obtain ⟨hpg, hs'⟩ := safeProg_guard hs (Or.inr (Or.inr rfl))
    have hpin := pinned inv hc hpg
    exact ⟨rfl, rfl, Or.inr rfl, h0.goto hs', nil1, List.forall_mem_singleton.mpr hpin.2.2⟩
  | casResp =>
    obtain ⟨hpg, hs'⟩ := safeProg_guard hs (Or.inr (Or.inl rfl))
    have hpin := pinned inv hc hpg
    rw [stmt]
    split
    · exact ⟨rfl, rfl, Or.inr rfl, ret, nil1, nil2⟩
    · exact ⟨rfl, rfl, Or.inr rfl, h0.goto hs', nil1, List.forall_mem_singleton.mpr hpin.2.2⟩
  | act =>
    obtain ⟨hpg, hs'⟩ := safeProg_guard hs (Or.inl rfl)
    have hpin := pinned inv hc hpg
    exact ⟨rfl, rfl, Or.inr rfl, h0.goto hs', List.forall_mem_singleton.mpr ⟨hpin.2.2, hpin.1⟩, nil2⟩

theorem step_inv (progs : Nat → Bool × List Step) (hp : ∀ k, guarded (progs k).1 (progs k).2 = true)
    (s : St) (inv : Inv s) (e : Ev) : Inv (step progs s e) := by
  cases e with
  | tick =>
    exact ⟨Nat.le_succ_of_le inv.genLe, inv.pool, inv.heldPos, fun c hc => (inv.cbs c hc).mono (Nat.le_succ _), inv.hits, inv.touched, inv.replies⟩
  | take =>
    simp only [step]
    cases hh : s.o.held with
    | true => exact inv
    | false =>
      refine ⟨Nat.le_refl _, by simp, by simp, fun c hc => ?_, inv.hits, inv.touched, inv.replies⟩
      exact (inv.cbs c hc).regen (pg_false inv hc (Or.inl hh)) (Or.inr (Nat.lt_succ_self _)) (Nat.le_succ _)
  | arm k =>
    simp only [step]
    split
    · exact inv
    · rename_i hh
      have hh : s.o.held = true := by
        cases h1 : s.o.held <;> simp [h1] at hh ⊢
      have hk := hp k
      simp only [guarded, Bool.and_eq_true] at hk
      have hgen := inv.heldPos hh
      have hle := inv.genLe
      exact { inv with cbs := List.forall_mem_append.mpr ⟨inv.cbs, List.forall_mem_singleton.mpr
        ⟨fun _ => by simp [hk.1]; omega, fun a => by simp at a, fun a => by simp at a, fun p a => by simp at a, fun _ => by simp [hk.1]⟩⟩ }
  | fire i =>
    simp only [step]
    refine { inv with cbs := forall_mem_updAt inv.cbs fun c0 hc0 => ?_ }
    have h0 := inv.cbs c0 (List.mem_of_getElem? hc0)
    split
    · exact h0
    · rename_i hcond
      have hnone : c0.pc = none := by
        cases hpc : c0.pc <;> simp [hpc] at hcond ⊢
      obtain ⟨i1, i2, i3⟩ := h0.idle hnone
      have hk := hp c0.kind
      simp only [guarded, Bool.and_eq_true] at hk
      exact h0.goto (by rw [i1, i2, i3]; exact hk.2)
  | respond =>
    simp only [step]
    split
    · exact inv
    · exact { inv with replies := List.forall_mem_append.mpr ⟨inv.replies, List.forall_mem_singleton.mpr rfl⟩ }
  | clean =>
    simp only [step]
    split
    · exact inv
    · refine { inv with cbs := List.forall_mem_map.mpr fun c0 hc0 => ?_ }
      have h0 := inv.cbs c0 hc0
      split
      · exact { h0 with }
      · exact h0
  | give =>
    simp only [step]
    split
    · rename_i hh
      simp only [Bool.and_eq_true] at hh
      refine ⟨Nat.zero_le _, by simp, by simp, fun c hc => ?_, inv.hits, inv.touched, inv.replies⟩
      exact (inv.cbs c hc).regen (pg_false inv hc (Or.inr hh.2)) (Or.inl rfl) (Nat.le_refl _)
    · exact inv
  | step i =>
    simp only [step]
    split
    · exact inv
    · rename_i c0 hget
      have hc0 := List.mem_of_getElem? hget
      split
      · rename_i a p hpc
        obtain ⟨hg, hh, hr, hcb, hhit, htou⟩ := stmt_ok inv hc0 hpc
        exact ⟨by rw [hg]; exact inv.genLe, by rw [hg, hh]; exact inv.pool, by rw [hg, hh]; exact inv.heldPos,
          by rw [hg]; exact forall_mem_updAt (fun c hc => (inv.cbs c hc).clear hr) fun _ _ => hcb,
          List.forall_mem_append.mpr ⟨inv.hits, hhit⟩, List.forall_mem_append.mpr ⟨inv.touched, htou⟩,
          List.forall_mem_append.mpr ⟨inv.replies, List.forall_mem_map.mpr fun h hh' => (hhit h hh').1⟩⟩
      · exact inv

end MosnVerif.Lemmas.ProxyGen
