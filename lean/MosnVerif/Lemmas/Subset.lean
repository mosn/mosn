import MosnVerif.Model.Subset
import MosnVerif.Lemmas.InsertSort
/-!
Subset load balancing: the trie (`findSubset` / `findOrCreateSubset`), a builder as a fold of trie updates, the
filtering builder, the inverted index, selector normalisation, the observable operations, the round-robin inner
balancer and the filtering balancer against the declarative reference.
-/
namespace MosnVerif.Model.Subset
open MosnVerif

theorem lookup_aset (k k' : KV) (t : Trie) (r : Root) :
    List.lookup k' (aset k t r) = if k' = k then some t else List.lookup k' r := by
  induction r <;> grind [aset]

/-- `findSubset` without the index bookkeeping -/
def findS : Root → Path → Option Trie
  | _, [] => none
  | root, kv :: rest =>
    match List.lookup kv root with
    | none => none
    | some e => if rest.isEmpty then some e else findS e.children rest

/-- both trie walks test "last pair of the path" as `idx + 1 = len` -/
theorem idx_last (i n : Nat) (kv : KV) (rest : Path) (h : i + (kv :: rest).length = n) :
    decide ((i : Int) + 1 = n) = rest.isEmpty := by
  cases rest <;> simp at h ⊢ <;> omega

theorem findGo_eq (n i : Nat) (root : Root) (p : Path) (h : i + p.length = n) :
    findGo n i root p = findS root p := by
  induction p generalizing i root with
  | nil => rfl
  | cons kv rest ih =>
    simp only [findGo, findS, Gen.Subset.findLast, idx_last i n kv rest h]
    cases List.lookup kv root with
    | none => rfl
    | some e =>
      dsimp only
      split
      · rfl
      · exact ih (i + 1) e.children (by simp at h ⊢; omega)

theorem findSubset_eq (root : Root) (p : Path) : findSubset root p = findS root p :=
  findGo_eq p.length 0 root p (by simp)

/-- load balancer (host list) stored at a path: `none` when the node is missing or not `Initialized()` -/
def lbAt (root : Root) (p : Path) : Option (List Host) := (findS root p).bind Trie.lb

/-- hosts of the *active* entry at a path (`[]` = `findSubset` gives nil or an entry that is not `Active()`) -/
def activeHosts (root : Root) (p : Path) : List Host := (lbAt root p).getD []

@[simp] theorem lbAt_nil_path (root : Root) : lbAt root [] = none := by simp [lbAt, findS]

@[simp] theorem lbAt_empty_root (p : Path) : lbAt [] p = none := by
  cases p <;> simp [lbAt, findS, List.lookup]

@[simp] theorem Trie.lb_node (l : Option (List Host)) (c : Root) : (Trie.node l c).lb = l := rfl
@[simp] theorem Trie.children_node (l : Option (List Host)) (c : Root) : (Trie.node l c).children = c := rfl

theorem lbAt_cons (root : Root) (kv : KV) (rest : Path) :
    lbAt root (kv :: rest) =
      if rest = [] then ((List.lookup kv root).getD Trie.fresh).lb
      else lbAt ((List.lookup kv root).getD Trie.fresh).children rest := by
  unfold lbAt
  cases hl : List.lookup kv root <;> cases rest <;> simp [findS, hl, Trie.fresh]

/-- `findOrCreateSubset` + update, without the index bookkeeping -/
def modifyS (g : Option (List Host) → Option (List Host)) : Path → Root → Root
  | [], root => root
  | kv :: rest, root =>
    let e := (List.lookup kv root).getD Trie.fresh
    if rest.isEmpty then aset kv (.node (g e.lb) e.children) root
    else aset kv (.node e.lb (modifyS g rest e.children)) root

theorem modifyGo_eq (last : Int → Int → Bool) (hlast : ∀ a b, last a b = decide (a = b))
    (g : Option (List Host) → Option (List Host)) (n idx : Nat) (p : Path) (root : Root)
    (h : idx + p.length = n) : modifyGo last g n idx p root = modifyS g p root := by
  induction p generalizing idx root with
  | nil => rfl
  | cons kv rest ih =>
    simp only [modifyGo, modifyS, hlast, idx_last idx n kv rest h]
    split
    · rfl
    · rw [ih (idx + 1) _ (by simp at h ⊢; omega)]

/-- the trie law: an update at path `p` changes the load balancer stored at `p` and nothing else
(nodes created on the way stay uninitialised). -/
theorem lbAt_modifyS (g : Option (List Host) → Option (List Host)) (p q : Path) (root : Root) (hp : p ≠ []) :
    lbAt (modifyS g p root) q = if q = p then g (lbAt root p) else lbAt root q := by
  fun_induction modifyS g p root generalizing q with
  | case1 => exact absurd rfl hp
  | case2 kv rest root e hrest =>
    cases q with
    | nil => simp
    | cons kv' rest' =>
      rw [List.isEmpty_iff.mp hrest, lbAt_cons, lookup_aset, lbAt_cons root kv', lbAt_cons root kv]
      by_cases hk : kv' = kv
      · subst hk; by_cases hr : rest' = [] <;> simp [hr, e]
      · simp [hk]
  | case3 kv rest root e hrest ih =>
    have hrest : rest ≠ [] := fun h => hrest (List.isEmpty_iff.mpr h)
    cases q with
    | nil => simp
    | cons kv' rest' =>
      rw [lbAt_cons, lookup_aset, lbAt_cons root kv', lbAt_cons root kv]
      by_cases hk : kv' = kv
      · subst hk
        by_cases hr : rest' = []
        · subst hr; simp [Ne.symm hrest, e]
        · simp [hrest, hr, ih rest' hrest, e]
      · simp [hk]

/-- one visit of a builder: `findOrCreateSubset` along `p`, then the update `G p` of the entry's load balancer -/
def visit (G : Path → Option (List Host) → Option (List Host)) (root : Root) (p : Path) : Root :=
  modifyS (G p) p root

/-- visiting paths one after the other with an update that is idempotent at `q`: the load balancer at `q` is updated
once if `q` was visited and is untouched otherwise -/
theorem lbAt_foldl_visit (G : Path → Option (List Host) → Option (List Host)) (ps : List Path) (root : Root)
    (q : Path) (hq : q ≠ []) (hG : ∀ lb, G q (G q lb) = G q lb) :
    lbAt (ps.foldl (visit G) root) q = if q ∈ ps then G q (lbAt root q) else lbAt root q := by
  induction ps generalizing root with
  | nil => simp
  | cons p ps ih =>
    rw [List.foldl_cons, ih]
    by_cases hp : p = []
    · subst hp; simp [visit, modifyS, hq]
    · rw [visit, lbAt_modifyS _ _ _ _ hp]
      by_cases hqp : q = p
      · subst hqp; simp [hG]
      · simp [hqp]

/-- a builder that visits the paths `ps`, storing `F` at `q` when it gets there, holds `F` at `q` exactly under `P` — provided it
visits `q` only under `P`, and does visit it whenever `P` holds and there is something to store. Both builders are instances:
`P` = "`q`'s key list is a selector", `F` = the hosts matching `q`. -/
theorem activeHosts_foldl_visit (G : Path → Option (List Host) → Option (List Host)) (ps : List Path) (q : Path)
    (hG : ∀ lb, G q (G q lb) = G q lb) (P : Prop) [Decidable P] (F : List Host)
    (hne : P → q ≠ []) (hF : P → (G q none).getD [] = F) (hvis : q ≠ [] → q ∈ ps → P) (hall : P → F ≠ [] → q ∈ ps) :
    activeHosts (ps.foldl (visit G) []) q = if P then F else [] := by
  by_cases hq : q = []
  · rw [if_neg (fun hp => hne hp hq), hq, activeHosts, lbAt_nil_path]
    rfl
  rw [activeHosts, lbAt_foldl_visit G ps [] q hq hG, lbAt_empty_root]
  by_cases hm : q ∈ ps
  · rw [if_pos hm, if_pos (hvis hq hm), hF (hvis hq hm)]
  · rw [if_neg hm]
    by_cases hp : P
    · rw [if_pos hp]
      exact (Classical.not_not.mp fun hF => hm (hall hp hF)).symm
    · rw [if_neg hp]
      rfl

theorem initIfNeeded_eq (hs : List Host) (lb : Option (List Host)) :
    initIfNeeded hs lb = match lb with | some l => some l | none => some hs := by
  cases lb <;> simp [initIfNeeded, Gen.Subset.filterNeedInit, Gen.Subset.entryInitialized]

theorem setIfNonEmpty_eq (hs : List Host) (lb : Option (List Host)) :
    setIfNonEmpty hs lb = if hs = [] then lb else some hs := by
  cases hs <;> simp [setIfNonEmpty, Gen.Subset.preCreate]

theorem critOk_iff (m : Meta) (kv : KV) : critOk m kv = true ↔ metaGet m kv.1 = some kv.2 := by
  unfold critOk Gen.Subset.hostMismatch
  cases h : metaGet m kv.1 with
  | none => simp
  | some v => simp

theorem hostMatches_iff (kvs : Path) (h : Host) :
    hostMatches kvs h = true ↔ ∀ kv ∈ kvs, metaGet h.md kv.1 = some kv.2 := by
  simp [hostMatches, List.all_eq_true, critOk_iff]

/-- the regenerated `HostMatches` is the declarative "metadata contains all the pairs" -/
theorem hostMatches_fun (q : Path) : hostMatches q = (contains · q) := by
  funext h
  rw [Bool.eq_iff_iff, hostMatches_iff]
  simp [contains, List.all_eq_true, metaGet]

theorem extractOpt_some {s : List Key} {m : Meta} {q : Path} (h : extractOpt s m = some q) :
    q.map (·.1) = s ∧ ∀ kv ∈ q, metaGet m kv.1 = some kv.2 := by
  revert h
  fun_induction extractOpt s m generalizing q with
  | case1 => rintro ⟨⟩; exact ⟨rfl, nofun⟩
  | case2 => nofun
  | case3 k ks m v hk ih =>
    intro h
    obtain ⟨q', hq', rfl⟩ := Option.map_eq_some_iff.mp h
    exact ⟨congrArg (k :: ·) (ih hq').1, List.forall_mem_cons.mpr ⟨hk, (ih hq').2⟩⟩

theorem extractOpt_of_matches (m : Meta) (q : Path) (h : ∀ kv ∈ q, metaGet m kv.1 = some kv.2) :
    extractOpt (q.map (·.1)) m = some q := by
  induction q with
  | nil => simp [extractOpt]
  | cons kv q ih =>
    obtain ⟨h1, h2⟩ := List.forall_mem_cons.mp h
    simp [extractOpt, h1, ih h2]

/-- the paths visited by the filtering builder -/
def pathsF (hosts : List Host) (sels : List (List Key)) : List Path :=
  hosts.flatMap (fun h => sels.map (fun s => extract s h.md))

theorem mem_pathsF (hosts : List Host) (sels : List (List Key)) (q : Path) (hq : q ≠ []) :
    q ∈ pathsF hosts sels ↔ q.map (·.1) ∈ sels ∧ ∃ h ∈ hosts, hostMatches q h = true := by
  simp only [pathsF, List.mem_flatMap, List.mem_map]
  constructor
  · rintro ⟨h, hh, s, hs, he⟩
    unfold extract at he
    cases ho : extractOpt s h.md with
    | none => simp [ho] at he; exact absurd he hq
    | some q' =>
      simp [ho] at he; subst he
      obtain ⟨h1, h2⟩ := extractOpt_some ho
      exact ⟨h1 ▸ hs, h, hh, (hostMatches_iff _ _).mpr h2⟩
  · rintro ⟨hs, h, hh, hm⟩
    refine ⟨h, hh, q.map (·.1), hs, ?_⟩
    simp [extract, extractOpt_of_matches _ _ ((hostMatches_iff _ _).mp hm)]

theorem filterStep_eq (hosts : List Host) (root : Root) (h : Host) (sel : List Key) :
    filterStep hosts root h sel =
      visit (fun p => initIfNeeded (hosts.filter (hostMatches p))) root (extract sel h.md) := by
  unfold filterStep visit Gen.Subset.filterCreate
  cases hk : extract sel h.md with
  | nil => rfl
  | cons a b =>
    have : ((a :: b).length : Int) > 0 := by simp
    simp only [this, decide_true, if_true]
    exact modifyGo_eq _ (fun a b => by simp [Gen.Subset.createLastFilter]) _ _ 0 _ _ (by simp)

theorem buildFilter_eq (hosts : List Host) (sels : List (List Key)) :
    buildFilter hosts sels =
      (pathsF hosts sels).foldl (visit fun p => initIfNeeded (hosts.filter (hostMatches p))) [] := by
  unfold buildFilter pathsF
  rw [List.foldl_flatMap]
  congr 1
  funext root h
  rw [List.foldl_map]
  congr 1
  funext root sel
  exact filterStep_eq hosts root h sel

/-- the active hosts both builders must store at a path, stated on normalised selectors -/
def refHosts (hosts : List Host) (sels : List (List Key)) (q : Path) : List Host :=
  if q ≠ [] ∧ q.map (·.1) ∈ sels then hosts.filter (contains · q) else []

/-- **refinement of the filtering builder**: the active hosts stored at a path -/
theorem activeHosts_buildFilter (hosts : List Host) (sels : List (List Key)) (q : Path) :
    activeHosts (buildFilter hosts sels) q = refHosts hosts sels q := by
  rw [buildFilter_eq, refHosts, ← hostMatches_fun q]
  exact activeHosts_foldl_visit _ _ q (fun lb => by cases lb <;> simp [initIfNeeded_eq]) _ _ (fun h => h.1)
    (fun _ => by rw [initIfNeeded_eq]; rfl) (fun hq hm => ⟨hq, ((mem_pathsF hosts sels q hq).mp hm).1⟩)
    (fun hp hF => (mem_pathsF hosts sels q hp.1).mpr
      ⟨hp.2, (List.exists_mem_of_ne_nil _ hF).imp fun _ hh => List.mem_filter.mp hh⟩)

theorem lookup_insertIdx (v v' : Val) (i : Nat) (m : List (Val × List Nat)) :
    List.lookup v' (insertIdx v i m) =
      if v' = v then some ((List.lookup v m).getD [] ++ [i]) else List.lookup v' m := by
  induction m <;> grind [insertIdx]

theorem lookup_foldl_idxStep (hosts : List Host) (k : Key) (v : Val) (is : List Nat) (acc : List (Val × List Nat)) :
    List.lookup v (is.foldl (fun acc i => match metaAt hosts i k with | none => acc | some v => insertIdx v i acc) acc) =
      if is.filter (fun i => metaAt hosts i k == some v) = [] then List.lookup v acc
      else some ((List.lookup v acc).getD [] ++ is.filter (fun i => metaAt hosts i k == some v)) := by
  induction is generalizing acc with
  | nil => simp
  | cons i is ih =>
    rw [List.foldl_cons, ih, List.filter_cons]
    cases hm : metaAt hosts i k with
    | none => simp
    | some w =>
      by_cases hw : w = v
      · subst hw; simp [lookup_insertIdx]
      · simp [hw, lookup_insertIdx, Ne.symm hw]

/-- positions (ascending) of the hosts whose metadata has `k = v` -/
def positions (hosts : List Host) (k : Key) (v : Val) : List Nat :=
  (List.range hosts.length).filter (fun i => metaAt hosts i k == some v)

theorem lookup_valueMap (hosts : List Host) (k : Key) (v : Val) :
    List.lookup v (valueMap hosts k) =
      if positions hosts k v = [] then none else some (positions hosts k v) := by
  have := lookup_foldl_idxStep hosts k v (List.range hosts.length) []
  rw [List.lookup_nil, Option.getD_none, List.nil_append] at this
  exact this

theorem lookup_mkIndex (hosts : List Host) (keys : List Key) (k : Key) :
    List.lookup k (mkIndex hosts keys) = if k ∈ keys then some (valueMap hosts k) else none := by
  induction keys <;> grind [mkIndex]

theorem mem_positions (hosts : List Host) (k : Key) (v : Val) (i : Nat) :
    i ∈ positions hosts k v ↔ metaAt hosts i k = some v := by
  have : metaAt hosts i k = some v → i < hosts.length := fun h => by
    rcases Nat.lt_or_ge i hosts.length with hi | hi
    · exact hi
    · simp [metaAt, List.getElem?_eq_none hi] at h
  simpa [positions] using this

theorem filterLoop_empty (ix : Index) (hosts : List Host) (rest : Path) :
    filterLoop ix hosts rest (some []) = [] := by
  induction rest with
  | nil => rfl
  | cons kv rest ih => 
    simp only [filterLoop, List.filter_nil]
    split
    · rfl
    · split
      · rfl
      · exact ih

/-- one round of the loop of `filterHosts`: the current set (all hosts before the first round) is cut down to the
hosts carrying the pair -/
theorem filterLoop_cons (hosts : List Host) (keys : List Key) (kv : KV) (rest : Path) (cur : Option (List Nat))
    (hk : kv.1 ∈ keys) :
    filterLoop (mkIndex hosts keys) hosts (kv :: rest) cur =
      filterLoop (mkIndex hosts keys) hosts rest
        (some ((cur.getD (List.range hosts.length)).filter (fun i => metaAt hosts i kv.1 == some kv.2))) := by
  have hc : ∀ i, (positions hosts kv.1 kv.2).contains i = (metaAt hosts i kv.1 == some kv.2) := fun i => by
    rw [Bool.eq_iff_iff, List.contains_iff_mem, mem_positions, beq_iff_eq]
  simp only [filterLoop, lookup_mkIndex, hk, if_true, lookup_valueMap]
  by_cases hp : positions hosts kv.1 kv.2 = []
  · have : ∀ i, (metaAt hosts i kv.1 == some kv.2) = false := fun i => by rw [← hc, hp]; rfl
    rw [if_pos hp, List.filter_eq_nil_iff.mpr (fun i _ => by simp [this i]), filterLoop_empty]
  · rw [if_neg hp]
    cases cur with
    | none => rfl
    | some c => simp only [hc, Option.getD_some]

theorem filterLoop_some (hosts : List Host) (keys : List Key) (rest : Path) (cur : List Nat)
    (hk : ∀ kv ∈ rest, kv.1 ∈ keys) :
    filterLoop (mkIndex hosts keys) hosts rest (some cur) =
      (cur.filter (fun i => rest.all (fun kv => metaAt hosts i kv.1 == some kv.2))).filterMap (hosts[·]?) := by
  induction rest generalizing cur with
  | nil =>
    show selectHosts hosts (some cur) = (cur.filter fun _ => true).filterMap _
    rw [List.filter_eq_self.mpr fun _ _ => rfl]
    cases cur <;> simp [selectHosts]
  | cons kv rest ih =>
    obtain ⟨hk1, hk2⟩ := List.forall_mem_cons.mp hk
    rw [filterLoop_cons _ _ _ _ _ hk1, ih _ hk2]
    simp [List.filter_filter, Bool.and_comm]

/-- selecting by ascending positions that are described by a host predicate is filtering by that predicate -/
theorem select_positions (p : Host → Bool) (l : List Host) (q : Nat → Bool)
    (hq : ∀ i h, l[i]? = some h → q i = p h) :
    ((List.range l.length).filter q).filterMap (l[·]?) = l.filter p := by
  induction l generalizing q with
  | nil => simp
  | cons x l ih =>
    have hrest := ih (q ∘ Nat.succ) (fun i h hi => hq (i + 1) h (by simpa using hi))
    rw [List.length_cons, List.range_succ_eq_map, List.filter_cons, List.filter_map, List.filter_cons,
      ← hq 0 x rfl, ← hrest]
    cases q 0 <;> simp [List.filterMap_map, Function.comp_def]

theorem filterHostsIdx_eq (hosts : List Host) (keys : List Key) (kvs : Path) (hk : ∀ kv ∈ kvs, kv.1 ∈ keys) :
    filterHostsIdx (mkIndex hosts keys) hosts kvs = hosts.filter (hostMatches kvs) := by
  unfold filterHostsIdx Gen.Subset.filterAll
  cases kvs with
  | nil =>
    simp only [List.length_nil, Int.natCast_zero, decide_true, if_true]
    exact (List.filter_eq_self.mpr fun _ _ => rfl).symm
  | cons kv rest =>
    have hne : ¬ (((kv :: rest).length : Int) = 0) := by simp; omega
    obtain ⟨hk1, hk2⟩ := List.forall_mem_cons.mp hk
    rw [decide_eq_false hne, if_neg Bool.false_ne_true, filterLoop_cons _ _ _ _ _ hk1, filterLoop_some _ _ _ _ hk2,
      Option.getD_none, List.filter_filter]
    apply select_positions
    intro i h hi
    rw [Bool.eq_iff_iff, hostMatches_iff]
    simp [metaAt, hi, and_comm]

/-- the values indexed under a key -/
def vals (ix : Index) (k : Key) : List Val := ((List.lookup k ix).getD []).map (·.1)

theorem lookup_isSome_iff_mem_keys {β : Type} (k : String) (m : List (String × β)) :
    (List.lookup k m).isSome = true ↔ k ∈ m.map (·.1) := by
  rw [List.lookup_isSome_iff, List.mem_map]
  exact ⟨fun ⟨p, hp, e⟩ => ⟨p, hp, (beq_iff_eq.mp e).symm⟩, fun ⟨p, hp, e⟩ => ⟨p, hp, beq_iff_eq.mpr e.symm⟩⟩

theorem positions_ne_nil_iff (hosts : List Host) (k : Key) (v : Val) :
    positions hosts k v ≠ [] ↔ ∃ h ∈ hosts, metaGet h.md k = some v := by
  constructor
  · intro h
    obtain ⟨i, hi⟩ := List.exists_mem_of_ne_nil _ h
    rw [mem_positions, metaAt] at hi
    obtain ⟨x, hg, hx⟩ := Option.bind_eq_some_iff.mp hi
    exact ⟨x, List.mem_of_getElem? hg, hx⟩
  · rintro ⟨h, hh, hm⟩
    obtain ⟨i, hi⟩ := List.mem_iff_getElem?.mp hh
    exact List.ne_nil_of_mem ((mem_positions _ _ _ i).mpr (by simp [metaAt, hi, hm]))

theorem mem_vals_mkIndex (hosts : List Host) (keys : List Key) (k : Key) (v : Val) :
    v ∈ vals (mkIndex hosts keys) k ↔ k ∈ keys ∧ ∃ h ∈ hosts, metaGet h.md k = some v := by
  unfold vals
  rw [lookup_mkIndex, ← positions_ne_nil_iff]
  by_cases hk : k ∈ keys
  · rw [if_pos hk, Option.getD_some, ← lookup_isSome_iff_mem_keys, lookup_valueMap]
    by_cases h : positions hosts k v = [] <;> simp [h, hk]
  · simp [hk]

abbrev SSorted (l : List Key) : Prop := l.Pairwise (· < ·)

/-- the loop shared by `InitSet` and `GenerateSubsetKeys`: append the (normalised) element unless it is already there -/
theorem foldl_appendNew_spec {α β : Type} [BEq β] [LawfulBEq β] (f : α → β) (l : List α) (acc : List β)
    (hacc : acc.Nodup) :
    (l.foldl (fun acc x => if acc.contains (f x) then acc else acc ++ [f x]) acc).Nodup ∧
    ∀ b, b ∈ l.foldl (fun acc x => if acc.contains (f x) then acc else acc ++ [f x]) acc ↔ b ∈ acc ∨ b ∈ l.map f := by
  induction l generalizing acc with
  | nil => simp [hacc]
  | cons x l ih =>
    rw [List.foldl_cons]
    by_cases hx : f x ∈ acc
    · rw [if_pos (List.contains_iff_mem.mpr hx)]
      refine ⟨(ih acc hacc).1, fun b => ?_⟩
      rw [(ih acc hacc).2, List.map_cons, List.mem_cons]
      by_cases hb : b = f x <;> simp [hb, hx]
    · rw [if_neg (fun h => hx (List.contains_iff_mem.mp h))]
      have hnd : (acc ++ [f x]).Nodup := List.nodup_append.mpr
        ⟨hacc, by simp, fun a ha b hb e => hx (List.mem_singleton.mp hb ▸ e ▸ ha)⟩
      refine ⟨(ih _ hnd).1, fun b => ?_⟩
      rw [(ih _ hnd).2]
      simp [or_assoc]

theorem dedupKeys_nodup (l : List Key) : (dedupKeys l).Nodup := (foldl_appendNew_spec id l [] List.nodup_nil).1
theorem mem_dedupKeys (l : List Key) (k : Key) : k ∈ dedupKeys l ↔ k ∈ l := by
  simpa [dedupKeys] using (foldl_appendNew_spec id l [] List.nodup_nil).2 k

theorem mem_generateSubsetKeys (raw : List (List Key)) (s : List Key) :
    s ∈ generateSubsetKeys raw ↔ ∃ r ∈ raw, s = initSet r := by
  simpa [generateSubsetKeys, eq_comm] using (foldl_appendNew_spec initSet raw [] List.nodup_nil).2 s

theorem generateSubsetKeys_nodup (raw : List (List Key)) : (generateSubsetKeys raw).Nodup :=
  (foldl_appendNew_spec initSet raw [] List.nodup_nil).1

theorem insertKey_isIns : Lemmas.InsertSort.IsIns (fun a b : Key => a ≤ b) insertKey := ⟨fun _ => rfl, fun _ _ _ => rfl⟩

theorem insertKey_sorted (k : Key) (l : List Key) (hs : SSorted l) (hk : k ∉ l) : SSorted (insertKey k l) :=
  insertKey_isIns.pairwise hs (fun _ hb hle => String.not_le.mp fun h => hk (String.le_antisymm hle h ▸ hb))
    (fun _ _ => String.not_le.mp) (fun _ _ => String.lt_trans)

theorem sortKeys_spec (l : List Key) (hnd : l.Nodup) : SSorted (sortKeys l) ∧ ∀ k, k ∈ sortKeys l ↔ k ∈ l := by
  refine ⟨?_, fun k => (insertKey_isIns.foldr_perm l).mem_iff⟩
  induction l with
  | nil => exact .nil
  | cons x l ih =>
    have ⟨hx, hl⟩ := List.nodup_cons.mp hnd
    exact insertKey_sorted x _ (ih hl) fun h => hx ((insertKey_isIns.foldr_perm l).mem_iff.mp h)

theorem initSet_sorted (l : List Key) : SSorted (initSet l) := (sortKeys_spec _ (dedupKeys_nodup l)).1
theorem mem_initSet (l : List Key) (k : Key) : k ∈ initSet l ↔ k ∈ l := by
  rw [initSet, (sortKeys_spec _ (dedupKeys_nodup l)).2, mem_dedupKeys]

theorem SSorted.nodup {l : List Key} (h : SSorted l) : l.Nodup := h.imp String.ne_of_lt

theorem ssorted_ext (a b : List Key) (ha : SSorted a) (hb : SSorted b) (h : ∀ k, k ∈ a ↔ k ∈ b) : a = b :=
  List.Perm.eq_of_pairwise (fun _ _ _ _ hxy hyx => absurd hyx (String.lt_asymm hxy)) ha hb
    ((List.perm_ext_iff_of_nodup ha.nodup hb.nodup).mpr h)

theorem strictSorted_iff (l : List Key) : strictSorted l = true ↔ SSorted l := by
  fun_induction strictSorted l with
  | case1 => simp [SSorted]
  | case2 => simp [SSorted]
  | case3 a b r ih =>
    rw [Bool.and_eq_true, decide_eq_true_eq, ih]
    -- `a < b` and `b` is below the rest
    exact ⟨fun ⟨hab, hs⟩ => List.pairwise_cons.mpr ⟨List.forall_mem_cons.mpr
        ⟨hab, fun z hz => String.lt_trans hab ((List.pairwise_cons.mp hs).1 z hz)⟩, hs⟩,
      fun hs => ⟨(List.pairwise_cons.mp hs).1 b List.mem_cons_self, (List.pairwise_cons.mp hs).2⟩⟩

/-- a strictly sorted key list is one of the normalised selectors iff some configured selector has that key *set* -/
theorem sorted_mem_generateSubsetKeys (raw : List (List Key)) (ks : List Key) (hs : strictSorted ks = true) :
    ks ∈ generateSubsetKeys raw ↔ ∃ r ∈ raw, ∀ k, k ∈ r ↔ k ∈ ks := by
  rw [mem_generateSubsetKeys]
  constructor
  · rintro ⟨r, hr, e⟩
    exact ⟨r, hr, fun k => by rw [e, mem_initSet]⟩
  · rintro ⟨r, hr, h⟩
    refine ⟨r, hr, ssorted_ext _ _ ((strictSorted_iff _).mp hs) (initSet_sorted r) ?_⟩
    intro k; rw [mem_initSet]; exact (h k).symm

theorem selectorExists_iff (raw : List (List Key)) (crit : Path) :
    selectorExists raw crit = true ↔ crit ≠ [] ∧ ∃ r ∈ raw, ∀ k, k ∈ r ↔ k ∈ crit.map (·.1) := by
  unfold selectorExists sameKeySet
  simp only [Bool.and_eq_true, Bool.not_eq_true', List.isEmpty_eq_false_iff, List.any_eq_true, List.all_eq_true,
    List.contains_iff_mem]
  constructor
  · rintro ⟨h1, r, hr, h2, h3⟩
    exact ⟨h1, r, hr, fun k => ⟨h2 k, h3 k⟩⟩
  · rintro ⟨h1, r, hr, h⟩
    exact ⟨h1, r, hr, fun k hk => (h k).mp hk, fun k hk => (h k).mpr hk⟩

theorem findSubset_data (root : Root) (c : Path) :
    (Gen.Subset.tryReject (findSubset root c).isSome ((findSubset root c).elim false entryActive)
        = decide (activeHosts root c = [])) ∧
    (Gen.Subset.hostNumAccept (findSubset root c).isSome ((findSubset root c).elim false entryActive)
        = !decide (activeHosts root c = [])) ∧
    (Gen.Subset.existsAccept (findSubset root c).isSome ((findSubset root c).elim false entryActive)
        = !decide (activeHosts root c = [])) ∧
    (((findSubset root c).bind Trie.lb).getD [] = activeHosts root c) ∧
    ((findSubset root c).elim 0 entryHostNum = ((activeHosts root c).length : Int)) ∧
    ((findSubset root c).elim false entryActive = true ↔ activeHosts root c ≠ []) := by
  rw [findSubset_eq]
  unfold activeHosts lbAt Gen.Subset.tryReject Gen.Subset.hostNumAccept Gen.Subset.existsAccept
  cases findS root c with
  | none => simp
  | some e =>
    cases e with
    | node lb ch =>
      cases lb with
      | none => simp [entryActive, entryHostNum, Gen.Subset.entryActive, Gen.Subset.entryHostNum]
      | some l =>
        cases l with
        | nil => simp [entryActive, entryHostNum, Gen.Subset.entryActive, Gen.Subset.entryHostNum]
        | cons a b =>
          have : ((b.length : Int) + 1 > 0) := by omega
          simp [entryActive, entryHostNum, Gen.Subset.entryActive, Gen.Subset.entryHostNum, this]

theorem chooseHost_crit (inner : Inner) (lb : LB) (c : Path) (d1 d2 : Nat) :
    chooseHost inner lb (.crit c) d1 d2 =
      if activeHosts lb.subsets c = [] then fallbackChoice inner lb d2
      else match inner (activeHosts lb.subsets c) d1 with
        | some h => some h
        | none => fallbackChoice inner lb d2 := by
  obtain ⟨h1, _, _, h4, _, _⟩ := findSubset_data lb.subsets c
  simp only [chooseHost, tryChoose, Query.criteria, h1, h4, Gen.Subset.chooseAccept]
  by_cases ha : activeHosts lb.subsets c = []
  · simp [ha]
  · simp only [ha, decide_false, Bool.false_eq_true, if_false, Bool.true_and]
    cases inner (activeHosts lb.subsets c) d1 <;> simp

theorem accept_eq (x y : Option Host) :
    (if (true && x.isSome) = true then x else y) = (match x with | some h => some h | none => y) := by
  cases x <;> simp

theorem chooseHost_nilCrit (inner : Inner) (lb : LB) (d1 d2 : Nat) :
    chooseHost inner lb .nilCrit d1 d2 =
      match inner lb.full d1 with
      | some h => some h
      | none => fallbackChoice inner lb d2 := by
  simp only [chooseHost, tryChoose, Query.criteria, Gen.Subset.chooseAccept]
  exact accept_eq _ _

theorem chooseHost_nilCtx (inner : Inner) (lb : LB) (d1 d2 : Nat) :
    chooseHost inner lb .nilCtx d1 d2 = fallbackChoice inner lb d2 := by
  simp [chooseHost]

theorem hostNum_crit (lb : LB) (c : Path) :
    hostNum lb (some c) =
      if activeHosts lb.subsets c = [] then fallbackNum lb
      else ((activeHosts lb.subsets c).length : Int) := by
  obtain ⟨_, h2, _, _, h5, _⟩ := findSubset_data lb.subsets c
  simp only [hostNum, h2, h5]
  by_cases ha : activeHosts lb.subsets c = [] <;> simp [ha]

theorem isExists_crit (lb : LB) (c : Path) :
    isExists lb (some c) =
      if activeHosts lb.subsets c = [] then fallbackExists lb
      else true := by
  obtain ⟨_, _, h3, _, _, _⟩ := findSubset_data lb.subsets c
  simp only [isExists, h3]
  by_cases ha : activeHosts lb.subsets c = [] <;> simp [ha]

theorem mem_mergeKeys (sels : List (List Key)) (dflt : Path) (k : Key) :
    k ∈ mergeKeys sels dflt ↔ (∃ s ∈ sels, k ∈ s) ∨ k ∈ dflt.map (·.1) := by
  unfold mergeKeys
  rw [List.mem_eraseDups, List.mem_append, List.mem_flatten]

theorem fallbackOf_spec (kind : Int) (hosts d : List Host) :
    fallbackOf kind hosts d = if kind = 1 then some hosts else if kind = 2 then some d else none := rfl

/-- the contract an inner load balancer has to meet (property C05): a chosen host is a healthy member, and a host is
chosen whenever a healthy member exists -/
structure InnerOK (inner : Inner) : Prop where
  sound : ∀ l d h, inner l d = some h → h ∈ l ∧ h.healthy = true
  complete : ∀ l d, (∃ h ∈ l, h.healthy = true) → ∃ h, inner l d = some h

/-- `r` is a choice among `T`: a chosen host is in `T`, and a host is chosen whenever `T` is non-empty -/
def ChoiceAmong (r : Option Host) (T : List Host) : Prop :=
  (∀ h, r = some h → h ∈ T) ∧ (T ≠ [] → ∃ h, r = some h)

theorem InnerOK.choice {inner : Inner} (hin : InnerOK inner) (l : List Host) (d : Nat) :
    ChoiceAmong (inner l d) (l.filter (·.healthy)) :=
  ⟨fun h hc => List.mem_filter.mpr (hin.sound l d h hc), fun hne =>
    (List.exists_mem_of_ne_nil _ hne).elim fun x hx => hin.complete l d ⟨x, List.mem_filter.mp hx⟩⟩

theorem InnerOK.eq_none {inner : Inner} (hin : InnerOK inner) {l : List Host} (d : Nat)
    (he : l.filter (·.healthy) = []) : inner l d = none := by
  cases hi : inner l d with
  | none => rfl
  | some x => exact absurd ((hin.choice l d).1 x hi) (by simp [he])

theorem rrScan_sound (l : List Host) (s cnt : Nat) (h : Host) (hr : rrScan l s cnt = some h) :
    h ∈ l ∧ h.healthy = true := by
  unfold rrScan at hr
  obtain ⟨i, _, hi⟩ := List.exists_of_findSome?_eq_some hr
  cases hg : l[(s + i) % l.length]? with
  | none => simp [hg] at hi
  | some x =>
    simp only [hg] at hi
    by_cases hx : x.healthy = true
    · simp only [hx, if_true, Option.some.injEq] at hi
      subst hi
      exact ⟨List.mem_of_getElem? hg, hx⟩
    · simp [hx] at hi

/-- the scan over `n` consecutive indexes reaches every position -/
theorem rrScan_hits (l : List Host) (s : Nat) (j : Nat) (hj : j < l.length) :
    ∃ i, i < l.length ∧ (s + i) % l.length = j := by
  have hr : s % l.length < l.length := Nat.mod_lt _ (Nat.lt_of_le_of_lt (Nat.zero_le _) hj)
  refine ⟨(j + (l.length - s % l.length)) % l.length, Nat.mod_lt _ (by omega), ?_⟩
  rw [Nat.add_mod, Nat.mod_mod, Nat.add_mod_mod,
    show s % l.length + (j + (l.length - s % l.length)) = j + l.length by omega,
    Nat.add_mod_right, Nat.mod_eq_of_lt hj]

theorem rrScan_complete (l : List Host) (s : Nat) (hex : ∃ h ∈ l, h.healthy = true) :
    ∃ h, rrScan l s l.length = some h := by
  obtain ⟨h, hh, hhe⟩ := hex
  obtain ⟨j, hj, hget⟩ := List.getElem_of_mem hh
  obtain ⟨i, hi, hmod⟩ := rrScan_hits l s j hj
  cases hr : rrScan l s l.length with
  | some x => exact ⟨x, rfl⟩
  | none =>
    unfold rrScan at hr
    rw [List.findSome?_eq_none_iff] at hr
    have := hr i (List.mem_range.mpr hi)
    rw [hmod, List.getElem?_eq_getElem hj, hget] at this
    simp [hhe] at this

theorem rrChoose_ok : InnerOK rrChoose where
  sound := by
    intro l d h hr
    unfold rrChoose at hr
    by_cases hl : l.length = 0
    · simp [hl] at hr
    · simp only [hl, if_false] at hr
      cases h1 : rrScan l (d + 1) l.length with
      | some x => simp only [h1, Option.some.injEq] at hr; subst hr; exact rrScan_sound _ _ _ _ h1
      | none => simp only [h1] at hr; exact rrScan_sound _ _ _ _ hr
  complete := by
    intro l d hex
    unfold rrChoose
    have hl : l.length ≠ 0 := hex.elim fun _ hh => Nat.ne_of_gt (List.length_pos_of_mem hh.1)
    simp only [hl, if_false]
    obtain ⟨x, hx⟩ := rrScan_complete l (d + 1) hex
    exact ⟨x, by simp [hx]⟩

/-- the scan returns the host at its first index when that host is healthy -/
theorem rrScan_first (l : List Host) (s cnt : Nat) (h : Host) (hg : l[s % l.length]? = some h)
    (hhe : h.healthy = true) : rrScan l s (cnt + 1) = some h := by
  rw [rrScan, List.range_succ_eq_map, List.findSome?_cons, Nat.add_zero, hg]
  simp [hhe]

/-- every healthy member is returned for some state of the round-robin balancer (so a sweep sees all of them) -/
theorem rrChoose_sweeps (l : List Host) (h : Host) (hm : h ∈ l.filter (·.healthy)) : ∃ d, rrChoose l d = some h := by
  obtain ⟨hh, hhe⟩ := List.mem_filter.mp hm
  obtain ⟨j, hj, hget⟩ := List.getElem_of_mem hh
  obtain ⟨m, hm⟩ : ∃ m, l.length = m + 1 := ⟨l.length - 1, by omega⟩
  -- from the state `j + n - 1` the first index tried is `j`
  have hfirst := rrScan_first l (j + m + 1) m h
    (by rw [Nat.add_assoc, ← hm, Nat.add_mod_right, Nat.mod_eq_of_lt hj, List.getElem?_eq_getElem hj, hget]) hhe
  exact ⟨j + m, by rw [rrChoose, if_neg (by omega), hm, hfirst]⟩

/-- the filtering balancer built from the raw configuration -/
def lbF (hosts : List Host) (raw : List (List Key)) (policy : Nat) (dflt : Path) : LB :=
  newFilter hosts (policy : Int) dflt (generateSubsetKeys raw)

/-- the pre-index balancer built from the raw configuration (`shuf`: Go's map iteration order) -/
def lbP (shuf : List Val → List Val) (hosts : List Host) (raw : List (List Key)) (policy : Nat) (dflt : Path) : LB :=
  newPre shuf hosts (policy : Int) dflt (generateSubsetKeys raw)

theorem activeHosts_lbF (hosts : List Host) (raw : List (List Key)) (policy : Nat) (dflt : Path) (q : Path) :
    activeHosts (lbF hosts raw policy dflt).subsets q = refHosts hosts (generateSubsetKeys raw) q :=
  activeHosts_buildFilter hosts _ q

/-- on criteria sorted by key, "the key list is a normalised selector" is "a configured selector has this key set" -/
theorem refHosts_sorted (hosts : List Host) (raw : List (List Key)) (c : Path)
    (hs : strictSorted (c.map (·.1)) = true) :
    refHosts hosts (generateSubsetKeys raw) c =
      if selectorExists raw c = true then hosts.filter (contains · c) else [] :=
  ite_cond_congr (propext (by rw [selectorExists_iff, sorted_mem_generateSubsetKeys raw _ hs]))

theorem fallback_lbF (hosts : List Host) (raw : List (List Key)) (policy : Nat) (dflt : Path) :
    (lbF hosts raw policy dflt).fallback =
      match policy with
      | 1 => some hosts
      | 2 => some (hosts.filter (contains · dflt))
      | _ => none := by
  simp only [lbF, newFilter, fallbackOf, Gen.Subset.fallbackKindFilter, hostMatches_fun]
  match policy with
  | 0 | 1 | 2 => simp
  | n + 3 =>
    have h : ¬ ((n : Int) + 3 = 0) ∧ ¬ ((n : Int) + 3 = 1) ∧ ¬ ((n : Int) + 3 = 2) := by omega
    simp [h]

theorem full_lbF (hosts : List Host) (raw : List (List Key)) (policy : Nat) (dflt : Path) :
    (lbF hosts raw policy dflt).full = hosts := rfl

/-- two balancers with the same full list, fallback and active hosts at every path are observationally equal -/
theorem observe_congr (inner : Inner) (a b : LB) (hfull : a.full = b.full) (hfb : a.fallback = b.fallback)
    (hact : ∀ q, activeHosts a.subsets q = activeHosts b.subsets q) :
    (∀ q d1 d2, chooseHost inner a q d1 d2 = chooseHost inner b q d1 d2) ∧
    (∀ c, hostNum a c = hostNum b c) ∧ (∀ c, isExists a c = isExists b c) := by
  have hfc : ∀ d, fallbackChoice inner a d = fallbackChoice inner b d := fun d => by simp [fallbackChoice, hfb]
  refine ⟨?_, ?_, ?_⟩
  · intro q d1 d2
    cases q with
    | nilCtx => rw [chooseHost_nilCtx, chooseHost_nilCtx, hfc]
    | nilCrit => rw [chooseHost_nilCrit, chooseHost_nilCrit, hfc, hfull]
    | crit c => rw [chooseHost_crit, chooseHost_crit, hfc, hact]
  · intro c
    cases c with
    | none => simp [hostNum, hfull]
    | some c => rw [hostNum_crit, hostNum_crit, hact]; simp [fallbackNum, hfb]
  · intro c
    cases c with
    | none => simp [isExists, hfull]
    | some c => rw [isExists_crit, isExists_crit, hact]; simp [fallbackExists, hfb]

theorem fallbackPool_lbF (hosts : List Host) (raw : List (List Key)) (policy : Nat) (dflt : Path) :
    ((lbF hosts raw policy dflt).fallback).getD [] = specFallbackPool hosts policy dflt := by
  rw [fallback_lbF]
  unfold specFallbackPool
  match policy with
  | 0 | 1 | 2 | _ + 3 => rfl

/-- no fallback entry and a fallback entry without hosts both give no host -/
theorem fallbackChoice_eq {inner : Inner} (hin : InnerOK inner) (lb : LB) (d : Nat) :
    fallbackChoice inner lb d = inner (lb.fallback.getD []) d := by
  unfold fallbackChoice
  cases lb.fallback with
  | none => exact (hin.eq_none d rfl).symm
  | some f => rfl

/-- `ChooseHost` on sorted criteria, against the reference: the inner balancer on the matching subset when a selector exists
and the subset has a healthy host, on the fallback pool otherwise -/
theorem chooseHost_lbF_char (inner : Inner) (hin : InnerOK inner) (hosts : List Host) (raw : List (List Key))
    (policy : Nat) (dflt : Path) (c : Path) (hs : strictSorted (c.map (·.1)) = true) (d1 d2 : Nat) :
    chooseHost inner (lbF hosts raw policy dflt) (.crit c) d1 d2 =
      if selectorExists raw c = true ∧ (hosts.filter (contains · c)).filter (·.healthy) ≠ []
      then inner (hosts.filter (contains · c)) d1
      else inner (specFallbackPool hosts policy dflt) d2 := by
  rw [chooseHost_crit, fallbackChoice_eq hin, fallbackPool_lbF, activeHosts_lbF, refHosts_sorted hosts raw c hs]
  by_cases he : selectorExists raw c = true
  · simp only [he, if_true, true_and]
    by_cases hm : (hosts.filter (contains · c)).filter (·.healthy) = []
    · simp only [hm, ne_eq, not_true_eq_false, if_false, hin.eq_none d1 hm]
      split <;> rfl
    · obtain ⟨y, hy⟩ := (hin.choice _ d1).2 hm
      rw [if_neg (fun e => hm (by rw [e]; rfl)), if_pos hm, hy]
  · simp [he]

theorem ite_and_nonempty {α β : Type} (b : Bool) (m : List α) (x y : β) :
    (if (b && !m.isEmpty) = true then x else y) = if b = true ∧ m ≠ [] then x else y := by
  cases b <;> cases m <;> simp

theorem specTargets_eq (hosts : List Host) (raw : List (List Key)) (policy : Nat) (dflt c : Path) :
    specTargets hosts raw policy dflt c =
      if selectorExists raw c = true ∧ (hosts.filter (contains · c)).filter (·.healthy) ≠ []
      then (hosts.filter (contains · c)).filter (·.healthy)
      else (specFallbackPool hosts policy dflt).filter (·.healthy) :=
  ite_and_nonempty _ _ _ _

theorem specPool_eq (hosts : List Host) (raw : List (List Key)) (policy : Nat) (dflt c : Path) :
    specPool hosts raw policy dflt c =
      if selectorExists raw c = true ∧ hosts.filter (contains · c) ≠ []
      then hosts.filter (contains · c)
      else specFallbackPool hosts policy dflt :=
  ite_and_nonempty _ _ _ _

theorem specFallbackPool_subset (hosts : List Host) (policy : Nat) (dflt : Path) :
    ∀ h ∈ specFallbackPool hosts policy dflt, h ∈ hosts := by
  intro h hp
  unfold specFallbackPool at hp
  split at hp
  · exact hp
  · exact (List.mem_filter.mp hp).1
  · cases hp

theorem fallbackNum_eq (lb : LB) : fallbackNum lb = ((lb.fallback.getD []).length : Int) := by
  rw [fallbackNum]
  cases lb.fallback <;> rfl

theorem fallbackExists_eq (lb : LB) : fallbackExists lb = decide ((lb.fallback.getD []).length > 0) := by
  rw [fallbackExists]
  cases lb.fallback <;> rfl

theorem chooseHost_lbF_choice (inner : Inner) (hin : InnerOK inner) (hosts : List Host) (raw : List (List Key))
    (policy : Nat) (dflt : Path) (c : Path) (hs : strictSorted (c.map (·.1)) = true) (d1 d2 : Nat) :
    ChoiceAmong (chooseHost inner (lbF hosts raw policy dflt) (.crit c) d1 d2) (specTargets hosts raw policy dflt c) := by
  rw [chooseHost_lbF_char inner hin hosts raw policy dflt c hs, specTargets_eq]
  split
  · exact hin.choice _ d1
  · exact hin.choice _ d2

/-- a request without criteria: the inner balancer on the whole cluster, then on the fallback pool, which is part of it -/
theorem chooseHost_lbF_nilCrit_choice (inner : Inner) (hin : InnerOK inner) (hosts : List Host) (raw : List (List Key))
    (policy : Nat) (dflt : Path) (d1 d2 : Nat) :
    ChoiceAmong (chooseHost inner (lbF hosts raw policy dflt) .nilCrit d1 d2) (hosts.filter (·.healthy)) := by
  rw [chooseHost_nilCrit, full_lbF, fallbackChoice_eq hin, fallbackPool_lbF]
  have hc := hin.choice hosts d1
  cases hi : inner hosts d1 with
  | some x => rw [hi] at hc; exact hc
  | none =>
    -- no healthy host at all: the fallback pool has none either
    refine ⟨fun h hh => ?_, fun hne => (hc.2 hne).elim fun _ e => nomatch hi.symm.trans e⟩
    obtain ⟨hp, hhe⟩ := hin.sound _ _ _ hh
    exact List.mem_filter.mpr ⟨specFallbackPool_subset _ _ _ h hp, hhe⟩

theorem map_fst_insertKV (kv : KV) (l : Path) : (insertKV kv l).map (·.1) = insertKey kv.1 (l.map (·.1)) := by
  induction l with
  | nil => rfl
  | cons x r ih =>
    simp only [insertKV, List.map_cons, insertKey]
    split <;> simp [ih]

theorem map_fst_mkCriteria (kvs : Path) : (mkCriteria kvs).map (·.1) = sortKeys (kvs.map (·.1)) := by
  rw [mkCriteria, sortKeys, List.foldr_map]
  exact (List.foldr_hom (List.map (·.1)) fun kv l => (map_fst_insertKV kv l).symm).symm

theorem insertKV_isIns : Lemmas.InsertSort.IsIns (fun a b : KV => a.1 ≤ b.1) insertKV := ⟨fun _ => rfl, fun _ _ _ => rfl⟩

theorem mem_mkCriteria (kvs : Path) (x : KV) : x ∈ mkCriteria kvs ↔ x ∈ kvs := (insertKV_isIns.foldr_perm kvs).mem_iff

theorem mkCriteria_sorted (kvs : Path) (hnd : (kvs.map (·.1)).Nodup) :
    strictSorted ((mkCriteria kvs).map (·.1)) = true := by
  rw [map_fst_mkCriteria, strictSorted_iff]
  exact (sortKeys_spec _ hnd).1

theorem contains_congr (h : Host) (c c' : Path) (hm : ∀ kv, kv ∈ c ↔ kv ∈ c') : contains h c = contains h c' := by
  rw [Bool.eq_iff_iff]
  simp only [contains, List.all_eq_true]
  exact ⟨fun hh kv hkv => hh kv ((hm kv).mpr hkv), fun hh kv hkv => hh kv ((hm kv).mp hkv)⟩

theorem selectorExists_congr (raw : List (List Key)) (c c' : Path) (hm : ∀ kv, kv ∈ c ↔ kv ∈ c') :
    selectorExists raw c = selectorExists raw c' := by
  have hk : ∀ k, k ∈ c.map (·.1) ↔ k ∈ c'.map (·.1) := fun k => by simp only [List.mem_map, hm]
  have hne : c ≠ [] ↔ c' ≠ [] := by simp only [ne_eq, List.eq_nil_iff_forall_not_mem, hm]
  rw [Bool.eq_iff_iff, selectorExists_iff, selectorExists_iff, hne]
  simp only [hk]

theorem specTargets_congr (hosts : List Host) (raw : List (List Key)) (policy : Nat) (dflt c c' : Path)
    (hm : ∀ kv, kv ∈ c ↔ kv ∈ c') :
    specTargets hosts raw policy dflt c = specTargets hosts raw policy dflt c' := by
  simp only [specTargets, selectorExists_congr raw c c' hm, contains_congr _ c c' hm]

theorem specPool_congr (hosts : List Host) (raw : List (List Key)) (policy : Nat) (dflt c c' : Path)
    (hm : ∀ kv, kv ∈ c ↔ kv ∈ c') :
    specPool hosts raw policy dflt c = specPool hosts raw policy dflt c' := by
  simp only [specPool, selectorExists_congr raw c c' hm, contains_congr _ c c' hm]

end MosnVerif.Model.Subset
