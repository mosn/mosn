import MosnVerif.Model.HealthLoop
/-! The checker loop with `checkID` advanced exactly when the next check is armed handles every
issued check exactly once with its own outcome, whatever late answers arrive. -/
namespace MosnVerif.Model.HealthLoop
open MosnVerif.Model.HealthCheck (Result)

/-- the current source advances `checkID` only when arming the next check (stops compiling if the regenerated
bookkeeping changes) -/
theorem genPolicy_new : genPolicy = newPolicy := by rfl

/-- simulation relation between the loop (new policy) and the reference: the timers agree, a check in progress carries
the id the loop waits for, every hanging timed-out check carries a smaller id -/
structure Sim (s : Loop) (r : Ref) : Prop where
  armed : s.armed = r.armed
  tmo : s.timeoutOn = r.busy
  busy : s.check.isSome = r.busy
  check : ∀ id, s.check = some id → id = s.checkID
  cur : s.atTop = false → s.currentID = s.checkID
  zombies : ∀ z ∈ s.zombies, z < s.checkID
  log : s.log = r.log

theorem sim_init : Sim (Loop.init newPolicy) Ref.init :=
  ⟨rfl, rfl, rfl, nofun, nofun, nofun, rfl⟩

/-- under the current policy the top of an iteration loads `currentID` and changes nothing else -/
theorem doTop_new (s : Loop) :
    doTop newPolicy s = { s with currentID := if s.atTop then s.checkID else s.currentID, atTop := false } := by
  cases s with | mk cid cur atTop armed check tmo zs log => cases atTop <;> rfl

theorem sim_step (s : Loop) (r : Ref) (ev : Ev) (h : Sim s r) : Sim (step newPolicy s ev) (refStep r ev) := by
  obtain ⟨cid, cur, atTop, armed, check, tmo, zs, log⟩ := s
  obtain ⟨ra, rb, rl⟩ := r
  obtain ⟨ha, ht, hc, hci, hcu, hz, hl⟩ := h
  simp only at ha ht hc hci hcu hz hl
  subst ha ht hl
  have hcur : (if atTop = true then cid else cur) = cid := by
    cases atTop
    · exact hcu rfl
    · rfl
  cases ev with
  | issue =>
    cases armed
    · exact ⟨rfl, rfl, hc, hci, hcu, hz, rfl⟩
    · exact ⟨rfl, rfl, rfl, fun _ h => (Option.some.inj h).symm, hcu, hz, rfl⟩
  | answer hv =>
    cases check with
    | none => cases hc; exact ⟨rfl, rfl, rfl, hci, hcu, hz, rfl⟩
    | some id =>
      cases hci id rfl
      cases hc
      simp only [step, refStep, doTop_new, hcur, if_true]
      exact ⟨rfl, rfl, rfl, nofun, nofun, fun z hzm => Nat.lt_succ_of_lt (hz z hzm), rfl⟩
  | timeout =>
    cases tmo with
    | false => exact ⟨rfl, rfl, hc, hci, hcu, hz, rfl⟩
    | true =>
      simp only [step, refStep, doTop_new, if_true]
      refine ⟨rfl, rfl, rfl, nofun, nofun, fun z hzm => ?_, rfl⟩
      rcases List.mem_append.mp hzm with h1 | h2
      · exact Nat.lt_succ_of_le (Nat.le_of_eq (hci z (Option.mem_toList.mp h1)))
      · exact Nat.lt_succ_of_lt (hz z h2)
  | late id hv =>
    by_cases hm : id ∈ zs
    · have hne : id ≠ cid := Nat.ne_of_lt (hz id hm)
      simp only [step, refStep, doTop_new, hm, if_true, hcur, hne, if_false]
      exact ⟨rfl, rfl, hc, hci, nofun, fun z hzm => hz z (List.mem_of_mem_erase hzm), rfl⟩
    · simp only [step, refStep, hm, if_false]
      exact ⟨rfl, rfl, hc, hci, hcu, hz, rfl⟩
  | top =>
    simp only [step, refStep, doTop_new]
    exact ⟨rfl, rfl, hc, hci, fun _ => hcur, hz, rfl⟩

theorem sim_run (s : Loop) (r : Ref) (evs : List Ev) (h : Sim s r) : Sim (run newPolicy s evs) (refRun r evs) :=
  List.foldl_rel (r := Sim) h fun e _ s r => sim_step s r e

end MosnVerif.Model.HealthLoop
