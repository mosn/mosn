import MosnVerif.Model.KVBlock
/-! the validated KV-block decode never leaves the block; allocation bound -/
namespace MosnVerif.Model.KVBlock
open MosnVerif.Model.Framing MosnVerif.Model.FrameBytes

theorem rd32_some (b : Bytes) (i : Nat) (h : i + 4 ≤ b.length) : rd32 b i = some (be b i (i + 4)) :=
  if_pos h

/-- what a decode from position `i` with `k` pairs appended may answer: no out-of-range read, and every further pair
took at least 8 bytes of what was left of the block -/
def Within (b : Bytes) (i k : Nat) : KvRes → Prop
  | .ok p => 8 * p ≤ 8 * k + (b.length - i)
  | .err => True
  | .oob => False

theorem Within.mono {b : Bytes} {i k i' k' : Nat} {r : KvRes} (h : Within b i' k' r)
    (hle : 8 * k' + (b.length - i') ≤ 8 * k + (b.length - i)) : Within b i k r := by
  cases r with
  | ok p => exact Nat.le_trans h hle
  | err => trivial
  | oob => exact h

/-- a block that passes `checkHeaderBlock` is decoded by `header.DecodeHeader` without any out-of-range read, and each
pair it appends consumed at least 8 bytes: one walk along `check` -/
theorem decode_within : ∀ (fuel : Nat) (b : Bytes) (i k : Nat), check fuel b i = true → Within b i k (decode fuel b i k) := by
  intro fuel
  induction fuel with
  | zero => intro b i k _; exact Nat.le_add_right _ _
  | succ n ih =>
    intro b i k hc
    unfold check at hc
    unfold decode
    by_cases hi : i < b.length
    · simp only [hi, ↓reduceIte] at hc ⊢
      by_cases h4 : b.length - i < 4
      · simp [h4] at hc
      · simp only [h4, ↓reduceIte] at hc
        rw [rd32_some b i (by omega)]
        simp only
        generalize be b i (i + 4) = l at hc ⊢
        by_cases hm : l = maxU32
        · simp only [hm, ↓reduceIte] at hc ⊢
          exact (ih b (i + 4) k hc).mono (by omega)
        · simp only [hm, ↓reduceIte] at hc ⊢
          by_cases hov : l > b.length - (i + 4)
          · rw [if_pos (by omega)]
            trivial
          · simp only [hov, ↓reduceIte] at hc
            rw [if_neg (by omega)]
            by_cases h4' : b.length - (i + 4 + l) < 4
            · simp [h4'] at hc
            · simp only [h4', ↓reduceIte] at hc
              rw [rd32_some b _ (by omega)]
              simp only
              generalize be b (i + 4 + l) (i + 4 + l + 4) = l2 at hc ⊢
              by_cases hm2 : l2 = maxU32
              · simp only [hm2, ↓reduceIte] at hc ⊢
                exact (ih b _ k hc).mono (by omega)
              · simp only [hm2, ↓reduceIte] at hc ⊢
                by_cases hov2 : l2 > b.length - (i + 4 + l + 4)
                · rw [if_pos (by omega)]
                  trivial
                · simp only [hov2, ↓reduceIte] at hc
                  rw [if_neg (by omega)]
                  exact (ih b _ (k + 1) hc).mono (by omega)
    · simp only [hi, ↓reduceIte]
      exact Nat.le_add_right _ _

theorem decode_no_oob (fuel : Nat) (b : Bytes) (i k : Nat) (hc : check fuel b i = true) : decode fuel b i k ≠ .oob :=
  fun h => by have := decode_within fuel b i k hc; rwa [h] at this

theorem safe_no_oob (b : Bytes) : safe b ≠ .oob := by
  unfold safe
  split
  · rename_i h; exact decode_no_oob _ b 0 0 h
  · simp

theorem safe_pairs (b : Bytes) (p : Nat) (h : safe b = .ok p) : 8 * p ≤ b.length := by
  unfold safe at h
  split at h
  · rename_i hc
    have : 8 * p ≤ 8 * 0 + (b.length - 0) := by
      have := decode_within _ b 0 0 hc
      rwa [h] at this
    omega
  · simp at h

end MosnVerif.Model.KVBlock
