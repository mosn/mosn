/-! Insertion of an element in front of the first one it precedes, and the sort that folds it. The lemmas are about
any function `f` satisfying the two defining equations (`IsIns r f`): `f a l` is a permutation of `a :: l` and keeps a
pairwise order that `r` decides. Each model defines its own insertion by structural recursion, so it is an instance with
both equations by `rfl`, and the lemmas then speak of the model's function itself. Core Lean only. -/
namespace MosnVerif.Lemmas.InsertSort
variable {α : Type}

/-- `f a l` puts `a` in front of the first `b` in `l` with `r a b`, or at the end. -/
structure IsIns (r : α → α → Prop) [DecidableRel r] (f : α → List α → List α) : Prop where
  nil : ∀ a, f a [] = [a]
  cons : ∀ a b l, f a (b :: l) = if r a b then a :: b :: l else b :: f a l

namespace IsIns
variable {r : α → α → Prop} [DecidableRel r] {f : α → List α → List α}

theorem perm (h : IsIns r f) (a : α) (l : List α) : (f a l).Perm (a :: l) := by
  induction l with
  | nil => rw [h.nil]
  | cons b l ih =>
    rw [h.cons]
    by_cases hr : r a b
    · rw [if_pos hr]
    · rw [if_neg hr]
      exact (ih.cons b).trans (.swap a b l)

theorem mem (h : IsIns r f) {a x : α} {l : List α} : x ∈ f a l ↔ x = a ∨ x ∈ l :=
  (h.perm a l).mem_iff.trans List.mem_cons

/-- `R` is the order the list is kept in; where `r` decides to stop, `a` is `R`-before the rest, and where it
passes an element, that element is `R`-before `a`. Hypotheses speak of the members of `l` only, so that a strict
order on lists without `a` is covered. -/
theorem pairwise (h : IsIns r f) {R : α → α → Prop} {a : α} {l : List α} (hl : l.Pairwise R)
    (stop : ∀ b ∈ l, r a b → R a b) (pass : ∀ b ∈ l, ¬ r a b → R b a) (trans : ∀ b c, R a b → R b c → R a c) :
    (f a l).Pairwise R := by
  induction l with
  | nil => rw [h.nil]; exact List.pairwise_singleton R a
  | cons b l ih =>
    have ⟨hb, hl'⟩ := List.pairwise_cons.mp hl
    rw [h.cons]
    by_cases hr : r a b
    · rw [if_pos hr]
      have hab := stop b (.head _) hr
      exact List.pairwise_cons.mpr ⟨fun z hz => (List.mem_cons.mp hz).elim (· ▸ hab) (fun hz => trans b z hab (hb z hz)), hl⟩
    · rw [if_neg hr]
      refine List.pairwise_cons.mpr ⟨fun z hz => ?_, ih hl' (fun c hc => stop c (.tail _ hc)) (fun c hc => pass c (.tail _ hc))⟩
      exact (h.mem.mp hz).elim (· ▸ pass b (.head _) hr) (hb z)

theorem foldr_perm (h : IsIns r f) (l : List α) : (l.foldr f []).Perm l := by
  induction l with
  | nil => exact .refl _
  | cons a l ih => exact (h.perm a _).trans (ih.cons a)

/-- the sort by a total preorder (`R` the order, `r` its decision) is sorted -/
theorem foldr_pairwise (h : IsIns r f) {R : α → α → Prop} (stop : ∀ a b, r a b → R a b) (pass : ∀ a b, ¬ r a b → R b a)
    (trans : ∀ a b c, R a b → R b c → R a c) (l : List α) : (l.foldr f []).Pairwise R := by
  induction l with
  | nil => exact .nil
  | cons a l ih => exact h.pairwise ih (fun b _ => stop a b) (fun b _ => pass a b) (trans a)

end IsIns
end MosnVerif.Lemmas.InsertSort
