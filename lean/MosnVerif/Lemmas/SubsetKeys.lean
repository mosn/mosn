import MosnVerif.Gen.SubsetKeys
import MosnVerif.Lemmas.Subset
/-! The regenerated `GenerateSubsetKeys` (`Gen.SubsetKeys`, translated statement by statement from
subset_loadbalancer.go) is the model's `generateSubsetKeys`. -/
namespace MosnVerif.Model.Subset
open MosnVerif

/-- the inner loop of `GenerateSubsetKeys` (`if reflect.DeepEqual(sortedStringSet.Keys(), subset.Keys()) { dup = true }`
over the result so far) computes membership -/
theorem dupLoop_eq (s : List Key) (acc : List (List Key)) (d : Bool) :
    acc.foldl (fun dup subset => if (s == subset) then true else dup) d = (d || acc.contains s) := by
  induction acc generalizing d with
  | nil => simp
  | cons x r ih =>
    rw [List.foldl_cons, ih]
    by_cases h : s = x
    · subst h; simp
    · have hx : (s == x) = false := by simpa using h
      simp [hx, h]

/-- one regenerated iteration is one iteration of the model -/
theorem genStep_eq (acc : List (List Key)) (ks : List Key) :
    Gen.SubsetKeys.step initSet acc ks = (if acc.contains (initSet ks) then acc else acc ++ [initSet ks]) := by
  unfold Gen.SubsetKeys.step
  simp only [dupLoop_eq, Bool.false_or]
  cases acc.contains (initSet ks) <;> simp

/-- **the regenerated `GenerateSubsetKeys` is the model's** -/
theorem genKeys_eq (raw : List (List Key)) :
    Gen.SubsetKeys.generateSubsetKeys initSet raw = generateSubsetKeys raw := by
  unfold Gen.SubsetKeys.generateSubsetKeys generateSubsetKeys
  congr 1
  funext acc ks
  exact genStep_eq acc ks

end MosnVerif.Model.Subset
