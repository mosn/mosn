import MosnVerif.Lemmas.TlsSelect
import MosnVerif.Gen.TlsMatch
/-!
The regenerated selection code (`Gen/TlsMatch.lean`: buildMatch, MatchedServerName, MatchedALPN, the ALPN filter of
tlsConfigTemplate, GetConfigForClient — translated statement by statement) equals the hand-written model of
`Model/TlsSelect.lean`, for every input and every amount of extra loop fuel.  Core Lean only.
-/
namespace MosnVerif.Lemmas.TlsMatch
open MosnVerif MosnVerif.Model MosnVerif.Model.TlsSelect MosnVerif.Gen.TlsPolicy
open MosnVerif.Model.TlsMatchBase (Flow rangeLoop whileLoop idxRange len listAt byteAt sliceFrom sliceTo setAt mapHas mapInsert X509 Prov)

theorem rangeLoop_fold {α ρ σ : Type} (f : σ → α → σ) (body : α → σ → Flow ρ σ)
    (h : ∀ x s, body x s = Flow.next (f s x)) (xs : List α) (s : σ) :
    rangeLoop xs body s = Flow.next (xs.foldl f s) := by
  induction xs generalizing s with
  | nil => rfl
  | cons x r ih => simp only [rangeLoop, h, List.foldl_cons]; exact ih _

/-- a loop whose every iteration appends to its one variable: it grows by what the iterations append, in order -/
theorem rangeLoop_append {α β ρ : Type} (g : α → List β) (body : α → List β → Flow ρ (List β))
    (h : ∀ x m, body x m = Flow.next (m ++ g x)) (xs : List α) (m : List β) :
    rangeLoop xs body m = Flow.next (m ++ xs.flatMap g) := by
  rw [rangeLoop_fold (fun m x => m ++ g x) body h]
  induction xs generalizing m with
  | nil => simp
  | cons x r ih => rw [List.foldl_cons, ih, List.flatMap_cons, List.append_assoc]

/-- appending `f x` for the `x` that pass a test: the list filtered, then mapped -/
theorem flatMap_ite {α β : Type} (q : α → Bool) (f : α → β) (xs : List α) :
    xs.flatMap (fun x => if q x then [f x] else []) = (xs.filter q).map f := by
  induction xs with
  | nil => rfl
  | cons x r ih => cases h : q x <;> simp [h, ih]

theorem rangeLoop_any {α ρ σ : Type} (p : α → Bool) (v : ρ) (body : α → σ → Flow ρ σ)
    (h : ∀ x s, body x s = if p x then Flow.ret v else Flow.next s) (xs : List α) (s : σ) :
    rangeLoop xs body s = if xs.any p then Flow.ret v else Flow.next s := by
  induction xs with
  | nil => rfl
  | cons x r ih =>
    simp only [rangeLoop, h, List.any_cons]
    by_cases hp : p x = true <;> simp [hp, ih]

theorem rangeLoop_map {α β ρ σ : Type} (f : α → β) (body : β → σ → Flow ρ σ) (xs : List α) (s : σ) :
    rangeLoop (xs.map f) body s = rangeLoop xs (fun x => body (f x)) s := by
  induction xs generalizing s with
  | nil => rfl
  | cons x r ih =>
    simp only [List.map_cons, rangeLoop]
    cases body (f x) s with
    | ret v => rfl
    | next s' => exact ih s'

/-- `for i := range xs { x := xs[i]; … }` is `for _, x := range xs { … }`: the indices, each looked up, are the list -/
theorem rangeLoop_idx {α ρ σ : Type} [Inhabited α] (xs : List α) (body : α → σ → Flow ρ σ) (body' : Int → σ → Flow ρ σ)
    (h : ∀ i s, body' i s = body (listAt xs i) s) (s : σ) :
    rangeLoop (idxRange xs) body' s = rangeLoop xs body s := by
  have e : body' = fun i => body (listAt xs i) := funext fun i => funext (h i)
  have hx : (idxRange xs).map (listAt xs) = xs := by
    apply List.ext_getElem <;> simp +contextual [idxRange, listAt]
  rw [e, ← rangeLoop_map (listAt xs) body, hx]

/-- `for cond { body }`, one iteration at a time -/
theorem whileLoop_done {ρ σ : Type} (cond : σ → Bool) (body : σ → Flow ρ σ) (s : σ) (h : cond s = false) (fuel : Nat) :
    whileLoop fuel cond body s = Flow.next s := by
  cases fuel <;> simp [whileLoop, h]

theorem whileLoop_next {ρ σ : Type} (cond : σ → Bool) (body : σ → Flow ρ σ) (s s' : σ) (h : cond s = true)
    (hb : body s = Flow.next s') (fuel : Nat) :
    whileLoop (fuel + 1) cond body s = whileLoop fuel cond body s' := by
  simp [whileLoop, h, hb]

theorem whileLoop_ret {ρ σ : Type} (cond : σ → Bool) (body : σ → Flow ρ σ) (s : σ) (v : ρ) (h : cond s = true)
    (hb : body s = Flow.ret v) (fuel : Nat) :
    whileLoop (fuel + 1) cond body s = Flow.ret v := by
  simp [whileLoop, h, hb]

theorem setAt_append_length {α : Type} (pre t : List α) (a v : α) :
    setAt (pre ++ a :: t) (pre.length : Int) v = pre ++ v :: t := by
  simp [setAt]

theorem sliceFrom_append_length {α : Type} (pre t : List α) : sliceFrom (pre ++ t) (pre.length : Int) = t := by
  simp [sliceFrom]

theorem toLower_fun : TlsMatchBase.toLower = lower := rfl

theorem splitOn_eq (c : Char) (s : Name) : TlsMatchBase.splitOn c s = splitOn c s := by
  induction s with
  | nil => rfl
  | cons a r ih =>
    rw [TlsMatchBase.splitOn, splitOn, ih]
    split
    · rfl
    · cases splitOn c r <;> rfl

theorem join_eq (l : List Name) : TlsMatchBase.join l ['.'] = joinDot l := by
  induction l with
  | nil => rfl
  | cons a r ih =>
    cases r with
    | nil => rfl
    | cons b t => simp only [TlsMatchBase.join, joinDot, ih, List.append_assoc, List.singleton_append]

theorem gen_alpnFilter_eq (cfg : Name) : Gen.TlsMatch.alpnFilter cfg = parseALPN cfg := by
  unfold Gen.TlsMatch.alpnFilter parseALPN
  cases cfg with
  | nil => rfl
  | cons a r =>
    have hne : ((a :: r) != ([] : Name)) = true := by simp
    simp only [hne, ↓reduceIte, List.isEmpty_cons, Bool.false_eq_true]
    rw [rangeLoop_append (fun p => if Gen.TlsMatch.alpnTable.contains (lower p) then [p] else [])]
    · simp only [flatMap_ite, List.map_id', List.nil_append, splitOn_eq]
      rfl
    · intro p acc
      simp only [mapHas, toLower_fun]
      rcases Bool.eq_false_or_eq_true (Gen.TlsMatch.alpnTable.contains (lower p)) with hq | hq <;> simp only [hq] <;> simp

/-- the keys one certificate contributes -/
def certKeys : Option X509 → List Name
  | none => []
  | some x => (if x.cn.length > 0 then [lower x.cn] else []) ++ (x.dnsNames.filter (fun s => s.length > 0)).map lower

theorem len_pos {α : Type} (l : List α) : decide (len l > (0 : Int)) = decide (l.length > 0) := by
  simp [len]

/-- `buildMatch` for any certificate list: the keys of every certificate that parses (CN if non-empty, then the SANs), the
NextProtos, the server_name if non-empty — all lower-cased, in this order -/
theorem gen_buildMatch_spec (certs : List (Option X509)) (protos : List Name) (sn : Name) :
    Gen.TlsMatch.buildMatch certs protos sn =
      certs.flatMap certKeys ++ protos.map lower ++ (if sn.length > 0 then [lower sn] else []) := by
  unfold Gen.TlsMatch.buildMatch
  simp only [mapInsert, toLower_fun, len_pos]
  rw [rangeLoop_idx certs (fun cert m => Flow.next (m ++ certKeys cert))]
  · rw [rangeLoop_append certKeys _ (fun _ _ => rfl)]
    dsimp only
    rw [rangeLoop_append (fun x => [lower x]) _ (fun _ _ => rfl), ← List.map_eq_flatMap]
    by_cases h : sn.length > 0 <;> simp [h]
  · intro i m
    cases hc : listAt certs i with
    | none => simp [certKeys]
    | some x =>
      simp only [Option.isNone_some, Bool.false_eq_true, ↓reduceIte, Option.getD_some, certKeys]
      rw [rangeLoop_append (fun x => if decide (x.length > 0) then [lower x] else [])]
      · dsimp only
        rw [flatMap_ite]
        by_cases h : x.cn.length > 0 <;> simp [h]
      · intro x m
        split <;> simp

theorem gen_matchedALPN_eq (m : List Name) (protos : List Name) :
    Gen.TlsMatch.matchedALPN m protos = matchedALPN m protos := by
  unfold Gen.TlsMatch.matchedALPN matchedALPN
  rw [rangeLoop_any (fun p => m.contains (lower p)) true]
  · cases protos.any (fun p => m.contains (lower p)) <;> rfl
  · intro p s
    simp only [mapHas, toLower_fun]
    rcases Bool.eq_false_or_eq_true (m.contains (lower p)) with hq | hq <;> simp only [hq]

/-- the trailing-dot loop, for any fuel above the length of the name (by induction on the name read from its end) -/
theorem whileLoop_strip (cond : Name → Bool) (body : Name → Flow Bool Name)
    (hc : ∀ s, cond s = (decide (len s > (0 : Int)) && (byteAt s (len s - (1 : Int)) == '.')))
    (hb : ∀ s, body s = Flow.next (sliceTo s (len s - (1 : Int))))
    (fuel : Nat) (n : Name) (h : n.length < fuel) : whileLoop fuel cond body n = Flow.next (stripDots n) := by
  suffices ∀ (r : Name) (fuel : Nat), r.length < fuel →
      whileLoop fuel cond body r.reverse = Flow.next (r.dropWhile (· == '.')).reverse by
    have := this n.reverse fuel (by rwa [List.length_reverse])
    rwa [List.reverse_reverse] at this
  intro r
  induction r with
  | nil => intro fuel _; exact whileLoop_done _ _ _ (by simp [hc, len]) fuel
  | cons c r ih =>
    intro fuel hf
    cases fuel with
    | zero => exact absurd hf (Nat.not_lt_zero _)
    | succ f =>
      have hcnd : cond (c :: r).reverse = (c == '.') := by rw [hc]; simp [len, byteAt]
      cases hcd : c == '.'
      · rw [whileLoop_done _ _ _ (hcnd.trans hcd)]
        simp only [List.dropWhile_cons, hcd, Bool.false_eq_true, ↓reduceIte]
      · have hbd : body (c :: r).reverse = Flow.next r.reverse := by rw [hb]; simp [len, sliceTo]
        rw [whileLoop_next _ _ _ _ (hcnd.trans hcd) hbd, ih f (Nat.lt_of_succ_lt_succ hf)]
        simp only [List.dropWhile_cons, hcd, ↓reduceIte]

/-- the wildcard walk over the labels `t` that are left, `pre` being the labels already overwritten: with fuel for the
labels left, whatever is done with the loop's result — as long as a returned `true` gives true and a completed loop
false — gives "one of the model's candidates of `t` is a key" -/
theorem whileLoop_walk (m : List Name) (cond : Int × List Name → Bool) (body : Int × List Name → Flow Bool (Int × List Name))
    (hc : ∀ i ls, cond (i, ls) = decide (i < len ls - (1 : Int)))
    (hb : ∀ i ls, body (i, ls) =
      if mapHas m (TlsMatchBase.join (sliceFrom (setAt ls i ['*']) i) ['.']) then Flow.ret true
      else Flow.next (i + 1, setAt ls i ['*']))
    (K : Flow Bool (Int × List Name) → Bool) (hret : K (Flow.ret true) = true) (hnext : ∀ st, K (Flow.next st) = false) :
    ∀ (t pre : List Name) (fuel : Nat), t.length ≤ fuel →
      K (whileLoop fuel cond body ((pre.length : Int), pre ++ t)) = (candidates t).any (fun c => m.contains c) := by
  have hcond : ∀ pre t : List Name, cond ((pre.length : Int), pre ++ t) = decide (1 < t.length) := by
    intro pre t
    rw [hc, decide_eq_decide]
    simp only [len, List.length_append]
    omega
  intro t
  induction t with
  | nil =>
    intro pre fuel _
    rw [whileLoop_done _ _ _ (hcond pre []), hnext]; rfl
  | cons a t ih =>
    intro pre fuel hf
    cases t with
    | nil => rw [whileLoop_done _ _ _ (hcond pre [a]), hnext]; rfl
    | cons b r =>
      cases fuel with
      | zero => exact absurd hf (Nat.not_succ_le_zero _)
      | succ f =>
        have hcnd : cond ((pre.length : Int), pre ++ a :: b :: r) = true := (hcond pre (a :: b :: r)).trans (by simp)
        -- the iteration overwrites `a` and looks up `*` joined with the labels after it
        have hbd := hb (pre.length : Int) (pre ++ a :: b :: r)
        rw [setAt_append_length, sliceFrom_append_length, join_eq] at hbd
        show _ = (m.contains (joinDot (['*'] :: b :: r)) || (candidates (b :: r)).any (fun c => m.contains c))
        cases hm : m.contains (joinDot (['*'] :: b :: r))
        · rw [mapHas, hm, if_neg Bool.false_ne_true] at hbd
          have hi := ih (pre ++ [['*']]) f (Nat.le_of_succ_le_succ hf)
          rw [List.length_append, List.length_singleton, Int.natCast_add, List.append_assoc, List.singleton_append] at hi
          rw [whileLoop_next _ _ _ _ hcnd hbd, Bool.false_or]
          exact hi
        · rw [mapHas, hm, if_pos rfl] at hbd
          rw [whileLoop_ret _ _ _ _ hcnd hbd, hret, Bool.true_or]

/-- **the regenerated MatchedServerName is the model's**, for every key set, every string and every extra fuel -/
theorem gen_matchedServerName_eq (m : List Name) (sn : Name) (k : Nat) :
    Gen.TlsMatch.matchedServerName m sn k = matchedServerName m sn := by
  unfold Gen.TlsMatch.matchedServerName matchedServerName normSni
  dsimp only
  rw [whileLoop_strip _ _ (fun _ => rfl) (fun _ => rfl) _ (TlsMatchBase.toLower sn) (by omega)]
  dsimp only
  rw [toLower_fun]
  cases hm : m.contains (stripDots (lower sn))
  · simp only [mapHas, hm, Bool.false_eq_true, ↓reduceIte, Bool.false_or]
    rw [← splitOn_eq]
    exact whileLoop_walk m _ _ (fun _ _ => rfl) (fun _ _ => rfl)
      (fun W => match W with
        | Flow.ret r => r
        | Flow.next _ => false) rfl (fun _ => rfl) _ [] _ (by omega)
  · simp only [mapHas, hm, ↓reduceIte, Bool.true_or]

/-- the providers of a listener whose contexts are `cs` (positions from `i` on): position, readiness, and the key set
`buildMatch` stores -/
def provs : List Ctx → Nat → List Prov
  | [], _ => []
  | c :: r, i => ⟨i, c.ready, buildMatch c⟩ :: provs r (i + 1)

/-- the statements after the loop -/
def finish (d a : Option Prov) : Outcome :=
  if a.isSome then Outcome.config (a.map Prov.idx)
  else if d.isNone then Outcome.errNoCert else Outcome.config (d.map Prov.idx)

theorem finish_eq (d a : Option Prov) : finish d a = walkFinish (d.map Prov.idx) (a.map Prov.idx) := by
  cases d <;> cases a <;> simp [finish, walkFinish]

/-- the provider loop of the regenerated GetConfigForClient is the model's walk (which is built from the separately
regenerated loop body `walkStep` and tail `walkFinish` of Gen/TlsPolicy) -/
theorem rangeLoop_walk (sni : Name) (protos : List Name) (k : Nat)
    (body : Prov → Option Prov × Option Prov → Flow Outcome (Option Prov × Option Prov))
    (hb : ∀ p d a, body p (d, a) =
      if (!p.ready) then Flow.next (d, a)
      else if Gen.TlsMatch.matchedServerName p.keys sni k then Flow.ret (Outcome.config (some p.idx))
      else Flow.next (if d.isNone then some p else d,
        if (a.isNone && Gen.TlsMatch.matchedALPN p.keys protos) then some p else a))
    (K : Flow Outcome (Option Prov × Option Prov) → Outcome)
    (hret : ∀ r, K (Flow.ret r) = r) (hnext : ∀ d a, K (Flow.next (d, a)) = finish d a) :
    ∀ (ps : List Ctx) (i : Nat) (d a : Option Prov),
      K (rangeLoop (provs ps i) body (d, a)) = walk sni protos ps i (d.map Prov.idx) (a.map Prov.idx) := by
  intro ps
  induction ps with
  | nil => intro i d a; simp only [provs, rangeLoop, hnext, walk, finish_eq]
  | cons c r ih =>
    intro i d a
    simp only [provs, rangeLoop, walk, hb, walkStep_eq, gen_matchedServerName_eq, gen_matchedALPN_eq, Ctx.sniMatch,
      Ctx.alpnMatch]
    cases hr : c.ready
    · simp only [Bool.not_false, ↓reduceIte]
      exact ih (i + 1) d a
    · cases hs : matchedServerName (buildMatch c) sni
      · simp only [Bool.not_true, Bool.false_eq_true, ↓reduceIte, Bool.true_eq_false]
        rw [ih (i + 1)]
        cases hal : matchedALPN (buildMatch c) protos <;> cases d <;> cases a <;> simp
      · simp [hret]

theorem splitOn_no_sep (sep : Char) (n : Name) : ∀ l ∈ splitOn sep n, sep ∉ l := by
  induction n with
  | nil => simp [splitOn]
  | cons c r ih =>
    obtain ⟨h, t, hr, hc⟩ := splitOn_cons sep c r
    rw [hr, List.forall_mem_cons] at ih
    rw [hc]
    by_cases hd : (c == sep) = true
    · rw [if_pos hd]
      exact List.forall_mem_cons.2 ⟨List.not_mem_nil, List.forall_mem_cons.2 ih⟩
    · rw [if_neg hd]
      exact List.forall_mem_cons.2 ⟨fun hm => (List.mem_cons.1 hm).elim (fun e => hd (by simp [e])) ih.1, ih.2⟩

theorem joinDot_append_singleton (ls : List Name) (suf : Name) (h : ls ≠ []) :
    joinDot (ls ++ [suf]) = joinDot ls ++ '.' :: suf := by
  fun_induction joinDot ls with
  | case1 => exact absurd rfl h
  | case2 a => rfl
  | case3 a b t ih =>
    simp only [List.cons_append, joinDot, List.append_assoc] at ih ⊢
    rw [ih (by simp)]

/-- **"no configured name equals an ALPN token and vice versa"**, as far as one ClientHello can tell: the SNI (as it is
looked up) is not an ALPN token of a ready context, and no ALPN entry the client offers is (case-insensitively) a
certificate name / server_name of a ready context. Outside this hypothesis lies the recorded finding (key `xns`). -/
def NamespacesApart (ps : List Ctx) (sni : Name) (protos : List Name) : Prop :=
  ∀ c ∈ ps, c.ready = true → normSni sni ∉ c.alpn.map lower ∧ ∀ q ∈ protos, lower q ∉ c.names.map lower

instance (ps : List Ctx) (sni : Name) (protos : List Name) : Decidable (NamespacesApart ps sni protos) := by
  unfold NamespacesApart; infer_instance

end MosnVerif.Lemmas.TlsMatch
