import MosnVerif.Lemmas.FilterSpec
/-! the verdict annotation the driver recomputes from the scripts (`annot`) reproduces the model's own tokens -/
namespace MosnVerif.Model.FilterSpec
open MosnVerif.Gen.FilterPhase MosnVerif.Model.FilterChain MosnVerif.Model.FilterMachine

/-- annotating `l` — followed by anything — from the invocation counters `rc`, `sc` reproduces `l` and goes on with `rc'`, `sc'` -/
def Annot (c : Cfg) (l : List Obs) (rc sc rc' sc' : Nat → Nat) : Prop :=
  ∀ l' : List Obs, annotGo c ((l ++ l').map Obs.raw) rc sc = l ++ annotGo c (l'.map Obs.raw) rc' sc'

theorem Annot.append {c : Cfg} {l m : List Obs} {rc sc rc1 sc1 rc2 sc2 : Nat → Nat} (h1 : Annot c l rc sc rc1 sc1)
    (h2 : Annot c m rc1 sc1 rc2 sc2) : Annot c (l ++ m) rc sc rc2 sc2 := fun l' => by
  rw [List.append_assoc, h1, h2, List.append_assoc]

def fObs (p : RPhase) (l : List Inv) : List Obs := l.map (fun iv => Obs.f iv.1 p iv.2)
def fsObs (l : List SInv) : List Obs := l.map (fun iv => Obs.fs iv.1 iv.2)

/-- the receiver invocations of a pass are annotated with exactly the verdicts the model recorded -/
theorem cutAfter_annot (c : Cfg) (p : RPhase) (fs : List RFilter) (idx : Nat) (rc sc : Nat → Nat) (hfs : c.recv.drop idx = fs) :
    Annot c (fObs p (FilterRegs.cutAfter rc (FilterRegs.ofPhase p fs idx))) rc sc
      ((FilterRegs.cutAfter rc (FilterRegs.ofPhase p fs idx)).foldl (fun rc iv => bump rc iv.1) rc) sc := by
  induction fs generalizing idx rc with
  | nil => exact fun _ => rfl
  | cons f rest ih =>
    obtain ⟨hat, hrest⟩ := getElem?_of_drop hfs
    unfold FilterRegs.ofPhase
    split
    · intro l'
      simp only [FilterRegs.cutAfter, fObs, List.map_cons, List.cons_append, Obs.raw, annotGo, List.getD, hat, Option.getD_some,
        List.foldl_cons, List.cons.injEq, true_and]
      split
      · -- the filters behind this one are counted as before it ran
        rw [← FilterChain.cutAfter_congr (bump rc idx) rc _ fun x hx => if_neg (by have := (mem_ofPhase hx).1; omega)]
        exact ih (idx + 1) (bump rc idx) hrest l'
      · rfl
    · exact ih (idx + 1) rc hrest

theorem sendCut_annot (c : Cfg) (fs : List SFilter) (idx : Nat) (rc sc : Nat → Nat) (hfs : c.send.drop idx = fs) :
    Annot c (fsObs (sendCut sc fs idx)) rc sc rc ((sendCut sc fs idx).foldl (fun sc iv => bump sc iv.1) sc) := by
  induction fs generalizing idx sc with
  | nil => exact fun _ => rfl
  | cons f rest ih =>
    obtain ⟨hat, hrest⟩ := getElem?_of_drop hfs
    intro l'
    simp only [sendCut, fsObs, List.map_cons, List.cons_append, Obs.raw, annotGo, List.getD, hat, Option.getD_some,
      List.foldl_cons, List.cons.injEq, true_and]
    split
    · rw [← sendCut_congr (bump sc idx) sc _ _ fun j hj => if_neg (by omega)]
      exact ih (idx + 1) (bump sc idx) hrest l'
    · rfl

theorem plain_annot (c : Cfg) (evs : List Ev) (h : ∀ e ∈ evs, isRpass e = false ∧ isSpass e = false) (rc sc : Nat → Nat) :
    Annot c (flat evs) rc sc rc sc := by
  induction evs with
  | nil => exact fun _ => rfl
  | cons e r ih =>
    obtain ⟨h1, h2⟩ := h e (by simp)
    have he : Annot c (flatEv e) rc sc rc sc := by
      cases e with
      | rpass p st invs => cases h1
      | spass st invs => cases h2
      | up rf => cases rf <;> exact fun _ => rfl
      | dh a b => exact fun _ => rfl
      | dd a => exact fun _ => rfl
      | dt => exact fun _ => rfl
      | unmodelled p => exact fun _ => rfl
    exact he.append (ih fun x hx => h x (by simp [hx]))

/-- the annotation of the trace so far reproduces it and has counted what the model has -/
def Ainv (c : Cfg) (s : St) : Prop := Annot c (flat s.trace) (fun _ => 0) (fun _ => 0) s.rcalls s.scalls

theorem step_Ainv (c : Cfg) (s : St) (h : Ainv c s) : Ainv c (step c s) := by
  unfold Ainv at *
  rcases step_shape c s with ⟨⟨evs, ht, hev⟩, _, hr, _, hs⟩ | ⟨p, _, ht, _, hr, _, hs⟩ | ⟨_, ht, _, hr, _, hs⟩
  · rw [ht, flat_append, hr, hs]
    exact h.append (plain_annot c evs (fun e he => ⟨(hev e he).1, (hev e he).2.1⟩) _ _)
  · rw [ht, flat_snoc, hr, hs, runRecv, recvLoop_rcalls, recvLoop_invs]
    exact h.append (cutAfter_annot c p _ _ _ _ rfl)
  · rw [ht, flat_snoc, hr, hs, runSend, sendLoop_scalls, sendLoop_eq]
    exact h.append (sendCut_annot c _ _ _ _ rfl)

/-- the verdict annotation recomputed from the scripts reproduces the model's tokens -/
theorem annot_flat (c : Cfg) (n : Nat) : annot c ((flat (run c n init).trace).map Obs.raw) = flat (run c n init).trace := by
  simpa [annot, annotGo] using run_preserves (step_Ainv c) n init (fun _ => rfl) []

theorem annot_flat_final (c : Cfg) : annot c ((flat (final c).trace).map Obs.raw) = flat (final c).trace := by
  rw [show (final c).trace = (run c fuel init).trace from rfl]; exact annot_flat c fuel

/-- from a state satisfying the phase invariant, a `case` never takes one of the model's escape branches: it appends no
`unmodelled` marker and does not block -/
theorem _root_.MosnVerif.Model.FilterMachine.Case.clean {c : Cfg} {s r : St} (h : Case c s r)
    (hd : PhaseData c s.view s.phase) (hnh : s.halted = false) :
    (∃ evs, r.trace = s.trace ++ evs ∧ ∀ e ∈ evs, isUnm e = false) ∧ r.blocked = s.blocked := by
  constructor
  · rcases h.shape with ⟨⟨evs, ht, hev⟩, _⟩ | ⟨p, _, ht, _⟩ | ⟨_, ht, _⟩
    · refine ⟨evs, ht, fun e he => ?_⟩
      cases hu : isUnm e
      · rfl
      · exact absurd ((hev e he).2.2.2 hu) hd.not_escapes
    · exact ⟨_, ht, by simp [isUnm]⟩
    · exact ⟨_, ht, by simp [isUnm]⟩
  · cases h with
    | body hb => exact (afterPE_perr c _).frame.2.2.2.2.2.2.trans hb.eff.ctl.2.2.2.2.2
    | retry _ _ _ _ hq => exact (retry_perr c s hq).frame.2.2.2.2.2.2
    | skip => rfl
    | toWait => rfl
    | escape he => exact absurd he hd.not_escapes
    | blocked h hh => rw [hd.not_blocked hnh h] at hh; cases hh
    | last => exact ret_blocked s End

structure Uinv (s : St) : Prop where
  nounm : ∀ e ∈ s.trace, isUnm e = false
  noblock : s.blocked = false

theorem Uinv.frame {s r : St} (hu : Uinv s) (f : Frame s r) : Uinv r :=
  ⟨by rw [f.1]; exact hu.nounm, by rw [f.2.2.2.2.2.2]; exact hu.noblock⟩

theorem step_Uinv (c : Cfg) (s : St) (hg : Ginv c s) (hu : Uinv s) : Uinv (step c s) := by
  have hs := step_case c s
  generalize step c s = r at hs ⊢
  cases hs with
  | idle => exact hu
  | finish => exact hu.frame (finishStart_case c s).frame
  | overrun => exact hu.frame ((Frame.refl s).ret End)
  | case hnh =>
    obtain ⟨⟨evs, ht, hev⟩, hb⟩ := (phaseCase_case c { s with inner := s.inner + 1 }).clean (hg.live hnh).1 hnh
    refine ⟨fun e he => ?_, by rw [hb]; exact hu.noblock⟩
    rw [ht] at he
    rcases List.mem_append.mp he with h | h
    · exact hu.nounm e h
    · exact hev e h
