import MosnVerif.Model.ConfigCb
import MosnVerif.Lemmas.ConfigPairs2
/-!
Lemmas for the effective circuit-breaker thresholds (C19): one marshal / unmarshal cycle of a thresholds list keeps
every entry at its position with the same numbers — an entry that sets no limit included.
-/
namespace MosnVerif.Model.ConfigCb
open MosnVerif.Model MosnVerif.Model.ConfigCodec MosnVerif.Model.GoTypes

theorem numOf_norm_num (o : Bool) (v : CVal) :
    numOf (if (o && isEmpty v) = true then zero .num else norm .num v) = numOf v := by
  have hn : norm .num v = v := by cases v <;> simp [norm]
  rw [hn]
  split
  · rename_i h
    simp only [Bool.and_eq_true] at h
    cases v <;> simp_all [isEmpty, zero, numOf]
  · rfl

theorem normF_nums : (fs : Fields) → allNum fs = true → (vs : List CVal) → wtF fs vs = true →
    (normF fs vs).map numOf = vs.map numOf
  | .nil, _, vs, hw => by cases vs <;> simp_all [wtF, normF]
  | .cons k o sh r, hn, vs, hw => by
    cases vs with
    | nil => simp [wtF] at hw
    | cons v vs =>
      simp only [allNum, Bool.and_eq_true] at hn
      simp only [wtF, Bool.and_eq_true] at hw
      have hsh : sh = .num := by cases sh <;> simp_all
      subst hsh
      simp only [normF, List.map_cons, numOf_norm_num, normF_nums r hn.2 vs hw.2]

theorem entries_norm (fs : Fields) (hn : allNum fs = true) (n : Bool) :
    (vs : List CVal) → wtL (wt (.struct fs)) vs = true →
    entries (.slice n (normL (norm (.struct fs)) vs)) = entries (.slice n vs)
  | [], _ => rfl
  | v :: r, hw => by
    simp only [wtL, Bool.and_eq_true] at hw
    have ih := entries_norm fs hn n r hw.2
    simp only [entries, normL, List.map_cons] at ih ⊢
    rw [ih]
    congr 1
    cases v <;> simp [wt] at hw
    rename_i ms
    simp only [norm]
    exact normF_nums fs hn ms hw.1

/-- one cycle of `CircuitBreakers` keeps the entries — their number, order and limits -/
theorem cb_entries_survive (fs : Fields) (hk : keysOKF fs = true) (hn : allNum fs = true) (w : Json) (x : CVal)
    (hU : cbU (.struct fs) w = some x) :
    ∃ y, cbU (.struct fs) (cbM (.struct fs) x) = some y ∧ entries y = entries x := by
  have hks : keysOK (.slice (.struct fs)) = true := by simpa [keysOK] using hk
  have hw := dw _ hks w x hU
  refine ⟨norm (.slice (.struct fs)) x, rt _ hks x hw, ?_⟩
  cases x <;> simp [wt] at hw
  exact entries_norm fs hn _ _ hw.2

end MosnVerif.Model.ConfigCb
