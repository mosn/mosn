import MosnVerif.Model.DubboThrift
import MosnVerif.Model.EnvelopeRef
import MosnVerif.Lemmas.Bytes
/-! lemmas about the dubbo-thrift envelope model (core only) -/
namespace MosnVerif.Model.DubboThrift
open MosnVerif.Model MosnVerif.Model.Bytes
open Gen.C01DubboThrift

/-- the facts `decode` establishes about a frame it returns (`body = (b.take n).drop 4`, `s = body.drop 9`) -/
structure Decoded (msgOK : Bytes → Bool) (b : Bytes) (f : Frame) (n : Nat) : Prop where
  n_eq : n = getBE b 0 4 + 4
  n_lt : n < 4294967296
  n_le : n ≤ b.length
  n_ge : 13 ≤ n
  raw : f.raw = some (b.take n)
  hl_eq : f.headerLength = getBE ((b.take n).drop 4) 6 8
  hl_le : f.headerLength + 4 ≤ n
  sl_lt : getBE ((b.take n).drop 13) 0 4 < 2147483648
  sl_le : 13 + 4 + getBE ((b.take n).drop 13) 0 4 + 8 ≤ n
  svc : f.svc = slice ((b.take n).drop 13) 4 (4 + getBE ((b.take n).drop 13) 0 4)
  id : f.id = getBE ((b.take n).drop 13) (4 + getBE ((b.take n).drop 13) 0 4) (4 + getBE ((b.take n).drop 13) 0 4 + 8)
  payload : f.payload = ((b.take n).drop 4).drop f.headerLength
  msg : msgOK (((b.take n).drop 13).drop (4 + getBE ((b.take n).drop 13) 0 4 + 8)) = true

theorem decode_frame {msgOK : Bytes → Bool} {b : Bytes} {f : Frame} {n : Nat} (h : decode msgOK b = .frame f n) :
    Decoded msgOK b f n := by
  unfold decode at h
  simp only [MessageLenSize, MagicLen] at h
  obtain ⟨h1, h⟩ := if_pos_of_ne h nofun
  obtain ⟨h2, h⟩ := if_pos_of_ne h nofun
  unfold decodeFrame at h
  simp only [frameLen, dec_messageLen, MessageLenSize, HeaderIdx, body_HeaderLength, IdLen] at h
  obtain ⟨g1, h⟩ := if_neg_of_ne h nofun
  have hlt : getBE b 0 4 < 4294967296 := getBE_lt b 0 4
  obtain ⟨hmod, hn⟩ : (getBE b 0 4 + 4) % 2 ^ 32 = getBE b 0 4 + 4 ∧ getBE b 0 4 + 4 < 4294967296 := by
    rcases add_mod_wrap 4 _ hlt with hw | hw <;> omega
  simp only [hmod] at h g1
  obtain ⟨g2, h⟩ := if_neg_of_ne h nofun
  obtain ⟨g3, h⟩ := if_neg_of_ne h nofun
  obtain ⟨g4, h⟩ := if_neg_of_ne h nofun
  obtain ⟨g5, h⟩ := if_neg_of_ne h nofun
  obtain ⟨g6, h⟩ := if_neg_of_ne h nofun
  injection h with hf hn'
  subst hf hn'
  have hdd : ((b.take (getBE b 0 4 + 4)).drop 4).drop 9 = (b.take (getBE b 0 4 + 4)).drop 13 := by rw [List.drop_drop]
  rw [hdd] at g4 g5 g6 ⊢
  simp only [List.length_drop, List.length_take] at g2 g3 g4 g5
  have hmin : min (getBE b 0 4 + 4) b.length = getBE b 0 4 + 4 := by omega
  rw [hmin] at g2 g3 g4 g5
  exact {
    n_eq := rfl, n_lt := hn, n_le := by omega, n_ge := by omega, raw := rfl, hl_eq := rfl,
    hl_le := by simp only; omega,
    sl_lt := by omega, sl_le := by omega, svc := rfl, id := rfl, payload := rfl,
    msg := by simpa using g6 }

theorem patchIndex_eq (hl : Nat) (h4 : 4 ≤ hl) (hlt : hl < 65536) : patchIndex hl = hl - 4 := by
  unfold patchIndex patchIndexInt
  omega

theorem hl_lt {msgOK : Bytes → Bool} {b : Bytes} {f : Frame} {n : Nat} (D : Decoded msgOK b f n) : f.headerLength < 65536 := by
  rw [D.hl_eq]; have := getBE_lt ((b.take n).drop 4) 6 8; simpa using this

/-- **fast path**: the forwarded frame is the received one with 8 bytes overwritten at `headerLen + 4 - 8`
(whenever the announced header length is at least 4, so that the uint16 index does not wrap) -/
theorem encode_fast {msgOK : Bytes → Bool} {b : Bytes} {f : Frame} {n : Nat} (h : decode msgOK b = .frame f n) (i : Nat)
    (h4 : 4 ≤ f.headerLength) :
    encode (setId f i) = .ok (patch (b.take n) (f.headerLength - 4) (be 8 i)) ∧ f.headerLength - 4 + 8 ≤ n := by
  have D := decode_frame h
  have hlt := hl_lt D
  have hle := D.hl_le
  have hlen : (b.take n).length = n := by simp; exact Nat.min_eq_left D.n_le
  refine ⟨?_, by omega⟩
  unfold encode setId
  simp only [D.raw, patchIndex_eq _ h4 hlt, patchWidth, hlen, be_eight_mod]
  have : f.headerLength - 4 + 8 ≤ n := by omega
  simp [this]

/-- when the announced header length is the true one (`21 + |service|`), the patched window is the request-id field:
the 8 bytes `Decode` read the id from -/
theorem id_window {msgOK : Bytes → Bool} {b : Bytes} {f : Frame} {n : Nat} (h : decode msgOK b = .frame f n)
    (htrue : f.headerLength = 21 + f.svc.length) :
    f.headerLength - 4 = 17 + f.svc.length ∧ getBE (b.take n) (17 + f.svc.length) (17 + f.svc.length + 8) = f.id := by
  have D := decode_frame h
  refine ⟨by omega, ?_⟩
  have hsl : f.svc.length = getBE ((b.take n).drop 13) 0 4 := by
    rw [D.svc]; simp
    have := D.sl_le; have := D.n_le
    omega
  rw [D.id, ← hsl, getBE_drop]
  congr 1 <;> omega


/-- what the reference parser has checked when it answers -/
theorem parse_some {b : Bytes} {p : EnvelopeRef.Thrift.Parsed} (hp : EnvelopeRef.Thrift.parse b = some p) :
    4 + getBE b 0 4 ≤ b.length ∧ 21 + getBE b 13 17 ≤ getBE b 0 4 ∧ 4 + getBE b 0 4 < 4294967296 ∧
    getBE b 13 17 < 2147483648 ∧ getBE b 6 10 = getBE b 0 4 ∧ getBE b 10 12 = 21 + getBE b 13 17 ∧
    p = { total := 4 + getBE b 0 4, svc := slice b 17 (17 + getBE b 13 17), idPos := 17 + getBE b 13 17,
          id := getBE b (17 + getBE b 13 17) (25 + getBE b 13 17), payload := slice b (25 + getBE b 13 17) (4 + getBE b 0 4) } := by
  revert hp
  fun_cases EnvelopeRef.Thrift.parse b with
  | case9 c0 ml c1 c2 c3 sl c4 c5 c6 c7 =>
    intro hp
    injection hp with hp
    exact ⟨by omega, by omega, by omega, by omega, by omega, by omega, hp.symm⟩
  | _ => nofun

theorem parse_of_decode {ok : Bool} {b : Bytes} {f : Frame} {n : Nat} (h : decode (fun _ => ok) b = .frame f n)
    (p : EnvelopeRef.Thrift.Parsed) (hp : EnvelopeRef.Thrift.parse b = some p) :
    p.total = n ∧ 4 ≤ f.headerLength ∧ p.idPos = f.headerLength - 4 ∧ p.svc = f.svc ∧ ok = true ∧
    f.headerLength = 21 + f.svc.length := by
  have D := decode_frame h
  have hn := D.n_eq
  obtain ⟨g1, g2, g3, g4, g5, g6, rfl⟩ := parse_some hp
  obtain ⟨t1, t2, t3, t4⟩ : 4 + 8 ≤ n ∧ 13 + 4 ≤ n ∧ 13 + (4 + getBE b 13 17) ≤ n ∧
      min (17 + getBE b 13 17) b.length - 17 = getBE b 13 17 := by omega
  have hhl : f.headerLength = getBE b 10 12 := by rw [D.hl_eq, getBE_drop, getBE_take _ _ _ _ t1]
  have hsl : getBE ((b.take n).drop 13) 0 4 = getBE b 13 17 := by rw [getBE_drop, getBE_take _ _ _ _ t2]
  have hsvc : f.svc = slice b 17 (17 + getBE b 13 17) := by
    rw [D.svc, hsl, slice_drop, slice_take _ _ _ _ t3, ← Nat.add_assoc]
  have hsvl : f.svc.length = getBE b 13 17 := by rw [hsvc, slice_length, t4]
  have hmsg := D.msg
  obtain ⟨r1, r2, r3, r4⟩ : 4 + getBE b 0 4 = n ∧ 4 ≤ f.headerLength ∧ 17 + getBE b 13 17 = f.headerLength - 4 ∧
      f.headerLength = 21 + f.svc.length := by omega
  exact ⟨r1, r2, r3, hsvc.symm, by simpa using hmsg, r4⟩

/-- a buffer the reference parses, with a message thrift accepts, is decoded by the model -/
theorem decode_of_parse {b : Bytes} (p : EnvelopeRef.Thrift.Parsed) (hp : EnvelopeRef.Thrift.parse b = some p) :
    ∃ f, decode (fun _ => true) b = .frame f p.total := by
  obtain ⟨g1, g2, g3, g4, g5, g6, rfl⟩ := parse_some hp
  simp only
  -- every guard of `decode` / `decodeFrame` follows from the parser's checks: one arithmetic step, before the context grows
  obtain ⟨hmod, hmin, k1, k2, n1, n2, n3, n4, n5⟩ :
      (getBE b 0 4 + 4) % 2 ^ 32 = getBE b 0 4 + 4 ∧ min (getBE b 0 4 + 4) b.length = getBE b 0 4 + 4 ∧
      b.length ≥ 4 + 2 ∧ b.length ≥ getBE b 0 4 ∧ ¬ (b.length < getBE b 0 4 + 4 ∨ getBE b 0 4 + 4 < 4) ∧
      ¬ (getBE b 0 4 + 4 - 4 < 9) ∧ ¬ (getBE b 10 12 > getBE b 0 4 + 4 - 4) ∧ ¬ (getBE b 0 4 + 4 - 13 < 4) ∧
      ¬ (getBE b 13 17 ≥ 2 ^ 31 ∨ getBE b 0 4 + 4 - 13 < 4 + getBE b 13 17 + 8) := by omega
  have hhl : getBE ((b.take (getBE b 0 4 + 4)).drop 4) 6 8 = getBE b 10 12 := by
    rw [getBE_drop, getBE_take _ _ _ _ (by omega)]
  have hsl : getBE ((b.take (getBE b 0 4 + 4)).drop 13) 0 4 = getBE b 13 17 := by
    rw [getBE_drop, getBE_take _ _ _ _ (by omega)]
  unfold decode
  simp only [MessageLenSize, MagicLen, k1, k2, if_true]
  unfold decodeFrame
  simp only [frameLen, dec_messageLen, MessageLenSize, HeaderIdx, body_HeaderLength, IdLen, hmod, List.drop_drop,
    List.length_drop, List.length_take, hmin, hhl, hsl, n1, n2, n3, n4, n5, if_false, Bool.not_true, Bool.false_eq_true]
  exact ⟨_, congrArg _ (Nat.add_comm _ 4)⟩

/-- the frame the slow path writes: a 17-byte header of big-endian fields (outer length, magic, inner length, header
length, version, length of the service name), then the service name, the id and the payload -/
theorem encodeSlow_shape (f : Frame) :
    encodeSlow f =
      fields [4, 2, 4, 2, 1, 4] [21 + f.svc.length + f.payload.length, 0xdabc, 21 + f.svc.length + f.payload.length,
        21 + f.svc.length, 1, f.svc.length] ++ (f.svc ++ (be 8 f.id ++ f.payload)) := by
  unfold encodeSlow
  simp only [MagicLen, IdLen, List.length_append, List.length_cons, List.length_nil, be_length, List.append_assoc,
    fields, List.headD, List.tail, List.append_nil]
  have e1 : 2 + 4 + 2 + 1 + 4 + f.svc.length + 8 = 21 + f.svc.length := by omega
  have e2 : 0 + 1 + 1 + (4 + (2 + (0 + 1 + (4 + (f.svc.length + (8 + f.payload.length)))))) = 21 + f.svc.length + f.payload.length := by omega
  rw [e1, e2]
  rfl

/-- **slow path** (reply / hijack, or after `SetData`): the rebuilt frame is one the reference parses, with the service
name, id and payload it was built from and both length fields consistent -/
theorem parse_encodeSlow (f : Frame) (hs : f.svc.length ≤ 65514) (hid : f.id < 18446744073709551616)
    (htot : 25 + f.svc.length + f.payload.length < 4294967296) :
    EnvelopeRef.Thrift.parse (encodeSlow f) = some
      { total := (encodeSlow f).length, svc := f.svc, idPos := 17 + f.svc.length, id := f.id, payload := f.payload } := by
  rw [encodeSlow_shape]
  generalize hml : 21 + f.svc.length + f.payload.length = ml
  obtain ⟨b1, b2, b3, n0, n1, n2, n3, n4, n5⟩ : ml < 4294967296 ∧ 21 + f.svc.length < 65536 ∧ f.svc.length < 4294967296 ∧
      ¬ (4 + ml < 4) ∧ ¬ (4 + ml < 4 + ml) ∧ ¬ (ml < 21) ∧ ¬ (4 + ml ≥ 4294967296) ∧ ¬ (f.svc.length ≥ 2147483648) ∧
      ¬ (ml < 21 + f.svc.length) := by omega
  unfold EnvelopeRef.Thrift.parse
  -- the four reads of the header
  simp only [getBE_fields_hit, getBE_fields_skip, Nat.reduceLeDiff, Nat.reduceSub, Nat.reducePow,
    Nat.mod_eq_of_lt b1, Nat.mod_eq_of_lt b2, Nat.mod_eq_of_lt b3]
  generalize hP : fields [4, 2, 4, 2, 1, 4] _ = P
  -- behind the 17 bytes of the header: the service name, the id, the payload
  have d0 : (P ++ (f.svc ++ (be 8 f.id ++ f.payload))).drop 17 = _ := List.drop_left' (hP ▸ fields_length _ _)
  have d1 := drop_of_drop d0 (lo' := 17 + f.svc.length) rfl
  have d2 := drop_of_drop d1 (lo' := 25 + f.svc.length) (by rw [be_length]; omega)
  have hlen : (P ++ (f.svc ++ (be 8 f.id ++ f.payload))).length = 4 + ml := by
    simp only [List.length_append, ← hP, fields_length, be_length, List.sum_cons, List.sum_nil]; omega
  generalize P ++ (f.svc ++ (be 8 f.id ++ f.payload)) = out at d0 d1 d2 hlen ⊢
  have rpay : slice out (25 + f.svc.length) (4 + ml) = f.payload := by
    unfold slice; rw [← hlen, List.take_length, d2]
  simp only [slice_of_drop d0 rfl, getBE, slice_of_drop d1 (hi := 25 + f.svc.length) (by rw [be_length]; omega), rpay,
    toNat_be_of_lt (w := 8) hid, hlen, n0, n1, n2, n3, n4, n5, if_false, ne_eq, not_true_eq_false]

def withBody (f : Frame) : Option Bytes → Frame
  | none => f
  | some d => setData f d

/-- the model satisfies the dubbo-thrift reference predicate (header-map operations excluded: `Encode` forwards the original frame, KNOWN_FINDINGS.txt) -/
theorem holds_frame (ok : Bool) (inp : Bytes) (body : Option Bytes) (id : Nat) (f : Frame) (n : Nat)
    (h : decode (fun _ => ok) inp = .frame f n)
    (hbody : ∀ d, body = some d → 25 + f.svc.length + d.length < 4294967296) :
    match encode (setId (withBody f body) id) with
    | .ok o => EnvelopeRef.Thrift.holds inp ok { hdrOps := false, body := body } id true n (some o) = true
    | .panic => EnvelopeRef.Thrift.parse inp = none := by
  cases hp : EnvelopeRef.Thrift.parse inp with
  | none =>
    cases encode (setId (withBody f body) id) with
    | ok o => simp [EnvelopeRef.Thrift.holds, hp]
    | panic => rfl
  | some p =>
    obtain ⟨ht, h4, hpos, hsvc, hok, htrue⟩ := parse_of_decode h p hp
    cases body with
    | none =>
      simp only [withBody]
      rw [(encode_fast h id h4).1]
      simp [EnvelopeRef.Thrift.holds, hp, hok, ht, hpos]
    | some d =>
      have hd := hbody d rfl
      have hl := hl_lt (decode_frame h)
      have henc : encode (setId (setData f d) id) = .ok (encodeSlow { f with payload := d, raw := none, id := id % 2 ^ 64 }) := by
        simp [encode, setId, setData]
      simp only [withBody, henc]
      have hq := parse_encodeSlow { f with payload := d, raw := none, id := id % 2 ^ 64 } (by simp only; omega)
        (by simp only; exact Nat.mod_lt _ (by decide)) (by simp only; omega)
      simp only at hq
      simp [EnvelopeRef.Thrift.holds, hp, hok, ht, hq, hsvc]

theorem holds_noframe (inp : Bytes) (m : EnvelopeRef.Mods) (id : Nat)
    (h : ∀ f n, decode (fun _ => true) inp ≠ .frame f n) (ok acc : Bool) (k : Nat) (out : Option Bytes) :
    EnvelopeRef.Thrift.holds inp ok m id acc k out = true := by
  unfold EnvelopeRef.Thrift.holds
  cases hp : EnvelopeRef.Thrift.parse inp with
  | none => rfl
  | some p =>
    obtain ⟨f, hf⟩ := decode_of_parse p hp
    exact absurd hf (h f _)

end MosnVerif.Model.DubboThrift
