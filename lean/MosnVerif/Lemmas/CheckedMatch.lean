import MosnVerif.Lemmas.CheckedMatchEq
/-!
C08: the regenerated protocol matchers (Gen/C08Matchers: every index / slice / big-endian read of the Go functions is a
checked primitive) never access the peeked bytes outside `[0, len)`, for EVERY byte string: each of them answers what a
total function answers (Lemmas/CheckedMatchEq), so none of its accesses has panicked.
-/
namespace MosnVerif.Lemmas.CheckedMatch
open MosnVerif.Model.CheckedGo MosnVerif.Model.CheckedWire

theorem matcher_ok (name : String) (m : Bytes → Chk MR) (h : matcherOf name = some m) (b : Bytes) : ∃ r, m b = .ok r :=
  let ⟨_, _, hm⟩ := CheckedMatchEq.gen_ok name m h
  ⟨_, hm b⟩

end MosnVerif.Lemmas.CheckedMatch
