import MosnVerif.Model.Snapshot
import MosnVerif.Lemmas.Threads
/-! Snapshot publication: every record is coherent and every lookup reads one record, under every schedule. -/
namespace MosnVerif.Model.Snapshot
open MosnVerif.Gen.Snapshot MosnVerif.Lemmas.Threads MosnVerif.Lemmas.Fold

/-- per-thread part of the invariant. -/
def ThreadOk (cl : Cluster) : Thread → Prop
  | .rd .start => True
  | .rd (.loaded a) => a < cl.next
  | .rd (.gotLB a x) => a < cl.next ∧ x = (cl.recs a).lb
  | .rd (.done x y) => x = y ∧ x ∈ cl.published
  | .upd v lb todo => ∃ b, okFrom b todo = true ∧ (b = true → lb = v)

structure Inv (c : Conf) : Prop where
  coh : ∀ a, (c.cl.recs a).lb = (c.cl.recs a).hs
  pub : ∀ a, (c.cl.recs a).hs ∈ c.cl.published
  cur : c.cl.cur < c.cl.next
  thr : ∀ t, ThreadOk c.cl (c.threads t)

/-- the cluster only allocates, keeps every record in use and only adds to `published`. -/
def Ext (cl cl' : Cluster) : Prop :=
  cl.next ≤ cl'.next ∧ (∀ a, a < cl.next → cl'.recs a = cl.recs a) ∧ ∀ x, x ∈ cl.published → x ∈ cl'.published

theorem threadOk_mono {cl cl' : Cluster} (e : Ext cl cl') (th : Thread) (h : ThreadOk cl th) : ThreadOk cl' th := by
  cases th with
  | upd v lb todo => exact h
  | rd st =>
    cases st with
    | start => trivial
    | loaded a => exact Nat.lt_of_lt_of_le h e.1
    | gotLB a x => exact ⟨Nat.lt_of_lt_of_le h.1 e.1, by rw [e.2.1 a h.1]; exact h.2⟩
    | done x y => exact ⟨h.1, e.2.2 x h.2⟩

/-- the invariant mentions neither `lbInstance`, `hostSet` nor the mutex: a step of thread `t` that changes at most
these keeps it. -/
theorem inv_local {c : Conf} (I : Inv c) (li hs : Nat) (ho : Option Nat) (t : Nat) (v : Thread) (hv : ThreadOk c.cl v) :
    Inv ⟨{ c.cl with lbInstance := li, hostSet := hs, holder := ho }, setThread c.threads t v⟩ :=
  have e : Ext c.cl { c.cl with lbInstance := li, hostSet := hs, holder := ho } :=
    ⟨Nat.le_refl _, fun _ _ => rfl, fun _ h => h⟩
  ⟨I.coh, I.pub, I.cur, forall_set (threadOk_mono e) I.thr t (threadOk_mono e v hv)⟩

theorem inv_step (c : Conf) (t : Nat) (I : Inv c) : Inv (step c t) := by
  unfold step
  have ht := I.thr t
  split
  · exact inv_local I _ _ _ t _ I.cur
  · rename_i a heq
    rw [heq] at ht
    exact inv_local I _ _ _ t _ ⟨ht, rfl⟩
  · rename_i a x heq
    rw [heq] at ht
    exact inv_local I _ _ _ t _ ⟨by rw [ht.2, I.coh a], by rw [ht.2, I.coh a]; exact I.pub a⟩
  · exact I
  · exact I
  · rename_i v lb a r heq
    rw [heq] at ht
    obtain ⟨b, hok, hb⟩ := ht
    cases a with
    | buildLB => exact inv_local I _ _ _ t _ ⟨true, hok, fun _ => rfl⟩
    | unlock | setLbInstance | setHostSet | notifyHC => exact inv_local I _ _ _ t (.upd v lb r) ⟨b, hok, hb⟩
    | lock =>
      simp only
      split
      · exact inv_local I _ _ _ t (.upd v lb r) ⟨b, hok, hb⟩
      · exact I
    | mutLb s | mutHs s => exact absurd hok Bool.false_ne_true
    | publish l h =>
      -- the stored record is new and both of its components are this call's
      simp only [okFrom, Bool.and_eq_true, beq_iff_eq] at hok
      obtain ⟨⟨⟨hbt, rfl⟩, rfl⟩, hrest⟩ := hok
      have hlb := hb hbt
      subst hlb
      simp only [pick]
      refine ⟨?_, ?_, Nat.lt_succ_self _, forall_set (threadOk_mono ⟨Nat.le_succ _, ?_, ?_⟩) I.thr t ⟨b, hrest, fun _ => rfl⟩⟩
      · intro a
        simp only [setRec]
        split
        · rfl
        · exact I.coh a
      · intro a
        simp only [setRec]
        split
        · simp
        · exact List.mem_append_left _ (I.pub a)
      · intro a ha
        simp [setRec, Nat.ne_of_lt ha]
      · intro x hx
        exact List.mem_append_left _ hx

theorem inv_run (sched : List Nat) (c : Conf) (I : Inv c) : Inv (run c sched) :=
  foldl_inv inv_step sched c I

theorem inv_init (prog : List UStep) (h : publishOk prog = true) (n : Nat) : Inv (initConf prog n) := by
  refine ⟨fun _ => rfl, fun _ => by simp [initConf], by simp [initConf], ?_⟩
  intro t
  simp only [initConf]
  split
  · exact ⟨false, h, by simp⟩
  · trivial

/-- an updater installs a host set whose number is at most `n`. -/
def VerLe (n : Nat) : Thread → Prop
  | .upd v _ _ => v ≤ n
  | .rd _ => True

/-- ghost list of stored host-set numbers: only the initial one and numbers of updaters. -/
def PubBound (n : Nat) (c : Conf) : Prop :=
  (∀ x ∈ c.cl.published, x ≤ n) ∧ c.cl.hostSet ≤ n ∧ ∀ t, VerLe n (c.threads t)

theorem pubBound_step (n : Nat) (c : Conf) (t : Nat) (B : PubBound n c) : PubBound n (step c t) := by
  obtain ⟨b1, b2, b3⟩ := B
  have keep (v : Thread) (hv : VerLe n v) : ∀ u, VerLe n (setThread c.threads t v u) :=
    forall_set (fun _ h => h) b3 t hv
  -- a stored component is the updater's own number or the `hostSet` field
  have hpick (s : Src) {v : Nat} (hv : v ≤ n) : ∀ x ∈ c.cl.published ++ [pick s v c.cl.hostSet], x ≤ n := by
    refine List.forall_mem_append.mpr ⟨b1, List.forall_mem_singleton.mpr ?_⟩
    cases s
    · exact hv
    · exact b2
  unfold step
  have ht := b3 t
  split
  · exact ⟨b1, b2, keep _ trivial⟩
  · exact ⟨b1, b2, keep _ trivial⟩
  · exact ⟨b1, b2, keep _ trivial⟩
  · exact ⟨b1, b2, b3⟩
  · exact ⟨b1, b2, b3⟩
  · rename_i v lb a r heq
    rw [heq] at ht
    cases a with
    | lock =>
      simp only
      split
      · exact ⟨b1, b2, keep _ ht⟩
      · exact ⟨b1, b2, b3⟩
    | setHostSet => exact ⟨b1, ht, keep _ ht⟩
    | publish l h => exact ⟨hpick h ht, b2, keep _ ht⟩
    | mutHs s => exact ⟨hpick s ht, b2, keep _ ht⟩
    | buildLB | unlock | setLbInstance | mutLb s | notifyHC => exact ⟨b1, b2, keep _ ht⟩

theorem pubBound_run (n : Nat) (sched : List Nat) (c : Conf) (B : PubBound n c) : PubBound n (run c sched) :=
  foldl_inv (pubBound_step n) sched c B

theorem pubBound_init (prog : List UStep) (n : Nat) : PubBound n (initConf prog n) := by
  refine ⟨by simp [initConf], by simp [initConf], ?_⟩
  intro t
  simp only [initConf]
  split
  · rename_i h
    exact h.2
  · trivial

end MosnVerif.Model.Snapshot
