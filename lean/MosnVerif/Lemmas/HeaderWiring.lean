import MosnVerif.Model.HeaderWiring
namespace MosnVerif.Model.HeaderWiring
open MosnVerif.Model.Headers MosnVerif.Gen.HeaderMutation MosnVerif.Gen.HeaderWiring

theorem evaluate_empty (h : Hdrs) : evaluate ⟨[], []⟩ h = h := rfl

/-- the regenerated nil condition only drops a parser that has nothing to apply -/
theorem parserIsNil_sound (a r : Bool) (hn : parserIsNil a r = true) : a = true ∧ r = true := by
  revert hn; cases a <;> cases r <;> decide

/-- every slot of the regenerated table is the diagonal one -/
theorem lookup_parserWiring (lv : Level) (d : Dir) : lookup parserWiring lv d = some (diagonalRow lv d) := by
  cases lv <;> cases d <;> decide

end MosnVerif.Model.HeaderWiring
