import MosnVerif.Model.PoolRecover
namespace MosnVerif.Lemmas.PoolRecover
open MosnVerif.Model.PoolRecover MosnVerif.Gen.C08Recover

/-- a select hands the task to one of its clauses' actions -/
theorem selectOutcomes_sublist (s : PoolState) (sel : List (String × String)) :
    (selectOutcomes s sel).Sublist (sel.map (·.2)) :=
  iteInduction (motive := (List.Sublist · _)) (fun _ => List.filter_sublist.map _) fun _ => List.filter_sublist.map _

/-- whatever the pool looks like when each select runs and whichever ready clause Go picks: if every action of the
table recovers, the goroutine the task ends up in recovers -/
theorem outcomes_survive (st : Nat → PoolState) (sels : Selects) (i : Nat) (hall : allSurvive sels = true) :
    ∀ a ∈ outcomes st i sels, survives a = true := by
  fun_induction outcomes st i sels with
  | case1 => simp [survives]
  | case2 i sel rest ih =>
    simp only [allSurvive, List.all_cons, Bool.and_eq_true] at hall
    intro a ha
    obtain ⟨x, hx, hax⟩ := List.mem_flatMap.1 ha
    obtain ⟨c, hc, rfl⟩ := List.mem_map.1 ((selectOutcomes_sublist _ _).subset hx)
    by_cases hn : (c.2 == "none") = true
    · rw [if_pos hn] at hax
      exact ih hall.2 a hax
    · rw [if_neg hn, List.mem_singleton] at hax
      subst hax
      exact (Bool.or_eq_true _ _ ▸ List.all_eq_true.mp hall.1 c hc).resolve_left hn

end MosnVerif.Lemmas.PoolRecover
