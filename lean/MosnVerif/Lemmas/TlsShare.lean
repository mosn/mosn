import Std.Data.String.ToNat
import MosnVerif.Model.TlsShare
import MosnVerif.Lemmas.TlsSds
/-!
Lemmas about `Model/TlsShare.lean`: the regenerated provider index is injective (listener name and position can be read
off it; a cluster's index is never a listener's), hence the contexts of one listener — and of different listeners and
clusters — never share a provider, whatever secret names they share; the cache invariant under every operation.
-/
namespace MosnVerif.Lemmas.TlsShare
open MosnVerif.Gen.TlsShare MosnVerif.Gen.TlsSds MosnVerif.Model.TlsSelect MosnVerif.Model.TlsShare
open MosnVerif.Model.TlsSds (Prov SOp step create)
open MosnVerif.Lemmas.TlsSds

theorem split_at_first {α : Type} [DecidableEq α] (a : α) (l1 l2 r1 r2 : List α) (h1 : a ∉ l1) (h2 : a ∉ l2)
    (h : l1 ++ a :: r1 = l2 ++ a :: r2) : l1 = l2 ∧ r1 = r2 := by
  have hl : ∀ l r, a ∉ l → (l ++ a :: r).takeWhile (· != a) = l := by
    intro l r hn
    rw [List.takeWhile_append_of_pos (fun x hx => bne_iff_ne.mpr (fun (e : x = a) => hn (e ▸ hx)))]
    simp
  have e : l1 = l2 := by rw [← hl l1 r1 h1, h, hl l2 r2 h2]
  subst e
  exact ⟨rfl, (List.cons.inj (List.append_cancel_left h)).2⟩

theorem underscore_not_in_repr (n : Nat) : '_' ∉ (Nat.repr n).toList := by
  intro h
  rw [Nat.toList_repr] at h
  have := Nat.isDigit_of_mem_toDigits (by decide) (by decide) h
  simp [Char.isDigit] at this

/-- **the regenerated provider index determines listener and position** -/
theorem serverIndex_injective (name name' : Name) (n n' : Nat) (h : serverIndex name n = serverIndex name' n') :
    name = name' ∧ n = n' := by
  unfold serverIndex at h
  simp only [List.append_assoc, List.singleton_append] at h
  have h1 := List.append_cancel_left h
  obtain ⟨hd, hn⟩ := split_at_first '_' _ _ _ _ (underscore_not_in_repr n) (underscore_not_in_repr n') h1
  exact ⟨hn, Nat.repr_injective (String.toList_inj.mp hd)⟩

theorem clientIndex_ne_serverIndex (a b : Name) (n : Nat) : clientIndex a ≠ serverIndex b n := by
  unfold clientIndex serverIndex
  intro h
  simp at h

theorem clientIndex_injective (a b : Name) (h : clientIndex a = clientIndex b) : a = b := by
  unfold clientIndex at h
  exact List.append_cancel_left h

/-- the index is the third component of the cache key -/
theorem serverKey_injective (name name' : Name) (n n' : Nat) (r r' : Ref) (h : serverKey name n r = serverKey name' n' r') :
    name = name' ∧ n = n' :=
  serverIndex_injective _ _ _ _ (congrArg (·.2.2) h)

theorem pemOf_serverKey (name : Name) (n : Nat) (r : Ref) : pemOf (serverKey name n r) = (r.val, r.cert) := rfl

variable {κ : Type}

/-- every provider is coherent and holds the secret of its pem provider -/
def Inv1 (ca : Cache κ) : Prop :=
  ∀ key p, ca.provs key = some p → Coherent p ∧ p.secret = pemSecret ca (pemOf key)

theorem addOrUpdate_provs_other (ca : Cache κ) (key k : Key) (cfg : κ) (g : Bool) (h : k ≠ key) :
    (addOrUpdate ca key cfg g).provs k = ca.provs k := by
  simp [addOrUpdate, h]

/-- the provider under the key afterwards: the one that was there, updated, or a new one holding what the pem provider holds -/
theorem addOrUpdate_provs_self (ca : Cache κ) (key : Key) (cfg : κ) (g : Bool) :
    (addOrUpdate ca key cfg g).provs key = some (match ca.provs key with
      | some p => step p (.update cfg g)
      | none => create cfg (pemSecret (addOrUpdate ca key cfg g) (pemOf key)) g) := by
  simp only [addOrUpdate, ↓reduceIte]
  rfl

theorem addOrUpdate_own_config (ca : Cache κ) (key : Key) (cfg : κ) (g : Bool) :
    ∃ p, (addOrUpdate ca key cfg g).provs key = some p ∧ p.config = cfg := by
  refine ⟨_, addOrUpdate_provs_self ca key cfg g, ?_⟩
  cases ca.provs key with
  | none => exact (create_fields _ _ _).1
  | some p => exact (step_fields p (.update cfg g)).1

theorem addOrUpdate_pemSecret (ca : Cache κ) (key : Key) (cfg : κ) (g : Bool) (pk : PemKey) :
    pemSecret (addOrUpdate ca key cfg g) pk = pemSecret ca pk := by
  unfold pemSecret addOrUpdate
  simp only []
  split
  · rfl
  · rename_i hn
    by_cases hq : pk = pemOf key
    · subst hq
      cases hp : ca.pems (pemOf key) with
      | none => simp
      | some v => simp [hp] at hn
    · simp [hq]

theorem addOrUpdate_inv1 (ca : Cache κ) (key : Key) (cfg : κ) (g : Bool) (h : Inv1 ca) : Inv1 (addOrUpdate ca key cfg g) := by
  intro k p hp
  rw [addOrUpdate_pemSecret]
  by_cases hk : k = key
  · subst hk
    rw [addOrUpdate_provs_self, Option.some.injEq] at hp
    subst hp
    -- a new provider is created with the pem secret of the cache after the call, which is the one before it
    rw [addOrUpdate_pemSecret]
    cases hc : ca.provs k with
    | none => exact ⟨create_coherent _ _ _, (create_fields _ _ _).2⟩
    | some q => exact ⟨step_coherent q _ (h k q hc).1, (step_fields q (.update cfg g)).2.trans (h k q hc).2⟩
  · rw [addOrUpdate_provs_other ca key k cfg g hk] at hp
    exact h k p hp

theorem complete_inv1 (ca : Cache κ) (pk : PemKey) (s : Nat) (h : Inv1 ca) : Inv1 (complete ca pk s) := by
  unfold complete
  split
  · intro k p hp
    simp only [Option.map_eq_some_iff] at hp
    obtain ⟨q, hq, e⟩ := hp
    obtain ⟨h1, h2⟩ := h k q hq
    by_cases hk : pemOf k = pk
    · simp only [hk, ↓reduceIte] at e
      subst e
      refine ⟨step_coherent q _ h1, ?_⟩
      simp [(step_fields q (.push s)).2, pemSecret, hk]
    · simp only [hk, ↓reduceIte] at e
      subst e
      refine ⟨h1, ?_⟩
      rw [h2]; simp [pemSecret, hk]
  · exact h

theorem complete_config (ca : Cache κ) (pk : PemKey) (s : Nat) (k : Key) (p : Prov κ Nat) (h : ca.provs k = some p) :
    ∃ p', (complete ca pk s).provs k = some p' ∧ p'.config = p.config := by
  unfold complete
  split
  · by_cases hk : pemOf k = pk
    · exact ⟨step p (.push s), by simp [h, hk], (step_fields p (.push s)).1⟩
    · exact ⟨p, by simp [h, hk], rfl⟩
  · exact ⟨p, h, rfl⟩

theorem buildFrom_inv1 (name : Name) (g : Bool) (cs : List (Option (SCtx κ))) (n : Nat) (ca : Cache κ) (h : Inv1 ca) :
    Inv1 (buildFrom name g cs n ca) := by
  fun_induction buildFrom name g cs n ca with
  | case1 => exact h
  | case2 r n ca ih => exact ih h
  | case3 c r n ca ih => exact ih (addOrUpdate_inv1 ca _ c.cfg g h)

/-- a build only touches the keys of its own listener at the positions it walks -/
theorem buildFrom_provs_other (name : Name) (g : Bool) (cs : List (Option (SCtx κ))) (n : Nat) (ca : Cache κ) (k : Key)
    (hk : ∀ m r, n ≤ m → k ≠ serverKey name m r) : (buildFrom name g cs n ca).provs k = ca.provs k := by
  fun_induction buildFrom name g cs n ca with
  | case1 => rfl
  | case2 r n ca ih => exact ih fun m r hm => hk m r (by omega)
  | case3 c r n ca ih =>
    rw [ih fun m r hm => hk m r (by omega)]
    exact addOrUpdate_provs_other ca _ k c.cfg g (hk n c.ref (Nat.le_refl n))

/-- after a build, the provider of EVERY position holds that position's configuration -/
theorem buildFrom_own_config (name : Name) (g : Bool) (cs : List (Option (SCtx κ))) (n : Nat) (ca : Cache κ) (i : Nat)
    (c : SCtx κ) (h : cs[i]? = some (some c)) :
    ∃ p, (buildFrom name g cs n ca).provs (serverKey name (n + i) c.ref) = some p ∧ p.config = c.cfg := by
  fun_induction buildFrom name g cs n ca generalizing i with
  | case1 => simp at h
  | case2 r n ca ih =>
    cases i with
    | zero => simp at h
    | succ j => exact Nat.add_right_comm n j 1 ▸ ih j h
  | case3 c0 r n ca ih =>
    cases i with
    | zero =>
      cases h
      -- the later positions have other keys
      rw [buildFrom_provs_other name g r (n + 1) _ _ fun m r' hm he => by
        have := (serverKey_injective _ _ _ _ _ _ he).2; omega]
      exact addOrUpdate_own_config ca _ c.cfg g
    | succ j => exact Nat.add_right_comm n j 1 ▸ ih j h

/-- the invariant of a run: Inv1 and, for every listener, the providers of its latest build hold their own configuration -/
def Inv (ca : Cache κ) (T : Name → Option (List (Option (SCtx κ)))) : Prop :=
  Inv1 ca ∧ ∀ name cs, T name = some cs → ∀ i c, cs[i]? = some (some c) →
    ∃ p, ca.provs (serverKey name i c.ref) = some p ∧ p.config = c.cfg

theorem apply_inv (ca : Cache κ) (T : Name → Option (List (Option (SCtx κ)))) (op : COp κ) (h : Inv ca T) :
    Inv (apply ca op) (noteBuild T op) := by
  obtain ⟨h1, h2⟩ := h
  cases op with
  | build name0 cs0 g =>
    refine ⟨buildFrom_inv1 name0 g cs0 0 ca h1, ?_⟩
    intro name cs hT i c hc
    simp only [noteBuild] at hT
    by_cases hn : name = name0
    · subst hn
      simp only [↓reduceIte, Option.some.injEq] at hT
      subst hT
      have := buildFrom_own_config name g cs0 0 ca i c hc
      simpa [apply, build] using this
    · simp only [hn, ↓reduceIte] at hT
      obtain ⟨p, hp, hcfg⟩ := h2 name cs hT i c hc
      refine ⟨p, ?_, hcfg⟩
      simp only [apply, build]
      rw [buildFrom_provs_other name0 g cs0 0 ca _ (fun m r _ he => hn (serverKey_injective _ _ _ _ _ _ he).1)]
      exact hp
  | cluster name0 c0 g =>
    refine ⟨addOrUpdate_inv1 ca _ c0.cfg g h1, ?_⟩
    intro name cs hT i c hc
    obtain ⟨p, hp, hcfg⟩ := h2 name cs hT i c hc
    refine ⟨p, ?_, hcfg⟩
    simp only [apply]
    rw [addOrUpdate_provs_other]
    · exact hp
    · exact fun he => clientIndex_ne_serverIndex _ _ _ (congrArg (·.2.2) he).symm
  | complete pk s =>
    refine ⟨complete_inv1 ca pk s h1, ?_⟩
    intro name cs hT i c hc
    obtain ⟨p, hp, hcfg⟩ := h2 name cs hT i c hc
    obtain ⟨p', hp', e⟩ := complete_config ca pk s _ p hp
    exact ⟨p', hp', by rw [e, hcfg]⟩

theorem foldl_inv (ops : List (COp κ)) : ∀ (ca : Cache κ) (T : Name → Option (List (Option (SCtx κ)))), Inv ca T →
    Inv (ops.foldl apply ca) (ops.foldl noteBuild T) :=
  fun _ _ h => List.foldl_rel (r := Inv) h fun op _ ca T => apply_inv ca T op

theorem empty_inv : Inv (Cache.empty : Cache κ) (fun _ => none) :=
  ⟨by intro k p h; simp [Cache.empty] at h, by intro name cs h; simp at h⟩

theorem viewFrom_congr (statics : Nat → Ctx) (f f' : Nat → SCtx LCfg → Ctx) (cs : List (Option (SCtx LCfg))) (n : Nat)
    (h : ∀ i c, cs[i]? = some (some c) → f (n + i) c = f' (n + i) c) : viewFrom statics f cs n = viewFrom statics f' cs n := by
  fun_induction viewFrom statics f cs n with
  | case1 => rfl
  | case2 r n ih => rw [viewFrom, ih fun i c hc => Nat.add_right_comm n i 1 ▸ h (i + 1) c hc]
  | case3 c r n ih => rw [viewFrom, ih fun i c hc => Nat.add_right_comm n i 1 ▸ h (i + 1) c hc, show f n c = f' n c from h 0 c rfl]

end MosnVerif.Lemmas.TlsShare
