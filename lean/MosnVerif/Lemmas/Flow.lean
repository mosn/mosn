import MosnVerif.Model.Flow
import MosnVerif.Lemmas.Fold
/-! Helper lemmas for C18 flow control: facts about the regenerated `flow.add/available/take` and the take
computation, and the invariant relating MOSN's windows to the peer's books, preserved by every label. -/
namespace MosnVerif.Lemmas.Flow
open MosnVerif.Gen.Flow MosnVerif.Model.Flow

theorem wrap32_id (x : Int) (h : -2147483648 ≤ x ∧ x ≤ 2147483647) : wrap32 x = x := by
  unfold wrap32; omega

theorem wrap32_range (x : Int) : -2147483648 ≤ wrap32 x ∧ wrap32 x ≤ 2147483647 := by
  unfold wrap32; omega

/-- `flow.add` on int32 values: succeeds iff the mathematical sum is representable; on success the window is the
sum, otherwise it is unchanged. -/
theorem add_spec (a n : Int) (ha : -2147483648 ≤ a ∧ a ≤ 2147483647) (hn : -2147483648 ≤ n ∧ n ≤ 2147483647) :
    ((add a n).2 = true ↔ (-2147483648 ≤ a + n ∧ a + n ≤ 2147483647)) ∧
    ((add a n).2 = true → (add a n).1 = a + n) ∧ ((add a n).2 = false → (add a n).1 = a) := by
  unfold add wrap32
  simp only []
  split <;> rename_i h <;> simp only [decide_eq_true_eq, decide_eq_decide] at h <;> simp <;> omega

/-- the window of a stream just opened is the initial window size in force -/
theorem add_zero_init (v : Int) (h : 0 ≤ v ∧ v ≤ 2147483647) : (add 0 (wrap32 v)).1 = v := by
  rw [wrap32_id _ (by omega)]
  have := add_spec 0 v (by omega) (by omega)
  rw [this.2.1 (this.1.2 (by omega))]; omega

theorem add_fst_range (a n : Int) (ha : -2147483648 ≤ a ∧ a ≤ 2147483647) :
    -2147483648 ≤ (add a n).1 ∧ (add a n).1 ≤ 2147483647 := by
  unfold add
  simp only []
  split
  · exact wrap32_range _
  · exact ha

theorem available_eq (n cn : Int) : available n true cn = min n cn := by
  unfold available
  simp only [ne_eq, Bool.true_eq_false, not_false_eq_true, decide_true, Bool.true_and, decide_eq_true_eq]
  split <;> omega

theorem available_noconn (n cn : Int) : available n false cn = n := by
  unfold available
  simp

theorem enabled_iff (side : Side) (a : Int) : enabled side a = true ↔ 0 < a := by
  cases side <;> simp [enabled, clientEnabled, serverEnabled]

/-- no sender pass while the stream window or the connection window is used up -/
theorem not_enabled_of_le (side : Side) {n cn : Int} (h : min n cn ≤ 0) : enabled side (available n true cn) = false := by
  rw [available_eq]
  cases hh : enabled side (min n cn)
  · rfl
  · rw [enabled_iff] at hh; omega

/-- the amount taken by one pass of awaitFlowControl is min(available window, remaining, max frame size) -/
theorem takeAmount_spec (side : Side) (a rem mf : Int) (ha : 0 < a ∧ a ≤ 2147483647) (hr : 0 < rem)
    (hm : 1 ≤ mf ∧ mf ≤ 2147483647) :
    takeAmount side a rem mf = min a (min rem mf) := by
  cases side <;> simp only [takeAmount, clientTake, serverTake, decide_eq_true_eq, wrap32_id mf (by omega)] <;>
    split <;> (try rw [wrap32_id rem (by omega)]) <;> split <;> omega

/-- what later steps need of the amount `t` of a pass that fires; with these in hand the nested `min` can be forgotten -/
theorem take_bounds (n cn rem mf t : Int) (ht : min (min n cn) (min rem mf) = t) (ha : 0 < min n cn) (hr : 0 < rem)
    (hm : 1 ≤ mf) : 1 ≤ t ∧ t ≤ n ∧ t ≤ cn ∧ t ≤ rem ∧ t ≤ mf := by omega

theorem take_ok (n cn t : Int) (hn : -2147483648 ≤ n ∧ n ≤ 2147483647) (hc : -2147483648 ≤ cn ∧ cn ≤ 2147483647)
    (ht : 0 ≤ t ∧ t ≤ n ∧ t ≤ cn) : take n true cn t = some (n - t, cn - t) := by
  unfold take
  rw [available_eq]
  simp only [decide_eq_true_eq, ne_eq, Bool.true_eq_false, not_false_eq_true, decide_true, if_true]
  rw [if_neg (by omega), wrap32_id _ (by omega), wrap32_id _ (by omega)]

theorem sum_replicate' (n a : Nat) : (List.replicate n a).sum = n * a := List.sum_replicate_nat

theorem sum_split (k : Nat) : (splitFrames k).sum = k := by
  unfold splitFrames writeDataSplit
  split <;> simp <;> omega

theorem mem_split (k z : Nat) (h : z ∈ splitFrames k) : z ≤ k ∧ z ≤ writeDataSplit ∧ 0 < z := by
  unfold splitFrames writeDataSplit at *
  simp only [List.mem_append, List.mem_replicate] at h
  rcases h with ⟨h1, rfl⟩ | h
  · omega
  · split at h <;> simp at h; omega

theorem peerOf_snoc (t : List Obs) (o : Obs) : peerOf (t ++ [o]) = peerStep (peerOf t) o := by
  simp [peerOf, List.foldl_append]

theorem peerOf_snoc2 (t : List Obs) (o o' : Obs) : peerOf (t ++ [o, o']) = peerStep (peerStep (peerOf t) o) o' := by
  simp [peerOf, List.foldl_append]

theorem tracked_lt (s : St) (i : Nat) (h : tracked s i = true) : i < s.count := by
  simp only [tracked, Bool.and_eq_true, decide_eq_true_eq] at h; exact h.1

theorem tracked_of (s : St) (i : Nat) (hi : i < s.count) (hr : 0 < (s.strm i).rem) : tracked s i = true := by
  simp only [tracked, hi, decide_true, Bool.true_and, Bool.not_eq_true', Bool.and_eq_false_iff]
  right; simp; omega

/-- `tracked` reads the side, whether the stream has been opened, and whether its body is done -/
theorem tracked_congr (s s' : St) (j : Nat) (hj : tracked s' j = true) (h1 : s'.side = s.side) (h2 : j < s'.count → j < s.count)
    (h3 : (s'.strm j).rem = (s.strm j).rem) : tracked s j = true := by
  simp only [tracked, Bool.and_eq_true, decide_eq_true_eq, h1, h3] at hj ⊢
  exact ⟨h2 hj.1, hj.2⟩

/-- what relates a live MOSN connection to the peer's books (for the streams still in the stream table) -/
structure Live (s : St) (p : Peer) : Prop where
  count : p.count = s.count
  init : p.init = s.init
  maxF : p.maxF = s.maxFrame
  cn_le : s.cn ≤ p.connW
  cn_range : -2147483648 ≤ s.cn ∧ s.cn ≤ 2147483647
  init_range : 0 ≤ s.init ∧ s.init ≤ 2147483647
  mf_range : 1 ≤ s.maxFrame ∧ s.maxFrame ≤ 2147483647
  strm : ∀ i, tracked s i = true → (s.strm i).n ≤ p.w i ∧ -2147483648 ≤ (s.strm i).n ∧ (s.strm i).n ≤ 2147483647 ∧
    s.init - 2147483647 ≤ (s.strm i).n

structure Inv (s : St) : Prop where
  ok : (peerOf s.trace).ok = true
  nopanic : s.panicked = false
  live : s.closed = false → Live s (peerOf s.trace)

theorem inv_initial (side : Side) : Inv (St.initial side) := by
  cases side <;> refine ⟨by decide, rfl, fun _ => ?_⟩ <;>
    refine ⟨rfl, by decide, by decide, by decide, by decide, by decide, by decide, ?_⟩ <;>
    intro i hi <;> have := tracked_lt _ _ hi <;> simp [St.initial] at this

theorem sendStep_fire (s : St) (i : Nat) (h : Inv s) (hc : s.closed = false) (hi : i < s.count)
    (hr : 0 < (s.strm i).rem) (ha : 0 < min (s.strm i).n s.cn) :
    let t := min (min (s.strm i).n s.cn) (min ((s.strm i).rem : Int) s.maxFrame)
    sendStep s i = { s with cn := s.cn - t, strm := upd s.strm i { n := (s.strm i).n - t, rem := (s.strm i).rem - t.toNat },
                            trace := s.trace ++ [Obs.data i (splitFrames t.toNat)] } := by
  intro t
  have L := h.live hc
  obtain ⟨h1, h2, h3, h4⟩ := L.strm i (tracked_of s i hi hr)
  have hcr := L.cn_range
  have hmf := L.mf_range
  have hts : takeAmount s.side (min (s.strm i).n s.cn) ((s.strm i).rem : Int) s.maxFrame = t :=
    takeAmount_spec _ _ _ _ (by omega) (by omega) hmf
  unfold sendStep
  simp only [hc, h.nopanic, Bool.or_false, Bool.false_or, decide_eq_true_eq]
  rw [if_neg (by omega), if_neg (by omega), available_eq]
  have he : enabled s.side (min (s.strm i).n s.cn) = true := (enabled_iff _ _).2 ha
  simp only [he, Bool.not_true, Bool.false_eq_true, if_false, hts]
  rw [take_ok _ _ t ⟨h2, h3⟩ hcr (by omega)]
  simp only []
  rw [if_neg]
  simp only [Bool.or_eq_true, decide_eq_true_eq]
  omega

theorem sendStep_idle (s : St) (i : Nat)
    (h : s.closed = true ∨ s.count ≤ i ∨ (s.strm i).rem = 0 ∨ min (s.strm i).n s.cn ≤ 0) : sendStep s i = s := by
  unfold sendStep
  rcases h with h | h | h | h
  · simp [h]
  · simp [h]
  · simp [h]
  · simp [not_enabled_of_le s.side h]

/-- one sender pass: nothing (connection closed, no such stream, body done, a window used up), or `t ≥ 1` bytes within both
windows, the rest of the body and the maximum frame size -/
theorem sendStep_cases (s : St) (i : Nat) (h : Inv s) :
    ((s.closed = true ∨ s.count ≤ i ∨ (s.strm i).rem = 0 ∨ min (s.strm i).n s.cn ≤ 0) ∧ sendStep s i = s) ∨
    ∃ t : Nat, s.closed = false ∧ i < s.count ∧ 1 ≤ t ∧ (t : Int) ≤ (s.strm i).n ∧ (t : Int) ≤ s.cn ∧ t ≤ (s.strm i).rem ∧
      (t : Int) ≤ s.maxFrame ∧
      sendStep s i = { s with cn := s.cn - t, strm := upd s.strm i { n := (s.strm i).n - t, rem := (s.strm i).rem - t },
                              trace := s.trace ++ [Obs.data i (splitFrames t)] } := by
  by_cases hidle : s.closed = true ∨ s.count ≤ i ∨ (s.strm i).rem = 0 ∨ min (s.strm i).n s.cn ≤ 0
  · exact Or.inl ⟨hidle, sendStep_idle s i hidle⟩
  · have hc : s.closed = false := by cases hcc : s.closed <;> simp [hcc] at hidle ⊢
    have ha : 0 < min (s.strm i).n s.cn := by omega
    have hfire := sendStep_fire s i h hc (by omega) (by omega) ha
    generalize ht : min (min (s.strm i).n s.cn) (min ((s.strm i).rem : Int) s.maxFrame) = t at hfire
    obtain ⟨t1, tn, tc, tr, tm⟩ := take_bounds _ _ _ _ t ht ha (by omega) (h.live hc).mf_range.1
    have htn : ((t.toNat : Nat) : Int) = t := by omega
    refine Or.inr ⟨t.toNat, hc, by omega, by omega, by omega, by omega, by omega, by omega, ?_⟩
    rw [htn]; exact hfire

theorem inv_send (s : St) (i : Nat) (h : Inv s) : Inv (sendStep s i) := by
  rcases sendStep_cases s i h with ⟨_, e⟩ | ⟨t, hc, hi, t1, tn, tc, tr, tm, e⟩
  · rw [e]; exact h
  · have L := h.live hc
    obtain ⟨h1, h2, h3, h4⟩ := L.strm i (tracked_of s i hi (by omega))
    have hcr := L.cn_range
    rw [e]
    refine ⟨?_, h.nopanic, fun _ => ?_⟩
    · simp only [peerOf_snoc, peerStep, sum_split, h.ok, Bool.true_and, Bool.and_eq_true, decide_eq_true_eq,
        List.all_eq_true]
      refine ⟨⟨⟨?_, ?_⟩, ?_⟩, ?_⟩
      · rw [L.count]; exact hi
      · omega
      · have := L.cn_le; omega
      · intro z hz
        have := mem_split _ _ hz
        rw [L.maxF]; omega
    · simp only [peerOf_snoc, peerStep, sum_split]
      refine { L with cn_le := ?_, cn_range := ?_, strm := fun j hj => ?_ }
      · have := L.cn_le; simp only []; omega
      · simp only []; omega
      · by_cases hji : j = i
        · subst hji; simp only [upd, updW, if_true]; have := L.init_range; omega
        · have htr : tracked s j = true := tracked_congr s _ j hj rfl id (by simp [upd, hji])
          simp only [upd, updW, hji, if_false]; exact L.strm j htr

/-! ### a peer frame on an open connection, in integers

What `step` does on a WINDOW_UPDATE or SETTINGS frame to a state that satisfies `Inv` and is not closed, with the int32
arithmetic resolved (no `wrap32`, no outcome of `flow.add`, one branch where client and server do the same): `Inv`, `Exact` and
`FlowWake.quiet_step` read these equations instead of unfolding `step`. -/

/-- the connection answers the frame `o` with a connection error -/
def reject (s : St) (o : Obs) : St := { s with closed := true, trace := s.trace ++ [o, Obs.connError] }

/-- `flow.add` on int32 operands whose sum cannot fall below -2^31 (a frame parser's increment; a SETTINGS delta, by the last
clause of `Live.strm`) -/
theorem add_eq (a n : Int) (ha : -2147483648 ≤ a ∧ a ≤ 2147483647) (hn : -2147483648 ≤ n ∧ n ≤ 2147483647)
    (hlo : -2147483648 ≤ a + n) : add a n = (if a + n ≤ 2147483647 then a + n else a, decide (a + n ≤ 2147483647)) := by
  have A := add_spec a n ha hn
  by_cases hfit : a + n ≤ 2147483647
  · have hr := A.1.2 ⟨hlo, hfit⟩
    rw [if_pos hfit, decide_eq_true hfit]
    exact Prod.ext (A.2.1 hr) hr
  · have hr : (add a n).2 = false := Bool.eq_false_iff.2 fun hr => hfit (A.1.1 hr).2
    rw [if_neg hfit, decide_eq_false hfit]
    exact Prod.ext (A.2.2 hr) hr

/-- WINDOW_UPDATE on a stream: ignored unless the stream is in the stream table; refused when the window would pass 2^31-1 -/
theorem step_wuStream (s : St) (i inc : Nat) (hw : (Label.wuStream i inc).wf = true) (h : Inv s) (hc : s.closed = false) :
    step s (.wuStream i inc) =
      if tracked s i = true then
        if (s.strm i).n + inc ≤ 2147483647 then
          { s with strm := upd s.strm i { s.strm i with n := (s.strm i).n + inc }, trace := s.trace ++ [Obs.wuS i inc] }
        else reject s (.wuS i inc)
      else { s with trace := s.trace ++ [Obs.wuS i inc] } := by
  simp only [Label.wf, Bool.and_eq_true, decide_eq_true_eq] at hw
  simp only [step, hc, h.nopanic, Bool.or_false, Bool.false_eq_true, if_false, reject]
  by_cases htr : tracked s i = true
  · obtain ⟨_, r1, r2, _⟩ := (h.live hc).strm i htr
    rw [if_neg (Nat.not_le.2 (tracked_lt s i htr)), if_pos htr, wrap32_id _ (by omega),
      add_eq _ (inc : Int) ⟨r1, r2⟩ (by omega) (by omega)]
    simp only [htr, Bool.not_true, Bool.false_eq_true, if_false, decide_eq_true_eq]
    by_cases hfit : (s.strm i).n + inc ≤ 2147483647
    · simp only [if_pos hfit]
    · simp only [if_neg hfit]
  · rw [if_neg htr]
    by_cases hi : s.count ≤ i
    · rw [if_pos hi]
    · rw [if_neg hi, if_pos (by simpa using htr)]

theorem step_wuConn (s : St) (inc : Nat) (hw : (Label.wuConn inc).wf = true) (h : Inv s) (hc : s.closed = false) :
    step s (.wuConn inc) =
      if s.cn + inc ≤ 2147483647 then { s with cn := s.cn + inc, trace := s.trace ++ [Obs.wuC inc] }
      else reject s (.wuC inc) := by
  simp only [Label.wf, Bool.and_eq_true, decide_eq_true_eq] at hw
  have hr := (h.live hc).cn_range
  simp only [step, hc, h.nopanic, Bool.or_false, Bool.false_eq_true, if_false, reject, wrap32_id (inc : Int) (by omega),
    add_eq s.cn (inc : Int) hr (by omega) (by omega), decide_eq_true_eq]
  by_cases hfit : s.cn + inc ≤ 2147483647
  · simp only [if_pos hfit]
  · simp only [if_neg hfit]

/-- SETTINGS_INITIAL_WINDOW_SIZE = `v` is refused: above 2^31-1, and by the server when `flow.add` refuses the delta on a stream
(the client ignores that result, mhttp2.go `MClientConn.processSettings`) -/
def initRefused (s : St) (v : Nat) : Bool :=
  decide (2147483647 < (v : Int)) ||
    (decide (s.side = Side.server) && (List.range s.count).any (fun j => tracked s j && !(add (s.strm j).n ((v : Int) - s.init)).2))

/-- the delta is the integer `v - init`; what `add` makes of it on a tracked stream is `add_eq` -/
theorem step_setInit (s : St) (v : Nat) (h : Inv s) (hc : s.closed = false) :
    step s (.setInit v) =
      if initRefused s v then reject s (.sInit v)
      else { s with strm := fun j => if tracked s j then { s.strm j with n := (add (s.strm j).n ((v : Int) - s.init)).1 } else s.strm j,
                    init := v, trace := s.trace ++ [Obs.sInit v] } := by
  have hir := (h.live hc).init_range
  simp only [step, hc, h.nopanic, Bool.or_false, Bool.false_eq_true, if_false, maxInt32, reject, initRefused]
  by_cases hv : 2147483647 < (v : Int)
  · simp only [hv, if_true, decide_true, Bool.true_or]
  · rw [wrap32_id (v : Int) (by omega), wrap32_id s.init (by omega), wrap32_id _ (by omega)]
    simp only [hv, if_false, decide_false, Bool.false_or]
    cases s.side
    · simp only [reduceCtorEq, decide_false, Bool.false_and, Bool.false_eq_true, if_false]
    · simp only [decide_true, Bool.true_and]

/-- both connections accept SETTINGS_MAX_FRAME_SIZE exactly in the RFC range, where the server's `wrap32` is the identity -/
theorem step_setMaxFrame (s : St) (v : Nat) (hc : s.closed = false) (hp : s.panicked = false) :
    step s (.setMaxFrame v) =
      if v < 16384 || 16777215 < v then reject s (.sMax v) else { s with maxFrame := v, trace := s.trace ++ [Obs.sMax v] } := by
  simp only [step, hc, hp, Bool.or_false, Bool.false_eq_true, if_false, reject]
  cases s.side <;> simp only []
  split
  · rfl
  · rename_i hv
    simp only [Bool.or_eq_true, decide_eq_true_eq] at hv
    rw [wrap32_id _ (by omega)]

/-- a refused frame `o` that leaves the peer's verdict alone (every frame but DATA): nothing is claimed of a closed connection -/
theorem inv_reject (s : St) (o : Obs) (h : Inv s) (ho : (peerStep (peerOf s.trace) o).ok = (peerOf s.trace).ok) :
    Inv (reject s o) :=
  ⟨(congrArg Peer.ok (peerOf_snoc2 s.trace o Obs.connError)).trans (ho.trans h.ok), h.nopanic, fun hc => Bool.noConfusion hc⟩

/-- WINDOW_UPDATE on stream `i` in the peer's books: only `w i` and the peer's own conformance can change -/
theorem peerStep_wuS (p : Peer) (i inc : Nat) :
    (peerStep p (.wuS i inc)).ok = p.ok ∧ (peerStep p (.wuS i inc)).count = p.count ∧ (peerStep p (.wuS i inc)).init = p.init ∧
    (peerStep p (.wuS i inc)).maxF = p.maxF ∧ (peerStep p (.wuS i inc)).connW = p.connW ∧
    (∀ j, j ≠ i → (peerStep p (.wuS i inc)).w j = p.w j) ∧ ((peerStep p (.wuS i inc)).conformant = true → p.conformant = true) := by
  by_cases hi : i < p.count
  · simp only [peerStep, if_pos hi, updW, Bool.and_eq_true, true_and]
    exact ⟨fun j hji => if_neg hji, fun h => h.1.1⟩
  · simp [peerStep, hi]

theorem inv_open (s : St) (len : Nat) (h : Inv s) (hc : s.closed = false) : Inv (step s (.openStream len)) := by
  simp only [step]
  simp only [hc, h.nopanic, Bool.or_false, Bool.false_eq_true, if_false]
  have L := h.live hc
  have hir := L.init_range
  have hadd := add_zero_init s.init hir
  refine ⟨?_, rfl, fun _ => ?_⟩
  · simp only [peerOf_snoc, peerStep]; exact h.ok
  · simp only [peerOf_snoc, peerStep, hadd]
    refine { L with count := by rw [L.count], strm := fun j hj => ?_ }
    by_cases hji : j = s.count
    · simp only [upd, updW, L.count, hji, if_true, L.init]; omega
    · have htr : tracked s j = true :=
        tracked_congr s _ j hj rfl (fun hlt => by have : j < s.count + 1 := hlt; omega) (by simp [upd, hji])
      simp only [upd, updW, L.count, hji, if_false]; exact L.strm j htr

theorem inv_wuStream (s : St) (i inc : Nat) (hw : (Label.wuStream i inc).wf = true) (h : Inv s) (hc : s.closed = false) :
    Inv (step s (.wuStream i inc)) := by
  rw [step_wuStream s i inc hw h hc]
  have L := h.live hc
  obtain ⟨pok, pcount, pinit, pmaxF, pconn, pw, _⟩ := peerStep_wuS (peerOf s.trace) i inc
  by_cases htr : tracked s i = true
  · have hpi : i < (peerOf s.trace).count := by rw [L.count]; exact tracked_lt s i htr
    rw [if_pos htr]
    by_cases hfit : (s.strm i).n + inc ≤ 2147483647
    · rw [if_pos hfit]
      refine ⟨(congrArg Peer.ok (peerOf_snoc _ _)).trans (pok.trans h.ok), h.nopanic, fun _ => ?_⟩
      refine peerOf_snoc _ _ ▸ ⟨pcount.trans L.count, pinit.trans L.init, pmaxF.trans L.maxF, pconn ▸ L.cn_le, L.cn_range,
        L.init_range, L.mf_range, fun j hj => ?_⟩
      by_cases hji : j = i
      · subst hji
        have := L.strm j htr
        simp only [peerStep, hpi, if_true, upd, updW]; omega
      · rw [pw j hji]
        simp only [upd, hji, if_false]
        exact L.strm j (tracked_congr s _ j hj rfl id (by simp [upd, hji]))
    · rw [if_neg hfit]
      exact inv_reject s _ h pok
  · rw [if_neg htr]
    refine ⟨(congrArg Peer.ok (peerOf_snoc _ _)).trans (pok.trans h.ok), h.nopanic, fun _ => ?_⟩
    refine peerOf_snoc _ _ ▸ ⟨pcount.trans L.count, pinit.trans L.init, pmaxF.trans L.maxF, pconn ▸ L.cn_le, L.cn_range,
      L.init_range, L.mf_range, fun j hj => ?_⟩
    have htj : tracked s j = true := hj
    rw [pw j fun e => htr (e ▸ htj)]
    exact L.strm j htj

theorem inv_wuConn (s : St) (inc : Nat) (hw : (Label.wuConn inc).wf = true) (h : Inv s) (hc : s.closed = false) :
    Inv (step s (.wuConn inc)) := by
  rw [step_wuConn s inc hw h hc]
  have L := h.live hc
  by_cases hfit : s.cn + inc ≤ 2147483647
  · rw [if_pos hfit]
    refine ⟨?_, h.nopanic, fun _ => ?_⟩
    · simp only [peerOf_snoc, peerStep]; exact h.ok
    · simp only [peerOf_snoc, peerStep]
      exact { L with cn_le := by have := L.cn_le; simp only []; omega, cn_range := by have := L.cn_range; simp only []; omega }
  · rw [if_neg hfit]
    exact inv_reject s _ h rfl

theorem inv_setInit (s : St) (v : Nat) (h : Inv s) (hc : s.closed = false) : Inv (step s (.setInit v)) := by
  rw [step_setInit s v h hc]
  have L := h.live hc
  have hir := L.init_range
  by_cases hrej : initRefused s v = true
  · rw [if_pos hrej]; exact inv_reject s _ h rfl
  · rw [if_neg hrej]
    have hv : (v : Int) ≤ 2147483647 := by
      simp only [initRefused, Bool.or_eq_true, decide_eq_true_eq, not_or] at hrej; omega
    refine ⟨by simp only [peerOf_snoc, peerStep]; exact h.ok, h.nopanic, fun _ => ?_⟩
    simp only [peerOf_snoc, peerStep]
    refine { L with init := rfl, init_range := ⟨Int.natCast_nonneg v, hv⟩, strm := fun j hj => ?_ }
    have htj : tracked s j = true := tracked_congr s _ j hj rfl id (by simp only []; split <;> rfl)
    have hpj : j < (peerOf s.trace).count := by rw [L.count]; exact tracked_lt _ _ htj
    obtain ⟨h1, h2, h3, h4⟩ := L.strm j htj
    -- the relation holds of the new window whether or not the `add` was refused
    simp only [htj, hpj, if_true, add_eq (s.strm j).n ((v : Int) - s.init) ⟨h2, h3⟩ (by omega) (by omega), L.init]
    split <;> omega

theorem inv_setMaxFrame (s : St) (v : Nat) (h : Inv s) (hc : s.closed = false) : Inv (step s (.setMaxFrame v)) := by
  rw [step_setMaxFrame s v hc h.nopanic]
  have L := h.live hc
  split
  · exact inv_reject s _ h rfl
  · rename_i hv
    simp only [Bool.or_eq_true, decide_eq_true_eq] at hv
    refine ⟨?_, h.nopanic, fun _ => ?_⟩
    · simp only [peerOf_snoc, peerStep]; exact h.ok
    · simp only [peerOf_snoc, peerStep]
      exact { L with maxF := rfl, mf_range := ⟨by show (1 : Int) ≤ (v : Int); omega, by show (v : Int) ≤ 2147483647; omega⟩ }

theorem step_closed (s : St) (l : Label) (h : s.closed = true) : step s l = s := by
  cases l <;> simp [step, sendStep, h]

theorem inv_step (s : St) (l : Label) (hw : l.wf = true) (h : Inv s) : Inv (step s l) := by
  cases hc : s.closed
  · cases l with
    | openStream len => exact inv_open s len h hc
    | send i => exact inv_send s i h
    | wuStream i inc => exact inv_wuStream s i inc hw h hc
    | wuConn inc => exact inv_wuConn s inc hw h hc
    | setInit v => exact inv_setInit s v h hc
    | setMaxFrame v => exact inv_setMaxFrame s v h hc
  · rw [step_closed s l hc]; exact h

theorem inv_run (s : St) (sched : List Label) (hw : ∀ l ∈ sched, l.wf = true) (h : Inv s) : Inv (run s sched) :=
  Fold.foldl_inv_mem sched (fun s l hl h => inv_step s l (hw l hl) h) s h

theorem run_append (s : St) (a b : List Label) : run s (a ++ b) = run (run s a) b := List.foldl_append

/-- `pump` is the run of that many sender passes -/
theorem run_replicate_send (i : Nat) : ∀ (k : Nat) (s : St), run s (List.replicate k (Label.send i)) = pump s i k
  | 0, _ => rfl
  | k + 1, s => run_replicate_send i k (sendStep s i)

theorem sentOn_append (i : Nat) (a b : List Obs) : sentOn i (a ++ b) = sentOn i a + sentOn i b := by
  induction a with
  | nil => simp [sentOn]
  | cons o r ih => cases o <;> simp [sentOn, ih] <;> omega

theorem pump_completes (i : Nat) : ∀ (k : Nat) (s : St), Inv s → s.closed = false → i < s.count →
    (s.strm i).rem ≤ k → ((s.strm i).rem : Int) ≤ (s.strm i).n → ((s.strm i).rem : Int) ≤ s.cn →
    ((pump s i k).strm i).rem = 0 ∧ sentOn i (pump s i k).trace = sentOn i s.trace + (s.strm i).rem ∧
    (pump s i k).closed = false := by
  intro k
  induction k with
  | zero =>
    intro s _ hc _ hk _ _
    simp only [pump]
    exact ⟨by omega, by omega, hc⟩
  | succ k ih =>
    intro s h hc hi hk hn hcn
    simp only [pump]
    have hinv := inv_send s i h
    rcases sendStep_cases s i h with ⟨hidle, e⟩ | ⟨t, _, _, t1, tn, tc, tr, _, e⟩
    · -- the windows cover the rest of the body, so an idle pass means the body is done
      rw [e]
      rcases hidle with hcl | hidle
      · rw [hc] at hcl; exact Bool.noConfusion hcl
      · exact ih s h hc hi (by omega) hn hcn
    · rw [e] at hinv ⊢
      obtain ⟨r1, r2, r3⟩ := ih _ hinv hc hi (by simp only [upd, if_true]; omega) (by simp only [upd, if_true]; omega)
        (by simp only [upd, if_true]; omega)
      refine ⟨r1, ?_, r3⟩
      rw [r2]
      simp only [sentOn_append, sentOn, upd, if_true, sum_split]
      omega


/-- against a peer that keeps its own windows within 2^31-1 (RFC 7540 §6.9.1) MOSN's windows *equal* the peer's
books (for every stream still in the stream table) and the connection is never torn down -/
def Exact (s : St) : Prop :=
  (peerOf s.trace).conformant = true →
    s.closed = false ∧ s.cn = (peerOf s.trace).connW ∧ ∀ i, tracked s i = true → (s.strm i).n = (peerOf s.trace).w i

theorem exact_initial (side : Side) : Exact (St.initial side) := by
  intro _
  cases side <;> refine ⟨rfl, by decide, ?_⟩ <;> intro i hi <;> have := tracked_lt _ _ hi <;> simp [St.initial] at this

theorem exact_send (s : St) (i : Nat) (h : Inv s) (e : Exact s) : Exact (sendStep s i) := by
  rcases sendStep_cases s i h with ⟨_, es⟩ | ⟨t, hc, hi, t1, _, _, tr, _, es⟩
  · rw [es]; exact e
  · rw [es]
    intro hconf
    simp only [peerOf_snoc, peerStep, sum_split] at hconf ⊢
    obtain ⟨_, e2, e3⟩ := e hconf
    refine ⟨hc, by rw [e2], ?_⟩
    intro j hj
    by_cases hji : j = i
    · subst hji; simp only [upd, updW, if_true]; rw [e3 j (tracked_of s j hi (by omega))]
    · have htj : tracked s j = true := tracked_congr s _ j hj rfl id (by simp [upd, hji])
      simp only [upd, updW, hji, if_false]; exact e3 j htj

theorem exact_open (s : St) (len : Nat) (h : Inv s) (hc : s.closed = false) (e : Exact s) : Exact (step s (.openStream len)) := by
  simp only [step]
  simp only [hc, h.nopanic, Bool.or_false, Bool.false_eq_true, if_false]
  have L := h.live hc
  have hadd := add_zero_init s.init L.init_range
  intro hconf
  simp only [peerOf_snoc, peerStep, hadd] at hconf ⊢
  obtain ⟨_, e2, e3⟩ := e hconf
  refine ⟨trivial, e2, ?_⟩
  intro j hj
  by_cases hji : j = s.count
  · simp only [upd, updW, L.count, hji, if_true, L.init]
  · have htr : tracked s j = true :=
      tracked_congr s _ j hj rfl (fun hlt => by have : j < s.count + 1 := hlt; omega) (by simp [upd, hji])
    simp only [upd, updW, L.count, hji, if_false]; exact e3 j htr

/-- a conformant peer's frame is not refused -/
theorem exact_reject (s : St) (o : Obs) (ho : (peerStep (peerOf s.trace) o).conformant = false) : Exact (reject s o) := by
  intro hconf
  rw [show (reject s o).trace = s.trace ++ [o, Obs.connError] from rfl, peerOf_snoc2] at hconf
  rw [show ∀ p, peerStep p Obs.connError = p from fun _ => rfl, ho] at hconf
  exact Bool.noConfusion hconf

theorem exact_wuStream (s : St) (i inc : Nat) (hw : (Label.wuStream i inc).wf = true) (h : Inv s) (hc : s.closed = false) (e : Exact s) :
    Exact (step s (.wuStream i inc)) := by
  rw [step_wuStream s i inc hw h hc]
  have L := h.live hc
  obtain ⟨_, _, _, _, pconn, pw, pconf⟩ := peerStep_wuS (peerOf s.trace) i inc
  by_cases htr : tracked s i = true
  · have hpi : i < (peerOf s.trace).count := by rw [L.count]; exact tracked_lt s i htr
    rw [if_pos htr]
    by_cases hfit : (s.strm i).n + inc ≤ 2147483647
    · rw [if_pos hfit]
      intro hconf
      simp only [peerOf_snoc] at hconf ⊢
      obtain ⟨_, e2, e3⟩ := e (pconf hconf)
      refine ⟨hc, e2.trans pconn.symm, fun j hj => ?_⟩
      by_cases hji : j = i
      · subst hji
        simp only [peerStep, hpi, if_true, upd, updW, e3 j htr]
      · rw [pw j hji]
        simp only [upd, hji, if_false]
        exact e3 j (tracked_congr s _ j hj rfl id (by simp [upd, hji]))
    · rw [if_neg hfit]
      refine exact_reject s _ (Bool.eq_false_iff.2 fun hconf => ?_)
      have := (e (pconf hconf)).2.2 i htr
      simp only [peerStep, hpi, if_true, Bool.and_eq_true, decide_eq_true_eq] at hconf
      omega
  · rw [if_neg htr]
    intro hconf
    simp only [peerOf_snoc] at hconf ⊢
    obtain ⟨_, e2, e3⟩ := e (pconf hconf)
    refine ⟨hc, e2.trans pconn.symm, fun j hj => ?_⟩
    have htj : tracked s j = true := hj
    rw [pw j fun e => htr (e ▸ htj)]
    exact e3 j htj

theorem exact_wuConn (s : St) (inc : Nat) (hw : (Label.wuConn inc).wf = true) (h : Inv s) (hc : s.closed = false) (e : Exact s) :
    Exact (step s (.wuConn inc)) := by
  rw [step_wuConn s inc hw h hc]
  by_cases hfit : s.cn + inc ≤ 2147483647
  · rw [if_pos hfit]
    intro hconf
    simp only [peerOf_snoc, peerStep, Bool.and_eq_true, decide_eq_true_eq] at hconf ⊢
    obtain ⟨_, e2, e3⟩ := e hconf.1.1
    exact ⟨hc, by rw [e2], e3⟩
  · rw [if_neg hfit]
    refine exact_reject s _ (Bool.eq_false_iff.2 fun hconf => ?_)
    simp only [peerStep, Bool.and_eq_true, decide_eq_true_eq] at hconf
    have := (e hconf.1.1).2.1
    omega

theorem exact_setInit (s : St) (v : Nat) (h : Inv s) (hc : s.closed = false) (e : Exact s) : Exact (step s (.setInit v)) := by
  rw [step_setInit s v h hc]
  have L := h.live hc
  have hir := L.init_range
  -- what a conformant peer's SETTINGS says of a tracked stream: the `add` is accepted and yields the peer's new window
  have key (hconf : (peerStep (peerOf s.trace) (.sInit v)).conformant = true) (j : Nat) (htj : tracked s j = true) :
      (s.strm j).n = (peerOf s.trace).w j ∧ (v : Int) ≤ 2147483647 ∧
      add (s.strm j).n ((v : Int) - s.init) = ((s.strm j).n + ((v : Int) - s.init), true) := by
    simp only [peerStep, Bool.and_eq_true, decide_eq_true_eq, List.all_eq_true, List.mem_range] at hconf
    have e3 := (e hconf.1.1).2.2 j htj
    have := hconf.2 j (by rw [L.count]; exact tracked_lt _ _ htj)
    obtain ⟨_, h2, h3, _⟩ := L.strm j htj
    rw [L.init, ← e3] at this
    rw [add_eq _ _ ⟨h2, h3⟩ (by omega) (by omega), if_pos this, decide_eq_true this]
    exact ⟨e3, hconf.1.2, rfl⟩
  by_cases hrej : initRefused s v = true
  · rw [if_pos hrej]
    refine exact_reject s _ (Bool.eq_false_iff.2 fun hconf => ?_)
    simp only [initRefused, Bool.or_eq_true, decide_eq_true_eq, Bool.and_eq_true, List.any_eq_true, List.mem_range,
      Bool.not_eq_true'] at hrej
    rcases hrej with hv | ⟨_, j, _, htj, hf⟩
    · simp only [peerStep, Bool.and_eq_true, decide_eq_true_eq] at hconf; omega
    · rw [(key hconf j htj).2.2] at hf
      exact Bool.noConfusion hf
  · rw [if_neg hrej]
    intro hconf
    simp only [peerOf_snoc] at hconf ⊢
    obtain ⟨_, e2, _⟩ := e (by simp only [peerStep, Bool.and_eq_true] at hconf; exact hconf.1.1)
    refine ⟨hc, e2, fun j hj => ?_⟩
    have htj : tracked s j = true := tracked_congr s _ j hj rfl id (by simp only []; split <;> rfl)
    have hpj : j < (peerOf s.trace).count := by rw [L.count]; exact tracked_lt _ _ htj
    obtain ⟨e3, _, ha⟩ := key hconf j htj
    simp only [peerStep, htj, hpj, if_true, ha, L.init]
    rw [e3]

theorem exact_setMaxFrame (s : St) (v : Nat) (h : Inv s) (hc : s.closed = false) (e : Exact s) :
    Exact (step s (.setMaxFrame v)) := by
  rw [step_setMaxFrame s v hc h.nopanic]
  split
  · rename_i hbad
    refine exact_reject s _ (Bool.eq_false_iff.2 fun hconf => ?_)
    simp only [peerStep, Bool.and_eq_true, decide_eq_true_eq] at hconf
    simp only [Bool.or_eq_true, decide_eq_true_eq] at hbad
    omega
  · intro hconf
    simp only [peerOf_snoc, peerStep, Bool.and_eq_true, decide_eq_true_eq] at hconf ⊢
    obtain ⟨_, e2, e3⟩ := e hconf.1.1
    exact ⟨hc, e2, e3⟩

theorem exact_step (s : St) (l : Label) (hw : l.wf = true) (h : Inv s) (e : Exact s) : Exact (step s l) := by
  cases hc : s.closed
  · cases l with
    | openStream len => exact exact_open s len h hc e
    | send i => exact exact_send s i h e
    | wuStream i inc => exact exact_wuStream s i inc hw h hc e
    | wuConn inc => exact exact_wuConn s inc hw h hc e
    | setInit v => exact exact_setInit s v h hc e
    | setMaxFrame v => exact exact_setMaxFrame s v h hc e
  · rw [step_closed s l hc]; exact e

theorem exact_run (s : St) (sched : List Label) (hw : ∀ l ∈ sched, l.wf = true) (h : Inv s) (e : Exact s) :
    Exact (run s sched) :=
  (Fold.foldl_inv_mem (P := fun s => Inv s ∧ Exact s) sched
    (fun s l hl h => ⟨inv_step s l (hw l hl) h.1, exact_step s l (hw l hl) h.1 h.2⟩) s ⟨h, e⟩).2

/-- in any state that satisfies the invariant and whose windows are a conformant peer's books: once the peer has granted
the rest of stream `i`'s body on the stream and on the connection, the sender passes write all of it -/
theorem pump_completes_granted (s : St) (i : Nat) (h : Inv s) (e : Exact s) (hconf : (peerOf s.trace).conformant = true)
    (hi : i < s.count) (h1 : ((s.strm i).rem : Int) ≤ (peerOf s.trace).w i)
    (h2 : ((s.strm i).rem : Int) ≤ (peerOf s.trace).connW) :
    ((pump s i (s.strm i).rem).strm i).rem = 0 ∧
    sentOn i (pump s i (s.strm i).rem).trace = sentOn i s.trace + (s.strm i).rem := by
  obtain ⟨hc, e2, e3⟩ := e hconf
  by_cases hr : (s.strm i).rem = 0
  · rw [hr]; exact ⟨hr, by simp [pump]⟩
  · have htr := tracked_of s i hi (by omega)
    have := pump_completes i (s.strm i).rem s h hc hi (Nat.le_refl _) (by rw [e3 i htr]; exact h1) (by rw [e2]; exact h2)
    exact ⟨this.1, this.2.1⟩

/-- a schedule used by the non-vacuity examples of Props/C18: two streams, an initial window of 0, shrinking and
growing SETTINGS, a larger max frame size -/
def demoSchedule : List Label :=
  [.setInit 0, .openStream 70000, .send 0, .wuStream 0 20000, .send 0, .send 0, .setMaxFrame 32768, .setInit 30000,
   .openStream 10, .send 1, .send 0, .send 0, .wuStream 0 20000, .send 0, .send 0, .wuConn 100000, .send 0, .send 0]

end MosnVerif.Lemmas.Flow
