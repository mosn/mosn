import MosnVerif.Model.DumpProto
import MosnVerif.Lemmas.Fold
/-!
C12, dump protocol: the invariant "file behind the effective config ⇒ a request is pending" for every program with the
discipline `disc` / `setOk`, every number of mutators and every schedule; and the quiet round that makes the file current.
-/
namespace MosnVerif.Model.DumpProto
open MosnVerif.Gen.DumpProto

/-- a request is pending: the flag is raised, or some mutator that has written the config has not yet seen / set the flag -/
def cover (c : Conf) : Prop := c.flag = 1 ∨ ∃ t p, c.m t = .run p ∧ setOk p = true

/-- what the dumper's obligation state means -/
def obInv : Ob → Conf → Prop
  | .clean, c => (c.file = c.live ∨ cover c) ∧ (∀ x, c.d.content = some x → x = c.live ∨ cover c)
  | .owe, _ => True
  | .holding, c => ∃ x, c.d.content = some x ∧ (x = c.live ∨ cover c)

structure Inv (c : Conf) : Prop where
  flagBin : c.flag = 0 ∨ c.flag = 1
  muts : ∀ t p, c.m t = .run p → setOk p = true ∨ noClear p = true
  progOk : disc .clean false c.prog = true
  setpOk : setOk c.setp = true
  dump : ∃ a, disc a c.d.content.isSome c.d.rest = true ∧ obInv a c

theorem obInv_of_cover_clean {c : Conf} (h : cover c) : obInv .clean c := ⟨Or.inr h, fun _ _ => Or.inr h⟩

/-- `obInv` only grows with `cover` when file, live and the held snapshot stay -/
theorem obInv_mono {a : Ob} {c c' : Conf} (hf : c'.file = c.file) (hl : c'.live = c.live) (hc : c'.d.content = c.d.content)
    (hcov : cover c → cover c') (h : obInv a c) : obInv a c' := by
  cases a with
  | clean =>
    exact ⟨h.1.imp (fun e => by rw [hf, hl]; exact e) hcov,
      fun x hx => (h.2 x (hc ▸ hx)).imp (fun e => by rw [hl]; exact e) hcov⟩
  | owe => trivial
  | holding =>
    obtain ⟨x, hx, h2⟩ := h
    exact ⟨x, by rw [hc]; exact hx, h2.imp (fun e => by rw [hl]; exact e) hcov⟩

/-- with a pending request every obligation state is fine, provided a held snapshot is still held -/
theorem obInv_of_cover {a : Ob} {c c' : Conf} (hc : c'.d.content = c.d.content) (hcov : cover c') (h : obInv a c) : obInv a c' := by
  cases a with
  | clean => exact obInv_of_cover_clean hcov
  | owe => trivial
  | holding =>
    obtain ⟨x, hx, _⟩ := h
    exact ⟨x, by rw [hc]; exact hx, Or.inr hcov⟩

theorem disc_done {a : Ob} {h : Bool} (hd : disc a h .done = true) : a = .clean := by
  simpa [disc] using hd

theorem disc_cas {a : Ob} {h : Bool} {o n : Int} {t f : Prog} (hd : disc a h (.cas o n t f) = true) :
    (o = 1 ∧ n = 0 ∧ disc .owe h t = true ∧ disc a h f = true) ∨
    (o = 0 ∧ n = 1 ∧ disc .clean h t = true ∧ disc .clean h f = true) := by
  unfold disc at hd
  split at hd
  · rename_i hc
    simp only [Bool.and_eq_true, beq_iff_eq] at hc hd
    exact Or.inl ⟨hc.1, hc.2, hd.1, hd.2⟩
  · split at hd
    · rename_i hc
      simp only [Bool.and_eq_true, beq_iff_eq] at hc hd
      exact Or.inr ⟨hc.1, hc.2, hd.1, hd.2⟩
    · cases hd

theorem disc_store {a : Ob} {h : Bool} {v : Int} {k : Prog} (hd : disc a h (.store v k) = true) :
    (v = 1 ∧ disc .clean h k = true) ∨ (v = 0 ∧ disc .owe h k = true) := by
  unfold disc at hd
  split at hd
  · rename_i hc; exact Or.inl ⟨by simpa using hc, hd⟩
  · split at hd
    · rename_i hc; exact Or.inr ⟨by simpa using hc, hd⟩
    · cases hd

theorem inv_init (prog setp : Prog) (hp : disc .clean false prog = true) (hs : setOk setp = true) : Inv (initConf prog setp) where
  flagBin := Or.inl rfl
  muts := by intro t p h; simp [initConf] at h
  progOk := hp
  setpOk := hs
  dump := ⟨.clean, by simp [initConf, disc], ⟨Or.inl rfl, by intro x hx; simp [initConf] at hx⟩⟩

theorem inv_stepDump {c : Conf} (hI : Inv c) (w : Bool) : Inv (stepDump c w) := by
  obtain ⟨a, hd, ho⟩ := hI.dump
  unfold stepDump
  split
  · -- between rounds: the next round starts
    rename_i hr
    rw [hr] at hd
    have := disc_done hd; subst this
    exact { hI with dump := ⟨.clean, hI.progOk, ho.1, by intro x hx; simp at hx⟩ }
  · -- cas
    rename_i o n t f hr
    rw [hr] at hd
    rcases disc_cas hd with ⟨rfl, rfl, ht, hf⟩ | ⟨rfl, rfl, ht, hf⟩
    · split
      · exact { hI with flagBin := Or.inl rfl, dump := ⟨.owe, ht, trivial⟩ }
      · exact { hI with dump := ⟨a, hf, obInv_mono (c := c) rfl rfl rfl id ho⟩ }
    · split
      · exact { hI with flagBin := Or.inr rfl, dump := ⟨.clean, ht, obInv_of_cover_clean (Or.inl rfl)⟩ }
      · rename_i hne
        have h1 : c.flag = 1 := by rcases hI.flagBin with h | h; exact absurd h hne; exact h
        exact { hI with dump := ⟨.clean, hf, obInv_of_cover_clean (Or.inl h1)⟩ }
  · -- load
    rename_i v t f hr
    rw [hr] at hd
    simp only [disc, Bool.and_eq_true] at hd
    refine { hI with dump := ⟨a, ?_, obInv_mono (c := c) rfl rfl rfl id ho⟩ }
    show disc a c.d.content.isSome (if c.flag = v then t else f) = true
    split
    · exact hd.1
    · exact hd.2
  · -- store
    rename_i v k hr
    rw [hr] at hd
    rcases disc_store hd with ⟨rfl, hk⟩ | ⟨rfl, hk⟩
    · exact { hI with flagBin := Or.inr rfl, dump := ⟨.clean, hk, obInv_of_cover_clean (Or.inl rfl)⟩ }
    · exact { hI with flagBin := Or.inl rfl, dump := ⟨.owe, hk, trivial⟩ }
  · -- snapshot
    rename_i k hr
    rw [hr] at hd
    simp only [disc] at hd
    refine { hI with dump := ⟨if a == .owe then .holding else a, hd, ?_⟩ }
    cases a with
    | clean => exact ⟨ho.1, by intro x hx; simp at hx; exact Or.inl hx.symm⟩
    | owe => exact ⟨c.live, rfl, Or.inl rfl⟩
    | holding => exact ⟨c.live, rfl, Or.inl rfl⟩
  · -- write
    rename_i t f hr
    rw [hr] at hd
    simp only [disc, Bool.and_eq_true] at hd
    obtain ⟨⟨hh, ht⟩, hf⟩ := hd
    split
    · refine { hI with dump := ⟨if a == .holding then .clean else a, ht, ?_⟩ }
      -- the file now holds the snapshot: what `holding` says of it makes the state clean
      have written : obInv .holding c →
          obInv .clean { c with file := c.d.content.getD c.file, d := { c.d with rest := t } } := by
        intro ⟨x, hx, h2⟩
        refine ⟨?_, fun y hy => ?_⟩
        · show (c.d.content.getD c.file) = c.live ∨ _
          rw [hx]; exact h2
        · cases hx.symm.trans hy; exact h2
      cases a with
      | clean =>
        obtain ⟨x, hx⟩ := Option.isSome_iff_exists.mp hh
        exact written ⟨x, hx, ho.2 x hx⟩
      | owe => trivial
      | holding => exact written ho
    · refine { hI with dump := ⟨if a == .holding then .owe else a, hf, ?_⟩ }
      cases a with
      | clean => exact ho
      | owe => trivial
      | holding => trivial

theorem setM_same (m : Nat → MState) (t : Nat) (v : MState) : setM m t v t = v := by simp [setM]
theorem setM_other (m : Nat → MState) (t u : Nat) (v : MState) (h : u ≠ t) : setM m t v u = m u := by simp [setM, h]

/-- what holds of every running request still does when one mutator's state is replaced by a state of which it holds -/
theorem muts_setM {P : Prog → Prop} {m : Nat → MState} (h : ∀ u q, m u = .run q → P q) (t : Nat) {s' : MState}
    (hs' : ∀ q, s' = .run q → P q) : ∀ u q, setM m t s' u = .run q → P q := by
  intro u q hu
  by_cases hut : u = t
  · exact hs' q (by simpa [hut, setM_same] using hu)
  · exact h u q (by simpa [setM_other _ _ _ _ hut] using hu)

/-- mutator `t` moves on inside its request: the flag stays or becomes 1, its new state is again a good request state, and if
it was the pending witness then afterwards the flag is 1 or it still is one. -/
theorem mut_move {c : Conf} (hI : Inv c) (t : Nat) (p : Prog) (hm : c.m t = .run p) (s' : MState) (fl' : Int)
    (hfl : fl' = c.flag ∨ fl' = 1)
    (hs' : ∀ q, s' = .run q → (setOk q = true ∨ noClear q = true))
    (hcov : setOk p = true → fl' = 1 ∨ ∃ q, s' = .run q ∧ setOk q = true) :
    Inv { c with flag := fl', m := setM c.m t s' } := by
  obtain ⟨a, hd, ho⟩ := hI.dump
  refine ⟨?_, muts_setM hI.muts t hs', hI.progOk, hI.setpOk, a, hd, obInv_mono (c := c) rfl rfl rfl ?_ ho⟩
  · rcases hfl with h | h
    · rw [h]; exact hI.flagBin
    · exact Or.inr h
  · intro hc
    rcases hc with h1 | ⟨u, q, hu, hq⟩
    · left
      rcases hfl with h | h
      · show fl' = 1; rw [h]; exact h1
      · exact h
    · by_cases hut : u = t
      · subst hut
        have : q = p := by rw [hm] at hu; exact (MState.run.inj hu).symm
        subst this
        rcases hcov hq with h | ⟨q', hs, hq'⟩
        · exact Or.inl h
        · exact Or.inr ⟨u, q', by show setM c.m u s' u = _; rw [setM_same, hs], hq'⟩
      · exact Or.inr ⟨u, q, by show setM c.m t s' u = _; rw [setM_other _ _ _ _ hut]; exact hu, hq⟩

theorem noClear_of_request {p : Prog} (h : setOk p = true ∨ noClear p = true) :
    match p with
    | .cas _ n x y => n = 1 ∧ noClear x = true ∧ noClear y = true
    | .store v k => v = 1 ∧ noClear k = true
    | .snapshot _ => False
    | .write _ _ => False
    | _ => True := by
  cases p with
  | cas o n x y =>
    rcases h with h | h
    · simp only [setOk, Bool.and_eq_true, beq_iff_eq] at h; exact ⟨h.1.1.2, h.1.2, h.2⟩
    · simp only [noClear, Bool.and_eq_true, beq_iff_eq] at h; exact ⟨h.1.1, h.1.2, h.2⟩
  | store v k =>
    rcases h with h | h
    · simp only [setOk, Bool.and_eq_true, beq_iff_eq] at h; exact h
    · simp only [noClear, Bool.and_eq_true, beq_iff_eq] at h; exact h
  | snapshot k => rcases h with h | h <;> simp [setOk, noClear] at h
  | write x y => rcases h with h | h <;> simp [setOk, noClear] at h
  | load v x y => trivial
  | done => trivial

/-- a request at a `load` of the flag: the branch it takes is again a request, and if it was still to raise the flag then the
flag is up or the branch still is to raise it -/
theorem request_load {v : Int} {x y : Prog} {fl : Int} (hfl : fl = 0 ∨ fl = 1)
    (h : setOk (.load v x y) = true ∨ noClear (.load v x y) = true) :
    (setOk (if fl = v then x else y) = true ∨ noClear (if fl = v then x else y) = true) ∧
    (setOk (.load v x y) = true → fl = 1 ∨ setOk (if fl = v then x else y) = true) := by
  simp only [setOk, noClear, beq_iff_eq, Bool.and_eq_true] at h ⊢
  grind

theorem inv_stepMut {c : Conf} (hI : Inv c) (t : Nat) : Inv (stepMut c t) := by
  unfold stepMut
  split
  · -- idle: write the effective config, the request starts
    rename_i hm
    obtain ⟨a, hd, ho⟩ := hI.dump
    have hcov : cover { c with live := c.live + 1, m := setM c.m t (.run c.setp) } :=
      Or.inr ⟨t, c.setp, setM_same _ _ _, hI.setpOk⟩
    exact ⟨hI.flagBin, muts_setM hI.muts t fun q h => MState.run.inj h ▸ Or.inl hI.setpOk, hI.progOk, hI.setpOk, a, hd,
      obInv_of_cover (c := c) rfl hcov ho⟩
  · -- the request is finished
    rename_i hm
    exact mut_move hI t .done hm .idle c.flag (Or.inl rfl) (by intro q h; cases h) (by intro h; simp [setOk] at h)
  · -- cas
    rename_i o n x y hm
    have hreq := hI.muts t _ hm
    obtain ⟨hn, hx, hy⟩ := noClear_of_request hreq
    subst hn
    split
    · exact mut_move hI t _ hm (.run x) 1 (Or.inr rfl) (by intro q h; cases h; exact Or.inr hx) (fun _ => Or.inl rfl)
    · rename_i hne
      refine mut_move hI t _ hm (.run y) c.flag (Or.inl rfl) (by intro q h; cases h; exact Or.inr hy) ?_
      intro hs
      simp only [setOk, Bool.and_eq_true, beq_iff_eq] at hs
      have ho : o = 0 := hs.1.1.1
      subst ho
      rcases hI.flagBin with h | h
      · exact absurd h hne
      · exact Or.inl h
  · -- load
    rename_i v x y hm
    obtain ⟨h1, h2⟩ := request_load hI.flagBin (hI.muts t _ hm)
    exact mut_move hI t _ hm (.run (if c.flag = v then x else y)) c.flag (Or.inl rfl) (by intro q h; cases h; exact h1)
      (fun hs => (h2 hs).imp_right (fun h => ⟨_, rfl, h⟩))
  · -- store
    rename_i v k hm
    have hreq := hI.muts t _ hm
    obtain ⟨hv, hk⟩ := noClear_of_request hreq
    subst hv
    exact mut_move hI t _ hm (.run k) 1 (Or.inr rfl) (by intro q h; cases h; exact Or.inr hk) (fun _ => Or.inl rfl)
  · rename_i k hm
    exact (noClear_of_request (hI.muts t _ hm)).elim
  · rename_i x y hm
    exact (noClear_of_request (hI.muts t _ hm)).elim

theorem inv_step (c : Conf) (e : Ev) (hI : Inv c) : Inv (step c e) := by
  cases e with
  | dump w => exact inv_stepDump hI w
  | upd t => exact inv_stepMut hI t

theorem inv_run {c : Conf} (hI : Inv c) (sched : List Ev) : Inv (run c sched) :=
  Lemmas.Fold.foldl_inv inv_step sched c hI

theorem step_progs (c : Conf) (e : Ev) : (step c e).prog = c.prog ∧ (step c e).setp = c.setp := by
  cases e with
  | dump w =>
    simp only [step, stepDump]
    split <;> (try split) <;> exact ⟨rfl, rfl⟩
  | upd t =>
    simp only [step, stepMut]
    split <;> (try split) <;> exact ⟨rfl, rfl⟩

theorem run_progs (c : Conf) (sched : List Ev) : (run c sched).prog = c.prog ∧ (run c sched).setp = c.setp :=
  Lemmas.Fold.foldl_inv (P := fun d => d.prog = c.prog ∧ d.setp = c.setp)
    (fun d e h => ⟨(step_progs d e).1.trans h.1, (step_progs d e).2.trans h.2⟩) sched c ⟨rfl, rfl⟩

/-- between two rounds, with no mutator inside a request: a file that is behind has a raised flag -/
theorem behind_flag {c : Conf} (hI : Inv c) (hd : c.d.rest = .done) (hm : ∀ t, c.m t = .idle) :
    c.file = c.live ∨ c.flag = 1 := by
  obtain ⟨a, ha, ho⟩ := hI.dump
  rw [hd] at ha
  have := disc_done ha; subst this
  rcases ho.1 with h | h
  · exact Or.inl h
  · rcases h with h | ⟨t, p, ht, _⟩
    · exact Or.inr h
    · rw [hm t] at ht; cases ht

/-- what a quiet continuation of a round does, stated on the concrete machine -/
def QuietSpec (p : Prog) (c c' : Conf) : Prop :=
  c'.d.rest = .done ∧ c'.live = c.live ∧
  (c'.file == c'.live) = (quiet p c.flag ((c.file == c.live)) c.d.content.isSome).2

theorem run_cons (c : Conf) (e : Ev) (r : List Ev) : run c (e :: r) = run (step c e) r := rfl

theorem quiet_run (p : Prog) : ∀ (c : Conf), c.d.rest = p → (c.d.content = none ∨ c.d.content = some c.live) →
    QuietSpec p c (run c (List.replicate (quietLen p c.flag) (.dump true))) := by
  induction p with
  | done =>
    intro c hr _
    simp [quietLen, run, QuietSpec, quiet, hr]
  | cas o n t f iht ihf =>
    intro c hr hc
    simp only [quietLen, List.replicate_succ, run_cons, step, stepDump, hr, QuietSpec, quiet]
    split
    · exact iht { c with flag := n, d := { c.d with rest := t } } rfl hc
    · exact ihf { c with d := { c.d with rest := f } } rfl hc
  | load v t f iht ihf =>
    intro c hr hc
    simp only [quietLen, List.replicate_succ, run_cons, step, stepDump, hr, QuietSpec, quiet]
    split
    · exact iht { c with d := { c.d with rest := t } } rfl hc
    · exact ihf { c with d := { c.d with rest := f } } rfl hc
  | store v k ih =>
    intro c hr hc
    simp only [quietLen, List.replicate_succ, run_cons, step, stepDump, hr, QuietSpec, quiet]
    exact ih { c with flag := v, d := { c.d with rest := k } } rfl hc
  | snapshot k ih =>
    intro c hr hc
    simp only [quietLen, List.replicate_succ, run_cons, step, stepDump, hr, QuietSpec, quiet]
    exact ih { c with d := ⟨k, some c.live⟩ } rfl (Or.inr rfl)
  | write t f iht _ =>
    intro c hr hc
    simp only [quietLen, List.replicate_succ, run_cons, step, stepDump, hr, if_true]
    have := iht { c with file := c.d.content.getD c.file, d := { c.d with rest := t } } rfl hc
    rcases hc with hc | hc
    · simpa only [QuietSpec, quiet, hc, Option.getD_none, Option.isSome_none, Bool.false_or] using this
    · simpa only [QuietSpec, quiet, hc, Option.getD_some, Option.isSome_some, Bool.true_or, beq_self_eq_true] using this

/-- after any reachable state in which the dumper is between two rounds and no mutator is inside a request: one more round
without a further update and with a successful write leaves the file current. -/
theorem quiet_round_current {c : Conf} (hI : Inv c) (hq : quietOk c.prog = true) (hd : c.d.rest = .done)
    (hm : ∀ t, c.m t = .idle) :
    (run c (.dump true :: List.replicate (quietLen c.prog c.flag) (.dump true))).file =
      (run c (.dump true :: List.replicate (quietLen c.prog c.flag) (.dump true))).live ∧
    (run c (.dump true :: List.replicate (quietLen c.prog c.flag) (.dump true))).d.rest = .done ∧
    (run c (.dump true :: List.replicate (quietLen c.prog c.flag) (.dump true))).live = c.live := by
  have hstart : step c (.dump true) = { c with d := ⟨c.prog, none⟩ } := by
    simp only [step, stepDump, hd]
  rw [run_cons, hstart]
  obtain ⟨h1, h2, h7⟩ := quiet_run c.prog { c with d := ⟨c.prog, none⟩ } rfl (Or.inl rfl)
  refine ⟨eq_of_beq ?_, h1, h2⟩
  rw [h7]
  show (quiet c.prog c.flag (c.file == c.live) false).2 = true
  -- flag and "file is current" are in one of the three starts `quietOk` checks
  simp only [quietOk, Bool.and_eq_true] at hq
  obtain ⟨⟨q1, q2⟩, q3⟩ := hq
  rcases behind_flag hI hd hm with hf | hf
  · rw [beq_iff_eq.mpr hf]
    rcases hI.flagBin with h0 | h1'
    · rw [h0]; exact q3
    · rw [h1']; exact q2
  · rw [hf]
    cases (c.file == c.live)
    · exact q1
    · exact q2

end MosnVerif.Model.DumpProto
