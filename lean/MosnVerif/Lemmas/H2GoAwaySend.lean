import MosnVerif.Model.H2GoAwaySend
import MosnVerif.Lemmas.Flow
/-! The graceful GOAWAY is transparent for the send side: under the regenerated go-away tests of the frame handlers an
event list drives the flow-control state exactly as the flow model's schedule without the go-away does (only new
streams are refused). -/
namespace MosnVerif.Lemmas.H2GoAwaySend
open MosnVerif.Gen.H2GoAway MosnVerif.Model MosnVerif.Model.H2GoAwaySend

/-- after a graceful GOAWAY WINDOW_UPDATE frames are still processed -/
theorem wu_graceful (g : Bool) : windowUpdateIgnored g gracefulCode = false := by
  cases g <;> decide

/-- … SETTINGS are still applied and acknowledged -/
theorem settings_graceful (g : Bool) : settingsIgnored g gracefulCode = false := by
  cases g <;> decide

/-- … PING is still answered -/
theorem ping_graceful (g : Bool) : pingIgnored g gracefulCode = false := by
  cases g <;> decide

/-- a new stream (next odd id) is refused exactly when a GOAWAY has been sent -/
theorem open_rule (g : Bool) (n : Nat) :
    headersIgnored g gracefulCode (2 * (n : Int) + 1) (2 * (n : Int) - 1) = g := by
  have h : (2 * (n : Int) + 1 > 2 * (n : Int) - 1) := by omega
  cases g <;> simp [headersIgnored, gracefulCode, ErrCodeNo, h]

theorem flow_run_closed (f : Flow.St) (ls : List Flow.Label) (h : f.closed = true) : Flow.run f ls = f :=
  Fold.foldl_inv (P := (· = f)) (fun _ l hs => hs ▸ Lemmas.Flow.step_closed f l h) ls f rfl

theorem flow_run_cons (f : Flow.St) (l : Flow.Label) (r : List Flow.Label) :
    Flow.run f (l :: r) = Flow.run (Flow.step f l) r := rfl

/-- the go-away part of the state agrees with the flag `g` the schedule extraction carries -/
def Agree (s : St) (g : Bool) : Prop := s.code = gracefulCode ∧ (s.flow.closed = true ∨ s.inGoAway = g)

theorem agree_initial : Agree St.initial false := ⟨by decide, Or.inr rfl⟩

theorem graceful_flow (s : St) : (graceful s).flow = s.flow := by
  simp only [graceful]; split <;> (try split) <;> rfl

theorem graceful_agree (s : St) (g : Bool) (h : Agree s g) : Agree (graceful s) true := by
  obtain ⟨hc, hg⟩ := h
  simp only [graceful]
  split
  · rename_i hcl; exact ⟨hc, Or.inl hcl⟩
  · split
    · rename_i h2
      refine ⟨hc, Or.inr ?_⟩
      simp only [goAwayOnce, Bool.true_and] at h2
      exact h2
    · exact ⟨rfl, Or.inr rfl⟩

/-- after a graceful GOAWAY (and before any) a flow label — sender pass, WINDOW_UPDATE, SETTINGS — moves the flow state
exactly as in the flow model and leaves the go-away state alone -/
theorem step_flow (s : St) (l : Flow.Label) (hc : s.code = gracefulCode) :
    (step s (.flow l)).flow = Flow.step s.flow l ∧ (step s (.flow l)).code = s.code ∧
      (step s (.flow l)).inGoAway = s.inGoAway := by
  simp only [step, stepWith, codeRules, hc, wu_graceful, settings_graceful, Bool.or_false, Bool.false_eq_true, if_false]
  by_cases hw : isWu l = true
  · rw [if_pos hw]; exact ⟨rfl, rfl, rfl⟩
  rw [if_neg hw]
  by_cases hs : isSettings l = true
  · rw [if_pos hs]
    by_cases hcl : s.flow.closed = true
    · rw [if_pos hcl]; exact ⟨(Lemmas.Flow.step_closed _ l hcl).symm, hc, rfl⟩
    · rw [if_neg hcl]; exact ⟨rfl, rfl, rfl⟩
  · rw [if_neg hs]; exact ⟨rfl, rfl, rfl⟩

/-- one event: the flow state moves by the extracted labels, the agreement is kept -/
theorem step_transparent (s : St) (g : Bool) (e : Ev) (h : Agree s g) :
    (step s e).flow = Flow.run s.flow (labelsFrom g [e]) ∧
    Agree (step s e) (match e with | .shutdown => true | .peerGoAway => true | _ => g) := by
  obtain ⟨hc, hg⟩ := h
  cases e with
  | shutdown => exact ⟨graceful_flow s, graceful_agree s g ⟨hc, hg⟩⟩
  | peerGoAway =>
    have : peerGoAwayStartsGraceful = true := by decide
    simp only [step, stepWith, this, if_true]
    exact ⟨graceful_flow s, graceful_agree s g ⟨hc, hg⟩⟩
  | ping =>
    simp only [step, stepWith]
    split <;> exact ⟨rfl, hc, hg⟩
  | priority => exact ⟨rfl, hc, hg⟩
  | «open» len =>
    simp only [step, stepWith, labelsFrom, hc]
    rcases hg with hcl | hg
    · -- closed connection: nothing moves either way
      split <;> split <;> simp [Flow.run, Lemmas.Flow.step_closed _ _ hcl, Agree, hc, hcl]
    · rw [hg, open_rule g s.flow.count]
      cases g <;> simp [Flow.run, Agree, hc, hg]
  | flow l =>
    have key := step_flow s l hc
    refine ⟨by rw [key.1]; rfl, by rw [key.2.1]; exact hc, ?_⟩
    rcases hg with hcl | hg
    · left; rw [key.1, Lemmas.Flow.step_closed _ _ hcl]; exact hcl
    · right; rw [key.2.2]; exact hg

theorem labelsFrom_cons (g : Bool) (e : Ev) (r : List Ev) :
    labelsFrom g (e :: r) = labelsFrom g [e] ++ labelsFrom (match e with | .shutdown => true | .peerGoAway => true | _ => g) r := by
  cases e <;> simp [labelsFrom] <;> split <;> simp

/-- **transparency**: for every event list the flow state reached is the flow model's state under the extracted schedule -/
theorem run_transparent (evs : List Ev) (s : St) (g : Bool) (h : Agree s g) :
    (run s evs).flow = Flow.run s.flow (labelsFrom g evs) := by
  induction evs generalizing s g with
  | nil => rfl
  | cons e r ih =>
    have hs := step_transparent s g e h
    show (run (step s e) r).flow = _
    rw [ih (step s e) _ hs.2, labelsFrom_cons, Lemmas.Flow.run_append, hs.1]

theorem run_agree (evs : List Ev) (s : St) (g : Bool) (h : Agree s g) : ∃ g', Agree (run s evs) g' :=
  Fold.foldl_inv (P := fun s => ∃ g, Agree s g) (fun s e ⟨g, h⟩ => ⟨_, (step_transparent s g e h).2⟩) evs s ⟨g, h⟩

theorem labelsFrom_wf (evs : List Ev) (g : Bool) (hw : ∀ e ∈ evs, e.wf = true) : ∀ l ∈ labelsFrom g evs, l.wf = true := by
  induction evs generalizing g with
  | nil => intro l hl; simp [labelsFrom] at hl
  | cons e r ih =>
    intro l hl
    rw [labelsFrom_cons] at hl
    rcases List.mem_append.mp hl with h1 | h2
    · -- the one event contributes at most its own label
      have he := hw e List.mem_cons_self
      cases e with
      | «open» len => cases g <;> simp [labelsFrom] at h1; subst h1; rfl
      | flow l' => simp [labelsFrom] at h1; subst h1; exact he
      | _ => simp [labelsFrom] at h1
    · exact ih _ (fun e' he' => hw e' (List.mem_cons_of_mem _ he')) l h2

end MosnVerif.Lemmas.H2GoAwaySend
