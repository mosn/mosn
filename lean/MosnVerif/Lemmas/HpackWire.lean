import MosnVerif.Lemmas.HpackInt
import MosnVerif.Model.HpackTable
/-! What the wire round trip of HPACK literal representations (RFC 7541 §6) rests on: a string written without Huffman
coding is read back, the first byte of a literal selects its parser, and the bytes `serialize` writes for a literal. -/
namespace MosnVerif.Lemmas.HpackWire
open MosnVerif.Model.HpackTable MosnVerif.Model.HpackInt MosnVerif.Lemmas.HpackInt MosnVerif.Model

/-- the string is written as a plain literal (Huffman would not be strictly shorter) -/
def NoHuff (s : Bytes) : Prop := ¬ (Huffman.encodeLen s < s.length) ∧ s.length < 2 ^ 63 + 127

theorem appendString_plain (s : Bytes) (h : NoHuff s) : appendString s = appendStringPlain s := by
  simp only [appendString, appendStringPlain, h.1, if_false]

theorem readString_plain (s rest : Bytes) (h : NoHuff s) : readString 0 (appendString s ++ rest) = .ok (s, rest) := by
  rw [appendString_plain s h]
  simp only [readString, string_roundtrip' s rest 0 h.2 (Or.inl rfl)]
  rfl

theorem kind_bits (k : LitKind) : k.typeByte % 2 ^ k.prefixBits = 0 ∧ k.typeByte < 256 ∧ 4 ≤ k.prefixBits ∧ k.prefixBits ≤ 6 := by
  cases k <;> simp [LitKind.typeByte, LitKind.prefixBits]

/-- dispatch of `parseHeaderFieldRepr` on the first byte of a literal representation -/
theorem dispatch_literal (k : LitKind) (b : UInt8) (tl : Bytes) (h1 : k.typeByte ≤ b.toNat)
    (h2 : b.toNat < k.typeByte + 2 ^ k.prefixBits) :
    parseOne 0 (b :: tl) = parseLiteral 0 k (b :: tl) := by
  simp only [parseOne]
  cases k <;> simp only [LitKind.typeByte, LitKind.prefixBits] at h1 h2
  · have c1 : ¬ (b.toNat / 128 % 2 = 1) := by omega
    have c2 : b.toNat / 64 = 1 := by omega
    simp only [c1, c2, if_true, if_false]
  · have c1 : ¬ (b.toNat / 128 % 2 = 1) := by omega
    have c2 : ¬ (b.toNat / 64 = 1) := by omega
    have c3 : b.toNat / 16 = 0 := by omega
    simp only [c1, c2, c3, if_true, if_false]
  · have c1 : ¬ (b.toNat / 128 % 2 = 1) := by omega
    have c2 : ¬ (b.toNat / 64 = 1) := by omega
    have c4 : b.toNat / 16 = 1 := by omega
    simp only [c1, c2, c4, if_true, if_false, Nat.one_ne_zero]

/-- a literal with a new name starts with the index 0 written as a prefix integer, like one with an indexed name -/
theorem serialize_literal (k : LitKind) (idx : Nat) (name value : Bytes) :
    serialize (.literal k idx name value) =
      orFirst k.typeByte (appendVarInt k.prefixBits idx) ++ ((if idx = 0 then appendString name else []) ++ appendString value) := by
  cases idx with
  | zero =>
    have h1 : 1 < 2 ^ k.prefixBits := Nat.one_lt_two_pow (by have := (kind_bits k).2.2.1; omega)
    have : appendVarInt k.prefixBits 0 = [UInt8.ofNat 0] := by unfold appendVarInt; exact if_pos (by omega)
    simp [serialize, this, orFirst]
  | succ i => simp [serialize]

end MosnVerif.Lemmas.HpackWire
