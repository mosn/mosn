import MosnVerif.Model.FramingS
import MosnVerif.Lemmas.Framing
/-! segmentation independence for state-carrying decoders (core Lean only) -/
namespace MosnVerif.Model.FramingS
open MosnVerif.Model.Framing

variable {F σ : Type}

theorem SStable.of_final {d : σ → Bytes → Step (F × σ)} (pos : ∀ s p f n, d s p = .frame f n → 0 < n ∧ n ≤ p.length)
    (final : ∀ s, Final .needMore (d s)) : SStable d :=
  ⟨pos, fun s _ _ _ e hp => (final s).ext hp nofun e, fun s _ e hp => (final s).ext hp nofun e⟩

theorem sdrain_fuel (d : σ → Bytes → Step (F × σ)) (hs : SStable d) :
    ∀ (f1 f2 : Nat) (s : σ) (b : Bytes), b.length < f1 → b.length < f2 → sdrain d f1 s b = sdrain d f2 s b := by
  intro f1
  induction f1 with
  | zero => intro f2 s b h; omega
  | succ k ih =>
    intro f2 s b h1 h2
    cases f2 with
    | zero => omega
    | succ k2 =>
      unfold sdrain
      cases hstep : d s b with
      | needMore => rfl
      | error => rfl
      | frame fs n =>
        obtain ⟨f, s'⟩ := fs
        have ⟨hn0, hnl⟩ := hs.pos s b (f, s') n hstep
        have hl : (b.drop n).length < k := by simp [List.length_drop]; omega
        have hl2 : (b.drop n).length < k2 := by simp [List.length_drop]; omega
        simp only [ih k2 s' (b.drop n) hl hl2]

def sdrainAll (d : σ → Bytes → Step (F × σ)) (s : σ) (b : Bytes) : List F × Bytes × Bool × σ :=
  sdrain d (b.length + 1) s b

theorem sdrainAll_needMore (d : σ → Bytes → Step (F × σ)) (s : σ) (b : Bytes) (h : d s b = .needMore) :
    sdrainAll d s b = ([], b, false, s) := by
  simp [sdrainAll, sdrain, h]

theorem sdrainAll_error (d : σ → Bytes → Step (F × σ)) (s : σ) (b : Bytes) (h : d s b = .error) :
    sdrainAll d s b = ([], b, true, s) := by
  simp [sdrainAll, sdrain, h]

theorem sdrainAll_frame (d : σ → Bytes → Step (F × σ)) (hs : SStable d) (s s' : σ) (b : Bytes) (f : F) (n : Nat)
    (h : d s b = .frame (f, s') n) :
    sdrainAll d s b = (f :: (sdrainAll d s' (b.drop n)).1, (sdrainAll d s' (b.drop n)).2) := by
  have ⟨hn0, hnl⟩ := hs.pos s b (f, s') n h
  have hl : (b.drop n).length < b.length := by simp [List.length_drop]; omega
  have := sdrain_fuel d hs b.length ((b.drop n).length + 1) s' (b.drop n) hl (by omega)
  unfold sdrainAll
  rw [sdrain]
  simp only [h, this]

theorem sdrainAll_append (d : σ → Bytes → Step (F × σ)) (hs : SStable d) (s : σ) (b e : Bytes) :
    sdrainAll d s (b ++ e) =
      if (sdrainAll d s b).2.2.1 then ((sdrainAll d s b).1, (sdrainAll d s b).2.1 ++ e, true, (sdrainAll d s b).2.2.2)
      else ((sdrainAll d s b).1 ++ (sdrainAll d (sdrainAll d s b).2.2.2 ((sdrainAll d s b).2.1 ++ e)).1,
            (sdrainAll d (sdrainAll d s b).2.2.2 ((sdrainAll d s b).2.1 ++ e)).2) := by
  induction hk : b.length using Nat.strongRecOn generalizing s b with
  | _ k ih =>
    cases hstep : d s b with
    | needMore => simp [sdrainAll_needMore d s b hstep]
    | error =>
      rw [sdrainAll_error d s b hstep, sdrainAll_error d s (b ++ e) (hs.errExt s b e hstep)]
      simp
    | frame fs n =>
      obtain ⟨f, s'⟩ := fs
      have ⟨hn0, hnl⟩ := hs.pos s b (f, s') n hstep
      have hext := hs.ext s b (f, s') n e hstep
      have hdrop : (b ++ e).drop n = b.drop n ++ e := List.drop_append_of_le_length hnl
      rw [sdrainAll_frame d hs s s' (b ++ e) f n hext, hdrop,
        ih (b.drop n).length (by rw [List.length_drop]; omega) s' (b.drop n) rfl, sdrainAll_frame d hs s s' b f n hstep]
      by_cases hf : (sdrainAll d s' (b.drop n)).2.2.1 <;> simp [hf]

theorem sfeed_eq (d : σ → Bytes → Step (F × σ)) (c : SConn F σ) (x : Bytes) :
    sfeed d c x = if c.failed then { c with buf := c.buf ++ x } else
      { buf := (sdrainAll d c.st (c.buf ++ x)).2.1, out := c.out ++ (sdrainAll d c.st (c.buf ++ x)).1,
        failed := (sdrainAll d c.st (c.buf ++ x)).2.2.1, st := (sdrainAll d c.st (c.buf ++ x)).2.2.2 } := rfl

theorem sfeed_sfeed (d : σ → Bytes → Step (F × σ)) (hs : SStable d) (c : SConn F σ) (x y : Bytes) :
    sfeed d (sfeed d c x) y = sfeed d c (x ++ y) := by
  by_cases hc : c.failed
  · simp [sfeed_eq, hc]
  · have hx := sdrainAll_append d hs c.st (c.buf ++ x) y
    rw [sfeed_eq d c x, sfeed_eq d c (x ++ y)]
    simp only [hc, Bool.false_eq_true, ↓reduceIte]
    rw [← List.append_assoc, hx, sfeed_eq]
    by_cases hf : (sdrainAll d c.st (c.buf ++ x)).2.2.1
    · simp [hf]
    · simp [hf]

/-- a decoder that asks for more data on the empty buffer (every real one does) -/
theorem srun_eq_sfeed (d : σ → Bytes → Step (F × σ)) (hs : SStable d) (s0 : σ) (h0 : d s0 [] = .needMore)
    (chunks : List Bytes) :
    srun d s0 chunks = sfeed d { buf := [], out := [], failed := false, st := s0 } chunks.flatten := by
  cases chunks with
  | nil => simp [srun, sfeed_eq, sdrainAll_needMore d s0 [] h0]
  | cons x xs => simp only [srun, List.foldl_cons, List.flatten_cons]; exact foldl_act (sfeed_sfeed d hs) xs _ x

end MosnVerif.Model.FramingS
