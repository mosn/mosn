import MosnVerif.Lemmas.Fold
/-! Thread tables `Nat → Thread` with one entry replaced: the frame fact every schedule machine uses (a schedule is a
fold: `Lemmas/Fold`). Each model's `setThread th t v` unfolds to `fun u => if u = t then v else th u`. -/
namespace MosnVerif.Lemmas.Threads

/-- `m`, `m'`: the shared state before and after a step of thread `t`, whose new entry is `v` -/
theorem forall_set {σ α : Type} {Ok : σ → α → Prop} {m m' : σ} {th : Nat → α} (mono : ∀ x, Ok m x → Ok m' x)
    (h : ∀ u, Ok m (th u)) (t : Nat) {v : α} (hv : Ok m' v) (u : Nat) : Ok m' (if u = t then v else th u) := by
  by_cases hu : u = t
  · rw [if_pos hu]; exact hv
  · rw [if_neg hu]; exact mono _ (h u)

end MosnVerif.Lemmas.Threads
