import MosnVerif.Model.H2GoAway
/-! Lemmas for the HTTP/2 part of C11: a stream that is in the stream table when the graceful GOAWAY goes out keeps
receiving its DATA frames and trailers, whatever else happens on the connection. -/
namespace MosnVerif.Lemmas.H2GoAway
open MosnVerif.Gen.H2GoAway MosnVerif.Model.H2GoAway

/-- after a graceful GOAWAY (and before any) neither `processData` nor `processHeaders` drops a frame — DATA, trailers — of
a stream at or below the last stream id -/
theorem kept_inflight (g : Bool) (code : Int) (id m : Nat) (h1 : g = true → code = gracefulCode) (h2 : id ≤ m) :
    dataDiscarded g code id m = false ∧ headersIgnored g code id m = false := by
  cases g
  · simp [dataDiscarded, headersIgnored]
  · have := h1 rfl; subst this
    simp [dataDiscarded, headersIgnored, gracefulCode, ErrCodeNo]; omega

theorem headersStale_eq_false (j m : Nat) : headersStale j m = false ↔ m < j := by
  simp [headersStale]

theorem headersIgnored_noGoAway (code : Int) (id m : Nat) : headersIgnored false code id m = false := by
  simp [headersIgnored]

/-- a new stream is never opened once a GOAWAY was sent (its id would have to exceed every earlier one) -/
theorem headersIgnored_new (code : Int) (id m : Nat) (h : headersStale id m = false) :
    headersIgnored true code id m = true := by
  have := (headersStale_eq_false id m).1 h
  simp [headersIgnored]; omega

/-- after a GOAWAY every frame of a stream above the last stream id is dropped -/
theorem discarded_above (code : Int) (j m : Nat) (h : m < j) :
    headersIgnored true code j m = true ∧ dataDiscarded true code j m = true ∧ rstDiscarded true code j m = true := by
  refine ⟨?_, ?_, ?_⟩
  · simp [headersIgnored]; omega
  · simp [dataDiscarded]; omega
  · simp [rstDiscarded]; omega

theorem goAway_dead (c : Conn) (code : Int) : (goAway c code).1.dead = c.dead := by
  unfold goAway; split <;> rfl

theorem connError_dead (c : Conn) (code : Int) : (connError c code).1.dead = true := rfl

theorem step_dead (r : Rule) (c : Conn) (e : Ev) (h : c.dead = true) : stepWith r c e = (c, []) := by
  cases e <;> simp [stepWith, h]

theorem run_dead (r : Rule) (c : Conn) (evs : List Ev) (h : c.dead = true) : (runWith r c evs).1.dead = true := by
  induction evs with
  | nil => exact h
  | cons e t ih => simp only [runWith, step_dead r c e h]; exact ih

theorem run_cons (c : Conn) (e : Ev) (t : List Ev) :
    run c (e :: t) = ((run (step c e).1 t).1, (step c e).2 ++ (run (step c e).1 t).2) := rfl

theorem getS_setS_ne (c : Conn) (i j : Nat) (st : Strm) (h : i ≠ j) : getS (setS c j st) i = getS c i := by
  simp [getS, setS, h]
theorem getS_setS_eq (c : Conn) (i : Nat) (st : Strm) : getS (setS c i st) i = some st := by
  simp [getS, setS]
theorem getS_delS_ne (c : Conn) (i j : Nat) (h : i ≠ j) : getS (delS c j) i = getS c i := by
  simp [getS, delS, h]

theorem streamError_other (c : Conn) (i j : Nat) (code : Int) (h : i ≠ j) :
    getS (streamError c j code).1 i = getS c i ∧ (streamError c j code).1.maxId = c.maxId ∧
    (streamError c j code).1.inGoAway = c.inGoAway ∧ (streamError c j code).1.code = c.code ∧
    (streamError c j code).1.dead = c.dead := by
  unfold streamError
  split
  · exact ⟨getS_delS_ne c i j h, rfl, rfl, rfl, rfl⟩
  · exact ⟨rfl, rfl, rfl, rfl, rfl⟩

/-- what an in-flight stream needs from the connection -/
structure Keeps (c : Conn) (id : Nat) (st : Strm) : Prop where
  alive : c.dead = false
  strm : getS c id = some st
  max : id ≤ c.maxId
  graceful : c.inGoAway = true → c.code = gracefulCode

theorem keeps_setS (c : Conn) (id j : Nat) (st x : Strm) (hk : Keeps c id st) (h : id ≠ j) : Keeps (setS c j x) id st :=
  ⟨hk.alive, by rw [getS_setS_ne c id j x h]; exact hk.strm, hk.max, hk.graceful⟩

theorem keeps_delS (c : Conn) (id j : Nat) (st : Strm) (hk : Keeps c id st) (h : id ≠ j) : Keeps (delS c j) id st :=
  ⟨hk.alive, by rw [getS_delS_ne c id j h]; exact hk.strm, hk.max, hk.graceful⟩

theorem keeps_streamError (c : Conn) (id j : Nat) (st : Strm) (code : Int) (hk : Keeps c id st) (h : id ≠ j) :
    Keeps (streamError c j code).1 id st := by
  unfold streamError
  split
  · exact keeps_delS c id j st hk h
  · exact hk

/-- an outcome that closes the connection or leaves an in-flight stream as it is -/
def Harmless (id : Nat) (st : Strm) (r : Conn × List Out) : Prop := r.1.dead = true ∨ Keeps r.1 id st

theorem Harmless.ite {id : Nat} {st : Strm} {p : Prop} [Decidable p] {a b : Conn × List Out}
    (ha : Harmless id st a) (hb : Harmless id st b) : Harmless id st (if p then a else b) := by
  split
  · exact ha
  · exact hb

/-- frames of other streams and the shutdown itself are harmless: every exit of `step` is `c` unchanged, a connection
error, a stream error on the other stream, or an update of the other stream's table entry -/
theorem harmless_other (c : Conn) (id : Nat) (st : Strm) (e : Ev) (hk : Keeps c id st) (ho : e.other id = true) :
    Harmless id st (step c e) := by
  have h1 := hk.alive
  have keep : Harmless id st (c, []) := Or.inr hk
  have dead (code : Int) : Harmless id st (connError c code) := Or.inl rfl
  have serr {j : Nat} (code : Int) (hj : id ≠ j) : Harmless id st (streamError c j code) :=
    Or.inr (keeps_streamError c id j st code hk hj)
  cases e with
  | shutdown =>
    simp only [step, stepWith, h1, Bool.false_eq_true, if_false, goAway]
    exact .ite keep (Or.inr ⟨rfl, hk.strm, hk.max, fun _ => rfl⟩)
  | headers j es decl =>
    have hj : id ≠ j := (bne_iff_ne.1 ho).symm
    simp only [step, stepWith, h1, Bool.false_eq_true, if_false]
    refine .ite keep (.ite (dead _) ?_)
    cases hg : getS c j with
    | some stj =>   -- [c08l9]
      exact .ite (serr _ hj) (.ite (dead _) (.ite (serr _ hj) (Or.inr (keeps_setS c id j st _ hk hj))))
    | none =>
      simp only []
      by_cases hst : headersStale j c.maxId = true
      · rw [if_pos hst]; exact dead _
      · rw [if_neg hst]
        have hlt := (headersStale_eq_false j c.maxId).1 (by simpa using hst)
        exact Or.inr ⟨h1, (getS_setS_ne c id j _ hj).trans hk.strm, Nat.le_trans hk.max (Nat.le_of_lt hlt), hk.graceful⟩
  | data j len es =>
    have hj : id ≠ j := (bne_iff_ne.1 ho).symm
    simp only [step, stepWith, h1, Bool.false_eq_true, if_false]
    refine .ite keep ?_
    cases hg : getS c j with
    | none => exact .ite (serr _ hj) (dead _)
    | some stj => exact .ite (serr _ hj) (.ite (serr _ hj) (Or.inr (keeps_setS c id j st _ hk hj)))
  | rst j =>
    have hj : id ≠ j := (bne_iff_ne.1 ho).symm
    simp only [step, stepWith, h1, Bool.false_eq_true, if_false]
    refine .ite keep ?_
    cases hg : getS c j with
    | some stj => exact Or.inr (keeps_delS c id j st hk hj)
    | none => exact .ite keep (dead _)

/-- a DATA frame of an in-flight open stream, within its declared length, is accounted; END_STREAM delivers the request -/
theorem data_inflight (c : Conn) (id k len : Nat) (decl : Option Nat) (es : Bool)
    (hk : Keeps c id ⟨id, false, k, decl, false⟩) (hd : ∀ d, decl = some d → k + len ≤ d) :
    step c (.data id len es) =
      (setS c id ⟨id, es, k + len, decl, false⟩, if es then [Out.deliver id (k + len)] else []) := by
  obtain ⟨h1, h2, h3, h4⟩ := hk
  have hnd := (kept_inflight c.inGoAway c.code id c.maxId h4 h3).1
  simp only [step, stepWith, h1, Bool.false_eq_true, if_false, hnd, h2, Bool.or_self]
  have : overDecl decl (k + len) = false := by
    cases decl with
    | none => rfl
    | some d => have := hd d rfl; simp [overDecl]; omega
  rw [this]; rfl

/-- the trailers of an in-flight open stream end it and deliver the request -/
theorem trailers_inflight (c : Conn) (id k : Nat) (decl : Option Nat) (hodd : id % 2 = 1)
    (hk : Keeps c id ⟨id, false, k, decl, false⟩) :
    step c (.headers id true none) = (setS c id ⟨id, true, k, decl, true⟩, [Out.deliver id k]) := by
  obtain ⟨h1, h2, h3, h4⟩ := hk
  have hni := (kept_inflight c.inGoAway c.code id c.maxId h4 h3).2
  simp [step, stepWith, h1, hni, hodd, h2]

/-- the next frame of an in-flight stream either continues its body, or ends the request: then the request is delivered
with its complete body, the connection stays open and no frame of the stream is left -/
theorem own_frame (c : Conn) (id k : Nat) (decl : Option Nat) (tr : Bool) (hodd : id % 2 = 1) (e : Ev) (rest : List Ev)
    (chunks : List Nat) (hk : Keeps c id ⟨id, false, k, decl, false⟩) (hp : e :: rest = bodyFrames id tr chunks)
    (hdecl : ∀ d, decl = some d → k + chunks.sum ≤ d) :
    (∃ a r, chunks = a :: r ∧ rest = bodyFrames id tr r ∧ (tr = true ∨ r ≠ []) ∧
      Keeps (step c e).1 id ⟨id, false, k + a, decl, false⟩) ∨
    (rest = [] ∧ (step c e).1.dead = false ∧ (step c e).2 = [Out.deliver id (k + chunks.sum)]) := by
  cases chunks with
  | nil =>
    cases tr with
    | false => simp [bodyFrames] at hp
    | true =>
      simp only [bodyFrames, if_true, List.cons.injEq] at hp
      obtain ⟨rfl, rfl⟩ := hp
      rw [trailers_inflight c id k decl hodd hk]
      exact Or.inr ⟨rfl, hk.alive, by simp⟩
  | cons a r =>
    simp only [bodyFrames, List.cons.injEq] at hp
    obtain ⟨rfl, rfl⟩ := hp
    have hda : ∀ d, decl = some d → k + a ≤ d := by
      intro d hd; have := hdecl d hd; simp only [List.sum_cons] at this; omega
    by_cases hlast : (!tr && r.isEmpty) = true
    · -- END_STREAM on this frame
      simp only [Bool.and_eq_true, Bool.not_eq_true', List.isEmpty_iff] at hlast
      obtain ⟨rfl, rfl⟩ := hlast
      rw [show (!false && ([] : List Nat).isEmpty) = true from rfl, data_inflight c id k a decl true hk hda]
      exact Or.inr ⟨rfl, hk.alive, by simp⟩
    · have hlast' : (!tr && r.isEmpty) = false := by simpa using hlast
      rw [hlast', data_inflight c id k a decl false hk hda]
      refine Or.inl ⟨a, r, rfl, rfl, ?_, hk.alive, getS_setS_eq c id _, hk.max, hk.graceful⟩
      cases tr with
      | true => exact Or.inl rfl
      | false => exact Or.inr fun hr => by subst hr; simp at hlast'

/-- the HEADERS of a new request on a connection that has not sent a GOAWAY open the stream -/
theorem open_step (c : Conn) (id : Nat) (decl : Option Nat) (hd : c.dead = false) (hg : c.inGoAway = false)
    (hodd : id % 2 = 1) (hnone : getS c id = none) (hmax : c.maxId < id) :
    step c (.headers id false decl) = ({ setS c id ⟨id, false, 0, decl, false⟩ with maxId := id }, []) := by
  have hst := (headersStale_eq_false id c.maxId).2 hmax
  simp [step, stepWith, hd, hg, headersIgnored_noGoAway, hodd, hnone, hst]

/-- … and from then on the stream is in flight -/
theorem open_keeps (c : Conn) (id : Nat) (decl : Option Nat) (hd : c.dead = false) (hg : c.inGoAway = false)
    (hodd : id % 2 = 1) (hnone : getS c id = none) (hmax : c.maxId < id) :
    (step c (.headers id false decl)).2 = [] ∧
      Keeps (step c (.headers id false decl)).1 id ⟨id, false, 0, decl, false⟩ := by
  rw [open_step c id decl hd hg hodd hnone hmax]
  exact ⟨rfl, hd, getS_setS_eq c id _, Nat.le_refl _, fun h => nomatch hg.symm.trans h⟩

theorem body_other (id : Nat) (tr : Bool) (l : List Nat) : ∀ e ∈ bodyFrames id tr l, Ev.other id e = false := by
  fun_induction bodyFrames id tr l with
  | case1 => exact List.forall_mem_singleton.2 (bne_self_eq_false id)
  | case2 => exact fun _ h => nomatch h
  | case3 k r ih => exact List.forall_mem_cons.2 ⟨bne_self_eq_false id, ih⟩

theorem shutdown_dead (c : Conn) : (step c .shutdown).1.dead = c.dead := by
  simp only [step, stepWith]
  split
  · rfl
  · exact goAway_dead c gracefulCode

/-- an open connection is closed only by an event that is not a shutdown -/
theorem run_alive_or (evs : List Ev) : ∀ (c : Conn), c.dead = false →
    (run c evs).1.dead = false ∨ ∃ e ∈ evs, e ≠ Ev.shutdown := by
  induction evs with
  | nil => intro c h; exact Or.inl h
  | cons e t ih =>
    intro c h
    by_cases he : e = Ev.shutdown
    · subst he
      rw [run_cons]
      exact (ih _ ((shutdown_dead c).trans h)).imp_right fun ⟨x, hx, hne⟩ => ⟨x, List.mem_cons_of_mem _ hx, hne⟩
    · exact Or.inr ⟨e, List.mem_cons_self .., he⟩

/-- **the walk**: from a state in which stream `id` is open with `k` body bytes, over any event list whose frames of
stream `id` are exactly the rest of its body: the connection is closed only if a frame of ANOTHER stream occurs in the
list, and while it is open the request, once ended, has been delivered with the complete body -/
theorem inflight_walk (id : Nat) (decl : Option Nat) (tr : Bool) (hodd : id % 2 = 1) :
    ∀ (evs : List Ev) (chunks : List Nat) (c : Conn) (k : Nat),
      Keeps c id ⟨id, false, k, decl, false⟩ →
      evs.filter (fun e => !e.other id) = bodyFrames id tr chunks →
      (∀ d, decl = some d → k + chunks.sum ≤ d) →
      ((run c evs).1.dead = true → ∃ e ∈ evs, e.other id = true ∧ e ≠ Ev.shutdown) ∧
      ((run c evs).1.dead = false → (tr = true ∨ chunks ≠ []) → Out.deliver id (k + chunks.sum) ∈ (run c evs).2) := by
  intro evs
  induction evs with
  | nil =>
    intro chunks c k hk hp _
    refine ⟨fun hd => (nomatch hk.alive.symm.trans hd), fun _ hend => ?_⟩
    cases chunks with
    | nil =>
      rcases hend with h | h
      · subst h; simp [bodyFrames] at hp
      · exact absurd rfl h
    | cons a r => simp [bodyFrames] at hp
  | cons e t ih =>
    intro chunks c k hk hp hdecl
    rw [run_cons]
    by_cases ho : e.other id = true
    · have hp' : t.filter (fun e => !e.other id) = bodyFrames id tr chunks := by
        simpa [List.filter_cons, ho] using hp
      rcases harmless_other c id _ e hk ho with hd | hk'
      · -- a frame of another stream closed the connection (a shutdown never does)
        refine ⟨fun _ => ⟨e, List.mem_cons_self .., ho, fun he => ?_⟩, fun ha => nomatch ha.symm.trans (run_dead _ _ t hd)⟩
        subst he
        exact nomatch hk.alive.symm.trans ((shutdown_dead c).symm.trans hd)
      · obtain ⟨i1, i2⟩ := ih chunks _ k hk' hp' hdecl
        exact ⟨fun hd => (i1 hd).imp fun _ h => ⟨List.mem_cons_of_mem _ h.1, h.2⟩,
          fun ha he => List.mem_append_right _ (i2 ha he)⟩
    · have ho' : e.other id = false := by simpa using ho
      simp only [List.filter_cons, ho', Bool.not_false, if_true] at hp
      rcases own_frame c id k decl tr hodd e _ chunks hk hp hdecl with ⟨a, r, rfl, hr, hend', hk'⟩ | ⟨hnil, halive, hout⟩
      · obtain ⟨i1, i2⟩ := ih r _ (k + a) hk' hr
          (by intro d hd; have := hdecl d hd; simp only [List.sum_cons] at this; omega)
        rw [show k + (a :: r).sum = k + a + r.sum by simp only [List.sum_cons]; omega]
        exact ⟨fun hd => (i1 hd).imp fun _ h => ⟨List.mem_cons_of_mem _ h.1, h.2⟩,
          fun ha _ => List.mem_append_right _ (i2 ha hend')⟩
      · -- the request has ended: only events that do not concern the stream follow
        refine ⟨fun hd => ?_, fun _ _ => List.mem_append_left _ (hout ▸ List.mem_singleton.2 rfl)⟩
        rcases run_alive_or t _ halive with ha | ⟨x, hx, hne⟩
        · exact nomatch ha.symm.trans hd
        · refine ⟨x, List.mem_cons_of_mem _ hx, ?_, hne⟩
          have : x ∉ t.filter (fun e => !e.other id) := hnil ▸ List.not_mem_nil
          simpa [List.mem_filter, hx] using this

/-- a stream begun after the GOAWAY (id above the last stream id) is invisible: its HEADERS, DATA and RST_STREAM
frames change nothing and produce nothing — in particular no connection error -/
theorem refused_stream_step (c : Conn) (e : Ev) (j : Nat) (hg : c.inGoAway = true) (hj : c.maxId < j)
    (he : e.other j = false) : step c e = (c, []) := by
  obtain ⟨h1, h2, h3⟩ := discarded_above c.code j c.maxId hj
  by_cases hd : c.dead = true
  · exact step_dead _ c e hd
  cases e <;> simp [Ev.other] at he <;> subst he <;> simp [step, stepWith, hd, hg, h1, h2, h3]

end MosnVerif.Lemmas.H2GoAway

