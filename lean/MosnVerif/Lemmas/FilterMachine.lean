import MosnVerif.Model.FilterMachine
import MosnVerif.Lemmas.FilterChain
/-! invariants of the downstream phase machine of C14 -/
set_option linter.unusedSimpArgs false
namespace MosnVerif.Model.FilterMachine
open MosnVerif.Gen.FilterPhase MosnVerif.Model.FilterChain

theorem afterPEd_cleaned (c : Cfg) (d : Bool) (s : St) (h : s.cleaned = true) : afterPEd c d s = ret s End := by
  simp [afterPEd, processError, ops, h]

theorem afterPE_cleaned (c : Cfg) (s : St) (h : s.cleaned = true) : afterPE c s = ret s End :=
  afterPEd_cleaned c _ s h

/-- the state `processError` leaves when the pending direct response wins: the local reply is taken, the again-phase
cleared — and the retry state dropped (the regenerated `s.retryState = nil`): a local reply is never retried -/
def consumeDirect (s : St) : St := { s with direct := false, again := InitPhase, rs := none }

/-- `processError` with no upstream reset pending: a pending local reply is taken first (whatever `setupRetry` says), then the
retry flag `d`, then a pending again-phase; with none of these `receive` returns once the response is complete, else goes on -/
theorem afterPEd_noReset (c : Cfg) (d : Bool) (s : St) (hc : s.cleaned = false) (hr : s.upstreamReset = false) :
    afterPEd c d s =
      if s.direct then
        (if c.env.oneway then ret (consumeDirect s) Oneway
         else if s.phase ≠ UpFilter then ret (consumeDirect s) UpFilter
         else { consumeDirect s with phase := s.phase + 1 })
      else if d then ret s Retry
      else if s.again ≠ InitPhase then ret { s with again := InitPhase } s.again
      else if s.procDone then ret s End
      else { s with phase := s.phase + 1 } := by
  simp only [afterPEd, processError, ops, hc, hr, consumeDirect]
  by_cases hd : s.direct = true
  · by_cases ho : c.env.oneway = true <;> by_cases hp : s.phase = UpFilter <;> simp [ho, hp, hd]
  · cases d
    · by_cases ha : s.again = InitPhase <;> by_cases hp : s.procDone = true <;> simp [ha, hp, hd, hr]
    · simp [hd]

/-- `afterPE` follows the phases that do not run `onUpstreamHeaders`: only a pending upstream reset can set `setupRetry` there -/
theorem afterPE_noReset (c : Cfg) (s : St) (hr : s.upstreamReset = false) : afterPE c s = afterPEd c false s := by
  rw [afterPE, hr]; rfl

/-- a pending upstream reset: one-way requests re-enter at `Oneway`; a two-way request is retried when the regenerated
decision on the reset reason fires (`processError` then returns the phase `Retry`), and answered with the error reply
of the reason otherwise -/
theorem afterPE_reset (c : Cfg) (s : St) (hc : s.cleaned = false) (hr : s.upstreamReset = true) :
    afterPE c s =
      if c.env.oneway then ret s Oneway
      else if resetRetry c s then
        (if s.direct then
          (if s.phase ≠ UpFilter then ret (consumeDirect (setRetry s)) UpFilter
           else { consumeDirect (setRetry s) with phase := s.phase + 1 })   -- [proxy7] fix a3a21969e: the response pass goes on
         else ret (setRetry s) Retry)
      else if s.phase ≠ UpFilter then ret (consumeDirect (onUpstreamReset c.env.resetCode s)) UpFilter
      else { consumeDirect (onUpstreamReset c.env.resetCode s) with phase := s.phase + 1 } := by
  simp only [afterPE, afterPEd, processError, ops, hc, hr, consumeDirect]
  by_cases ho : c.env.oneway = true
  · simp [ho, hc, hr]
  by_cases hq : resetRetry c s = true <;> by_cases hp : s.phase = UpFilter <;> by_cases hd : s.direct = true <;>
    simp [ho, hq, hp, hd, hc, hr, onUpstreamReset, setRetry, liftF, sendHijack]

theorem resetRetry_none (c : Cfg) (s : St) (h : s.rs = none) : resetRetry c s = false := by
  simp [resetRetry, h, Gen.RetryState.resetGuard]

theorem headersRetry_none (c : Cfg) (s : St) (h : s.rs = none) : headersRetry c s = false := by
  simp [headersRetry, h, Gen.RetryState.headersGuard]

/-- the states `processError` may leave behind: it took a pending local reply (`consumeDirect`), swung the retry words back
(`setRetry`), answered an upstream reset itself, or cleared the again-phase -/
inductive Taken (c : Cfg) (g : St) : St → Prop
  | same : Taken c g g
  | direct : Taken c g (consumeDirect g)
  | retry : Taken c g (setRetry g)
  | retryDirect : Taken c g (consumeDirect (setRetry g))
  | reset : Taken c g (consumeDirect (onUpstreamReset c.env.resetCode g))
  | again : Taken c g { g with again := InitPhase }

/-- how a `case` ends: `processError` hands a phase back to the task loop (`ret`), or the loop of `receive` goes on -/
inductive PErr (c : Cfg) (g : St) : St → Prop
  | done {x} : Taken c g x → PErr c g (ret x End)
  | oneway {x} : Taken c g x → c.env.oneway = true → PErr c g (ret x Oneway)
  | reply {x} : Taken c g x → x.rs = none → c.env.oneway = false → g.phase ≠ UpFilter →
      g.direct = true ∨ g.upstreamReset = true → PErr c g (ret x UpFilter)
  | retry {x} : Taken c g x → g.rs ≠ none → PErr c g (ret x Retry)
  | again {x} : Taken c g x → x.again = InitPhase → g.again ≠ InitPhase → PErr c g (ret x g.again)
  | next {x} : Taken c g x → (g.direct = true ∨ g.upstreamReset = true → g.phase = UpFilter) →
      PErr c g { x with phase := g.phase + 1 }

theorem afterPEd_perr (c : Cfg) (d : Bool) (g : St) (hr : g.upstreamReset = false) (hrs : d = true → g.rs ≠ none) :
    PErr c g (afterPEd c d g) := by
  by_cases hc : g.cleaned = true
  · rw [afterPEd_cleaned c d g hc]; exact .done .same
  rw [afterPEd_noReset c d g (by simpa using hc) hr]
  by_cases hd : g.direct = true
  · rw [if_pos hd]
    by_cases ho : c.env.oneway = true
    · rw [if_pos ho]; exact .oneway .direct ho
    rw [if_neg ho]
    by_cases hp : g.phase = UpFilter
    · rw [if_neg (not_not_intro hp)]; exact .next .direct fun _ => hp
    · rw [if_pos hp]; exact .reply .direct rfl (by simpa using ho) hp (.inl hd)
  rw [if_neg hd]
  cases d
  · rw [if_neg Bool.noConfusion]
    by_cases ha : g.again = InitPhase
    · rw [if_neg (not_not_intro ha)]
      by_cases hp : g.procDone = true
      · rw [if_pos hp]; exact .done .same
      · rw [if_neg hp]
        exact .next .same fun h => absurd (h.resolve_right (by rw [hr]; exact Bool.noConfusion)) hd
    · rw [if_pos ha]; exact .again .again rfl ha
  · rw [if_pos rfl]; exact .retry .same (hrs rfl)

theorem afterPE_perr (c : Cfg) (g : St) : PErr c g (afterPE c g) := by
  by_cases hr : g.upstreamReset = true
  · by_cases hc : g.cleaned = true
    · rw [afterPE_cleaned c g hc]; exact .done .same
    rw [afterPE_reset c g (by simpa using hc) hr]
    by_cases ho : c.env.oneway = true
    · rw [if_pos ho]; exact .oneway .same ho
    rw [if_neg ho]
    have ho : c.env.oneway = false := by simpa using ho
    by_cases hq : resetRetry c g = true
    · rw [if_pos hq]
      by_cases hd : g.direct = true
      · rw [if_pos hd]
        by_cases hp : g.phase = UpFilter
        · rw [if_neg (not_not_intro hp)]; exact .next .retryDirect fun _ => hp
        · rw [if_pos hp]; exact .reply .retryDirect rfl ho hp (.inr hr)
      · rw [if_neg hd]; exact .retry .retry fun h => by rw [resetRetry_none c g h] at hq; cases hq
    · rw [if_neg hq]
      by_cases hp : g.phase = UpFilter
      · rw [if_neg (not_not_intro hp)]; exact .next .reset fun _ => hp
      · rw [if_pos hp]; exact .reply .reset rfl ho hp (.inr hr)
  · have hr : g.upstreamReset = false := by simpa using hr
    rw [afterPE_noReset c g hr]
    exact afterPEd_perr c false g hr Bool.noConfusion

theorem Taken.ctl {c : Cfg} {g x : St} (h : Taken c g x) :
    x.outer = g.outer ∧ x.inner = g.inner ∧ x.exhausted = g.exhausted ∧ x.retried = g.retried := by
  cases h <;> exact ⟨rfl, rfl, rfl, rfl⟩

theorem Taken.rs_none {c : Cfg} {g x : St} (h : Taken c g x) (hn : g.rs = none) : x.rs = none := by
  cases h <;> first | exact hn | rfl

/-- the retry branch of `UpRecvHeader` -/
theorem retry_perr (c : Cfg) (s : St) (hq : headersRetry c s = true) : PErr c (setRetry s) (afterPEd c true (setRetry s)) :=
  afterPEd_perr c true (setRetry s) rfl (fun _ h => by rw [headersRetry_none c s h] at hq; cases hq)

theorem phaseNums : InitPhase = 0 ∧ DownFilter = 1 ∧ MatchRoute = 2 ∧ DownFilterAfterRoute = 3 ∧ ChooseHost = 4 ∧
    DownFilterAfterChooseHost = 5 ∧ DownRecvHeader = 6 ∧ DownRecvData = 7 ∧ DownRecvTrailer = 8 ∧ Oneway = 9 ∧ Retry = 10 ∧
    WaitNotify = 11 ∧ UpFilter = 12 ∧ sendFilterPhase = 12 ∧ UpRecvHeader = 13 ∧ UpRecvData = 14 ∧ UpRecvTrailer = 15 ∧ End = 16 :=
  ⟨rfl, rfl, rfl, rfl, rfl, rfl, rfl, rfl, rfl, rfl, rfl, rfl, rfl, rfl, rfl, rfl, rfl, rfl⟩

macro "phase_omega" : tactic => `(tactic| (have := phaseNums; omega))

/-- the four ways `receive` hands the phase `p` back: the stream is finished; the finishing pass hands back anything else
(nobody looks at it); `doRetry`; the task loop calls `receive` again -/
theorem ret_cases (s : St) (p : Nat) :
    (p = End ∧ ret s p = { s with halted := true, phase := p }) ∨
    (taskLoopBound < s.outer ∧ ret s p = { s with halted := true, exhausted := true, phase := p }) ∨
    (p = Retry ∧ ret s p = { s with halted := true, retried := true, phase := p }) ∨
    (p ≠ End ∧ p ≠ Retry ∧ s.outer ≤ taskLoopBound ∧ ret s p = { s with phase := p, inner := 0, outer := s.outer + 1 }) := by
  unfold ret
  split
  · exact .inl ⟨‹_›, rfl⟩
  split
  · exact .inr (.inl ⟨‹_›, rfl⟩)
  split
  · exact .inr (.inr (.inl ⟨‹_›, rfl⟩))
  · exact .inr (.inr (.inr ⟨‹_›, ‹_›, Nat.le_of_not_lt ‹_›, rfl⟩))

/-- `ret` writes only the phase, the loop counters of `receive` and the task loop, and the outcome flags of the task -/
theorem ret_form (s : St) (p : Nat) :
    ret s p = { s with halted := (ret s p).halted, exhausted := (ret s p).exhausted, retried := (ret s p).retried, phase := p,
                       inner := (ret s p).inner, outer := (ret s p).outer } := by
  rcases ret_cases s p with ⟨_, e⟩ | ⟨_, e⟩ | ⟨_, e⟩ | ⟨_, _, _, e⟩ <;> rw [e]

@[simp] theorem ret_trace (s : St) (p : Nat) : (ret s p).trace = s.trace := by rw [ret_form]
@[simp] theorem ret_toFState (s : St) (p : Nat) : (ret s p).toFState = s.toFState := by rw [ret_form]
@[simp] theorem ret_upstreamReset (s : St) (p : Nat) : (ret s p).upstreamReset = s.upstreamReset := by rw [ret_form]
@[simp] theorem ret_procDone (s : St) (p : Nat) : (ret s p).procDone = s.procDone := by rw [ret_form]
@[simp] theorem ret_upReq (s : St) (p : Nat) : (ret s p).upReq = s.upReq := by rw [ret_form]
@[simp] theorem ret_route (s : St) (p : Nat) : (ret s p).route = s.route := by rw [ret_form]
@[simp] theorem ret_nMatch (s : St) (p : Nat) : (ret s p).nMatch = s.nMatch := by rw [ret_form]
@[simp] theorem ret_nChoose (s : St) (p : Nat) : (ret s p).nChoose = s.nChoose := by rw [ret_form]
@[simp] theorem ret_phase (s : St) (p : Nat) : (ret s p).phase = p := by rw [ret_form]
theorem ret_End_halted (s : St) : (ret s End).halted = true := by simp [ret]
@[simp] theorem ret_rs (s : St) (p : Nat) : (ret s p).rs = s.rs := by rw [ret_form]
theorem ret_Retry (s : St) (ho : s.outer ≤ taskLoopBound) :
    ret s Retry = { s with halted := true, retried := true, phase := Retry } := by
  have : ¬ s.outer > taskLoopBound := by omega
  simp [ret, Retry, End, this]
theorem ret_Retry_halted (s : St) : (ret s Retry).halted = true := by
  rcases ret_cases s Retry with ⟨_, e⟩ | ⟨_, e⟩ | ⟨_, e⟩ | ⟨_, h, _⟩ <;> first | rw [e] | exact absurd rfl h
theorem ret_retried (s : St) (p : Nat) (hp : p ≠ Retry) : (ret s p).retried = s.retried := by
  rcases ret_cases s p with ⟨_, e⟩ | ⟨_, e⟩ | ⟨h, _⟩ | ⟨_, _, _, e⟩ <;> first | rw [e] | exact absurd h hp
theorem ret_blocked (x : St) (p : Nat) : (ret x p).blocked = x.blocked := by rw [ret_form]
theorem ret_halted_of (s : St) (p : Nat) (h : s.halted = true) : (ret s p).halted = true := by
  rcases ret_cases s p with ⟨_, e⟩ | ⟨_, e⟩ | ⟨_, e⟩ | ⟨_, _, _, e⟩ <;> rw [e] <;> first | rfl | exact h

theorem exhaustHijacks_phase {p : Nat} (h : exhaustHijacks p = true) : p = MatchRoute ∨ p = ChooseHost := by
  simpa [exhaustHijacks] using h

/-- the state after `sendHijackReply(exhaustCode)` of `onReentryExhausted` -/
def finHijack (s : St) : St := liftF s (sendHijack s.toFState exhaustCode false)

/-- the shapes of what follows the exhausted task loop -/
inductive Finish (c : Cfg) (s : St) : St → Prop
  | abandon : exhaustFinishes = false → Finish c s { s with halted := true, exhausted := true }
  | cleaned : s.cleaned = true → Finish c s { s with halted := true }
  | resume : exhaustHijacks s.phase = false → Finish c s { s with outer := s.outer + 1 }
  | hijack : s.cleaned = false → exhaustHijacks s.phase = true → Finish c s (afterPE c (finHijack s))

theorem finishStart_case (c : Cfg) (s : St) : Finish c s (finishStart c s) := by
  unfold finishStart
  split
  next h => exact .abandon (by simpa using h)
  split
  next hc => exact .cleaned hc
  next hc =>
    split
    next hh => exact .resume (by simpa using hh)
    next hh => exact .hijack (by simpa using hc) (by simpa using hh)

/-- what the `case` of the phase switch runs in front of its `processError`, and when -/
inductive Body (c : Cfg) (s : St) : St → Prop
  | filter {p} : recvPhaseOf s.phase = some p → Body c s (filterPass c p s)
  | route : s.phase = MatchRoute → Body c s { s with route := c.env.route s.nMatch, nMatch := s.nMatch + 1 }
  | choose : s.phase = ChooseHost → Body c s (chooseHost c s)
  | upstream : s.phase = DownRecvHeader → s.upReq = true → Body c s (sendUpstream c s)
  | reqData : s.phase = DownRecvData → c.env.reqData = true → Body c s s
  | reqTrailers : s.phase = DownRecvTrailer → c.env.reqTrailers = true → Body c s s
  | oneway : s.phase = Oneway → c.env.oneway = true → Body c s (clean s)
  | wait : s.phase = WaitNotify → (deliver c s).halted = false → Body c s (deliver c s)
  | send : s.phase = UpFilter → Body c s (sendPassE c s)
  | headers {r} : s.phase = UpRecvHeader → s.resp = some r →
      (!(s.procDone || s.upstreamReset) && headersRetry c s) = false → Body c s (respHeaders s r)
  | data {r} : s.phase = UpRecvData → s.resp = some r → r.data = true → Body c s (respData s r)
  | trailers {r} : s.phase = UpRecvTrailer → s.resp = some r → r.trailers = true → Body c s (respTrailers s)

/-- the `case` has nothing to do: no request body / trailers, no response part of that kind -/
def Skips (c : Cfg) (s : St) : Prop :=
  s.phase = InitPhase ∨ (s.phase = DownRecvData ∧ c.env.reqData = false) ∨
  (s.phase = DownRecvTrailer ∧ c.env.reqTrailers = false) ∨ (s.phase = UpRecvHeader ∧ s.resp = none) ∨
  (s.phase = UpRecvData ∧ ∀ r, s.resp = some r → r.data = false) ∨
  (s.phase = UpRecvTrailer ∧ ∀ r, s.resp = some r → r.trailers = false)

/-- the branches of the model that leave the modelled fragment -/
def Escapes (s : St) : Prop := (s.phase = DownRecvHeader ∧ s.upReq = false) ∨ s.phase = Retry ∨ End < s.phase

/-- the shapes of one `case` of the switch in `receive` -/
inductive Case (c : Cfg) (s : St) : St → Prop
  | body {g} : Body c s g → Case c s (afterPE c g)
  | retry {r} : s.phase = UpRecvHeader → s.resp = some r → s.procDone = false → s.upstreamReset = false →
      headersRetry c s = true → Case c s (afterPEd c true (setRetry s))
  | skip : Skips c s → Case c s { s with phase := s.phase + 1 }
  | toWait : s.phase = Oneway → c.env.oneway = false → Case c s { s with phase := WaitNotify }
  | escape : Escapes s → Case c s { emit s (.unmodelled s.phase) with halted := true }
  | blocked : s.phase = WaitNotify → (deliver c s).halted = true → Case c s (deliver c s)
  | last : s.phase = End → Case c s (ret s End)

theorem phaseCase_case (c : Cfg) (s : St) : Case c s (phaseCase c s) := by
  unfold phaseCase
  by_cases h0 : s.phase = InitPhase
  · rw [if_pos h0]; exact .skip (.inl h0)
  rw [if_neg h0]
  by_cases h1 : s.phase = MatchRoute
  · rw [if_pos h1]; exact .body (.route h1)
  rw [if_neg h1]
  by_cases h2 : s.phase = ChooseHost
  · rw [if_pos h2]; exact .body (.choose h2)
  rw [if_neg h2]
  by_cases h3 : s.phase = DownRecvHeader
  · rw [if_pos h3]
    split
    next hu => exact .body (.upstream h3 hu)
    next hu => exact .escape (.inl ⟨h3, by simpa using hu⟩)
  rw [if_neg h3]
  by_cases h4 : s.phase = DownRecvData
  · rw [if_pos h4]
    split
    next hd => exact .body (.reqData h4 hd)
    next hd => exact .skip (.inr (.inl ⟨h4, by simpa using hd⟩))
  rw [if_neg h4]
  by_cases h5 : s.phase = DownRecvTrailer
  · rw [if_pos h5]
    split
    next hd => exact .body (.reqTrailers h5 hd)
    next hd => exact .skip (.inr (.inr (.inl ⟨h5, by simpa using hd⟩)))
  rw [if_neg h5]
  by_cases h6 : s.phase = Oneway
  · rw [if_pos h6]
    split
    next ho => exact .body (.oneway h6 ho)
    next ho => exact .toWait h6 (by simpa using ho)
  rw [if_neg h6]
  by_cases h7 : s.phase = WaitNotify
  · rw [if_pos h7]
    show Case c s (if (deliver c s).halted then deliver c s else afterPE c (deliver c s))
    split
    next hh => exact .blocked h7 hh
    next hh => exact .body (.wait h7 (by simpa using hh))
  rw [if_neg h7]
  by_cases h8 : s.phase = sendFilterPhase
  · rw [if_pos h8]; exact .body (.send h8)
  rw [if_neg h8]
  by_cases h9 : s.phase = UpRecvHeader
  · rw [if_pos h9]
    split
    next r hr =>
      split
      next hq =>
        simp only [Bool.and_eq_true, Bool.not_eq_true', Bool.or_eq_false_iff] at hq
        exact .retry h9 hr hq.1.1 hq.1.2 hq.2
      next hq => exact .body (.headers h9 hr (by simpa using hq))
    next hr => exact .skip (.inr (.inr (.inr (.inl ⟨h9, hr⟩))))
  rw [if_neg h9]
  by_cases h10 : s.phase = UpRecvData
  · rw [if_pos h10]
    split
    next r hr =>
      split
      next hd => exact .body (.data h10 hr hd)
      next hd => exact .skip (.inr (.inr (.inr (.inr (.inl ⟨h10, fun r' e => by rw [hr] at e; cases e; simpa using hd⟩)))))
    next hr => exact .skip (.inr (.inr (.inr (.inr (.inl ⟨h10, fun r' e => by rw [hr] at e; cases e⟩)))))
  rw [if_neg h10]
  by_cases h11 : s.phase = UpRecvTrailer
  · rw [if_pos h11]
    split
    next r hr =>
      split
      next hd => exact .body (.trailers h11 hr hd)
      next hd => exact .skip (.inr (.inr (.inr (.inr (.inr ⟨h11, fun r' e => by rw [hr] at e; cases e; simpa using hd⟩)))))
    next hr => exact .skip (.inr (.inr (.inr (.inr (.inr ⟨h11, fun r' e => by rw [hr] at e; cases e⟩)))))
  rw [if_neg h11]
  by_cases h12 : s.phase = End
  · rw [if_pos h12]; exact .last h12
  rw [if_neg h12]
  split
  next p hp => exact .body (.filter hp)
  next hp =>
    refine .escape (.inr ?_)
    rcases Nat.lt_or_ge End s.phase with h | h
    · exact .inr h
    · have : s.phase = 0 ∨ s.phase = 1 ∨ s.phase = 2 ∨ s.phase = 3 ∨ s.phase = 4 ∨ s.phase = 5 ∨ s.phase = 6 ∨
          s.phase = 7 ∨ s.phase = 8 ∨ s.phase = 9 ∨ s.phase = 10 ∨ s.phase = 11 ∨ s.phase = 12 ∨ s.phase = 13 ∨
          s.phase = 14 ∨ s.phase = 15 ∨ s.phase = 16 := by have := phaseNums; omega
      rcases this with e | e | e | e | e | e | e | e | e | e | e | e | e | e | e | e | e
      all_goals first | exact .inl e | contradiction | (rw [e] at hp; cases hp)

theorem phaseCase_filter (c : Cfg) (s : St) (p : RPhase) (h : recvPhaseOf s.phase = some p) :
    phaseCase c s = afterPE c (filterPass c p s) := by
  have hp := recvPhaseOf_eq h
  cases p <;> simp [phaseCase, hp, pn, recvPhaseOf, sendFilterPhase, InitPhase, DownFilter, MatchRoute, DownFilterAfterRoute,
    ChooseHost, DownFilterAfterChooseHost, DownRecvHeader, DownRecvData, DownRecvTrailer, Oneway, WaitNotify, UpFilter,
    UpRecvHeader, UpRecvData, UpRecvTrailer, End]

theorem step_halted (c : Cfg) (s : St) (h : s.halted = true) : step c s = s := by simp [step, h]

/-- the branches of one iteration of the task: nothing once it returned, what follows the exhausted task loop, the return of
`receive` when its loop ran out ("unexpected phase cycle time"), one `case` of the switch -/
inductive Step (c : Cfg) (s : St) : St → Prop
  | idle : s.halted = true → Step c s s
  | finish : s.halted = false → s.outer = taskLoopBound → Step c s (finishStart c s)
  | overrun : s.halted = false → receiveLoopBound < s.inner → Step c s (ret s End)
  | case : s.halted = false → s.outer ≠ taskLoopBound → s.inner ≤ receiveLoopBound →
      Step c s (phaseCase c { s with inner := s.inner + 1 })

theorem step_case (c : Cfg) (s : St) : Step c s (step c s) := by
  unfold step
  split
  next h => exact .idle h
  next h =>
    have h : s.halted = false := by simpa using h
    split
    next ho => exact .finish h ho
    next ho =>
      split
      next hi => exact .overrun h hi
      next hi => exact .case h ho (Nat.le_of_not_lt hi)

/-- the event `reset during UpFilter` only raises `upstreamReset` -/
theorem upfEvent_form (c : Cfg) (s : St) : upfEvent c s = { s with upstreamReset := (upfEvent c s).upstreamReset } := by
  unfold upfEvent; split <;> rfl
@[simp] theorem upfEvent_trace (c : Cfg) (s : St) : (upfEvent c s).trace = s.trace := by rw [upfEvent_form]
@[simp] theorem upfEvent_toFState (c : Cfg) (s : St) : (upfEvent c s).toFState = s.toFState := by rw [upfEvent_form]
@[simp] theorem upfEvent_phase (c : Cfg) (s : St) : (upfEvent c s).phase = s.phase := by rw [upfEvent_form]
@[simp] theorem upfEvent_inner (c : Cfg) (s : St) : (upfEvent c s).inner = s.inner := by rw [upfEvent_form]
@[simp] theorem upfEvent_outer (c : Cfg) (s : St) : (upfEvent c s).outer = s.outer := by rw [upfEvent_form]
@[simp] theorem upfEvent_halted (c : Cfg) (s : St) : (upfEvent c s).halted = s.halted := by rw [upfEvent_form]
@[simp] theorem upfEvent_exhausted (c : Cfg) (s : St) : (upfEvent c s).exhausted = s.exhausted := by rw [upfEvent_form]
@[simp] theorem upfEvent_blocked (c : Cfg) (s : St) : (upfEvent c s).blocked = s.blocked := by rw [upfEvent_form]
@[simp] theorem upfEvent_procDone (c : Cfg) (s : St) : (upfEvent c s).procDone = s.procDone := by rw [upfEvent_form]
@[simp] theorem upfEvent_upReq (c : Cfg) (s : St) : (upfEvent c s).upReq = s.upReq := by rw [upfEvent_form]
@[simp] theorem upfEvent_rs (c : Cfg) (s : St) : (upfEvent c s).rs = s.rs := by rw [upfEvent_form]
@[simp] theorem upfEvent_retried (c : Cfg) (s : St) : (upfEvent c s).retried = s.retried := by rw [upfEvent_form]
@[simp] theorem upfEvent_again (c : Cfg) (s : St) : (upfEvent c s).again = s.again := by rw [upfEvent_form]

/-- a receiver pass as one update of the state: the filters' part of it and the trace -/
theorem filterPass_form (c : Cfg) (p : RPhase) (s : St) :
    filterPass c p s = { s with toFState := (runRecv c.recv p s.toFState).1,
                                trace := s.trace ++ [.rpass p (startOf s.toFState p) (runRecv c.recv p s.toFState).2] } := rfl

theorem sendPass_frame (c : Cfg) (s : St) :
    ∃ sc cu cl, (sendPass c s).toFState = { s.toFState with scalls := sc, scursor := cu, cleaned := cl } :=
  sendLoop_frame _ _ _

/-- the fields `processError` (and the task loop's bookkeeping after it) never touch -/
def Frame (g r : St) : Prop :=
  r.trace = g.trace ∧ r.cursor = g.cursor ∧ r.rcalls = g.rcalls ∧ r.cphase = g.cphase ∧ r.scursor = g.scursor ∧
  r.scalls = g.scalls ∧ r.blocked = g.blocked

theorem Frame.ret {g x : St} (p : Nat) (h : Frame g x) : Frame g (ret x p) := by
  rw [ret_form]; exact h

theorem Frame.refl (g : St) : Frame g g := ⟨rfl, rfl, rfl, rfl, rfl, rfl, rfl⟩

theorem Taken.frame {c : Cfg} {g x : St} (h : Taken c g x) : Frame g x := by
  cases h <;> exact ⟨rfl, rfl, rfl, rfl, rfl, rfl, rfl⟩

theorem PErr.frame {c : Cfg} {g r : St} (h : PErr c g r) : Frame g r := by
  cases h with
  | next k => exact k.frame
  | _ k => exact k.frame.ret _

def isUp : Ev → Bool
  | .up _ => true
  | _ => false

def denyEv : Ev → Bool
  | .rpass _ _ invs => invs.any (fun iv => iv.2.isDeny)
  | _ => false

def isRpass : Ev → Bool
  | .rpass _ _ _ => true
  | _ => false

def NoUp (t : List Ev) : Prop := ∀ e ∈ t, isUp e = false
def DenyIn (t : List Ev) : Prop := ∃ e ∈ t, denyEv e = true

def isUnm : Ev → Bool
  | .unmodelled _ => true
  | _ => false

/-- an event of a `case` that runs no filters: `NewStream` comes only out of DownRecvHeader, the `unmodelled` marker only
out of an escape branch -/
def Quietly (s : St) (e : Ev) : Prop :=
  isRpass e = false ∧ isSpass e = false ∧ (isUp e = true → s.phase = DownRecvHeader) ∧ (isUnm e = true → Escapes s)

def Plain (s r : St) : Prop :=
  (∃ evs, r.trace = s.trace ++ evs ∧ ∀ e ∈ evs, Quietly s e) ∧ r.cursor = s.cursor ∧ r.rcalls = s.rcalls ∧
    r.cphase = s.cphase ∧ r.scalls = s.scalls

def RecvStep (c : Cfg) (s r : St) : Prop :=
  ∃ p, recvPhaseOf s.phase = some p ∧
    r.trace = s.trace ++ [.rpass p (startOf s.toFState p) (runRecv c.recv p s.toFState).2] ∧
    r.cursor = (runRecv c.recv p s.toFState).1.cursor ∧ r.rcalls = (runRecv c.recv p s.toFState).1.rcalls ∧
    r.cphase = (runRecv c.recv p s.toFState).1.cphase ∧ r.scalls = s.scalls

def SendStep (c : Cfg) (s r : St) : Prop :=
  s.phase = UpFilter ∧ r.trace = s.trace ++ [.spass s.scursor (runSend c.send s.toFState).2] ∧ r.cursor = s.cursor ∧
    r.rcalls = s.rcalls ∧ r.cphase = s.cphase ∧ r.scalls = (runSend c.send s.toFState).1.scalls

def Shape (c : Cfg) (s r : St) : Prop := Plain s r ∨ RecvStep c s r ∨ SendStep c s r

theorem Plain.same {s g : St} (ht : g.trace = s.trace := by rfl) (hc : g.cursor = s.cursor := by rfl)
    (hr : g.rcalls = s.rcalls := by rfl) (hp : g.cphase = s.cphase := by rfl) (hs : g.scalls = s.scalls := by rfl) :
    Plain s g :=
  ⟨⟨[], by simp [ht], by simp⟩, hc, hr, hp, hs⟩

theorem Plain.emit1 {s g : St} {e : Ev} (ht : g.trace = s.trace ++ [e]) (he : Quietly s e)
    (hc : g.cursor = s.cursor := by rfl) (hr : g.rcalls = s.rcalls := by rfl) (hp : g.cphase = s.cphase := by rfl)
    (hs : g.scalls = s.scalls := by rfl) : Plain s g :=
  ⟨⟨[e], ht, by simpa using he⟩, hc, hr, hp, hs⟩

theorem Quietly.back {s : St} {e : Ev} (h1 : isRpass e = false) (h2 : isSpass e = false) (h3 : isUp e = false)
    (h4 : isUnm e = false) : Quietly s e :=
  ⟨h1, h2, fun h => (by rw [h3] at h; cases h), fun h => (by rw [h4] at h; cases h)⟩

theorem Shape.frame {c : Cfg} {s g r : St} (h : Shape c s g) (f : Frame g r) : Shape c s r := by
  obtain ⟨ft, fc, fr, fp, _, fs, _⟩ := f
  rcases h with ⟨h1, h2, h3, h4, h5⟩ | ⟨p, h0, h1, h2, h3, h4, h5⟩ | ⟨h0, h1, h2, h3, h4, h5⟩
  · exact .inl ⟨ft ▸ h1, fc.trans h2, fr.trans h3, fp.trans h4, fs.trans h5⟩
  · exact .inr (.inl ⟨p, h0, ft.trans h1, fc.trans h2, fr.trans h3, fp.trans h4, fs.trans h5⟩)
  · exact .inr (.inr ⟨h0, ft.trans h1, fc.trans h2, fr.trans h3, fp.trans h4, fs.trans h5⟩)

/-- what a body does to everything but the reply data.  No body writes the loop counters or the outcome flags of the task
(a wait that ends with `blocked` is not a body); only a receiver pass writes the again-phase, only `chooseHost` the retry
state; the trace and the filter cursors are touched as `Shape` says. -/
structure Body.Eff (c : Cfg) (s g : St) : Prop where
  ctl : g.phase = s.phase ∧ g.inner = s.inner ∧ g.outer = s.outer ∧ g.exhausted = s.exhausted ∧ g.retried = s.retried ∧
    g.blocked = s.blocked
  again : recvPhaseOf s.phase = none → g.again = s.again
  rs : s.phase ≠ ChooseHost → g.rs = s.rs
  shape : Shape c s g

theorem Body.Eff.plain {c : Cfg} {s g : St} (hp : Plain s g)
    (hc : g.phase = s.phase ∧ g.inner = s.inner ∧ g.outer = s.outer ∧ g.exhausted = s.exhausted ∧ g.retried = s.retried ∧
      g.blocked = s.blocked := by exact ⟨rfl, rfl, rfl, rfl, rfl, rfl⟩)
    (ha : g.again = s.again := by rfl) (hr : g.rs = s.rs := by rfl) : Body.Eff c s g :=
  ⟨hc, fun _ => ha, fun _ => hr, .inl hp⟩

theorem Body.eff {c : Cfg} {s g : St} (h : Body c s g) : Body.Eff c s g := by
  cases h with
  | filter hp =>
    rw [filterPass_form]
    exact ⟨⟨rfl, rfl, rfl, rfl, rfl, rfl⟩, fun hn => (by rw [hn] at hp; cases hp), fun _ => rfl,
      .inr (.inl ⟨_, hp, rfl, rfl, rfl, rfl, (recvLoop_sender _ _ _ _).1⟩)⟩
  | send hp =>
    obtain ⟨_, _, _, fe⟩ := sendPass_frame c s
    rw [sendPassE, upfEvent_form]
    exact ⟨⟨rfl, rfl, rfl, rfl, rfl, rfl⟩, fun _ => congrArg (·.again) fe, fun _ => rfl,
      .inr (.inr ⟨hp, rfl, congrArg (·.cursor) fe, congrArg (·.rcalls) fe, congrArg (·.cphase) fe, rfl⟩)⟩
  | choose hp =>
    unfold chooseHost
    dsimp only
    split
    · exact .plain Plain.same
    · exact .plain Plain.same
    · split
      · exact ⟨⟨rfl, rfl, rfl, rfl, rfl, rfl⟩, fun _ => rfl, fun hn => absurd hp hn, .inl Plain.same⟩
      · exact .plain Plain.same
  | upstream hp =>
    unfold sendUpstream
    split
    · exact .plain Plain.same
    · split <;> exact .plain (Plain.emit1 rfl ⟨rfl, rfl, fun _ => hp, fun h => (by cases h)⟩)
  | wait _ hh =>
    unfold deliver at hh ⊢
    revert hh
    cases c.env.up with
    | reset => exact fun _ => .plain Plain.same
    | _ =>
      dsimp only
      split
      · exact fun hh => by cases hh
      · exact fun _ => .plain Plain.same
  | headers =>
    unfold respHeaders
    split
    · exact .plain Plain.same
    · split <;> exact .plain (Plain.emit1 rfl (.back rfl rfl rfl rfl))
  | data =>
    unfold respData
    split
    · exact .plain Plain.same
    · split <;> exact .plain (Plain.emit1 rfl (.back rfl rfl rfl rfl))
  | trailers =>
    unfold respTrailers
    split
    · exact .plain Plain.same
    · exact .plain (Plain.emit1 rfl (.back rfl rfl rfl rfl))
  | _ => exact .plain Plain.same

/-- from the sender-filter `case` on no body touches the pending-reply flag, and behind it none raises `upstreamReset` -/
theorem Body.quiet {c : Cfg} {s g : St} (h : Body c s g) (hp : UpFilter ≤ s.phase) :
    g.direct = s.direct ∧ (s.phase ≠ UpFilter → g.upstreamReset = s.upstreamReset) := by
  cases h with
  | send h =>
    obtain ⟨_, _, _, fe⟩ := sendPass_frame c s
    exact ⟨(congrArg (·.direct) (upfEvent_toFState c _)).trans (congrArg (·.direct) fe), fun hne => absurd h hne⟩
  | headers => unfold respHeaders; split <;> (try split) <;> exact ⟨rfl, fun _ => rfl⟩
  | data => unfold respData; split <;> (try split) <;> exact ⟨rfl, fun _ => rfl⟩
  | trailers => unfold respTrailers; split <;> exact ⟨rfl, fun _ => rfl⟩
  | filter h => have := recvPhaseOf_le h; phase_omega
  | _ => phase_omega

theorem deliver_frame (c : Cfg) (s : St) :
    Plain s (deliver c s) ∧ (deliver c s).rs = s.rs ∧ (deliver c s).retried = s.retried ∧
      (deliver c s).exhausted = s.exhausted := by
  unfold deliver
  cases c.env.up with
  | reset => exact ⟨Plain.same, rfl, rfl, rfl⟩
  | _ =>
    dsimp only
    split
    · exact ⟨Plain.same, rfl, rfl, rfl⟩
    · exact ⟨Plain.same, rfl, rfl, rfl⟩

theorem Case.shape {c : Cfg} {s r : St} (h : Case c s r) : Shape c s r := by
  cases h with
  | body hb => exact hb.eff.shape.frame (afterPE_perr c _).frame
  | retry _ _ _ _ hq => exact Shape.frame (.inl Plain.same) (retry_perr c s hq).frame
  | skip => exact .inl Plain.same
  | toWait => exact .inl Plain.same
  | escape he => exact .inl (Plain.emit1 rfl ⟨rfl, rfl, fun h => (by cases h), fun _ => he⟩)
  | blocked => exact .inl (deliver_frame c s).1
  | last => exact Shape.frame (.inl Plain.same) ((Frame.refl s).ret End)

theorem PErr.phase {c : Cfg} {g r : St} (h : PErr c g r) :
    r.halted = true ∨ r.phase = g.phase + 1 ∨ r.phase = Oneway ∨ r.phase = UpFilter ∨
      (g.again ≠ InitPhase ∧ r.phase = g.again) := by
  cases h with
  | done => exact .inl (ret_End_halted _)
  | oneway => exact .inr (.inr (.inl (ret_phase _ _)))
  | reply => exact .inr (.inr (.inr (.inl (ret_phase _ _))))
  | retry => exact .inl (ret_Retry_halted _)
  | again _ _ hne => exact .inr (.inr (.inr (.inr ⟨hne, ret_phase _ _⟩)))
  | next => exact .inr (.inl rfl)

/-- after a `case` that runs no receiver filters the worker is at the next phase, or at/after Oneway, or done -/
theorem Case.phase {c : Cfg} {s r : St} (h : Case c s r) (ha : s.again = InitPhase)
    (hnf : recvPhaseOf s.phase = none) : r.halted = true ∨ r.phase = s.phase + 1 ∨ Oneway ≤ r.phase := by
  have via : ∀ {g r : St}, PErr c g r → g.again = s.again → g.phase = s.phase →
      r.halted = true ∨ r.phase = s.phase + 1 ∨ Oneway ≤ r.phase := by
    intro g r h h1 h2
    rcases h.phase with h | h | h | h | ⟨h, _⟩
    · exact .inl h
    · exact .inr (.inl (h2 ▸ h))
    · exact .inr (.inr (Nat.le_of_eq h.symm))
    · exact .inr (.inr (by rw [h]; decide))
    · exact absurd (h1.trans ha) h
  cases h with
  | body hb => exact via (afterPE_perr c _) (hb.eff.again hnf) hb.eff.ctl.1
  | retry _ _ _ _ hq => exact via (retry_perr c s hq) rfl rfl
  | skip => exact .inr (.inl rfl)
  | toWait => exact .inr (.inr (by show Oneway ≤ WaitNotify; decide))
  | escape => exact .inl rfl
  | blocked _ hh => exact .inl hh
  | last => exact .inl (ret_End_halted s)

/-- where the step after the exhausted task loop leaves the worker: the task returned, or the finishing pass starts where
the worker was (a pending local reply, the one-way clean up), or at Oneway / UpFilter where `processError` handed the
500 reply back -/
def FinishOK (c : Cfg) (s r : St) : Prop :=
  r.halted = true ∨ (r.outer = s.outer + 1 ∧
    ((r.phase = s.phase ∧ r.rs = s.rs ∧ exhaustHijacks s.phase = false) ∨ (r.phase = Oneway ∧ c.env.oneway = true) ∨
      (r.phase = UpFilter ∧ r.rs = none)))

/-- what follows the exhausted task loop touches none of the fields `processError` never touches -/
theorem Finish.frame {c : Cfg} {s r : St} (h : Finish c s r) : Frame s r := by
  cases h with
  | hijack => exact (afterPE_perr c (finHijack s)).frame
  | _ => exact Frame.refl s

/-- … and, on the repaired code (`exhaustFinishes`), abandons nothing -/
theorem Finish.form {c : Cfg} {s r : St} (h : Finish c s r) (ha : s.again = InitPhase) (ho : s.outer ≤ taskLoopBound) :
    (exhaustFinishes = true → r.exhausted = s.exhausted) ∧ FinishOK c s r := by
  cases h with
  | abandon h0 => exact ⟨fun h => (by rw [h0] at h; cases h), .inl rfl⟩
  | cleaned => exact ⟨fun _ => rfl, .inl rfl⟩
  | resume hh => exact ⟨fun _ => rfl, .inr ⟨rfl, .inl ⟨rfl, rfl, hh⟩⟩⟩
  | hijack _ hhj =>
    have hp : s.phase ≠ UpFilter := fun h => by rw [h] at hhj; exact absurd hhj (by decide)
    have h := afterPE_perr c (finHijack s)
    -- `processError` takes the 500 reply: it hands back End, Oneway or UpFilter (or Retry: the task returns as well)
    have via : ∀ {x : St} (p : Nat), Taken c (finHijack s) x →
        p = End ∨ p = Retry ∨ (p = Oneway ∧ c.env.oneway = true) ∨ (p = UpFilter ∧ x.rs = none) →
        (exhaustFinishes = true → (ret x p).exhausted = s.exhausted) ∧ FinishOK c s (ret x p) := by
      intro x p k hp
      have hxo : x.outer = s.outer := k.ctl.1
      rcases ret_cases x p with ⟨_, e⟩ | ⟨h, _⟩ | ⟨_, e⟩ | ⟨hE, hR, _, e⟩
      · rw [e]; exact ⟨fun _ => k.ctl.2.2.1, .inl rfl⟩
      · exact absurd (hxo ▸ ho) (Nat.not_le_of_gt h)
      · rw [e]; exact ⟨fun _ => k.ctl.2.2.1, .inl rfl⟩
      · rw [e]; exact ⟨fun _ => k.ctl.2.2.1, .inr ⟨congrArg (· + 1) hxo, .inr ((hp.resolve_left hE).resolve_left hR)⟩⟩
    generalize afterPE c (finHijack s) = r at h ⊢
    cases h with
    | done k => exact via End k (.inl rfl)
    | oneway k hw => exact via Oneway k (.inr (.inr (.inl ⟨rfl, hw⟩)))
    | reply k hrs => exact via UpFilter k (.inr (.inr (.inr ⟨rfl, hrs⟩)))
    | retry k => exact via Retry k (.inr (.inl rfl))
    | again _ _ hne => exact absurd ha hne
    | next _ hn => exact absurd (hn (.inl rfl)) hp

theorem step_shape (c : Cfg) (s : St) : Shape c s (step c s) := by
  have h := step_case c s
  generalize step c s = r at h ⊢
  cases h with
  | idle => exact .inl Plain.same
  | finish => exact Shape.frame (.inl Plain.same) (finishStart_case c s).frame
  | overrun => exact Shape.frame (.inl Plain.same) ((Frame.refl s).ret End)
  | case => exact (phaseCase_case c { s with inner := s.inner + 1 }).shape

/-- the step appended no receiver pass (and a `NewStream` only out of DownRecvHeader) and did not move the cursor -/
def NoPass (s r : St) : Prop :=
  (∃ evs, r.trace = s.trace ++ evs ∧ ∀ e ∈ evs, isRpass e = false ∧ (isUp e = true → s.phase = DownRecvHeader)) ∧
    r.cursor = s.cursor ∧ r.rcalls = s.rcalls ∧ r.cphase = s.cphase

theorem Frame.noPass {s r : St} (f : Frame s r) : NoPass s r :=
  ⟨⟨[], by rw [f.1, List.append_nil], fun _ h => by cases h⟩, f.2.1, f.2.2.1, f.2.2.2.1⟩

theorem Shape.pass {c : Cfg} {s r : St} (h : Shape c s r) : NoPass s r ∨ RecvStep c s r := by
  rcases h with ⟨⟨evs, ht, hev⟩, h2, h3, h4, _⟩ | h | ⟨_, ht, h2, h3, h4, _⟩
  · exact .inl ⟨⟨evs, ht, fun e he => ⟨(hev e he).1, (hev e he).2.2.1⟩⟩, h2, h3, h4⟩
  · exact .inr h
  · exact .inl ⟨⟨_, ht, by simp [isRpass, isUp]⟩, h2, h3, h4⟩

theorem Shape.noPass {c : Cfg} {s r : St} (h : Shape c s r) (hn : recvPhaseOf s.phase = none) : NoPass s r := by
  rcases h.pass with h | ⟨p, hp, _⟩
  · exact h
  · rw [hn] at hp; cases hp

/-- nothing reply-related is pending (the state of a stream in the receive phases between two `case`s) -/
structure Quiet (s : St) : Prop where
  resp : s.resp = none
  upResp : s.upRespReceived = false
  direct : s.direct = false
  cleaned : s.cleaned = false
  upstreamReset : s.upstreamReset = false
  procDone : s.procDone = false

def Benign (t t' : List Ev) : Prop := ∃ evs, t' = t ++ evs ∧ ∀ e ∈ evs, isUp e = false ∧ isRpass e = false

theorem Benign.trans {a b c : List Ev} (h1 : Benign a b) (h2 : Benign b c) : Benign a c := by
  obtain ⟨e1, rfl, p1⟩ := h1
  obtain ⟨e2, rfl, p2⟩ := h2
  exact ⟨e1 ++ e2, by simp, fun e he => by
    rcases List.mem_append.mp he with h | h
    · exact p1 e h
    · exact p2 e h⟩
theorem Benign.one (t : List Ev) (e : Ev) (h1 : isUp e = false) (h2 : isRpass e = false) : Benign t (t ++ [e]) :=
  ⟨[e], rfl, fun x hx => by simp at hx; subst hx; exact ⟨h1, h2⟩⟩

theorem denyEv_rpass {e : Ev} (h : denyEv e = true) : isRpass e = true := by
  cases e <;> simp [denyEv, isRpass] at h ⊢

theorem Benign.noUp {t t' : List Ev} (hb : Benign t t') (h : NoUp t) : NoUp t' := by
  obtain ⟨evs, rfl, pe⟩ := hb
  exact fun x hx => (List.mem_append.mp hx).elim (h x) fun h' => (pe x h').1

theorem Shape.benign {c : Cfg} {s g : St} (h : Shape c s g) (hp : DownRecvData ≤ s.phase) : Benign s.trace g.trace := by
  rcases h with ⟨⟨evs, ht, hev⟩, _⟩ | ⟨p, h0, _⟩ | ⟨_, ht, _⟩
  · refine ⟨evs, ht, fun e he => ⟨?_, (hev e he).1⟩⟩
    cases hu : isUp e
    · rfl
    · have := (hev e he).2.2.1 hu; phase_omega
  · have := recvPhaseOf_le h0; phase_omega
  · rw [ht]; exact Benign.one _ _ rfl rfl

/-- `processError` creates no retry state, and without one (and with no again-phase pending) it hands back no `Retry` -/
theorem PErr.noRetry {c : Cfg} {g r : St} (h : PErr c g r) (ha : g.again = InitPhase) (hrs : g.rs = none) :
    r.rs = none ∧ r.retried = g.retried := by
  have via : ∀ {x : St} (p : Nat), Taken c g x → p ≠ Retry → (ret x p).rs = none ∧ (ret x p).retried = g.retried :=
    fun p k hp => ⟨(ret_rs _ p).trans (k.rs_none hrs), (ret_retried _ p hp).trans k.ctl.2.2.2⟩
  cases h with
  | done k => exact via End k (by decide)
  | oneway k => exact via Oneway k (by decide)
  | reply k => exact via UpFilter k (by decide)
  | retry _ hne => exact absurd hrs hne
  | again _ _ hne => exact absurd ha hne
  | next k => exact ⟨k.rs_none hrs, k.ctl.2.2.2⟩

/-- a `case` that runs no receiver filters and is not `chooseHost` creates no retry state — and without a retry state nothing
is retried -/
theorem Case.noRetry {c : Cfg} {s r : St} (h : Case c s r) (ha : s.again = InitPhase) (hnf : recvPhaseOf s.phase = none)
    (hp : s.phase ≠ ChooseHost) (hrs : s.rs = none) : r.rs = none ∧ r.retried = s.retried := by
  cases h with
  | body hb =>
    obtain ⟨h1, h2⟩ := (afterPE_perr c _).noRetry ((hb.eff.again hnf).trans ha) ((hb.eff.rs hp).trans hrs)
    exact ⟨h1, h2.trans hb.eff.ctl.2.2.2.2.1⟩
  | retry _ _ _ _ hq => rw [headersRetry_none c s hrs] at hq; cases hq
  | skip => exact ⟨hrs, rfl⟩
  | toWait => exact ⟨hrs, rfl⟩
  | escape => exact ⟨hrs, rfl⟩
  | blocked => exact ⟨(deliver_frame c s).2.1.trans hrs, (deliver_frame c s).2.2.1⟩
  | last => exact ⟨(ret_rs s End).trans hrs, ret_retried s End (by decide)⟩

theorem DenyIn_snoc (t : List Ev) (e : Ev) : DenyIn (t ++ [e]) ↔ DenyIn t ∨ denyEv e = true := by
  simp [DenyIn, or_and_right, exists_or]

theorem NoUp_snoc (t : List Ev) (e : Ev) : NoUp (t ++ [e]) ↔ NoUp t ∧ isUp e = false := by
  simp [NoUp, or_imp, forall_and]

def DenyExcludes (s : St) : Prop := DenyIn s.trace → NoUp s.trace ∧ s.retried = false ∧ (s.halted = false → s.rs = none)

theorem DenyIn_append_noPass {t evs : List Ev} (h : ∀ e ∈ evs, isRpass e = false) (hd : DenyIn (t ++ evs)) : DenyIn t := by
  obtain ⟨e, he, hde⟩ := hd
  rcases List.mem_append.mp he with h' | h'
  · exact ⟨e, h', hde⟩
  · have := h e h'; rw [denyEv_rpass hde] at this; cases this

theorem Benign.deny {t t' : List Ev} (hb : Benign t t') (h : DenyIn t') : DenyIn t := by
  obtain ⟨evs, rfl, pe⟩ := hb
  exact DenyIn_append_noPass (fun e he => (pe e he).2) h

theorem run_preserves {c : Cfg} {P : St → Prop} (hstep : ∀ s, P s → P (step c s)) (n : Nat) (s : St) (h : P s) :
    P (run c n s) := by
  induction n generalizing s with
  | zero => exact h
  | succ n ih => exact ih _ (hstep s h)

theorem resumeOK_append (cur : Nat) (cph : RPhase) (t evs : List Ev) :
    resumeOK cur cph (t ++ evs) ↔
      resumeOK cur cph t ∧ resumeOK (cursorTrace cur cph t).1 (cursorTrace cur cph t).2 evs := by
  induction t generalizing cur cph with
  | nil => simp [resumeOK, cursorTrace]
  | cons e r ih =>
    cases e <;> simp [resumeOK, cursorTrace, ih, and_assoc]

theorem cursorTrace_append (cur : Nat) (cph : RPhase) (t evs : List Ev) :
    cursorTrace cur cph (t ++ evs) = cursorTrace (cursorTrace cur cph t).1 (cursorTrace cur cph t).2 evs := by
  induction t generalizing cur cph with
  | nil => simp [cursorTrace]
  | cons e r ih => cases e <;> simp [cursorTrace, ih]

theorem resumeOK_noPass (cur : Nat) (cph : RPhase) (evs : List Ev) (h : ∀ e ∈ evs, isRpass e = false) :
    resumeOK cur cph evs ∧ cursorTrace cur cph evs = (cur, cph) := by
  induction evs generalizing cur cph with
  | nil => simp [resumeOK, cursorTrace]
  | cons e r ih =>
    have he := h e (by simp)
    have hr := fun cur cph => ih cur cph (fun x hx => h x (List.mem_cons_of_mem _ hx))
    cases e <;> simp [isRpass] at he <;> simp [resumeOK, cursorTrace, hr]

theorem runRecv_mem (chain : List RFilter) (p : RPhase) (s : FState) :
    ∀ iv ∈ (runRecv chain p s).2, ∃ f, chain[iv.1]? = some f ∧ f.phase = p ∧ iv.2 = f.verdictAt (s.rcalls iv.1) := by
  intro iv hiv
  obtain ⟨f, hf, hle, hp, hv⟩ := recvLoop_mem p (chain.drop (startOf s p)) (startOf s p) s iv hiv
  refine ⟨f, ?_, hp, hv⟩
  rw [List.getElem?_drop] at hf
  have : startOf s p + (iv.1 - startOf s p) = iv.1 := by omega
  rw [this] at hf; exact hf

structure Pinv (c : Cfg) (s : St) : Prop where
  passes : ∀ p st invs, Ev.rpass p st invs ∈ s.trace →
    ascFrom st invs ∧ ∀ iv ∈ invs, ∃ f, c.recv[iv.1]? = some f ∧ f.phase = p
  resume : resumeOK 0 .BeforeRoute s.trace
  cursor : s.cursor = (cursorTrace 0 .BeforeRoute s.trace).1
  cphase : s.cursor ≠ 0 → s.cphase = (cursorTrace 0 .BeforeRoute s.trace).2

theorem step_Pinv (c : Cfg) (s : St) (h : Pinv c s) : Pinv c (step c s) := by
  rcases (step_shape c s).pass with ⟨⟨evs, ht, hev⟩, hc, _, hcp⟩ | ⟨p, _, ht, hc, _, hcp, _⟩
  · obtain ⟨r1, r2⟩ := resumeOK_noPass (cursorTrace 0 .BeforeRoute s.trace).1 (cursorTrace 0 .BeforeRoute s.trace).2 evs (fun e he => (hev e he).1)
    refine ⟨?_, ?_, ?_, ?_⟩
    · intro p st invs hm
      rw [ht] at hm
      rcases List.mem_append.mp hm with hm | hm
      · exact h.passes p st invs hm
      · have := (hev _ hm).1; simp [isRpass] at this
    · rw [ht, resumeOK_append]; exact ⟨h.resume, r1⟩
    · rw [ht, cursorTrace_append, r2, hc]; exact h.cursor
    · rw [ht, cursorTrace_append, r2, hc, hcp]; exact h.cphase
  · refine ⟨?_, ?_, ?_, ?_⟩
    · intro q st invs hm
      rw [ht] at hm
      rcases List.mem_append.mp hm with hm | hm
      · exact h.passes q st invs hm
      · simp at hm
        obtain ⟨rfl, rfl, rfl⟩ := hm
        refine ⟨recvLoop_asc _ _ _ _, ?_⟩
        intro iv hiv
        obtain ⟨f, hf, hp, _⟩ := runRecv_mem c.recv q s.toFState iv hiv
        exact ⟨f, hf, hp⟩
    · rw [ht, resumeOK_append]
      refine ⟨h.resume, ?_⟩
      simp only [resumeOK, and_true]
      rw [startOf_eq]
      have hcur : s.toFState.cursor = (cursorTrace 0 .BeforeRoute s.trace).1 := h.cursor
      by_cases h0 : s.toFState.cursor = 0
      · rw [← hcur, h0]; simp
      · have hph : s.toFState.cphase = (cursorTrace 0 .BeforeRoute s.trace).2 := h.cphase h0
        rw [← hcur, ← hph]
    · rw [ht, cursorTrace_append, hc]
      simp only [cursorTrace]
      exact recvLoop_cursor _ _ _ _
    · intro hne
      rw [ht, cursorTrace_append, hcp]
      simp only [cursorTrace]
      rw [hc] at hne
      exact recvLoop_cphase _ _ _ _ hne

theorem init_Pinv (c : Cfg) : Pinv c init :=
  ⟨fun _ _ _ hm => by simp [init] at hm, trivial, rfl, fun h => absurd rfl h⟩

theorem run_Pinv (c : Cfg) (n : Nat) (s : St) (h : Pinv c s) : Pinv c (run c n s) :=
  run_preserves (step_Pinv c) n s h

end MosnVerif.Model.FilterMachine
