import MosnVerif.Lemmas.Updates
/-! C12 / C19: the MODE a router is persisted in (static `virtual_hosts` or a `router_configs` directory) across update histories,
and dump → reload of the routers (core Lean only). -/
namespace MosnVerif.Model.Updates
open MosnVerif

/-- a configuration as the loader (`RouterConfiguration.UnmarshalJSON`) or code produces it: never both a directory path and a
static list (`ErrDuplicateStaticAndDynamic` refuses the file otherwise) -/
def loaderShaped (cfg : RouterCfg) : Prop := cfg.path ≠ "" → cfg.static = []

instance (cfg : RouterCfg) : Decidable (loaderShaped cfg) := by unfold loaderShaped; exact inferInstance

/-- every router configuration a history hands to `AddOrUpdateRouters` is loader-shaped -/
def opLoaderShaped : Op → Prop
  | .addOrUpdateRouters cfg => loaderShaped cfg
  | _ => True

/-- what loading the dumped file gives for a router whose wrapper holds `c`: the same name, path and virtual hosts (through the
directory in directory mode); `virtual_hosts` is the complete list in static mode -/
def reloadedCfg (fsr : List VHost → List VHost) (c : RouterCfg) : RouterCfg :=
  if c.path = "" then ⟨c.name, c.vhosts, "", c.vhosts⟩ else ⟨c.name, fsr c.vhosts, c.path, []⟩

theorem withPath_storedCfg (c : RouterCfg) : ({ storedCfg c with path := c.path } : RouterCfg) = c := by
  unfold storedCfg; split <;> rfl

/-- `MarshalJSON` then `UnmarshalJSON` of a loader-shaped configuration succeeds -/
theorem unmarshal_marshal (fsr : List VHost → List VHost) (c : RouterCfg) (h : loaderShaped c) :
    unmarshalRouter fsr (marshalRouter c) = some (reloadedCfg fsr c) := by
  unfold marshalRouter reloadedCfg
  by_cases hp : c.path = ""
  · simp only [hp, if_true, unmarshalRouter]
    cases hv : c.vhosts with
    | nil => simp
    | cons a r => simp
  · have hs := h hp
    simp only [hp, if_false, unmarshalRouter, hs]
    simp [hp]

/-- … and of one that has BOTH a path and a static list fails (`ErrDuplicateStaticAndDynamic`) -/
theorem unmarshal_marshal_both (fsr : List VHost → List VHost) (c : RouterCfg) (hp : c.path ≠ "") (hs : c.static ≠ []) :
    unmarshalRouter fsr (marshalRouter c) = none := by
  unfold marshalRouter
  simp only [hp, if_false, unmarshalRouter]
  cases hv : c.static with
  | nil => exact absurd hv hs
  | cons a r => simp [hp]

/-- the loader-shape invariant: every wrapper holds a loader-shaped configuration -/
def ShInv (s : State) : Prop := s.wrappers.All fun _ w => loaderShaped w.cfg

theorem shinv_init : ShInv init := by
  intro n w h; simp [init, FMap.empty] at h

/-- A router operation installs the configuration it is given, or the old one with other virtual hosts: the mode (`path`,
`static`) of a wrapper changes only through `AddOrUpdateRouters`. -/
theorem shinv_step (o : Oracle) {s : State} (hS : ShInv s) (op : Op) (hop : opLoaderShaped op) : ShInv (step o s op).1 := by
  cases hs : side op with
  | clusters => rw [step_clusterSide o s op hs]; exact hS
  | listeners => rw [step_listenerSide o s op hs]; exact hS
  | routers =>
    rcases step_router o s op hs with e | ⟨n, t, cfg, e, hc⟩ <;> rw [e]
    · exact hS
    · refine hS.set ?_
      rcases hc with ⟨rfl, _, _⟩ | ⟨w, vs, hw, rfl, _⟩
      · exact hop
      · exact hS n w hw

theorem shinv_run (o : Oracle) (ops : List Op) (hops : ∀ op ∈ ops, opLoaderShaped op) : ShInv (run o ops) :=
  Lemmas.Fold.foldl_inv_mem (P := ShInv) ops (fun _ op hm h => shinv_step o h op (hops op hm)) init shinv_init

/-- the dumped router of a state with the invariant is the configuration the wrapper holds, its path included -/
theorem dumpRouter_of_inv {o : Oracle} {s : State} (hI : Inv o s) (n : String) :
    dumpRouter s n = (s.wrappers n).map (·.cfg) := by
  unfold dumpRouter
  cases hw : s.wrappers n with
  | none => simp [hI.r_none n hw]
  | some w =>
    obtain ⟨_, hs, _⟩ := hI.r_some n w hw
    simp [hs, hI.r_path n w hw]

/-- in a state with the invariant whose wrappers hold loader-shaped configurations, dump → reload of every router succeeds and
gives the configuration its wrapper holds (through the directory in directory mode) -/
theorem reloadRouter_of_inv {o : Oracle} {s : State} (hI : Inv o s) (hS : ShInv s) (fsr : List VHost → List VHost) (n : String) :
    reloadRouter fsr s n = (s.wrappers n).map (fun w => some (reloadedCfg fsr w.cfg)) := by
  simp only [reloadRouter, dumpRouter_of_inv hI]
  cases hw : s.wrappers n with
  | none => rfl
  | some w => simp [unmarshal_marshal fsr _ (hS n w hw)]

/-- a directory that gives its files back in configuration order changes nothing the tables are built from -/
theorem build_reloadedCfg (o : Oracle) (fsr : List VHost → List VHost) (hfs : ∀ l, fsr l = l) (c : RouterCfg) :
    build o (reloadedCfg fsr c) = build o c := by
  apply build_congr; unfold reloadedCfg; split
  · rfl
  · exact hfs _

/-! ## the predicate of the `mode` cases holds of every model output -/

theorem modeHolds_on_model (o : Oracle) (ops : List Op) (hops : ∀ op ∈ ops, opLoaderShaped op) (rnames : List String) :
    Spec.modeHolds (modeObserve o rnames (run o ops)) = true := by
  have hI := inv_run o ops
  unfold Spec.modeHolds modeObserve
  rw [List.all_map, List.all_eq_true]
  intro n _
  simp only [Function.comp, Spec.modeOne, modeObserveOne, reloadRouter_of_inv hI (shinv_run o ops hops), liveRouters]
  cases hw : (run o ops).wrappers n with
  | none => simp
  | some w => simp [build_reloadedCfg o _ (fun _ => rfl), (hI.r_some n w hw).2.2]

end MosnVerif.Model.Updates
