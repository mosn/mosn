import MosnVerif.Model.SubsetSlice
import MosnVerif.Lemmas.Subset
/-!
The pre-index builder.  Its cartesian product on slices: an extension of the received combination
slice that never mutates an existing backing array (`FreshExt`) makes the product independent of aliasing, for every
capacity policy, and the regenerated statements `Gen.SubsetSlice.comboExtend` are such an extension.  The product on
lists is the declarative `cartesian`.
-/
namespace MosnVerif.Model.SubsetSlice
open MosnVerif MosnVerif.Model.Subset

/-- the slice's elements all exist in its backing array (nil slices are live in every store) -/
def Live (st : Store) (s : Slice) : Prop := s.len ≤ (arrayOf st s.arr).length

/-- a store that gains arrays keeps every array it had (one it did not have read as empty) -/
theorem arrayOf_append (st e : Store) (a : Nat) : arrayOf st a <+: arrayOf (st ++ e) a := by
  unfold arrayOf
  rcases Nat.lt_or_ge a st.length with h | h
  · rw [List.getElem?_append_left h]; exact List.prefix_refl _
  · rw [List.getElem?_eq_none h]; exact List.nil_prefix

theorem read_append (st e : Store) (s : Slice) (h : Live st s) : read (st ++ e) s = read st s := by
  obtain ⟨t, ht⟩ := arrayOf_append st e s.arr
  rw [read, ← ht, List.take_append_of_le_length h, read]

theorem live_append (st e : Store) (s : Slice) (h : Live st s) : Live (st ++ e) s :=
  Nat.le_trans h (arrayOf_append st e s.arr).length_le

/-- live = the slice reads as many elements as its length says -/
theorem live_iff (st : Store) (s : Slice) : Live st s ↔ (read st s).length = s.len := by
  unfold read Live
  rw [List.length_take]; omega

theorem live_nil (st : Store) : Live st Slice.nil := Nat.zero_le _

theorem read_nil (st : Store) : read st Slice.nil = [] := by simp [read, Slice.nil]

/-- the extension of a live slice only ADDS arrays to the store, and hands on a slice denoting `prefix ++ [pair]` -/
def FreshExt (stmts : List Gen.SubsetSlice.Stmt) (res : Nat) : Prop :=
  ∀ (grow : Grow) (src : Slice) (pair : KV) (st : Store), Live st src →
    ∃ ext, (extendWith stmts res grow src pair st).2 = st ++ ext ∧
      (extendWith stmts res grow src pair st).1.len = src.len + 1 ∧
      read (st ++ ext) (extendWith stmts res grow src pair st).1 = read st src ++ [pair]

/-- the invariant of the product: the store only grows, every finished slice is live, and reading the finished slices
gives the list-level product -/
def GoodRun (st : Store) (out : List Slice × Store) (want : List Path) : Prop :=
  ∃ ext, out.2 = st ++ ext ∧ (∀ r ∈ out.1, Live out.2 r) ∧ out.1.map (read out.2) = want

theorem GoodRun.of_grown {st st' ext : Store} {out : List Slice × Store} {want : List Path} (hst : st' = st ++ ext)
    (h : GoodRun st' out want) : GoodRun st out want := by
  obtain ⟨y, hy, h⟩ := h
  exact ⟨ext ++ y, by rw [hy, hst, List.append_assoc], h⟩

/-- runs compose: what the first one finished stays live and reads the same while the second one adds arrays -/
theorem GoodRun.append {st : Store} {o1 o2 : List Slice × Store} {w1 w2 : List Path}
    (h1 : GoodRun st o1 w1) (h2 : GoodRun o1.2 o2 w2) : GoodRun st (o1.1 ++ o2.1, o2.2) (w1 ++ w2) := by
  obtain ⟨x, hx1, hx2, hx3⟩ := h1
  obtain ⟨y, hy1, hy2, hy3⟩ := h2
  refine ⟨x ++ y, by rw [hy1, hx1, List.append_assoc],
    List.forall_mem_append.mpr ⟨fun r hr => hy1 ▸ live_append _ _ _ (hx2 r hr), hy2⟩, ?_⟩
  rw [List.map_append, hy3, ← hx3, hy1]
  congr 1
  exact List.map_congr_left fun r hr => read_append _ _ r (hx2 r hr)

/-- a loop whose every iteration appends a good run to what is finished is a good run of the concatenation -/
theorem GoodRun.foldl {α : Type} (f : List Slice × Store → α → List Slice × Store) (want : α → List Path) (st : Store)
    (hf : ∀ ext acc v, acc.2 = st ++ ext → ∃ o, f acc v = (acc.1 ++ o.1, o.2) ∧ GoodRun acc.2 o (want v)) (vs : List α) :
    ∀ (acc : List Slice × Store) (w : List Path), GoodRun st acc w →
      GoodRun st (vs.foldl f acc) (w ++ vs.flatMap want) := by
  induction vs with
  | nil => intro acc w h; simpa using h
  | cons v vs ih =>
    intro acc w hacc
    obtain ⟨x, hx, _⟩ := id hacc
    obtain ⟨o, ho, hg⟩ := hf x acc v hx
    rw [List.foldl_cons, ho, List.flatMap_cons, ← List.append_assoc]
    exact ih _ _ (hacc.append hg)

theorem combosSlGo_fresh (stmts : List Gen.SubsetSlice.Stmt) (res : Nat) (hF : FreshExt stmts res) (grow : Grow)
    (ix : Index) (shuf : List Val → List Val) (n : Nat) (ks : List Key) :
    ∀ (idx : Nat) (kvs : Slice) (st : Store), Live st kvs →
      GoodRun st (combosSlGo stmts res grow ix shuf n idx ks kvs st) (combosGo ix shuf n idx ks (read st kvs)) := by
  induction ks with
  | nil =>
    intro idx kvs st _
    exact ⟨[], by simp [combosSlGo], by simp [combosSlGo], by simp [combosSlGo, combosGo]⟩
  | cons k ks ih =>
    intro idx kvs st hlive
    rw [combosSlGo, combosGo]
    refine GoodRun.foldl _ _ st (fun x acc v hx => ?_) _ _ [] ⟨[], (List.append_nil st).symm, nofun, rfl⟩
    -- the received slice is untouched by what the earlier values added
    have hlive' : Live acc.2 kvs := hx ▸ live_append st x kvs hlive
    rw [← (hx ▸ read_append st x kvs hlive : read acc.2 kvs = read st kvs)]
    obtain ⟨y, hy1, hy2, hy3⟩ := hF grow kvs (k, v) acc.2 hlive'
    dsimp only
    generalize extendWith stmts res grow kvs (k, v) acc.2 = e at *
    have hread : read e.2 e.1 = read acc.2 kvs ++ [(k, v)] := hy1 ▸ hy3
    have hliveE : Live e.2 e.1 := by
      rw [live_iff, hread, hy2, List.length_append, (live_iff _ _).mp hlive']; rfl
    rw [← hread]
    split
    · exact ⟨_, rfl, .of_grown hy1 (ih (idx + 1) _ _ hliveE)⟩
    · exact ⟨([e.1], e.2), rfl, y, hy1, fun r hr => List.mem_singleton.mp hr ▸ hliveE, rfl⟩

theorem combosWith_fresh (stmts : List Gen.SubsetSlice.Stmt) (res : Nat) (hF : FreshExt stmts res) (grow : Grow)
    (ix : Index) (shuf : List Val → List Val) (keys : List Key) :
    combosWith stmts res grow ix shuf keys = combos ix shuf keys := by
  unfold combosWith combos
  by_cases he : Gen.Subset.comboEmpty keys.length = true
  · simp [he]
  · simp only [he, Bool.false_eq_true, if_false]
    obtain ⟨_, _, _, h3⟩ := combosSlGo_fresh stmts res hF grow ix shuf keys.length keys 0 Slice.nil [] (live_nil _)
    rw [h3, read_nil]

theorem set_append_last (st : Store) (a b : List KV) : (st ++ [a]).set st.length b = st ++ [b] := by
  rw [List.set_append_right _ _ (Nat.le_refl _), Nat.sub_self]; rfl

theorem arrayOf_append_last (st : Store) (a : List KV) : arrayOf (st ++ [a]) st.length = a := by
  unfold arrayOf
  simp

/-- `newkvs := make(T, len(kvs), len(kvs)+1); copy(newkvs, kvs); newkvs = append(newkvs, pair)` allocates one array,
writes only into it, and hands on exactly `kvs ++ [pair]` with no spare capacity. -/
theorem comboExtend_run (grow : Grow) (src : Slice) (pair : KV) (st : Store) (h : Live st src) :
    extendWith Gen.SubsetSlice.comboExtend Gen.SubsetSlice.comboResult grow src pair st =
      (⟨st.length, src.len + 1, src.len + 1⟩, st ++ [read st src ++ [pair]]) := by
  have hlen : (read st src).length = src.len := (live_iff st src).mp h
  have hread1 : ∀ a, read (st ++ [a]) src = read st src := fun a => read_append st [a] src h
  have hmax : max src.len (src.len + 1) = src.len + 1 := by omega
  simp only [extendWith, Gen.SubsetSlice.comboExtend, Gen.SubsetSlice.comboResult, List.foldl_cons, List.foldl_nil,
    step, evalI, evalS, initEnv, setVar, if_true, hmax, Nat.zero_ne_one, Nat.one_ne_zero, if_false, appendSl,
    Nat.le_refl, List.length_singleton, hread1, arrayOf_append_last, set_append_last]
  -- with the length of the received elements as the unit, `take`/`drop` cut at the seams of the appends
  rw [← hlen]
  simp

theorem comboExtend_fresh : FreshExt Gen.SubsetSlice.comboExtend Gen.SubsetSlice.comboResult := by
  intro grow src pair st h
  rw [comboExtend_run grow src pair st h]
  refine ⟨[read st src ++ [pair]], rfl, rfl, ?_⟩
  show (arrayOf (st ++ [read st src ++ [pair]]) st.length).take (src.len + 1) = _
  rw [arrayOf_append_last, ← (live_iff st src).mp h]
  exact List.take_of_length_le (by simp)

/-- **the regenerated product is the list-level product**, for every capacity policy -/
theorem combosSl_eq (grow : Grow) (ix : Index) (shuf : List Val → List Val) (keys : List Key) :
    combosSl grow ix shuf keys = combos ix shuf keys :=
  combosWith_fresh _ _ comboExtend_fresh grow ix shuf keys

/-- the cartesian product of per-key value lists, key by key (declarative reference) -/
def cartesian : List (Key × List Val) → List Path
  | [] => [[]]
  | (k, vs) :: r => vs.flatMap (fun v => (cartesian r).map ((k, v) :: ·))

theorem combosGo_cartesian (ix : Index) (shuf : List Val → List Val) (n : Nat) (ks : List Key) :
    ∀ (idx : Nat) (pre : Path), idx + ks.length = n → ks ≠ [] →
      combosGo ix shuf n idx ks pre = (cartesian (ks.map (fun k => (k, shuf (vals ix k))))).map (pre ++ ·) := by
  induction ks with
  | nil => intro _ _ _ h; exact absurd rfl h
  | cons k ks ih =>
    intro idx pre hn _
    rw [combosGo]
    simp only [List.map_cons, cartesian, List.map_flatMap, List.map_map]
    show (shuf (vals ix k)).flatMap _ = (shuf (vals ix k)).flatMap _
    congr 1
    funext v
    unfold Gen.Subset.comboMore
    cases ks with
    | nil =>
      have hnot : ¬ ((idx : Int) + 1 < (n : Int)) := by simp at hn; omega
      simp [hnot, cartesian]
    | cons k2 ks2 =>
      have hlt : (idx : Int) + 1 < (n : Int) := by simp at hn; omega
      simp only [hlt, decide_true, if_true]
      rw [ih (idx + 1) (pre ++ [(k, v)]) (by simp at hn ⊢; omega) (by simp)]
      apply List.map_congr_left
      intro q _
      simp

theorem combos_cartesian (ix : Index) (shuf : List Val → List Val) (keys : List Key) :
    combos ix shuf keys = if keys = [] then [] else cartesian (keys.map (fun k => (k, shuf (vals ix k)))) := by
  unfold combos Gen.Subset.comboEmpty
  cases keys with
  | nil => simp
  | cons k ks =>
    have hne : ¬ (((k :: ks).length : Int) = 0) := by simp; omega
    simp only [hne, decide_false, Bool.false_eq_true, if_false, reduceCtorEq]
    rw [combosGo_cartesian ix shuf _ (k :: ks) 0 [] (by simp) (by simp)]
    simp

theorem mem_cartesian_map (f : Key → List Val) (ks : List Key) (q : Path) :
    q ∈ cartesian (ks.map fun k => (k, f k)) ↔ q.map (·.1) = ks ∧ ∀ kv ∈ q, kv.2 ∈ f kv.1 := by
  induction ks generalizing q with
  | nil =>
    simp only [List.map_nil, cartesian, List.mem_singleton, List.map_eq_nil_iff]
    exact ⟨fun h => ⟨h, by simp [h]⟩, fun h => h.1⟩
  | cons k ks ih =>
    simp only [List.map_cons, cartesian, List.mem_flatMap, List.mem_map, ih]
    constructor
    · rintro ⟨v, hv, q', ⟨hm, hq'⟩, rfl⟩
      exact ⟨by simp [hm], List.forall_mem_cons.mpr ⟨hv, hq'⟩⟩
    · rintro ⟨hm, hq⟩
      cases q with
      | nil => simp at hm
      | cons kv q' =>
        obtain ⟨rfl, hm'⟩ := List.cons.inj hm
        obtain ⟨h1, h2⟩ := List.forall_mem_cons.mp hq
        exact ⟨kv.2, h1, q', ⟨hm', h2⟩, rfl⟩

theorem mem_combos (ix : Index) (shuf : List Val → List Val) (hshuf : ∀ l v, v ∈ shuf l ↔ v ∈ l)
    (s : List Key) (q : Path) :
    q ∈ combos ix shuf s ↔ s ≠ [] ∧ q.map (·.1) = s ∧ ∀ kv ∈ q, kv.2 ∈ vals ix kv.1 := by
  rw [combos_cartesian]
  by_cases hs : s = []
  · simp [hs]
  · rw [if_neg hs, mem_cartesian_map fun k => shuf (vals ix k)]
    simp only [hshuf, ne_eq, hs, not_false_eq_true, true_and]

theorem preStep_eq (ix : Index) (hosts : List Host) (root : Root) (kvs : Path) :
    preStep ix hosts root kvs = visit (fun p => setIfNonEmpty (filterHostsIdx ix hosts p)) root kvs :=
  modifyGo_eq _ (fun a b => by simp [Gen.Subset.createLastPre]) _ _ 0 _ _ (by simp)

theorem buildPre_eq (ix : Index) (shuf : List Val → List Val) (hosts : List Host) (sels : List (List Key)) :
    buildPre ix shuf hosts sels =
      (sels.flatMap (combos ix shuf)).foldl (visit fun p => setIfNonEmpty (filterHostsIdx ix hosts p)) [] := by
  unfold buildPre
  rw [List.foldl_flatMap]
  congr 1
  funext root sel
  congr 1
  funext root kvs
  exact preStep_eq ix hosts root kvs

theorem activeHosts_buildPre (shuf : List Val → List Val) (hshuf : ∀ l v, v ∈ shuf l ↔ v ∈ l)
    (hosts : List Host) (keys : List Key) (sels : List (List Key)) (hkeys : ∀ s ∈ sels, ∀ k ∈ s, k ∈ keys)
    (q : Path) :
    activeHosts (buildPre (mkIndex hosts keys) shuf hosts sels) q = refHosts hosts sels q := by
  have hk : q.map (·.1) ∈ sels → ∀ kv ∈ q, kv.1 ∈ keys := fun hs kv hkv =>
    hkeys _ hs kv.1 (List.mem_map.mpr ⟨kv, hkv, rfl⟩)
  rw [buildPre_eq, refHosts, ← hostMatches_fun q]
  refine activeHosts_foldl_visit _ _ q (fun lb => by simp only [setIfNonEmpty_eq]; split <;> simp [*]) _ _ (fun h => h.1)
    (fun hp => by rw [setIfNonEmpty_eq, filterHostsIdx_eq hosts keys q (hk hp.2)]; split <;> simp [*]) (fun hq hm => ?_)
    (fun hp hF => ?_)
  · simp only [List.mem_flatMap, mem_combos _ _ hshuf] at hm
    obtain ⟨s, hs, _, hmap, _⟩ := hm
    exact ⟨hq, hmap ▸ hs⟩
  · -- some host matches, so every pair of `q` is indexed and `q` is among the combinations of its selector
    obtain ⟨h, hh⟩ := List.exists_mem_of_ne_nil _ hF
    obtain ⟨hh1, hh2⟩ := List.mem_filter.mp hh
    simp only [List.mem_flatMap, mem_combos _ _ hshuf]
    exact ⟨_, hp.2, fun e => hp.1 (List.map_eq_nil_iff.mp e), rfl, fun kv hkv =>
      (mem_vals_mkIndex _ _ _ _).mpr ⟨hk hp.2 kv hkv, h, hh1, (hostMatches_iff _ _).mp hh2 kv hkv⟩⟩

theorem activeHosts_lbP (shuf : List Val → List Val) (hshuf : ∀ l v, v ∈ shuf l ↔ v ∈ l)
    (hosts : List Host) (raw : List (List Key)) (policy : Nat) (dflt : Path) (q : Path) :
    activeHosts (lbP shuf hosts raw policy dflt).subsets q = refHosts hosts (generateSubsetKeys raw) q :=
  activeHosts_buildPre shuf hshuf hosts _ _ (fun s hs _ hk => (mem_mergeKeys _ _ _).mpr (Or.inl ⟨s, hs, hk⟩)) q

theorem fallback_lbP (shuf : List Val → List Val) (hosts : List Host) (raw : List (List Key)) (policy : Nat) (dflt : Path) :
    (lbP shuf hosts raw policy dflt).fallback = (lbF hosts raw policy dflt).fallback := by
  simp only [lbP, lbF, newPre, newFilter]
  have hk : Gen.Subset.fallbackKindPre (policy : Int) = Gen.Subset.fallbackKindFilter (policy : Int) := rfl
  rw [hk, filterHostsIdx_eq hosts _ dflt
    (fun kv hkv => (mem_mergeKeys _ _ _).mpr (Or.inr (List.mem_map.mpr ⟨kv, hkv, rfl⟩)))]

theorem full_lbP (shuf : List Val → List Val) (hosts : List Host) (raw : List (List Key)) (policy : Nat) (dflt : Path) :
    (lbP shuf hosts raw policy dflt).full = hosts := by
  simp [lbP, newPre, filterHostsIdx, Gen.Subset.filterAll]

theorem buildPreS_eq (grow : Grow) (ix : Index) (shuf : List Val → List Val) (hosts : List Host) (sels : List (List Key)) :
    buildPreS grow ix shuf hosts sels = buildPre ix shuf hosts sels := by
  unfold buildPreS buildPre
  congr 1
  funext root sel
  rw [combosSl_eq]

/-- the pre-index balancer built from the raw configuration, with the combination prefix as a Go slice
(`grow`: capacity policy of `append`, `shuf`: Go's map iteration order) -/
def lbPS (grow : Grow) (shuf : List Val → List Val) (hosts : List Host) (raw : List (List Key)) (policy : Nat)
    (dflt : Path) : LB :=
  newPreS grow shuf hosts (policy : Int) dflt (generateSubsetKeys raw)

theorem lbPS_eq (grow : Grow) (shuf : List Val → List Val) (hosts : List Host) (raw : List (List Key)) (policy : Nat)
    (dflt : Path) : lbPS grow shuf hosts raw policy dflt = lbP shuf hosts raw policy dflt := by
  unfold lbPS lbP newPreS newPre
  simp only [buildPreS_eq]

end MosnVerif.Model.SubsetSlice
