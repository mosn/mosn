/-! Runs of a step function over a list of labels are folds: what every step keeps, every run keeps; what no step
changes, no run changes. And a measure summed over a list: what replacing one entry does to the sum, and what the sum's
being zero / positive says about the entries. Core Lean only; no model is imported. -/
namespace MosnVerif.Lemmas.Fold

/-- a step may use that its label occurs in the run: side conditions on labels such as well-formedness are passed in
this way. -/
theorem foldl_inv_mem {σ α : Type} {P : σ → Prop} {f : σ → α → σ} (l : List α)
    (step : ∀ s, ∀ a ∈ l, P s → P (f s a)) (s : σ) (h : P s) : P (l.foldl f s) := by
  induction l generalizing s with
  | nil => exact h
  | cons a r ih => exact ih (fun s b hb => step s b (.tail _ hb)) _ (step s a (.head _) h)

theorem foldl_inv {σ α : Type} {P : σ → Prop} {f : σ → α → σ} (step : ∀ s a, P s → P (f s a)) (l : List α) (s : σ)
    (h : P s) : P (l.foldl f s) :=
  foldl_inv_mem l (fun s a _ => step s a) s h

theorem foldl_frame {σ α β : Type} (π : σ → β) (f : σ → α → σ) (l : List α) (hf : ∀ x ∈ l, ∀ s, π (f s x) = π s) (s : σ) :
    π (l.foldl f s) = π s :=
  foldl_inv_mem (P := fun t => π t = π s) l (fun t x hx ht => (hf x hx t).trans ht) s rfl

theorem sum_map_set {α : Type} (f : α → Nat) (l : List α) (i : Nat) (t t' : α) (h : l[i]? = some t) :
    ((l.set i t').map f).sum + f t = (l.map f).sum + f t' := by
  induction l generalizing i with
  | nil => simp at h
  | cons x r ih =>
    cases i with
    | zero => cases h; simp; omega
    | succ k => have := ih k h; simp only [List.set_cons_succ, List.map_cons, List.sum_cons]; omega

theorem exists_pos_of_sum_map_pos {α : Type} (f : α → Nat) (l : List α) (h : 0 < (l.map f).sum) :
    ∃ (i : Nat) (t : α), l[i]? = some t ∧ 0 < f t := by
  obtain ⟨x, hx, hpos⟩ := List.sum_pos_iff_exists_pos_nat.mp h
  obtain ⟨t, ht, rfl⟩ := List.mem_map.mp hx
  obtain ⟨i, hi⟩ := List.mem_iff_getElem?.mp ht
  exact ⟨i, t, hi, hpos⟩

theorem eq_zero_of_sum_map_eq_zero {α : Type} (f : α → Nat) (l : List α) (h : (l.map f).sum = 0) : ∀ t ∈ l, f t = 0 :=
  fun _ ht => List.sum_eq_zero_iff_forall_eq_nat.mp h _ (List.mem_map_of_mem ht)

end MosnVerif.Lemmas.Fold
