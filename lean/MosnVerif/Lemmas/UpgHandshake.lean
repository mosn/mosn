import MosnVerif.Model.UpgHandshake
namespace MosnVerif.Model.UpgHandshake
open MosnVerif.Gen.UpgHandshake

theorem upgrade_eq (tReady sd wd : Nat) :
    runOld oldSteps tReady sd wd =
      if tReady ≤ readyDeadlineMs then
        { clock := tReady + 3000 + sd + wd, ackAt := some tReady, stopAt := some (tReady + 3000),
          exitAt := some (tReady + 3000 + sd + wd), aborted := false }
      else { aborted := true } := by
  unfold runOld oldSteps
  simp only [List.foldl, oldStep]
  by_cases h : tReady ≤ readyDeadlineMs
  · simp [h, Nat.zero_add]
  · simp [h, Nat.zero_add]

/-- the schedule of a healthy upgrade: the ready byte arrives within the old process's read deadline -/
theorem upgrade_ready (tReady drainTime wd : Nat) (inflight : List Nat) (h : tReady ≤ readyDeadlineMs) :
    upgrade tReady drainTime inflight wd =
      { clock := tReady + 3000 + shutdownDur drainTime inflight + wd, ackAt := some tReady, stopAt := some (tReady + 3000),
        exitAt := some (tReady + 3000 + shutdownDur drainTime inflight + wd), aborted := false } := by
  unfold upgrade; rw [upgrade_eq, if_pos h]

/-- without the ready byte the old process goes on serving -/
theorem upgrade_aborted (tReady drainTime wd : Nat) (inflight : List Nat) (h : ¬ tReady ≤ readyDeadlineMs) :
    upgrade tReady drainTime inflight wd = { aborted := true } := by
  unfold upgrade; rw [upgrade_eq, if_neg h]

end MosnVerif.Model.UpgHandshake
