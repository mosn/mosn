import MosnVerif.Lemmas.H2Fwd
/-! The model's output satisfies the executable reference predicate of the HTTP/2 → HTTP/2 request direction
(`specReqH2core`: every clause of `specReqH2` but the content-length one). -/
namespace MosnVerif.Lemmas.H2Spec
open MosnVerif.Model.H2Msg MosnVerif.Gen MosnVerif.Lemmas.H2Msg MosnVerif.Lemmas.H2Fwd

def KeysLower (m : HMap) : Prop := ∀ k ∈ m.map (·.1), lower k = k

theorem keysLower_add (m : HMap) (k v : Bytes) (h : KeysLower m) (hk : lower k = k) : KeysLower (m.add k v) := by
  unfold KeysLower at *
  rw [keys_add]
  split
  · exact h
  · exact List.forall_mem_append.mpr ⟨h, fun x hx => List.mem_singleton.mp hx ▸ hk⟩

theorem keyProp_keysLower : KeyProp KeysLower := fun _ _ hs h k hk => h k (hs.subset hk)

theorem keysLower_ofFields (fs : List Field) : KeysLower (ofFields fs) :=
  Lemmas.Fold.foldl_inv (P := KeysLower) (fun m f hm => keysLower_add m _ _ hm (lower_idem f.1)) fs [] (by simp [KeysLower])

theorem name_mem_keys (m : HMap) (f : Field) (hf : f ∈ toFields m) : f.1 ∈ m.map (·.1) :=
  have ⟨_, he, hk, _⟩ := mem_toFields.mp hf
  hk ▸ List.mem_map_of_mem he

theorem lower_nCL : lower nCL = nCL := by decide

/-- names on the HTTP/2 wire are lower case -/
theorem req_names_lower (O : Oracles) (remote : Bytes) (win : List Nat) (w : Wire) (f : Field)
    (hf : f ∈ (fwdReqH2 O remote win w).fields) : lower f.1 = f.1 := by
  unfold fwdReqH2 cliEncode at hf
  simp only [List.mem_append] at hf
  cases hf with
  | inl h =>
    unfold reqFieldsOf at h
    have := name_mem_keys _ f h
    exact filterMap_keeps keyProp_keysLower _ _ reqEntry_key (srvHdr_keeps keyProp_keysLower w (keysLower_ofFields _)) _ this
  | inr h => rw [mem_clField _ _ h]; exact lower_nCL

theorem valuesOf_eq_valuesAt (fs : List Field) (hl : ∀ f ∈ fs, lower f.1 = f.1) (n : Bytes) :
    valuesOf n fs = valuesAt n fs := by
  unfold valuesOf valuesAt
  congr 1
  apply List.filter_congr
  intro f hf
  rw [hl f hf]

theorem joinWith_single (sep x : Bytes) : joinWith sep [x] = x := rfl

theorem valuesOf_nil_of_no_name (fs : List Field) (n : Bytes) (h : ∀ f ∈ fs, lower f.1 ≠ n) : valuesOf n fs = [] := by
  unfold valuesOf
  rw [List.filter_eq_nil_iff.mpr]
  · rfl
  · intro f hf; simpa using h f hf

/-- a request without names the encoder treats specially -/
def PlainNames (fs : List Field) : Prop :=
  ∀ f ∈ fs, lower f.1 ∉ C01H2Map.reqOwnFields ∧ lower f.1 ∉ C01H2Map.reqConnSpecific ∧ lower f.1 ≠ nUA ∧ lower f.1 ≠ nTrailer

theorem sameValues_req (O : Oracles) (remote : Bytes) (win : List Nat) (w : Wire) (hp : PlainNames w.fields) (n : Bytes)
    (hex : n ∉ h2Exempt) : sameValues n w.fields (fwdReqH2 O remote win w).fields = true := by
  have hl := req_names_lower O remote win w
  have hcl : n ≠ nCL := by intro h; apply hex; simp [h2Exempt, h]
  have htr : n ≠ nTrailer := by intro h; apply hex; simp [h2Exempt, h]
  unfold sameValues
  by_cases hck : n = nCookie
  · subst hck
    simp only [if_true, valuesOf_eq_valuesAt _ hl, req_cookie_crumbs]
    split
    · simp [joinWith_single]
    · simp
  · simp only [hck, if_false, valuesOf_eq_valuesAt _ hl]
    by_cases hs : n ∉ C01H2Map.reqOwnFields ∧ n ∉ C01H2Map.reqConnSpecific ∧ n ≠ nUA
    · rw [req_fields_preserved O remote win w n hs.1 hs.2.1 hs.2.2 hck htr hcl]; simp
    · have hnone : valuesOf n w.fields = [] := by
        apply valuesOf_nil_of_no_name
        intro f hf hfn
        have := hp f hf
        rw [hfn] at this
        exact hs ⟨this.1, this.2.1, this.2.2.1⟩
      have hgot : valuesAt n (fwdReqH2 O remote win w).fields = [] := by
        apply List.eq_nil_iff_forall_not_mem.mpr
        intro v hv
        have := req_no_invented_field O remote win w n v hcl hck hv
        rw [hnone] at this; cases this
      rw [hnone, hgot]; simp

theorem fieldsPreserved_of (exempt : List Bytes) (sent got : List Field)
    (h : ∀ n, n ∉ exempt → sameValues n sent got = true) : fieldsPreserved exempt sent got = true := by
  unfold fieldsPreserved
  rw [List.all_eq_true]
  intro n _
  by_cases he : n ∈ exempt
  · simp [he]
  · simp [h n he]

theorem trailersSame_of (s g : Option (List Field)) (h : ∀ n, valuesOf n (s.getD []) = valuesOf n (g.getD [])) :
    trailersSame s g = true := by
  unfold trailersSame
  simp only [List.all_eq_true, decide_eq_true_eq]
  intro n _
  exact h n

/-- **the model's output satisfies the reference predicate** (HTTP/2 → HTTP/2 request; every clause of `specReqH2` except the
content-length one, see `h2_spec_holds_on_model_partial` in Props): for every request with an authority, a path net/url prints
back unchanged, field names outside the encoder's special ones (own, connection-specific, user-agent, trailer announcement;
cookie crumbs, repeated fields, empty values, any case are allowed) and a consistent END_STREAM placement — any body, any
framing, any trailers, any window schedule. -/
theorem spec_holds_on_model (O : Oracles) (remote : Bytes) (win : List Nat) (w : Wire)
    (hesc : O.escaped (splitTarget (pseudoGet w.pseudo nPath)).1 = some (splitTarget (pseudoGet w.pseudo nPath)).1)
    (hauth : pseudoGet w.pseudo nAuthority ≠ [])
    (hp : PlainNames w.fields)
    (hend : w.endOnHeaders = true → w.chunks = [] ∧ w.trailers = none) :
    specReqH2core w (fwdReqH2 O remote win w) = true := by
  have hps := req_pseudo_roundtrip O remote win w hesc
  simp only at hps
  obtain ⟨hm, hpath, hsch, hau⟩ := hps
  have hlen : (fwdReqH2 O remote win w).pseudo.length = 4 := by rw [fwdReqH2_pseudo]; rfl
  have hfp := fieldsPreserved_of h2Exempt w.fields _ (sameValues_req O remote win w hp)
  have hlow : (fwdReqH2 O remote win w).fields.all (fun f => isLowerName f.1) = true := by
    rw [List.all_eq_true]; intro f hf
    simp [isLowerName, req_names_lower O remote win w f hf]
  have hbody := req_body_preserved O remote win w (fun h => (hend h).1)
  have htr : trailersSame w.trailers (fwdReqH2 O remote win w).trailers = true := by
    apply trailersSame_of
    intro n
    cases he : w.endOnHeaders with
    | false =>
      have hn := req_trailers_preserved O remote win w n he
      have hl : ∀ f ∈ (fwdReqH2 O remote win w).trailers.getD [], lower f.1 = f.1 := by
        intro f hf
        unfold fwdReqH2 cliEncode at hf
        rw [srvDecode_eq] at hf
        simp only [he, cliSendsTrailers_true, Bool.false_eq_true, if_false, trailerBlock_eq] at hf
        exact keysLower_ofFields _ _ (name_mem_keys _ f hf)
      rw [valuesOf_eq_valuesAt _ hl, hn]
    | true =>
      have h2 := (hend he).2
      have : (fwdReqH2 O remote win w).trailers = none := by
        unfold fwdReqH2 cliEncode
        rw [srvDecode_eq]
        simp [he, trailerBlock]
      rw [this, h2]
  unfold specReqH2core
  simp [hm, hpath, hsch, hau, hauth, hlen, hfp, hlow, hbody, htr]

end MosnVerif.Lemmas.H2Spec
