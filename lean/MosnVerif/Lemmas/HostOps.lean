import MosnVerif.Model.HostOps
import MosnVerif.Lemmas.DedupFirst
import MosnVerif.Lemmas.NodupMap
/-! The published host list represents the abstract map address → most recently supplied host object. -/
namespace MosnVerif.Model.HostOps
open MosnVerif.Gen.ClusterPub

theorem firstOf_cons (h : H) (r : List H) (a : Nat) :
    firstOf (h :: r) a = if h.a = a then some h else firstOf r a := by
  unfold firstOf
  by_cases e : h.a = a
  · simp [List.find?, e]
  · have : (h.a == a) = false := by simp [e]
    simp only [List.find?, this, if_neg e]

theorem firstOf_dedupFirst (seen : List Nat) (l : List H) (a : Nat) :
    firstOf (dedupFirst seen l) a = if a ∈ seen then none else firstOf l a := by
  induction l generalizing seen with
  | nil => simp [dedupFirst, firstOf]
  | cons h r ih =>
    unfold dedupFirst
    by_cases hs : h.a ∈ seen
    · simp only [hs, if_true]
      rw [ih, firstOf_cons]
      by_cases ha : a ∈ seen
      · simp [ha]
      · have : h.a ≠ a := fun e => ha (e ▸ hs)
        simp [ha, this]
    · simp only [hs, if_false]
      rw [firstOf_cons, ih, firstOf_cons]
      by_cases e : h.a = a
      · subst e; simp [hs]
      · have e' : a ≠ h.a := fun x => e x.symm
        simp [e, e']

theorem dedupFirst_isDedup : Lemmas.DedupFirst.IsDedup (·.a) dedupFirst := ⟨fun _ => rfl, fun _ _ _ => rfl⟩

theorem dedupFirst_nodup (seen : List Nat) (l : List H) : ((dedupFirst seen l).map (·.a)).Nodup :=
  (dedupFirst_isDedup.spec seen l).1

theorem firstOf_append (l c : List H) (a : Nat) :
    firstOf (l ++ c) a = match firstOf l a with | some h => some h | none => firstOf c a := by
  unfold firstOf
  rw [List.find?_append]
  cases List.find? (fun h => h.a == a) l <;> rfl

theorem firstOf_filter (c : List H) (as : List Nat) (a : Nat) :
    firstOf (c.filter (fun h => !as.contains h.a)) a = if as.contains a then none else firstOf c a := by
  unfold firstOf
  rw [List.find?_filter]
  by_cases hc : as.contains a = true
  · rw [if_pos hc, List.find?_eq_none]
    intro x _ hx
    simp only [Bool.not_eq_true', beq_iff_eq, decide_eq_true_eq] at hx
    rw [hx.2, hc] at hx
    cases hx.1
  · rw [if_neg hc]
    congr 1
    funext x
    by_cases e : x.a = a
    · subst e; simpa using hc
    · simp [e]

theorem firstOf_of_mem (c : List H) (hn : (c.map (·.a)).Nodup) (h : H) (hm : h ∈ c) : firstOf c h.a = some h := by
  unfold firstOf
  -- some object with this address is found, and the addresses are distinct
  obtain ⟨x, hx⟩ := Option.isSome_iff_exists.mp (List.find?_isSome (p := fun x => x.a == h.a) |>.mpr ⟨h, hm, beq_self_eq_true _⟩)
  have hk := List.find?_some hx
  rw [hx, Lemmas.NodupMap.eq_of_nodup_map hn (List.mem_of_find?_eq_some hx) hm (beq_iff_eq.mp hk)]

/-- the host list `c` represents the map `m`: distinct addresses, and the object listed for an address is `m`'s. -/
def Rep (c : List H) (m : Nat → Option H) : Prop := (c.map (·.a)).Nodup ∧ ∀ a, firstOf c a = m a

theorem rep_step (c : List H) (m : Nat → Option H) (op : Op) (h : Rep c m) : Rep (applyOp c op) (absOp m op) := by
  have hk : dupKeepsFirst = true := by decide
  cases op with
  | update l =>
    have hp : parts updateParts l c = l := by simp [parts, updateParts]
    simp only [applyOp, absOp, dedup, hk, if_true, hp]
    exact ⟨dedupFirst_nodup _ _, fun a => by rw [firstOf_dedupFirst]; simp⟩
  | append l =>
    have hp : parts appendParts l c = l ++ c := by simp [parts, appendParts]
    simp only [applyOp, absOp, dedup, hk, if_true, hp]
    refine ⟨dedupFirst_nodup _ _, fun a => ?_⟩
    rw [firstOf_dedupFirst, firstOf_append, h.2 a]
    simp only [List.not_mem_nil, if_false]
    cases firstOf l a <;> rfl
  | remove as =>
    have hp : parts removeParts [] c = c := by simp [parts, removeParts]
    simp only [applyOp, absOp, dedup, hk, if_true, hp]
    refine ⟨dedupFirst_nodup _ _, fun a => ?_⟩
    rw [firstOf_dedupFirst, firstOf_filter, h.2 a]; simp
  | inherit => exact h

theorem rep_run (ops : List Op) (c : List H) (m : Nat → Option H) (h : Rep c m) : Rep (runOps c ops) (absRun m ops) :=
  List.foldl_rel (r := Rep) h fun o _ c m h => rep_step c m o h

end MosnVerif.Model.HostOps
