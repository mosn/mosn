/-! One pass over a list that keeps an element unless its key was seen before (Go: a `map[key]bool` filled while
appending). The lemmas are about any function `f` satisfying the two defining equations (`IsDedup key f`): the kept keys
are distinct and unseen, the result is a sublist, no unseen key is lost, a list of distinct unseen keys is kept whole.
Each model defines its own pass by structural recursion, so it is an instance with both equations by `rfl`. Core Lean
only. -/
namespace MosnVerif.Lemmas.DedupFirst
variable {α κ : Type} [DecidableEq κ]

/-- `f seen l` keeps the first element of every key of `l` that is not in `seen`. -/
structure IsDedup (key : α → κ) (f : List κ → List α → List α) : Prop where
  nil : ∀ seen, f seen [] = []
  cons : ∀ seen a l, f seen (a :: l) = if key a ∈ seen then f seen l else a :: f (key a :: seen) l

namespace IsDedup
variable {key : α → κ} {f : List κ → List α → List α}

/-- the keys kept are distinct and none was seen before -/
theorem spec (h : IsDedup key f) (seen : List κ) (l : List α) :
    ((f seen l).map key).Nodup ∧ ∀ a ∈ f seen l, key a ∉ seen := by
  induction l generalizing seen with
  | nil => rw [h.nil]; exact ⟨.nil, nofun⟩
  | cons a l ih =>
    rw [h.cons]
    by_cases hs : key a ∈ seen
    · rw [if_pos hs]; exact ih seen
    · rw [if_neg hs]
      obtain ⟨h1, h2⟩ := ih (key a :: seen)
      refine ⟨List.nodup_cons.mpr ⟨fun hm => ?_, h1⟩, fun b hb => ?_⟩
      · obtain ⟨b, hb, e⟩ := List.mem_map.mp hm
        exact h2 b hb (e ▸ .head _)
      · rcases List.mem_cons.mp hb with rfl | hb
        · exact hs
        · exact fun hm => h2 b hb (.tail _ hm)

theorem sublist (h : IsDedup key f) (seen : List κ) (l : List α) : (f seen l).Sublist l := by
  induction l generalizing seen with
  | nil => rw [h.nil]; exact .slnil
  | cons a l ih =>
    rw [h.cons]
    by_cases hs : key a ∈ seen
    · rw [if_pos hs]; exact (ih seen).cons a
    · rw [if_neg hs]; exact (ih _).cons_cons a

/-- every key of `l` not seen before is kept -/
theorem key_mem (h : IsDedup key f) {seen : List κ} {l : List α} {k : κ} (hm : k ∈ l.map key) (hs : k ∉ seen) :
    k ∈ (f seen l).map key := by
  induction l generalizing seen with
  | nil => exact absurd hm List.not_mem_nil
  | cons a l ih =>
    rw [h.cons]
    by_cases ha : key a ∈ seen
    · rw [if_pos ha]
      exact ih ((List.mem_cons.mp hm).resolve_left fun e => hs (e ▸ ha)) hs
    · rw [if_neg ha]
      by_cases e : k = key a
      · exact List.mem_map.mpr ⟨a, .head _, e.symm⟩
      · exact .tail _ (ih ((List.mem_cons.mp hm).resolve_left e) fun hm => (List.mem_cons.mp hm).elim e hs)

/-- a list with distinct unseen keys is kept as it is -/
theorem eq_self (h : IsDedup key f) {seen : List κ} {l : List α} (hnd : (l.map key).Nodup)
    (hs : ∀ a ∈ l, key a ∉ seen) : f seen l = l := by
  induction l generalizing seen with
  | nil => exact h.nil _
  | cons a l ih =>
    have ⟨ha, hl⟩ := List.nodup_cons.mp hnd
    rw [h.cons, if_neg (hs a (.head _)), ih hl]
    exact fun b hb hm => (List.mem_cons.mp hm).elim (fun e => ha (e ▸ List.mem_map_of_mem hb)) (hs b (.tail _ hb))

end IsDedup
end MosnVerif.Lemmas.DedupFirst
