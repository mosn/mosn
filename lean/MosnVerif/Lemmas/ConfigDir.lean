import MosnVerif.Model.ConfigDir
/-! Lemmas behind C19's directory-mode round trip (`Model/ConfigDir.lean`): `path.Ext`, `uniqueFileName`
(termination bound, freshness, shape of the result), what the regenerated file-name operations preserve, the dump loop
in closed form, the loader on a directory of documents. -/
namespace MosnVerif.Model.ConfigDir
open MosnVerif.Model MosnVerif.Model.DirTypes

theorem extGo_scan (s rest acc : Bytes) (h46 : s.contains 46 = false) (h47 : s.contains 47 = false) :
    extGo (s ++ 46 :: rest) acc = 46 :: (s.reverse ++ acc) := by
  induction s generalizing acc with
  | nil => simp [extGo]
  | cons c r ih =>
    simp only [List.contains_cons, Bool.or_eq_false_iff, beq_eq_false_iff_ne, ne_eq, eq_comm (b := c)] at h46 h47
    simp [extGo, h46.1, h47.1, ih (c :: acc) h46.2 h47.2]

theorem isDigit_bounds (c : Char) (h : c.isDigit = true) : 48 ≤ c.toNat ∧ c.toNat ≤ 57 := by
  simp only [Char.isDigit, Bool.and_eq_true, decide_eq_true_eq] at h
  have h1 : (48 : UInt32).toNat ≤ c.val.toNat := UInt32.le_iff_toNat_le.mp h.1
  have h2 : c.val.toNat ≤ (57 : UInt32).toNat := UInt32.le_iff_toNat_le.mp h.2
  have e1 : (48 : UInt32).toNat = 48 := by decide
  have e2 : (57 : UInt32).toNat = 57 := by decide
  rw [e1] at h1; rw [e2] at h2
  exact ⟨h1, h2⟩

/-- back from a digit byte to its character -/
theorem digit_back (c : Char) (h : c.isDigit = true) : Char.ofNat (UInt8.ofNat c.toNat).toNat = c := by
  have hb := isDigit_bounds c h
  rw [UInt8.toNat_ofNat_of_lt' (show _ < 256 by omega)]
  exact Char.ofNat_toNat c

theorem dec_inj (i j : Nat) (h : dec i = dec j) : i = j := by
  unfold dec at h
  have hb : ∀ n, ((Nat.toDigits 10 n).map (fun c => UInt8.ofNat c.toNat)).map (fun b => Char.ofNat b.toNat) = Nat.toDigits 10 n := by
    intro n
    rw [List.map_map]
    conv => rhs; rw [← List.map_id (Nat.toDigits 10 n)]
    apply List.map_congr_left
    intro c hc
    exact digit_back c (Nat.isDigit_of_mem_toDigits (by decide) (by decide) hc)
  have := congrArg (List.map (fun b : UInt8 => Char.ofNat b.toNat)) h
  rw [hb i, hb j] at this
  have h2 := congrArg (fun l => Nat.ofDigitChars 10 l 0) this
  simpa [Nat.ofDigitChars_ten_toDigits] using h2

theorem dec_digits (i : Nat) : ∀ b ∈ dec i, 48 ≤ b.toNat ∧ b.toNat ≤ 57 := by
  intro b hb
  unfold dec at hb
  simp only [List.mem_map] at hb
  obtain ⟨c, hc, rfl⟩ := hb
  have h := isDigit_bounds c (Nat.isDigit_of_mem_toDigits (b := 10) (by decide) (by decide) hc)
  rw [UInt8.toNat_ofNat_of_lt' (show _ < 256 by omega)]
  exact h

theorem dec_ne_nil (i : Nat) : dec i ≠ [] := by
  unfold dec
  intro h
  exact Nat.toDigits_ne_nil (List.map_eq_nil_iff.mp h)

theorem cand_inj (base e : Bytes) (i j : Nat) (h : cand base e i = cand base e j) : i = j := by
  unfold cand at h
  simp only [List.append_assoc] at h
  have h1 := List.append_cancel_left (List.append_cancel_left h)
  exact dec_inj i j (List.append_cancel_right h1)

/-- `seen` are the candidates tried so far: distinct names, all written; when the fuel (one more than the names written)
runs out there would be more of them than written names -/
theorem uniqLoop_not_mem (written : List Bytes) (base e : Bytes) (fuel i : Nat) (cur : Bytes) (seen : List Bytes)
    (hn : seen.Nodup) (hs : seen ⊆ written) (hc : cur ∉ seen) (hj : ∀ j, i ≤ j → cand base e j ∉ seen)
    (hne : ∀ j, i ≤ j → cand base e j ≠ cur) (hl : written.length < seen.length + fuel) :
    uniqLoop written base e fuel i cur ∉ written := by
  fun_induction uniqLoop written base e fuel i cur generalizing seen with
  | case1 =>
    have := hn.length_le_of_subset hs
    omega
  | case2 fuel i cur hw ih =>
    refine ih (cur :: seen) (List.nodup_cons.mpr ⟨hc, hn⟩) (List.cons_subset.mpr ⟨by simpa using hw, hs⟩)
      (List.not_mem_cons_of_ne_of_not_mem (hne i (Nat.le_refl i)) (hj i (Nat.le_refl i)))
      (fun j hij => List.not_mem_cons_of_ne_of_not_mem (hne j (by omega)) (hj j (by omega)))
      (fun j hij heq => ?_) (by simp only [List.length_cons]; omega)
    have := cand_inj base e j i heq
    omega
  | case3 _ _ cur hw => simpa using hw
theorem uniqLoop_form (written : List Bytes) (base e : Bytes) (fuel i : Nat) (cur : Bytes) :
    uniqLoop written base e fuel i cur = cur ∨ ∃ j, uniqLoop written base e fuel i cur = cand base e j := by
  fun_induction uniqLoop written base e fuel i cur with
  | case1 => exact .inl rfl
  | case2 fuel i cur _ ih => exact .inr (ih.elim (fun h => ⟨i, h⟩) id)
  | case3 => exact .inl rfl

/-- the scan returns a suffix of what it has read (`acc`) behind what is left to read -/
theorem extGo_suffix (r acc : Bytes) : extGo r acc <:+ r.reverse ++ acc := by
  fun_induction extGo r acc with
  | case1 => exact List.nil_suffix
  | case2 => exact List.nil_suffix
  | case3 c r acc _ h46 =>
    rw [beq_iff_eq.mp h46, List.reverse_cons, List.append_assoc]
    exact List.suffix_append _ _
  | case4 c r acc _ _ ih => simpa using ih

theorem ext_suffix (f : Bytes) : ext f <:+ f := by
  simpa [ext] using extGo_suffix f.reverse []

theorem uniq_not_mem (written : List Bytes) (f : Bytes) : uniq written f ∉ written := by
  unfold uniq
  apply uniqLoop_not_mem written _ _ _ _ _ [] List.nodup_nil (by simp) (by simp) (by simp)
  · intro j _ h
    have hl := congrArg List.length h
    have he := (ext_suffix f).length_le
    have hd : 0 < (dec j).length := List.length_pos_iff.mpr (dec_ne_nil j)
    simp only [cand, List.length_append, List.length_take] at hl
    omega
  · simp

theorem uniq_form (written : List Bytes) (f : Bytes) :
    uniq written f = f ∨ ∃ j, uniq written f = cand (f.take (f.length - (ext f).length)) (ext f) j :=
  uniqLoop_form written _ _ _ _ f

theorem uniq_of_not_mem (written : List Bytes) (f : Bytes) (h : f ∉ written) : uniq written f = f := by
  unfold uniq uniqLoop
  simp only [List.contains_eq_mem, decide_eq_true_eq, h, if_false]

/-- byte `b` does not occur in `f` -/
def free (b : UInt8) (f : Bytes) : Prop := ∀ x ∈ f, x ≠ b

theorem free_iff {b : UInt8} {f : Bytes} : free b f ↔ f.contains b = false := by
  simp [free, List.forall_mem_ne']

theorem free_append {b : UInt8} {f g : Bytes} (hf : free b f) (hg : free b g) : free b (f ++ g) := by
  intro x hx
  rcases List.mem_append.mp hx with h | h
  · exact hf x h
  · exact hg x h

theorem ext_append_ext (x e : Bytes) (he : isExt e = true) : ext (x ++ e) = e := by
  unfold isExt at he
  cases e with
  | nil => simp at he
  | cons c t =>
    simp only [Bool.and_eq_true, beq_iff_eq, Bool.not_eq_true'] at he
    obtain ⟨⟨⟨⟨hc, _⟩, h46⟩, h47⟩, _⟩ := he
    subst hc
    unfold ext
    have : (x ++ 46 :: t).reverse = t.reverse ++ 46 :: x.reverse := by simp
    rw [this, extGo_scan t.reverse x.reverse [] (by simpa using h46) (by simpa using h47)]
    simp

theorem free_ext {b : UInt8} {f : Bytes} (h : free b f) : free b (ext f) := fun x hx => h x ((ext_suffix f).subset hx)

theorem free_take {b : UInt8} {f : Bytes} (n : Nat) (h : free b f) : free b (f.take n) :=
  fun x hx => h x (List.mem_of_mem_take hx)

theorem free_dec (b : UInt8) (hb : b.toNat < 48 ∨ 57 < b.toNat) (i : Nat) : free b (dec i) := by
  intro x hx hxb
  subst hxb
  have := dec_digits i x hx
  omega

theorem uniq_free (b : UInt8) (hb : b.toNat < 48 ∨ 57 < b.toNat) (hsep : free b Gen.ConfigDir.uniqueSep)
    (w : List Bytes) (f : Bytes) (hf : free b f) : free b (uniq w f) := by
  rcases uniq_form w f with h | ⟨j, h⟩
  · rw [h]; exact hf
  · rw [h]
    unfold cand
    exact free_append (free_append (free_append (free_take _ hf) hsep) (free_dec b hb j)) (free_ext hf)

theorem applyOps_append (stamp : Bytes) (w : List Bytes) (a b : List NameOp) (f : Bytes) :
    applyOps stamp w (a ++ b) f = applyOps stamp w b (applyOps stamp w a f) := by
  induction a generalizing f with
  | nil => rfl
  | cons op r ih => simp [applyOps, ih]

theorem free_flatMap {b o : UInt8} {n f : Bytes} (hn : free b n) (hf : ∀ x ∈ f, x ≠ o → x ≠ b) :
    free b (f.flatMap (fun x => if x == o then n else [x])) := by
  intro x hx
  simp only [List.mem_flatMap] at hx
  obtain ⟨y, hy, hxy⟩ := hx
  split at hxy
  · exact hn x hxy
  · rename_i hne
    simp only [List.mem_singleton] at hxy
    subst hxy
    exact hf x hy (by simpa using hne)

theorem applyOps_noByte (b : UInt8) (hb : b.toNat < 48 ∨ 57 < b.toNat) (stamp : Bytes) (w : List Bytes)
    (hst : free b stamp) (hsep : free b Gen.ConfigDir.uniqueSep) :
    (ops : List NameOp) → (clean : Bool) → noByte b clean ops = true → (f : Bytes) → (clean = true → free b f) →
    free b (applyOps stamp w ops f)
  | [], _, h, _, hf => hf h
  | op :: r, clean, h, f, hf => by
    -- one operation: how `noByte` goes on, and that the name has no `b` whenever it goes on with `true`
    obtain ⟨clean', e, hf'⟩ : ∃ clean', noByte b clean (op :: r) = noByte b clean' r ∧
        (clean' = true → free b (applyOp stamp w op f)) := by
      cases op with
      | orStamp =>
        refine ⟨clean, rfl, fun hc => ?_⟩
        simp only [applyOp]; split
        · exact hst
        · exact hf hc
      | truncate lim keep =>
        refine ⟨clean, rfl, fun hc => ?_⟩
        simp only [applyOp]; split
        · exact free_take _ (hf hc)
        · exact hf hc
      | replaceAll o n =>
        refine ⟨_, rfl, fun hc => ?_⟩
        simp only [Bool.and_eq_true, Bool.or_eq_true, beq_iff_eq, Bool.not_eq_true'] at hc
        exact free_flatMap (free_iff.mpr hc.2) fun x hx hxo => hc.1.elim (fun hcl => hf hcl x hx) fun ho => ho ▸ hxo
      | append s =>
        refine ⟨_, rfl, fun hc => ?_⟩
        simp only [Bool.and_eq_true, Bool.not_eq_true'] at hc
        exact free_append (hf hc.1) (free_iff.mpr hc.2)
      | unique => exact ⟨clean, rfl, fun hc => uniq_free b hb hsep w f (hf hc)⟩
      | mark => exact ⟨clean, rfl, hf⟩
    exact applyOps_noByte b hb stamp w hst hsep r clean' (e ▸ h) _ hf'

/-- what `opsOK` says -/
theorem opsOK_split (ops : List NameOp) (e : Bytes) (h : opsOK ops e = true) :
    ∃ pre, ops = pre ++ [.append e, .unique, .mark] ∧ pre.all (· != .mark) = true ∧ isExt e = true ∧
      noSep false pre = true ∧ noNul false pre = true ∧
      free 47 Gen.ConfigDir.uniqueSep ∧ free 0 Gen.ConfigDir.uniqueSep := by
  unfold opsOK at h
  split at h
  · rename_i e' pre hrev
    simp only [Bool.and_eq_true, beq_iff_eq, Bool.not_eq_true'] at h
    obtain ⟨⟨⟨⟨⟨⟨hm, he⟩, hx⟩, hs⟩, hn⟩, h47⟩, h0⟩ := h
    subst he
    refine ⟨pre.reverse, ?_, by simpa using hm, hx, hs, hn, free_iff.mpr h47, free_iff.mpr h0⟩
    have := congrArg List.reverse hrev
    simpa using this
  · simp at h

theorem ext_uniq (w : List Bytes) (g e : Bytes) (he : isExt e = true) : ext (uniq w (g ++ e)) = e := by
  rcases uniq_form w (g ++ e) with h | ⟨j, h⟩
  · rw [h]; exact ext_append_ext g e he
  · rw [h, ext_append_ext g e he]
    unfold cand
    exact ext_append_ext _ e he

theorem free_isExt (e : Bytes) (he : isExt e = true) : free 47 e ∧ free 0 e := by
  unfold isExt at he
  cases e with
  | nil => simp at he
  | cons c t =>
    simp only [Bool.and_eq_true, beq_iff_eq, Bool.not_eq_true'] at he
    obtain ⟨⟨⟨⟨hc, _⟩, _⟩, h47⟩, h0⟩ := he
    subst hc
    exact ⟨List.forall_mem_cons.mpr ⟨by decide, free_iff.mpr h47⟩,
      List.forall_mem_cons.mpr ⟨by decide, free_iff.mpr h0⟩⟩

/-- a name with an extension in the sense of `isExt` is none of ``, `.`, `..` -/
theorem usable_of_ext {n : Bytes} (he : isExt (ext n) = true) (h0 : free 0 n) (h47 : free 47 n) : usable n = true := by
  have hd : ∀ m ∈ [[], [46], [46, 46]], isExt (ext m) = false := by decide
  have hn : n ∉ [[], [46], [46, 46]] := fun hm => Bool.false_ne_true ((hd n hm).symm.trans he)
  simp only [List.mem_cons, List.not_mem_nil, or_false, not_or] at hn
  unfold usable
  rw [free_iff.mp h0, free_iff.mp h47]
  simp [hn]

/-- the file name of an item: has the extension, is usable, and is new -/
theorem fileName_ok (ops : List NameOp) (e : Bytes) (h : opsOK ops e = true) (stamp : Bytes) (w : List Bytes) (name : Bytes)
    (hs0 : free 0 stamp) (hs47 : free 47 stamp) :
    ext (fileName ops stamp w name) = e ∧ usable (fileName ops stamp w name) = true ∧ fileName ops stamp w name ∉ w := by
  obtain ⟨pre, rfl, _, he, hsep, hnul, hu47, hu0⟩ := opsOK_split ops e h
  have hfn : fileName (pre ++ [.append e, .unique, .mark]) stamp w name = uniq w (applyOps stamp w pre name ++ e) := by
    simp [fileName, applyOps_append, applyOps, applyOp]
  rw [hfn]
  have hext := ext_uniq w (applyOps stamp w pre name) e he
  have hg0 := applyOps_noByte 0 (by decide) stamp w hs0 hu0 pre false hnul name (by simp)
  have hg47 := applyOps_noByte 47 (by decide) stamp w hs47 hu47 pre false hsep name (by simp)
  have hfe := free_isExt e he
  exact ⟨hext, usable_of_ext (hext.symm ▸ he) (uniq_free 0 (by decide) hu0 w _ (free_append hg0 hfe.2))
    (uniq_free 47 (by decide) hu47 w _ (free_append hg47 hfe.1)), uniq_not_mem w _⟩

/-! ### the in-use mark: taken on the final name (`opsOK`), so the kept names are the written names -/

theorem markAt_last (stamp : Bytes) (w : List Bytes) : (pre : List NameOp) → pre.all (· != .mark) = true → (f : Bytes) →
    markAt stamp w (pre ++ [.mark]) f = some (applyOps stamp w (pre ++ [.mark]) f)
  | [], _, f => by simp [markAt, applyOps, applyOp]
  | op :: r, h, f => by
    simp only [List.all_cons, Bool.and_eq_true, bne_iff_ne] at h
    have ih := markAt_last stamp w r h.2 (applyOp stamp w op f)
    cases op with
    | mark => exact absurd rfl h.1
    | _ => simpa [markAt, applyOps] using ih

theorem markAt_opsOK (ops : List NameOp) (e : Bytes) (h : opsOK ops e = true) (stamp : Bytes) (w : List Bytes) (f : Bytes) :
    markAt stamp w ops f = some (fileName ops stamp w f) := by
  obtain ⟨pre, rfl, hm, _⟩ := opsOK_split ops e h
  have : pre ++ [NameOp.append e, .unique, .mark] = (pre ++ [.append e, .unique]) ++ [.mark] := by simp
  rw [this]
  exact markAt_last stamp w _ (by simp [hm]) f

/-- the names the item loop of `MarshalJSON` chooses, as a function of the items and the clock alone — the directory
content is not consulted (newest first; `done` = the items written so far with their file names) -/
def planLoop {α : Type} (ops : List NameOp) (nameOf : α → Bytes) (clock : Nat → Bytes) :
    Nat → List α → List (Bytes × α) → List (Bytes × α)
  | _, [], done => done
  | i, c :: r, done =>
    planLoop ops nameOf clock (i + 1) r ((fileName ops (clock i) (done.map (·.1)) (nameOf c), c) :: done)

/-- the files a dump of `cs` leaves (file name, item), newest first -/
def plan {α : Type} (ops : List NameOp) (nameOf : α → Bytes) (clock : Nat → Bytes) (cs : List α) : List (Bytes × α) :=
  planLoop ops nameOf clock 0 cs []

/-- the file of an item -/
def docOf {α : Type} (enc : α → Json) (p : Bytes × α) : Bytes × Body := (p.1, .doc (enc p.2))

/-- the clock never shows a NUL byte or a separator (it shows decimal digits) -/
def ClockOK (clock : Nat → Bytes) : Prop := ∀ i, free 0 (clock i) ∧ free 47 (clock i)

/-- a file written under a name none of `files` carries goes in front of them; of the files `d0` behind them those of
another name stay -/
theorem write_new (files d0 : Dir) (names : List Bytes) (n : Bytes) (b : Body) (hn : n ∉ files.map (·.1)) :
    write (files ++ d0.filter (fun f => !names.contains f.1)) n b =
      (n, b) :: files ++ d0.filter (fun f => !(n :: names).contains f.1) := by
  unfold write
  rw [List.filter_append, List.filter_filter,
    List.filter_eq_self.mpr fun f hf => bne_iff_ne.mpr fun h => hn (List.mem_map.mpr ⟨f, hf, h⟩)]
  simp only [List.contains_cons, Bool.not_or, bne, List.cons_append]

/-- the item loop in closed form: the names are those of `planLoop`, pairwise distinct and with the extension; the
directory holds the files of the plan, in front of the files found at the start (`d0`) that have other names -/
theorem dumpLoop_plan {α : Type} (ops : List NameOp) (e : Bytes) (hops : opsOK ops e = true) (enc : α → Json)
    (nameOf : α → Bytes) (clock : Nat → Bytes) (hclock : ClockOK clock) (d0 : Dir) :
    (cs : List α) → (i : Nat) → (done P : List (Bytes × α)) → planLoop ops nameOf clock i cs done = P →
    (done.map (·.1)).Nodup → (∀ p ∈ done, ext p.1 = e) →
    dumpLoop ops enc nameOf clock i cs
        (done.map (docOf enc) ++ d0.filter (fun f => !(done.map (·.1)).contains f.1)) (done.map (·.1)) (done.map (·.1)) =
      some (P.map (docOf enc) ++ d0.filter (fun f => !(P.map (·.1)).contains f.1), P.map (·.1), P.map (·.1)) ∧
      (P.map (·.1)).Nodup ∧ (∀ p ∈ P, ext p.1 = e) ∧ P.map (·.2) = cs.reverse ++ done.map (·.2)
  | [], _, done, _, rfl, hnd, hex => ⟨rfl, hnd, hex, rfl⟩
  | c :: r, i, done, P, hP, hnd, hex => by
    obtain ⟨hext, huse, hnew⟩ := fileName_ok ops e hops (clock i) (done.map (·.1)) (nameOf c) (hclock i).1 (hclock i).2
    simp only [dumpLoop, markAt_opsOK ops e hops, huse, if_true]
    simp only [planLoop] at hP
    generalize fileName ops (clock i) (done.map (·.1)) (nameOf c) = n at hext hnew hP
    rw [write_new _ d0 _ n _ (by simpa [docOf, Function.comp_def] using hnew)]
    obtain ⟨h1, h2, h3, h4⟩ := dumpLoop_plan ops e hops enc nameOf clock hclock d0 r (i + 1) ((n, c) :: done) P hP
      (List.nodup_cons.mpr ⟨hnew, hnd⟩) (List.forall_mem_cons.mpr ⟨hext, hex⟩)
    exact ⟨h1, h2, h3, by rw [h4]; simp⟩

/-- what the dump leaves in the directory: exactly one file per item, under pairwise distinct names with the
extension, whatever was there before -/
theorem marshalDynamic_spec {α : Type} (ops : List NameOp) (e : Bytes) (hops : opsOK ops e = true) (enc : α → Json)
    (nameOf : α → Bytes) (clock : Nat → Bytes) (hclock : ClockOK clock) (d : Dir) (cs : List α) :
    ∃ files : List (Bytes × α), marshalDynamic ops enc nameOf clock d cs = some (files.map (docOf enc)) ∧
      (files.map (·.1)).Nodup ∧ (∀ p ∈ files, ext p.1 = e) ∧ files.map (·.2) = cs.reverse ∧
      files = plan ops nameOf clock cs := by
  obtain ⟨h1, h2, h3, h4⟩ := dumpLoop_plan ops e hops enc nameOf clock hclock d cs 0 [] _ rfl List.nodup_nil (by simp)
  simp only [List.map_nil, List.nil_append, List.contains_nil, Bool.not_false, List.append_nil,
    List.filter_eq_self.mpr fun _ _ => rfl] at h1 h4
  refine ⟨plan ops nameOf clock cs, ?_, h2, h3, h4, rfl⟩
  unfold marshalDynamic plan
  rw [h1]
  simp only
  rw [List.filter_append, List.filter_eq_self.mpr, List.filter_eq_nil_iff.mpr, List.append_nil]
  · intro f hf
    simp only [List.mem_filter, Bool.not_eq_true', List.contains_eq_mem, decide_eq_false_iff_not] at hf
    simp [hf.2, List.mem_map_of_mem hf.1]
  · intro f hf
    obtain ⟨p, hp, rfl⟩ := List.mem_map.mp hf
    simp [docOf, List.mem_map_of_mem hp]

/-- the loader on the files of items that carry the extension and that the codec reads back: every item, in file order -/
theorem loadL_docs {α : Type} (dcd : Json → Option α) (e : Bytes) (enc : α → Json) (nrm : α → α) :
    (L : List (Bytes × α)) → (∀ p ∈ L, ext p.1 = e ∧ dcd (enc p.2) = some (nrm p.2)) →
    loadL dcd e (L.map (docOf enc)) = some (L.map fun p => nrm p.2)
  | [], _ => rfl
  | p :: r, h => by
    obtain ⟨he, hc⟩ := h p List.mem_cons_self
    simp [loadL, docOf, he, hc, loadL_docs dcd e enc nrm r fun q hq => h q (List.mem_cons_of_mem _ hq)]

/-- **the directory round trip**: whatever the directory held, after the dump the loader returns exactly the dumped
items (each as one (un)marshal cycle `nrm` leaves it), as a permutation -/
theorem dynamic_roundtrip_gen {α : Type} (ops : List NameOp) (e : Bytes) (hops : opsOK ops e = true)
    (enc : α → Json) (dcd : Json → Option α) (nrm : α → α) (nameOf : α → Bytes) (clock : Nat → Bytes)
    (hclock : ClockOK clock) (d : Dir) (cs : List α) (hcodec : ∀ c ∈ cs, dcd (enc c) = some (nrm c)) :
    ∃ d' l, marshalDynamic ops enc nameOf clock d cs = some d' ∧ unmarshalDynamic dcd e d' = some l ∧
      l.Perm (cs.map nrm) := by
  obtain ⟨files, h1, _, h3, h4, _⟩ := marshalDynamic_spec ops e hops enc nameOf clock hclock d cs
  -- the sorted directory is the files of the sorted plan
  refine ⟨_, (files.mergeSort fun a b => bytesLe a.1 b.1).map fun p => nrm p.2, h1, ?_, ?_⟩
  · unfold unmarshalDynamic
    rw [← List.map_mergeSort (r := fun a b => bytesLe a.1 b.1) fun _ _ _ _ => rfl]
    apply loadL_docs dcd e enc nrm
    intro p hp
    have hp := List.mem_mergeSort.mp hp
    exact ⟨h3 p hp, hcodec p.2 (List.mem_reverse.mp (h4 ▸ List.mem_map_of_mem hp))⟩
  · refine ((List.mergeSort_perm files _).map _).trans ?_
    rw [show files.map (fun p => nrm p.2) = cs.reverse.map nrm by rw [← h4, List.map_map]; rfl, List.map_reverse]
    exact List.reverse_perm _

/-! ## the dump does not look at the directory: idempotence, any number of dumps -/

/-- the directory a dump leaves is a function of the items and the clock: `plan`, whatever the directory held -/
theorem marshalDynamic_plan {α : Type} (ops : List NameOp) (e : Bytes) (hops : opsOK ops e = true) (enc : α → Json)
    (nameOf : α → Bytes) (clock : Nat → Bytes) (hclock : ClockOK clock) (d : Dir) (cs : List α) :
    marshalDynamic ops enc nameOf clock d cs = some ((plan ops nameOf clock cs).map (docOf enc)) := by
  obtain ⟨files, h1, _, _, _, h5⟩ := marshalDynamic_spec ops e hops enc nameOf clock hclock d cs
  rw [h1, h5]

theorem applyOps_noStamp (s1 s2 : Bytes) (w : List Bytes) (ops : List NameOp) (h : ops.all (· != .orStamp) = true)
    (f : Bytes) : applyOps s1 w ops f = applyOps s2 w ops f := by
  fun_induction applyOps s1 w ops f with
  | case1 => rfl
  | case2 op r f ih =>
    simp only [List.all_cons, Bool.and_eq_true, bne_iff_ne] at h
    cases op with
    | orStamp => exact absurd rfl h.1
    | _ => exact ih h.2

/-- a non-empty name never reads the clock -/
theorem fileName_clock_indep (ops : List NameOp) (h : stampFirst ops = true) (s1 s2 : Bytes) (w : List Bytes)
    (name : Bytes) (hne : name ≠ []) : fileName ops s1 w name = fileName ops s2 w name := by
  unfold fileName
  cases ops with
  | nil => rfl
  | cons op r =>
    cases op with
    | orStamp =>
      simp only [stampFirst] at h
      have hemp : name.isEmpty = false := by cases name <;> simp_all
      simp only [applyOps, applyOp, hemp]
      exact applyOps_noStamp s1 s2 w r h _
    | _ => exact applyOps_noStamp s1 s2 w _ h _

theorem planLoop_clock_indep {α : Type} (ops : List NameOp) (h : stampFirst ops = true) (nameOf : α → Bytes)
    (k1 k2 : Nat → Bytes) : (cs : List α) → (∀ c ∈ cs, nameOf c ≠ []) → (i j : Nat) → (done : List (Bytes × α)) →
    planLoop ops nameOf k1 i cs done = planLoop ops nameOf k2 j cs done
  | [], _, _, _, _ => rfl
  | c :: r, hne, i, j, done => by
    simp only [planLoop]
    rw [fileName_clock_indep ops h (k1 i) (k2 j) _ (nameOf c) (hne c (by simp))]
    exact planLoop_clock_indep ops h nameOf k1 k2 r (fun c' hc' => hne c' (by simp [hc'])) _ _ _

end MosnVerif.Model.ConfigDir
