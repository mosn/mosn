import MosnVerif.Lemmas.FilterMachine
/-! the reply side: sender filters once per response, single reply, the worker always returns -/
set_option linter.unusedSimpArgs false
namespace MosnVerif.Model.FilterMachine
open MosnVerif.Gen.FilterPhase MosnVerif.Model.FilterChain

/-- the data of a stream state (everything but the control fields phase / inner / outer / halted / …) -/
structure DView where
  f : FState
  upstreamReset : Bool
  procDone : Bool
  upReq : Bool
  trace : List Ev

def St.view (s : St) : DView := ⟨s.toFState, s.upstreamReset, s.procDone, s.upReq, s.trace⟩

@[simp] theorem ret_view (s : St) (p : Nat) : (ret s p).view = s.view := by
  simp [St.view]

/-- sender side untouched so far -/
def SFresh (f : FState) : Prop := f.scalls = (fun _ => 0) ∧ f.scursor = 0

structure Common (v : DView) : Prop where
  again : v.f.again = InitPhase
  cleaned : v.f.cleaned = false
  direct : v.f.direct = false
  procDone : v.procDone = false

/-- the receive phases between two `case`s: nothing pending, nothing denied, nothing sent downstream -/
structure FrontOK (v : DView) : Prop where
  resp : v.f.resp = none
  upResp : v.f.upRespReceived = false
  upstreamReset : v.upstreamReset = false
  status : v.f.statusVar = none
  nodeny : ¬ DenyIn v.trace
  noback : backPart v.trace = []
  sfresh : SFresh v.f

/-- the response side of a trace is empty, or starts with THE one full run of the sender filters and contains no other
sender pass, only the downstream sender calls of one response: the sender filters run at most once per stream and before
anything is sent downstream -/
def SpOK (c : Cfg) (t : List Ev) : Prop :=
  backPart t = [] ∨ ∃ rest, backPart t = .spass 0 (sendRun c.send 0) :: rest ∧ replyShape rest = true

/-- the one full run of the sender filters -/
abbrev theRun (c : Cfg) : Ev := .spass 0 (sendRun c.send 0)

/-- what holds of the data when the worker is about to run the `case` of phase `p` -/
def PhaseData (c : Cfg) (v : DView) (p : Nat) : Prop :=
  Common v ∧
  match p with
  | 0 | 1 | 2 | 3 | 4 | 7 | 8 => FrontOK v
  | 5 | 6 => FrontOK v ∧ v.upReq = true
  | 9 => (c.env.oneway = true ∧ backPart v.trace = []) ∨ FrontOK v
  | 11 => FrontOK v ∧ c.env.oneway = false
  | 12 => v.f.resp.isSome = true ∧ v.upstreamReset = false ∧ backPart v.trace = [] ∧ SFresh v.f ∧ c.env.oneway = false
  | 13 => v.f.resp.isSome = true ∧ v.upstreamReset = false ∧ backPart v.trace = [theRun c] ∧ c.env.oneway = false
  | 14 => ∃ r, v.f.resp = some r ∧ (r.data = true ∨ r.trailers = true) ∧ v.upstreamReset = false ∧
      backPart v.trace = [theRun c, .dh v.f.statusVar false] ∧ c.env.oneway = false
  | 15 => ∃ r, v.f.resp = some r ∧ r.trailers = true ∧ v.upstreamReset = false ∧
      backPart v.trace = [theRun c, .dh v.f.statusVar false] ++ (if r.data then [.dd false] else []) ∧
      c.env.oneway = false
  | _ => False

theorem PhaseData.lt16 {c : Cfg} {v : DView} {p : Nat} (h : PhaseData c v p) : p < 16 := by
  rcases Nat.lt_or_ge p 16 with h' | h'
  · exact h'
  · obtain ⟨k, rfl⟩ : ∃ k, p = k + 16 := ⟨p - 16, by omega⟩
    exact h.2.elim

/-- up to DownRecvTrailer nothing is pending -/
theorem PhaseData.front {c : Cfg} {v : DView} : ∀ {p : Nat}, PhaseData c v p → p ≤ DownRecvTrailer → FrontOK v
  | 0, h, _ | 1, h, _ | 2, h, _ | 3, h, _ | 4, h, _ | 7, h, _ | 8, h, _ => h.2
  | 5, h, _ | 6, h, _ => h.2.1
  | _ + 9, _, hp => by phase_omega

/-- from the sender-filter `case` on: a two-way request whose response is not reset -/
theorem PhaseData.back {c : Cfg} {v : DView} {p : Nat} (h : PhaseData c v p) (hp : UpFilter ≤ p) :
    v.upstreamReset = false ∧ c.env.oneway = false := by
  have : p = 12 ∨ p = 13 ∨ p = 14 ∨ p = 15 := by have := h.lt16; phase_omega
  rcases this with rfl | rfl | rfl | rfl
  · exact ⟨h.2.2.1, h.2.2.2.2.2⟩
  · exact ⟨h.2.2.1, h.2.2.2.2⟩
  · obtain ⟨_, _, _, h1, _, h2⟩ := h.2; exact ⟨h1, h2⟩
  · obtain ⟨_, _, _, h1, _, h2⟩ := h.2; exact ⟨h1, h2⟩

/-- a finished stream: cleaned because it was terminated, is one-way, or got its complete single reply after one full
run of the sender filters -/
def DoneOK (c : Cfg) (v : DView) : Prop :=
  v.f.cleaned = true ∧ (terminatedIn v.trace ∨ c.env.oneway = true ∨
    ∃ r, v.f.resp = some r ∧ backPart v.trace = .spass 0 (sendRun c.send 0) :: replyEvs r v.f.statusVar)

/-- when a filter answered, the pending response and status code are the fold of the filters' handler calls -/
def Ans (v : DView) : Prop :=
  answeredIn v.trace → (v.f.resp, v.f.statusVar) = replyOf (recvVerdicts v.trace) (none, none)

structure Ginv (c : Cfg) (s : St) : Prop where
  live : s.halted = false → PhaseData c s.view s.phase ∧ s.inner ≤ s.phase
  done : s.halted = true → SpOK c s.trace ∧ (s.exhausted = true ∨ s.retried = true ∨ DoneOK c s.view)
  ans : Ans s.view

theorem Ginv_ret (c : Cfg) (g : St) (p : Nat) (hnh : g.halted = false) (hans : Ans g.view) (hsp : SpOK c g.trace)
    (hp : (p = End ∧ DoneOK c g.view) ∨ p = Retry ∨ PhaseData c g.view p) : Ginv c (ret g p) := by
  rcases ret_cases g p with ⟨h, e⟩ | ⟨_, e⟩ | ⟨_, e⟩ | ⟨h, hr, _, e⟩ <;> rw [e]
  · refine ⟨by simp, fun _ => ⟨hsp, .inr (.inr ?_)⟩, hans⟩
    rcases hp with hp | hp | hp
    · exact hp.2
    · exact absurd (h ▸ hp) (by decide)
    · exact (h ▸ hp).2.elim
  · exact ⟨by simp, fun _ => ⟨hsp, .inl rfl⟩, hans⟩
  · exact ⟨by simp, fun _ => ⟨hsp, .inr (.inl rfl)⟩, hans⟩
  · exact ⟨fun _ => ⟨(hp.resolve_left fun x => h x.1).resolve_left hr, Nat.zero_le _⟩, by simp [hnh], hans⟩

theorem Ginv_next (c : Cfg) (g : St) (hnh : g.halted = false) (hans : Ans g.view)
    (hp : PhaseData c g.view (g.phase + 1)) (hin : g.inner ≤ g.phase + 1) :
    Ginv c { g with phase := g.phase + 1 } :=
  ⟨fun _ => ⟨hp, hin⟩, by simp [hnh], hans⟩
/-- `processError` with nothing pending and no again-phase: the worker goes on to the next `case` (`Common` is part of `hp`) -/
theorem G_next (c : Cfg) (g : St) {p : Nat} (hph : g.phase = p) (hnh : g.halted = false) (hr : g.upstreamReset = false)
    (hans : Ans g.view) (hin : g.inner ≤ g.phase + 1) (hp : PhaseData c g.view (p + 1)) : Ginv c (afterPE c g) := by
  subst hph
  have ha : g.again = InitPhase := hp.1.again
  have hpd : g.procDone = false := hp.1.procDone
  have hd : g.direct = false := hp.1.direct
  rw [afterPE_noReset c g hr, afterPEd_noReset c false g hp.1.cleaned hr, if_neg (Bool.eq_false_iff.mp hd),
    if_neg Bool.noConfusion, if_neg (not_not_intro ha), if_neg (Bool.eq_false_iff.mp hpd)]
  exact Ginv_next c g hnh hans hp hin

/-- `processError` with a pending local reply, outside the sender-filter `case` -/
theorem G_direct (c : Cfg) (g : St) (hnh : g.halted = false) (hc : g.cleaned = false) (hr : g.upstreamReset = false)
    (hd : g.direct = true) (hph : g.phase ≠ UpFilter) (hpd : g.procDone = false) (hans : Ans g.view)
    (hresp : g.resp.isSome = true) (hback : backPart g.trace = []) (hsf : SFresh g.toFState) :
    Ginv c (afterPE c g) := by
  rw [afterPE, afterPEd_noReset c _ g hc hr, if_pos hd]
  have hcom : Common (consumeDirect g).view := ⟨rfl, hc, rfl, hpd⟩
  have hans' : Ans (consumeDirect g).view := hans
  split
  · rename_i ho
    exact Ginv_ret c _ _ hnh hans' (Or.inl hback) (.inr (.inr ⟨hcom, Or.inl ⟨ho, hback⟩⟩))
  · rename_i ho
    have ho : c.env.oneway = false := by simpa using ho
    exact Ginv_ret c _ _ hnh hans' (Or.inl hback) (.inr (.inr ⟨hcom, hresp, hr, hback, hsf, ho⟩))

theorem G_cleaned (c : Cfg) (g : St) (hnh : g.halted = false) (hans : Ans g.view)
    (hsp : SpOK c g.trace) (hdone : DoneOK c g.view) : Ginv c (afterPE c g) := by
  rw [afterPE_cleaned c g hdone.1]
  exact Ginv_ret c g End hnh hans hsp (.inl ⟨rfl, hdone⟩)

theorem backPart_snoc (t : List Ev) (e : Ev) : backPart (t ++ [e]) = backPart t ++ (if isBack e then [e] else []) := by
  simp [backPart, List.filter_append, List.filter_cons]

theorem recvVerdicts_append (t u : List Ev) : recvVerdicts (t ++ u) = recvVerdicts t ++ recvVerdicts u := by
  induction t with
  | nil => rfl
  | cons e r ih => cases e <;> simp [recvVerdicts, ih]

theorem recvVerdicts_snoc_rpass (t : List Ev) (p : RPhase) (st : Nat) (invs : List Inv) :
    recvVerdicts (t ++ [.rpass p st invs]) = recvVerdicts t ++ invs.map (·.2) := by
  rw [recvVerdicts_append]; simp [recvVerdicts]

theorem recvVerdicts_snoc_other (t : List Ev) (e : Ev) (h : isRpass e = false) :
    recvVerdicts (t ++ [e]) = recvVerdicts t := by
  rw [recvVerdicts_append]; cases e <;> simp [isRpass] at h <;> simp [recvVerdicts]

theorem mem_recvVerdicts {t : List Ev} {v : Verdict} (h : v ∈ recvVerdicts t) :
    ∃ p st invs, Ev.rpass p st invs ∈ t ∧ ∃ iv ∈ invs, iv.2 = v := by
  fun_induction recvVerdicts t with
  | case1 => cases h
  | case2 p st invs r ih =>
    rcases List.mem_append.mp h with h | h
    · exact ⟨p, st, invs, List.mem_cons_self, List.mem_map.mp h⟩
    · obtain ⟨p', st', invs', hm, hx⟩ := ih h
      exact ⟨p', st', invs', List.mem_cons_of_mem _ hm, hx⟩
  | case3 e r _ ih =>
    obtain ⟨p', st', invs', hm, hx⟩ := ih h
    exact ⟨p', st', invs', List.mem_cons_of_mem _ hm, hx⟩

theorem deny_of_verdict {t : List Ev} {v : Verdict} (h : v ∈ recvVerdicts t) (hd : v.isDeny = true) : DenyIn t := by
  obtain ⟨p, st, invs, hm, iv, hiv, rfl⟩ := mem_recvVerdicts h
  exact ⟨_, hm, by simp only [denyEv, List.any_eq_true]; exact ⟨iv, hiv, hd⟩⟩

theorem answers_isDeny {v : Verdict} (h : v.act.answers = true) : v.isDeny = true := by
  simp [Verdict.isDeny, h]

theorem answeredIn_deny {t : List Ev} (h : answeredIn t) : DenyIn t := by
  obtain ⟨v, hv, ha⟩ := h
  exact deny_of_verdict hv (answers_isDeny ha)

theorem nodeny_noact {t : List Ev} (h : ¬ DenyIn t) : ∀ v ∈ recvVerdicts t, v.act = .none := by
  intro v hv
  cases ha : v.act with
  | none => rfl
  | hijack k b => exact absurd (deny_of_verdict hv (by simp [Verdict.isDeny, ha, Act.answers])) h
  | direct => exact absurd (deny_of_verdict hv (by simp [Verdict.isDeny, ha, Act.answers])) h
  | terminate k => exact absurd (deny_of_verdict hv (by simp [Verdict.isDeny, ha])) h

theorem Ans_of_nodeny {v : DView} (h : ¬ DenyIn v.trace) : Ans v := fun ha => absurd (answeredIn_deny ha) h

/-- `processError` after a pool refusal / upstream reset (no filter denied, so none answered) -/
theorem G_reset (c : Cfg) (g : St) (hnh : g.halted = false) (hcom : Common g.view) (hr : g.upstreamReset = true)
    (hph : g.phase ≠ UpFilter) (hnd : ¬ DenyIn g.trace) (hback : backPart g.trace = []) (hsf : SFresh g.toFState) :
    Ginv c (afterPE c g) := by
  have hd : g.direct = false := hcom.direct
  rw [afterPE_reset c g hcom.cleaned hr, if_neg (Bool.eq_false_iff.mp hd), if_pos hph]
  by_cases ho : c.env.oneway = true
  · rw [if_pos ho]
    exact Ginv_ret c _ _ hnh (Ans_of_nodeny hnd) (Or.inl hback) (.inr (.inr ⟨hcom, Or.inl ⟨ho, hback⟩⟩))
  rw [if_neg ho]
  by_cases hq : resetRetry c g = true
  · -- the reset is retried: `processError` returns the phase Retry, the model stops with `retried`
    rw [if_pos hq]
    exact Ginv_ret c _ Retry hnh (Ans_of_nodeny hnd) (Or.inl hback) (.inr (.inl rfl))
  · rw [if_neg hq]
    exact Ginv_ret c _ _ hnh (Ans_of_nodeny hnd) (Or.inl hback)
      (.inr (.inr ⟨{ hcom with again := rfl, direct := rfl }, rfl, rfl, hback, hsf, Bool.eq_false_iff.mpr ho⟩))

theorem FrontOK.rinv {s : St} (h : FrontOK s.view) : Rinv s.toFState := fun hx => by
  rcases hx with hx | hx
  · rw [show s.toFState.resp = none from h.resp] at hx; cases hx
  · rw [show s.toFState.upRespReceived = false from h.upResp] at hx; cases hx

theorem filter_Ginv (c : Cfg) (p : RPhase) (s : St) (hnh : s.halted = false) (hp : recvPhaseOf s.phase = some p)
    (hD : PhaseData c s.view s.phase) (hin : s.inner ≤ s.phase + 1) : Ginv c (afterPE c (filterPass c p s)) := by
  have hph : s.phase = pn p := recvPhaseOf_eq hp
  have hcom : Common s.view := hD.1
  have hf : FrontOK s.view := hD.front (Nat.le_trans (recvPhaseOf_le hp) (by decide))
  generalize hg : filterPass c p s = g
  rw [filterPass_form] at hg
  have gF : g.toFState = (runRecv c.recv p s.toFState).1 := by rw [← hg]
  have gT : g.trace = s.trace ++ [.rpass p (startOf s.toFState p) (runRecv c.recv p s.toFState).2] := by rw [← hg]
  have gP : g.phase = s.phase := by rw [← hg]
  have gR : g.upstreamReset = false := by rw [← hg]; exact hf.upstreamReset
  have gD : g.procDone = false := by rw [← hg]; exact hcom.procDone
  have gH : g.halted = false := by rw [← hg]; exact hnh
  have gU : g.upReq = s.upReq := by rw [← hg]
  have gI : g.inner = s.inner := by rw [← hg]
  have hs_clean : s.toFState.cleaned = false := hcom.cleaned
  have hs_dir : s.toFState.direct = false := hcom.direct
  have hs_again : s.toFState.again = InitPhase := hcom.again
  have hs_resp : s.toFState.resp = none := hf.resp
  have hs_sv : s.toFState.statusVar = none := hf.status
  have hs_up : s.toFState.upRespReceived = false := hf.upResp
  have actok : ActOK s.toFState := ⟨hs_clean, fun h => by rw [hs_up] at h; cases h⟩
  have gS : SFresh g.toFState := by
    rw [gF]; unfold runRecv
    obtain ⟨h1, h2⟩ := recvLoop_sender p (c.recv.drop (startOf s.toFState p)) (startOf s.toFState p) s.toFState
    exact ⟨by rw [h1]; exact hf.sfresh.1, by rw [h2]; exact hf.sfresh.2⟩
  have gB : backPart g.trace = [] := by rw [gT, backPart_snoc]; simp [isBack]; exact hf.noback
  have gReply : (g.toFState.resp, g.toFState.statusVar) = replyOf (recvVerdicts g.trace) (none, none) := by
    have hno : ¬ DenyIn s.trace := hf.nodeny
    rw [gT, recvVerdicts_snoc_rpass, replyOf_append, replyOf_noact _ _ (nodeny_noact hno), gF]
    have := recvLoop_reply p (c.recv.drop (startOf s.toFState p)) (startOf s.toFState p) s.toFState actok
    rw [hs_resp, hs_sv] at this
    exact this
  have gAns : Ans g.view := fun _ => gReply
  have gAgainVals := recvLoop_again_vals p (c.recv.drop (startOf s.toFState p)) (startOf s.toFState p) s.toFState (Or.inl hs_again)
  have gDirResp : g.toFState.direct = true → g.toFState.resp.isSome = true := by
    rw [gF]; exact recvLoop_direct_resp p _ _ _ (fun h => by rw [hs_dir] at h; cases h)
  have hphne : g.phase ≠ UpFilter := by rw [gP, hph]; cases p <;> decide
  by_cases hc : g.cleaned = true
  · -- terminated by a filter
    refine G_cleaned c g gH gAns (Or.inl gB) ⟨hc, Or.inl (Or.inl ?_)⟩
    have hc' : (runRecv c.recv p s.toFState).1.cleaned = true := by rw [← gF]; exact hc
    rcases recvLoop_cleaned p _ _ _ hc' with h | ⟨iv, hiv, ht⟩
    · rw [hs_clean] at h; cases h
    · refine ⟨iv.2, ?_, ht⟩
      show iv.2 ∈ recvVerdicts g.trace
      rw [gT, recvVerdicts_snoc_rpass]
      exact List.mem_append_right _ (List.mem_map_of_mem hiv)
  · have hc : g.cleaned = false := by simpa using hc
    by_cases hd : g.direct = true
    · exact G_direct c g gH hc gR hd hphne gD gAns (gDirResp hd) gB gS
    · have hd : g.direct = false := by simpa using hd
      -- nothing pending: no denying verdict in the pass (a deny leaves direct or cleaned behind)
      have hnd : ∀ iv ∈ (runRecv c.recv p s.toFState).2, iv.2.isDeny = false := fun iv hiv =>
        Bool.eq_false_iff.mpr fun hx => by
          rcases gF ▸ recvLoop_deny p _ _ s.toFState hf.rinv ⟨iv, hiv, hx⟩ with h | h
          · rw [hd] at h; cases h
          · rw [hc] at h; cases h
      have hcore := recvLoop_nodeny p _ _ s.toFState hnd
      simp only [core, Prod.mk.injEq] at hcore
      obtain ⟨_, _, c3, c4, c5⟩ := hcore
      have gND : ¬ DenyIn g.trace := by
        rw [gT, DenyIn_snoc]
        rintro (h | h)
        · exact hf.nodeny h
        · simp only [denyEv, List.any_eq_true] at h
          obtain ⟨iv, hiv, hx⟩ := h
          rw [hnd iv hiv] at hx; cases hx
      have gFront : ∀ a, FrontOK ({ g with again := a } : St).view := fun a =>
        ⟨by show g.toFState.resp = none; rw [gF]; unfold runRecv; rw [c3]; exact hs_resp,
         by show g.toFState.upRespReceived = false; rw [gF]; unfold runRecv; rw [c5]; exact hs_up,
         gR,
         by show g.toFState.statusVar = none; rw [gF]; unfold runRecv; rw [c4]; exact hs_sv,
         gND, gB, gS⟩
      have gFront0 : FrontOK g.view := gFront g.again
      by_cases ha : g.again = InitPhase
      · refine G_next c g (gP.trans hph) gH gR gAns (by rw [gI, gP]; exact hin) ?_
        have hcomg : Common g.view := ⟨ha, hc, hd, gD⟩
        rw [hph] at hD
        cases p
        · exact ⟨hcomg, gFront0⟩
        · exact ⟨hcomg, gFront0⟩
        · exact ⟨hcomg, gFront0, gU.trans hD.2.2⟩
      · -- the last filter asked for a re-run: back to MatchRoute / ChooseHost
        rw [afterPE_noReset c g gR, afterPEd_noReset c false g hc gR, if_neg (Bool.eq_false_iff.mp hd),
          if_neg Bool.noConfusion, if_pos (show g.again ≠ InitPhase from ha)]
        have hv : g.again = MatchRoute ∨ g.again = ChooseHost :=
          (show g.toFState.again = InitPhase ∨ _ by rw [gF]; exact gAgainVals).resolve_left ha
        have hcomg : Common ({ g with again := InitPhase } : St).view := ⟨rfl, hc, hd, gD⟩
        refine Ginv_ret c _ _ gH gAns (Or.inl gB) (.inr (.inr ?_))
        rcases hv with h' | h' <;> rw [h'] <;> exact ⟨hcomg, gFront _⟩

/-- appending an event that is neither a filter pass nor a response-side event keeps `FrontOK` -/
theorem FrontOK_emit {s : St} (hf : FrontOK s.view) (e : Ev) (h1 : isRpass e = false) (h2 : isBack e = false) :
    FrontOK (emit s e).view := by
  refine { hf with nodeny := ?_, noback := ?_ }
  · show ¬ DenyIn (s.trace ++ [e])
    rw [DenyIn_snoc]
    rintro (h | h)
    · exact hf.nodeny h
    · rw [denyEv_rpass h] at h1; cases h1
  · show backPart (s.trace ++ [e]) = []
    rw [backPart_snoc, h2]
    simp only [Bool.false_eq_true, if_false, List.append_nil]
    exact hf.noback

/-- `Ans` only looks at the pending response, the status code and the receiver verdicts -/
theorem Ans_congr {v w : DView} (h : Ans v) (e1 : w.f.resp = v.f.resp) (e2 : w.f.statusVar = v.f.statusVar)
    (e3 : recvVerdicts w.trace = recvVerdicts v.trace) : Ans w := by
  intro ha
  have : answeredIn v.trace := by unfold answeredIn at *; rw [← e3]; exact ha
  rw [e1, e2, e3]; exact h this

theorem replyEvs_shape (r : Resp) (code : Option Nat) : replyShape (replyEvs r code) = true := by
  obtain ⟨d, t⟩ := r
  cases d <;> cases t <;> rfl

theorem SpOK_done (c : Cfg) (t : List Ev) (r : Resp) (code : Option Nat)
    (h : backPart t = .spass 0 (sendRun c.send 0) :: replyEvs r code) : SpOK c t :=
  Or.inr ⟨_, h, replyEvs_shape r code⟩

theorem isDenyEv_eq : isDenyEv = denyEv := by
  funext e; cases e <;> rfl

theorem upfEnabled_nodeny (c : Cfg) (g : St) (h : upfEnabled c g = true) : ¬ DenyIn g.trace := by
  intro ⟨e, he, hd⟩
  simp only [upfEnabled, Bool.and_eq_true, Bool.not_eq_true', List.any_eq_false] at h
  have := h.1.2 e he
  rw [isDenyEv_eq, hd] at this; exact this rfl

/-- `processError` at the end of the UpFilter `case` when the upstream stream of the accepted response was reset during
the sender pass (no filter answered): retried when the regenerated decision on the reset reason fires, else the error reply
of the reason replaces the response and the response pass goes on with it (the repaired line of a3a21969e: `err = nil`) -/
theorem G_reset_upf (c : Cfg) (g : St) (hnh : g.halted = false) (hc : g.cleaned = false) (hr : g.upstreamReset = true)
    (hd : g.direct = false) (hph : g.phase = UpFilter) (hpd : g.procDone = false)
    (hnd : ¬ DenyIn g.trace) (hback : backPart g.trace = [theRun c]) (ho : c.env.oneway = false)
    (hin : g.inner ≤ g.phase + 1) : Ginv c (afterPE c g) := by
  rw [afterPE_reset c g hc hr, if_neg (Bool.eq_false_iff.mp ho), if_neg (Bool.eq_false_iff.mp hd), if_neg (not_not_intro hph)]
  by_cases hq : resetRetry c g = true
  · rw [if_pos hq]
    exact Ginv_ret c _ Retry hnh (Ans_of_nodeny hnd) (Or.inr ⟨[], hback, rfl⟩) (.inr (.inl rfl))
  · rw [if_neg hq]
    refine Ginv_next c (consumeDirect (onUpstreamReset c.env.resetCode g)) hnh (Ans_of_nodeny hnd) ?_ hin
    show PhaseData c _ (g.phase + 1)
    rw [hph]
    exact ⟨⟨rfl, hc, rfl, hpd⟩, rfl, rfl, hback, ho⟩

/-- the sender pass over fresh filters as one update of the state: THE run is appended; only the sender counters and cursor
and — through a `termination` — the cleaned flag are written -/
theorem sendPass_fresh (c : Cfg) (s : St) (h : SFresh s.toFState) :
    ∃ sc cu cl, sendPass c s = { s with scalls := sc, scursor := cu, cleaned := cl, trace := s.trace ++ [theRun c] } ∧
      (cl = true → s.cleaned = true ∨ ∃ iv ∈ sendRun c.send 0, iv.2 = .termination) := by
  have hrun : (runSend c.send s.toFState).2 = sendRun c.send 0 := by
    unfold runSend; rw [h.2]; exact sendLoop_run c.send 0 s.toFState (fun j _ => by rw [h.1])
  have hcl := sendLoop_cleaned (c.send.drop s.toFState.scursor) s.toFState.scursor s.toFState
  obtain ⟨sc, cu, cl, fe⟩ := sendPass_frame c s
  have fe' : (runSend c.send s.toFState).1 = _ := fe
  refine ⟨sc, cu, cl, ?_, fun h' => ?_⟩
  · show emit (liftF s (runSend c.send s.toFState).1) (.spass s.toFState.scursor (runSend c.send s.toFState).2) = _
    rw [fe', hrun, h.2]; rfl
  · rw [← hrun]; exact hcl (by rw [show (sendLoop _ _ _).1 = _ from fe']; exact h')

/-- the sender-filter `case`: the filters run once, in order; the upstream reset that may arrive meanwhile is
handled by `processError` in place -/
theorem send_Ginv (c : Cfg) (s : St) (hnh : s.halted = false) (h : s.phase = UpFilter) (hd : PhaseData c s.view s.phase)
    (hin : s.inner ≤ s.phase + 1) (hans : Ans s.view) : Ginv c (afterPE c (sendPassE c s)) := by
  have hcom : Common s.view := hd.1
  rw [h] at hd
  obtain ⟨hresp, hrst, hback, hsf, ho⟩ := hd.2
  obtain ⟨sc, cu, cl, e, hcl⟩ := sendPass_fresh c s hsf
  show Ginv c (afterPE c (upfEvent c (sendPass c s)))
  rw [e]
  generalize hg : ({ s with scalls := sc, scursor := cu, cleaned := cl, trace := s.trace ++ [theRun c] } : St) = g
  have gB : backPart g.trace = [theRun c] := by
    rw [← hg]; show backPart (s.trace ++ [theRun c]) = _; rw [backPart_snoc, show backPart s.trace = [] from hback]; rfl
  have gAns : Ans g.view := by rw [← hg]; exact Ans_congr hans rfl rfl (recvVerdicts_snoc_other _ _ rfl)
  have gsp : SpOK c g.trace := Or.inr ⟨[], gB, rfl⟩
  have hdone : g.cleaned = true → DoneOK c g.view := fun hc => by
    refine ⟨hc, Or.inl (Or.inr ⟨0, sendRun c.send 0, by rw [← hg]; exact List.mem_append_right _ (List.mem_singleton_self _), ?_⟩)⟩
    rw [← hg] at hc
    exact (hcl hc).resolve_left (by rw [show s.cleaned = false from hcom.cleaned]; exact Bool.noConfusion)
  have gH : g.halted = false := by rw [← hg]; exact hnh
  have gP : g.phase = UpFilter := by rw [← hg]; exact h
  have gI : g.inner ≤ g.phase + 1 := by rw [← hg]; exact hin
  by_cases he : upfEnabled c g = true
  · -- [proxy8] the upstream stream of the accepted response is reset during the sender pass
    rw [show upfEvent c g = { g with upstreamReset := true } by simp [upfEvent, he]]
    by_cases hc : g.cleaned = true
    · exact G_cleaned c _ gH gAns gsp (hdone hc)
    · exact G_reset_upf c _ gH (by simpa using hc) rfl (by rw [← hg]; exact hcom.direct) gP (by rw [← hg]; exact hcom.procDone)
        (upfEnabled_nodeny c g he) gB ho gI
  rw [show upfEvent c g = g by simp [upfEvent, he]]
  by_cases hc : g.cleaned = true
  · exact G_cleaned c g gH gAns gsp (hdone hc)
  · have hc : g.cleaned = false := by simpa using hc
    refine G_next c g gP gH (by rw [← hg]; exact hrst) gAns gI ?_
    subst hg
    exact ⟨{ hcom with cleaned := hc }, hresp, hrst, gB, ho⟩

/-- under the phase invariant the model's escape branches are not taken -/
theorem PhaseData.not_escapes {c : Cfg} {s : St} (hd : PhaseData c s.view s.phase) : ¬ Escapes s := by
  rintro (⟨h, hu⟩ | h | h)
  · rw [h] at hd; have := hd.2.2; rw [show s.view.upReq = s.upReq from rfl, hu] at this; cases this
  · rw [h] at hd; exact hd.2
  · have := hd.lt16; phase_omega

/-- the event that ends the wait when nothing has been received, reset, answered or cleaned before it -/
theorem deliver_fresh (c : Cfg) (s : St) (hcom : Common s.view) (hf : FrontOK s.view) :
    deliver c s = match c.env.up with
      | .resp code data trailers => { s with upRespReceived := true, resp := some ⟨data, trailers⟩, statusVar := some code }
      | .reset => { s with upstreamReset := true }
      | .terminate code => liftF s (sendHijack { s.toFState with upRespReceived := true } code false) := by
  have hpd : s.procDone = false := hcom.procDone
  have hcl : s.cleaned = false := hcom.cleaned
  have hresp : s.resp = none := hf.resp
  have hupr : s.upRespReceived = false := hf.upResp
  have hrst : s.upstreamReset = false := hf.upstreamReset
  unfold deliver
  cases c.env.up <;> simp [hpd, hcl, hresp, hupr, hrst]

/-- under the phase invariant the wait for the upstream event ends -/
theorem PhaseData.not_blocked {c : Cfg} {s : St} (hd : PhaseData c s.view s.phase) (hnh : s.halted = false)
    (h : s.phase = WaitNotify) : (deliver c s).halted = false := by
  rw [h] at hd
  rw [deliver_fresh c s hd.1 hd.2.1]
  cases c.env.up <;> exact hnh

/-- every `case` of the switch, run from a state that satisfies the phase invariant, re-establishes it -/
theorem Case.ginv {c : Cfg} {s r : St} (h : Case c s r) (hnh : s.halted = false) (hd : PhaseData c s.view s.phase)
    (hin : s.inner ≤ s.phase + 1) (hans : Ans s.view) : Ginv c r := by
  have hcom : Common s.view := hd.1
  have hs_clean : s.cleaned = false := hcom.cleaned
  have hs_dir : s.direct = false := hcom.direct
  have hs_pd : s.procDone = false := hcom.procDone
  cases h with
  | body hb =>
    cases hb with
    | filter hp => exact filter_Ginv c _ s hnh hp hd hin
    | route h =>
      rw [h] at hd
      have hf : FrontOK s.view := hd.2
      exact G_next c _ h hnh hf.upstreamReset hans hin ⟨hcom, hf⟩
    | choose h =>
      rw [h] at hd
      have hf : FrontOK s.view := hd.2
      have hij : ∀ code body, Ginv c (afterPE c (liftF { s with nChoose := s.nChoose + 1 } (sendHijack s.toFState code body))) := by
        intro code body
        exact G_direct c _ hnh hs_clean hf.upstreamReset rfl (by show s.phase ≠ UpFilter; rw [h]; decide) hs_pd
          (Ans_of_nodeny hf.nodeny) rfl hf.noback hf.sfresh
      unfold chooseHost
      dsimp only
      split
      · exact hij _ _
      · exact hij _ _
      · split
        · exact G_next c _ h hnh hf.upstreamReset hans hin ⟨{ hcom with }, { hf with }, rfl⟩
        · exact hij _ _
    | upstream h hup =>
      rw [h] at hd
      have hf : FrontOK s.view := hd.2.1
      unfold sendUpstream
      rw [if_neg (by rw [hs_pd, show s.upstreamReset = false from hf.upstreamReset]; simp)]
      split
      · -- the pool refuses the stream
        have hf' := FrontOK_emit hf (.up true) rfl rfl
        exact G_reset c _ hnh { hcom with } rfl (by show s.phase ≠ UpFilter; rw [h]; decide) hf'.nodeny hf'.noback hf'.sfresh
      · have hf' := FrontOK_emit hf (.up false) rfl rfl
        exact G_next c _ h hnh hf.upstreamReset (Ans_of_nodeny hf'.nodeny) hin ⟨{ hcom with }, hf'⟩
    | reqData h =>
      rw [h] at hd
      have hf : FrontOK s.view := hd.2
      exact G_next c s h hnh hf.upstreamReset hans hin ⟨hcom, hf⟩
    | reqTrailers h =>
      rw [h] at hd
      have hf : FrontOK s.view := hd.2
      exact G_next c s h hnh hf.upstreamReset hans hin ⟨hcom, Or.inr hf⟩
    | oneway h ho =>
      rw [h] at hd
      have hb : backPart s.trace = [] := by
        rcases hd.2 with h9 | h9
        · exact h9.2
        · exact h9.noback
      exact G_cleaned c (clean s) hnh hans (Or.inl hb) ⟨rfl, Or.inr (Or.inl ho)⟩
    | wait h =>
      rw [h] at hd
      obtain ⟨hf, ho⟩ := hd.2
      have hrst : s.upstreamReset = false := hf.upstreamReset
      have hna : ¬ DenyIn s.trace := hf.nodeny
      have hne : s.phase ≠ UpFilter := by rw [h]; decide
      rw [deliver_fresh c s hcom hf]
      cases c.env.up with
      | resp code data trailers =>
        exact G_next c _ h hnh hrst (Ans_of_nodeny hna) hin ⟨{ hcom with }, rfl, hrst, hf.noback, hf.sfresh, ho⟩
      | reset => exact G_reset c _ hnh { hcom with } rfl hne hna hf.noback hf.sfresh
      | terminate code => exact G_direct c _ hnh hs_clean hrst rfl hne hs_pd (Ans_of_nodeny hna) rfl hf.noback hf.sfresh
    | send h => exact send_Ginv c s hnh h hd hin hans
    | @headers r h hr =>
      rw [h] at hd
      obtain ⟨_, hrst, hback, ho⟩ := hd.2
      have hrst : s.upstreamReset = false := hrst
      have hback : backPart s.trace = [theRun c] := hback
      unfold respHeaders
      rw [if_neg (by rw [hs_pd, hrst]; simp)]
      split
      · -- headers end the stream: the reply is complete
        rename_i heos
        have hdt : r.data = false ∧ r.trailers = false := by
          cases hd' : r.data <;> cases ht : r.trailers <;> simp [hd', ht] at heos ⊢
        have hbp : backPart (s.trace ++ [Ev.dh s.statusVar true]) = Ev.spass 0 (sendRun c.send 0) :: replyEvs r s.statusVar := by
          rw [backPart_snoc, hback]
          simp [replyEvs, hdt.1, hdt.2, isBack, theRun]
        exact G_cleaned c _ hnh (Ans_congr hans rfl rfl (recvVerdicts_snoc_other _ _ rfl)) (SpOK_done c _ r _ hbp)
          ⟨rfl, Or.inr (Or.inr ⟨r, hr, hbp⟩)⟩
      · rename_i heos
        have hdt : r.data = true ∨ r.trailers = true := by
          cases hd' : r.data <;> cases ht : r.trailers <;> simp [hd', ht] at heos ⊢
        have hbp : backPart (s.trace ++ [Ev.dh s.statusVar false]) = [theRun c, .dh s.statusVar false] := by
          rw [backPart_snoc, hback]; rfl
        exact G_next c _ h hnh hrst (Ans_congr hans rfl rfl (recvVerdicts_snoc_other _ _ rfl)) hin
          ⟨{ hcom with procDone := rfl }, r, hr, hdt, hrst, hbp, ho⟩
    | @data r h hr hdata =>
      rw [h] at hd
      obtain ⟨r', hr', _, hrst, hback, ho⟩ := hd.2
      have hr' : s.resp = some r' := hr'
      obtain rfl : r' = r := by rw [hr] at hr'; cases hr'; rfl
      have hback : backPart s.trace = [theRun c, .dh s.statusVar false] := hback
      have hrst : s.upstreamReset = false := hrst
      unfold respData
      rw [if_neg (by rw [hs_pd, hrst]; simp)]
      split
      · rename_i heos
        have htr : r'.trailers = false := by simpa using heos
        have hbp : backPart (s.trace ++ [Ev.dd true]) = Ev.spass 0 (sendRun c.send 0) :: replyEvs r' s.statusVar := by
          rw [backPart_snoc, hback]
          simp [replyEvs, hdata, htr, isBack, theRun]
        exact G_cleaned c _ hnh (Ans_congr hans rfl rfl (recvVerdicts_snoc_other _ _ rfl)) (SpOK_done c _ r' _ hbp)
          ⟨rfl, Or.inr (Or.inr ⟨r', hr, hbp⟩)⟩
      · rename_i heos
        have htr : r'.trailers = true := by simpa using heos
        have hbp : backPart (s.trace ++ [Ev.dd false]) =
            [theRun c, .dh s.statusVar false] ++ (if r'.data then [.dd false] else []) := by
          rw [backPart_snoc, hback, hdata]; rfl
        exact G_next c _ h hnh hrst (Ans_congr hans rfl rfl (recvVerdicts_snoc_other _ _ rfl)) hin
          ⟨{ hcom with procDone := rfl }, r', hr, htr, hrst, hbp, ho⟩
    | @trailers r h hr htr =>
      rw [h] at hd
      obtain ⟨r', hr', _, hrst, hback, ho⟩ := hd.2
      have hr' : s.resp = some r' := hr'
      obtain rfl : r' = r := by rw [hr] at hr'; cases hr'; rfl
      have hback : backPart s.trace = [theRun c, .dh s.statusVar false] ++ (if r'.data then [.dd false] else []) := hback
      have hrst : s.upstreamReset = false := hrst
      unfold respTrailers
      rw [if_neg (by rw [hs_pd, hrst]; simp)]
      have hbp : backPart (s.trace ++ [Ev.dt]) = Ev.spass 0 (sendRun c.send 0) :: replyEvs r' s.statusVar := by
        rw [backPart_snoc, hback]
        cases hdata : r'.data <;> simp [replyEvs, hdata, htr, isBack, theRun]
      exact G_cleaned c _ hnh (Ans_congr hans rfl rfl (recvVerdicts_snoc_other _ _ rfl)) (SpOK_done c _ r' _ hbp)
        ⟨rfl, Or.inr (Or.inr ⟨r', hr, hbp⟩)⟩
  | retry h _ _ _ _ =>
    -- the response is retried (a retry state exists and the regenerated decision fires): the model stops
    rw [h] at hd
    obtain ⟨_, _, hback, _⟩ := hd.2
    rw [afterPEd_noReset c true (setRetry s) hs_clean rfl, if_neg (by simpa [setRetry, liftF] using hs_dir), if_pos rfl]
    exact Ginv_ret c _ Retry hnh hans (Or.inr ⟨[], hback, rfl⟩) (.inr (.inl rfl))
  | skip hs =>
    refine Ginv_next c s hnh hans ?_ hin
    rcases hs with h | ⟨h, _⟩ | ⟨h, _⟩ | ⟨h, hr⟩ | ⟨h, hr⟩ | ⟨h, hr⟩ <;> rw [h] at hd ⊢
    · exact ⟨hcom, hd.2⟩
    · exact ⟨hcom, hd.2⟩
    · exact ⟨hcom, Or.inr hd.2⟩
    · have : s.toFState.resp.isSome = true := hd.2.1
      rw [show s.toFState.resp = none from hr] at this; cases this
    · obtain ⟨r, hr', hdt, hrst, hback, ho⟩ := hd.2
      have hdata : r.data = false := hr r hr'
      refine ⟨hcom, r, hr', ?_, hrst, ?_, ho⟩
      · rcases hdt with h' | h'
        · rw [hdata] at h'; cases h'
        · exact h'
      · rw [hback, hdata]; rfl
    · obtain ⟨r, hr', htr, _⟩ := hd.2
      rw [hr r hr'] at htr; cases htr
  | toWait h ho =>
    rw [h] at hd
    have hf : FrontOK s.view := by
      rcases hd.2 with h9 | h9
      · rw [ho] at h9; cases h9.1
      · exact h9
    exact ⟨fun _ => ⟨⟨hcom, hf, ho⟩, by show s.inner ≤ WaitNotify; phase_omega⟩, by simp [hnh], hans⟩
  | escape he => exact absurd he hd.not_escapes
  | blocked h hh => rw [hd.not_blocked hnh h] at hh; cases hh
  | last h => have := hd.lt16; phase_omega

theorem PhaseData_SpOK (c : Cfg) (v : DView) (p : Nat) (h : PhaseData c v p) : SpOK c v.trace := by
  rcases Nat.lt_or_ge p 12 with hp | hp
  · rcases Nat.lt_or_ge p 9 with h8 | h8
    · exact .inl (h.front (Nat.le_of_lt_succ h8)).noback
    · have : p = 9 ∨ p = 10 ∨ p = 11 := by omega
      rcases this with rfl | rfl | rfl
      · rcases h.2 with h9 | h9
        · exact .inl h9.2
        · exact .inl h9.noback
      · exact h.2.elim
      · exact .inl h.2.1.noback
  · have : p = 12 ∨ p = 13 ∨ p = 14 ∨ p = 15 := by have := h.lt16; omega
    rcases this with rfl | rfl | rfl | rfl
    · exact .inl h.2.2.2.1
    · exact .inr ⟨[], h.2.2.2.1, rfl⟩
    · obtain ⟨r, _, _, _, hb, _⟩ := h.2
      exact .inr ⟨_, hb, rfl⟩
    · obtain ⟨r, _, _, _, hb, _⟩ := h.2
      exact .inr ⟨_, hb, by cases r.data <;> rfl⟩

theorem Ginv_SpOK (c : Cfg) (s : St) (h : Ginv c s) : SpOK c s.trace := by
  cases hh : s.halted
  · exact PhaseData_SpOK c _ _ (h.live hh).1
  · exact (h.done hh).1

/-- what the invariant says about a finished stream that a filter answered -/
theorem single_reply_of (c : Cfg) (s : St) (hg : Ginv c s) (hh : s.halted = true) (ha : answeredIn s.trace)
    (hnt : ¬ terminatedIn s.trace) (hno : c.env.oneway = false) (hex : s.exhausted = false) (hrt : s.retried = false) :
    ∃ r code, replyOf (recvVerdicts s.trace) (none, none) = (some r, code) ∧
      backPart s.trace = .spass 0 (sendRun c.send 0) :: replyEvs r code := by
  rcases (hg.done hh).2 with hd | hd | ⟨_, hd⟩
  · rw [hex] at hd; cases hd
  · rw [hrt] at hd; cases hd
  · rcases hd with hd | hd | ⟨r, hr, hb⟩
    · exact absurd hd hnt
    · rw [hno] at hd; cases hd
    · have hr : s.resp = some r := hr
      have hb : backPart s.trace = .spass 0 (sendRun c.send 0) :: replyEvs r s.statusVar := hb
      have h1 : (s.resp, s.statusVar) = replyOf (recvVerdicts s.trace) (none, none) := hg.ans ha
      refine ⟨r, s.statusVar, ?_, hb⟩
      rw [← h1, hr]

theorem Ginv_inner_le (c : Cfg) (s : St) (h : Ginv c s) (hnh : s.halted = false) : s.inner ≤ receiveLoopBound := by
  obtain ⟨hd, hin⟩ := h.live hnh
  have hle := hd.lt16
  show s.inner ≤ 16; omega

theorem step_Ginv (c : Cfg) (s : St) (h : Ginv c s) : Ginv c (step c s) := by
  have hs := step_case c s
  generalize step c s = r at hs ⊢
  cases hs with
  | idle => exact h
  | finish hnh =>
    obtain ⟨hd, hin⟩ := h.live hnh
    have hf := finishStart_case c s
    generalize finishStart c s = r at hf ⊢
    cases hf with
    | abandon => exact ⟨(fun hh => by cases hh), fun _ => ⟨PhaseData_SpOK c _ _ hd, Or.inl rfl⟩, h.ans⟩
    | cleaned hcl =>
      have := hd.1.cleaned
      rw [show s.view.f.cleaned = s.cleaned from rfl, hcl] at this; cases this
    | resume => exact ⟨fun _ => ⟨hd, hin⟩, fun hh => Bool.noConfusion (hnh.symm.trans hh), h.ans⟩
    | hijack hcl hhj =>
      -- `sendHijackReply(500)` taken by `processError`: the guard excludes UpFilter / Oneway, so the worker is in the receive phases
      have hp := exhaustHijacks_phase hhj
      have hf : FrontOK s.view := hd.front (by phase_omega)
      have hnd : ¬ DenyIn (finHijack s).trace := hf.nodeny
      exact G_direct c (finHijack s) hnh hcl hf.upstreamReset rfl (by show s.phase ≠ UpFilter; phase_omega) hd.1.procDone
        (Ans_of_nodeny hnd) rfl hf.noback hf.sfresh
  | overrun hnh hi => exact absurd (Ginv_inner_le c s h hnh) (Nat.not_le_of_gt hi)
  | case hnh =>
    obtain ⟨hd, hin⟩ := h.live hnh
    exact (phaseCase_case c { s with inner := s.inner + 1 }).ginv hnh hd (Nat.succ_le_succ hin) h.ans

theorem init_Ginv (c : Cfg) : Ginv c init :=
  ⟨fun _ => ⟨⟨⟨rfl, rfl, rfl, rfl⟩, rfl, rfl, rfl, rfl, (fun ⟨_, he, _⟩ => by cases he), rfl, ⟨rfl, rfl⟩⟩, Nat.le_refl _⟩,
    (fun h => by cases h), (fun ⟨_, hv, _⟩ => by cases hv)⟩

theorem run_Ginv (c : Cfg) (n : Nat) (s : St) (h : Ginv c s) : Ginv c (run c n s) :=
  run_preserves (step_Ginv c) n s h

/-- `run_preserves` for an invariant whose step needs `Ginv` -/
theorem run_Ginv_and {c : Cfg} {P : St → Prop} (hstep : ∀ s, Ginv c s → P s → P (step c s)) (n : Nat) (s : St)
    (hg : Ginv c s) (h : P s) : P (run c n s) :=
  (run_preserves (P := fun s => Ginv c s ∧ P s) (fun s h => ⟨step_Ginv c s h.1, hstep s h.1 h.2⟩) n s ⟨hg, h⟩).2

/-- control effect of one iteration: the task returned, or (nothing retried) the loop of `receive` goes on (same counters) or
`receive` returned a phase into the task loop (whose budget, once used up, is followed by the finishing pass) -/
def Ctl (s r : St) : Prop :=
  r.halted = true ∨ (r.retried = s.retried ∧
    ((r.outer = s.outer ∧ r.inner = s.inner) ∨ (r.outer = s.outer + 1 ∧ s.outer ≤ taskLoopBound)))

theorem ret_ctl (s g : St) (p : Nat) (ho : g.outer = s.outer) (hr : g.retried = s.retried) : Ctl s (ret g p) := by
  rcases ret_cases g p with ⟨_, e⟩ | ⟨_, e⟩ | ⟨_, e⟩ | ⟨_, _, hle, e⟩ <;> rw [e]
  · exact .inl rfl
  · exact .inl rfl
  · exact .inl rfl
  · exact .inr ⟨hr, .inr ⟨congrArg (· + 1) ho, ho ▸ hle⟩⟩

theorem PErr.ctl {c : Cfg} {s g r : St} (h : PErr c g r) (ho : g.outer = s.outer) (hi : g.inner = s.inner)
    (hr : g.retried = s.retried) : Ctl s r := by
  cases h with
  | next k => exact .inr ⟨k.ctl.2.2.2.trans hr, .inl ⟨k.ctl.1.trans ho, k.ctl.2.1.trans hi⟩⟩
  | _ k => exact ret_ctl s _ _ (k.ctl.1.trans ho) (k.ctl.2.2.2.trans hr)

theorem Case.ctl {c : Cfg} {s r : St} (h : Case c s r) : Ctl s r := by
  cases h with
  | body hb => exact (afterPE_perr c _).ctl hb.eff.ctl.2.2.1 hb.eff.ctl.2.1 hb.eff.ctl.2.2.2.2.1
  | retry _ _ _ _ hq => exact (retry_perr c s hq).ctl rfl rfl rfl
  | skip => exact .inr ⟨rfl, .inl ⟨rfl, rfl⟩⟩
  | toWait => exact .inr ⟨rfl, .inl ⟨rfl, rfl⟩⟩
  | escape => exact .inl rfl
  | blocked _ hh => exact .inl hh
  | last => exact ret_ctl s s _ rfl rfl

/-- the control effect of a step of the running task, counted from the incremented loop counter of `receive` -/
theorem step_ctl (c : Cfg) (s : St) (hg : Ginv c s) (hnh : s.halted = false) :
    Ctl { s with inner := s.inner + 1 } (step c s) := by
  have hs := step_case c s
  generalize step c s = r at hs ⊢
  cases hs with
  | idle h => rw [hnh] at h; cases h
  | finish _ ho =>
    have hf := finishStart_case c s
    generalize finishStart c s = r at hf ⊢
    cases hf with
    | abandon | cleaned => exact .inl rfl
    | resume => exact .inr ⟨rfl, .inr ⟨rfl, Nat.le_of_eq ho⟩⟩
    | hijack hcl hhj =>
      rcases (afterPE_perr c (finHijack s)).ctl (s := s) rfl rfl rfl with h | ⟨h1, _⟩
      · exact .inl h
      · rcases ((Finish.hijack hcl hhj).form (hg.live hnh).1.1.again (Nat.le_of_eq ho)).2 with h | ⟨h, _⟩
        · exact .inl h
        · exact .inr ⟨h1, .inr ⟨h, Nat.le_of_eq ho⟩⟩
  | overrun => exact .inl (ret_End_halted s)
  | case => exact (phaseCase_case c { s with inner := s.inner + 1 }).ctl

/-- **denied means not forwarded**, carried along the run beside the phase invariant (which says that the receive phases up to
DownRecvTrailer see no deny): nothing is forwarded before the worker has been through DownRecvHeader, and a deny in the
trace excludes every `NewStream`, a retry, and — while the task runs — a retry state -/
structure Dinv (s : St) : Prop where
  live : s.halted = false → s.retried = false
  front : s.halted = false → s.phase ≤ DownRecvHeader → NoUp s.trace
  deny : DenyExcludes s

theorem step_Dinv (c : Cfg) (s : St) (hg : Ginv c s) (h : Dinv s) : Dinv (step c s) := by
  cases hnh : s.halted with
  | true => rw [step_halted c s hnh]; exact h
  | false =>
  obtain ⟨hd, _⟩ := hg.live hnh
  have ha : s.again = InitPhase := hd.1.again
  have hlive : (step c s).halted = false → (step c s).retried = false := fun hh =>
    (step_ctl c s hg hnh).elim (fun h' => by rw [hh] at h'; cases h') (fun h' => h'.1.trans (h.live hnh))
  have hs := step_case c s
  generalize step c s = r at hs hlive ⊢
  cases hs with
  | idle hh => rw [hnh] at hh; cases hh
  | finish _ ho =>
    have hf := finishStart_case c s
    generalize finishStart c s = r at hf hlive ⊢
    cases hf with
    | abandon | cleaned =>
      exact ⟨hlive, (fun hh => by cases hh), fun hdn => ⟨(h.deny hdn).1, (h.deny hdn).2.1, (fun hh => by cases hh)⟩⟩
    | resume => exact ⟨h.live, h.front, h.deny⟩
    | hijack _ hhj =>
      -- the guard of the 500 reply: the worker is in the receive phases, where nothing was denied
      have hp := exhaustHijacks_phase hhj
      have ht : (afterPE c (finHijack s)).trace = s.trace := (afterPE_perr c (finHijack s)).frame.1
      exact ⟨hlive, fun _ _ => ht ▸ h.front hnh (by phase_omega),
        fun hdn => absurd (by rwa [ht] at hdn) (hd.front (by phase_omega)).nodeny⟩
  | overrun _ hi => exact absurd (Ginv_inner_le c s hg hnh) (Nat.not_le_of_gt hi)
  | case =>
    have hc := phaseCase_case c { s with inner := s.inner + 1 }
    rcases Nat.lt_or_ge s.phase DownRecvData with hp | hp
    · have hf : FrontOK s.view := hd.front (by phase_omega)
      have hnu : NoUp s.trace := h.front hnh (by phase_omega)
      cases hrp : recvPhaseOf s.phase with
      | none =>
        -- no receiver pass: no deny appears; `NewStream` only out of DownRecvHeader, which the worker then leaves
        obtain ⟨⟨evs, ht, hev⟩, _⟩ := hc.shape.noPass hrp
        refine ⟨hlive, fun hh h6 => ?_, fun hdn => absurd (DenyIn_append_noPass (fun e he => (hev e he).1) (ht ▸ hdn)) hf.nodeny⟩
        rw [ht]
        intro e he
        rcases List.mem_append.mp he with he | he
        · exact hnu e he
        · cases hu : isUp e
          · rfl
          · have h6' : s.phase = DownRecvHeader := (hev e he).2 hu
            rcases hc.phase ha hrp with h' | h' | h'
            · rw [hh] at h'; cases h'
            · have : (phaseCase c { s with inner := s.inner + 1 }).phase = s.phase + 1 := h'
              phase_omega
            · phase_omega
      | some q =>
        rw [phaseCase_filter c { s with inner := s.inner + 1 } q hrp] at hlive ⊢
        generalize hg' : filterPass c q { s with inner := s.inner + 1 } = g at hlive ⊢
        rw [filterPass_form] at hg'
        have gT : g.trace = s.trace ++ [.rpass q (startOf s.toFState q) (runRecv c.recv q s.toFState).2] := by rw [← hg']
        have gF : g.toFState = (runRecv c.recv q s.toFState).1 := by rw [← hg']
        have gR : g.retried = false := by rw [← hg']; exact h.live hnh
        have hnu' : NoUp (afterPE c g).trace := by
          rw [(afterPE_perr c g).frame.1, gT, NoUp_snoc]; exact ⟨hnu, rfl⟩
        refine ⟨hlive, fun _ _ => hnu', fun hdn => ⟨hnu', ?_⟩⟩
        rw [(afterPE_perr c g).frame.1, gT, DenyIn_snoc] at hdn
        -- a deny in this pass: `processError` finds the stream cleaned or takes the pending reply
        have hpend : Pending g.toFState := by
          rw [gF]
          exact recvLoop_deny _ _ _ _ hf.rinv (hdn.elim (fun h' => absurd h' hf.nodeny)
            (fun h' => (by simpa only [denyEv, List.any_eq_true] using h' :
              ∃ iv ∈ (runRecv c.recv q s.toFState).2, iv.2.isDeny = true)))
        by_cases hcl : g.cleaned = true
        · rw [afterPE_cleaned c g hcl]
          exact ⟨(ret_retried g End (by decide)).trans gR, fun hh => by rw [ret_End_halted] at hh; cases hh⟩
        · have hdir : g.direct = true := hpend.resolve_right hcl
          have hne : g.phase ≠ UpFilter := by rw [← hg']; show s.phase ≠ UpFilter; have := recvPhaseOf_le hrp; phase_omega
          rw [afterPE, afterPEd_noReset c _ g (by simpa using hcl) (by rw [← hg']; exact hf.upstreamReset), if_pos hdir, if_pos hne]
          split
          · exact ⟨(ret_retried _ Oneway (by decide)).trans gR, fun _ => ret_rs _ _⟩
          · exact ⟨(ret_retried _ UpFilter (by decide)).trans gR, fun _ => ret_rs _ _⟩
    · -- outside the receive phases the stream never comes back: no filter pass, no `NewStream`, a phase ≥ DownRecvData again,
      -- no retry state appears — and without one nothing is retried
      have hn : recvPhaseOf s.phase = none := by
        cases h' : recvPhaseOf s.phase with
        | none => rfl
        | some p => have := recvPhaseOf_le h'; phase_omega
      have hb1 : Benign s.trace (phaseCase c { s with inner := s.inner + 1 }).trace := hc.shape.benign hp
      refine ⟨hlive, fun hh h6 => ?_, fun hdn => ?_⟩
      · rcases hc.phase ha hn with h' | h' | h'
        · rw [hh] at h'; cases h'
        · have : (phaseCase c { s with inner := s.inner + 1 }).phase = s.phase + 1 := h'
          phase_omega
        · phase_omega
      · obtain ⟨h1, h2, h3⟩ := h.deny (hb1.deny hdn)
        obtain ⟨h4, h5⟩ := hc.noRetry ha hn (show s.phase ≠ ChooseHost by phase_omega) (h3 hnh)
        exact ⟨hb1.noUp h1, h5.trans h2, fun _ => h4⟩

theorem init_Dinv : Dinv init :=
  ⟨fun _ => rfl, (fun _ _ _ he => by cases he), fun ⟨_, he, _⟩ => by cases he⟩

/-- after any number of steps: a denying verdict in the trace excludes every `NewStream` — and a retry (which would
be another `NewStream`), whatever the route's retry policy and whatever the upstream does -/
theorem deny_noUp_noRetry (c : Cfg) (n : Nat) :
    DenyIn (run c n init).trace → NoUp (run c n init).trace ∧ (run c n init).retried = false :=
  fun hd => ⟨((run_Ginv_and (step_Dinv c) n init (init_Ginv c) init_Dinv).deny hd).1,
    ((run_Ginv_and (step_Dinv c) n init (init_Ginv c) init_Dinv).deny hd).2.1⟩

theorem deny_noUp (c : Cfg) (n : Nat) : DenyIn (run c n init).trace → NoUp (run c n init).trace :=
  fun hd => (deny_noUp_noRetry c n hd).1

/-- iterations of `receive` made so far, every completed call counted as a full loop: goes up with every step of the running task
and is bounded (the task loop, the step after it, the finishing pass) -/
def progress (s : St) : Nat := s.outer * (receiveLoopBound + 2) + s.inner

theorem step_progress (c : Cfg) (s : St) (hg : Ginv c s) (hnh : s.halted = false) (ho : s.outer ≤ taskLoopBound + 1)
    (hh : (step c s).halted = false) : progress s + 1 ≤ progress (step c s) ∧ (step c s).outer ≤ taskLoopBound + 1 := by
  have hi : s.inner ≤ 16 := Ginv_inner_le c s hg hnh
  have ho : s.outer ≤ 11 := ho
  have hctl := step_ctl c s hg hnh
  generalize step c s = r at hctl hh ⊢
  show s.outer * 18 + s.inner + 1 ≤ r.outer * 18 + r.inner ∧ r.outer ≤ 11
  rcases hctl with h | ⟨_, ⟨h1, h2⟩ | ⟨h1, h3⟩⟩
  · rw [hh] at h; cases h
  · have h1 : r.outer = s.outer := h1
    have h2 : r.inner = s.inner + 1 := h2
    omega
  · -- `receive` returned into the task loop: a whole loop is counted, whatever its counter stood at
    have h1 : r.outer = s.outer + 1 := h1
    have h3 : s.outer ≤ 10 := h3
    omega

theorem run_halted (c : Cfg) (n : Nat) (s : St) (h : s.halted = true) : run c n s = s := by
  induction n with
  | zero => rfl
  | succ n ih => show run c n (step c s) = s; rw [step_halted c s h]; exact ih

theorem run_progress (c : Cfg) (n : Nat) (s : St) (hg : Ginv c s) (ho : s.outer ≤ taskLoopBound + 1)
    (hh : (run c n s).halted = false) : progress s + n ≤ progress (run c n s) ∧ (run c n s).outer ≤ taskLoopBound + 1 := by
  induction n generalizing s with
  | zero => exact ⟨Nat.le_refl _, ho⟩
  | succ n ih =>
    have hh : (run c n (step c s)).halted = false := hh
    show progress s + (n + 1) ≤ progress (run c n (step c s)) ∧ (run c n (step c s)).outer ≤ taskLoopBound + 1
    -- a task that has returned stays where it is
    have hs : (step c s).halted = false := by
      cases h : (step c s).halted with
      | false => rfl
      | true => rw [run_halted c n _ h, h] at hh; cases hh
    have hnh : s.halted = false := by
      cases h : s.halted with
      | false => rfl
      | true => rw [step_halted c s h, h] at hs; cases hs
    obtain ⟨m1, m2⟩ := step_progress c s hg hnh ho hs
    obtain ⟨i1, i2⟩ := ih (step c s) (step_Ginv c s hg) m2 hh
    exact ⟨by omega, i2⟩

/-- **the worker always returns**: after at most `fuel` iterations the task of `OnReceive` has returned (or would block
forever — excluded separately) -/
theorem final_halted (c : Cfg) : (final c).halted = true := by
  cases hh : (final c).halted
  · exfalso
    obtain ⟨h1, h2⟩ := run_progress c fuel init (init_Ginv c) (by decide) hh
    have hin : (run c fuel init).inner ≤ 16 := Ginv_inner_le c _ (run_Ginv c fuel init (init_Ginv c)) hh
    have h1 : 0 + 216 ≤ (run c fuel init).outer * 18 + (run c fuel init).inner := h1
    have h2 : (run c fuel init).outer ≤ 11 := h2
    omega
  · rfl

end MosnVerif.Model.FilterMachine
