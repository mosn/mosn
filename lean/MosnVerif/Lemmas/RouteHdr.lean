import MosnVerif.Model.Route
/-!
# C04: the regenerated header-matcher constructors in closed form, and the header-map lookups (core Lean only)

`Gen.Route.newKeyValueData`, `createCommonHeaderMatcher`, `createHTTPHeaderMatcher`, `newBaseHTTPRouteRule`,
`createRPCRule`, `matchRoute` are regenerated from pkg/router/{configutility,http_rule,rpc_rule}.go.  The closed forms
below say what the theorems need of them: **the configured header name reaches the matcher verbatim** (both
constructors), a regex matcher that does not compile is dropped, `method` entries of an HTTP rule become one
request-variable matcher (last one wins), no constructor installs a query-parameter matcher.  A source change that
normalises the name in one constructor (or at lookup time) changes the regenerated text and these proofs stop checking.
-/
namespace MosnVerif.Model.Route
open MosnVerif.Gen.Route

/-- closed form of `NewKeyValueData`: name and value verbatim; `none` for a regex matcher that does not compile -/
def newKV (h : HeaderCfg) : Option KeyValueData :=
  if h.regex then
    if h.rx.ok then some ⟨h.name, ⟨h.value, true, some h.rx.id⟩⟩ else none
  else some ⟨h.name, ⟨h.value, false, none⟩⟩

theorem gen_newKeyValueData (h : HeaderCfg) : newKeyValueData h = newKV h := by
  obtain ⟨name, value, regex, ⟨id, ok⟩⟩ := h
  have hd : (default : StringMatch).RegexPattern = none := rfl
  cases regex <;> cases ok <;> simp [newKeyValueData, newKV, HeaderCfg.compile, hd]

theorem newKV_some {h : HeaderCfg} {kv : KeyValueData} (hk : newKV h = some kv) :
    kv.Name = h.name ∧ kv.Value.Value = h.value := by
  revert hk
  fun_cases newKV h
  · rintro ⟨⟩; exact ⟨rfl, rfl⟩
  · nofun
  · rintro ⟨⟩; exact ⟨rfl, rfl⟩

/-- the name a built matcher looks up is the configured name, byte for byte -/
theorem newKV_name {h : HeaderCfg} {kv : KeyValueData} (hk : newKV h = some kv) : kv.Name = h.name :=
  (newKV_some hk).1

/-- loop rule for `forRange`: the loop computes `R` when the code after it is `R []` and one pass of the body,
continued by `R r`, is `R (x :: r)` -/
theorem forRange_eq {α β : Type} (body : α → β → β) (done : β) (R : List α → β)
    (hnil : done = R []) (hcons : ∀ x r, body x (R r) = R (x :: r)) : ∀ l, forRange l body done = R l
  | [] => hnil
  | x :: r => (congrArg (body x) (forRange_eq body done R hnil hcons r)).trans (hcons x r)

/-- the same for a loop with loop-carried state -/
theorem forRangeS_eq {α σ β : Type} (body : α → σ → (σ → β) → β) (done : σ → β) (R : List α → σ → β)
    (hnil : ∀ s, done s = R [] s) (hcons : ∀ x r s, body x s (R r) = R (x :: r) s) :
    ∀ l s, forRangeS l body s done = R l s
  | [], s => hnil s
  | x :: r, s => by
    have ih : (fun s' => forRangeS r body s' done) = R r := funext (forRangeS_eq body done R hnil hcons r)
    rw [forRangeS, ih, hcons]

/-- **`CreateCommonHeaderMatcher`** keeps the matchers `NewKeyValueData` accepts, in configuration order -/
theorem gen_createCommon (hs : List HeaderCfg) : createCommonHeaderMatcher hs = hs.filterMap newKV := by
  unfold createCommonHeaderMatcher
  refine (forRangeS_eq _ _ (fun l acc => acc ++ l.filterMap newKV) ?_ ?_ hs _).trans rfl
  · intro acc; simp
  · intro h r acc
    rw [gen_newKeyValueData]
    cases hk : newKV h <;> simp [hk]

/-- the `variables` map of an HTTP header matcher: at most the method variable -/
def varsOf (o : Option Str) : List (Str × Str) :=
  match o with
  | none => []
  | some m => [(varMethod, m)]

theorem mapSet_mapSet {ν : Type} (m : List (Str × ν)) (k : Str) (a b : ν) :
    mapSet (mapSet m k a) k b = mapSet m k b := by
  fun_induction mapSet m k a <;> simp_all [mapSet]

/-- **`CreateHTTPHeaderMatcher`**: the last `method` entry becomes the method-variable matcher, every other entry that
`NewKeyValueData` accepts is kept, in configuration order, under its configured name -/
theorem gen_createHttp (hs : List HeaderCfg) :
    createHTTPHeaderMatcher hs =
      ⟨varsOf (Spec.methodOf hs), (hs.filter (fun h => decide (h.name ≠ methodName))).filterMap newKV⟩ := by
  unfold createHTTPHeaderMatcher
  refine (forRangeS_eq _ _ (fun l m =>
    ⟨match Spec.methodOf l with | some v => mapSet m.variables varMethod v | none => m.variables,
     m.headers ++ (l.filter (fun h => decide (h.name ≠ methodName))).filterMap newKV⟩) ?_ ?_ hs _).trans ?_
  · intro m; simp [Spec.methodOf]
  · intro h r m
    rw [gen_newKeyValueData]
    by_cases hm : h.name = ['m', 'e', 't', 'h', 'o', 'd']
    · cases hr : Spec.methodOf r <;> simp [Spec.methodOf, methodName, hm, hr, mapSet_mapSet]
    · cases hr : Spec.methodOf r <;> cases hk : newKV h <;> simp [Spec.methodOf, methodName, hm, hr, hk]
  · cases Spec.methodOf hs <;> rfl

/-- **`NewBaseHTTPRouteRule`** uses `CreateHTTPHeaderMatcher` and installs no query-parameter matcher -/
theorem gen_newBaseHTTP (hs : List HeaderCfg) :
    newBaseHTTPRouteRule hs = ⟨(), createHTTPHeaderMatcher hs, none⟩ := rfl

/-- the legacy fast-match value of an RPC rule: the value of a lone exact `service` matcher -/
def fastOf (hs : List HeaderCfg) : Str :=
  match hs with
  | [h] => if h.name = rpcRouteMatchKey ∧ h.regex = false then h.value else []
  | _ => []

/-- **`CreateRPCRule`** uses `CreateCommonHeaderMatcher`; the fast match is set for a lone exact `service` matcher -/
theorem gen_createRpc (hs : List HeaderCfg) :
    createRPCRule hs = ⟨(), hs.filterMap newKV, fastOf hs⟩ := by
  unfold createRPCRule fastOf
  simp only [gen_createCommon]
  match hs with
  | [] => rfl
  | [h] =>
    by_cases hn : h.name = rpcRouteMatchKey <;> cases hr : h.regex <;>
      simp [listLen, listAt0, hn, hr] <;> rfl
  | a :: b :: r =>
    have hl : ¬ (listLen (a :: b :: r) = 1) := by simp [listLen]; omega
    simp [hl]
    rfl

/-- with no query-parameter matcher installed, `matchRoute` is the header matcher -/
theorem matchRoute_none (rx : RxOracle) (pq : Str → List (Str × Str)) (ctx hdr : Str → Option Str)
    (hm : HttpHeaderMatcher) : matchRoute rx pq ctx hdr ⟨(), hm, none⟩ = httpMatches rx ctx hdr hm := by
  unfold matchRoute
  cases httpMatches rx ctx hdr hm <;> simp

theorem getExact_eq (l : List (Str × Str)) (k : Str) :
    getExact l k = (l.find? (fun kv => decide (kv.1 = k))).map (·.2) := by
  fun_induction getExact l k <;> simp_all

theorem getFold_eq (l : List (Str × Str)) (k : Str) :
    getFold l k = (l.find? (fun kv => decide (lower kv.1 = lower k))).map (·.2) := by
  fun_induction getFold l k <;> simp_all [equalFold]

/-- **the model of `headers.Get` is the documented name rule** (`Spec.hdrValue`) for every map kind -/
theorem hdr_spec (req : Req) (name : Str) : req.hdr name = Spec.hdrValue req name := by
  unfold Req.hdr Spec.hdrValue
  cases req.kind with
  | exact => exact getExact_eq _ _
  | fold => exact getFold_eq _ _
  | h2 =>
    simp only [getExact_eq, getFold_eq]
    by_cases hc : name.head? = some ':'
    · simp [hc]
    · simp only [hc, if_false]
      cases (req.hdrs.find? (fun kv => decide (lower kv.1 = lower name))) with
      | none => rfl
      | some kv => by_cases hv : kv.2 = [] <;> simp [Option.filter, hv]

end MosnVerif.Model.Route
