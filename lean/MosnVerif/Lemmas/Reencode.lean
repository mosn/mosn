import MosnVerif.Model.Reencode
import MosnVerif.Lemmas.Fold
/-! invariants of the re-encode model (`Model/Reencode.lean`) -/
namespace MosnVerif.Model.Reencode
open MosnVerif.Model MosnVerif.Gen.C01Retain

/-- the frame's buffer holds the frame's bytes, possibly with an id patched in -/
def Own (patch : Nat → Bytes → Bytes) (raw b : Bytes) : Prop := b = raw ∨ ∃ i, b = patch i raw

/-- pool and held buffers are identities that exist; `sent` is what has gone out on the wire -/
structure Wf (sent : List Bytes) (s : St) : Prop where
  plt : ∀ x ∈ s.pool, x < s.next
  hlt : ∀ x ∈ s.held, x < s.next
  snt : s.sent = sent

/-- the decoded frame still owns a reference to its buffer: the buffer is neither pooled nor anybody else's -/
structure Good (patch : Nat → Bytes → Bytes) (raw : Bytes) (sent : List Bytes) (s : St) : Prop extends Wf sent s where
  dlt   : s.data < s.next
  dpool : s.data ∉ s.pool
  dheld : s.data ∉ s.held
  cnt   : 1 ≤ (s.bufs s.data).count
  byt   : Own patch raw (s.bufs s.data).bytes

variable {patch : Nat → Bytes → Bytes} {raw : Bytes} {sent : List Bytes}

theorem updB_ne {f : Nat → Buf} {w i : Nat} {b : Buf} (h : i ≠ w) : updB f w b i = f i := by simp [updB, h]
theorem updB_self {f : Nat → Buf} {w : Nat} {b : Buf} : updB f w b w = b := by simp [updB]

/-- what one operation on the pool does: it touches one wrapper `w`, an identity that exists afterwards; identities are
only added; the pool and the buffers others hold gain at most `w`; no other wrapper changes; the frame keeps pointing at
its buffer and nothing goes out on the wire -/
structure Touch (w : Nat) (s s' : St) : Prop where
  data : s'.data = s.data
  sent : s'.sent = s.sent
  next : s.next ≤ s'.next
  lt   : w < s'.next
  pool : ∀ x ∈ s'.pool, x = w ∨ x ∈ s.pool
  held : ∀ x ∈ s'.held, x = w ∨ x ∈ s.held
  bufs : ∀ i, i ≠ w → s'.bufs i = s.bufs i

theorem Touch.wf {w : Nat} {s s' : St} (t : Touch w s s') (h : Wf sent s) : Wf sent s' :=
  ⟨fun x hx => (t.pool x hx).elim (fun e => e ▸ t.lt) (fun m => Nat.lt_of_lt_of_le (h.plt x m) t.next),
   fun x hx => (t.held x hx).elim (fun e => e ▸ t.lt) (fun m => Nat.lt_of_lt_of_le (h.hlt x m) t.next),
   t.sent.trans h.snt⟩

/-- an operation that touches another wrapper than the frame's leaves the frame in possession of its buffer -/
theorem Touch.good {w : Nat} {s s' : St} (t : Touch w s s') (hne : w ≠ s.data) (h : Good patch raw sent s) :
    Good patch raw sent s' :=
  ⟨t.wf h.toWf, t.data ▸ Nat.lt_of_lt_of_le h.dlt t.next,
   fun hm => (t.pool _ hm).elim (fun e => hne (t.data ▸ e).symm) (t.data ▸ h.dpool),
   fun hm => (t.held _ hm).elim (fun e => hne (t.data ▸ e).symm) (t.data ▸ h.dheld),
   by rw [t.data, t.bufs _ hne.symm]; exact h.cnt, by rw [t.data, t.bufs _ hne.symm]; exact h.byt⟩

/-- `get` touches the wrapper it returns: a pooled one or a new identity; that wrapper holds `f` -/
theorem get_touch (s : St) (c : Option Nat) (f : Bytes) (hp : ∀ x ∈ s.pool, x < s.next) :
    Touch (get s c f).2 s (get s c f).1 ∧ ((get s c f).2 ∈ s.pool ∨ (get s c f).2 = s.next) ∧
    ((get s c f).1.bufs (get s c f).2).bytes = f ∧ (get s c f).1.held = s.held := by
  unfold get
  cases h : c.bind (fun i => s.pool[i]?) with
  | none =>
    exact ⟨⟨rfl, rfl, Nat.le_succ _, Nat.lt_succ_self _, fun x hx => Or.inr hx, fun x hx => Or.inr hx, fun i hi => updB_ne hi⟩,
      Or.inr rfl, by show (updB _ _ _ _).bytes = f; rw [updB_self], rfl⟩
  | some w =>
    have hw : w ∈ s.pool := by
      cases c with
      | none => simp at h
      | some i => exact List.mem_of_getElem? (by simpa using h)
    exact ⟨⟨rfl, rfl, Nat.le_refl _, hp w hw, fun x hx => Or.inr (List.mem_of_mem_erase hx), fun x hx => Or.inr hx,
      fun i hi => updB_ne hi⟩, Or.inl hw, by show (updB _ _ _ _).bytes = f; rw [updB_self], rfl⟩

theorem put_touch (s : St) (w : Nat) (hlt : w < s.next) : Touch w s (put s w) := by
  unfold put
  split
  · exact ⟨rfl, rfl, Nat.le_refl _, hlt, fun x hx => (List.mem_cons.mp hx).imp_right id, fun x hx => Or.inr hx, fun i hi => updB_ne hi⟩
  · exact ⟨rfl, rfl, Nat.le_refl _, hlt, fun x hx => Or.inr hx, fun x hx => Or.inr hx, fun i hi => updB_ne hi⟩

/-- other traffic does nothing, or touches a wrapper that was pooled, is new, or was held by it -/
theorem other_touch (s : St) (o : Other) (hw : Wf sent s) :
    other s o = s ∨ ∃ w, Touch w s (other s o) ∧ (w ∈ s.pool ∨ w = s.next ∨ w ∈ s.held) := by
  cases o with
  | get c f =>
    obtain ⟨t, hm, _, hh⟩ := get_touch s c f hw.plt
    exact Or.inr ⟨_, { t with held := fun x hx => (List.mem_cons.mp hx).imp_right (fun m => hh ▸ m) }, hm.imp_right Or.inl⟩
  | put j =>
    simp only [other]
    cases hj : s.held[j]? with
    | none => exact Or.inl rfl
    | some w =>
      have hm : w ∈ s.held := List.mem_of_getElem? hj
      have t := put_touch { s with held := s.held.eraseIdx j } w (hw.hlt w hm)
      exact Or.inr ⟨w, { t with held := fun x hx => (t.held x hx).imp_right List.mem_of_mem_eraseIdx }, Or.inr (Or.inr hm)⟩

/-- traffic before the decode only needs well-formedness -/
theorem other_wf {s : St} (o : Other) (hw : Wf sent s) : Wf sent (other s o) := by
  rcases other_touch s o hw with e | ⟨w, t, _⟩
  · rw [e]; exact hw
  · exact t.wf hw

theorem pre_wf (pre : List Other) {s : St} (hw : Wf sent s) : Wf sent (pre.foldl other s) :=
  Lemmas.Fold.foldl_inv (fun _ => other_wf) pre s hw

theorem other_good {s : St} (o : Other) (hg : Good patch raw sent s) : Good patch raw sent (other s o) := by
  rcases other_touch s o hg.toWf with e | ⟨w, t, hm⟩
  · rw [e]; exact hg
  · refine t.good ?_ hg
    rcases hm with h | h | h
    · exact fun e => hg.dpool (e ▸ h)
    · exact h ▸ (Nat.ne_of_lt hg.dlt).symm
    · exact fun e => hg.dheld (e ▸ h)

theorem traffic_good (t : List Other) {s : St} (hg : Good patch raw sent s) : Good patch raw sent (t.foldl other s) :=
  Lemmas.Fold.foldl_inv (fun _ => other_good) t s hg

theorem decode_good (patch : Nat → Bytes → Bytes) (raw : Bytes) {s : St} (hw : Wf sent s) :
    Good patch raw sent (decode s raw) := by
  refine ⟨⟨fun x hx => Nat.lt_succ_of_lt (hw.plt x hx), fun x hx => Nat.lt_succ_of_lt (hw.hlt x hx), hw.snt⟩,
    Nat.lt_succ_self _, fun h => Nat.lt_irrefl _ (hw.plt _ h), fun h => Nat.lt_irrefl _ (hw.hlt _ h), ?_, ?_⟩
  · show 1 ≤ (updB s.bufs s.next _ s.next).count
    rw [updB_self]; exact Int.le_refl _
  · show Own patch raw (updB s.bufs s.next _ s.next).bytes
    rw [updB_self]; exact Or.inl rfl

/-- all that is asked of the overwrite: on the frame's own bytes a later one hides an earlier one -/
theorem own_patch {b : Bytes} (hp : ∀ a c, patch a (patch c raw) = patch a raw) (h : Own patch raw b) (id : Nat) :
    patch id b = patch id raw := by
  rcases h with h | ⟨i, h⟩
  · rw [h]
  · rw [h, hp]

/-- the write may give `w` back without taking the frame's reference: `w` is another wrapper, or the frame's own with a
reference to spare -/
def Spare (s : St) (w : Nat) : Prop := w < s.next ∧ (w = s.data → 2 ≤ (s.bufs s.data).count)

theorem put_good {s : St} {w : Nat} (hg : Good patch raw sent s) (hw : Spare s w) : Good patch raw sent (put s w) := by
  by_cases e : w = s.data
  · have h2 := hw.2 e
    subst e
    unfold put
    rw [if_neg (by omega)]
    refine { hg with cnt := ?_, byt := ?_ } <;> simp only [updB_self]
    · omega
    · exact hg.byt
  · exact (put_touch s w hw.1).good e hg

/-- `Encode` under a policy that keeps the frame's reference (or builds a buffer of its own): the wrapper it hands out holds
the frame with this try's id, and the write may give it back -/
theorem encode_good {pol : Ret} (hpol : pol ≠ .bare) (hp : ∀ a c, patch a (patch c raw) = patch a raw) {s : St}
    (hg : Good patch raw sent s) {id : Nat} {c : Option Nat} {e : St × Nat} (he : encode pol patch raw s id c = e) :
    Good patch raw sent e.1 ∧ Spare e.1 e.2 ∧ (e.1.bufs e.2).bytes = patch id raw := by
  subst he
  cases pol with
  | bare => exact absurd rfl hpol
  | retain =>
    have hc := hg.cnt
    refine ⟨{ hg with cnt := ?_, byt := ?_ }, ⟨hg.dlt, fun _ => ?_⟩, ?_⟩ <;> simp only [encode, updB_self]
    · omega
    · exact Or.inr ⟨id, own_patch hp hg.byt id⟩
    · omega
    · exact own_patch hp hg.byt id
  | fresh =>
    obtain ⟨t, hm, hb, _⟩ := get_touch s c (patch id raw) hg.plt
    have hne : (get s c (patch id raw)).2 ≠ s.data :=
      hm.elim (fun h e => hg.dpool (e ▸ h)) (fun h => h ▸ (Nat.ne_of_lt hg.dlt).symm)
    exact ⟨t.good hne hg, ⟨t.lt, fun e => absurd (e.trans t.data) hne⟩, hb⟩

/-- one (re)try under such a policy: the bytes on the wire are the frame with this try's id, and the frame still owns
its buffer -/
theorem round_good {pol : Ret} (hpol : pol ≠ .bare) (rc : Bool) (hp : ∀ a c, patch a (patch c raw) = patch a raw) {s : St}
    (r : Round) (hg : Good patch raw sent s) : Good patch raw (sent ++ [patch r.id raw]) (round pol rc patch raw s r) := by
  unfold round
  generalize he : encode pol patch raw s r.id r.choice = e
  obtain ⟨hg1, hs, hb⟩ := encode_good hpol hp hg he
  have hg2 : Good patch raw (sent ++ [patch r.id raw]) { e.1 with sent := e.1.sent ++ [(e.1.bufs e.2).bytes] } :=
    { hg1 with snt := by rw [hb, hg1.snt] }
  cases rc with
  | false => exact traffic_good r.traffic hg2
  | true => exact traffic_good r.traffic (put_good hg2 hs)

theorem rounds_good {pol : Ret} (hpol : pol ≠ .bare) (rc : Bool) (hp : ∀ a c, patch a (patch c raw) = patch a raw)
    (rounds : List Round) {s : St} (hg : Good patch raw sent s) :
    Good patch raw (sent ++ rounds.map (fun r => patch r.id raw)) (rounds.foldl (round pol rc patch raw) s) := by
  induction rounds generalizing sent s with
  | nil => rwa [List.map_nil, List.append_nil]
  | cons r rs ih =>
    rw [List.map_cons, List.append_cons]
    exact ih (round_good hpol rc hp r hg)

end MosnVerif.Model.Reencode
