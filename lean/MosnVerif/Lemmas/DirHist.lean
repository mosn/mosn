import MosnVerif.Model.DirHist
import MosnVerif.Lemmas.ConfigDir
/-! Lemmas for the directory-mode histories of C12 (Model/DirHist.lean): a statement list with the discipline is
`Model.ConfigDir.marshalDynamic`; hence C19's round trip applies to every dump of a history. -/
namespace MosnVerif.Model.DirHist
open MosnVerif.Model MosnVerif.Model.ConfigDir MosnVerif.Model.DirTypes MosnVerif.Gen.DirDump

theorem runSteps_filter {α : Type} (ops : List NameOp) (enc : α → Json) (nameOf : α → Bytes) (clock : Nat → Bytes) (cs : List α)
    (steps : List DStep) (s : DS) :
    runSteps ops enc nameOf clock cs steps s = runSteps ops enc nameOf clock cs (steps.filter essential) s := by
  induction steps generalizing s with
  | nil => rfl
  | cons st r ih =>
    cases st with
    | mkdir | collectInit | writtenInit | readDir | collect | cleanup => exact ih _
    | returnIfOther | finish => rfl
    | returnIfEmpty | writeLoop => simp only [List.filter_cons, essential, if_true, runSteps, ih]

/-- a statement list with the discipline computes `marshalDynamic` -/
theorem dirDump_eq {α : Type} (steps : List DStep) (h : stepsOK steps = true) (ops : List NameOp) (enc : α → Json)
    (nameOf : α → Bytes) (clock : Nat → Bytes) (d : Dir) (cs : List α) :
    dirDump steps ops enc nameOf clock d cs = marshalDynamic ops enc nameOf clock d cs := by
  unfold dirDump
  rw [runSteps_filter]
  have h' : steps.filter essential = [.readDir, .collect, .writeLoop, .cleanup, .finish] := by
    simpa [stepsOK] using h
  rw [h']
  simp only [runSteps, marshalDynamic]
  cases dumpLoop ops enc nameOf clock 0 cs d [] [] with
  | none => rfl
  | some r => rfl

theorem histItems_cons {α : Type} (nameOf : α → Bytes) (items : List α) (u : Upd α × (Nat → Bytes))
    (r : List (Upd α × (Nat → Bytes))) :
    histItems nameOf items (u :: r) = histItems nameOf (applyUpd nameOf items u.1) r := rfl

/-- after a non-empty history of updates, each followed by a dump into the same directory, the loader returns the current items -/
theorem hist_reload {α : Type} (steps : List DStep) (hsteps : stepsOK steps = true) (ops : List NameOp) (e : Bytes)
    (hops : opsOK ops e = true) (enc : α → Json) (dcd : Json → Option α) (nrm : α → α)
    (hcodec : ∀ c, dcd (enc c) = some (nrm c)) (nameOf : α → Bytes)
    (ups : List (Upd α × (Nat → Bytes))) (hne : ups ≠ []) (hclocks : ∀ u ∈ ups, ClockOK u.2) (d : Dir) (items : List α) :
    ∃ d' l, histDump steps ops enc nameOf d items ups = some d' ∧ unmarshalDynamic dcd e d' = some l ∧
      l.Perm ((histItems nameOf items ups).map nrm) := by
  induction ups generalizing d items with
  | nil => exact absurd rfl hne
  | cons u r ih =>
    obtain ⟨u1, k⟩ := u
    obtain ⟨d₁, l, h1, h2, h3⟩ := dynamic_roundtrip_gen ops e hops enc dcd nrm nameOf k
      (hclocks (u1, k) (by simp)) d (applyUpd nameOf items u1) (fun c _ => hcodec c)
    rw [← dirDump_eq steps hsteps] at h1
    cases r with
    | nil => exact ⟨d₁, l, by simp [histDump, h1], h2, by simpa [histItems] using h3⟩
    | cons u2 r2 =>
      obtain ⟨d', l', g1, g2, g3⟩ := ih (by simp) (fun u hu => hclocks u (by simp [hu])) d₁ (applyUpd nameOf items u1)
      exact ⟨d', l', by simpa [histDump, h1] using g1, g2, by rw [histItems_cons]; exact g3⟩

theorem item_codec (c : Item) : Item.dcd (Item.enc c) = some c := by
  cases c with
  | mk n t => simp [Item.enc, Item.dcd]

end MosnVerif.Model.DirHist
