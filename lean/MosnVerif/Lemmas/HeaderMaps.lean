import MosnVerif.Model.HeaderMaps
import MosnVerif.Lemmas.Headers
import MosnVerif.Lemmas.HeaderWiring
import MosnVerif.Lemmas.Fold
/-!
Laws of a protocol header map under which the route's header mutations meet the declarative reference, the generic
proof, and the proofs that the instances (CommonHeader, fasthttp request / response, net/http.Header, bolt) satisfy them.
-/
namespace MosnVerif.Model.HeaderMaps
open MosnVerif.Model.Headers MosnVerif.Gen.HeaderMutation

variable {M : Type}

theorem BlankEq.rfl' (a : Option String) : BlankEq a a := Or.inl rfl

theorem BlankEq.symm {a b : Option String} (h : BlankEq a b) : BlankEq b a := by
  rcases h with h | ⟨h1, h2⟩
  · exact Or.inl h.symm
  · exact Or.inr ⟨h2, h1⟩

theorem BlankEq.trans {a b c : Option String} (h1 : BlankEq a b) (h2 : BlankEq b c) : BlankEq a c := by
  rcases h1 with h1 | ⟨ha, hb⟩
  · subst h1; exact h2
  · rcases h2 with h2 | ⟨_, hc⟩
    · subst h2; exact Or.inr ⟨ha, hb⟩
    · exact Or.inr ⟨ha, hc⟩

theorem BlankEq.of_eq {a b : Option String} (h : a = b) : BlankEq a b := Or.inl h

theorem isBlank_iff (a : Option String) : isBlank a = true ↔ a = none ∨ a = some "" := by
  cases a with
  | none => simp [isBlank]
  | some v => simp [isBlank]

/-- a non-blank value is only equivalent to itself -/
theorem BlankEq.eq_of_nonblank {a b : Option String} (h : BlankEq a b) (hb : isBlank b = false) : a = b := by
  rcases h with h | ⟨_, h2⟩
  · exact h
  · rw [hb] at h2; exact absurd h2 (by decide)

theorem isBlank_some_ne {v : String} (h : v ≠ "") : isBlank (some v) = false := by
  simp [isBlank, h]

theorem length_pos_ne_empty {v : String} (h : v.length > 0) : v ≠ "" := by
  intro he; subst he; simp at h

theorem length_zero_of_empty {v : String} (h : ¬ v.length > 0) : v = "" := by
  have : v.length = 0 := by omega
  exact String.length_eq_zero_iff.mp this

/-- the documented rule does not tell an absent header from an empty one: what an addition or removal leaves only
depends on the value up to blank equivalence -/
theorem stepVal_congr {a b : Option String} (h : BlankEq a b) (o : Op) : stepVal a o = stepVal b o := by
  rcases h with h | ⟨ha, hb⟩
  · rw [h]
  · rw [isBlank_iff] at ha hb
    rcases ha with ha | ha <;> rcases hb with hb | hb <;> subst ha <;> subst hb <;> cases o <;> simp [stepVal]

open MosnVerif.Gen.HeaderEval in
/-- `addStep` (regenerated from evaluateHeaders' additions loop): join onto a present non-empty value when append is on;
otherwise set the configured value — after deleting the header when append is off (overwrite) -/
theorem addStep_eq {σ : Type} (o : MapOps σ) (name val : String) (app : Bool) (s : σ) :
    addStep o name val app s =
      match o.get s name with
      | some v =>
        if v.length > 0 ∧ app = true then o.set s name (v ++ "," ++ val)
        else if app = false then o.set (o.del s name) name val else o.set s name val
      | none => if app = false then o.set (o.del s name) name val else o.set s name val := by
  unfold addStep
  cases hg : o.get s name with
  | none => cases app <;> simp
  | some v =>
    cases app <;> by_cases hv : v.length > 0 <;> simp [hv]

open MosnVerif.Gen.HeaderEval in
theorem removeStep_eq {σ : Type} (o : MapOps σ) (name : String) (s : σ) : removeStep o name s = o.del s name := rfl

/-- one configured mutation on a protocol map -/
def applyOp (I : HMap M) (m : M) : Op → M
  | .add a => applyAdd I m a
  | .remove k => applyRemove I m k

theorem evaluate_eq_ops (I : HMap M) (p : Parser) (m : M) : evaluate I p m = (opsOf p).foldl (applyOp I) m := by
  unfold evaluate opsOf Gen.HeaderEval.evaluateHeaders
  rw [List.foldl_append, List.foldl_map, List.foldl_map, List.foldl_map]
  rfl

theorem finalize_eq_ops (I : HMap M) (l : Levels) (m : M) :
    finalize I [.route, .vhost, .router] l m = (specOps l).foldl (applyOp I) m := by
  simp [finalize, Levels.at, evaluate_eq_ops, specOps, List.foldl_append]

theorem stepVal_remove (v : Option String) (k : String) : stepVal v (.remove k) = none := by cases v <;> rfl

theorem stepVal_overwrite (v : Option String) (a : Add) (ha : a.append = false) : stepVal v (.add a) = some a.value := by
  cases v <;> simp [stepVal, ha]

/-- every configured addition is ONE `Set` of the value the documented rule prescribes for what `Get` answers — after a
`Del` when append is off (regenerated `addStep`, every outcome of `Get`) -/
theorem applyAdd_eq (I : HMap M) (m : M) (a : Add) :
    ∃ v, stepVal (I.get m a.name) (.add a) = some v ∧
      applyAdd I m a = I.set (if a.append = true then m else I.del m a.name) a.name v := by
  obtain ⟨name, value, app⟩ := a
  unfold applyAdd
  rw [addStep_eq]
  simp only [HMap.ops]
  cases I.get m name with
  | none => cases app <;> exact ⟨value, rfl, by simp⟩
  | some v =>
    refine ⟨if v.length > 0 ∧ app = true then v ++ "," ++ value else value, ?_, ?_⟩ <;>
      by_cases hv : v.length > 0 <;> cases app <;> simp [stepVal, hv]

theorem specValueN_cons (norm : String → String) (o : Op) (ops : List Op) (k : String) (v : Option String) :
    specValueN norm (o :: ops) k v = specValueN norm ops k (if norm o.key = norm k then stepVal v o else v) := by
  unfold specValueN
  by_cases h : norm o.key = norm k <;> simp [h]

theorem specValueN_append (norm : String → String) (a b : List Op) (k : String) (v : Option String) :
    specValueN norm (a ++ b) k v = specValueN norm b k (specValueN norm a k v) := by
  simp [specValueN, List.filter_append, List.foldl_append]

theorem specValueN_untouched (norm : String → String) (ops : List Op) (k : String) (v : Option String)
    (h : ∀ o ∈ ops, norm o.key ≠ norm k) : specValueN norm ops k v = v := by
  rw [specValueN, List.filter_eq_nil_iff.2 fun o ho => by simpa using h o ho]
  rfl

/-- the value is decided by the last mutation naming the header -/
theorem specValueN_last (norm : String → String) (pre post : List Op) (o : Op) (k : String) (v : Option String)
    (ho : norm o.key = norm k) (hpost : ∀ o' ∈ post, norm o'.key ≠ norm k) :
    specValueN norm (pre ++ [o] ++ post) k v = stepVal (specValueN norm pre k v) o := by
  rw [specValueN_append, specValueN_append, specValueN_untouched norm post k _ hpost, specValueN_cons, if_pos ho]
  rfl

/-- **HeaderMapLaws**: what `evaluateHeaders` needs of a protocol header map, for an observation `obs` of it (the value
`Get` answers, or the first value the map prints under the name).  `Inv` = well-formedness kept by the operations,
`ok` = the names the laws are claimed for.  `Set` / `Del` act on the named header only, names are identified through
`norm`, and reading back gives the value set / nothing — up to blank equivalence (a dedicated fasthttp field that is empty is
not printed; `Get` of net/http.Header reports an empty value as absent). -/
structure HeaderMapLaws (I : HMap M) (Inv : M → Prop) (ok : String → Prop) (obs : M → String → Option String) : Prop where
  inv_set : ∀ m k v, Inv m → ok k → Inv (I.set m k v)
  inv_del : ∀ m k, Inv m → ok k → Inv (I.del m k)
  obs_norm : ∀ m k k', I.norm k = I.norm k' → obs m k = obs m k'
  get_obs : ∀ m k, Inv m → ok k → BlankEq (I.get m k) (obs m k)
  set_same : ∀ m k v, Inv m → ok k → BlankEq (obs (I.set m k v) k) (some v)
  set_other : ∀ m k k' v, Inv m → ok k → I.norm k ≠ I.norm k' → obs (I.set m k v) k' = obs m k'
  del_same : ∀ m k, Inv m → ok k → BlankEq (obs (I.del m k) k) none
  del_other : ∀ m k k', Inv m → ok k → I.norm k ≠ I.norm k' → obs (I.del m k) k' = obs m k'

/-- the exact form: reading back gives exactly the value set, and nothing after a removal -/
structure HeaderMapLawsStrict (I : HMap M) (Inv : M → Prop) (ok : String → Prop) (obs : M → String → Option String) : Prop
    extends HeaderMapLaws I Inv ok obs where
  set_same_eq : ∀ m k v, Inv m → ok k → obs (I.set m k v) k = some v
  del_same_eq : ∀ m k, Inv m → ok k → obs (I.del m k) k = none

section generic
variable {I : HMap M} {Inv : M → Prop} {ok : String → Prop} {obs : M → String → Option String}

theorem inv_applyOp (L : HeaderMapLaws I Inv ok obs) (m : M) (o : Op) (hm : Inv m) (hk : ok o.key) : Inv (applyOp I m o) := by
  cases o with
  | remove r => exact L.inv_del m r hm hk
  | add a =>
    obtain ⟨v, _, he⟩ := applyAdd_eq I m a
    rw [applyOp, he]
    cases a.append
    · exact L.inv_set _ a.name v (L.inv_del m a.name hm hk) hk
    · exact L.inv_set m a.name v hm hk

theorem inv_foldl_ops (L : HeaderMapLaws I Inv ok obs) (ops : List Op) (m : M) (hm : Inv m) (hok : ∀ o ∈ ops, ok o.key) :
    Inv (ops.foldl (applyOp I) m) :=
  Lemmas.Fold.foldl_inv_mem ops (fun m o ho hm => inv_applyOp L m o hm (hok o ho)) m hm

section rel
/-! a read-back relation `R`: `BlankEq` under the laws, `=` under the strict ones; the documented rule does not tell values
related by `R` apart -/
variable (L : HeaderMapLaws I Inv ok obs) (R : Option String → Option String → Prop)
  (hc : ∀ a b o, R a b → stepVal a o = stepVal b o)
  (set_same : ∀ m k v, Inv m → ok k → R (obs (I.set m k v) k) (some v))
  (del_same : ∀ m k, Inv m → ok k → R (obs (I.del m k) k) none)
include L hc set_same del_same

/-- one configured mutation keeps the observation of header `k` related to the value the documented rule gives -/
theorem obs_applyOp_rel (m : M) (o : Op) (k : String) (hm : Inv m) (hk : ok o.key) (v : Option String) (hv : R (obs m k) v) :
    R (obs (applyOp I m o) k) (if I.norm o.key = I.norm k then stepVal v o else v) := by
  by_cases hn : I.norm o.key = I.norm k
  · -- the named header: the rule only depends on the value up to `R`, and `Get` shows the observation up to blank
    rw [if_pos hn, ← hc _ _ o hv, ← L.obs_norm _ _ _ hn, ← L.obs_norm m _ _ hn]
    cases o with
    | remove r => exact stepVal_remove _ r ▸ del_same m r hm hk
    | add a =>
      obtain ⟨x, hx, he⟩ := applyAdd_eq I m a
      show R (obs (applyAdd I m a) a.name) (stepVal (obs m a.name) (.add a))
      rw [he, stepVal_congr (L.get_obs m a.name hm hk).symm, hx]
      cases a.append
      · exact set_same _ a.name x (L.inv_del m a.name hm hk) hk
      · exact set_same m a.name x hm hk
  · rw [if_neg hn]
    cases o with
    | remove r => exact (L.del_other m r k hm hk hn).symm ▸ hv
    | add a =>
      obtain ⟨x, _, he⟩ := applyAdd_eq I m a
      rw [applyOp, he]
      cases a.append
      · exact ((L.set_other _ a.name k x (L.inv_del m a.name hm hk) hk hn).trans (L.del_other m a.name k hm hk hn)).symm ▸ hv
      · exact (L.set_other m a.name k x hm hk hn).symm ▸ hv

/-- the run of the configured mutations and the run of the documented rule over the same list stay related step by step -/
theorem obs_foldl_ops_rel (hR : ∀ a, R a a) (ops : List Op) (m : M) (k : String) (hm : Inv m) (hok : ∀ o ∈ ops, ok o.key) :
    R (obs (ops.foldl (applyOp I) m) k) (specValueN I.norm ops k (obs m k)) := by
  rw [specValueN, List.foldl_filter]
  refine (List.foldl_rel (r := fun m' v => Inv m' ∧ R (obs m' k) v) ⟨hm, hR _⟩ fun o ho m' v h =>
    ⟨inv_applyOp L m' o h.1 (hok o ho), ?_⟩).2
  simpa only [beq_iff_eq] using obs_applyOp_rel L R hc set_same del_same m' o k h.1 (hok o ho) v h.2

end rel

theorem obs_foldl_ops (L : HeaderMapLaws I Inv ok obs) (ops : List Op) (m : M) (k : String) (hm : Inv m)
    (hok : ∀ o ∈ ops, ok o.key) :
    BlankEq (obs (ops.foldl (applyOp I) m) k) (specValueN I.norm ops k (obs m k)) :=
  obs_foldl_ops_rel L BlankEq (fun _ _ o h => stepVal_congr h o) L.set_same L.del_same BlankEq.rfl' ops m k hm hok

theorem obs_foldl_ops_strict (L : HeaderMapLawsStrict I Inv ok obs) (ops : List Op) (m : M) (k : String) (hm : Inv m)
    (hok : ∀ o ∈ ops, ok o.key) :
    obs (ops.foldl (applyOp I) m) k = specValueN I.norm ops k (obs m k) :=
  obs_foldl_ops_rel L.toHeaderMapLaws Eq (fun _ _ _ h => h ▸ rfl) L.set_same_eq L.del_same_eq (fun _ => rfl) ops m k hm hok

end generic

theorem filter_setFirst (l : List (String × String)) (k v : String) :
    (setFirst l k v).filter (fun e => e.1 == k) =
      match l.filter (fun e => e.1 == k) with
      | [] => [(k, v)]
      | _ :: r => (k, v) :: r := by
  induction l with
  | nil => simp [setFirst]
  | cons e r ih =>
    unfold setFirst
    by_cases he : e.1 = k
    · simp [he]
    · have hb : (e.1 == k) = false := by simpa using he
      simp only [hb, Bool.false_eq_true, if_false, List.filter_cons, ih]

theorem find_setFirst_same (l : List (String × String)) (k v : String) :
    (setFirst l k v).find? (fun e => e.1 == k) = some (k, v) := by
  rw [← List.head?_filter, filter_setFirst]
  split <;> rfl

theorem find_setFirst_other (l : List (String × String)) (k k' v : String) (hne : k ≠ k') :
    (setFirst l k v).find? (fun e => e.1 == k') = l.find? (fun e => e.1 == k') := by
  induction l with
  | nil => simp [setFirst, hne]
  | cons e r ih =>
    unfold setFirst
    by_cases he : e.1 = k
    · subst he
      have hb : (e.1 == k') = false := by simpa using hne
      simp [hb]
    · simp only [beq_iff_eq, he, if_false, List.find?_cons, ih]

theorem keys_setFirst (l : List (String × String)) (k v : String) :
    (setFirst l k v).map (·.1) = if k ∈ l.map (·.1) then l.map (·.1) else l.map (·.1) ++ [k] := by
  induction l with
  | nil => simp [setFirst]
  | cons e r ih =>
    unfold setFirst
    by_cases he : e.1 = k
    · simp [he]
    · have : ¬ k = e.1 := fun h => he h.symm
      simp only [beq_iff_eq, he, if_false, List.map_cons, ih, List.mem_cons, this, false_or]
      split <;> simp

theorem setFirst_setFirst (l : List (String × String)) (k u v : String) : setFirst (setFirst l k u) k v = setFirst l k v := by
  induction l with
  | nil => simp [setFirst]
  | cons e r ih =>
    by_cases he : e.1 = k
    · simp [setFirst, he]
    · simp [setFirst, he, ih]

theorem find_eraseFirst_other (l : List (String × String)) (k k' : String) (hne : k ≠ k') :
    (eraseFirst l k).find? (fun e => e.1 == k') = l.find? (fun e => e.1 == k') := by
  induction l with
  | nil => rfl
  | cons e r ih =>
    unfold eraseFirst
    by_cases he : e.1 = k
    · subst he
      have hb : (e.1 == k') = false := by simpa using hne
      simp [hb]
    · simp only [beq_iff_eq, he, if_false, List.find?_cons, ih]

theorem keys_eraseFirst_sublist (l : List (String × String)) (k : String) :
    ((eraseFirst l k).map (·.1)).Sublist (l.map (·.1)) := by
  induction l with
  | nil => exact List.Sublist.refl _
  | cons e r ih =>
    unfold eraseFirst
    by_cases he : e.1 = k
    · simp [he]
    · simp only [beq_iff_eq, he, if_false, List.map_cons]
      exact List.Sublist.cons_cons _ ih

theorem find_eraseFirst_same (l : List (String × String)) (k : String) (hd : (l.map (·.1)).Nodup) :
    (eraseFirst l k).find? (fun e => e.1 == k) = none := by
  induction l with
  | nil => rfl
  | cons e r ih =>
    unfold eraseFirst
    simp only [List.map_cons, List.nodup_cons] at hd
    by_cases he : e.1 = k
    · simp only [beq_iff_eq, he, if_true]
      rw [List.find?_eq_none]
      intro x hx
      have : x.1 ≠ k := by
        intro hxk
        apply hd.1
        rw [he, ← hxk]
        exact List.mem_map_of_mem hx
      simpa using this
    · have hb : (e.1 == k) = false := by simpa using he
      rw [if_neg (by simp [hb]), List.find?_cons, hb]
      exact ih hd.2

theorem common_laws : HeaderMapLawsStrict common (fun _ => True) (fun _ => True) Headers.get where
  inv_set := fun _ _ _ _ _ => trivial
  inv_del := fun _ _ _ _ => trivial
  obs_norm := fun m k k' h => by simp only [common, id] at h; rw [h]
  get_obs := fun m k _ _ => BlankEq.rfl' _
  set_same := fun m k v _ _ => BlankEq.of_eq (get_set_same m k v)
  set_other := fun m k k' v _ _ hn => get_set_other m k k' v (by simpa [common] using hn)
  del_same := fun m k _ _ => BlankEq.of_eq (get_del_same m k)
  del_other := fun m k k' _ _ hn => get_del_other m k k' (by simpa [common] using hn)
  set_same_eq := fun m k v _ _ => get_set_same m k v
  del_same_eq := fun m k _ _ => get_del_same m k

theorem del_del (h : Hdrs) (k : String) : del (del h k) k = del h k := by
  simp [del, List.filter_filter]

/-- one configured addition on `protocol.CommonHeader`: the hand-written rule of `Model/Headers.lean` and the regenerated
statements give the same header list (there `Set` after `Del` is `Set`) -/
theorem applyAdd_common (h : Hdrs) (a : Add) : applyAdd common h a = Headers.applyAdd h a := by
  obtain ⟨name, value, app⟩ := a
  simp only [applyAdd, addStep_eq, HMap.ops, common, Headers.applyAdd, joinCond]
  cases Headers.get h name <;> cases app <;> simp [Headers.set, del_del]
  split <;> rfl

/-- … so the hand-written model IS the regenerated loop at the `common` instance, and what holds of every lawful map holds of it -/
theorem evaluate_common (p : Parser) (h : Hdrs) : evaluate common p h = Headers.evaluate p h := by
  have ha : (fun s (a : Add) => Gen.HeaderEval.addStep common.ops a.name a.value a.append s) = Headers.applyAdd :=
    funext fun s => funext fun a => applyAdd_common s a
  simp only [evaluate, Gen.HeaderEval.evaluateHeaders, List.foldl_map, ha]
  rfl

theorem finalize_common (order : List Level) (l : Levels) (h : Hdrs) :
    finalize common order l h = Headers.finalize order l h := by
  simp only [finalize, Headers.finalize, evaluate_common]

theorem _root_.MosnVerif.Model.Headers.get_finalize (l : Levels) (h : Hdrs) (k : String) :
    get (Headers.finalize [.route, .vhost, .router] l h) k = specValue (specOps l) k (get h k) := by
  rw [← finalize_common, finalize_eq_ops]
  exact obs_foldl_ops_strict common_laws _ h k trivial (fun _ _ => trivial)

theorem boltGet_set_same (m : Bolt) (k v : String) : boltGet (boltSet m k v) k = some v := by
  simp [boltGet, boltSet, find_setFirst_same]

theorem boltGet_set_other (m : Bolt) (k k' v : String) (hne : k ≠ k') : boltGet (boltSet m k v) k' = boltGet m k' := by
  simp [boltGet, boltSet, find_setFirst_other _ _ _ _ hne]

theorem boltGet_del_other (m : Bolt) (k k' : String) (hne : k ≠ k') : boltGet (boltDel m k) k' = boltGet m k' := by
  unfold boltDel
  split
  · simp [boltGet, find_eraseFirst_other _ _ _ hne]
  · rfl

theorem boltGet_del_same (m : Bolt) (k : String) (hd : boltNoDup m) : boltGet (boltDel m k) k = none := by
  unfold boltDel
  split
  · simp [boltGet, find_eraseFirst_same _ _ hd]
  · rename_i hn
    simp only [boltGet, Option.map_eq_none_iff, List.find?_eq_none]
    intro x hx
    simp only [List.any_eq_true, not_exists, not_and] at hn
    exact hn x hx

theorem boltNoDup_set (m : Bolt) (k v : String) (hd : boltNoDup m) : boltNoDup (boltSet m k v) := by
  unfold boltNoDup boltSet at *
  simp only [keys_setFirst]
  split
  · exact hd
  · rename_i hn
    rw [List.nodup_append]
    refine ⟨hd, by simp, ?_⟩
    intro a ha b hb
    simp only [List.mem_singleton] at hb
    subst hb
    exact fun h => hn (h ▸ ha)

theorem boltNoDup_del (m : Bolt) (k : String) (hd : boltNoDup m) : boltNoDup (boltDel m k) := by
  unfold boltDel
  split
  · exact List.Nodup.sublist (keys_eraseFirst_sublist _ _) hd
  · exact hd

/-- the bolt header satisfies the exact laws on frames without a repeated key -/
theorem bolt_laws : HeaderMapLawsStrict bolt boltNoDup (fun _ => True) boltGet where
  inv_set := fun m k v hm _ => boltNoDup_set m k v hm
  inv_del := fun m k hm _ => boltNoDup_del m k hm
  obs_norm := fun m k k' h => by simp only [bolt, id] at h; rw [h]
  get_obs := fun m k _ _ => BlankEq.rfl' _
  set_same := fun m k v _ _ => BlankEq.of_eq (boltGet_set_same m k v)
  set_other := fun m k k' v _ _ hn => boltGet_set_other m k k' v (by simpa [bolt] using hn)
  del_same := fun m k hm _ => BlankEq.of_eq (boltGet_del_same m k hm)
  del_other := fun m k k' _ _ hn => boltGet_del_other m k k' (by simpa [bolt] using hn)
  set_same_eq := fun m k v _ _ => boltGet_set_same m k v
  del_same_eq := fun m k hm _ => boltGet_del_same m k hm

/-- every `Set` marks the frame changed (Encode re-serialises), whatever was there -/
theorem bolt_set_changed (m : Bolt) (k v : String) : (boltSet m k v).changed = true := rfl

/-- a `Del` that removed a pair marks the frame changed; one that found nothing leaves the frame alone -/
theorem bolt_del_changed (m : Bolt) (k : String) :
    (boltDel m k).changed = (m.changed || m.kvs.any (·.1 == k)) ∧ (m.kvs.any (·.1 == k) = false → boltDel m k = m) := by
  unfold boltDel
  cases h : m.kvs.any (·.1 == k) <;> simp

/-- the first value net/http.Header holds under the name (what reaches the HTTP/2 encoder first) -/
def h2First (m : H2) (k : String) : Option String :=
  match m.find? (·.1 == h2Norm k) with
  | some (_, v :: _) => some v
  | _ => none

theorem h2First_set_same (m : H2) (k v : String) : h2First (h2Set m k v) k = some v := by
  simp [h2First, h2Set]

theorem h2First_set_other (m : H2) (k k' v : String) (hne : h2Norm k ≠ h2Norm k') :
    h2First (h2Set m k v) k' = h2First m k' := by
  have hb : (h2Norm k == h2Norm k') = false := by simpa using hne
  simp only [h2First, h2Set, List.find?_cons, hb]
  rw [Lemmas.KeyedList.find?_filter_ne, if_neg hne.symm]

theorem h2First_del_same (m : H2) (k : String) : h2First (h2Del m k) k = none := by
  rw [h2First, h2Del, Lemmas.KeyedList.find?_filter_ne, if_pos rfl]

theorem h2First_del_other (m : H2) (k k' : String) (hne : h2Norm k ≠ h2Norm k') :
    h2First (h2Del m k) k' = h2First m k' := by
  simp only [h2First, h2Del]
  rw [Lemmas.KeyedList.find?_filter_ne, if_neg hne.symm]

theorem blankEq_filter (x : Option String) : BlankEq x (x.filter (· != "")) := by
  cases x with
  | none => exact BlankEq.rfl' _
  | some v =>
    by_cases hv : v = ""
    · subst hv; exact Or.inr ⟨rfl, rfl⟩
    · have : (v != "") = true := by simpa using hv
      simp [Option.filter, this]; exact BlankEq.rfl' _

/-- `Get` of net/http.Header answers the first value held under the name unless it is empty -/
theorem h2Get_eq (m : H2) (k : String) : h2Get m k = (h2First m k).filter (· != "") := by
  unfold h2Get h2First
  cases m.find? (·.1 == h2Norm k) with
  | none => rfl
  | some e =>
    obtain ⟨_, _ | ⟨v, _⟩⟩ := e
    · rfl
    · cases h : v == "" <;> simp [Option.filter, bne, h]

theorem h2Get_first (m : H2) (k : String) : BlankEq (h2Get m k) (h2First m k) :=
  h2Get_eq m k ▸ (blankEq_filter _).symm

/-- net/http.Header satisfies the exact laws for the first value it holds under a name (every name, every map);
`Get` agrees with it up to blank (an empty first value is reported as absent) -/
theorem h2_laws : HeaderMapLawsStrict h2 (fun _ => True) (fun _ => True) h2First where
  inv_set := fun _ _ _ _ _ => trivial
  inv_del := fun _ _ _ _ => trivial
  -- `h2.norm` is reduced by `simp only [h2]` first: the unifier would unfold `h2Norm` instead, which is slow to check
  obs_norm := fun m k k' h => by simp only [h2] at h; simp only [h2First, h]
  get_obs := fun m k _ _ => h2Get_first m k
  set_same := fun m k v _ _ => BlankEq.of_eq (h2First_set_same m k v)
  set_other := fun m k k' v _ _ hn => h2First_set_other m k k' v (by simpa only [h2] using hn)
  del_same := fun m k _ _ => BlankEq.of_eq (h2First_del_same m k)
  del_other := fun m k k' _ _ hn => h2First_del_other m k k' (by simpa only [h2] using hn)
  set_same_eq := fun m k v _ _ => h2First_set_same m k v
  del_same_eq := fun m k _ _ => h2First_del_same m k

/-- what the printed header shows first under a plain name: a dedicated field when non-empty, else the first ordinary line -/
def fhObs (kind : FhKind) (m : Fh) (k : String) : Option String :=
  if kind.singles.contains (fhNorm k) then (fhSingle kind m (fhNorm k)).filter (· != "")
  else (m.h.find? (·.1 == fhNorm k)).map (·.2)

/-- well-formed: no ordinary line carries the name of a dedicated field (the parser and `Set`/`Add` never store one), and a
response header does not invent a Content-Type (as handed over by the client stream since fix f5356a29e of /repo) -/
def fhInv (kind : FhKind) (m : Fh) : Prop :=
  (∀ e ∈ m.h, kind.singles.contains e.1 = false) ∧ (kind = .response → m.noDefaultCT = true)

theorem svGet_set_same (sv : List (String × Option String)) (k : String) (v : Option String) : svGet (svSet sv k v) k = v := by
  simp [svGet, svSet]

theorem svGet_set_other (sv : List (String × Option String)) (k k' : String) (v : Option String) (hne : k ≠ k') :
    svGet (svSet sv k v) k' = svGet sv k' := by
  have hb : (k == k') = false := by simpa using hne
  simp only [svGet, svSet, List.find?_cons, hb, Lemmas.KeyedList.find?_filter_ne, if_neg hne.symm]

theorem svSet_svSet (sv : List (String × Option String)) (k : String) (u v : Option String) : svSet (svSet sv k u) k v = svSet sv k v := by
  simp [svSet, List.filter_filter]

theorem fhSingle_of (kind : FhKind) (m : Fh) (nk : String) (hn : kind = .response → m.noDefaultCT = true) :
    fhSingle kind m nk = svGet m.sv nk := by
  unfold fhSingle
  cases kind with
  | request => simp
  | response => simp [hn rfl]

theorem fhSingle_inv (kind : FhKind) (m : Fh) (nk : String) (hi : fhInv kind m) : fhSingle kind m nk = svGet m.sv nk :=
  fhSingle_of kind m nk hi.2

/-- a header that invents no Content-Type shows a dedicated field as stored -/
theorem fhObs_plain (kind : FhKind) (m : Fh) (k : String) (hn : kind = .response → m.noDefaultCT = true) :
    fhObs kind m k =
      if kind.singles.contains (fhNorm k) then (svGet m.sv (fhNorm k)).filter (· != "")
      else (m.h.find? (·.1 == fhNorm k)).map (·.2) := by
  rw [fhObs, fhSingle_of kind m _ hn]

theorem fhPlain_iff (kind : FhKind) (k : String) (h : fhPlain kind k = true) :
    (fhNorm k == kind.cookieKey) = false ∧ kind.ignored.contains (fhNorm k) = false := by
  simp only [fhPlain, Bool.and_eq_true, Bool.not_eq_eq_eq_not, Bool.not_true] at h
  exact ⟨h.1.1, h.1.2⟩

/-- `Set` through the fasthttp layer on a plain name: the dedicated field, or the first ordinary line of the name -/
theorem fhRawSet_plain (kind : FhKind) (m : Fh) (k v : String) (h : fhPlain kind k = true) :
    fhRawSet kind m k v =
      if kind.singles.contains (fhNorm k) then
        { m with sv := svSet m.sv (fhNorm k) (if v == "" then (svGet m.sv (fhNorm k)).map (fun _ => "") else some v) }
      else { m with h := setFirst m.h (fhNorm k) v } := by
  obtain ⟨hc, hg⟩ := fhPlain_iff kind k h
  unfold fhRawSet
  by_cases hs : kind.singles.contains (fhNorm k) = true
  · simp only [hs, if_true]
  · simp only [hs, hc, hg, Bool.false_eq_true, if_false]

theorem fhNorm_ne_of (k k' : String) (hne : fhNorm k ≠ fhNorm k') : (fhNorm k == fhNorm k') = false := by simpa using hne

/-- MOSN's `Set` on a plain name: a dedicated field holds exactly the value (the placeholder makes an empty one present), an
ordinary name has its first line replaced -/
theorem fhSet_plain (kind : FhKind) (m : Fh) (k v : String) (h : fhPlain kind k = true) :
    fhSet kind m k v =
      if kind.singles.contains (fhNorm k) then { m with sv := svSet m.sv (fhNorm k) (some v) }
      else { m with h := setFirst m.h (fhNorm k) v } := by
  unfold fhSet
  by_cases hv : v = ""
  · subst hv
    rw [if_pos (by decide), fhRawSet_plain _ _ _ _ h, fhRawSet_plain _ _ _ _ h]
    by_cases hs : kind.singles.contains (fhNorm k) = true
    · simp only [hs, if_true, svGet_set_same, svSet_svSet]
      rfl
    · simp only [hs, Bool.false_eq_true, if_false, setFirst_setFirst]
  · have hb : (v == "") = false := by simpa using hv
    rw [if_neg (by simp [hb]), fhRawSet_plain _ _ _ _ h]
    simp only [hb, Bool.false_eq_true, if_false]

theorem fhInv_set (kind : FhKind) (m : Fh) (k v : String) (hi : fhInv kind m) (h : fhPlain kind k = true) :
    fhInv kind (fhSet kind m k v) := by
  rw [fhSet_plain _ _ _ _ h]
  by_cases hs : kind.singles.contains (fhNorm k) = true
  · rw [if_pos hs]
    exact ⟨hi.1, hi.2⟩
  · rw [if_neg hs]
    refine ⟨?_, hi.2⟩
    intro e he
    have hk : e.1 ∈ (setFirst m.h (fhNorm k) v).map (·.1) := List.mem_map_of_mem he
    rw [keys_setFirst] at hk
    have hin : e.1 ∈ m.h.map (·.1) ∨ e.1 = fhNorm k := by
      split at hk
      · exact Or.inl hk
      · simpa using hk
    rcases hin with hin | hin
    · obtain ⟨e', he', hee⟩ := List.mem_map.mp hin
      rw [← hee]; exact hi.1 e' he'
    · rw [hin]; simpa using hs

/-- `Del` on a plain name: the ordinary lines of the name go, a dedicated field that holds something is emptied -/
theorem fhDel_plain (kind : FhKind) (m : Fh) (k : String) (h : fhPlain kind k = true) :
    fhDel kind m k =
      { m with h := m.h.filter (fun e => !(e.1 == fhNorm k)),
               sv := if kind.singles.contains (fhNorm k) = true ∧ (svGet m.sv (fhNorm k)).isSome = true
                     then svSet m.sv (fhNorm k) (some "") else m.sv } := by
  obtain ⟨hc, _⟩ := fhPlain_iff kind k h
  unfold fhDel
  by_cases hs : kind.singles.contains (fhNorm k) = true
  · simp only [hs, if_true, true_and]
    cases svGet m.sv (fhNorm k) <;> rfl
  · simp only [hs, hc, Bool.false_eq_true, if_false, false_and]

theorem fhInv_del (kind : FhKind) (m : Fh) (k : String) (hi : fhInv kind m) (h : fhPlain kind k = true) :
    fhInv kind (fhDel kind m k) := by
  rw [fhDel_plain _ _ _ h]
  exact ⟨fun e he => hi.1 e (List.mem_filter.mp he).1, hi.2⟩

theorem fhObs_set_same (kind : FhKind) (m : Fh) (k v : String) (hi : fhInv kind m) (h : fhPlain kind k = true) :
    BlankEq (fhObs kind (fhSet kind m k v) k) (some v) := by
  rw [fhObs_plain _ _ k (fhInv_set kind m k v hi h).2, fhSet_plain _ _ _ _ h]
  by_cases hs : kind.singles.contains (fhNorm k) = true
  · -- a dedicated field holding the empty value is not shown
    simp only [hs, if_true, svGet_set_same]
    exact (blankEq_filter (some v)).symm
  · simp only [hs, Bool.false_eq_true, if_false, find_setFirst_same]
    exact BlankEq.rfl' _

theorem fhObs_set_other (kind : FhKind) (m : Fh) (k k' v : String) (hi : fhInv kind m) (h : fhPlain kind k = true)
    (hne : fhNorm k ≠ fhNorm k') : fhObs kind (fhSet kind m k v) k' = fhObs kind m k' := by
  rw [fhObs_plain _ _ k' (fhInv_set kind m k v hi h).2, fhObs_plain _ _ k' hi.2, fhSet_plain _ _ _ _ h]
  by_cases hs : kind.singles.contains (fhNorm k) = true
  · simp only [hs, if_true, svGet_set_other _ _ _ _ hne]
  · simp only [hs, Bool.false_eq_true, if_false, find_setFirst_other _ _ _ _ hne]

theorem fhObs_del_same (kind : FhKind) (m : Fh) (k : String) (hi : fhInv kind m) (h : fhPlain kind k = true) :
    fhObs kind (fhDel kind m k) k = none := by
  rw [fhObs_plain _ _ k (fhInv_del kind m k hi h).2, fhDel_plain _ _ _ h]
  by_cases hs : kind.singles.contains (fhNorm k) = true
  · simp only [hs, if_true]
    cases hg : svGet m.sv (fhNorm k) with
    | none => simp [hg]
    | some x => simp [svGet_set_same]
  · simp only [hs, Bool.false_eq_true, if_false, Lemmas.KeyedList.find?_filter_ne, if_true, eq_self]
    rfl

theorem fhObs_del_other (kind : FhKind) (m : Fh) (k k' : String) (hi : fhInv kind m) (h : fhPlain kind k = true)
    (hne : fhNorm k ≠ fhNorm k') : fhObs kind (fhDel kind m k) k' = fhObs kind m k' := by
  rw [fhObs_plain _ _ k' (fhInv_del kind m k hi h).2, fhObs_plain _ _ k' hi.2, fhDel_plain _ _ _ h]
  simp only [apply_ite (svGet · (fhNorm k')), svGet_set_other _ _ _ _ hne, ite_self, Lemmas.KeyedList.find?_filter_ne,
    if_neg hne.symm]

theorem fhGet_obs (kind : FhKind) (m : Fh) (k : String) (h : fhPlain kind k = true) :
    BlankEq (fhGet kind m k) (fhObs kind m k) := by
  obtain ⟨hc, _⟩ := fhPlain_iff kind k h
  unfold fhGet fhObs
  by_cases hs : kind.singles.contains (fhNorm k) = true
  · simp only [hs, if_true]
    exact blankEq_filter _
  · simp only [hs, hc, Bool.false_eq_true, if_false]
    exact BlankEq.rfl' _

/-- the fasthttp request / response header satisfies the laws on plain names (every name but the cookie header, the
swallowed and the unmodelled framing names), for what the printed header shows first under a name; exact but for one
case: a dedicated field set to the empty value is not printed (`set_same` up to blank) -/
theorem fh_laws (kind : FhKind) : HeaderMapLaws (fh kind) (fhInv kind) (fun k => fhPlain kind k = true) (fhObs kind) where
  inv_set := fun m k v hm hk => fhInv_set kind m k v hm hk
  inv_del := fun m k hm hk => fhInv_del kind m k hm hk
  obs_norm := fun m k k' h => by simp only [fh] at h; simp only [fhObs, h]
  get_obs := fun m k _ hk => fhGet_obs kind m k hk
  set_same := fun m k v hm hk => fhObs_set_same kind m k v hm hk
  set_other := fun m k k' v hm hk hn => fhObs_set_other kind m k k' v hm hk (by simpa only [fh] using hn)
  del_same := fun m k hm hk => BlankEq.of_eq (fhObs_del_same kind m k hm hk)
  del_other := fun m k k' hm hk hn => fhObs_del_other kind m k k' hm hk (by simpa only [fh] using hn)

theorem fhShowSingle_eq (g : String → Option String) (k : String) :
    fhShowSingle g k = ((g k).filter (· != "")).map (fun v => (k, v)) := by
  unfold fhShowSingle
  cases g k with
  | none => rfl
  | some v => by_cases hv : v = "" <;> simp [Option.filter, hv]

/-- the dedicated fields as printed: under a name, the first line found is that field's, when it is shown -/
theorem find_filterMap_keys (ks : List String) (g : String → Option String) (nk : String) :
    (ks.filterMap (fhShowSingle g)).find? (fun e => e.1 == nk) =
      if ks.contains nk then ((g nk).filter (· != "")).map (fun v => (nk, v)) else none := by
  induction ks with
  | nil => rfl
  | cons a r ih =>
    rw [List.filterMap_cons, fhShowSingle_eq, List.contains_cons]
    by_cases ha : a = nk
    · subst ha
      cases hx : (g a).filter (· != "") <;> simp [hx, ih]
    · have hb : (nk == a) = false := by simpa using fun h => ha h.symm
      cases (g a).filter (· != "") <;> simp [hb, ha, ih]

theorem cookieKey_not_single (kind : FhKind) : kind.singles.contains kind.cookieKey = false := by
  cases kind <;> decide +kernel

/-- for a plain name, the first line the printed fasthttp header shows under it is `fhObs` -/
theorem fh_look_eq_obs (kind : FhKind) (m : Fh) (k : String) (hi : fhInv kind m) (h : fhPlain kind k = true) :
    look (fh kind) m k = fhObs kind m k := by
  obtain ⟨hc, _⟩ := fhPlain_iff kind k h
  have hck : ¬ kind.cookieKey = fhNorm k := fun e => by simp [e] at hc
  have hnone : kind.singles.contains (fhNorm k) = true → m.h.find? (fun e => e.1 == fhNorm k) = none := by
    intro hs
    rw [List.find?_eq_none]
    intro e he hek
    have := hi.1 e he
    simp only [beq_iff_eq] at hek
    rw [hek, hs] at this
    exact absurd this (by decide)
  -- neither the cookie lines nor, on a request, the collecting of the `Cookie` lines show under another name
  have hfind : (fhRange kind m).find? (fun e => e.1 == fhNorm k) =
      ((kind.singles.filterMap (fhShowSingle (fhSingle kind m))).find? (fun e => e.1 == fhNorm k)).or
        (m.h.find? (fun e => e.1 == fhNorm k)) := by
    cases kind with
    | request =>
      have hcl : ∀ (c : List (String × String)),
          (if c.isEmpty then ([] : List (String × String)) else [("Cookie", showCookies c)]).find? (fun e => e.1 == fhNorm k) = none := by
        intro c
        split
        · rfl
        · have : ("Cookie" == fhNorm k) = false := by simpa [FhKind.cookieKey] using hck
          simp [this]
      have hh : (fhCollect m).h.find? (fun e => e.1 == fhNorm k) = m.h.find? (fun e => e.1 == fhNorm k) := by
        unfold fhCollect
        split
        · rfl
        · exact (Lemmas.KeyedList.find?_filter_ne ..).trans (if_neg (Ne.symm hck))
      simp only [fhRange, List.find?_append, hcl, hh, Option.or_none]
    | response =>
      have hcl : (m.cookies.map (fun c => ("Set-Cookie", c.2))).find? (fun e => e.1 == fhNorm k) = none := by
        rw [List.find?_eq_none]
        intro e he
        obtain ⟨c, _, hce⟩ := List.mem_map.mp he
        have : ("Set-Cookie" == fhNorm k) = false := by simpa [FhKind.cookieKey] using hck
        simp [← hce, this]
      simp only [fhRange, List.find?_append, hcl, Option.or_none]
  unfold look fhObs
  simp only [fh, hfind, find_filterMap_keys]
  by_cases hs : kind.singles.contains (fhNorm k) = true
  · simp only [hs, if_true, hnone hs]
    cases ((fhSingle kind m (fhNorm k)).filter (· != "")) <;> simp
  · simp only [hs, Bool.false_eq_true, if_false]
    simp

/-- an addition with append off: delete, then set (regenerated `addStep`, both outcomes of `Get`) -/
theorem applyAdd_overwrite (I : HMap M) (m : M) (a : Add) (ha : a.append = false) :
    applyAdd I m a = I.set (I.del m a.name) a.name a.value := by
  simp only [applyAdd, addStep_eq, HMap.ops, ha]
  cases I.get m a.name <;> simp

theorem filter_filter_ne (l : List (String × String)) (k : String) :
    (l.filter (fun e => !(e.1 == k))).filter (fun e => e.1 == k) = [] := by
  rw [List.filter_eq_nil_iff]
  intro e he
  simpa using (List.mem_filter.mp he).2

/-- the ordinary lines a fasthttp header holds under a name -/
def fhLines (m : Fh) (nk : String) : List String := (m.h.filter (fun e => e.1 == nk)).map (·.2)

theorem fhNorm_cookie : fhNorm "cookie" = "Cookie" := by decide +kernel

section built
open MosnVerif.Model.HeaderWiring MosnVerif.Gen.HeaderWiring

theorem evaluate_empty (I : HMap M) (m : M) : evaluate I ⟨[], []⟩ m = m := rfl

theorem evaluateOpt_getHeaderParser (I : HMap M) (a : Option (List Add)) (r : Option (List String)) (m : M) :
    evaluateOpt I (getHeaderParser a r) m = evaluate I ⟨a.getD [], r.getD []⟩ m := by
  unfold getHeaderParser
  by_cases hn : parserIsNil a.isNone r.isNone = true
  · obtain ⟨ha, hr⟩ := parserIsNil_sound _ _ hn
    cases a <;> cases r <;> simp_all [evaluateOpt, evaluate_empty]
  · simp [hn, evaluateOpt]

theorem evaluateOpt_built (I : HMap M) (c : Config) (lv : Level) (d : Dir) (m : M) :
    evaluateOpt I (builtParser parserWiring c lv d) m = evaluate I ((dirLevels c d).at lv) m := by
  have hl := lookup_parserWiring lv d
  unfold lookup at hl
  unfold builtParser
  rw [hl]
  cases lv <;> cases d <;>
    simp [diagonalRow, evaluateOpt_getHeaderParser, Config.at, LevelCfg.adds, LevelCfg.removes, dirLevels, Levels.at]

/-- on every protocol map: the rule built from configuration applies exactly that direction's mutations, level by level -/
theorem finalizeBuilt_eq (I : HMap M) (c : Config) (d : Dir) (m : M) :
    finalizeBuilt I c d m = finalize I (orderOf d) (dirLevels c d) m := by
  simp only [finalizeBuilt, finalize, evaluateOpt_built]

theorem orderOf_eq (d : Dir) : orderOf d = [.route, .vhost, .router] := by
  cases d <;> decide

/-- … hence the mutations of that direction, one by one in level order -/
theorem finalizeBuilt_eq_ops (I : HMap M) (c : Config) (d : Dir) (m : M) :
    finalizeBuilt I c d m = (specOps (dirLevels c d)).foldl (applyOp I) m := by
  rw [finalizeBuilt_eq, orderOf_eq, finalize_eq_ops]

theorem evaluateOpt_common (o : Option Parser) (h : Hdrs) : evaluateOpt common o h = HeaderWiring.evaluateOpt o h := by
  cases o with
  | none => rfl
  | some p => exact evaluate_common p h

theorem _root_.MosnVerif.Model.HeaderWiring.finalizeDir_eq (order : List Level) (c : Config) (d : Dir) (h : Hdrs) :
    finalizeDir parserWiring order c d h = Headers.finalize order (dirLevels c d) h := by
  simp only [finalizeDir, Headers.finalize, ← evaluateOpt_common, evaluateOpt_built, evaluate_common]

end built

end MosnVerif.Model.HeaderMaps
