import MosnVerif.Model.Relay
import MosnVerif.Lemmas.Fold
/-! invariants of the relay model (core only) -/
namespace MosnVerif.Model.Relay
open MosnVerif.Model

/-- the pending bytes of a queue end at its first EOF marker -/
theorem pending_append (q r : List Item) :
    pending (q ++ r) = if Item.eof ∈ q then pending q else pending q ++ pending r := by
  fun_induction pending q with
  | case1 => rfl
  | case2 b q ih => by_cases h : Item.eof ∈ q <;> simp [pending, ih, h]
  | case3 q => simp [pending]

/-- a write touches only the queue -/
theorem write_frame (o : Conn) (i : Item) : (o.write i).received = o.received ∧ (o.write i).eofSeen = o.eofSeen := by
  unfold Conn.write; split <;> exact ⟨rfl, rfl⟩

/-- the invariant of one direction: `c` is the connection the bytes are read from, `o` the connection they are written to -/
structure Dir (c o : Conn) : Prop where
  /-- nothing is invented, reordered or duplicated -/
  safe : ∃ x, o.sent ++ pending o.wq ++ x = c.received
  /-- nothing is lost unless the writing connection was aborted -/
  full : o.aborted = false → o.sent ++ pending o.wq = c.received
  /-- an EOF marker is only ever queued behind the last byte read -/
  eof_last : Item.eof ∈ o.wq → c.eofSeen = true
  /-- closed by flushing ⇒ the source had reached EOF -/
  flushed : o.closed = true → o.aborted = false → c.eofSeen = true
  /-- a connection is only aborted after its own peer went away -/
  abort_cause : o.aborted = true → o.eofSeen = true
  /-- a closed connection has an empty queue; a connection whose peer closed is closed and aborted -/
  closed_empty : o.closed = true → o.wq = []
  eof_closed : o.eofSeen = true → o.closed = true ∧ o.aborted = true

/-- the invariant: both directions -/
def InvAt (s : State) : Prop := ∀ d : Side, Dir (s.get d) (s.get d.other)

theorem inv_init : InvAt {} := by
  have h : Dir {} {} := ⟨⟨[], rfl⟩, fun _ => rfl, by simp, by simp, by simp, by simp, by simp⟩
  intro d
  cases d <;> exact h

/-- a write at the source of a direction is not looked at -/
theorem Dir.write_source {c o : Conn} (h : Dir c o) (i : Item) : Dir (c.write i) o := by
  unfold Conn.write
  split
  · exact h
  · exact { h with }

theorem not_aborted_of_open {c o : Conn} (h : Dir c o) (ho : o.closed = false) : o.aborted = false := by
  cases ha : o.aborted with
  | false => rfl
  | true => have := (h.eof_closed (h.abort_cause ha)).1; rw [ho] at this; cases this

/-- a connection whose own peer has not gone away was not aborted -/
theorem Dir.not_aborted {c o : Conn} (h : Dir c o) (he : o.eofSeen = false) : o.aborted = false := by
  cases ha : o.aborted with
  | false => rfl
  | true => have := h.abort_cause ha; rw [he] at this; cases this

/-- the read loop of `c` delivered `b` -/
theorem dir_read {c o : Conn} (b : Bytes) (he : c.eofSeen = false) (h : Dir c o) :
    Dir { c with received := c.received ++ b } (o.write (.data b)) := by
  fun_cases Conn.write o (.data b) with
  | case1 hoc =>
    obtain ⟨x, hx⟩ := h.safe
    exact { h with
      safe := ⟨x ++ b, by simp only; rw [← hx]; simp [List.append_assoc]⟩
      full := fun ha => by have := h.flushed hoc ha; rw [he] at this; cases this }
  | case2 hoc =>
    have hne : Item.eof ∉ o.wq := by
      intro hm; have := h.eof_last hm; rw [he] at this; cases this
    have heq : o.sent ++ pending (o.wq ++ [Item.data b]) = c.received ++ b := by
      rw [pending_append, if_neg hne, pending, pending, List.append_nil, ← List.append_assoc, h.full (not_aborted_of_open h (eq_false_of_ne_true hoc))]
    exact { h with
      safe := ⟨[], by simp only [List.append_nil]; exact heq⟩
      full := fun _ => heq
      eof_last := fun hm => by
        simp only [List.mem_append, List.mem_singleton, reduceCtorEq, or_false] at hm
        exact absurd hm hne
      flushed := fun hcl => absurd hcl hoc
      closed_empty := fun hcl => absurd hcl hoc
      eof_closed := fun he' => absurd (h.eof_closed he').1 hoc }

/-- the read loop of `c` hit EOF: `c` is closed at once, `o` gets the EOF marker -/
theorem dir_peer_fwd {c o : Conn} (h : Dir c o) :
    Dir { c with eofSeen := true, closed := true, aborted := true, wq := [] } (o.write .eof) := by
  fun_cases Conn.write o .eof with
  | case1 hoc => exact { h with eof_last := fun _ => rfl, flushed := fun _ _ => rfl }
  | case2 hoc =>
    exact { h with
      safe := by simp only [pending_append, pending, List.append_nil, ite_self]; exact h.safe
      full := by simp only [pending_append, pending, List.append_nil, ite_self]; exact h.full
      eof_last := fun _ => rfl
      flushed := fun _ _ => rfl
      closed_empty := fun hcl => absurd hcl hoc
      eof_closed := fun he' => absurd (h.eof_closed he').1 hoc }

theorem dir_peer_back {c o : Conn} (h : Dir o c) :
    Dir (o.write .eof) { c with eofSeen := true, closed := true, aborted := true, wq := [] } := by
  obtain ⟨x, hx⟩ := h.safe
  exact {
    safe := ⟨pending c.wq ++ x, by rw [(write_frame o .eof).1, ← hx]; simp [pending, List.append_assoc]⟩
    full := by intro ha; cases ha
    eof_last := by intro hm; cases hm
    flushed := by intro _ ha; cases ha
    abort_cause := fun _ => rfl
    closed_empty := fun _ => rfl
    eof_closed := fun _ => ⟨rfl, rfl⟩ }

/-- the write loop of `c` (open) sends a data item -/
theorem dir_write_data {c o : Conn} (b : Bytes) (r : List Item) (hq : c.wq = .data b :: r) (hc : c.closed = false) (h : Dir o c) :
    Dir o { c with wq := r, sent := c.sent ++ b } := by
  have e : ∀ (x : Bytes), c.sent ++ b ++ pending r ++ x = c.sent ++ pending c.wq ++ x := by
    intro x; rw [hq]; simp [pending, List.append_assoc]
  exact { h with
    safe := by obtain ⟨x, hx⟩ := h.safe; exact ⟨x, by simp only; rw [e, hx]⟩
    full := by
      intro ha
      have e' := e []
      simp only [List.append_nil] at e'
      simp only; rw [e', h.full ha]
    eof_last := fun hm => h.eof_last (by rw [hq]; simp [hm])
    closed_empty := by intro hcl; simp only at hcl; rw [hc] at hcl; cases hcl }

/-- the write loop of `c` (open) reaches the EOF marker: `c` is closed after having flushed -/
theorem dir_write_eof {c o : Conn} (r : List Item) (hq : c.wq = .eof :: r) (hc : c.closed = false) (h : Dir o c) :
    Dir o { c with wq := [], closed := true } ∧ o.eofSeen = true := by
  have hoe : o.eofSeen = true := h.eof_last (by rw [hq]; simp)
  have hp : pending c.wq = [] := by rw [hq]; rfl
  refine ⟨?_, hoe⟩
  exact { h with
    safe := by obtain ⟨x, hx⟩ := h.safe; exact ⟨x, by simp only [pending]; rw [← hx, hp]⟩
    full := by intro ha; have := h.full ha; simp only [pending]; rw [← this, hp]
    eof_last := by intro hm; cases hm
    flushed := fun _ _ => hoe
    closed_empty := fun _ => rfl
    eof_closed := by
      intro he
      have := (h.eof_closed he).1
      rw [hc] at this; cases this }

theorem abort_noop {o : Conn} (h : o.closed = true) : o.abort = o := by simp [Conn.abort, h]

@[simp] theorem get_set_same (s : State) (d : Side) (c : Conn) : (s.set d c).get d = c := by cases d <;> rfl
@[simp] theorem get_set_other (s : State) (d : Side) (c : Conn) : (s.set d c).get d.other = s.get d.other := by cases d <;> rfl
@[simp] theorem get_set_other' (s : State) (d : Side) (c : Conn) : (s.set d.other c).get d = s.get d := by cases d <;> rfl
@[simp] theorem other_other (d : Side) : d.other.other = d := by cases d <;> rfl

/-- updating both connections: the invariant of the new state follows from the two directions -/
theorem invAt_set2 (s : State) (d : Side) (c o : Conn) (h1 : Dir c o) (h2 : Dir o c) :
    InvAt ((s.set d c).set d.other o) := by
  intro e
  cases d <;> cases e <;> simp [State.set, State.get, Side.other] <;> assumption

theorem InvAt.back {s : State} (h : InvAt s) (d : Side) : Dir (s.get d.other) (s.get d) := by
  have := h d.other
  rwa [other_other] at this

theorem set_get_other (s : State) (d : Side) (c : Conn) : (s.set d c).set d.other (s.get d.other) = s.set d c := by
  cases d <;> rfl

theorem step_inv (s : State) (e : Ev) (h : InvAt s) : InvAt (step s e) := by
  -- the leaves of `step` in its order: read (no read loop; delivered), peerClosed (no read loop; EOF), write (closed; empty
  -- queue; a data item; the EOF marker)
  fun_cases step s e with
  | case1 | case3 | case5 | case6 => exact h
  | case2 d b c hc s' =>
    simp only [s', get_set_other]
    -- the direction back sees a write at its source and more bytes received at its sink: neither is looked at
    exact invAt_set2 s d _ _ (dir_read b (by simpa using hc : _ ∧ _).2 (h d)) { (h.back d).write_source _ with }
  | case4 d c hc s' =>
    simp only [s', get_set_other]
    exact invAt_set2 s d _ _ (dir_peer_fwd (h d)) (dir_peer_back (h.back d))
  | case7 d c hc b r hq =>
    have := invAt_set2 s d { s.get d with wq := r, sent := (s.get d).sent ++ b } _ { h d with }
      (dir_write_data b r hq (eq_false_of_ne_true hc) (h.back d))
    rwa [set_get_other] at this
  | case8 d c hc r hq s' =>
    simp only [s', get_set_other]
    obtain ⟨h1, hoe⟩ := dir_write_eof r hq (eq_false_of_ne_true hc) (h.back d)
    rw [abort_noop ((h d).eof_closed hoe).1]
    exact invAt_set2 s d { s.get d with wq := [], closed := true } _ { h d with } h1

theorem run_inv (evs : List Ev) (s : State) (h : InvAt s) : InvAt (run s evs) :=
  Lemmas.Fold.foldl_inv (P := InvAt) step_inv evs s h

/-- every schedule from the initial state keeps the invariant of each direction -/
theorem run_dir (evs : List Ev) (d : Side) : Dir ((run {} evs).get d) ((run {} evs).get d.other) :=
  run_inv evs {} inv_init d

end MosnVerif.Model.Relay
