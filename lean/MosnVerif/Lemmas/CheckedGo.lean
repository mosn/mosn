import MosnVerif.Model.CheckedGo
/-!
Reasoning about checked-access programs (Model/CheckedGo.lean): `x.Safe Q` — the computation does not panic (`≠ oob`) and
its value satisfies `Q` — with one rule per construct of the target language of the statement translator.  A regenerated
program is walked along these rules; the side conditions of a checked access (`0 ≤ i < len b`, `0 ≤ lo ≤ hi ≤ len b`,
`n ≤ len b`) follow by linear arithmetic from the guards on its path.
-/
namespace MosnVerif.Model.CheckedGo

/-- total correctness: no out-of-range access, and the value satisfies `Q` -/
def Chk.Safe {α : Type} (x : Chk α) (Q : α → Prop) : Prop := ∃ a, x = .ok a ∧ Q a

namespace Safe

theorem ok {α : Type} {Q : α → Prop} {a : α} (h : Q a) : (Chk.ok a).Safe Q := ⟨a, rfl, h⟩

theorem ne_oob {α : Type} {Q : α → Prop} {x : Chk α} (h : x.Safe Q) : x ≠ .oob := by
  obtain ⟨a, ha, _⟩ := h
  rw [ha]; intro h; cases h

theorem mono {α : Type} {P Q : α → Prop} {x : Chk α} (h : x.Safe P) (hpq : ∀ a, P a → Q a) : x.Safe Q := by
  obtain ⟨a, ha, hp⟩ := h
  exact ⟨a, ha, hpq a hp⟩

theorem of_ne_oob {α : Type} {x : Chk α} (h : x ≠ .oob) : x.Safe (fun _ => True) := by
  cases x with
  | ok a => exact ⟨a, rfl, trivial⟩
  | oob => exact absurd rfl h

theorem value {α : Type} {Q : α → Prop} {x : Chk α} {a : α} (h : x.Safe Q) (hx : x = .ok a) : Q a := by
  obtain ⟨b, hb, hq⟩ := h
  rw [hx] at hb; cases hb; exact hq

theorem bind {α β : Type} {P : α → Prop} {Q : β → Prop} {x : Chk α} {f : α → Chk β}
    (hx : x.Safe P) (hf : ∀ a, P a → (f a).Safe Q) : (x.bind f).Safe Q := by
  obtain ⟨a, ha, hp⟩ := hx
  rw [ha]; exact hf a hp

theorem ite {α : Type} {Q : α → Prop} {c : Prop} [Decidable c] {A B : Chk α}
    (ht : c → A.Safe Q) (he : ¬c → B.Safe Q) : (if c then A else B).Safe Q := by
  split
  · exact ht ‹_›
  · exact he ‹_›

theorem idx {b : Bytes} {i : Int} (h0 : 0 ≤ i) (h1 : i < len b) :
    (idx b i).Safe (fun v => byteAt b i = v ∧ 0 ≤ v ∧ v < 256) := by
  refine ⟨byteAt b i, ?_, rfl, ?_, ?_⟩
  · simp [CheckedGo.idx, h0, h1]
  · simp [byteAt]
  · simp only [byteAt]
    have := (b.getD i.toNat 0).toNat_lt
    omega

theorem len_sub {b : Bytes} {lo hi : Int} (h0 : 0 ≤ lo) (h1 : lo ≤ hi) (h2 : hi ≤ len b) : len (sub b lo hi) = hi - lo := by
  simp only [len, sub, List.length_drop, List.length_take] at *
  omega

theorem slc {b : Bytes} {lo hi : Int} (h0 : 0 ≤ lo) (h1 : lo ≤ hi) (h2 : hi ≤ len b) :
    (slc b lo hi).Safe (fun r => sub b lo hi = r ∧ len r = hi - lo) := by
  refine ⟨sub b lo hi, ?_, rfl, len_sub h0 h1 h2⟩
  simp [CheckedGo.slc, h0, h1, h2]

theorem beU {n : Nat} {b : Bytes} (h : (n : Int) ≤ len b) : (beU n b).Safe (fun v => beVal n b = v ∧ 0 ≤ v) := by
  refine ⟨beVal n b, ?_, rfl, ?_⟩
  · simp [CheckedGo.beU, h]
  · simp [beVal]

theorem go_from {α : Type} {Q : α → Prop} {lo hi : Int} {body : Int → (Unit → Chk α) → Chk α} {after : Unit → Chk α}
    (hb : ∀ i next, lo ≤ i → i < hi → (next ()).Safe Q → (body i next).Safe Q) (ha : (after ()).Safe Q) :
    ∀ (n : Nat) (i : Int), lo ≤ i → i + n = hi ∨ (n = 0 ∧ hi ≤ i) → (forRange.go body after n i).Safe Q := by
  intro n
  induction n with
  | zero => intro i _ _; exact ha
  | succ k ih =>
    intro i hlo h
    simp only [forRange.go]
    apply hb i _ hlo
    · omega
    · apply ih
      · omega
      · omega

theorem forRange_go {α : Type} {Q : α → Prop} {hi : Int} {body : Int → (Unit → Chk α) → Chk α} {after : Unit → Chk α}
    (hb : ∀ i next, i < hi → (next ()).Safe Q → (body i next).Safe Q) (ha : (after ()).Safe Q) :
    ∀ (n : Nat) (i : Int), i + n = hi ∨ (n = 0 ∧ hi ≤ i) → (forRange.go body after n i).Safe Q :=
  fun n i => go_from (lo := i) (fun j next _ => hb j next) ha n i (Int.le_refl i)

/-- a counted loop: the body, run at any `lo ≤ i < hi` in front of a safe continuation, is safe -/
theorem forRange {α : Type} {Q : α → Prop} {lo hi : Int} {body : Int → (Unit → Chk α) → Chk α} {after : Unit → Chk α}
    (hb : ∀ i next, lo ≤ i → i < hi → (next ()).Safe Q → (body i next).Safe Q) (ha : (after ()).Safe Q) :
    (forRange lo hi body after).Safe Q :=
  go_from hb ha _ lo (Int.le_refl lo) (by omega)

/-- a `for cond { body }` loop: an invariant `I` and a variant `μ` below the fuel -/
theorem whileLoop {σ α : Type} {Q : α → Prop} {cond : σ → Bool} {body : σ → (σ → Chk α) → Chk α} {after : σ → Chk α}
    (I : σ → Prop) (μ : σ → Nat)
    (hb : ∀ s next, I s → cond s = true → (∀ s', I s' → μ s' < μ s → (next s').Safe Q) → (body s next).Safe Q)
    (ha : ∀ s, I s → cond s = false → (after s).Safe Q) :
    ∀ (n : Nat) (s : σ), I s → μ s < n → (CheckedGo.whileLoop cond body after n s).Safe Q := by
  intro n
  induction n with
  | zero => intro s _ h; omega
  | succ k ih =>
    intro s hi hm
    simp only [CheckedGo.whileLoop]
    by_cases hc : cond s = true
    · rw [if_pos hc]
      exact hb s _ hi hc (fun s' hi' hlt => ih s' hi' (by omega))
    · rw [if_neg hc]
      exact ha s hi (by simpa using hc)

end Safe

theorem land_nonneg (a b : Int) : 0 ≤ land a b := by simp [land]
theorem lor_nonneg (a b : Int) : 0 ≤ lor a b := by simp [lor]
theorem len_nonneg (b : Bytes) : 0 ≤ len b := by simp [len]
theorem byteAt_nonneg (p : Bytes) (i : Int) : 0 ≤ byteAt p i := by simp [byteAt]

/-- `v, err := read(p); if err != nil { return nil, err }`: what follows runs behind a read that succeeded -/
theorem read_then {α : Type} {x : Chk (Bytes × α × Err)} {P R : Bytes × α × Err → Prop} {Q : Frm × Err → Prop}
    {rest : Bytes × α × Err → Chk (Frm × Err)} (hx : x.Safe fun r => (r.2.2 = Err.nil → P r) ∧ R r)
    (herr : ∀ {e}, e ≠ Err.nil → Q (Frm.nil, e)) (hrest : ∀ r, P r → (rest r).Safe Q) :
    (x.bind fun r => if decide (r.2.2 ≠ Err.nil) then Chk.ok (Frm.nil, r.2.2) else rest r).Safe Q :=
  Safe.bind hx fun r hr => Safe.ite (fun he => Safe.ok (herr (of_decide_eq_true he)))
    (fun he => hrest r (hr.1 (by simpa using he)))

/-- `binary.BigEndian.UintNN(b[lo:hi])` with `hi - lo` the width of the integer -/
theorem beAt_safe {β : Type} {Q : β → Prop} {b : Bytes} {lo hi : Int} {n : Nat} {k : Int → Chk β}
    (h0 : 0 ≤ lo) (hn : hi = lo + n) (h1 : hi ≤ len b) (hk : ∀ v, (k v).Safe Q) :
    ((slc b lo hi).bind fun s => (beU n s).bind k).Safe Q :=
  Safe.bind (Safe.slc h0 (by omega) h1) (fun _ hs => Safe.bind (Safe.beU (by omega)) (fun v _ => hk v))

end MosnVerif.Model.CheckedGo
