import MosnVerif.Model.UpdatesSpec
import MosnVerif.Lemmas.Fold
import MosnVerif.Lemmas.InsertSort
import MosnVerif.Lemmas.DedupFirst
/-! The runtime updates of `Model/Updates.lean` (C12): every operation rewrites one side of the state — routers, clusters or
listeners — at one key of its maps, and the invariants `Inv`, `LInv`, `WInv` tie the live part of a side to its stored
configuration key by key (`FMap.Coh`, `FMap.All`: kept by a write or an erasure at one key); the coherence of the dump with the
live state follows from them. -/
namespace MosnVerif.Model.Updates
open MosnVerif

@[simp] theorem FMap.set_same {α} (m : FMap α) (k : String) (v : α) : (m.set k v) k = some v := by simp [FMap.set]
theorem FMap.set_other {α} (m : FMap α) {k k' : String} (v : α) (h : k' ≠ k) : (m.set k v) k' = m k' := by simp [FMap.set, h]
@[simp] theorem FMap.del_same {α} (m : FMap α) (k : String) : (m.del k) k = none := by simp [FMap.del]
theorem FMap.del_other {α} (m : FMap α) {k k' : String} (h : k' ≠ k) : (m.del k) k' = m k' := by simp [FMap.del, h]

theorem FMap.set_set {α} (m : FMap α) (k : String) (a b : α) : (m.set k a).set k b = m.set k b := by
  funext n
  by_cases e : n = k <;> simp [FMap.set, e]

/-- every entry of a map has `P` (of its key and value) -/
def FMap.All {α} (m : FMap α) (P : String → α → Prop) : Prop := ∀ n a, m n = some a → P n a

theorem FMap.All.set {α} {m : FMap α} {P : String → α → Prop} (h : m.All P) {k : String} {a : α} (hk : P k a) :
    (m.set k a).All P := by
  simp only [FMap.All, FMap.set]
  intro n x
  split
  · rename_i e
    intro hx
    cases hx
    exact e ▸ hk
  · exact h n x

theorem FMap.All.del {α} {m : FMap α} {P : String → α → Prop} (h : m.All P) (k : String) : (m.del k).All P := by
  simp only [FMap.All, FMap.del]
  intro n x
  split
  · intro hx
    cases hx
  · exact h n x

/-- a live map and its store agree key by key: every live entry has a stored one, related to it by `P`, and a key without a
live entry has no stored one. Writing both maps at one key (with related values), or erasing one key in both, keeps that. -/
structure FMap.Coh {α β} (m : FMap α) (m' : FMap β) (P : String → α → Option β → Prop) : Prop where
  live : ∀ n a, m n = some a → P n a (m' n)
  absent : ∀ n, m n = none → m' n = none

theorem FMap.Coh.set {α β} {m : FMap α} {m' : FMap β} {P : String → α → Option β → Prop} (h : m.Coh m' P)
    {k : String} {a : α} {b : β} (hk : P k a (some b)) : (m.set k a).Coh (m'.set k b) P := by
  constructor
  · simp only [FMap.set]
    intro n x
    split
    · rename_i e
      intro hx
      cases hx
      exact e ▸ hk
    · exact h.live n x
  · simp only [FMap.set]
    intro n
    split
    · intro hx
      cases hx
    · exact h.absent n

theorem FMap.Coh.del {α β} {m : FMap α} {m' : FMap β} {P : String → α → Option β → Prop} (h : m.Coh m' P)
    (k : String) : (m.del k).Coh (m'.del k) P := by
  constructor
  · simp only [FMap.del]
    intro n x
    split
    · intro hx
      cases hx
    · exact h.live n x
  · simp only [FMap.del]
    intro n
    split
    · exact fun _ => rfl
    · exact h.absent n

/-! ## regenerated facts (break ⇒ the dependent proofs stop checking) -/
theorem gen_recordsAddOrUpdate : recordsAddOrUpdate = true := by decide
theorem gen_addRoute : Gen.Updates.addRoute_recordsRouter = true := by decide
theorem gen_removeAll : Gen.Updates.removeAllRoutes_recordsRouter = true := by decide
theorem gen_setRouterStores : Gen.Updates.setRouter_storesRouter = true := by decide
/-- `SetRouter` copies the path of the router it is given into `conf.routerConfigPath` UNCONDITIONALLY (an empty path included) -/
theorem gen_setRouterRemembers : Gen.Updates.setRouter_rememberPath = some .always := by decide

theorem gen_updCfg : Gen.Updates.updateCluster_recordsClusterConfig = true := by decide
theorem gen_updRefresh : Gen.Updates.updateCluster_refreshesHosts = true := by decide
theorem gen_hostsRefresh : Gen.Updates.updateHosts_refreshesHosts = true := by decide
theorem gen_remove : Gen.Updates.removePrimaryCluster_removesClusterConfig = true := by decide
theorem gen_setHosts : Gen.Updates.refreshHostsConfig_setsHosts = true := by decide
theorem gen_inside : Gen.Updates.endpointUpdatesInsideLocalityLoop = 0 := by decide
theorem gen_after : Gen.Updates.endpointUpdatesAfterLocalityLoop = 1 := by decide
theorem gen_acc : Gen.Updates.localityLoopAccumulates = true := by decide
theorem gen_lrec : Gen.Updates.addOrUpdateListener_recordsListenerConfig = true := by decide
theorem gen_lrem : Gen.Updates.removeListeners_removesListenerConfig = true := by decide
theorem gen_idleLive : Gen.Updates.updateListener_idleLive = true := by decide
theorem gen_idleCfg : Gen.Updates.updateListener_idleConfig = true := by decide
theorem gen_late : Gen.Updates.updateListener_lateErrorReturns = 0 := by decide

@[simp] theorem storedCfg_name (c : RouterCfg) : (storedCfg c).name = c.name := by unfold storedCfg; split <;> rfl
@[simp] theorem storedCfg_vhosts (c : RouterCfg) : (storedCfg c).vhosts = c.vhosts := by unfold storedCfg; split <;> rfl
@[simp] theorem storedCfg_static (c : RouterCfg) : (storedCfg c).static = c.static := by unfold storedCfg; split <;> rfl
theorem build_congr (o : Oracle) {c c' : RouterCfg} (h : c.vhosts = c'.vhosts) : build o c = build o c' := by
  unfold build; rw [h]
@[simp] theorem build_storedCfg (o : Oracle) (c : RouterCfg) : build o (storedCfg c) = build o c := build_congr o (by simp)
@[simp] theorem build_withPath (o : Oracle) (c : RouterCfg) (p : String) : build o { c with path := p } = build o c :=
  build_congr o rfl
theorem rememberedPath_eq (old : String) (c : RouterCfg) : rememberedPath old c = c.path := by
  simp [rememberedPath, gen_setRouterRemembers, condHolds]
/-- `modifyAt` is core's `List.modify` -/
theorem modifyAt_eq {α} (f : α → α) : (l : List α) → (i : Nat) → modifyAt f l i = l.modify i f
  | [], _ => (List.modify_nil f _).symm
  | _ :: _, 0 => rfl
  | x :: r, i + 1 => by rw [modifyAt, modifyAt_eq f r i, List.modify_succ_cons]

theorem modifyAt_length {α} (f : α → α) (l : List α) (i : Nat) : (modifyAt f l i).length = l.length := by
  rw [modifyAt_eq, List.length_modify]

theorem modifyAt_map {α β} (f : α → α) (g : β → β) (p : α → β) (hp : ∀ x, p (f x) = g (p x)) (l : List α) (i : Nat) :
    (modifyAt f l i).map p = modifyAt g (l.map p) i := by
  fun_induction modifyAt f l i <;> simp [modifyAt, *]

theorem modifyAt_map_id {α β} (f : α → α) (p : α → β) (hp : ∀ x, p (f x) = p x) (l : List α) (i : Nat) :
    (modifyAt f l i).map p = l.map p := by
  rw [modifyAt_map f id p hp, modifyAt_eq, List.modify_id]

theorem modifyAt_all {α} (f : α → α) (q : α → Bool) (l : List α) (i : Nat) (hq : ∀ x, q x = true → q (f x) = true)
    (hl : l.all q = true) : (modifyAt f l i).all q = true := by
  fun_induction modifyAt f l i with
  | case1 => rfl
  | case2 x r =>
    simp only [List.all_cons, Bool.and_eq_true] at hl ⊢
    exact ⟨hq x hl.1, hl.2⟩
  | case3 x r i ih =>
    simp only [List.all_cons, Bool.and_eq_true] at hl ⊢
    exact ⟨hl.1, ih hl.2⟩

theorem build_eq_some_iff {o : Oracle} {cfg : RouterCfg} {t : Table} :
    build o cfg = some t ↔
      cfg.vhosts.isEmpty = false ∧ cfg.vhosts.all (fun vh => vh.routes.all (·.valid)) = true ∧
      o.domainsOk (cfg.vhosts.map (·.domains)) = true ∧
      t = ⟨cfg.vhosts.map (·.domains), cfg.vhosts.map (fun vh => ⟨vh.name, vh.routes⟩)⟩ := by
  have hall : cfg.vhosts.any (fun vh => vh.routes.any (fun r => !r.valid)) = !cfg.vhosts.all (fun vh => vh.routes.all (·.valid)) := by
    simp [List.not_all_eq_any_not]
  unfold build
  rw [hall]
  cases cfg.vhosts.isEmpty <;> cases cfg.vhosts.all (fun vh => vh.routes.all (·.valid)) <;>
    cases o.domainsOk (cfg.vhosts.map (·.domains)) <;> simp [eq_comm]

/-- Rewriting the route list of the virtual host at one index by `g` (which keeps buildable routes buildable) commutes with
`NewRouters`: this is what `AddRoute` and `RemoveAllRoutes` do to the live table and to the wrapper's configuration. -/
theorem build_modifyAt {o : Oracle} {cfg : RouterCfg} {t : Table} (g : List Route → List Route)
    (hg : ∀ rs, rs.all (·.valid) = true → (g rs).all (·.valid) = true) (i : Nat) (hb : build o cfg = some t) :
    build o { cfg with vhosts := modifyAt (fun vh => { vh with routes := g vh.routes }) cfg.vhosts i } =
      some { t with vhs := modifyAt (fun vh => { vh with routes := g vh.routes }) t.vhs i } := by
  obtain ⟨h1, h2, h3, rfl⟩ := build_eq_some_iff.mp hb
  have hdom : (modifyAt (fun vh : VHost => { vh with routes := g vh.routes }) cfg.vhosts i).map (·.domains) = cfg.vhosts.map (·.domains) :=
    modifyAt_map_id (fun vh : VHost => { vh with routes := g vh.routes }) (·.domains) (fun _ => rfl) _ _
  refine build_eq_some_iff.mpr ⟨?_, modifyAt_all _ _ _ _ (fun vh => hg vh.routes) h2, hdom ▸ h3, ?_⟩
  · simpa [modifyAt_eq] using h1
  · rw [hdom]
    congr 1
    exact (modifyAt_map _ (fun vh : LiveVH => { vh with routes := g vh.routes }) _ (fun _ => rfl) _ _).symm

theorem build_addRoute {o : Oracle} {cfg : RouterCfg} {t t' : Table} {d : String} {r : Route} {i : Nat}
    (hb : build o cfg = some t) (ha : t.addRoute o d r = some (i, t')) :
    build o { cfg with vhosts := modifyAt (fun vh => { vh with routes := vh.routes ++ [r] }) cfg.vhosts i } = some t' := by
  unfold Table.addRoute at ha
  split at ha
  · cases ha
  · split at ha
    · split at ha
      · rename_i hv
        cases ha
        exact build_modifyAt (· ++ [r]) (fun rs h => by simp [h, hv]) _ hb
      · cases ha
    · cases ha

theorem build_removeAll {o : Oracle} {cfg : RouterCfg} {t t' : Table} {d : String} {i : Nat}
    (hb : build o cfg = some t) (ha : t.removeAll o d = some (i, t')) :
    build o { cfg with vhosts := modifyAt (fun vh => { vh with routes := [] }) cfg.vhosts i } = some t' := by
  unfold Table.removeAll at ha
  split at ha
  · cases ha
  · split at ha
    · cases ha
      exact build_modifyAt (fun _ => []) (fun _ _ => rfl) _ hb
    · cases ha

/-! ## NewHostSet: distinct by address -/

theorem dedupAux_isDedup : Lemmas.DedupFirst.IsDedup (·.addr) dedupAux := ⟨fun _ => rfl, fun _ _ _ => rfl⟩

theorem dedup_nodup (l : List Host) : ((dedup l).map (·.addr)).Nodup := (dedupAux_isDedup.spec [] l).1

theorem dedup_id (l : List Host) (hnd : (l.map (·.addr)).Nodup) : dedup l = l :=
  dedupAux_isDedup.eq_self hnd fun _ _ => List.not_mem_nil

theorem mem_dedup {l : List Host} {h : Host} (hm : h ∈ dedup l) : h ∈ l := (dedupAux_isDedup.sublist [] l).subset hm

theorem addr_mem_dedup {l : List Host} {a : String} (hm : a ∈ l.map (·.addr)) : a ∈ (dedup l).map (·.addr) :=
  dedupAux_isDedup.key_mem hm List.not_mem_nil

@[simp] theorem clampHost_addr (h : Host) : (clampHost h).addr = h.addr := rfl

theorem map_clamp_addr (l : List Host) : (l.map clampHost).map (·.addr) = l.map (·.addr) := by
  simp [List.map_map, Function.comp_def]

def StrictSorted (l : List Host) : Prop := l.Pairwise (fun a b => a.addr < b.addr)

theorem removeSorted_eq_filter (l : List Host) (a : String) (hs : StrictSorted l) :
    removeSorted l a = l.filter (fun h => !decide (h.addr = a)) := by
  -- behind a host whose address is at least `a`, every address is greater than `a`
  have tail {a : String} {h : Host} {t : List Host} (hs : StrictSorted (h :: t)) (hle : a ≤ h.addr) :
      t.filter (fun x => !decide (x.addr = a)) = t :=
    List.filter_eq_self.mpr fun x hx => by
      have hlt : h.addr < x.addr := (List.pairwise_cons.mp hs).1 x hx
      simpa using fun e : x.addr = a => String.not_lt.mpr (e ▸ hle) hlt
  fun_induction removeSorted l a with
  | case1 => rfl
  | case2 h t hle => simp [tail hs hle]
  | case3 h t a hle he => simp [he, tail hs hle]
  | case4 h t a hle ih =>
    have hne : h.addr ≠ a := fun e => hle (e ▸ String.le_refl _)
    simp [hne, ih (List.pairwise_cons.mp hs).2]
theorem strictSorted_filter (l : List Host) (p : Host → Bool) (hs : StrictSorted l) : StrictSorted (l.filter p) :=
  List.Pairwise.sublist List.filter_sublist hs

theorem foldl_removeSorted_eq_filter (addrs : List String) (l : List Host) (hs : StrictSorted l) :
    addrs.foldl removeSorted l = l.filter (fun h => !decide (h.addr ∈ addrs)) := by
  induction addrs generalizing l with
  | nil =>
    simp only [List.foldl_nil, List.not_mem_nil, decide_false, Bool.not_false]
    exact (List.filter_eq_self.mpr (fun _ _ => rfl)).symm
  | cons a r ih =>
    simp only [List.foldl_cons]
    rw [removeSorted_eq_filter l a hs, ih _ (strictSorted_filter l _ hs), List.filter_filter]
    congr 1
    funext h
    by_cases h1 : h.addr = a <;> by_cases h2 : h.addr ∈ r <;> simp [h1, h2]

theorem insertByAddr_isIns : Lemmas.InsertSort.IsIns (fun a b : Host => a.addr ≤ b.addr) insertByAddr :=
  ⟨fun _ => rfl, fun _ _ _ => rfl⟩

theorem sortByAddr_perm (l : List Host) : (sortByAddr l).Perm l := insertByAddr_isIns.foldr_perm l

theorem sortByAddr_sorted (l : List Host) : (sortByAddr l).Pairwise (fun a b => a.addr ≤ b.addr) :=
  insertByAddr_isIns.foldr_pairwise (fun _ _ => id) (fun a b h => (String.le_total a.addr b.addr).resolve_left h)
    (fun _ _ _ => String.le_trans) l

theorem sortByAddr_strict (l : List Host) (hnd : (l.map (·.addr)).Nodup) : StrictSorted (sortByAddr l) :=
  ((sortByAddr_sorted l).and (List.pairwise_map.mp (((sortByAddr_perm l).map _).nodup_iff.mpr hnd))).imp
    fun h => (Std.le_iff_lt_or_eq.mp h.1).resolve_right h.2

/-! ## the removal loop as written (binary search, regenerated guard and deletion) refines `removeSorted` -/

theorem goSearchAux_spec (f : Nat → Bool) (n : Nat) (hmono : ∀ a b, a ≤ b → b < n → f a = true → f b = true)
    (fuel i j : Nat) (hij : i ≤ j) (hjn : j ≤ n) (hfuel : j - i < fuel) (hlo : ∀ k, k < i → f k = false)
    (hhi : j < n → f j = true) :
    goSearchAux f fuel i j ≤ n ∧ (∀ k, k < goSearchAux f fuel i j → f k = false) ∧
      (goSearchAux f fuel i j < n → f (goSearchAux f fuel i j) = true) := by
  fun_induction goSearchAux f fuel i j with
  | case1 => omega
  | case2 fuel i j hlt h hf ih =>
    have hh : i ≤ h ∧ h < j := by omega
    -- `f h = false`: by monotonicity `f` is false up to `h`
    refine ih hh.2 hjn (by omega) (fun k hk => ?_) hhi
    cases hk' : f k with
    | false => rfl
    | true => simp [hmono k h (by omega) (by omega) hk'] at hf
  | case3 fuel i j hlt h hf ih =>
    have hh : i ≤ h ∧ h < j := by omega
    exact ih hh.1 (by omega) (by omega) hlo (fun _ => by simpa using hf)
  | case4 fuel i j hlt =>
    obtain rfl : i = j := by omega
    exact ⟨hjn, hlo, hhi⟩

theorem goSearch_spec (f : Nat → Bool) (n : Nat) (hmono : ∀ a b, a ≤ b → b < n → f a = true → f b = true) :
    goSearch n f ≤ n ∧ (∀ k, k < goSearch n f → f k = false) ∧ (goSearch n f < n → f (goSearch n f) = true) := by
  unfold goSearch
  exact goSearchAux_spec f n hmono (n + 1) 0 n (Nat.zero_le _) (Nat.le_refl _) (by omega) (fun k hk => by omega) (fun h => by omega)

theorem removeSorted_of_spec (l : List Host) (a : String) (i : Nat)
    (hlt : ∀ k (hk : k < l.length), k < i → ¬ a ≤ l[k].addr) (hge : ∀ (h : i < l.length), a ≤ l[i].addr) :
    removeSorted l a = if h : i < l.length then (if l[i].addr = a then l.eraseIdx i else l) else l := by
  induction l generalizing i with
  | nil => simp [removeSorted]
  | cons x t ih =>
    cases i with
    | zero =>
      have := hge (by simp)
      simp only [List.getElem_cons_zero] at this
      simp [removeSorted, this]
    | succ k =>
      have h0 := hlt 0 (by simp) (by omega)
      simp only [List.getElem_cons_zero] at h0
      unfold removeSorted
      simp only [h0, if_false]
      rw [ih k (fun j hj hjk => by have := hlt (j + 1) (by simp; omega) (by omega); simpa using this)
        (fun h => by have := hge (by simp; omega); simpa using this)]
      by_cases hk : k < t.length
      · simp only [hk, dite_true, List.length_cons, Nat.add_lt_add_iff_right, List.getElem_cons_succ, List.eraseIdx_cons_succ]
        split <;> rfl
      · simp [hk]

theorem addrAt_lt (l : List Host) (k : Nat) (hk : k < l.length) : addrAt l k = l[k].addr := by
  simp [addrAt, List.getElem?_eq_getElem hk]

theorem removeStep_eq_removeSorted (l : List Host) (a : String) (hs : l.Pairwise (fun x y => x.addr ≤ y.addr)) :
    removeStep l a = removeSorted l a := by
  have hmono : ∀ p q, p ≤ q → q < l.length →
      Gen.Updates.removeSearchPred l.length (addrAt l) a p = true → Gen.Updates.removeSearchPred l.length (addrAt l) a q = true := by
    intro p q hpq hq hp
    simp only [Gen.Updates.removeSearchPred, decide_eq_true_eq, ge_iff_le] at hp ⊢
    rw [addrAt_lt l q hq]
    rw [addrAt_lt l p (by omega)] at hp
    rcases Nat.lt_or_eq_of_le hpq with h | h
    · exact String.le_trans hp ((List.pairwise_iff_getElem.mp hs) p q (by omega) hq h)
    · subst h; exact hp
  obtain ⟨hle, hlo, hhi⟩ := goSearch_spec _ l.length hmono
  unfold removeStep removeStepWith
  generalize goSearch l.length (Gen.Updates.removeSearchPred l.length (addrAt l) a) = i at hle hlo hhi
  rw [removeSorted_of_spec l a i
    (fun k hk hki => by
      have := hlo k hki
      simp only [Gen.Updates.removeSearchPred, decide_eq_false_iff_not, ge_iff_le] at this
      rwa [addrAt_lt l k hk] at this)
    (fun h => by
      have := hhi h
      simp only [Gen.Updates.removeSearchPred, decide_eq_true_eq, ge_iff_le] at this
      rwa [addrAt_lt l i h] at this)]
  by_cases hi : i < l.length
  · simp only [Gen.Updates.removeFound, hi, decide_true, Bool.true_and, decide_eq_true_eq, dite_true, addrAt_lt l i hi]
    split
    · simp [Gen.Updates.removeDelete, List.eraseIdx_eq_take_drop_succ]
    · rfl
  · simp [Gen.Updates.removeFound, hi]

theorem removeSorted_sublist (l : List Host) (a : String) : (removeSorted l a).Sublist l := by
  fun_induction removeSorted l a with
  | case1 => exact .slnil
  | case2 h t => exact List.sublist_cons_self h t
  | case3 => exact .refl _
  | case4 h t _ _ ih => exact ih.cons_cons h

theorem foldl_removeSorted_sublist (addrs : List String) (l : List Host) : (addrs.foldl removeSorted l).Sublist l :=
  Lemmas.Fold.foldl_inv (P := (·.Sublist l)) (fun l' a h => (removeSorted_sublist l' a).trans h) addrs l (.refl l)

theorem foldl_removeStep_eq (addrs : List String) (l : List Host) (hs : l.Pairwise (fun x y => x.addr ≤ y.addr)) :
    addrs.foldl removeStep l = addrs.foldl removeSorted l := by
  induction addrs generalizing l with
  | nil => rfl
  | cons a r ih =>
    simp only [List.foldl_cons]
    rw [removeStep_eq_removeSorted l a hs]
    exact ih _ (List.Pairwise.sublist (removeSorted_sublist l a) hs)

/-- `RemoveClusterHosts`' handler as written = `NewHostSet` of the specification fold over the sorted hosts — for every
address list (any order, duplicates, absent addresses) and every old host list. -/
theorem removeHosts_unfold (addrs : List String) (old : List Host) :
    removeHosts addrs old = dedup (addrs.foldl removeSorted (sortByAddr old)) := by
  unfold removeHosts removeHostsWith
  simp only [show Gen.Updates.removeHosts_sorts = true from rfl, if_true]
  rw [show removeStepWith Gen.Updates.removeDelete = removeStep from rfl, foldl_removeStep_eq _ _ (sortByAddr_sorted old)]

/-- the host set after `RemoveClusterHosts`: exactly the hosts whose address is not listed (sorted by address). -/
theorem removeHosts_eq (addrs : List String) (old : List Host) (hnd : (old.map (·.addr)).Nodup) :
    removeHosts addrs old = (sortByAddr old).filter (fun h => !decide (h.addr ∈ addrs)) := by
  rw [removeHosts_unfold]
  rw [foldl_removeSorted_eq_filter _ _ (sortByAddr_strict old hnd)]
  apply dedup_id
  have hnd' : ((sortByAddr old).map (·.addr)).Nodup := ((sortByAddr_perm old).map _).nodup_iff.mpr hnd
  exact List.Nodup.sublist (List.Sublist.map _ List.filter_sublist) hnd'

structure Inv (o : Oracle) (s : State) : Prop where
  r_some : ∀ n w, s.wrappers n = some w → w.cfg.name = n ∧ s.rstore n = some (storedCfg w.cfg) ∧ w.routers = build o w.cfg
  r_none : ∀ n, s.wrappers n = none → s.rstore n = none
  c_some : ∀ n lc, s.clusters n = some lc → s.cstore n = some ⟨lc.tag, lc.hosts⟩ ∧ (lc.hosts.map (·.addr)).Nodup
  c_none : ∀ n, s.clusters n = none → s.cstore n = none
  r_path : ∀ n w, s.wrappers n = some w → s.rpath n = w.cfg.path

theorem inv_init (o : Oracle) : Inv o init := by
  constructor <;> intros <;> simp_all [init, FMap.empty]

theorem Inv.routers {o : Oracle} {s : State} (hI : Inv o s) :
    s.wrappers.Coh s.rstore fun n w c => w.cfg.name = n ∧ c = some (storedCfg w.cfg) ∧ w.routers = build o w.cfg :=
  ⟨hI.r_some, hI.r_none⟩

theorem Inv.clusters {o : Oracle} {s : State} (hI : Inv o s) :
    s.clusters.Coh s.cstore fun _ lc c => c = some ⟨lc.tag, lc.hosts⟩ ∧ (lc.hosts.map (·.addr)).Nodup :=
  ⟨hI.c_some, hI.c_none⟩

theorem Inv.of_clusters {o : Oracle} {s : State} (hI : Inv o s) {l : FMap LiveCluster} {c : FMap StoredCluster}
    (h : l.Coh c fun _ lc c => c = some ⟨lc.tag, lc.hosts⟩ ∧ (lc.hosts.map (·.addr)).Nodup) :
    Inv o { s with clusters := l, cstore := c } :=
  { hI with c_some := h.live, c_none := h.absent }

theorem inv_setRouter {o : Oracle} {s : State} (hI : Inv o s) (cfg : RouterCfg) (t : Option Table) (ht : t = build o cfg) :
    Inv o (recordRouter true { s with wrappers := s.wrappers.set cfg.name ⟨t, cfg⟩ } cfg) := by
  simp only [recordRouter, if_true, gen_setRouterStores]
  have h := hI.routers.set (a := ⟨t, cfg⟩) ⟨rfl, rfl, ht⟩
  refine ⟨h.live, h.absent, hI.c_some, hI.c_none, fun n w hw => ?_⟩
  by_cases hn : n = cfg.name
  · subst hn
    cases hw.symm.trans (FMap.set_same _ _ _)
    simp [rememberedPath_eq]
  · simp only [FMap.set_other _ _ hn] at hw
    simp only [hn, if_false]
    exact hI.r_path n w hw

theorem refreshHosts_some (s : State) (name : String) (hosts : List Host) (c : StoredCluster) (hc : s.cstore name = some c) :
    refreshHosts true s name hosts = { s with cstore := s.cstore.set name { c with hosts := hosts } } := by
  simp [refreshHosts, gen_setHosts, hc]

theorem refreshHosts_none (s : State) (name : String) (hosts : List Host) (hc : s.cstore name = none) :
    refreshHosts true s name hosts = s := by
  simp [refreshHosts, gen_setHosts, hc]

theorem updateCluster_eq (s : State) (name : String) (tag : Nat) (cfgHosts : List Host)
    (handler : Option LiveCluster → List Host) :
    updateCluster s name tag cfgHosts handler =
      ({ s with clusters := s.clusters.set name ⟨tag, handler (s.clusters name)⟩,
                cstore := s.cstore.set name ⟨tag, handler (s.clusters name)⟩ }, true) := by
  simp only [updateCluster, gen_updCfg, gen_updRefresh, if_true]
  rw [refreshHosts_some _ _ _ ⟨tag, cfgHosts⟩ (by simp), FMap.set_set]

theorem inv_updateCluster {o : Oracle} {s : State} (hI : Inv o s) (name : String) (tag : Nat) (cfgHosts : List Host)
    (handler : Option LiveCluster → List Host) (hN : ((handler (s.clusters name)).map (·.addr)).Nodup) :
    Inv o (updateCluster s name tag cfgHosts handler).1 := by
  rw [updateCluster_eq]
  exact hI.of_clusters (hI.clusters.set ⟨rfl, hN⟩)

theorem inv_updateHosts {o : Oracle} {s : State} (hI : Inv o s) (name : String) (f : List Host → List Host)
    (hf : ∀ l, ((f l).map (·.addr)).Nodup) : Inv o (updateHosts s name f).1 := by
  unfold updateHosts
  split
  · exact hI
  · rename_i lc hlc
    simp only [gen_hostsRefresh]
    rw [refreshHosts_some _ _ _ ⟨lc.tag, lc.hosts⟩ (by simpa using (hI.c_some name lc hlc).1)]
    exact hI.of_clusters (hI.clusters.set ⟨rfl, hf _⟩)

theorem inv_removeCluster {o : Oracle} (s : State) (name : String) (hI : Inv o s) : Inv o (removeCluster s name) := by
  unfold removeCluster
  split
  · exact hI
  · simp only [gen_remove, if_true]
    exact hI.of_clusters (hI.clusters.del name)

theorem replaceHosts_nodup (hs old : List Host) : ((replaceHosts hs old).map (·.addr)).Nodup := dedup_nodup _
theorem appendHosts_nodup (hs old : List Host) : ((appendHosts hs old).map (·.addr)).Nodup := dedup_nodup _
theorem removeHosts_nodup (addrs : List String) (old : List Host) : ((removeHosts addrs old).map (·.addr)).Nodup := dedup_nodup _

/-- `ConvertUpdateEndpoints` on one assignment, with the regenerated shape: ONE replacement by the concatenation of all
localities (the empty assignment included). -/
theorem xdsAssign_eq (s : State) (c : String) (locs : List (List XHost)) :
    xdsAssign s c locs = updateHosts s c (replaceHosts ((locs.map (·.map convHost)).flatten)) := by
  unfold xdsAssign
  split
  · rename_i h
    have : locs = [] := by simpa using h
    subst this; rfl
  · simp only [gen_inside, gen_after, gen_acc, Nat.lt_irrefl, if_false, Nat.zero_lt_one, if_true, Bool.true_and]

theorem inv_xdsAssign {o : Oracle} {s : State} (hI : Inv o s) (cname : String) (locs : List (List XHost)) :
    Inv o (xdsAssign s cname locs).1 := by
  rw [xdsAssign_eq]
  exact inv_updateHosts hI _ _ (replaceHosts_nodup _)

/-- `ConvertUpdateEndpoints` with one assignment is one host-list replacement -/
theorem step_xdsEndpoints_one (o : Oracle) (s : State) (c : String) (locs : List (List XHost)) :
    step o s (.xdsEndpoints [(c, locs)]) = updateHosts s c (replaceHosts ((locs.map (·.map convHost)).flatten)) := by
  simp [step, xdsAssign_eq]

theorem effName_eff (lc : ListenerCfg) : effName { lc with name := effName lc } = effName lc := by
  unfold effName
  by_cases h : lc.name.isEmpty
  · simp [h]
  · simp [h]

/-- the listener invariant: every live listener serves exactly what its stored config describes. -/
structure LInv (s : State) : Prop where
  l_some : ∀ n al, s.listeners n = some al →
    s.lstore n = some al.cfg ∧ al.cfg.name = n ∧ effName al.cfg = n ∧ al.cfg.chains = 1 ∧ al.cfg.tlsOk = true ∧
    al.sf = al.cfg.sf ∧ al.nf = al.cfg.nf ∧ al.idle = al.cfg.idle
  l_none : ∀ n, s.listeners n = none → s.lstore n = none

theorem linv_iff {s : State} {l : FMap LiveListener} {c : FMap ListenerCfg} :
    LInv { s with listeners := l, lstore := c } ↔ l.Coh c fun n al c => c = some al.cfg ∧ al.cfg.name = n ∧
      effName al.cfg = n ∧ al.cfg.chains = 1 ∧ al.cfg.tlsOk = true ∧ al.sf = al.cfg.sf ∧ al.nf = al.cfg.nf ∧ al.idle = al.cfg.idle :=
  ⟨fun h => ⟨h.l_some, h.l_none⟩, fun h => ⟨h.live, h.absent⟩⟩

theorem linv_init : LInv init := by
  constructor <;> intros <;> simp_all [init, FMap.empty]

theorem addOrUpdateListener_cases (s : State) (lc0 : ListenerCfg) :
    ((lc0.chains ≠ 1 ∨ lc0.tlsOk = false ∨ ∃ al, s.listeners (effName lc0) = some al ∧ al.cfg.addr ≠ lc0.addr) ∧
      addOrUpdateListener s lc0 = (s, false)) ∨
    (∃ al, lc0.chains = 1 ∧ s.listeners (effName lc0) = some al ∧ al.cfg.addr = lc0.addr ∧ lc0.tlsOk = true ∧
      addOrUpdateListener s lc0 =
        ({ s with listeners := s.listeners.set (effName lc0)
                    ⟨{ al.cfg with sf := lc0.sf, nf := lc0.nf, tlsOk := lc0.tlsOk, idle := lc0.idle }, lc0.sf, lc0.nf, lc0.idle⟩,
                  lstore := s.lstore.set al.cfg.name { al.cfg with sf := lc0.sf, nf := lc0.nf, tlsOk := lc0.tlsOk, idle := lc0.idle } }, true)) ∨
    (lc0.chains = 1 ∧ s.listeners (effName lc0) = none ∧ lc0.tlsOk = true ∧
      addOrUpdateListener s lc0 =
        ({ s with listeners := s.listeners.set (effName lc0) ⟨{ lc0 with name := effName lc0 }, lc0.sf, lc0.nf, lc0.idle⟩,
                  lstore := s.lstore.set (effName lc0) { lc0 with name := effName lc0 } }, true)) := by
  by_cases hc : lc0.chains = 1
  · cases ht : lc0.tlsOk with
    | false =>
      refine .inl ⟨.inr (.inl rfl), ?_⟩
      simp only [addOrUpdateListener, hc, ht, gen_late, ne_eq, not_true_eq_false, if_false, if_true, Bool.not_false, Bool.or_true]
      split <;> rfl
    | true =>
      cases hl : s.listeners (effName lc0) with
      | none => exact .inr (.inr ⟨hc, rfl, rfl, by simp [addOrUpdateListener, hc, hl, ht, recordListener, gen_lrec]⟩)
      | some al =>
        by_cases ha : al.cfg.addr = lc0.addr
        · exact .inr (.inl ⟨al, hc, rfl, ha, rfl,
            by simp [addOrUpdateListener, hc, hl, ha, ht, gen_idleCfg, gen_idleLive, recordListener, gen_lrec]⟩)
        · exact .inl ⟨.inr (.inr ⟨al, rfl, ha⟩), by simp [addOrUpdateListener, hc, hl, ha, gen_late]⟩
  · exact .inl ⟨.inl hc, by simp [addOrUpdateListener, hc]⟩

theorem linv_addOrUpdateListener {s : State} (hL : LInv s) (lc0 : ListenerCfg) : LInv (addOrUpdateListener s lc0).1 := by
  rcases addOrUpdateListener_cases s lc0 with ⟨_, h⟩ | ⟨al, hc, hl, ha, ht, h⟩ | ⟨hc, hl, ht, h⟩ <;> rw [h]
  · exact hL
  · obtain ⟨h1, h2, h3, h4, h5, h6, h7, h8⟩ := hL.l_some _ al hl
    rw [h2]
    exact linv_iff.mpr ((linv_iff.mp hL).set ⟨rfl, h2, by simpa [effName, h2] using h3, h4, ht, rfl, rfl, rfl⟩)
  · exact linv_iff.mpr ((linv_iff.mp hL).set ⟨rfl, rfl, effName_eff lc0, hc, ht, rfl, rfl, rfl⟩)

theorem deleteListener_eq (s : State) (name : String) :
    (s.listeners name = none ∧ deleteListener s name = (s, true)) ∨
    (∃ al, s.listeners name = some al ∧
      deleteListener s name = ({ s with listeners := s.listeners.del name, lstore := s.lstore.del name }, true)) := by
  cases h : s.listeners name with
  | none => left; exact ⟨rfl, by simp [deleteListener, h]⟩
  | some al => right; exact ⟨al, rfl, by simp [deleteListener, h, gen_lrem]⟩

theorem linv_deleteListener {s : State} (hL : LInv s) (name : String) : LInv (deleteListener s name).1 := by
  rcases deleteListener_eq s name with ⟨_, h⟩ | ⟨al, _, h⟩
  · rw [h]; exact hL
  · rw [h]
    exact linv_iff.mpr ((linv_iff.mp hL).del name)

/-! ## the three sides of the state

Every operation works on one side of the state: the routers (`wrappers`, `rstore`, `rpath`), the clusters (`clusters`,
`cstore`) or the listeners (`listeners`, `lstore`). Each invariant reads one side (`Inv`: two), so an operation of another side
preserves it for that reason alone. -/

inductive Side
  | routers | clusters | listeners
  deriving DecidableEq

def side : Op → Side
  | .addOrUpdateRouters _ | .addRoute _ _ _ | .removeAllRoutes _ _ => .routers
  | .addOrUpdateListener _ | .deleteListener _ => .listeners
  | _ => .clusters

abbrev RouterSide (s s' : State) : Prop := s' = { s with wrappers := s'.wrappers, rstore := s'.rstore, rpath := s'.rpath }
abbrev ClusterSide (s s' : State) : Prop := s' = { s with clusters := s'.clusters, cstore := s'.cstore }
abbrev ListenerSide (s s' : State) : Prop := s' = { s with listeners := s'.listeners, lstore := s'.lstore }

theorem ClusterSide.trans {a b c : State} (h1 : ClusterSide a b) (h2 : ClusterSide b c) : ClusterSide a c :=
  Eq.trans h2 (by rw [h1])

theorem step_router (o : Oracle) (s : State) (op : Op) (h : side op = .routers) :
    (step o s op).1 = s ∨
    ∃ n t cfg, step o s op = (recordRouter true { s with wrappers := s.wrappers.set n ⟨t, cfg⟩ } cfg, true) ∧
      ((op = .addOrUpdateRouters cfg ∧ n = cfg.name ∧ t = build o cfg) ∨
       ∃ w vs, s.wrappers n = some w ∧ cfg = { w.cfg with vhosts := vs } ∧ (w.routers = build o w.cfg → t = build o cfg)) := by
  cases op with
  | addOrUpdateRouters cfg =>
    simp only [step, gen_recordsAddOrUpdate]
    split
    · split
      · exact .inl rfl
      · rename_i t ht
        exact .inr ⟨_, _, _, rfl, .inl ⟨rfl, rfl, ht.symm⟩⟩
    · exact .inr ⟨_, _, _, rfl, .inl ⟨rfl, rfl, rfl⟩⟩
  | addRoute rname domain r =>
    simp only [step, gen_addRoute]
    split
    · exact .inl rfl
    · rename_i w hw
      split
      · exact .inl rfl
      · rename_i t ht
        split
        · exact .inl rfl
        · rename_i i t' ha
          exact .inr ⟨_, _, _, rfl, .inr ⟨w, _, hw, rfl, fun hb => (build_addRoute (hb.symm.trans ht) ha).symm⟩⟩
  | removeAllRoutes rname domain =>
    simp only [step, gen_removeAll]
    split
    · exact .inl rfl
    · rename_i w hw
      split
      · exact .inl rfl
      · rename_i t ht
        split
        · exact .inl rfl
        · rename_i i t' ha
          exact .inr ⟨_, _, _, rfl, .inr ⟨w, _, hw, rfl, fun hb => (build_removeAll (hb.symm.trans ht) ha).symm⟩⟩
  | _ => cases h

theorem refreshHosts_side {s0 : State} (b : Bool) {s : State} (n : String) (h : List Host) (h0 : ClusterSide s0 s) :
    ClusterSide s0 (refreshHosts b s n h) := by
  unfold refreshHosts
  split
  · split
    · exact h0.trans rfl
    · exact h0
  · exact h0

@[simp] theorem refreshHosts_clusters (b : Bool) (s : State) (n : String) (h : List Host) :
    (refreshHosts b s n h).clusters = s.clusters := by
  unfold refreshHosts
  split
  · split <;> rfl
  · rfl

@[simp] theorem refreshHosts_rstore (b : Bool) (s : State) (n : String) (h : List Host) :
    (refreshHosts b s n h).rstore = s.rstore :=
  (congrArg State.rstore (refreshHosts_side b n h (rfl : ClusterSide s s)) :)

theorem updateHosts_side {s0 s : State} (c : String) (f : List Host → List Host) (h0 : ClusterSide s0 s) :
    ClusterSide s0 (updateHosts s c f).1 := by
  unfold updateHosts
  split
  · exact h0
  · dsimp only
    apply refreshHosts_side
    exact h0.trans rfl

theorem removeCluster_side {s0 : State} (s : State) (name : String) (h0 : ClusterSide s0 s) :
    ClusterSide s0 (removeCluster s name) := by
  unfold removeCluster
  split
  · exact h0
  · exact h0.trans rfl

theorem step_clusterSide (o : Oracle) (s : State) (op : Op) (h : side op = .clusters) : ClusterSide s (step o s op).1 := by
  cases op with
  | addOrUpdateCluster | addOrUpdateClusterAndHost => simp only [step, updateCluster_eq]
  | updateHosts | appendHosts | removeHosts => exact updateHosts_side _ _ rfl
  | removeClusters names =>
    simp only [step]
    split
    · exact Lemmas.Fold.foldl_inv removeCluster_side names s rfl
    · rfl
  | xdsEndpoints as =>
    refine Lemmas.Fold.foldl_inv (P := fun acc : State × Bool => ClusterSide s acc.1) (fun acc a h => ?_) as (s, true) rfl
    simp only [xdsAssign_eq]
    exact updateHosts_side _ _ h
  | routersNil | addClusterNil => rfl
  | _ => cases h

theorem step_routerSide (o : Oracle) (s : State) (op : Op) (h : side op = .routers) : RouterSide s (step o s op).1 := by
  rcases step_router o s op h with e | ⟨n, t, cfg, e, _⟩ <;> rw [e]
  simp only [recordRouter, if_true]

theorem step_listenerSide (o : Oracle) (s : State) (op : Op) (h : side op = .listeners) : ListenerSide s (step o s op).1 := by
  cases op with
  | addOrUpdateListener lc =>
    rcases addOrUpdateListener_cases s lc with ⟨_, e⟩ | ⟨al, _, _, _, _, e⟩ | ⟨_, _, _, e⟩ <;> simp only [step, e]
  | deleteListener n => rcases deleteListener_eq s n with ⟨_, e⟩ | ⟨al, _, e⟩ <;> simp only [step, e]
  | _ => cases h

theorem inv_step {o : Oracle} {s : State} (hI : Inv o s) (op : Op) : Inv o (step o s op).1 := by
  cases hs : side op with
  | routers =>
    rcases step_router o s op hs with e | ⟨n, t, cfg, e, hc⟩ <;> rw [e]
    · exact hI
    · rcases hc with ⟨_, rfl, rfl⟩ | ⟨w, vs, hw, rfl, ht⟩
      · exact inv_setRouter hI cfg _ rfl
      · obtain ⟨rfl, _, hb⟩ := hI.r_some n w hw
        exact inv_setRouter hI { w.cfg with vhosts := vs } t (ht hb)
  | listeners =>
    rw [step_listenerSide o s op hs]
    exact { hI with }
  | clusters =>
    cases op with
    | addOrUpdateCluster name tag cfgHosts =>
      apply inv_updateCluster hI
      cases hc : s.clusters name with
      | none => simp [inheritHosts]
      | some oc => simpa [inheritHosts] using (hI.c_some name oc hc).2
    | addOrUpdateClusterAndHost name tag cfgHosts hosts => exact inv_updateCluster hI _ _ _ _ (replaceHosts_nodup _ _)
    | updateHosts name hosts => exact inv_updateHosts hI _ _ (replaceHosts_nodup _)
    | appendHosts name hosts => exact inv_updateHosts hI _ _ (appendHosts_nodup _)
    | removeHosts name addrs => exact inv_updateHosts hI _ _ (removeHosts_nodup _)
    | removeClusters names =>
      simp only [step]
      split
      · exact Lemmas.Fold.foldl_inv inv_removeCluster names s hI
      · exact hI
    | xdsEndpoints assignments =>
      exact Lemmas.Fold.foldl_inv (P := fun acc : State × Bool => Inv o acc.1) (fun _ a h => inv_xdsAssign h a.1 a.2)
        assignments (s, true) hI
    | routersNil | addClusterNil => exact hI
    | _ => cases hs

theorem inv_runFrom {o : Oracle} (ops : List Op) {s : State} (hI : Inv o s) : Inv o (runFrom o s ops) :=
  Lemmas.Fold.foldl_inv (P := Inv o) (fun _ op h => inv_step h op) ops s hI

theorem inv_run (o : Oracle) (ops : List Op) : Inv o (run o ops) := inv_runFrom ops (inv_init o)

theorem run_append (o : Oracle) (ops : List Op) (op : Op) : run o (ops ++ [op]) = (step o (run o ops) op).1 := by
  simp [run, List.foldl_append]

theorem linv_step (o : Oracle) {s : State} (hL : LInv s) (op : Op) : LInv (step o s op).1 := by
  cases hs : side op with
  | routers =>
    rw [step_routerSide o s op hs]
    exact { hL with }
  | clusters =>
    rw [step_clusterSide o s op hs]
    exact { hL with }
  | listeners =>
    cases op with
    | addOrUpdateListener lc => exact linv_addOrUpdateListener hL lc
    | deleteListener n => exact linv_deleteListener hL n
    | _ => cases hs

theorem linv_runFrom (o : Oracle) (ops : List Op) {s : State} (hL : LInv s) : LInv (runFrom o s ops) :=
  Lemmas.Fold.foldl_inv (P := LInv) (fun _ op h => linv_step o h op) ops s hL

theorem linv_run (o : Oracle) (ops : List Op) : LInv (run o ops) := linv_runFrom o ops linv_init

theorem updateHosts_none {s : State} {c : String} (f : List Host → List Host) (h : s.clusters c = none) :
    updateHosts s c f = (s, false) := by
  simp [updateHosts, h]

theorem updateHosts_some {s : State} {c : String} {lc : LiveCluster} (f : List Host → List Host) (h : s.clusters c = some lc) :
    (updateHosts s c f).2 = true ∧ (updateHosts s c f).1.clusters c = some ⟨lc.tag, f lc.hosts⟩ ∧
    ∀ n, n ≠ c → (updateHosts s c f).1.clusters n = s.clusters n := by
  simp only [updateHosts, h, refreshHosts_clusters, FMap.set_same, true_and]
  intro n hn
  exact FMap.set_other _ _ hn

theorem updateHosts_ok {s : State} {c : String} {f : List Host → List Host} (h : (updateHosts s c f).2 = true) :
    ∃ lc, s.clusters c = some lc := by
  cases hc : s.clusters c with
  | none => rw [updateHosts_none f hc] at h; cases h
  | some lc => exact ⟨lc, rfl⟩

theorem updateHosts_failed {s : State} {c : String} {f : List Host → List Host} (h : (updateHosts s c f).2 = false) :
    (updateHosts s c f).1 = s := by
  cases hc : s.clusters c with
  | none => rw [updateHosts_none f hc]
  | some lc => rw [(updateHosts_some f hc).1] at h; cases h

theorem removeCluster_none {n : String} (s : State) (m : String) (h : s.clusters n = none) :
    (removeCluster s m).clusters n = none := by
  unfold removeCluster
  split
  · exact h
  · by_cases e : n = m
    · subst e; simp
    · simp only [FMap.del_other _ e]; exact h

theorem removeCluster_self (s : State) (n : String) : (removeCluster s n).clusters n = none := by
  unfold removeCluster
  split
  · assumption
  · simp

theorem foldl_removeCluster_none (names : List String) {s : State} {n : String} (h : s.clusters n = none) :
    (names.foldl removeCluster s).clusters n = none :=
  Lemmas.Fold.foldl_inv removeCluster_none names s h

theorem foldl_removeCluster_gone (names : List String) (s : State) {n : String} (hn : n ∈ names) :
    (names.foldl removeCluster s).clusters n = none := by
  obtain ⟨a, b, rfl⟩ := List.append_of_mem hn
  rw [List.foldl_append, List.foldl_cons]
  exact foldl_removeCluster_none b (removeCluster_self _ n)

theorem updateHosts_keeps_absent {s : State} {n : String} (c : String) (f : List Host → List Host)
    (h : s.clusters n = none) : (updateHosts s c f).1.clusters n = none := by
  cases hc : s.clusters c with
  | none => rw [updateHosts_none f hc]; exact h
  | some lc =>
    obtain ⟨_, h2, h3⟩ := updateHosts_some f hc
    by_cases e : n = c
    · subst e; rw [h] at hc; cases hc
    · rw [h3 n e]; exact h

theorem step_keeps_absent (o : Oracle) {s : State} {n : String} (op : Op) (h : s.clusters n = none)
    (hno : addsCluster n op = false) : (step o s op).1.clusters n = none := by
  cases hs : side op with
  | routers => rw [step_routerSide o s op hs]; exact h
  | listeners => rw [step_listenerSide o s op hs]; exact h
  | clusters =>
    cases op with
    | addOrUpdateCluster m | addOrUpdateClusterAndHost m =>
      have e : n ≠ m := by
        intro e; subst e; simp [addsCluster] at hno
      simp only [step, updateCluster_eq, FMap.set_other _ _ e]
      exact h
    | updateHosts | appendHosts | removeHosts => exact updateHosts_keeps_absent _ _ h
    | removeClusters names =>
      simp only [step]
      split
      · exact foldl_removeCluster_none names h
      · exact h
    | xdsEndpoints as =>
      refine Lemmas.Fold.foldl_inv (P := fun acc : State × Bool => acc.1.clusters n = none) (fun acc a h => ?_) as (s, true) h
      simp only [xdsAssign_eq]
      exact updateHosts_keeps_absent _ _ h
    | routersNil | addClusterNil => exact h
    | _ => cases hs

theorem runFrom_keeps_absent (o : Oracle) (ops : List Op) {s : State} {n : String} (h : s.clusters n = none)
    (hno : ∀ op ∈ ops, addsCluster n op = false) : (runFrom o s ops).clusters n = none :=
  Lemmas.Fold.foldl_inv_mem (P := fun s => s.clusters n = none) ops (fun _ op hm h => step_keeps_absent o op h (hno op hm)) s h

theorem filter_beq_length_one {l : List String} (hnd : l.Nodup) {a : String} (ha : a ∈ l) :
    (l.filter (· == a)).length = 1 := by
  have h1 := List.nodup_iff_count.mp hnd a
  have h2 := List.count_pos_iff.mpr ha
  rw [List.count_eq_length_filter] at h1 h2
  omega

theorem isAddrSet_dedup (l : List Host) : Spec.isAddrSet (dedup l) (Spec.addrs l) = true := by
  unfold Spec.isAddrSet Spec.addrs
  simp only [Bool.and_eq_true, List.all_eq_true, List.contains_iff_mem, beq_iff_eq]
  refine ⟨⟨?_, ?_⟩, ?_⟩
  · intro a ha
    obtain ⟨h, hm, rfl⟩ := List.mem_map.mp ha
    exact List.mem_map_of_mem (mem_dedup hm)
  · intro a ha
    exact addr_mem_dedup ha
  · intro a ha
    exact filter_beq_length_one (dedup_nodup l) ha

theorem convHost_addrs (locs : List (List XHost)) :
    Spec.addrs ((locs.map (·.map convHost)).flatten) = locs.flatten.map (·.addr) := by
  simp [Spec.addrs, List.map_flatten, Function.comp_def, convHost]

theorem zip_map_lookup {α} (f : String → α) (names : List String) {n : String} (hn : n ∈ names) :
    (names.zip (names.map f)).lookup n = some (f n) := by
  induction names with
  | nil => cases hn
  | cons m r ih =>
    simp only [List.map_cons, List.zip_cons_cons, List.lookup_cons]
    cases e : n == m with
    | true => rw [beq_iff_eq.mp e]
    | false => exact ih ((List.mem_cons.mp hn).resolve_left (by simpa using e))

theorem clampHost_eq_eff (h : Host) : clampHost h = { h with weight := Spec.effWeight h.weight } := by
  unfold clampHost Spec.effWeight Gen.Updates.transHostWeight Gen.Updates.maxHostWeight Gen.Updates.minHostWeight
  congr 1
  by_cases h1 : h.weight < 1
  · have : h.weight = 0 := by omega
    simp [this]
  · by_cases h2 : h.weight > 128
    · have e1 : ((h.weight : Int) > 128) := by omega
      simp [h1, h2, e1]
    · have e1 : ¬ ((h.weight : Int) > 128) := by omega
      have e2 : ¬ ((h.weight : Int) < 1) := by omega
      simp [h1, h2, e1, e2]

theorem normalize_eq_eff (lc : LiveCluster) : normalize lc = Spec.effCluster lc := by
  unfold normalize Spec.effCluster
  congr 1
  apply List.map_congr_left
  intro h _
  exact clampHost_eq_eff h

theorem listeners_coherent {s : State} (hL : LInv s) (n : String) : s.listeners n = rebuildListeners (dump s) n := by
  simp only [rebuildListeners, dump]
  cases hl : s.listeners n with
  | none => simp [hL.l_none n hl]
  | some al =>
    obtain ⟨h1, h2, h3, h4, h5, h6, h7, h8⟩ := hL.l_some n al hl
    -- the rebuilt listener carries the stored configuration under the name it already has
    rw [h1, Option.bind_some, buildListener, if_neg (fun h => h h4), if_neg (by simp [h5]), h3, ← h2]
    cases al
    simp only at h6 h7 h8
    subst h6 h7 h8
    rfl

/-- in a state with the invariant the live route tables are those `NewRouters` builds from the dumped configuration -/
theorem routers_coherent {o : Oracle} {s : State} (hI : Inv o s) : liveRouters s = rebuildRouters o (dump s) := by
  funext n
  simp only [liveRouters, rebuildRouters, dump, dumpRouter]
  cases hw : s.wrappers n with
  | none => simp [hI.r_none n hw]
  | some w =>
    obtain ⟨_, hs, hb⟩ := hI.r_some n w hw
    simp [hs, hb]

/-- … and the live clusters, read through the weight clamp, are those a fresh start builds from the dumped clusters -/
theorem clusters_coherent {o : Oracle} {s : State} (hI : Inv o s) : liveClusters s = rebuildClusters (dump s) := by
  funext n
  simp only [liveClusters, rebuildClusters, dump]
  cases hc : s.clusters n with
  | none => simp [hI.c_none n hc]
  | some lc =>
    obtain ⟨hs, hnd⟩ := hI.c_some n lc hc
    simp only [hs, Option.map_some, normalize, buildCluster, Option.some.injEq, LiveCluster.mk.injEq, true_and]
    exact (dedup_id _ (by rw [map_clamp_addr]; exact hnd)).symm

theorem spec_coherent_on_model (o : Oracle) (ops : List Op) (rnames cnames lnames : List String) (res : List Bool) :
    Spec.coherent (observe o rnames cnames lnames res (run o ops)) = true := by
  unfold Spec.coherent observe
  simp only [Bool.and_eq_true, beq_iff_eq, routers_coherent (inv_run o ops), List.map_map, true_and]
  constructor
  · apply List.map_congr_left
    intro n _
    rw [← (funext normalize_eq_eff : normalize = Spec.effCluster)]
    exact congrFun (clusters_coherent (inv_run o ops)) n
  · apply List.map_congr_left
    intro n _
    exact listeners_coherent (linv_run o ops) n

/-- the post-condition of an operation reads the observed clusters and listeners only at the names the operation mentions -/
theorem lastOp_congr {op : Op} {ok : Bool} {look look' : String → Option LiveCluster}
    {lookL lookL' : String → Option LiveListener} (h : ∀ n ∈ clusterNames op, look n = look' n)
    (hL : ∀ n ∈ listenerNames op, lookL n = lookL' n) : Spec.lastOp op ok look lookL = Spec.lastOp op ok look' lookL' := by
  unfold Spec.lastOp
  cases op with
  | removeClusters names =>
    have h' : ∀ n ∈ names, look n = look' n := h
    simp +contextual only [List.all_eq, h']
  | removeHosts c | updateHosts c | addOrUpdateClusterAndHost c | addOrUpdateCluster c => simp only [h c List.mem_cons_self]
  | xdsEndpoints as =>
    match as with
    | [] | _ :: _ :: _ => rfl
    | [(c, locs)] => simp only [h c List.mem_cons_self]
  | deleteListener n => simp only [hL n List.mem_cons_self]
  | addOrUpdateListener lc =>
    simp only [show lookL (if lc.name.isEmpty then lc.addr else lc.name) = _ from hL _ List.mem_cons_self]
  | _ => rfl

/-- the post-condition of every operation holds of the state it leaves (from a coherent state) -/
theorem lastOp_step (o : Oracle) (s : State) (hI : Inv o s) (op : Op) :
    Spec.lastOp op (step o s op).2 (step o s op).1.clusters (step o s op).1.listeners = true := by
  unfold Spec.lastOp
  cases hok : (step o s op).2 with
  | false => rfl
  | true =>
    simp only [Bool.not_true, Bool.false_eq_true, if_false]
    cases op with
    | addOrUpdateCluster c tag cfgHosts => simp only [step, updateCluster_eq, FMap.set_same, beq_self_eq_true]
    | addOrUpdateClusterAndHost c tag cfgHosts hosts =>
      simp only [step, updateCluster_eq, FMap.set_same, beq_self_eq_true, Bool.true_and, replaceHosts]
      exact isAddrSet_dedup hosts
    | updateHosts c hs =>
      obtain ⟨lc, hc⟩ := updateHosts_ok (f := replaceHosts hs) hok
      simp only [step, (updateHosts_some (replaceHosts hs) hc).2.1, replaceHosts]
      exact isAddrSet_dedup hs
    | removeHosts c as =>
      obtain ⟨lc, hc⟩ := updateHosts_ok (f := removeHosts as) hok
      simp only [step, (updateHosts_some (removeHosts as) hc).2.1]
      rw [removeHosts_eq as lc.hosts (hI.c_some c lc hc).2]
      simp only [Spec.addrs, List.all_eq_true, List.mem_map, Bool.not_eq_true', forall_exists_index, and_imp]
      intro a h hm e
      subst e
      simpa using (List.mem_filter.mp hm).2
    | removeClusters names =>
      simp only [List.all_eq_true]
      intro n hn
      simp only [step] at hok ⊢
      split
      · simp [foldl_removeCluster_gone names s hn]
      · rename_i h; simp [h] at hok
    | xdsEndpoints as =>
      match as with
      | [] | _ :: _ :: _ => rfl
      | [(c, locs)] =>
        rw [step_xdsEndpoints_one] at hok ⊢
        obtain ⟨lc, hc⟩ := updateHosts_ok hok
        simp only [(updateHosts_some _ hc).2.1, replaceHosts]
        rw [← convHost_addrs]
        exact isAddrSet_dedup _
    | deleteListener n =>
      simp only [step]
      rcases deleteListener_eq s n with ⟨h0, e⟩ | ⟨al, _, e⟩
      · rw [e]; simp [h0]
      · rw [e]; simp
    | addOrUpdateListener lc =>
      simp only [step] at hok ⊢
      rcases addOrUpdateListener_cases s lc with ⟨_, e⟩ | ⟨al, _, hl, ha, _, e⟩ | ⟨_, _, _, e⟩
      · rw [e] at hok; cases hok
      · rw [e]; simp [effName, ha]
      · rw [e]; simp [effName]
    | _ => rfl

theorem spec_lastOp_on_model (o : Oracle) (s : State) (hI : Inv o s) (op : Op)
    (rnames cnames lnames : List String) (res : List Bool)
    (hcov : ∀ n ∈ clusterNames op, n ∈ cnames) (hcovL : ∀ n ∈ listenerNames op, n ∈ lnames) :
    Spec.lastOp op (step o s op).2
      (fun n => ((cnames.zip (observe o rnames cnames lnames res (step o s op).1).liveC).lookup n).join)
      (fun n => ((lnames.zip (observe o rnames cnames lnames res (step o s op).1).liveL).lookup n).join) = true :=
  (lastOp_congr (fun n hn => congrArg Option.join (zip_map_lookup _ cnames (hcov n hn)))
    (fun n hn => congrArg Option.join (zip_map_lookup _ lnames (hcovL n hn)))).trans (lastOp_step o s hI op)

/-! ## exact coherence when every supplied weight is inside the configured bounds -/

/-- a weight inside the regenerated bounds `[MinHostWeight, MaxHostWeight]` -/
def inRange (w : Nat) : Prop := Gen.Updates.minHostWeight ≤ (w : Int) ∧ (w : Int) ≤ Gen.Updates.maxHostWeight

def hostsOk (l : List Host) : Prop := ∀ h ∈ l, inRange h.weight

theorem clampHost_id {h : Host} (hr : inRange h.weight) : clampHost h = h := by
  obtain ⟨h1, h2⟩ := hr
  unfold clampHost Gen.Updates.transHostWeight
  have e1 : ¬ ((h.weight : Int) > Gen.Updates.maxHostWeight) := by omega
  have e2 : ¬ ((h.weight : Int) < Gen.Updates.minHostWeight) := by omega
  simp [e1, e2]

/-- the xDS endpoint clamp lands inside the bounds the fresh-start clamp preserves (the two code sites agree) -/
theorem xds_inRange (w : Nat) : inRange (Gen.Updates.xdsEndpointWeight (w : Int)).toNat := by
  unfold inRange Gen.Updates.xdsEndpointWeight Gen.Updates.minHostWeight Gen.Updates.maxHostWeight
  by_cases h1 : (w : Int) < 1
  · simp [h1]
  · by_cases h2 : (w : Int) > 128
    · simp [h1, h2]
    · simp only [h1, h2, decide_false, Bool.false_eq_true, if_false]
      omega

theorem map_clamp_id {l : List Host} (h : hostsOk l) : l.map clampHost = l :=
  (List.map_congr_left fun x hx => clampHost_id (h x hx)).trans (List.map_id' l)

theorem hostsOk_replace {hs : List Host} (h : hostsOk hs) (old : List Host) : hostsOk (replaceHosts hs old) :=
  fun x hx => h x (mem_dedup hx)

theorem hostsOk_append {hs old : List Host} (h : hostsOk hs) (ho : hostsOk old) : hostsOk (appendHosts hs old) :=
  fun x hx => (List.mem_append.mp (mem_dedup hx)).elim (h x) (ho x)

theorem hostsOk_remove (addrs : List String) {old : List Host} (ho : hostsOk old) : hostsOk (removeHosts addrs old) := by
  intro x hx
  rw [removeHosts_unfold] at hx
  exact ho x ((sortByAddr_perm old).mem_iff.mp ((foldl_removeSorted_sublist addrs _).subset (mem_dedup hx)))

def WInv (s : State) : Prop := s.clusters.All fun _ lc => hostsOk lc.hosts

theorem winv_init : WInv init := by
  intro n lc h; simp [init, FMap.empty] at h

theorem winv_updateHosts {s : State} (hW : WInv s) (c : String) (f : List Host → List Host)
    (hf : ∀ old, hostsOk old → hostsOk (f old)) : WInv (updateHosts s c f).1 := by
  unfold updateHosts
  split
  · exact hW
  · rename_i lc hc
    simp only [WInv, refreshHosts_clusters]
    exact hW.set (hf _ (hW c lc hc))

theorem winv_updateCluster {s : State} (hW : WInv s) (name : String) (tag : Nat) (cfgHosts : List Host)
    (handler : Option LiveCluster → List Host) (hh : hostsOk (handler (s.clusters name))) :
    WInv (updateCluster s name tag cfgHosts handler).1 := by
  rw [WInv, updateCluster_eq]
  exact hW.set hh

theorem winv_removeCluster (s : State) (name : String) (hW : WInv s) : WInv (removeCluster s name) := by
  unfold removeCluster
  split
  · exact hW
  · exact hW.del name

/-- the hosts an operation supplies at run time have weights inside the bounds (xDS endpoints: carry a weight at all) -/
def opOk : Op → Prop
  | .addOrUpdateClusterAndHost _ _ _ hosts => hostsOk hosts
  | .updateHosts _ hosts => hostsOk hosts
  | .appendHosts _ hosts => hostsOk hosts
  | .xdsEndpoints as => ∀ a ∈ as, ∀ loc ∈ a.2, ∀ x ∈ loc, x.lbWeight.isSome
  | _ => True

theorem hostsOk_conv {locs : List (List XHost)} (h : ∀ loc ∈ locs, ∀ x ∈ loc, x.lbWeight.isSome) :
    hostsOk ((locs.map (·.map convHost)).flatten) := by
  intro y hy
  simp only [List.mem_flatten, List.mem_map] at hy
  obtain ⟨l, ⟨loc, hl, rfl⟩, hh⟩ := hy
  obtain ⟨x, hx, rfl⟩ := List.mem_map.mp hh
  have := h loc hl x hx
  cases hw : x.lbWeight with
  | none => simp [hw] at this
  | some w => simp only [convHost, hw]; exact xds_inRange w

theorem winv_step (o : Oracle) {s : State} (hW : WInv s) (op : Op) (hop : opOk op) : WInv (step o s op).1 := by
  cases hs : side op with
  | routers => rw [step_routerSide o s op hs]; exact hW
  | listeners => rw [step_listenerSide o s op hs]; exact hW
  | clusters =>
    cases op with
    | addOrUpdateCluster m tag cfgHosts =>
      apply winv_updateCluster hW
      cases hc : s.clusters m with
      | none => intro x hx; simp [inheritHosts] at hx
      | some oc => exact hW m oc hc
    | addOrUpdateClusterAndHost m tag cfgHosts hosts => exact winv_updateCluster hW _ _ _ _ (hostsOk_replace hop [])
    | updateHosts c hs => exact winv_updateHosts hW _ _ (fun old _ => hostsOk_replace hop old)
    | appendHosts c hs => exact winv_updateHosts hW _ _ (fun old ho => hostsOk_append hop ho)
    | removeHosts c as => exact winv_updateHosts hW _ _ (fun old ho => hostsOk_remove as ho)
    | removeClusters names =>
      simp only [step]
      split
      · exact Lemmas.Fold.foldl_inv winv_removeCluster names s hW
      · exact hW
    | xdsEndpoints as =>
      refine Lemmas.Fold.foldl_inv_mem (P := fun acc : State × Bool => WInv acc.1) as (fun acc a ha h => ?_) (s, true) hW
      simp only [xdsAssign_eq]
      exact winv_updateHosts h _ _ (fun old _ => hostsOk_replace (hostsOk_conv (hop a ha)) old)
    | routersNil | addClusterNil => exact hW
    | _ => cases hs

theorem winv_run (o : Oracle) (ops : List Op) (hops : ∀ op ∈ ops, opOk op) : WInv (run o ops) :=
  Lemmas.Fold.foldl_inv_mem (P := WInv) ops (fun _ op hm h => winv_step o h op (hops op hm)) init winv_init

end MosnVerif.Model.Updates
