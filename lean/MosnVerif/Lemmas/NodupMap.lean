/-! A list whose keys are distinct holds at most one element per key. Core Lean only; no model is imported. -/
namespace MosnVerif.Lemmas.NodupMap

theorem eq_of_nodup_map {α β : Type} {f : α → β} {l : List α} (hnd : (l.map f).Nodup) {a b : α} (ha : a ∈ l)
    (hb : b ∈ l) (h : f a = f b) : a = b := by
  have hp : l.Pairwise (fun a b => f a = f b → a = b) :=
    (List.pairwise_map.mp hnd).imp fun hne heq => absurd heq hne
  exact hp.forall_of_forall_of_flip (fun _ _ _ => rfl) (hp.imp fun h heq => (h heq.symm).symm) ha hb h

end MosnVerif.Lemmas.NodupMap
