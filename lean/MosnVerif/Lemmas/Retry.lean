import MosnVerif.Model.Retry
import MosnVerif.Lemmas.Fold
/-! Lemmas about the attempt machine (`Model/Retry.lean`): the regenerated retry decision equals the declarative `retryable`,
the budget computation equals `max 3 num_retries`, and one invariant (`Good`) preserved by every step. -/
namespace MosnVerif.Model.Retry
open MosnVerif.Gen.RetryState MosnVerif.Gen.RouteAction

theorem initialBudget_eq (n : Nat) : initialBudget (n : Int) = ((max 3 n : Nat) : Int) := by
  unfold initialBudget
  simp only [Nat.max_def]
  by_cases h : (n : Int) > 3
  · simp [h]; split <;> omega
  · simp [h]; split <;> omega

theorem any_codes (l : List Nat) (c : Nat) :
    (l.map Int.ofNat).any (fun it => decide ((c : Int) = it)) = l.contains c := by
  induction l with
  | nil => simp
  | cons a r ih =>
    simp only [List.map_cons, List.any_cons, ih, List.contains_cons]
    congr 1
    simp only [Int.ofNat_eq_natCast, Int.natCast_inj]
    rw [Bool.eq_iff_iff]; simp

theorem check_resp (p : Policy) (c : Nat) :
    doRetryCheck true p.disable p.retryOn false (c : Int) (codesInt p) "" = retryable p (.resp c) := by
  unfold doRetryCheck retryable codesInt
  simp only [any_codes]
  cases hd : p.disable <;> cases hr : p.retryOn <;> simp [streamOverflow, streamConnectionFailed, httpInternalServerError]
  cases hc : p.codes with
  | nil => simp; omega
  | cons a r => simp

/-- for an outcome other than a response the check gives the declarative condition WHATEVER the status variable holds
(this is what fails on /repo before fix 5e62086d0: the status of an earlier attempt was consulted) -/
theorem check_reset (p : Policy) (o : Outcome) (se : Bool) (code : Int) (ho : ∀ c, o ≠ .resp c) :
    doRetryCheck true p.disable p.retryOn se code (codesInt p) (reasonOf o) = retryable p o := by
  cases o with
  | resp c => exact absurd rfl (ho c)
  | _ =>
    unfold doRetryCheck retryable reasonOf
    cases hd : p.disable <;> cases hr : p.retryOn <;>
      simp [poolFailReason, streamOverflow, streamConnectionFailed, streamConnectionTermination, streamRemoteReset, streamLocalReset,
        upstreamPerTryTimeout, upstreamGlobalTimeout]

theorem shouldRetry_fst_iff (rem : Int) (chk cc : Bool) :
    retry (shouldRetry rem chk cc).1 = rcShouldRetry ↔ rem ≠ 0 ∧ chk = true ∧ cc = true := by
  unfold shouldRetry retry
  by_cases h0 : rem = 0 <;> cases chk <;> cases cc <;> simp [h0, rcNoRetry, rcShouldRetry, rcRetryOverflow]

theorem shouldRetry_snd (rem : Int) (chk cc : Bool) : (shouldRetry rem chk cc).2 = if rem = 0 then 0 else rem - 1 := by
  unfold shouldRetry
  by_cases h0 : rem = 0 <;> cases chk <;> cases cc <;> simp [h0]

theorem retryCall_snd (p : Policy) (s : St) (reason : String) (cc : Bool) :
    (retryCall p s reason cc).2 = if s.remaining = 0 then 0 else s.remaining - 1 := shouldRetry_snd _ _ _

theorem retryCall_snd_bounds (p : Policy) (s : St) (reason : String) (cc : Bool) :
    (0 ≤ s.remaining → 0 ≤ (retryCall p s reason cc).2) ∧ (retryCall p s reason cc).2 ≤ s.remaining := by
  rw [retryCall_snd]; split <;> omega

theorem scan_append (p : Policy) (c : Scan) (t1 t2 : List Ev) :
    scan p c (t1 ++ t2) = (scan p c t1).bind (fun c' => scan p c' t2) := by
  induction t1 generalizing c with
  | nil => simp [scan]
  | cons e r ih =>
    simp only [List.cons_append, scan]
    cases scanStep p c e with
    | none => simp
    | some c' => simpa using ih c'

theorem acc_snoc (p : Policy) (t : List Ev) (e : Ev) (c c' : Scan) (h : scan p scanInit t = some c) (he : scanStep p c e = some c') :
    scan p scanInit (t ++ [e]) = some c' := by
  rw [scan_append, h, Option.bind_some]
  simp only [scan, he]

section acceptor
variable {p : Policy} {c0 c c' : Scan} {e : Ev} {t : List Ev} {k x : Nat}

theorem scanStep_choose (h : scanStep p c (.choose k) = some c') : k = c.n ∧ c.permit = true ∧ c.dead = false := by
  simp only [scanStep, Option.ite_none_right_eq_some] at h
  exact ⟨h.1.1, h.1.2.1, h.1.2.2.1⟩

theorem scanStep_attempt (h : scanStep p c (.attempt k x) = some c') : k = c.n ∧ c.chosen = true := by
  simp only [scanStep, Option.ite_none_right_eq_some] at h
  exact h.1

theorem scanStep_some (h : scanStep p c e = some c') :
    c'.n = c.n + (if isAttempt e then 1 else 0) ∧ c'.dead = (c.dead || ends e) ∧
    (c'.permit = true → ∃ o, e = .outcome o ∧ retryable p o = true ∧ c.dead = false) ∧
    (c'.chosen = true → e = .choose c'.n ∧ c'.dead = false) := by
  cases e with
  | choose k =>
    simp only [scanStep, Option.ite_none_right_eq_some, Option.some.injEq] at h
    obtain ⟨⟨rfl, _, hd, _⟩, rfl⟩ := h
    simp [isAttempt, ends, hd]
  | attempt k x =>
    simp only [scanStep, Option.ite_none_right_eq_some, Option.some.injEq] at h
    obtain ⟨_, rfl⟩ := h
    simp [isAttempt, ends]
  | outcome o =>
    simp only [scanStep, Option.ite_none_left_eq_some, Option.some.injEq] at h
    obtain ⟨hc, rfl⟩ := h
    have : ends (.outcome o) = decide (o = .global) := by cases o <;> rfl
    simp [isAttempt, this, hc]
  | reply k => cases h; simp [isAttempt, ends]
  | stuck => cases h; simp [isAttempt, ends]

theorem scan_cons_some (h : scan p c0 (e :: t) = some c) : ∃ c', scanStep p c0 e = some c' ∧ scan p c' t = some c := by
  simp only [scan] at h
  cases hs : scanStep p c0 e with
  | none => rw [hs] at h; cases h
  | some c' => rw [hs] at h; exact ⟨c', rfl, h⟩

theorem scan_snoc_some (h : scan p c0 (t ++ [e]) = some c) : ∃ c', scan p c0 t = some c' ∧ scanStep p c' e = some c := by
  rw [scan_append] at h
  obtain ⟨c', h1, h2⟩ := Option.bind_eq_some_iff.mp h
  obtain ⟨c2, h3, h4⟩ := scan_cons_some h2
  cases h4
  exact ⟨c', h1, h3⟩

theorem attemptCount_cons (e : Ev) (t : List Ev) : attemptCount (e :: t) = (if isAttempt e then 1 else 0) + attemptCount t := by
  unfold attemptCount
  cases h : isAttempt e <;> simp [h, Nat.add_comm]

theorem scan_n (h : scan p c0 t = some c) : c.n = c0.n + attemptCount t := by
  induction t generalizing c0 with
  | nil => cases h; rfl
  | cons e t ih =>
    obtain ⟨c', h1, h2⟩ := scan_cons_some h
    rw [ih h2, (scanStep_some h1).1, attemptCount_cons, Nat.add_assoc]

theorem scan_alive (h : scan p c0 t = some c) (hd : c.dead = false) : c0.dead = false ∧ ∀ e ∈ t, ends e = false := by
  induction t generalizing c0 with
  | nil => cases h; exact ⟨hd, nofun⟩
  | cons e t ih =>
    obtain ⟨c', h1, h2⟩ := scan_cons_some h
    obtain ⟨h0, hall⟩ := ih h2
    rw [(scanStep_some h1).2.1, Bool.or_eq_false_iff] at h0
    exact ⟨h0.1, List.forall_mem_cons.mpr ⟨h0.2, hall⟩⟩

theorem scan_permit (h : scan p c0 t = some c) (hp : c.permit = true) :
    (t = [] ∧ c0.permit = true) ∨
      ∃ t' o c', t = t' ++ [.outcome o] ∧ retryable p o = true ∧ scan p c0 t' = some c' ∧ c'.dead = false := by
  rcases List.eq_nil_or_concat t with rfl | ⟨t', e, rfl⟩
  · cases h; exact Or.inl ⟨rfl, hp⟩
  · rw [List.concat_eq_append] at h ⊢
    obtain ⟨c', h1, h2⟩ := scan_snoc_some h
    obtain ⟨o, rfl, hr, hd⟩ := (scanStep_some h2).2.2.1 hp
    exact Or.inr ⟨t', o, c', rfl, hr, h1, hd⟩

theorem scan_chosen (h : scan p c0 t = some c) (hc : c.chosen = true) :
    (t = [] ∧ c0.chosen = true) ∨ (c.dead = false ∧ ∃ t', t = t' ++ [.choose c.n]) := by
  rcases List.eq_nil_or_concat t with rfl | ⟨t', e, rfl⟩
  · cases h; exact Or.inl ⟨rfl, hc⟩
  · rw [List.concat_eq_append] at h ⊢
    obtain ⟨c', _, h2⟩ := scan_snoc_some h
    obtain ⟨rfl, hd⟩ := (scanStep_some h2).2.2.2 hc
    exact Or.inr ⟨hd, t', rfl⟩

end acceptor

structure Good (p : Policy) (s : St) : Prop where
  rem_nonneg : 0 ≤ s.remaining
  bound : (s.attempts : Int) + s.remaining ≤ 1 + ((budget p : Nat) : Int)
  acc : ∃ c, scan p scanInit s.trace = some c ∧ c.n = s.attempts ∧ c.chosen = false ∧ (s.live = true → c.dead = false)

theorem Good.count {p : Policy} {s : St} (h : Good p s) : attemptCount s.trace = s.attempts := by
  obtain ⟨c, hc, hn, _⟩ := h.acc
  rw [← hn, scan_n hc]
  exact (Nat.zero_add _).symm

/-- `Good` with the acceptor's state `c` after the trace so far exposed; `chosen` and `dead` are left to the caller -/
structure Mid (p : Policy) (s : St) (c : Scan) : Prop where
  rem_nonneg : 0 ≤ s.remaining
  bound : (s.attempts : Int) + s.remaining ≤ 1 + ((budget p : Nat) : Int)
  acc : scan p scanInit s.trace = some c
  n : c.n = s.attempts

variable {p : Policy} {s : St} {c : Scan}

/-- `s'` is `s` closed by one final event (the worker is gone, or a reply went downstream); nothing else the invariants read
has changed -/
def Ends (s s' : St) : Prop :=
  ∃ e, (e = .stuck ∨ ∃ k, e = .reply k) ∧ s'.trace = s.trace ++ [e] ∧ s'.remaining = s.remaining ∧
    s'.attempts = s.attempts ∧ s'.live = false

theorem good_end {s' : St} (h : Mid p s c) (he : Ends s s') : Good p s' := by
  obtain ⟨e, he, ht, hr, ha, hl⟩ := he
  refine ⟨hr ▸ h.rem_nonneg, by rw [hr, ha]; exact h.bound,
    { c with dead := true, permit := false, chosen := false }, ?_, ha ▸ h.n, rfl, by simp [hl]⟩
  rw [ht]
  apply acc_snoc p _ _ _ _ h.acc
  rcases he with rfl | ⟨k, rfl⟩ <;> rfl

theorem hijack_ends (s : St) (code : Int) : Ends s (hijack s code) := by
  unfold hijack
  split
  · exact ⟨_, Or.inl rfl, rfl, rfl, rfl, rfl⟩
  · exact ⟨_, Or.inr ⟨_, rfl⟩, rfl, rfl, rfl, rfl⟩

theorem hijack_good (code : Int) (h : Mid p s c) : Good p (hijack s code) := good_end h (hijack_ends s code)

theorem doRetry_good (host : Option Nat) (h : Mid p s c) (h2 : (s.attempts : Int) + 1 + s.remaining ≤ 1 + ((budget p : Nat) : Int))
    (h6 : c.permit = true) (h7 : c.dead = false) (h8 : c.chosen = false) :
    Good p (doRetry s host) := by
  unfold doRetry
  split
  · exact good_end h ⟨_, Or.inl rfl, rfl, rfl, rfl, rfl⟩
  · have hch : scan p scanInit (s.trace ++ [Ev.choose s.attempts]) = some { c with chosen := true, permit := false } := by
      apply acc_snoc p _ _ _ _ h.acc; simp [scanStep, h.n, h6, h7, h8]
    cases host with
    | none => exact hijack_good _ ⟨h.rem_nonneg, h.bound, hch, h.n⟩
    | some x =>
      refine ⟨h.rem_nonneg, ?_, { c with n := c.n + 1, chosen := false, permit := false }, ?_, by simp [h.n], rfl, fun _ => h7⟩
      · show ((s.attempts + 1 : Nat) : Int) + s.remaining ≤ _; omega
      · apply acc_snoc p _ _ _ _ hch; simp [scanStep, h.n]

theorem retryCall_fst_iff (p : Policy) (s : St) (reason : String) (cc : Bool) :
    (retryCall p s reason cc).1 = rcShouldRetry ↔ s.remaining ≠ 0 ∧
      doRetryCheck true p.disable p.retryOn s.lastStatus.isNone (s.lastStatus.getD 0) (codesInt p) reason = true ∧ cc = true :=
  shouldRetry_fst_iff _ _ _

theorem retryable_ne_global (p : Policy) (o : Outcome) (h : retryable p o = true) : o ≠ .global := by
  rintro rfl; cases h

/-- so the guard of `onUpstreamReset` lets a retryable outcome through -/
theorem reasonOf_retryable (p : Policy) (o : Outcome) (h : retryable p o = true) : reasonOf o ≠ upstreamGlobalTimeout := by
  cases o with
  | resp c => show "" ≠ upstreamGlobalTimeout; decide
  | _ => first | cases h | decide

/-- the retry decision of `onUpstreamHeaders` / `onUpstreamReset` in declarative terms: a retry state exists, no response has
started (asked of a reset only), budget is left, the outcome is retryable under the policy and the `Retries` breaker admits -/
def Retries (p : Policy) (s : St) (l : Label) : Prop :=
  s.hasRS = true ∧ (isResp l.o = false → s.started = false) ∧ s.remaining ≠ 0 ∧ retryable p l.o = true ∧ l.canCreate = true

/-- how an attempt that is not retried ends: a response is forwarded, anything else is answered locally -/
def finish (s : St) (o : Outcome) : St :=
  match o with
  | .resp c => forward s c
  | _ => hijack s (convertReasonToCode (reasonOf o))

/-- an attempt that is not retried ends the exchange -/
theorem finish_ends (s : St) (o : Outcome) : Ends s (finish s o) := by
  unfold finish
  split
  · exact ⟨_, Or.inr ⟨_, rfl⟩, rfl, rfl, rfl, rfl⟩
  · exact hijack_ends s _

theorem finish_good (o : Outcome) (h : Mid p s c) : Good p (finish s o) := good_end h (finish_ends s o)

/-- **one step on an outstanding attempt**: the outcome is logged; then either the retry decision holds and `doRetry` runs with
one unit of budget used, or it does not and the attempt ends the exchange (the budget may still have been charged: `r`).
`st` = the status variable after the step. With `step_not_live` this is all `step` can do. -/
theorem step_live (p : Policy) (s : St) (l : Label) (hl : s.live = true) (hpt : l.o = .perTry → p.tryTimeout = true) :
    ∃ st,
      (Retries p s l ∧ step p s l =
        doRetry { s with trace := s.trace ++ [.outcome l.o], lastStatus := st, remaining := s.remaining - 1 } l.host) ∨
      (¬ Retries p s l ∧ ∃ r, (0 ≤ s.remaining → 0 ≤ r) ∧ r ≤ s.remaining ∧ step p s l =
        finish { s with trace := s.trace ++ [.outcome l.o], lastStatus := st, remaining := r } l.o) := by
  unfold step
  rw [if_neg (by simp [hl]), if_neg (fun h => by simp [hpt h.1] at h)]
  simp only
  split
  · next c ho =>
    refine ⟨some (c : Int), ?_⟩
    -- the regenerated guard and retry condition of `onUpstreamHeaders` say `Retries`
    have hR : Retries p s l ↔ headersGuard s.hasRS = true ∧
        headersRetryCond (retryCall p { s with trace := s.trace ++ [.outcome l.o], lastStatus := some (c : Int) } "" l.canCreate).1 = true := by
      simp only [headersGuard, headersRetryCond, setupRetryResult, Bool.and_true, decide_eq_true_eq, retryCall_fst_iff, Retries, ho,
        isResp, Bool.true_eq_false, false_imp_iff, true_and, ← check_resp p c]
      simp
    have hfin : ∀ x, finish x l.o = forward x c := fun x => by rw [ho]; rfl
    unfold stepResp
    simp only [hfin]
    by_cases hr : Retries p s l
    · rw [if_pos (hR.mp hr).1, if_pos (hR.mp hr).2, retryCall_snd, if_neg hr.2.2.1]
      exact Or.inl ⟨hr, rfl⟩
    · refine Or.inr ⟨hr, ?_⟩
      by_cases hg : headersGuard s.hasRS = true
      · rw [if_pos hg, if_neg (fun h => hr (hR.mpr ⟨hg, h⟩))]
        have hb := retryCall_snd_bounds p { s with trace := s.trace ++ [.outcome l.o], lastStatus := some (c : Int) } "" l.canCreate
        exact ⟨_, hb.1, hb.2, rfl⟩
      · rw [if_neg hg]
        exact ⟨s.remaining, id, Int.le_refl _, rfl⟩
  · next ho =>
    refine ⟨s.lastStatus, ?_⟩
    have hnr : isResp l.o = false := by
      cases hlo : l.o with
      | resp c => exact absurd hlo (ho c)
      | _ => rfl
    -- … and those of `onUpstreamReset`, whatever the status variable holds (`check_reset`)
    have hR : Retries p s l ↔ resetGuard (reasonOf l.o) s.started s.hasRS = true ∧
        resetRetryCond (retryCall p { s with trace := s.trace ++ [.outcome l.o] } (reasonOf l.o) l.canCreate).1 = true := by
      simp only [resetGuard, resetRetryCond, setupRetryResult, Bool.and_true, decide_eq_true_eq, retryCall_fst_iff, Retries, hnr,
        true_imp_iff, check_reset p l.o _ _ ho, Bool.and_eq_true, Bool.not_eq_true', ne_eq, Bool.not_eq_false]
      exact ⟨fun h => ⟨⟨⟨reasonOf_retryable p l.o h.2.2.2.1, h.2.1⟩, h.1⟩, h.2.2.1, h.2.2.2.1, h.2.2.2.2⟩,
        fun h => ⟨h.1.2, h.1.1.2, h.2.1, h.2.2.1, h.2.2.2⟩⟩
    have hfin : ∀ x, finish x l.o = hijack x (convertReasonToCode (reasonOf l.o)) := fun x => by
      unfold finish
      split
      · exact absurd ‹_› (ho _)
      · rfl
    unfold stepReset
    simp only [hfin]
    by_cases hr : Retries p s l
    · rw [if_pos (hR.mp hr).1, if_pos (hR.mp hr).2, retryCall_snd, if_neg hr.2.2.1]
      exact Or.inl ⟨hr, rfl⟩
    · refine Or.inr ⟨hr, ?_⟩
      by_cases hg : resetGuard (reasonOf l.o) s.started s.hasRS = true
      · rw [if_pos hg, if_neg (fun h => hr (hR.mpr ⟨hg, h⟩))]
        have hb := retryCall_snd_bounds p { s with trace := s.trace ++ [.outcome l.o] } (reasonOf l.o) l.canCreate
        exact ⟨_, hb.1, hb.2, rfl⟩
      · rw [if_neg hg]
        exact ⟨s.remaining, id, Int.le_refl _, rfl⟩

theorem resetGuard_started (reason : String) (rs : Bool) : resetGuard reason true rs = false := by
  simp [resetGuard]

/-- with no attempt outstanding nothing happens any more: before a reply nothing is awaited, after it the regenerated guard of
`onUpstreamReset` (it contains `!downstreamResponseStarted`) lets no late reset through -/
theorem step_not_live (p : Policy) (s : St) (l : Label) (h : s.live = false) : step p s l = s := by
  unfold step
  rw [if_pos h, if_neg]
  intro hc
  rw [hc.1, resetGuard_started] at hc
  exact Bool.false_ne_true hc.2.2

theorem step_good (p : Policy) (s : St) (l : Label) (h : Good p s) : Good p (step p s l) := by
  by_cases hlive : s.live = false
  · rw [step_not_live p s l hlive]
    exact h
  by_cases hpt : l.o = .perTry ∧ p.tryTimeout = false
  · unfold step
    rw [if_neg hlive, if_pos hpt]
    exact h
  have hl : s.live = true := by simpa using hlive
  obtain ⟨h1, h2, c, h4, h5, h8, h9⟩ := h
  have hd : c.dead = false := h9 hl
  have hacc : scan p scanInit (s.trace ++ [Ev.outcome l.o]) =
      some { c with permit := retryable p l.o && !c.dead, dead := c.dead || decide (l.o = .global) } := by
    apply acc_snoc p _ _ _ _ h4; simp [scanStep, h8]
  obtain ⟨st, ⟨hr, he⟩ | ⟨_, r, h0, hr1, he⟩⟩ := step_live p s l hl (fun h => by simpa [h] using hpt)
  · rw [he]
    have := hr.2.2.1
    exact doRetry_good _ ⟨by show 0 ≤ s.remaining - 1; omega, by show (s.attempts : Int) + (s.remaining - 1) ≤ _; omega, hacc, h5⟩
      (by show (s.attempts : Int) + 1 + (s.remaining - 1) ≤ _; omega) (by simp [hd, hr.2.2.2.1])
      (by simp [hd, retryable_ne_global p l.o hr.2.2.2.1]) h8
  · rw [he]
    have := h0 h1
    exact finish_good _ ⟨this, by show (s.attempts : Int) + r ≤ _; omega, hacc, h5⟩

theorem start_good (p : Policy) (host0 : Option Nat) : Good p (start p host0) := by
  unfold start
  have hch : scan p scanInit [Ev.choose 0] = some { scanInit with chosen := true, permit := false } := by
    simp [scan, scanStep, scanInit]
  cases host0 with
  | none =>
    simp only []
    refine hijack_good _ ⟨?_, ?_, hch, rfl⟩
    · show (0 : Int) ≤ 0; omega
    · show ((0 : Nat) : Int) + 0 ≤ _; omega
  | some h =>
    simp only []
    refine ⟨?_, ?_, ?_⟩
    · show 0 ≤ initialBudget (p.numRetries : Int); rw [initialBudget_eq]; omega
    · show ((1 : Nat) : Int) + initialBudget (p.numRetries : Int) ≤ _; rw [initialBudget_eq]; unfold budget; omega
    · refine ⟨{ scanInit with n := 1, permit := false }, ?_, rfl, rfl, fun _ => rfl⟩
      show scan p scanInit ([Ev.choose 0] ++ [Ev.attempt 0 h]) = _
      apply acc_snoc p _ _ _ _ hch; simp [scanStep, scanInit]

theorem run_good (p : Policy) (host0 : Option Nat) (ls : List Label) : Good p (run p host0 ls) :=
  Lemmas.Fold.foldl_inv (step_good p) ls _ (start_good p host0)

theorem hijack_eq (s : St) (code : Int) (hloops : s.loops ≠ 0) :
    hijack s code = { s with live := false, started := true, hasRS := false, loops := s.loops - 1, lastStatus := some code,
                             trace := s.trace ++ [.reply code] } := if_neg hloops

theorem doRetry_host (s : St) (h : Nat) (hloops : s.loops ≠ 0) :
    doRetry s (some h) = { s with attempts := s.attempts + 1, trace := s.trace ++ [.choose s.attempts, .attempt s.attempts h] } := by
  simp [doRetry, hloops, retryKeepsBudget]

/-- the other direction: a retryable outcome with budget left, an admitting breaker, a healthy host and a worker pass left IS
retried, at the cost of exactly one host selection, one attempt and one unit of budget -/
theorem step_retries (p : Policy) (s : St) (l : Label) (h : Nat)
    (hlive : s.live = true) (hrs : s.hasRS = true) (hst : s.started = false) (hrem : s.remaining ≠ 0) (hloops : s.loops ≠ 0)
    (hret : retryable p l.o = true) (hcc : l.canCreate = true) (hh : l.host = some h)
    (hpt : l.o = .perTry → p.tryTimeout = true) :
    ∃ st, step p s l = { s with remaining := s.remaining - 1, attempts := s.attempts + 1, lastStatus := st,
                                trace := s.trace ++ [.outcome l.o, .choose s.attempts, .attempt s.attempts h] } := by
  obtain ⟨st, ⟨_, he⟩ | ⟨hn, _⟩⟩ := step_live p s l hlive hpt
  · rw [he, hh, doRetry_host _ h]
    · exact ⟨st, by simp⟩
    · exact hloops
  · exact absurd ⟨hrs, fun _ => hst, hrem, hret, hcc⟩ hn

theorem run_scan_at (p : Policy) (host0 : Option Nat) (ls : List Label) {pre post : List Ev} {e : Ev}
    (h : (run p host0 ls).trace = pre ++ [e] ++ post) :
    ∃ c1 c2, scan p scanInit pre = some c1 ∧ scanStep p c1 e = some c2 := by
  obtain ⟨c, hc, _⟩ := (run_good p host0 ls).acc
  rw [h, List.append_assoc, scan_append] at hc
  obtain ⟨c1, h1, h2⟩ := Option.bind_eq_some_iff.mp hc
  obtain ⟨c2, h3, _⟩ := scan_cons_some h2
  exact ⟨c1, c2, h1, h3⟩

theorem run_alive_at (p : Policy) (host0 : Option Nat) (ls : List Label) {pre post : List Ev} {e : Ev}
    (h : (run p host0 ls).trace = pre ++ [e] ++ post) (he : (∃ k, e = .choose k) ∨ ∃ k x, e = .attempt k x) :
    ∀ e' ∈ pre, ends e' = false := by
  obtain ⟨c1, c2, h1, h2⟩ := run_scan_at p host0 ls h
  have hd : c1.dead = false := by
    rcases he with ⟨k, rfl⟩ | ⟨k, x, rfl⟩
    · exact (scanStep_choose h2).2.2
    · rcases scan_chosen h1 (scanStep_attempt h2).2 with ⟨_, hc⟩ | ⟨hd, _⟩
      · cases hc
      · exact hd
  exact (scan_alive h1 hd).2

end MosnVerif.Model.Retry
