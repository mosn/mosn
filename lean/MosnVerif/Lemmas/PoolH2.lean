import MosnVerif.Model.PoolH2
import MosnVerif.Lemmas.PoolMux
/-!
Invariant of the HTTP/2 pool model (`Model/PoolH2.lean`), inductive over every operation.
-/
namespace MosnVerif.Model.PoolH2
open MosnVerif.Gen.PoolH2 MosnVerif.Gen.Pool
open MosnVerif.Model.Pool (Stream Dial countLive req_inc req_dec)
open MosnVerif.Model.PoolMux (killed ReqOk reqOk_lease reqOk_ended reqOk_killed)

/-! ### counting streams: the multiplex pool's facts, the two models count alike -/

theorem countOn_eq : @countOn = @PoolMux.countOn := by
  funext f c n
  induction n with
  | zero => rfl
  | succ n ih => simp only [countOn, PoolMux.countOn, ih]

theorem iter_eq : @iter = @PoolMux.iter := by
  funext f n
  induction n with
  | zero => rfl
  | succ n ih => funext x; simp only [iter, PoolMux.iter, ih]

/-! ### the regenerated movements, as they are in the code that exists -/

theorem destroyMoves_eq : destroyMoves = { reqInc := 0, reqDec := 1, host := -1, cluster := -1, listens := false } := rfl

theorem movesN_destroy (n : Nat) (s : State) :
    movesN destroyMoves n s =
      { s with reqCur := iter (resDecrease s.maxReq) n s.reqCur, actHost := s.actHost - n, actCluster := s.actCluster - n } := by
  rw [destroyMoves_eq]
  simp only [movesN, iter]
  have e : ((n : Int) * -1) = -(n : Int) := by omega
  rw [e]; rfl

theorem movesN_lease (s : State) :
    movesN (h2LeaseMoves false) 1 s =
      { s with reqCur := resIncrease s.maxReq s.reqCur, actHost := s.actHost + 1, actCluster := s.actCluster + 1 } := by
  simp [movesN, iter, h2LeaseMoves]

/-- giving the pool's client up (in `NewStream` and on a close event): both gauges −1, no client -/
theorem applyConn_replace (s : State) :
    applyConn h2ReplaceMoves s = { s with connHost := s.connHost - 1, connCluster := s.connCluster - 1, active := none } := by
  simp only [applyConn, h2ReplaceMoves]
  rfl

theorem applyConn_drop (s : State) :
    applyConn h2DropMoves s = { s with connHost := s.connHost - 1, connCluster := s.connCluster - 1, active := none } := by
  simp only [applyConn, h2DropMoves]
  rfl

theorem applyConn_dial (s : State) :
    applyConn h2DialMoves s = { s with connHost := s.connHost + 1, connCluster := s.connCluster + 1 } := by
  simp only [applyConn, h2DialMoves]
  rfl

theorem applyConn_close (s : State) : applyConn h2CloseMoves s = s := by
  simp only [applyConn, h2CloseMoves]
  simp

/-- the replace test of `NewStream`: the pool holds a client and that client has been told to go away -/
theorem replaceCond_iff (present : Bool) (g : Nat) (hg : g = 0 ∨ g = h2GoAwayMark) :
    h2ReplaceCond present g = true ↔ (present = true ∧ g ≠ 0) := by
  rcases hg with h | h <;> subst h <;> cases present <;> simp [h2ReplaceCond, h2GoAwayMark]

/-- a close event drops the pool's client exactly when the pool's client is the one that closed -/
theorem closeDrops_iff (cg : Nat) (isCur curPresent : Bool) (curG : Nat) :
    h2CloseDrops cg isCur curPresent curG = isCur := by
  simp [h2CloseDrops]

/-! ### the invariant -/

def gaugeOf (s : State) : Int := if s.active.isSome then 1 else 0

structure Inv (s : State) : Prop where
  req : s.reqCur = if s.maxReq = 0 then 0 else (s.ext : Int) + (s.liveCount : Int)
  act : s.actHost = (s.liveCount : Int) ∧ s.actCluster = (s.liveCount : Int)
  /-- both connection_active gauges count the pool's client -/
  gauge : s.connHost = gaugeOf s ∧ s.connCluster = gaugeOf s
  /-- the pool's client is an open connection -/
  activeOk : ∀ c, s.active = some c → c < s.nConns ∧ (s.conn c).netOpen = true
  /-- an open connection that has not been told to go away is the pool's client -/
  openOk : ∀ c, c < s.nConns → (s.conn c).netOpen = true → (s.conn c).goaway = 0 → s.active = some c
  gw : ∀ c, (s.conn c).goaway = 0 ∨ (s.conn c).goaway = h2GoAwayMark
  liveOk : ∀ i, i < s.nStreams → (s.stream i).live = true → (s.stream i).conn < s.nConns ∧ (s.conn (s.stream i).conn).netOpen = true
  once : ∀ i, i < s.nStreams →
    ((s.stream i).live = true → (s.stream i).destroys = 0 ∧ (s.stream i).recv = 0 ∧ (s.stream i).resets = []) ∧
    ((s.stream i).live = false → (s.stream i).destroys = 1 ∧ (s.stream i).recv ≤ 1 ∧ (s.stream i).resets.length ≤ 1 ∧
      ((s.stream i).recv = 1 → (s.stream i).resets = []))

theorem Inv.reqOk {s : State} (h : Inv s) :
    ReqOk (fun c => c < s.nConns ∧ (s.conn c).netOpen = true) s.maxReq s.ext s.reqCur s.actHost s.actCluster s.nStreams s.stream :=
  ⟨h.req, h.act, h.liveOk, h.once⟩

theorem inv_init (maxReq : Nat) : Inv (init maxReq) := by
  refine ⟨?_, ?_, ?_, ?_, ?_, ?_, ?_, ?_⟩
  all_goals simp [init, State.liveCount, countLive, gaugeOf]

theorem curGoaway_gw (s : State) (h : Inv s) : s.curGoaway = 0 ∨ s.curGoaway = h2GoAwayMark := by
  unfold State.curGoaway
  split
  · exact h.gw _
  · left; rfl

/-! ### NewStream -/

/-- the state after the pool gave its client up -/
def dropped (s : State) : State := { s with connHost := s.connHost - 1, connCluster := s.connCluster - 1, active := none }

theorem inv_dropped (s : State) (h : Inv s) (c : Nat) (ha : s.active = some c) (hg : (s.conn c).goaway ≠ 0) :
    Inv (dropped s) := by
  refine ⟨h.req, h.act, ?_, ?_, ?_, h.gw, h.liveOk, h.once⟩
  · have := h.gauge
    simp only [gaugeOf, ha, Option.isSome_some, if_true] at this
    simp only [dropped, gaugeOf, Option.isSome_none]
    constructor <;> simp <;> omega
  · intro c' hc'; simp [dropped] at hc'
  · -- the only open connection that has not been told to go away would be the client given up, which has been told
    intro c' hc' ho hgo
    cases (h.openOk c' hc' ho hgo).symm.trans ha
    exact absurd hgo hg

/-- the state after a successful dial by a pool that holds no client -/
def dialled (s : State) : State :=
  { s with active := some s.nConns, nConns := s.nConns + 1, conn := fun k => if k = s.nConns then {} else s.conn k,
           connHost := s.connHost + 1, connCluster := s.connCluster + 1 }

theorem inv_dialled (s : State) (h : Inv s) (ha : s.active = none) : Inv (dialled s) := by
  refine ⟨h.req, h.act, ?_, ?_, ?_, ?_, ?_, h.once⟩
  · have := h.gauge
    simp only [gaugeOf, ha, Option.isSome_none, Bool.false_eq_true, if_false] at this
    simp only [dialled, gaugeOf, Option.isSome_some, if_true]
    constructor <;> omega
  · intro c hc
    simp only [dialled] at hc ⊢
    cases hc
    exact ⟨Nat.lt_succ_self _, by simp⟩
  · intro c hc ho hg
    simp only [dialled] at hc ho hg ⊢
    by_cases e : c = s.nConns
    · rw [e]
    · simp only [if_neg e] at ho hg
      have := h.openOk c (by omega) ho hg
      rw [ha] at this; cases this
  · intro c
    simp only [dialled]
    split
    · left; rfl
    · exact h.gw c
  · intro i hi hl
    have ⟨h1, h2⟩ := h.liveOk i hi hl
    simp only [dialled]
    exact ⟨Nat.lt_succ_of_lt h1, by rw [if_neg (Nat.ne_of_lt h1)]; exact h2⟩

theorem giveUp_eq (s : State) (h : Inv s) :
    giveUp s = if s.active.isSome = true ∧ s.curGoaway ≠ 0 then dropped s else s := by
  unfold giveUp
  have hrc := replaceCond_iff s.active.isSome s.curGoaway (curGoaway_gw s h)
  by_cases hc : h2ReplaceCond s.active.isSome s.curGoaway = true
  · rw [if_pos hc, if_pos (hrc.mp hc), applyConn_replace]; rfl
  · rw [if_neg hc, if_neg (fun hh => hc (hrc.mpr hh))]

theorem inv_giveUp (s : State) (h : Inv s) : Inv (giveUp s) := by
  rw [giveUp_eq s h]
  split
  · rename_i hc
    obtain ⟨c, ha⟩ := Option.isSome_iff_exists.mp hc.1
    have hg : (s.conn c).goaway ≠ 0 := by
      have := hc.2; simp only [State.curGoaway, ha] at this; exact this
    exact inv_dropped s h c ha hg
  · exact h

theorem dialIfNone_eq (s : State) (dial : Dial) :
    dialIfNone s dial = if s.active = none ∧ dial.fails = false then dialled s else s := by
  unfold dialIfNone
  cases ha : s.active with
  | some c => simp
  | none =>
    cases hf : dial.fails
    · simp only [applyConn_dial, Bool.false_eq_true, if_false, and_self, if_true]; rfl
    · simp

theorem inv_dialIfNone (s : State) (h : Inv s) (dial : Dial) : Inv (dialIfNone s dial) := by
  rw [dialIfNone_eq]
  split
  · rename_i hc; exact inv_dialled s h hc.1
  · exact h

theorem inv_pick (s : State) (h : Inv s) (dial : Dial) : Inv (pick s dial) :=
  inv_dialIfNone _ (inv_giveUp s h) dial

theorem inv_lease (s : State) (h : Inv s) (c : Nat) (hc : c < s.nConns) (ho : (s.conn c).netOpen = true) :
    Inv (lease s c) := by
  rw [lease, movesN_lease]
  have r := reqOk_lease h.reqOk c ⟨hc, ho⟩
  exact { h with req := r.req, act := r.act, liveOk := r.liveOk, once := r.once }

theorem inv_newStream (s : State) (h : Inv s) (dial : Dial) : Inv (newStream s dial).1 := by
  unfold newStream
  have hp := inv_pick s h dial
  simp only
  split
  · exact hp
  · rename_i c hc
    split
    · exact hp
    · have ⟨h1, h2⟩ := hp.activeOk c hc
      exact inv_lease _ hp c h1 h2

/-! ### a stream ends -/

theorem inv_endStream (s : State) (h : Inv s) (i : Nat) (hi : i < s.nStreams) (hl : (s.stream i).live = true)
    (reset : Option String) : Inv (endStream s i reset) := by
  have r := reqOk_ended h.reqOk i hi hl reset
  rw [endStream, if_pos ((Pool.destroyProceeds_iff _).mpr ((Pool.live_iff _).mp hl)), movesN_destroy]
  exact { h with req := r.req, act := r.act, liveOk := r.liveOk, once := r.once }

/-! ### a connection closes -/

theorem poolOnClose_eq (t : State) (c : Nat) :
    poolOnClose t c = if t.active = some c then dropped t else t := by
  unfold poolOnClose
  simp only [applyConn_close, closeDrops_iff, decide_eq_true_eq, applyConn_drop]
  rfl

/-- the state after connection `c` (open, known) has closed; `drop`: the pool's client was the one that closed -/
def closedSt (s : State) (c : Nat) (r : String) (drop : Bool) : State :=
  { s with
    conn := fun k => if k = c then { s.conn c with netOpen := false } else s.conn k,
    active := if drop then none else s.active,
    connHost := if drop then s.connHost - 1 else s.connHost,
    connCluster := if drop then s.connCluster - 1 else s.connCluster,
    stream := killed s.stream c r,
    reqCur := iter (resDecrease s.maxReq) (s.activeOn c) s.reqCur,
    actHost := s.actHost - (s.activeOn c : Nat), actCluster := s.actCluster - (s.activeOn c : Nat) }

theorem netClose_eq (s : State) (c : Nat) (r : String) (h1 : c < s.nConns) (h2 : (s.conn c).netOpen = true) :
    netClose s c r = closedSt s c r (decide (s.active = some c)) := by
  simp only [netClose, h1, h2, and_self, if_true, poolOnClose_eq, killOn, movesN_destroy]
  by_cases ha : s.active = some c
  · simp only [State.updC, ha, if_true, dropped, State.activeOn, closedSt, decide_true]; rfl
  · simp only [State.updC, ha, if_false, State.activeOn, closedSt, decide_false]; rfl

theorem inv_closedSt (s : State) (h : Inv s) (c : Nat) (r : String) (hcn : c < s.nConns) (hopen : (s.conn c).netOpen = true)
    (drop : Bool) (hd : drop = true ↔ s.active = some c) : Inv (closedSt s c r drop) := by
  have q := reqOk_killed h.reqOk c r
    (up' := fun k => k < s.nConns ∧ (if k = c then { s.conn c with netOpen := false } else s.conn k).netOpen = true)
    (fun k hk hu => ⟨hu.1, by rw [if_neg hk]; exact hu.2⟩)
  rw [← countOn_eq, ← iter_eq] at q
  refine ⟨q.req, q.act, ?_, ?_, ?_, ?_, q.liveOk, q.once⟩
  · -- gauge
    have hg := h.gauge
    cases drop with
    | true =>
      have ha := hd.mp rfl
      simp only [gaugeOf, ha, Option.isSome_some, if_true] at hg
      simp only [closedSt, gaugeOf, if_true, Option.isSome_none]
      constructor <;> simp <;> omega
    | false => simpa [closedSt, gaugeOf] using hg
  · -- activeOk
    intro a ha
    cases drop with
    | true => simp [closedSt] at ha
    | false =>
      simp only [closedSt, Bool.false_eq_true, if_false] at ha ⊢
      have hne : a ≠ c := by
        intro e; subst e
        have := hd.mpr ha; cases this
      have ⟨h1, h2⟩ := h.activeOk a ha
      exact ⟨h1, by simp only [if_neg hne]; exact h2⟩
  · -- openOk
    intro c' hc' ho hg
    simp only [closedSt] at hc' ho hg ⊢
    have hne : c' ≠ c := by
      intro e; subst e; simp at ho
    simp only [if_neg hne] at ho hg
    have hold := h.openOk c' hc' ho hg
    cases drop with
    | true =>
      have ha := hd.mp rfl
      rw [ha] at hold; cases hold; exact absurd rfl hne
    | false => simpa using hold
  · -- gw
    intro c'
    have := h.gw c'
    simp only [closedSt]
    by_cases hcc : c' = c
    · subst hcc; simpa using this
    · simpa [hcc] using this

theorem inv_netClose (s : State) (h : Inv s) (c : Nat) (r : String) : Inv (netClose s c r) := by
  by_cases hh : c < s.nConns ∧ (s.conn c).netOpen = true
  · rw [netClose_eq s c r hh.1 hh.2]
    exact inv_closedSt s h c r hh.1 hh.2 _ (by simp)
  · have : netClose s c r = s := by simp [netClose, hh]
    rw [this]; exact h

/-! ### go-away -/

theorem inv_goAway (s : State) (h : Inv s) (c : Nat) :
    Inv (s.updC c (fun cl => { cl with goaway := h2GoAwayMark })) := by
  have hcl : ∀ k, (s.updC c (fun cl => { cl with goaway := h2GoAwayMark })).conn k =
      if k = c then { s.conn c with goaway := h2GoAwayMark } else s.conn k := fun k => rfl
  refine ⟨h.req, h.act, h.gauge, ?_, ?_, ?_, ?_, h.once⟩
  · intro a ha
    have ⟨h1, h2⟩ := h.activeOk a ha
    refine ⟨h1, ?_⟩
    rw [hcl]; split
    · rename_i e; subst e; exact h2
    · exact h2
  · intro c' hc' ho hg
    rw [hcl] at ho hg
    by_cases e : c' = c
    · subst e; simp [h2GoAwayMark] at hg
    · simp only [if_neg e] at ho hg; exact h.openOk c' hc' ho hg
  · intro c'
    rw [hcl]; split
    · right; rfl
    · exact h.gw c'
  · intro i hi hl
    have ⟨h1, h2⟩ := h.liveOk i hi hl
    refine ⟨h1, ?_⟩
    show ((s.updC c _).conn (s.stream i).conn).netOpen = true
    rw [hcl]; split
    · rename_i e; rw [e] at h2; exact h2
    · exact h2

/-! ### every operation -/

theorem inv_step (s : State) (h : Inv s) (op : Op) : Inv (step s op).1 := by
  cases op with
  | newStream dial => exact inv_newStream s h dial
  | response i => exact Pool.guarded h fun hh => inv_endStream s h i hh.1 hh.2 none
  | localReset i => exact Pool.guarded h fun hh => inv_endStream s h i hh.1 hh.2 _
  | remoteReset i => exact Pool.guarded h fun hh => inv_endStream s h i hh.1 hh.2 _
  | goAway c => exact Pool.guarded h fun _ => inv_goAway s h c
  | connClose c remote => exact inv_netClose s h c _
  | shutdown => exact h
  | closeAll =>
    simp only [step]; split
    · exact inv_netClose s h _ _
    · exact h
  | extInc =>
    exact { h with req := req_inc h.req (by show ((s.ext + 1 : Nat) : Int) + (s.liveCount : Int) = _; omega) }
  | extDec =>
    exact Pool.guarded h fun _ =>
      { h with req := req_dec h.req (by show ((s.ext - 1 : Nat) : Int) + (s.liveCount : Int) + 1 = _; omega) }

theorem inv_run (s : State) (h : Inv s) (ops : List Op) : Inv (run s ops) := by
  induction ops generalizing s with
  | nil => exact h
  | cons op r ih => exact ih _ (inv_step s h op)

end MosnVerif.Model.PoolH2
