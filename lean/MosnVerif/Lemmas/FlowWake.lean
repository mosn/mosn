import MosnVerif.Lemmas.Flow
import MosnVerif.Model.FlowWake
/-! Lemmas for the wake-up discipline of C18 flow control: the invariant "a sender that sleeps in `cond.Wait()` without
a pending Broadcast has no positive available window", preserved by every label under every policy that is `Ok`; the
refinement of `Model/Flow.lean` by the model with explicit parking; the regenerated policy of the code is `Ok`. -/
namespace MosnVerif.Lemmas.FlowWake
open MosnVerif.Gen.Flow MosnVerif.Gen.FlowWake MosnVerif.Model.Flow MosnVerif.Model.FlowWake MosnVerif.Lemmas.Flow

/-- the regenerated Broadcast conditions of both connections meet the obligation: each of these sites executes
`cond.Broadcast()` unconditionally (the regenerated conditions are the constant `true`) -/
theorem codePolicy_ok (side : Side) : (codePolicy side).Ok := by
  cases side <;> exact ⟨fun _ _ _ _ _ _ _ => rfl, fun _ _ => rfl⟩

/-- "wake only when an empty window re-opens" does not: −5 + 10 is positive and no Broadcast happens -/
theorem lazyPolicy_not_ok : ¬ lazyPolicy.Ok := by
  intro h
  have := h.wu (-5) 10 (by decide) (by decide) (by decide) (by decide) (by decide)
  simp [lazyPolicy] at this

/-! ### facts about one step of the base model -/

theorem step_closed_false (s : St) (l : Label) (h : (step s l).closed = false) : s.closed = false := by
  cases hc : s.closed
  · rfl
  · rw [step_closed s l hc] at h; rw [hc] at h; exact h

theorem sendStep_count (s : St) (i : Nat) : (sendStep s i).count = s.count := by
  unfold sendStep
  split
  · rfl
  · simp only []
    split
    · rfl
    · split
      · rfl
      · split <;> try rfl
        split <;> rfl

/-- only `openStream` changes the number of streams: in every branch of `step` the field is `s.count` or its successor -/
theorem step_count_le (s : St) (l : Label) : s.count ≤ (step s l).count := by
  cases l with
  | send i => exact Nat.le_of_eq (sendStep_count s i).symm
  | openStream len => simp only [step, apply_ite St.count]; split <;> omega
  | wuStream i inc => simp only [step, apply_ite St.count, ite_self, Nat.le_refl]
  | wuConn inc => simp only [step, apply_ite St.count, ite_self, Nat.le_refl]
  | setInit v => simp only [step]; cases s.side <;> simp only [apply_ite St.count, ite_self, Nat.le_refl]
  | setMaxFrame v => simp only [step]; cases s.side <;> simp only [apply_ite St.count, ite_self, Nat.le_refl]

/-- a peer frame that executes no Broadcast leaves every non-positive available window non-positive -/
theorem quiet_step (pol : Policy) (hok : pol.Ok) (s : St) (l : Label) (hw : l.wf = true) (h : Inv s)
    (hns : ∀ i, l ≠ .send i) (hb : signals pol s l = false) (j : Nat) (hj : j < s.count)
    (hq : min (s.strm j).n s.cn ≤ 0) (hc' : (step s l).closed = false) :
    min ((step s l).strm j).n (step s l).cn ≤ 0 := by
  have hc : s.closed = false := step_closed_false s l hc'
  have L := h.live hc
  have hp := h.nopanic
  cases l with
  | send i => exact absurd rfl (hns i)
  | openStream len =>
    simp only [step, hc, hp, Bool.or_false, Bool.false_eq_true, if_false, upd]
    rw [if_neg (by omega)]; exact hq
  | wuStream i inc =>
    rw [step_wuStream s i inc hw h hc] at hc' ⊢
    simp only [Label.wf, Bool.and_eq_true, decide_eq_true_eq] at hw
    by_cases htr : tracked s i = true
    · rw [if_pos htr] at hc' ⊢
      by_cases hfit : (s.strm i).n + inc ≤ 2147483647
      · rw [if_pos hfit]
        by_cases hji : j = i
        · subst hji
          obtain ⟨_, h2, h3, _⟩ := L.strm j htr
          have hpw : pol.wu (s.strm j).n inc = false := by
            simp only [signals, hc, hp, htr, Bool.or_false, Bool.not_false, Bool.true_and, wrap32_id (inc : Int) (by omega),
              add_eq (s.strm j).n (inc : Int) ⟨h2, h3⟩ (by omega) (by omega), decide_eq_true hfit] at hb
            exact hb
          simp only [upd, if_true]
          -- a window that was not positive and is now would have been announced
          by_cases hpos : (s.strm j).n ≤ 0 ∧ 0 < (s.strm j).n + inc
          · rw [hok.wu _ inc h2 hpos.1 (by omega) (by omega) hpos.2] at hpw; exact Bool.noConfusion hpw
          · omega
        · simp only [upd, hji, if_false]; exact hq
      · rw [if_neg hfit] at hc'; exact Bool.noConfusion hc'
    · rw [if_neg htr]; exact hq
  | wuConn inc =>
    rw [step_wuConn s inc hw h hc] at hc' ⊢
    simp only [Label.wf, Bool.and_eq_true, decide_eq_true_eq] at hw
    have hcr := L.cn_range
    by_cases hfit : s.cn + inc ≤ 2147483647
    · rw [if_pos hfit]
      have hpw : pol.wu s.cn inc = false := by
        simp only [signals, hc, hp, Bool.or_false, Bool.not_false, Bool.true_and, wrap32_id (inc : Int) (by omega),
          add_eq s.cn (inc : Int) hcr (by omega) (by omega), decide_eq_true hfit] at hb
        exact hb
      simp only []
      by_cases hpos : s.cn ≤ 0 ∧ 0 < s.cn + inc
      · rw [hok.wu _ inc hcr.1 hpos.1 (by omega) (by omega) hpos.2] at hpw; exact Bool.noConfusion hpw
      · omega
    · rw [if_neg hfit] at hc'; exact Bool.noConfusion hc'
  | setInit v =>
    rw [step_setInit s v h hc] at hc' ⊢
    by_cases hrej : initRefused s v = true
    · rw [if_pos hrej] at hc'; exact Bool.noConfusion hc'
    · rw [if_neg hrej]
      by_cases htr : tracked s j = true
      · obtain ⟨_, h2, h3, h4⟩ := L.strm j htr
        have hir := L.init_range
        have hv : (v : Int) ≤ 2147483647 := by
          simp only [initRefused, Bool.or_eq_true, decide_eq_true_eq, not_or] at hrej; omega
        -- the delta is not positive: otherwise the site would have broadcast
        have hd : (v : Int) - s.init ≤ 0 := by
          by_cases hpos : 0 < (v : Int) - s.init
          · -- `signals` is `!initRefused && pol.setInit (v - init)`
            have hsig : signals pol s (.setInit v) = (!initRefused s v && pol.setInit ((v : Int) - s.init)) := by
              simp only [signals, initRefused, hc, hp, Bool.or_false, Bool.not_false, Bool.true_and, maxInt32,
                wrap32_id (v : Int) (by omega), wrap32_id s.init (by omega), wrap32_id ((v : Int) - s.init) (by omega)]
              -- (`rfl`: the instance of `decide (maxInt32 < v)` still mentions `maxInt32`)
              cases s.side <;> simp only [reduceCtorEq, decide_false, decide_true, Bool.false_and, Bool.true_and, Bool.and_true, Bool.or_false, Bool.not_or] <;> rfl
            rw [hsig, hok.setInit _ hpos, Bool.and_true, Bool.not_eq_false'] at hb
            exact absurd hb hrej
          · omega
        simp only [htr, if_true, add_eq (s.strm j).n ((v : Int) - s.init) ⟨h2, h3⟩ (by omega) (by omega)]
        split <;> omega
      · simp only [htr, Bool.false_eq_true, if_false]; exact hq
  | setMaxFrame v =>
    rw [step_setMaxFrame s v hc hp] at hc' ⊢
    split
    · rename_i hbad; rw [if_pos hbad] at hc'; exact Bool.noConfusion hc'
    · exact hq

/-! ### the invariant of the model with explicit parking -/

structure WInv (w : WSt) : Prop where
  base : Inv w.base
  lt : ∀ i, w.parked i = true → i < w.base.count
  /-- a sender asleep in `cond.Wait()` (no Broadcast pending) cannot take anything -/
  quiet : ∀ i, asleep w i = true → w.base.closed = false → min (w.base.strm i).n w.base.cn ≤ 0

theorem winv_initial (side : Side) : WInv (WSt.initial side) :=
  ⟨inv_initial side, fun _ h => by simp [WSt.initial] at h, fun _ h => by simp [WSt.initial, asleep] at h⟩

theorem not_enabled (side : Side) (n cn : Int) (h : enabled side (available n true cn) = false) : min n cn ≤ 0 := by
  rw [available_eq] at h
  by_cases hp : 0 < min n cn
  · rw [(enabled_iff side _).2 hp] at h; exact Bool.noConfusion h
  · omega

theorem winv_send (pol : Policy) (w : WSt) (i : Nat) (h : WInv w) : WInv (wstep pol w (.send i)) := by
  simp only [wstep]
  split
  · exact h
  rename_i hgo
  simp only [Bool.or_eq_true, decide_eq_true_eq, not_or, Bool.not_eq_true] at hgo
  obtain ⟨⟨⟨hc, hp⟩, hi⟩, hr⟩ := hgo
  split
  · exact h
  rename_i hawake
  -- sender `i` exists, so whichever way its flag is set the parked senders are streams of the connection
  have hlt (b : Bool) (j : Nat) (hj : updB w.parked i b j = true) : j < w.base.count := by
    by_cases hji : j = i
    · omega
    · simp only [updB, hji, if_false] at hj; exact h.lt j hj
  split
  · -- the guard holds: take and write
    rename_i hen
    rw [available_eq, enabled_iff] at hen
    have hfire := sendStep_fire w.base i h.base hc (by omega) (by omega) hen
    refine ⟨inv_send _ _ h.base, fun j hj => Nat.lt_of_lt_of_eq (hlt false j hj) (sendStep_count w.base i).symm, ?_⟩
    · intro j hj hcl
      simp only [asleep, updB] at hj
      by_cases hji : j = i
      · simp [hji] at hj
      · simp only [hji, if_false] at hj
        split at hj
        · simp at hj
        have hq := h.quiet j (by simpa [asleep] using hj) hc
        simp only []
        rw [hfire]
        simp only [upd, hji, if_false]
        omega
  · -- the guard fails: park
    rename_i hen
    have hen' : enabled w.base.side (available (w.base.strm i).n true w.base.cn) = false := by simpa using hen
    refine ⟨h.base, hlt true, ?_⟩
    · intro j hj hcl
      by_cases hji : j = i
      · subst hji; exact not_enabled _ _ _ hen'
      · simp only [asleep, updB, hji, if_false] at hj
        exact h.quiet j (by simpa [asleep] using hj) hcl

theorem winv_peer (pol : Policy) (hok : pol.Ok) (w : WSt) (l : Label) (hw : l.wf = true) (hns : ∀ i, l ≠ .send i)
    (h : WInv w) : WInv (wstep pol w l) := by
  have e : wstep pol w l = WSt.mk (step w.base l) w.parked (fun j => w.signalled j || signals pol w.base l) := by
    cases l <;> first | rfl | exact absurd rfl (hns _)
  rw [e]
  refine ⟨inv_step _ _ hw h.base, ?_, ?_⟩
  · intro j hj
    exact Nat.lt_of_lt_of_le (h.lt j hj) (step_count_le _ _)
  · intro j hj hcl
    simp only [asleep, Bool.and_eq_true, Bool.not_eq_true', Bool.or_eq_false_iff] at hj
    obtain ⟨hpk, hsg, hb⟩ := hj
    have hc : w.base.closed = false := step_closed_false _ _ hcl
    exact quiet_step pol hok w.base l hw h.base hns hb j (h.lt j hpk)
      (h.quiet j (by simp [asleep, hpk, hsg]) hc) hcl

theorem winv_step (pol : Policy) (hok : pol.Ok) (w : WSt) (l : Label) (hw : l.wf = true) (h : WInv w) :
    WInv (wstep pol w l) := by
  cases l with
  | send i => exact winv_send pol w i h
  | _ => exact winv_peer pol hok w _ hw (fun _ e => Label.noConfusion e) h

theorem winv_run (pol : Policy) (hok : pol.Ok) (w : WSt) (sched : List Label) (hw : ∀ l ∈ sched, l.wf = true)
    (h : WInv w) : WInv (wrun pol w sched) :=
  Fold.foldl_inv_mem sched (fun w l hl h => winv_step pol hok w l (hw l hl) h) w h

/-- parking changes nothing that is sent: one step of the model with parking is one step of `Model/Flow.lean` -/
theorem wstep_base (pol : Policy) (w : WSt) (l : Label) (h : WInv w) : (wstep pol w l).base = step w.base l := by
  cases l with
  | send i =>
    simp only [wstep, step]
    split
    · rename_i hstop
      simp only [Bool.or_eq_true, decide_eq_true_eq] at hstop
      symm; apply sendStep_idle
      rcases hstop with ((hc | hp) | hi) | hr
      · exact Or.inl hc
      · rw [h.base.nopanic] at hp; exact Bool.noConfusion hp
      · exact Or.inr (Or.inl hi)
      · exact Or.inr (Or.inr (Or.inl hr))
    rename_i hgo
    simp only [Bool.or_eq_true, decide_eq_true_eq, not_or, Bool.not_eq_true] at hgo
    obtain ⟨⟨⟨hc, hp⟩, hi⟩, hr⟩ := hgo
    split
    · rename_i hsl
      symm; apply sendStep_idle
      exact Or.inr (Or.inr (Or.inr (h.quiet i hsl hc)))
    · split
      · rfl
      · rename_i hen
        symm; apply sendStep_idle
        exact Or.inr (Or.inr (Or.inr (not_enabled _ _ _ (by simpa using hen))))
  | _ => rfl

theorem wrun_base (pol : Policy) (hok : pol.Ok) (w : WSt) (sched : List Label) (hw : ∀ l ∈ sched, l.wf = true)
    (h : WInv w) : (wrun pol w sched).base = run w.base sched :=
  (List.foldl_rel (r := fun w s => WInv w ∧ w.base = s) ⟨h, rfl⟩ fun l hl w _ hws =>
    ⟨winv_step pol hok w l (hw l hl) hws.1, hws.2 ▸ wstep_base pol w l hws.1⟩).2

end MosnVerif.Lemmas.FlowWake
