import MosnVerif.Model.Headers
import MosnVerif.Lemmas.KeyedList
namespace MosnVerif.Model.Headers
open MosnVerif.Gen.HeaderMutation

theorem get_del_same (h : Hdrs) (k : String) : get (del h k) k = none := by
  rw [get, del, Lemmas.KeyedList.find?_filter_ne, if_pos rfl]
  rfl

theorem get_del_other (h : Hdrs) (k k' : String) (hne : k ≠ k') : get (del h k) k' = get h k' := by
  rw [get, del, Lemmas.KeyedList.find?_filter_ne, if_neg hne.symm]
  rfl

theorem get_set_same (h : Hdrs) (k v : String) : get (set h k v) k = some v := by
  simp [get, set]

theorem get_set_other (h : Hdrs) (k k' v : String) (hne : k ≠ k') : get (set h k v) k' = get h k' := by
  have : get (set h k v) k' = get (del h k) k' := by
    simp [get, set, hne]
  rw [this, get_del_other h k k' hne]

open MosnVerif.Gen.ProxyTimeout

/-- the regenerated `parseProxyTimeout` with its four "if present and numeric then overwrite" blocks read as the two source
chains of `pickTimeout` (a later block overwrites an earlier one: variable over header over route) -/
theorem parseProxyTimeout_eq (pI : String → Option Int) (g0 t0 : Int) (hasRoute : Bool) (rg rt : Int)
    (hT hG vT vG : Option String) :
    parseProxyTimeout pI g0 t0 hasRoute rg rt hT hG vT vG =
      let t := pickTimeout pI vT hT hasRoute rt t0
      let g := pickTimeout pI vG hG hasRoute rg g0
      let g' := if decide (g ≤ 0) then 60000000000 else g   -- `<= 0` (pkg/proxy/util.go: a negative global timeout is defaulted like 0; fix 5469cdf61 of /repo)
      (g', if decide (t ≥ g') then 0 else t) := by
  cases hasRoute <;> cases hT <;> cases hG <;> cases vT <;> cases vG <;> rfl

end MosnVerif.Model.Headers
