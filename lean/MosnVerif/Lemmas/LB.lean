import MosnVerif.Model.LB
import MosnVerif.Lemmas.EDF
import MosnVerif.Lemmas.Fold
/-! Every policy's result passed a health check; the traversals cover every index. Over all-healthy hosts the weighted
round-robin lookups are the picks of the EDF scheduler. -/
namespace MosnVerif.Model.LB
open MosnVerif.Gen

theorem getIdx_lt {n : Nat} (i : Nat) (h : 0 < n) : getIdx n i < n := by
  unfold getIdx LB.getIndex
  simp only [decide_eq_true_eq, ge_iff_le]
  split <;> split <;> omega

theorem getIdx_of_lt {n i : Nat} (h : i < n) : getIdx n i = i := by
  unfold getIdx LB.getIndex
  simp only [decide_eq_true_eq, ge_iff_le]
  split <;> split <;> omega

theorem hAt_lt {hs : Hosts} {i : Nat} (h : hAt hs i = true) : i < hs.length := by
  unfold hAt at h
  split at h
  · rename_i x hx
    exact (List.getElem?_eq_some_iff.mp hx).1
  · simp at h

theorem hAt_ge {hs : Hosts} {i : Nat} (h : hs.length ≤ i) : hAt hs i = false := by
  cases hh : hAt hs i
  · rfl
  · have := hAt_lt hh; omega

theorem firstHealthy_some {hs : Hosts} {l : List Nat} {i : Nat} (h : firstHealthy hs l = some i) :
    hAt hs i = true ∧ i ∈ l := by
  unfold firstHealthy at h
  exact ⟨List.find?_some h, List.mem_of_find?_eq_some h⟩

theorem firstHealthy_none {hs : Hosts} {l : List Nat} (h : firstHealthy hs l = none) :
    ∀ i ∈ l, hAt hs i = false := by
  unfold firstHealthy at h
  intro i hi
  have := List.find?_eq_none.mp h i hi
  simpa using this

/-- a traversal `(start + i) % total, i < total` visits every index. -/
theorem scanIdxs_covers {total start j : Nat} (hj : j < total) : j ∈ scanIdxs total start := by
  have ht : 0 < total := by omega
  have hs := Nat.mod_lt start ht
  -- the step that brings `start` round to `j`
  refine List.mem_map.mpr ⟨(j + total - start % total) % total, List.mem_range.mpr (Nat.mod_lt _ ht), ?_⟩
  have e : start + (j + total - start % total) = j + total * (start / total + 1) := by
    have := Nat.div_add_mod start total
    rw [Nat.mul_add]
    omega
  rw [Nat.add_mod_mod, e, Nat.add_mul_mod_self_left, Nat.mod_eq_of_lt hj]
  exact getIdx_of_lt hj

/-- what C05 asks of one lookup result. -/
def Good (hs : Hosts) (r : Option Nat) : Prop :=
  (∀ i, r = some i → hAt hs i = true) ∧ (r = none → ∀ i, hAt hs i = false)

theorem good_empty {hs : Hosts} (h0 : hs.length = 0) : Good hs none :=
  ⟨nofun, fun _ i => hAt_ge (h0 ▸ Nat.zero_le i)⟩

theorem good_some {hs : Hosts} {i : Nat} (h : hAt hs i = true) : Good hs (some i) :=
  ⟨fun _ hj => Option.some.inj hj ▸ h, nofun⟩

theorem good_scan (hs : Hosts) (start : Nat) : Good hs (firstHealthy hs (scanIdxs hs.length start)) := by
  constructor
  · intro i h; exact (firstHealthy_some h).1
  · intro h i
    by_cases hi : i < hs.length
    · exact firstHealthy_none h i (scanIdxs_covers hi)
    · exact hAt_ge (by omega)

theorem rrChoose_good (hs : Hosts) (c : Nat) : Good hs (rrChoose hs c).1 := by
  unfold rrChoose
  simp only
  split
  · rename_i h0; exact good_empty h0
  · split
    · rename_i cv hcv
      have := List.find?_some hcv
      exact good_some (by simpa using this)
    · exact good_scan hs _

/-- a step of the power-of-`choice` fold keeps its candidate or takes a host that passed the health check. -/
theorem p2cStep_some {hs : Hosts} {stat : Host → Nat} (cand : Option Nat) (d : Nat)
    (hc : ∀ c, cand = some c → hAt hs c = true) (c : Nat) (hcc : p2cStep hs stat cand d = some c) : hAt hs c = true := by
  unfold p2cStep at hcc
  simp only at hcc
  split at hcc
  · exact hc c hcc
  · rename_i hh
    split at hcc
    · simp at hcc; subst hcc; simpa using hh
    · split at hcc
      · simp at hcc; subst hcc; simpa using hh
      · exact hc c hcc

theorem p2c_good (hs : Hosts) (stat : Host → Nat) (choice : Nat) (draws : List Nat) :
    Good hs (p2c hs stat choice draws).1 := by
  unfold p2c
  split
  · rename_i cnd hc
    exact good_some (Lemmas.Fold.foldl_inv p2cStep_some _ none (by simp) _ hc)
  · exact good_scan hs _

theorem ewmaStep_some {hs : Hosts} (cand : Option Nat) (t : Nat) (hc : ∀ c, cand = some c → hAt hs c = true) (c : Nat)
    (hcc : ewmaStep hs cand t = some c) : hAt hs c = true := by
  unfold ewmaStep at hcc
  split at hcc
  · exact hc c hcc
  · rename_i hh
    split at hcc
    · simp at hcc; subst hcc; simpa using hh
    · split at hcc
      · simp at hcc; subst hcc; simpa using hh
      · exact hc c hcc

theorem ewma_fold_none (hs : Hosts) (l : List Nat) (cand : Option Nat)
    (h : l.foldl (ewmaStep hs) cand = none) : cand = none ∧ ∀ t ∈ l, hAt hs t = false := by
  induction l generalizing cand with
  | nil => simpa using h
  | cons d r ih =>
    simp only [List.foldl_cons] at h
    obtain ⟨h1, h2⟩ := ih _ h
    unfold ewmaStep at h1
    split at h1
    · rename_i hh
      refine ⟨h1, ?_⟩
      intro t ht
      simp at ht
      rcases ht with rfl | ht
      · simpa using hh
      · exact h2 t ht
    · split at h1
      · simp at h1
      · split at h1 <;> simp at h1

theorem edfLoop_some (hs : Hosts) (wf : Nat → Rat) (k : Nat) (s : EDF.Sched) (hints : List (Option Nat))
    (i : Nat) (h : (edfLoop hs wf k s hints).1 = some i) : hAt hs i = true := by
  induction k generalizing s hints with
  | zero => simp [edfLoop] at h
  | succ k ih =>
    unfold edfLoop at h
    split at h
    · simp at h
    · rename_i j s' _
      split at h
      · rename_i hh; simp at h; subst h; exact hh
      · exact ih _ _ h

theorem edfFront_done (hs : Hosts) (st : LBState) (wf : Nat → Rat) (hints : List (Option Nat))
    (r : Option Nat) (st' : LBState) (h' : List (Option Nat))
    (h : edfFront hs st wf hints = .done r st' h') : Good hs r := by
  unfold edfFront at h
  simp only at h
  split at h
  · rename_i h0
    injection h with h1; subst h1; exact good_empty h0
  · split at h
    · rename_i h1
      injection h with hr; subst hr
      -- one host: the scan from 0
      have := good_scan hs 0
      rw [h1] at this ⊢
      exact List.find?_singleton ▸ this
    · split at h
      · simp at h
      · split at h
        · rename_i i s' hh heq
          injection h with hr; subst hr
          have := edfLoop_some hs wf hs.length _ hints i (by rw [heq])
          exact good_some this
        · simp at h

theorem randomChoose_good (hs : Hosts) (st : LBState) (c : Call) : Good hs (randomChoose hs st c).result := by
  unfold randomChoose
  simp only
  split
  · rename_i h0; exact good_empty h0
  · split
    · rename_i hh
      exact good_some (by simpa using hh)
    · exact rrChoose_good hs st.rr

theorem reqRRChoose_good (hs : Hosts) (st : LBState) (c : Call) : Good hs (reqRRChoose hs st c).result := by
  unfold reqRRChoose
  simp only
  split
  · rename_i h0; exact good_empty h0
  · exact good_scan hs _

theorem maglevChoose_good (hs : Hosts) (st : LBState) (c : Call) (hk : c.table.isSome = true) :
    Good hs (maglevChoose hs st c).result := by
  unfold maglevChoose
  simp only
  split
  · rename_i hn; rw [hn] at hk; simp at hk
  · split
    · rename_i h0; exact good_empty h0
    · split <;> simp only <;> split
      all_goals first
        | exact good_scan hs _
        | (rename_i hh
           simp only [Bool.or_eq_true, Bool.not_eq_eq_eq_not, Bool.not_true, not_or, Bool.not_eq_false] at hh
           exact good_some (by simpa using hh.1))

theorem wrrChoose_good (hs : Hosts) (st : LBState) (c : Call) : Good hs (wrrChoose hs st c).result := by
  unfold wrrChoose
  split
  · rename_i r st' h' heq
    exact edfFront_done hs st _ _ r st' h' heq
  · exact rrChoose_good hs _

theorem leastChoose_good (stat : Host → Nat) (wf : Hosts → Nat → Rat) (choice : Nat) (hs : Hosts) (st : LBState)
    (c : Call) : Good hs (leastChoose stat wf choice hs st c).result := by
  unfold leastChoose
  split
  · rename_i r st' h' heq
    exact edfFront_done hs st _ _ r st' h' heq
  · exact p2c_good hs stat choice c.draws

theorem ewmaChoose_good (choice : Nat) (hs : Hosts) (st : LBState) (c : Call) :
    Good hs (ewmaChoose choice hs st c).result := by
  unfold ewmaChoose
  split
  · rename_i r st' h' heq
    exact edfFront_done hs st _ _ r st' h' heq
  · simp only
    split
    · constructor
      · intro i hi; exact Lemmas.Fold.foldl_inv ewmaStep_some _ none (by simp) i hi
      · intro hn i
        by_cases hi : i < hs.length
        · exact (ewma_fold_none hs _ none hn).2 i (scanIdxs_covers hi)
        · exact hAt_ge (by omega)
    · split
      · rename_i cnd hc
        exact good_some (Lemmas.Fold.foldl_inv ewmaStep_some _ none (by simp) _ hc)
      · exact rrChoose_good hs _

/-- every policy, every state, every call: the result is good (maglev: for a keyed call). -/
theorem choose_good (p : Policy) (choice : Nat) (hs : Hosts) (st : LBState) (c : Call)
    (hk : keyed p c = true) : Good hs (choose p choice hs st c).result := by
  cases p <;> simp only [choose]
  · exact rrChoose_good hs st.rr
  · exact randomChoose_good hs st c
  · exact wrrChoose_good hs st c
  · exact leastChoose_good _ _ choice hs st c
  · exact leastChoose_good _ _ choice hs st c
  · exact reqRRChoose_good hs st c
  · exact maglevChoose_good hs st c (by simpa [keyed] using hk)
  · exact ewmaChoose_good choice hs st c

theorem choose_unkeyed (p : Policy) (choice : Nat) (hs : Hosts) (st : LBState) (c : Call)
    (hk : keyed p c = false) : (choose p choice hs st c).result = none := by
  cases p <;> simp [keyed] at hk
  simp [choose, maglevChoose, hk]

theorem anyHealthy_iff (hs : Hosts) : anyHealthy hs = true ↔ ∃ i, hAt hs i = true := by
  unfold anyHealthy
  rw [List.any_eq_true]
  constructor
  · rintro ⟨h, hm, hh⟩
    obtain ⟨i, hi, rfl⟩ := List.mem_iff_getElem.mp hm
    exact ⟨i, by simp [hAt, hi, hh]⟩
  · rintro ⟨i, hi⟩
    have hl := hAt_lt hi
    refine ⟨hs[i], List.getElem_mem hl, ?_⟩
    simpa [hAt, hl] using hi

/-- a good result satisfies the executable predicate. -/
theorem good_specChoice {hs : Hosts} {r : Option Nat} (g : Good hs r) : specChoice hs r = true := by
  unfold specChoice
  split
  · rename_i i
    have := g.1 i rfl
    simp [this, hAt_lt this]
  · have := g.2 rfl
    cases ha : anyHealthy hs
    · rfl
    · obtain ⟨i, hi⟩ := (anyHealthy_iff hs).mp ha
      rw [this i] at hi; simp at hi

open MosnVerif.Model.EDF

theorem count_map_some (l : List Nat) (k : Nat) : (l.map some).count (some k) = l.count k :=
  -- `count` is `countP (· == ·)`, and `some x == some k` computes to `x == k`
  List.countP_map.trans rfl

theorem wrrWf_pos (hs : Hosts) (k : Nat) : 0 < wrrWf hs k := by
  unfold wrrWf fixedWeight
  exact Rat.intCast_pos.mpr (by have := (fixHostWeight_range ((statAt hs (·.weight) k : Nat) : Int)).1; omega)

/-- over all-healthy hosts (≥ 2, scheduler built) a lookup of the weighted round-robin balancer is exactly one
`NextAndPush` of its EDF scheduler. -/
theorem wrrChoose_all_healthy (hs : Hosts) (hall : ∀ i, i < hs.length → hAt hs i = true) (h2 : 2 ≤ hs.length)
    (st : LBState) (s : Sched) (hst : st.sched = some s)
    (R : Ready (wrrWf hs) hs.length s) (hint : Option Nat) :
    ∃ i s', s.nextAndPush (wrrWf hs) hint = some (i, s') ∧
      (wrrChoose hs st { hints := [hint] }).result = some i ∧
      (wrrChoose hs st { hints := [hint] }).st = { st with sched := some s' } := by
  obtain ⟨i, s', hn⟩ := nextAndPush_some (R.ne_nil (by omega)) (wrrWf hs) hint
  have hlt : i < hs.length := (R.next (wrrWf_pos hs) hn).2
  have h0 : ¬ hs.length = 0 := by omega
  have h1 : ¬ hs.length = 1 := by omega
  -- the first pick of the weighted loop is healthy
  have hloop : edfLoop hs (wrrWf hs) hs.length s [hint] = (some i, s', []) := by
    obtain ⟨k, hk⟩ : ∃ k, hs.length = k + 1 := ⟨hs.length - 1, by omega⟩
    rw [hk]
    unfold edfLoop
    simp only [List.headD_cons, hn, hall i hlt, if_true, List.tail_cons]
  refine ⟨i, s', hn, ?_, ?_⟩
  all_goals
    unfold wrrChoose edfFront
    simp only [h0, h1, if_false, hst, hloop]

/-- hence the hosts served by consecutive lookups are the picks of a scheduler run (and the scheduler state follows). -/
theorem wrrServe_eq_run (hs : Hosts) (hall : ∀ i, i < hs.length → hAt hs i = true) (h2 : 2 ≤ hs.length)
    (hints : List (Option Nat)) (st : LBState) (s : Sched) (hst : st.sched = some s)
    (R : Ready (wrrWf hs) hs.length s) :
    wrrServe hs st hints =
      (((s.run (wrrWf hs) hints).1).map some, { st with sched := some (s.run (wrrWf hs) hints).2 }) := by
  induction hints generalizing st s with
  | nil =>
    simp only [wrrServe, Sched.run, List.map_nil]
    cases st; simp at hst; simp [hst]
  | cons h r ih =>
    obtain ⟨i, s', h1, h2', h3⟩ := wrrChoose_all_healthy hs hall h2 st s hst R h
    unfold wrrServe
    rw [run_cons_some r h1]
    simp only [h2', h3]
    rw [ih { st with sched := some s' } s' rfl (R.next (wrrWf_pos hs) h1).1]
    simp

end MosnVerif.Model.LB
