import MosnVerif.Model.CriteriaFlow
import MosnVerif.Lemmas.SubsetRequest
/-! Without memoisation every selection of a request uses `assemble (current route) (current variable)`. -/
namespace MosnVerif.Model.CriteriaFlow
open MosnVerif MosnVerif.Model.Subset MosnVerif.Model.SubsetRequest

theorem select_fresh (copied : Bool) (s : S) : (select false copied s).1 = (assemble s.route s.var).used := by
  simp [select]

theorem run_fresh (copied : Bool) (steps : List Step) :
    ∀ s, ∀ x ∈ run false copied s steps, x.2 = (assemble x.1.route x.1.var).used := by
  induction steps with
  | nil => intro s x hx; simp [run] at hx
  | cons st r ih =>
    intro s x hx
    cases st with
    | select =>
      simp only [run, List.mem_cons] at hx
      rcases hx with rfl | hx
      · exact select_fresh copied s
      · exact ih _ x hx
    | store _ | put _ | del _ | route _ => exact ih _ x (by simpa [run] using hx)

/-- with the copy the variable is what the filters left: a selection changes neither the variable nor the route object -/
theorem select_keeps (s : S) : ((select false true s).2.var, (select false true s).2.route) = (s.var, s.route) := by
  simp [select, varAfter, assemble_route]

end MosnVerif.Model.CriteriaFlow
