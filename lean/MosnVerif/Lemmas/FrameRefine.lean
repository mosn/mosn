import MosnVerif.Lemmas.FrameChk
/-! the checked-access decoders (C08) classify every buffer exactly as the `frameStep`s of C07 do -/
namespace MosnVerif.Model.FrameChk
open MosnVerif.Model.Framing MosnVerif.Model.FrameBytes MosnVerif.Model.KVBlock MosnVerif.Model.FrameSteps
open MosnVerif.Gen.FrameLen MosnVerif.Gen.FrameConsts

theorem u8_take (b : Bytes) (n i : Nat) (h : i < n) : u8 (b.take n) i = u8 b i := be_take b n i (i + 1) h

theorem out_alloc (n : Nat) (r : Res) : (alloc n r).out = r.out := rfl

theorem hdrLen_ge (id : LayId) : 20 ≤ (layoutOf id).hdrLen := by
  cases id <;> decide

/-- the rules of a version answer once that version's shortest header is buffered -/
theorem v1rules_enough (b : Bytes) (h : 20 ≤ b.length) : v1rules b ≠ .needMore := by
  unfold v1rules
  rw [if_neg (by simp [bolt_enough, h])]
  split <;> nofun

theorem v2rules_enough (b : Bytes) (h : 22 ≤ b.length) : v2rules b ≠ .needMore := by
  unfold v2rules
  rw [if_neg (by simp [boltv2_enough, h])]
  split <;> nofun

/-- `v2rules` only answers v2 layouts, whose header is ≥ 22 bytes -/
theorem v2rules_lay {b : Bytes} {id : LayId} (h : v2rules b = .lay id) : 22 ≤ (layoutOf id).hdrLen := by
  unfold v2rules at h
  split at h
  · cases h
  · split at h <;> cases h <;> decide

/-- the layout chosen on a buffer is already chosen on its first `n` bytes, once they hold that layout's header: the
converse of `boltSel_ext` -/
theorem boltSel_take (k : Nat) (v2 : Bool) (b : Bytes) (n : Nat) (id : LayId) (h : boltSel k v2 b = .lay id)
    (hn : (layoutOf id).hdrLen ≤ n) (hb : n ≤ b.length) : boltSel k v2 (b.take n) = .lay id := by
  have h20 := hdrLen_ge id
  have hl : (b.take n).length = n := by rw [List.length_take, Nat.min_eq_left hb]
  obtain ⟨r, hr, h1, h2⟩ := boltSel_route k v2 (p := b) (q := b.take n) (by omega) (by omega) (u8_take b n 0 (by omega)).symm
  rw [h1] at h
  rw [h2]
  rcases hr with rfl | rfl | rfl
  · exact (v1rules_ext.take b n (v1rules_enough _ (by omega))).trans h
  · exact (v2rules_ext.take b n (v2rules_enough _ (by have := v2rules_lay h; omega))).trans h
  · exact h

theorem layoutHdr_len {L : Layout} (hL : LayoutOk L) {b : Bytes} {n : Nat} (h : layoutHdr L b = .len n) :
    L.hdrLen ≤ n ∧ n ≤ b.length ∧ L.hl.2 ≤ n := by
  unfold layoutHdr at h
  split at h
  · cases h
  · dsimp only at h
    split at h
    · cases h
    · rename_i h2
      cases h
      rw [hL.f7, hL.f4]
      have := hL.f3 _ _ (by simpa using h2)
      rw [hL.f4] at this
      have := hL.f9
      omega

/-- **bolt / boltv2**: the checked decoder and the `frameStep` of C07 agree on every buffer -/
theorem chkBolt_refines (v2 : Bool) (b : Bytes) :
    (chkBolt v2 b).out.toStep b = envelope (boltHdr v2) (boltOk v2) b := by
  unfold chkBolt envelope boltHdr
  rw [chkSel_eq]
  cases hs : boltSel selFuel v2 b with
  | needMore => rfl
  | error => rfl
  | lay id =>
    have hL := layoutOk id
    simp only
    rw [chkLayout_eq _ hL b]
    refine ofHdr_toStep (layoutHdr (layoutOf id)) (boltOk v2) b fun n hn => ?_
    obtain ⟨h1, h2, h3⟩ := layoutHdr_len hL hn
    unfold boltOk kvBody
    rw [boltSel_take selFuel v2 b n id hs h1 h2]
    simp only [fld_take b n _ h3, out_alloc]
    by_cases hh : fld b (layoutOf id).hl > 0
    · simp only [hh, ↓reduceIte]
      cases hk : safe (boltBlock (layoutOf id) (b.take n)) with
      | ok p => rfl
      | err => rfl
      | oob => exact absurd hk (safe_no_oob _)
    · simp only [hh, ↓reduceIte]; rfl

theorem chkDubbo_refines (oracle : Bytes → Bool) (b : Bytes) :
    (chkDubbo oracle b).out.toStep b = frameStep_dubbo oracle b := by
  rw [chkDubbo_eq]
  exact ofHdr_toStep dubboHdr (dubboOk oracle) b fun n _ => verdict_toStep b n _

theorem chkTars_refines (oracle : Bytes → Bool) (b : Bytes) :
    (chkTars oracle b).out.toStep b = frameStep_tars oracle b := by
  rw [chkTars_eq]
  exact ofHdr_toStep tarsHdr oracle b fun n _ => verdict_toStep b n _

theorem chkThrift_refines (oracle : Bytes → Bool) (b : Bytes) :
    (chkThrift oracle b).out.toStep b = frameStep_thrift oracle b := by
  rw [chkThrift_eq]
  refine ofHdr_toStep thriftHdr (thriftOk oracle) b fun n _ => ?_
  unfold thriftOk
  -- a failed bounds test is a recovered panic: a decode error, as a refusal of the oracle is
  cases thriftBoundsOk (b.take n)
  · rfl
  · cases oracle (b.take n) <;> rfl

end MosnVerif.Model.FrameChk
