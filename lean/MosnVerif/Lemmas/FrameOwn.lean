import MosnVerif.Lemmas.Framing
import MosnVerif.Lemmas.FrameSteps
import MosnVerif.Model.FrameOwn
import MosnVerif.Lemmas.Fold
/-! lemmas for Model/FrameOwn (content locality, ownership of delivered bodies); core Lean only -/
namespace MosnVerif.Model.FrameOwn
open MosnVerif.Model.Framing MosnVerif.Model.FrameSteps

variable {C : Type}

/-- one call: once the frame is complete, what follows it in the buffer changes nothing — neither the verdict nor
the decoded content -/
theorem envelopeC_suffix (h : Bytes → Hdr) (hh : HdrStable h) (parse : Bytes → Option C) (p e : Bytes) (n : Nat)
    (hp : h p = .len n) : envelopeC h .frameCopy parse (p ++ e) = envelopeC h .frameCopy parse p := by
  have hle := (hh.pos p n hp).2
  unfold envelopeC
  rw [hh.ext p n e hp, hp]
  simp only [window, List.take_append_of_le_length hle]

/-- a decoder whose payload parser is constructed on the private frame copy is prefix-stable, whatever the parser -/
theorem envelopeC_stable (h : Bytes → Hdr) (hh : HdrStable h) (parse : Bytes → Option C) :
    Stable (envelopeC h .frameCopy parse) := by
  refine .of_final (fun p f n hd => ?_) (fun p e hd => ?_)
  · revert hd
    fun_cases envelopeC h .frameCopy parse p with
    | case3 m hm => rintro ⟨⟩; exact hh.pos p _ hm
    | _ => nofun
  · cases hl : h p with
    | needMore => exact absurd (by simp [envelopeC, hl]) hd
    | error => simp only [envelopeC, hl, hh.errExt p e hl]
    | len n => exact envelopeC_suffix h hh parse p e n hl

/-- a frame alone in the buffer vs. followed by anything: the content is `parse` of the frame's own bytes -/
theorem envelopeC_frame (h : Bytes → Hdr) (hh : HdrStable h) (parse : Bytes → Option C) (f e : Bytes) (c : C)
    (hf : h f = .len f.length) (hc : parse f = some c) :
    envelopeC h .frameCopy parse (f ++ e) = .frame (f, c) f.length := by
  rw [envelopeC_suffix h hh parse f e f.length hf]
  unfold envelopeC
  rw [hf]
  simp only [window, List.take_length, hc]

/-- under the copy discipline the body under construction is always an owned buffer holding exactly what was sent, and
so is a body that was delivered -/
def Owned (s : St) : Prop :=
  (s.recData = none ∧ s.sent = [] ∨ s.recData = some (.owned s.sent)) ∧ (s.delivered = none ∨ ∃ b, s.delivered = some (.owned b))

theorem step_copy_inv (s : St) (e : Ev) (h : Owned s) : Owned (step .copy s e) := by
  obtain ⟨hr, hd⟩ := h
  cases e with
  | refill m => exact ⟨by simpa [step] using hr, by simpa [step] using hd⟩
  | data off len es =>
    -- either way the body under construction becomes an owned copy of all that was sent
    have hr' : (step .copy s (.data off len es)).recData = some (.owned (s.sent ++ (s.mem.drop off).take len)) := by
      rcases hr with ⟨h1, h2⟩ | h1
      · simp [step, h1, h2]
      · simp [step, h1, Body.read]
    refine ⟨.inr hr', ?_⟩
    by_cases hes : es
    · exact .inr ⟨_, by simpa [step, hes] using hr'⟩
    · simpa [step, hes] using hd

theorem run_copy_owned (m0 : Mem) (evs : List Ev) :
    (run .copy m0 evs).delivered = none ∨ ∃ b, (run .copy m0 evs).delivered = some (.owned b) :=
  (Lemmas.Fold.foldl_inv step_copy_inv evs (St.init m0) ⟨.inl ⟨rfl, rfl⟩, .inl rfl⟩).2

/-- later reads only rewrite the memory: they never touch what was delivered -/
theorem refills_keep (p : Pass) (s : St) (later : List Mem) :
    (later.foldl (fun s m => step p s (.refill m)) s).delivered = s.delivered :=
  Lemmas.Fold.foldl_frame (·.delivered) (fun s m => step p s (.refill m)) later (fun _ _ _ => rfl) s

end MosnVerif.Model.FrameOwn
