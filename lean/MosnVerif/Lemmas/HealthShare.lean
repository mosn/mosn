import MosnVerif.Model.HealthShare
import MosnVerif.Lemmas.HealthLifecycle
import MosnVerif.Lemmas.HealthLifecycleRef
/-! One health word per address for the whole process, checkers per cluster: with the regenerated flag writes empty, a run of
the process model is the life-cycle run of the compiled operation list (`run_eq`), so the life-cycle lemmas lift. -/
namespace MosnVerif.Model.HealthShare
open MosnVerif.Model.HealthLifecycle (Addr Cid Word World runOps Good)
open MosnVerif.Model.HealthCheck (Result Out)
open MosnVerif.Model

/-! ### what the regenerated module says about the current source -/
theorem gen_updateHosts_no_flag_write : Gen.HealthShare.updateHostsWrites = [] := rfl
theorem gen_newHost_no_flag_write : Gen.HealthShare.newHostWrites = [] := rfl
theorem gen_word_by_address : Gen.HealthShare.wordByAddress = true := rfl
theorem gen_initZero (t : Nat × Nat) : initZero t = true := by
  simp [initZero, Gen.HealthShare.newCheckerUn, Gen.HealthShare.newCheckerHc]

theorem updateHostsEffects_id (ck : Bool) (hs : List Addr) (w : World) : updateHostsEffects ck hs w = w := by
  simp [updateHostsEffects, gen_updateHosts_no_flag_write]
theorem newHostEffects_id (l : List Addr) (w : World) : newHostEffects l w = w := by
  simp [newHostEffects, gen_newHost_no_flag_write]
theorem patchNew_id (k : Cid) (hs : List Addr) (b a : World) : patchNew k hs b a = a := by
  simp [patchNew, gen_initZero]

theorem cfg_step_none (c : Cfg) (op : SOp) (h : c.target op = none) : c.step op = c := by
  simp [Cfg.step, h]

/-- with the regenerated effects empty, one cluster-manager operation is the run of its compiled cluster-level operations -/
theorem step_eq (s : St) (op : SOp) :
    step s op = (⟨(runLc s.w (compile s.c op)).1, s.c.step op⟩, (runLc s.w (compile s.c op)).2) := by
  unfold step
  cases h : s.c.target op with
  | none => simp [cfg_step_none _ _ h]
  | some p =>
    obtain ⟨k, hs⟩ := p
    simp [newHostEffects_id, patchNew_id, updateHostsEffects_id]

theorem runLc_fst (w : World) (l : List HealthLifecycle.Op) : (runLc w l).1 = runOps w l :=
  (List.foldl_hom Prod.fst fun _ _ => rfl).symm

theorem step_fst (s : St) (op : SOp) : (step s op).1 = ⟨runOps s.w (compile s.c op), s.c.step op⟩ := by
  rw [step_eq, runLc_fst]

theorem runOps_append (w : World) (l1 l2 : List HealthLifecycle.Op) : runOps w (l1 ++ l2) = runOps (runOps w l1) l2 := by
  simp [runOps, List.foldl_append]

def cfgRun (c : Cfg) (ops : List SOp) : Cfg := ops.foldl Cfg.step c

theorem compileAll_append (c : Cfg) (l1 l2 : List SOp) :
    compileAll c (l1 ++ l2) = compileAll c l1 ++ compileAll (cfgRun c l1) l2 := by
  induction l1 generalizing c with
  | nil => rfl
  | cons x l ih => simp [compileAll, cfgRun, ih, List.append_assoc]

/-- refinement: a run of the process model is the life-cycle run of the compiled operation list -/
theorem run_eq (s : St) (ops : List SOp) : (run s ops).w = runOps s.w (compileAll s.c ops) := by
  induction ops generalizing s with
  | nil => rfl
  | cons op ops ih =>
    rw [run, List.foldl_cons, step_fst]
    exact (ih ⟨runOps s.w (compile s.c op), s.c.step op⟩).trans (runOps_append ..).symm

theorem good_run (checked : Cid → Bool) (cfg : Cid → Nat × Nat) (words0 : Addr → Word) (ops : List SOp) :
    Good (run (St.init checked cfg words0) ops).w := by
  rw [run_eq _ ops]
  exact HealthLifecycle.good_runOps _ _ (HealthLifecycle.good_init cfg words0)

/-! ### host-set and cluster updates compile to life-cycle operations only -/
def isHostOp : SOp → Bool
  | .result .. => false
  | .outlier .. => false
  | _ => true

theorem compile_lifecycle (c : Cfg) (op : SOp) (h : isHostOp op = true) : ∀ o ∈ compile c op, o.isLifecycle = true := by
  -- the branches of `compile` in the order of its definition: a host update compiles to one `setHosts` or to nothing
  fun_cases compile c op with
  | case1 | case3 | case5 | case7 => exact List.forall_mem_singleton.mpr rfl
  | case2 | case4 | case6 => exact List.forall_mem_nil _
  | case8 => exact List.forall_mem_cons.mpr ⟨rfl, List.forall_mem_singleton.mpr rfl⟩
  | case9 | case10 => cases h

theorem runLc_lifecycle (l : List HealthLifecycle.Op) (h : ∀ o ∈ l, o.isLifecycle = true) (w : World) :
    (runLc w l).1.words = w.words ∧ (runLc w l).2 = none :=
  Lemmas.Fold.foldl_inv_mem (P := fun p : World × Option Out => p.1.words = w.words ∧ p.2 = none) l
    (fun p x hx hp => ⟨(HealthLifecycle.step_lifecycle_words p.1 x (h x hx)).trans hp.1,
      HealthLifecycle.step_lifecycle_out p.1 x (h x hx)⟩) _ ⟨rfl, rfl⟩

/-- **no host-set update and no cluster update — of a cluster with or without a health checker — changes any health
word or delivers a callback** (in every state) -/
theorem hostOp_preserves (s : St) (op : SOp) (h : isHostOp op = true) :
    (step s op).1.w.words = s.w.words ∧ (step s op).2 = none := by
  rw [step_eq]
  exact runLc_lifecycle _ (compile_lifecycle s.c op h) s.w

theorem step_result (s : St) (k : Cid) (a : Addr) (r : Result) :
    (step s (.result k a r)).1.w = (HealthLifecycle.step s.w (.result k a r)).1 ∧
    (step s (.result k a r)).2 = (HealthLifecycle.step s.w (.result k a r)).2 := by
  rw [step_eq]; exact ⟨rfl, rfl⟩

theorem step_outlier (s : St) (a : Addr) (on : Bool) :
    (step s (.outlier a on)).1.w = (HealthLifecycle.step s.w (.outlier a on)).1 := by
  rw [step_eq]; rfl

/-! ### the model's observations satisfy the property predicate -/
theorem holdsSeq_lifecycle (n : Nat) (all : List HealthLifecycle.Op) (l : List HealthLifecycle.Op)
    (hl : ∀ o ∈ l, o.isLifecycle = true) (r : HealthLifecycle.Ref) (wds : Addr → Word) :
    holdsSeq n all r wds wds none l = true := by
  induction l generalizing r with
  | nil => rfl
  | cons x l ih =>
    obtain ⟨hx, hl⟩ := List.forall_mem_cons.mp hl
    simp only [holdsSeq, Bool.and_eq_true]
    exact ⟨HealthLifecycle.holdsStep_lifecycle_id n all r wds x hx, ih hl _⟩

theorem unchanged_refl (n : Nat) (w : Addr → Word) : unchanged n w w = true :=
  HealthLifecycle.all_range _ _ (fun x => by simp)

theorem holdsStep_model (m n : Nat) (all : List HealthLifecycle.Op) (s : St) (r : HealthLifecycle.Ref)
    (hs : HealthLifecycle.Sim all s.w r) (op : SOp) :
    holdsStep m n all s.c r s.w.words
      ⟨(step s op).1.w.words, (step s op).2, viewsOf m (step s op).1.w.words (step s op).1.c⟩ op = true := by
  have hc : (step s op).1.c = s.c.step op := by rw [step_eq]
  simp only [holdsStep, hc, beq_self_eq_true, Bool.and_true]
  by_cases hh : isHostOp op = true
  · have hp := hostOp_preserves s op hh
    rw [hp.1, hp.2]
    cases hcm : compile s.c op with
    | nil => simp [unchanged_refl]
    | cons x l =>
      simp only []
      exact holdsSeq_lifecycle n all _ (by rw [← hcm]; exact compile_lifecycle s.c op hh) r _
  · cases op with
    | result k a rr =>
      rw [(step_result s k a rr).1, (step_result s k a rr).2]
      simp only [compile, holdsSeq, Bool.and_true]
      exact HealthLifecycle.holds_step n all s.w r hs _
    | outlier a on =>
      rw [step_eq]
      simp only [compile, holdsSeq, Bool.and_true, runLc, List.foldl_cons, List.foldl_nil]
      exact HealthLifecycle.holds_step n all s.w r hs _
    | _ => simp [isHostOp] at hh

theorem holdsFrom_trace (m n : Nat) (all : List HealthLifecycle.Op) (ops : List SOp) (s : St) (r : HealthLifecycle.Ref)
    (hs : HealthLifecycle.Sim all s.w r) (hsub : ∀ o ∈ compileAll s.c ops, o ∈ all) :
    holdsFrom m n all s.c r s.w.words ops (trace m s ops) = true := by
  induction ops generalizing s r with
  | nil => rfl
  | cons op ops ih =>
    simp only [trace, holdsFrom, Bool.and_eq_true]
    refine ⟨holdsStep_model m n all s r hs op, ?_⟩
    obtain ⟨h1, h2⟩ := List.forall_mem_append.mp hsub
    rw [step_fst]
    exact ih ⟨_, _⟩ _ (HealthLifecycle.sim_runOps all (compile s.c op) s.w r hs h1) h2

/-- a cluster without a health checker keeps no session checker -/
def NoChk (s : St) : Prop := ∀ k, s.c.checked k = false → ∀ a, s.w.chk k a = none

theorem noChk_step (s : St) (op : SOp) (hi : NoChk s) : NoChk (step s op).1 := by
  intro k hk a
  rw [step_fst] at hk ⊢
  -- a host update of cluster `k0` reaches the health checker of `k0` only, and only if `k0` has one
  have update : ∀ k0 hs, s.c.checked k = false →
      (runOps s.w (if s.c.checked k0 then [.setHosts k0 hs] else [])).chk k a = none := by
    intro k0 hs hk'
    split
    · rename_i hc
      have : k ≠ k0 := by intro e; subst e; rw [hk'] at hc; cases hc
      simp only [runOps, List.foldl_cons, List.foldl_nil, HealthLifecycle.step]
      rw [HealthLifecycle.setHosts_chk]
      simp [this, hi k hk' a]
    · exact hi k hk' a
  cases op with
  | result k0 a0 r => exact HealthLifecycle.result_chk_other k0 a0 r s.w k a (hi k hk a)
  | outlier a0 on => exact hi k hk a
  | update k0 hs => exact update k0 hs hk
  | append k0 x => exact update k0 _ hk
  | remove k0 x => exact update k0 _ hk
  | reconf k0 cf =>
    cases cf with
    | none =>
      simp only [compile, runOps, List.foldl_cons, List.foldl_nil, HealthLifecycle.step]
      by_cases e : k = k0
      · simp [e]
      · have hk' : s.c.checked k = false := by simpa [Cfg.step, Cfg.target, HealthLifecycle.upd_apply, e] using hk
        simp [e, HealthLifecycle.stopAll_chk, hi k hk' a]
    | some p =>
      obtain ⟨u, h⟩ := p
      have e : k ≠ k0 := by
        intro e; subst e
        simp [Cfg.step, Cfg.target, HealthLifecycle.upd_apply] at hk
      have hk' : s.c.checked k = false := by simpa [Cfg.step, Cfg.target, HealthLifecycle.upd_apply, e] using hk
      simp only [compile, runOps, List.foldl_cons, List.foldl_nil, HealthLifecycle.step]
      rw [HealthLifecycle.setHosts_chk]
      simp [e, HealthLifecycle.stopAll_chk, hi k hk' a]

theorem noChk_run (s : St) (ops : List SOp) (hi : NoChk s) : NoChk (run s ops) :=
  Lemmas.Fold.foldl_inv noChk_step ops s hi

theorem noChk_init (checked : Cid → Bool) (cfg : Cid → Nat × Nat) (words0 : Addr → Word) : NoChk (St.init checked cfg words0) :=
  fun _ _ _ => rfl

end MosnVerif.Model.HealthShare
