import MosnVerif.Lemmas.StreamTable
import MosnVerif.Model.H2ClientTable
import MosnVerif.Model.H2ClientTableSpec
/-! HTTP/2 client stream table with the shape `goodShape`: the invariant `HInv` and the ids handed out (`IdInv`) along
every operation list; which stream objects an operation can answer or reset (`Eff`, walked once through `step` without the
invariant: `frame_eff`, `other_eff`; `Same` and `Untouched` are read off it). -/
namespace MosnVerif.Model.H2ClientTable
open MosnVerif.Model.StreamTable (Table lookup erase insert lookup_erase lookup_insert lookup_nil keys_erase_nodup keys_insert_nodup
  lookup_erase_some lookup_erase_self erase_of_lookup_none lookup_of_mem_nodup)

abbrev G := goodShape

/-- every piece of a delivery came in a frame with stream id `id`, and there is a header -/
def Own (id : Int) (d : Delivery) : Prop :=
  (∃ t, d.hdr = some ⟨id, t⟩) ∧ (∀ p ∈ d.body, p.fid = id) ∧ (∀ p, d.trailer = some p → p.fid = id)

/-- what a stream object has collected so far came in frames with its own id -/
def PartsOwn (x : Str) : Prop :=
  (∀ p, x.header = some p → p.fid = x.id) ∧ (∀ p ∈ x.body, p.fid = x.id) ∧ (∀ p, x.trailer = some p → p.fid = x.id)

structure HInv (s : Conn) : Prop where
  tkeys : (s.tbl.map (·.1)).Nodup
  tentry : ∀ k w, lookup s.tbl k = some w → w < s.nW ∧ (s.str w).id = k ∧ (s.str w).got = [] ∧ k ≠ 0
  mentry : ∀ k w, lookup s.mod k = some w → lookup s.tbl k = some w ∧ (s.str w).live = true ∧ (s.str w).hasCs = true ∧
      ((s.str w).pastHeaders = true → ∃ t, (s.str w).header = some ⟨k, t⟩)
  liveOk : ∀ w, (s.str w).live = true → (s.str w).got = [] ∧ (s.str w).resets = []
  once : ∀ w, (s.str w).got.length + (s.str w).resets.length ≤ 1
  own : ∀ w, (∀ d ∈ (s.str w).got, Own (s.str w).id d) ∧ PartsOwn (s.str w)
  noCs : ∀ w, (s.str w).hasCs = false → (s.str w).id = 0

theorem HInv.tbl_key {s : Conn} (h : HInv s) {k : Int} {w : Nat} (hk : lookup s.tbl k = some w) : (s.str w).id = k :=
  (h.tentry k w hk).2.1
theorem HInv.mod_key {s : Conn} (h : HInv s) {k : Int} {w : Nat} (hk : lookup s.mod k = some w) : (s.str w).id = k :=
  h.tbl_key (h.mentry k w hk).1

theorem hinv_init (first : Int) : HInv (init first) := by
  constructor <;> simp [init, lookup_nil, PartsOwn]

@[simp] theorem updW_str (s : Conn) (w : Nat) (f : Str → Str) (k : Nat) :
    (s.updW w f).str k = if k = w then f (s.str w) else s.str k := rfl
@[simp] theorem updW_tbl (s : Conn) (w : Nat) (f : Str → Str) : (s.updW w f).tbl = s.tbl := rfl
@[simp] theorem updW_mod (s : Conn) (w : Nat) (f : Str → Str) : (s.updW w f).mod = s.mod := rfl
@[simp] theorem updW_nW (s : Conn) (w : Nat) (f : Str → Str) : (s.updW w f).nW = s.nW := rfl
@[simp] theorem updW_next (s : Conn) (w : Nat) (f : Str → Str) : (s.updW w f).next = s.next := rfl
@[simp] theorem updW_last (s : Conn) (w : Nat) (f : Str → Str) : (s.updW w f).last = s.last := rfl
@[simp] theorem updW_closed (s : Conn) (w : Nat) (f : Str → Str) : (s.updW w f).closed = s.closed := rfl

/-- what holds of both branches holds of the conditional; applies without search while the goal is `P (if …)` -/
theorem of_ite {α : Sort _} {P : α → Prop} {c : Prop} [Decidable c] {a b : α} (ha : P a) (hb : P b) : P (if c then a else b) :=
  iteInduction (fun _ => ha) fun _ => hb

theorem sb_cases (s : Conn) (id : Int) (r : Bool) :
    (lookup s.mod id = none ∧ streamByID G s id r = (none, s)) ∨
    (∃ mw s1, lookup s.mod id = some mw ∧ streamByID G s id r = (some mw, s1) ∧
      s1 = if r = true then { s with mod := erase s.mod id } else s) := by
  unfold streamByID
  simp only [G, goodShape]
  cases h : lookup s.mod id with
  | none => left; simp
  | some mw => right; refine ⟨mw, _, rfl, ?_, rfl⟩; cases r <;> simp

/-- the state `streamByID` returns; removing an id the table does not hold changes nothing -/
theorem streamByID_snd (s : Conn) (id : Int) (r : Bool) :
    (streamByID G s id r).2 = if r = true then { s with mod := erase s.mod id } else s := by
  rcases sb_cases s id r with ⟨hl, hsb⟩ | ⟨mw, s1, -, hsb, hs1⟩
  · rw [hsb, erase_of_lookup_none _ _ hl]; exact (ite_self s).symm
  · rw [hsb, hs1]

/-- the common beginning of the HEADERS / DATA / trailers handlers: stream 0 is a connection error, otherwise the module
table is asked (and the entry removed with `r`); `N`: no such stream, `F`: the stream found and the state left -/
theorem handler_cases {P : Conn → Prop} (s : Conn) (id : Int) (r : Bool) (N : Conn → Conn) (F : Nat → Conn → Conn)
    (h0 : P (connClose G s)) (hn : lookup s.mod id = none → P (N s))
    (hf : ∀ mw, lookup s.mod id = some mw → P (F mw (streamByID G s id r).2)) :
    P (if id = 0 then connClose G s else
      match streamByID G s id r with
      | (none, s1) => N s1
      | (some mw, s1) => F mw s1) := by
  refine of_ite h0 ?_
  rcases sb_cases s id r with ⟨hl, hsb⟩ | ⟨mw, s1, hl, hsb, -⟩
  · rw [hsb]; exact hn hl
  · have := hf mw hl
    rw [hsb] at this ⊢
    exact this

theorem hinv_streamByID (s : Conn) (h : HInv s) (id : Int) (r : Bool) : HInv (streamByID G s id r).2 := by
  rw [streamByID_snd]
  exact of_ite { h with mentry := fun k w hl => h.mentry k w (lookup_erase_some hl).2 } h

theorem modReset_eq (s : Conn) (id : Int) : modReset G s id =
    { s with mod := erase s.mod id,
             rst := if (lookup s.mod id).isSome ∧ s.closed = false then s.rst ++ [id] else s.rst } := by
  unfold modReset
  rw [show G.modResetKey id = id from rfl, show G.modResetRemove false = true from rfl]
  rcases sb_cases s id true with ⟨hl, hsb⟩ | ⟨mw, s1, hl, hsb, hs1⟩
  · rw [hsb, hl, erase_of_lookup_none _ _ hl]; rfl
  · rw [hsb, hs1, if_pos rfl, hl]
    cases hc : s.closed <;> simp

theorem hinv_modReset (s : Conn) (h : HInv s) (id : Int) : HInv (modReset G s id) := by
  rw [modReset_eq]
  exact { h with mentry := fun k w hl => h.mentry k w (lookup_erase_some hl).2 }

theorem hinv_tblErase (s : Conn) (h : HInv s) (k : Int) (hk : lookup s.mod k = none) :
    HInv { s with tbl := erase s.tbl k } := by
  refine { h with tkeys := keys_erase_nodup _ _ h.tkeys, tentry := fun k' w hl => h.tentry k' w (lookup_erase_some hl).2,
                  mentry := fun k' w hl => ?_ }
  have := h.mentry k' w hl
  refine ⟨?_, this.2⟩
  show lookup (erase s.tbl k) k' = some w
  rw [lookup_erase]
  by_cases hkk : k' = k
  · subst hkk; simp [hk] at hl
  · simp [hkk, this.1]

/-- What holds of the rewritten stream object `w` and of every other one as it was holds of every stream object of
`s.updW w f`; `P` may mention the index. With `elab_as_elim` Lean reads `P` off the goal. -/
@[elab_as_elim]
theorem forall_updW {P : Nat → Str → Prop} (s : Conn) (w : Nat) (f : Str → Str) (v : Nat) (hw : P w (f (s.str w)))
    (ho : v ≠ w → P v (s.str v)) : P v ((s.updW w f).str v) := by
  rw [updW_str]
  by_cases e : v = w
  · rw [if_pos e, e]; exact hw
  · rw [if_neg e]; exact ho e

/-- Stream object `w` is replaced by `f (s.str w)`, tables and counters stay: the invariant stays when the new object
meets what the clauses ask of `w` (for the entries that point at it, and on its own). -/
theorem hinv_updW (s : Conn) (h : HInv s) (w : Nat) (f : Str → Str)
    (hid : (f (s.str w)).id = (s.str w).id) (hcs : (f (s.str w)).hasCs = (s.str w).hasCs)
    (htbl : ∀ k, lookup s.tbl k = some w → (f (s.str w)).got = [])
    (hmod : ∀ k, lookup s.mod k = some w → (f (s.str w)).live = true ∧
      ((f (s.str w)).pastHeaders = true → ∃ t, (f (s.str w)).header = some ⟨k, t⟩))
    (hlive : (f (s.str w)).live = true → (f (s.str w)).got = [] ∧ (f (s.str w)).resets = [])
    (honce : (f (s.str w)).got.length + (f (s.str w)).resets.length ≤ 1)
    (hown : (∀ d ∈ (f (s.str w)).got, Own (s.str w).id d) ∧ PartsOwn (f (s.str w))) : HInv (s.updW w f) :=
  ⟨h.tkeys,
    fun k v => forall_updW s w f v
      (fun hl => have t := h.tentry k w hl; ⟨t.1, hid.trans t.2.1, htbl k hl, t.2.2.2⟩) fun _ => h.tentry k v,
    fun k v => forall_updW s w f v
      (fun hl => have m := h.mentry k w hl; ⟨m.1, (hmod k hl).1, hcs.trans m.2.2.1, (hmod k hl).2⟩) fun _ => h.mentry k v,
    fun v => forall_updW s w f v hlive fun _ => h.liveOk v,
    fun v => forall_updW s w f v honce fun _ => h.once v,
    fun v => forall_updW s w f v (hid ▸ hown) fun _ => h.own v,
    fun v => forall_updW s w f v (fun hc => hid.trans (h.noCs w (hcs ▸ hc))) fun _ => h.noCs v⟩

/-- the case where `f` keeps id, registration, deliveries, notifications and liveness: only what the module entry asks
of the header and `PartsOwn` are left -/
theorem hinv_updW_parts (s : Conn) (h : HInv s) (w : Nat) (f : Str → Str)
    (hmod : ∀ k, lookup s.mod k = some w → (f (s.str w)).pastHeaders = true → ∃ t, (f (s.str w)).header = some ⟨k, t⟩)
    (hparts : PartsOwn (f (s.str w)))
    (hf : (f (s.str w)).id = (s.str w).id ∧ (f (s.str w)).hasCs = (s.str w).hasCs ∧ (f (s.str w)).got = (s.str w).got ∧
      (f (s.str w)).live = (s.str w).live ∧ (f (s.str w)).resets = (s.str w).resets := by exact ⟨rfl, rfl, rfl, rfl, rfl⟩) :
    HInv (s.updW w f) := by
  obtain ⟨e1, e2, e3, e4, e5⟩ := hf
  refine hinv_updW s h w f e1 e2 (fun k hk => e3 ▸ (h.tentry k w hk).2.2.1) (fun k hk => ⟨e4 ▸ (h.mentry k w hk).2.1, hmod k hk⟩)
    ?_ ?_ ⟨e3 ▸ (h.own w).1, hparts⟩
  · rw [e3, e4, e5]; exact h.liveOk w
  · rw [e3, e5]; exact h.once w

theorem hinv_baseReset (s : Conn) (h : HInv s) (w : Nat) (r : Reason) (hw : ∀ k, lookup s.mod k ≠ some w) :
    HInv (baseReset s w r) := by
  unfold baseReset
  split
  · rename_i hlive
    have l := h.liveOk w hlive
    refine hinv_updW s h w _ rfl rfl (fun k hk => (h.tentry k w hk).2.2.1) (fun k hk => absurd hk (hw k)) (fun hf => by cases hf)
      ?_ (h.own w)
    show (s.str w).got.length + ((s.str w).resets ++ [r]).length ≤ 1
    rw [l.1, l.2]; exact Nat.le_refl 1
  · exact h

/-- the connection after `clientStream.ResetStream` on stream object `w` has reset the module stream and removed the
table entry, before `BaseStream.ResetStream` tells the listeners -/
def resetTables (s : Conn) (w : Nat) : Conn :=
  let s1 := if (s.str w).hasCs then modReset G s (s.str w).id else s
  if (s.str w).connReset then s1 else { s1 with tbl := erase s1.tbl (s.str w).id }

theorem resetStream_eq (s : Conn) (w : Nat) (r : Reason) : resetStream G s w r =
    baseReset (resetTables s w) w (if G.goawayOverrides s.last (s.str w).id then .connFailed else r) := by
  -- `MClientStream.Reset` looks the id up a second time: `modReset` has removed it
  have again : ∀ i, (streamByID G (modReset G s i) (G.modOwnResetKey i) (G.modOwnResetRemove false)).2 = modReset G s i := fun i => by
    rcases sb_cases (modReset G s i) i true with ⟨-, hsb⟩ | ⟨mw, -, hl, -⟩
    · exact congrArg Prod.snd hsb
    · rw [modReset_eq] at hl; exact nomatch (lookup_erase_self _ _).symm.trans hl
  unfold resetStream resetTables
  simp only [again]
  cases (s.str w).hasCs <;> cases (s.str w).connReset <;> rfl

theorem resetTables_str (s : Conn) (w : Nat) : (resetTables s w).str = s.str ∧ (resetTables s w).closed = s.closed := by
  unfold resetTables
  rw [modReset_eq]
  cases (s.str w).hasCs <;> cases (s.str w).connReset <;> exact ⟨rfl, rfl⟩

theorem hinv_resetTables (s : Conn) (h : HInv s) (w : Nat) :
    HInv (resetTables s w) ∧ ∀ k, lookup (resetTables s w).mod k ≠ some w := by
  unfold resetTables
  simp only []
  generalize hs1 : (if (s.str w).hasCs = true then modReset G s (s.str w).id else s) = s1
  have h1 : HInv s1 ∧ lookup s1.mod (s.str w).id = none ∧ ∀ k, lookup s1.mod k ≠ some w := by
    subst hs1
    cases hcs : (s.str w).hasCs with
    | true =>
      rw [if_pos rfl, show (modReset G s (s.str w).id).mod = erase s.mod (s.str w).id by rw [modReset_eq]]
      exact ⟨hinv_modReset s h _, lookup_erase_self _ _,
        fun k hl => (lookup_erase_some hl).1 (h.mod_key (lookup_erase_some hl).2).symm⟩
    | false =>
      rw [if_neg nofun]
      refine ⟨h, ?_, fun k hl => by have := (h.mentry k w hl).2.2.1; rw [hcs] at this; cases this⟩
      -- an object whose request never went out has id 0, which is no key
      cases hl : lookup s.mod (s.str w).id with
      | none => rfl
      | some v => exact absurd (h.noCs w hcs) (h.tentry _ v (h.mentry _ v hl).1).2.2.2
  split
  · exact ⟨h1.1, h1.2.2⟩
  · exact ⟨hinv_tblErase s1 h1.1 _ h1.2.1, h1.2.2⟩

theorem hinv_resetStream (s : Conn) (h : HInv s) (w : Nat) (r : Reason) : HInv (resetStream G s w r) := by
  rw [resetStream_eq]
  exact hinv_baseReset _ (hinv_resetTables s h w).1 w _ (hinv_resetTables s h w).2

theorem hinv_resetAll (l : List (Int × Nat)) (s : Conn) (h : HInv s) (r : Reason) : HInv (resetAll G s r l) := by
  fun_induction resetAll G s r l with
  | case1 s => exact h
  | case2 s _ w l ih =>
    exact ih (hinv_resetStream _ (hinv_updW_parts s h w _ (fun k hk => (h.mentry k w hk).2.2.2) (h.own w).2) w r)

theorem hinv_connClose (s : Conn) (h : HInv s) : HInv (connClose G s) := by
  unfold connClose
  exact hinv_resetAll _ { s with closed := true } { h with } _

theorem hinv_streamError (s : Conn) (h : HInv s) (id : Int) : HInv (streamError G s id) := by
  unfold streamError
  split
  · exact hinv_resetStream s h _ _
  · exact h

theorem hinv_open (s : Conn) (h : HInv s) (oneway : Bool) : HInv (openStream G s oneway) := by
  unfold openStream
  simp only [G, goodShape, Bool.not_true, Bool.or_false]
  split
  · rename_i hv
    simp only [Bool.and_eq_true, decide_eq_true_eq] at hv
    refine ⟨keys_insert_nodup _ _ _ h.tkeys, ?_, ?_, ?_, ?_, ?_, ?_⟩
    · intro k w hl
      simp only [lookup_insert] at hl
      have := h.tentry k w
      grind
    · intro k w hl
      simp only [lookup_insert] at hl ⊢
      have := h.mentry k w
      have := h.tentry k w
      grind
    · intro w; have := h.liveOk w; grind
    · intro w; have := h.once w; grind
    · intro w; have := h.own w; simp only [PartsOwn] at *; grind
    · intro w; have := h.noCs w; grind
  · -- the id was refused: the new stream object is reset, the tables are untouched
    apply hinv_resetStream
    refine ⟨h.tkeys, ?_, ?_, ?_, ?_, ?_, ?_⟩
    · intro k w hl; have := h.tentry k w hl; grind
    · intro k w hl; have := h.mentry k w hl; have := h.tentry k w this.1; grind
    · intro w; have := h.liveOk w; grind
    · intro w; have := h.once w; grind
    · intro w; have := h.own w; simp only [PartsOwn] at *; grind
    · intro w; have := h.noCs w; grind

theorem updW_updW (s : Conn) (w : Nat) (f g : Str → Str) : (s.updW w f).updW w g = s.updW w (fun x => g (f x)) := by
  simp only [Conn.updW, if_true]
  congr 1
  funext k
  split <;> rfl

theorem hinv_setPast (s : Conn) (h : HInv s) (w : Nat) (hw : ∀ k, lookup s.mod k ≠ some w) :
    HInv (s.updW w (fun x => { x with pastHeaders := true })) :=
  hinv_updW_parts s h w _ (fun k hk => absurd hk (hw k)) (h.own w).2

theorem hinv_setPastTrailers (s : Conn) (h : HInv s) (w : Nat) :
    HInv (s.updW w (fun x => { x with pastTrailers := true })) :=
  hinv_updW_parts s h w _ (fun k hk => (h.mentry k w hk).2.2.2) (h.own w).2

/-- the first (not final) response HEADERS: remembered by the module stream and kept by the stream object -/
theorem hinv_setHeader (s : Conn) (h : HInv s) (id : Int) (w : Nat) (tok : Nat) (hm : lookup s.mod id = some w) :
    HInv ((s.updW w (fun x => { x with pastHeaders := true })).updW w (fun x => { x with header := some ⟨id, tok⟩, trailer := none })) := by
  rw [updW_updW]
  refine hinv_updW_parts s h w _ (fun k hk _ => ⟨tok, ?_⟩) ⟨fun p hp => ?_, (h.own w).2.2.1, nofun⟩
  · rw [← h.mod_key hk, h.mod_key hm]
  · cases hp; exact (h.mod_key hm).symm

theorem hinv_addBody (s : Conn) (h : HInv s) (id : Int) (w : Nat) (ps : List Part) (hp : ∀ p ∈ ps, p.fid = id)
    (ht : lookup s.tbl id = some w) : HInv (s.updW w (fun x => { x with body := x.body ++ ps })) := by
  have o := (h.own w).2
  refine hinv_updW_parts s h w _ (fun k hk => (h.mentry k w hk).2.2.2) ⟨o.1, fun p hp' => ?_, o.2.2⟩
  rcases List.mem_append.mp hp' with m | m
  · exact o.2.1 p m
  · exact (hp p m).trans (h.tbl_key ht).symm

theorem hinv_setTrailer (s : Conn) (h : HInv s) (id : Int) (w : Nat) (tok : Nat)
    (ht : lookup s.tbl id = some w) : HInv (s.updW w (fun x => { x with trailer := some ⟨id, tok⟩ })) := by
  have o := (h.own w).2
  refine hinv_updW_parts s h w _ (fun k hk => (h.mentry k w hk).2.2.2) ⟨o.1, o.2.1, fun p hp => ?_⟩
  cases hp; exact (h.tbl_key ht).symm

/-- the hand-over: the wrapper destroys the stream, the receiver is notified, the entry leaves the table -/
theorem hinv_deliver_erase (s : Conn) (h : HInv s) (id : Int) (w : Nat) (d : Delivery) (ht : lookup s.tbl id = some w)
    (hm : lookup s.mod id = none) (hlive : (s.str w).live = true) (hd : Own id d) :
    HInv { deliver s w d with tbl := erase (deliver s w d).tbl id } := by
  have l := h.liveOk w hlive
  have hid := h.tbl_key ht
  -- once the entry is erased no table points at `w`
  show HInv (Conn.updW { s with tbl := erase s.tbl id } w fun x => { x with live := false, got := x.got ++ [d] })
  refine hinv_updW _ (hinv_tblErase s h id hm) w _ rfl rfl (fun k hk => ?_) (fun k hk => ?_) (fun hf => by cases hf) ?_ ⟨?_, (h.own w).2⟩
  · exact absurd ((h.tbl_key (lookup_erase_some hk).2).symm.trans hid) (lookup_erase_some hk).1
  · have e : k = id := (h.mod_key hk).symm.trans hid
    exact absurd (e ▸ hk) (by rw [hm]; nofun)
  · show ((s.str w).got ++ [d]).length + (s.str w).resets.length ≤ 1
    rw [l.1, l.2]; exact Nat.le_refl 1
  · intro d' hd'
    rw [show (s.str w).got = [] from l.1] at hd'
    rw [List.mem_singleton.mp hd', show (s.str w).id = id from hid]
    exact hd

theorem hinv_finish (s : Conn) (h : HInv s) (id : Int) (w : Nat) (ht : lookup s.tbl id = some w)
    (hm : lookup s.mod id = none) (hlive : (s.str w).live = true) (hh : ∃ t, (s.str w).header = some ⟨id, t⟩) :
    HInv (finish G s w id) := by
  unfold finish
  have e : G.endDeleteKey id = id := rfl
  simp only [e]
  split
  · apply hinv_deliver_erase s h id w _ ht hm hlive
    have b := h.tentry id w ht
    have o := (h.own w).2
    simp only [PartsOwn, b.2.1] at o
    exact ⟨hh, o.2.1, o.2.2⟩
  · exact hinv_tblErase s h id hm

/-- the stream `mw` found in `mod` under `id` and the state `s1` that `streamByID` returns with it: what the module entry
promised of `mw` still holds when the entry has been removed -/
theorem found_facts (s : Conn) (h : HInv s) (id : Int) (mw : Nat) (hl : lookup s.mod id = some mw) (r : Bool) (s1 : Conn)
    (hs1 : (streamByID G s id r).2 = s1) :
    HInv s1 ∧ lookup s1.tbl id = some mw ∧ (s1.str mw).live = true ∧
      ((s1.str mw).pastHeaders = true → ∃ t, (s1.str mw).header = some ⟨id, t⟩) ∧
      (r = true → lookup s1.mod id = none ∧ ∀ k, lookup s1.mod k ≠ some mw) ∧ (r = false → lookup s1.mod id = some mw) := by
  have a := h.mentry id mw hl
  rw [streamByID_snd] at hs1
  cases r with
  | false => subst hs1; exact ⟨h, a.1, a.2.1, a.2.2.2, nofun, fun _ => hl⟩
  | true =>
    rw [if_pos rfl] at hs1
    subst hs1
    refine ⟨{ h with mentry := fun k w hk => h.mentry k w (lookup_erase_some hk).2 }, a.1, a.2.1, a.2.2.2,
      fun _ => ⟨lookup_erase_self _ _, fun k hk => ?_⟩, nofun⟩
    -- an entry that points at `mw` has the key `id`, which is erased
    exact (lookup_erase_some hk).1 ((h.mod_key (lookup_erase_some hk).2).symm.trans (h.mod_key hl))

theorem hinv_onHeaders (s : Conn) (h : HInv s) (id : Int) (tok : Nat) (ended : Bool) : HInv (onHeaders G s id tok ended) := by
  unfold onHeaders
  refine handler_cases s id ended _ _ (hinv_connClose s h) (fun _ => h) fun mw hl => ?_
  generalize hs1 : (streamByID G s id ended).2 = s1
  obtain ⟨hi, ht, hlive, -, hre, hrk⟩ := found_facts s h id mw hl ended s1 hs1
  -- a second HEADERS with :status is a connection error
  refine of_ite ?_ (hinv_connClose _ (hinv_setPastTrailers s1 hi mw))
  simp only [show G.frameLookupKey id = id from rfl, show G.hdrEndDeleteKey id = id from rfl, updW_tbl, ht]
  cases ended with
  | true =>
    rw [if_pos rfl]
    have hm := hre rfl
    have hi2 := hinv_setPast s1 hi mw hm.2
    exact of_ite (hinv_deliver_erase _ hi2 id mw _ ht hm.1 (by rw [updW_str, if_pos rfl]; exact hlive)
      ⟨⟨tok, rfl⟩, by simp, by simp⟩) hi2
  | false =>
    rw [if_neg nofun]
    exact hinv_setHeader s1 hi id mw tok (hrk rfl)

theorem hinv_onData (s : Conn) (h : HInv s) (id : Int) (tok : Nat) (ended empty : Bool) : HInv (onData G s id tok ended empty) := by
  unfold onData
  refine handler_cases s id ended _ _ (hinv_connClose s h)
    (fun _ => of_ite (hinv_connClose s h) (hinv_streamError _ (hinv_modReset s h id) id)) fun mw hl => ?_
  generalize hs1 : (streamByID G s id ended).2 = s1
  obtain ⟨hi, ht, hlive, hhdr, hre, -⟩ := found_facts s h id mw hl ended s1 hs1
  simp only [show G.frameLookupKey id = id from rfl, show G.dataBeforeHeadersErr = true from rfl, Bool.and_true]
  by_cases hp : (!(s1.str mw).pastHeaders) = true
  · rw [if_pos hp]; exact hinv_streamError _ (hinv_modReset s1 hi id) id
  · rw [if_neg hp, ht]
    simp only []
    obtain ⟨t, ht'⟩ := hhdr (by simpa using hp)
    have hb : HInv (s1.updW mw fun x => { x with body := x.body ++ if empty = true then [] else [⟨id, tok⟩] }) :=
      hinv_addBody s1 hi id mw _ (by intro p hp; split at hp <;> simp_all) ht
    by_cases he : ended = true
    · rw [if_pos he]
      exact hinv_finish _ hb id mw ht (hre he).1 (by rw [updW_str, if_pos rfl]; exact hlive)
        ⟨t, by rw [updW_str, if_pos rfl]; exact ht'⟩
    · rw [if_neg he]; exact hb

theorem hinv_onTrailers (s : Conn) (h : HInv s) (id : Int) (tok : Nat) : HInv (onTrailers G s id tok) := by
  unfold onTrailers
  refine handler_cases s id true _ _ (hinv_connClose s h) (fun _ => h) fun mw hl => ?_
  generalize hs1 : (streamByID G s id true).2 = s1
  obtain ⟨hi, ht, hlive, hhdr, hre, -⟩ := found_facts s h id mw hl true s1 hs1
  have hm := hre rfl
  by_cases hp : (!(s1.str mw).pastHeaders) = true
  · rw [if_pos hp]; exact hinv_connClose _ (hinv_setPast s1 hi mw hm.2)
  · rw [if_neg hp]
    refine of_ite (hinv_connClose s1 hi) ?_
    simp only [show G.frameLookupKey id = id from rfl, updW_tbl, ht]
    obtain ⟨t, ht'⟩ := hhdr (by simpa using hp)
    have h2 := hinv_setTrailer _ (hinv_setPastTrailers s1 hi mw) id mw tok ht
    exact hinv_finish _ h2 id mw ht hm.1 (by simp only [updW_str, if_true]; exact hlive)
      ⟨t, by simp only [updW_str, if_true]; exact ht'⟩

theorem hinv_step (s : Conn) (h : HInv s) (op : Op) : HInv (step G s op) := by
  unfold step
  refine of_ite h ?_
  cases op with
  | open_ oneway => exact hinv_open s h oneway
  | headers id tok ended => exact hinv_onHeaders s h id tok ended
  | data id tok ended empty => exact hinv_onData s h id tok ended empty
  | trailers id tok => exact hinv_onTrailers s h id tok
  | rst id => exact of_ite (hinv_connClose s h) (hinv_streamError _ (hinv_modReset _ (hinv_streamByID s h _ _) id) id)
  | window id => exact hinv_streamByID s h _ _
  | goaway last code => exact of_ite { h with } h
  | reset w => exact of_ite (hinv_resetStream s h w _) h
  | connReset => exact hinv_resetAll _ s h _
  | connError => exact hinv_connClose s h
  | noise => exact h

theorem hinv_run (s : Conn) (h : HInv s) (ops : List Op) : HInv (run G s ops) := by
  induction ops generalizing s with
  | nil => exact h
  | cons op r ih => exact ih _ (hinv_step s h op)

/-- `s'` has the id counter and the stream objects of `s` with their ids and `hasCs`, and `mod` has only lost entries;
`g`: the deliveries are those of `s` too -/
def Same (g : Bool) (s s' : Conn) : Prop :=
  s'.next = s.next ∧ s'.nW = s.nW ∧
  (∀ w, (s'.str w).id = (s.str w).id ∧ (s'.str w).hasCs = (s.str w).hasCs ∧ (g = true → (s'.str w).got = (s.str w).got)) ∧
  (∀ k w, lookup s'.mod k = some w → lookup s.mod k = some w)

theorem Same.weaken {a b : Conn} (h : Same true a b) (g : Bool) : Same g a b :=
  ⟨h.1, h.2.1, fun w => ⟨(h.2.2.1 w).1, (h.2.2.1 w).2.1, fun _ => (h.2.2.1 w).2.2 rfl⟩, h.2.2.2⟩

def Op.frameOn (id : Int) : Op → Prop
  | .headers i _ _ => i = id
  | .data i _ _ _ => i = id
  | .trailers i _ => i = id
  | .rst i => i = id
  | _ => False

theorem Op.frameOn_unique {op : Op} {a b : Int} (ha : op.frameOn a) (hb : op.frameOn b) : a = b := by
  cases op <;> first | exact ha.symm.trans hb | exact ha.elim

/-- What an operation that opens no stream does: the id counter, the stream objects' ids and `hasCs` stay, both tables only
lose entries, and a stream object is handed a delivery only if `D` holds of it, a reset notification only if `R` does. -/
structure Eff (D R : Nat → Prop) (s s' : Conn) : Prop where
  next : s'.next = s.next
  nW : s'.nW = s.nW
  ids : ∀ w, (s'.str w).id = (s.str w).id ∧ (s'.str w).hasCs = (s.str w).hasCs
  mod : ∀ k w, lookup s'.mod k = some w → lookup s.mod k = some w
  tbl : ∀ k w, lookup s'.tbl k = some w → lookup s.tbl k = some w
  got : ∀ w, ¬ D w → (s'.str w).got = (s.str w).got
  resets : ∀ w, ¬ R w → (s'.str w).resets = (s.str w).resets

namespace Eff
variable {D R : Nat → Prop} {s t : Conn}

theorem refl : Eff D R s s :=
  ⟨rfl, rfl, fun _ => ⟨rfl, rfl⟩, fun _ _ h => h, fun _ _ h => h, fun _ _ => rfl, fun _ _ => rfl⟩

theorem trans {u : Conn} (e : Eff D R s t) (f : Eff D R t u) : Eff D R s u :=
  ⟨f.next.trans e.next, f.nW.trans e.nW, fun w => ⟨(f.ids w).1.trans (e.ids w).1, (f.ids w).2.trans (e.ids w).2⟩,
    fun k w h => e.mod k w (f.mod k w h), fun k w h => e.tbl k w (f.tbl k w h),
    fun w h => (f.got w h).trans (e.got w h), fun w h => (f.resets w h).trans (e.resets w h)⟩

/-- `Same g` is a footprint: for `g = true` one in which nobody is handed a delivery -/
theorem same (e : Eff D R s t) (g : Bool) (hD : g = true → ∀ w, ¬ D w) : Same g s t :=
  ⟨e.next, e.nW, fun w => ⟨(e.ids w).1, (e.ids w).2, fun hg => e.got w (hD hg w)⟩, e.mod⟩

/-- the stream objects stay and the tables at most lose entries (the other fields are read by no clause) -/
protected theorem quiet (e : Eff D R s t) (t' : Conn) (hn : t'.next = t.next) (hw : t'.nW = t.nW) (hs : t'.str = t.str)
    (hm : ∀ k w, lookup t'.mod k = some w → lookup t.mod k = some w := by
      first | exact fun _ _ h => h | exact fun _ _ h => (lookup_erase_some h).2)
    (ht : ∀ k w, lookup t'.tbl k = some w → lookup t.tbl k = some w := by
      first | exact fun _ _ h => h | exact fun _ _ h => (lookup_erase_some h).2) : Eff D R s t' :=
  e.trans ⟨hn, hw, fun _ => by rw [hs]; exact ⟨rfl, rfl⟩, hm, ht, fun _ _ => by rw [hs], fun _ _ => by rw [hs]⟩

/-- stream object `w` is rewritten; `D w` / `R w` where its deliveries / reset notifications change -/
protected theorem upd (e : Eff D R s t) (w : Nat) (f : Str → Str) (hf : ∀ x, (f x).id = x.id ∧ (f x).hasCs = x.hasCs)
    (hg : D w ∨ ∀ x, (f x).got = x.got) (hr : R w ∨ ∀ x, (f x).resets = x.resets) : Eff D R s (t.updW w f) :=
  e.trans ⟨rfl, rfl, fun k => forall_updW t w f k (hf _) fun _ => ⟨rfl, rfl⟩, fun _ _ h => h, fun _ _ h => h,
    fun k => forall_updW t w f k (fun hk => hg.resolve_left hk _) fun _ _ => rfl,
    fun k => forall_updW t w f k (fun hk => hr.resolve_left hk _) fun _ _ => rfl⟩

/-- stream object `w` is rewritten, its id, `hasCs`, deliveries and reset notifications stay -/
theorem parts (e : Eff D R s t) (w : Nat) (f : Str → Str)
    (hf : ∀ x, (f x).id = x.id ∧ (f x).hasCs = x.hasCs ∧ (f x).got = x.got ∧ (f x).resets = x.resets := by
      exact fun _ => ⟨rfl, rfl, rfl, rfl⟩) : Eff D R s (t.updW w f) :=
  e.upd w f (fun x => ⟨(hf x).1, (hf x).2.1⟩) (.inr fun x => (hf x).2.2.1) (.inr fun x => (hf x).2.2.2)

protected theorem streamByID (e : Eff D R s t) (id : Int) (r : Bool) : Eff D R s (streamByID G t id r).2 := by
  rw [streamByID_snd]
  exact of_ite (e.quiet _ rfl rfl rfl) e

protected theorem modReset (e : Eff D R s t) (id : Int) : Eff D R s (modReset G t id) := by
  rw [modReset_eq]
  exact e.quiet _ rfl rfl rfl

protected theorem resetStream (e : Eff D R s t) (w : Nat) (r : Reason) (hw : R w) : Eff D R s (resetStream G t w r) := by
  rw [resetStream_eq]
  have e0 : Eff D R s (if (t.str w).hasCs = true then modReset G t (t.str w).id else t) :=
    of_ite (e.modReset _) e
  have e1 : Eff D R s (resetTables t w) := of_ite e0 (e0.quiet _ rfl rfl rfl)
  exact of_ite (e1.upd w _ (fun _ => ⟨rfl, rfl⟩) (.inr fun _ => rfl) (.inl hw)) e1

protected theorem resetAll (l : List (Int × Nat)) (e : Eff D R s t) (r : Reason) (hl : ∀ x ∈ l, R x.2) : Eff D R s (resetAll G t r l) := by
  fun_induction resetAll G t r l with
  | case1 t => exact e
  | case2 t k w l ih =>
    exact ih ((e.parts w (fun x => { x with connReset := true })).resetStream
      w r (hl (k, w) List.mem_cons_self)) (fun x hx => hl x (List.mem_cons_of_mem _ hx))

protected theorem connClose (e : Eff D R s t) (hR : ∀ w, R w) : Eff D R s (connClose G t) := by
  unfold connClose
  exact Eff.resetAll _ (e.quiet { t with closed := true } rfl rfl rfl) _ (fun x _ => hR x.2)

/-- a stream error for `id` resets the stream object the table holds under `id` -/
protected theorem streamError (e : Eff D R s t) (id : Int) (hR : ∀ w, lookup s.tbl id = some w → R w) : Eff D R s (streamError G t id) := by
  unfold streamError
  rw [show G.errLookupKey id = id from rfl]
  cases hl : lookup t.tbl id with
  | none => exact e
  | some w => exact e.resetStream w _ (hR w (e.tbl _ _ hl))

protected theorem deliver (e : Eff D R s t) (w : Nat) (d : Delivery) (hw : D w) : Eff D R s (deliver t w d) :=
  e.upd w _ (fun _ => ⟨rfl, rfl⟩) (.inl hw) (.inr fun _ => rfl)

protected theorem finish (e : Eff D R s t) (w : Nat) (id : Int) (hw : D w) : Eff D R s (finish G t w id) := by
  unfold finish
  simp only []
  split
  · exact (e.deliver w _ hw).quiet _ rfl rfl rfl
  · exact e.quiet _ rfl rfl rfl

end Eff

theorem resetStream_closed (s : Conn) (w : Nat) (r : Reason) : (resetStream G s w r).closed = s.closed := by
  rw [resetStream_eq, ← (resetTables_str s w).2]
  unfold baseReset
  split <;> rfl

theorem resetStream_others (s : Conn) (w : Nat) (r : Reason) (k : Nat) (hk : k ≠ w) : (resetStream G s w r).str k = s.str k := by
  rw [resetStream_eq, ← (resetTables_str s w).1]
  unfold baseReset
  split
  · rw [updW_str, if_neg hk]
  · rfl

theorem resetAll_closed (l : List (Int × Nat)) (s : Conn) (r : Reason) : (resetAll G s r l).closed = s.closed := by
  fun_induction resetAll G s r l with
  | case1 s => rfl
  | case2 s _ w l ih =>
    rw [ih, resetStream_closed]
    rfl

theorem connClose_closed (s : Conn) : (connClose G s).closed = true := by
  unfold connClose; rw [resetAll_closed]

/-- **Footprint of a frame.** A HEADERS / DATA / trailers / RST_STREAM frame with stream id `id` either closes the connection
and answers nobody, or answers only the stream object the table holds under `id`, and that only if the module table holds
`id` too, and resets only that stream object. No invariant is needed. -/
theorem frame_eff (s : Conn) (id : Int) (op : Op) (hop : op.frameOn id) :
    ((step G s op).closed = true ∧ Eff (fun _ => False) (fun _ => True) s (step G s op)) ∨
    Eff (fun w => lookup s.mod id ≠ none ∧ lookup s.tbl id = some w) (fun w => lookup s.tbl id = some w) s (step G s op) := by
  -- the successor state is kept in one place: `cl` for the branches that end in `connClose`, `ok` for the others
  suffices h : ∀ P : Conn → Prop, (∀ t, Eff (fun _ => False) (fun _ => True) s t → P (connClose G t)) →
      (∀ t, Eff (fun w => lookup s.mod id ≠ none ∧ lookup s.tbl id = some w) (fun w => lookup s.tbl id = some w) s t → P t) →
      P (step G s op) from
    h (fun s' => (s'.closed = true ∧ Eff _ _ s s') ∨ Eff _ _ s s') (fun t e => .inl ⟨connClose_closed t, e.connClose fun _ => trivial⟩)
      (fun _ e => .inr e)
  intro P cl ok
  have sb : ∀ {D R : Nat → Prop} (r : Bool), Eff D R s (streamByID G s id r).2 := fun r => Eff.refl.streamByID id r
  have sb' := sb (D := fun w => lookup s.mod id ≠ none ∧ lookup s.tbl id = some w) (R := fun w => lookup s.tbl id = some w)
  unfold step
  refine of_ite (ok _ Eff.refl) ?_
  cases op with
  | headers i tok ended =>
    obtain rfl : i = id := hop
    simp only [onHeaders]
    refine handler_cases s i _ _ _ (cl s Eff.refl) (fun _ => ok _ Eff.refl) fun mw hl => ?_
    have hm : lookup s.mod i ≠ none := by rw [hl]; nofun
    refine of_ite ?_ (cl _ ((sb _).parts mw fun x => { x with pastTrailers := true }))
    have e2 := (sb' ended).parts mw (fun x => { x with pastHeaders := true })
    split
    · exact ok _ e2
    · rename_i w hw
      exact of_ite (of_ite (ok _ ((e2.deliver w _ ⟨hm, e2.tbl _ _ hw⟩).quiet _ rfl rfl rfl)) (ok _ e2))
        (ok _ (e2.parts w _))
  | data i tok ended empty =>
    obtain rfl : i = id := hop
    simp only [onData]
    refine handler_cases s i _ _ _ (cl s Eff.refl)
      (fun _ => of_ite (cl s Eff.refl) (ok _ ((Eff.refl.modReset i).streamError i fun _ h => h)))
      fun mw hl => ?_
    have hm : lookup s.mod i ≠ none := by rw [hl]; nofun
    have e1 := sb' ended
    refine of_ite (ok _ ((e1.modReset i).streamError i fun _ h => h)) ?_
    split
    · exact ok _ e1
    · rename_i w hw
      have e2 := e1.parts w (fun x => { x with body := x.body ++ if empty = true then [] else [⟨i, tok⟩] })
      exact of_ite (ok _ (e2.finish w i ⟨hm, e1.tbl _ _ hw⟩)) (ok _ e2)
  | trailers i tok =>
    obtain rfl : i = id := hop
    simp only [onTrailers]
    refine handler_cases s i _ _ _ (cl s Eff.refl) (fun _ => ok _ Eff.refl) fun mw hl => ?_
    have hm : lookup s.mod i ≠ none := by rw [hl]; nofun
    refine of_ite (cl _ ((sb _).parts mw fun x => { x with pastHeaders := true }))
      (of_ite (cl _ (sb _)) ?_)
    have e2 := (sb' true).parts mw (fun x => { x with pastTrailers := true })
    split
    · exact ok _ e2
    · rename_i w hw
      exact ok _ ((e2.parts w (fun x => { x with trailer := some ⟨i, tok⟩ })).finish w i ⟨hm, e2.tbl _ _ hw⟩)
  | rst i =>
    obtain rfl : i = id := hop
    simp only [onRst]
    exact of_ite (cl s Eff.refl)
      (ok _ (((Eff.refl.streamByID _ _).modReset i).streamError i fun _ h => h))
  | _ => exact hop.elim

/-- **Footprint of the other operations** (no frame of a stream, no new request): nobody is answered; a `ResetStream` of `w`
resets only `w`, WINDOW_UPDATE / GOAWAY / SETTINGS reset nobody. -/
theorem other_eff (s : Conn) (op : Op) (hop : ∀ o, op ≠ .open_ o) (hf : ∀ id, ¬ op.frameOn id) :
    Eff (fun _ => False) (fun w => op = .reset w ∨ op = .connReset ∨ op = .connError) s (step G s op) := by
  unfold step
  refine of_ite Eff.refl ?_
  cases op with
  | open_ o => exact absurd rfl (hop o)
  | window id => exact Eff.refl.streamByID _ _
  | goaway last code => exact of_ite (Eff.refl.quiet _ rfl rfl rfl) Eff.refl
  | reset w => exact of_ite (Eff.refl.resetStream w _ (.inl rfl)) Eff.refl
  | connReset => exact Eff.resetAll _ Eff.refl _ (fun _ _ => .inr (.inl rfl))
  | connError => exact Eff.refl.connClose (fun _ => .inr (.inr rfl))
  | noise => exact Eff.refl
  | headers i _ _ => exact absurd rfl (hf i)
  | data i _ _ _ => exact absurd rfl (hf i)
  | trailers i _ => exact absurd rfl (hf i)
  | rst i => exact absurd rfl (hf i)

theorem step_closed (s : Conn) (op : Op) (hs : s.closed = true) : step G s op = s := by
  unfold step; rw [if_pos hs]

/-- every operation but `open_` leaves the counter, the number of stream objects and their ids alone, and their
deliveries too (`g`) unless it is a frame for a stream the module table holds -/
theorem same_step (g : Bool) (s : Conn) (op : Op) (hop : ∀ o, op ≠ .open_ o)
    (hg : g = true → ∀ id, op.frameOn id → lookup s.mod id = none) : Same g s (step G s op) := by
  by_cases hf : ∃ id, op.frameOn id
  · obtain ⟨id, hf⟩ := hf
    rcases frame_eff s id op hf with ⟨-, e⟩ | e
    · exact e.same g fun _ _ h => h
    · exact e.same g fun h w hw => hw.1 (hg h id hf)
  · exact (other_eff s op hop fun id h => hf ⟨id, h⟩).same g fun _ _ h => h

theorem frame_no_entry (s : Conn) (id : Int) (hn : lookup s.mod id = none) (op : Op) (hop : op.frameOn id) :
    Same true s (step G s op) :=
  same_step true s op (fun o e => by rw [e] at hop; exact hop) (fun _ _ h => Op.frameOn_unique hop h ▸ hn)

/-- the id `MClientConn.newStream` hands to the n-th stream object of a connection whose counter started at `first` -/
def idAt (first : Int) (n : Nat) : Int := (first % 4294967296 + 2 * (n : Int)) % 4294967296

structure IdInv (s : Conn) (first : Int) : Prop where
  next : s.next = idAt first s.nW
  ids : ∀ w, w < s.nW → (s.str w).hasCs = G.valid (idAt first w) ∧
      (s.str w).id = if G.valid (idAt first w) = true then idAt first w else 0

theorem idinv_init (first : Int) : IdInv (init first) first := by
  constructor
  · simp only [init, idAt, MosnVerif.Gen.H2ClientTable.u32]; omega
  · intro w hw; simp [init] at hw

theorem idinv_of_same (s s' : Conn) (first : Int) (h : IdInv s first) (hs : Same false s s') : IdInv s' first := by
  refine ⟨by rw [hs.1, hs.2.1]; exact h.next, fun w hw => ?_⟩
  rw [(hs.2.2.1 w).1, (hs.2.2.1 w).2.1]
  exact h.ids w (hs.2.1 ▸ hw)

/-- what a new request does to the counters and the stream objects: the counter moves on by two and there is one more
object, which carries the id (and `hasCs`) iff the id is valid; the others stay -/
theorem open_spec (s : Conn) (o : Bool) :
    (openStream G s o).next = (G.newId s.next).2 ∧ (openStream G s o).nW = s.nW + 1 ∧
    ((openStream G s o).str s.nW).hasCs = G.valid s.next ∧
    ((openStream G s o).str s.nW).id = (if G.valid s.next = true then s.next else 0) ∧
    ∀ k, k ≠ s.nW → (openStream G s o).str k = s.str k := by
  unfold openStream
  simp only [show (G.newId s.next).1 = s.next from rfl, show G.writeRefuses = true from rfl, Bool.not_true, Bool.or_false]
  by_cases hv : G.valid s.next = true
  · rw [if_pos hv, hv]
    exact ⟨rfl, rfl, by simp, by simp, fun k hk => by simp [hk]⟩
  · -- the id is refused: the new object, which has none, is reset
    have e := fun t => (@Eff.refl (fun _ => False) (fun _ => True) t).resetStream s.nW .connFailed trivial
    rw [if_neg hv, Bool.eq_false_iff.mpr hv]
    refine ⟨(e _).next, (e _).nW, ((e _).ids _).2.trans (by simp), ((e _).ids _).1.trans (by simp), fun k hk => ?_⟩
    rw [resetStream_others _ _ _ _ hk]; simp [hk]

theorem idinv_open (s : Conn) (first : Int) (h : IdInv s first) (o : Bool) : IdInv (step G s (.open_ o)) first := by
  unfold step
  split
  · exact h
  · obtain ⟨hnx, hn, hcs, hid, hoth⟩ := open_spec s o
    refine ⟨?_, fun w hw => ?_⟩
    · show (openStream G s o).next = idAt first (openStream G s o).nW
      rw [hnx, hn]; simp only [G, goodShape, h.next, idAt]; push_cast; omega
    · by_cases hwn : w = s.nW
      · rw [hwn, ← h.next]; exact ⟨hcs, hid⟩
      · rw [show (openStream G s o).str w = s.str w from hoth w hwn]
        exact h.ids w (Nat.lt_of_le_of_ne (Nat.le_of_lt_succ (hn.subst hw)) hwn)

theorem idinv_step (s : Conn) (first : Int) (h : IdInv s first) (op : Op) : IdInv (step G s op) first := by
  cases op with
  | open_ o => exact idinv_open s first h o
  | _ => exact idinv_of_same s _ first h (same_step false s _ (fun _ => nofun) nofun)

theorem idinv_run (s : Conn) (first : Int) (h : IdInv s first) (ops : List Op) : IdInv (run G s ops) first := by
  induction ops generalizing s with
  | nil => exact h
  | cons op r ih => exact ih _ (idinv_step s first h op)

theorem idAt_range (first : Int) (n : Nat) : 0 ≤ idAt first n ∧ idAt first n < 4294967296 := by
  unfold idAt; omega

theorem valid_range (x : Int) (hx : 0 ≤ x ∧ x < 4294967296) (hv : G.valid x = true) : 0 < x ∧ x < 2147483648 := by
  simp only [G, goodShape, Bool.and_eq_true, decide_eq_true_eq] at hv
  omega

theorem idAt_distinct (first : Int) (v w : Nat) (hvw : v < w) (hd : w - v < 2147483648) : idAt first v ≠ idAt first w := by
  unfold idAt; omega

theorem idAt_odd (first : Int) (n : Nat) (ho : first % 2 = 1) : idAt first n % 2 = 1 := by
  unfold idAt; omega

/-- after `ResetStream` of a stream whose request went out its id is in the module table no more -/
theorem resetStream_mod_none (s : Conn) (w : Nat) (r : Reason) (hcs : (s.str w).hasCs = true) :
    lookup (resetStream G s w r).mod (s.str w).id = none := by
  have hb : ∀ (t : Conn) (r' : Reason), (baseReset t w r').mod = t.mod := fun t r' => by unfold baseReset; split <;> rfl
  have hm : (resetTables s w).mod = erase s.mod (s.str w).id := by
    unfold resetTables
    simp only [hcs, if_true, modReset_eq]
    split <;> rfl
  rw [resetStream_eq, hb, hm, lookup_erase_self]

theorem mod_none_run (s : Conn) (id : Int) (hn : lookup s.mod id = none) (ops : List Op) (hops : ∀ op ∈ ops, ∀ o, op ≠ .open_ o) :
    lookup (run G s ops).mod id = none := by
  induction ops generalizing s with
  | nil => exact hn
  | cons op r ih =>
    apply ih _ _ (fun o ho => hops o (by simp [ho]))
    cases hl : lookup (step G s op).mod id with
    | none => rfl
    | some w => have := (same_step false s op (hops op (by simp)) nofun).2.2.2 id w hl; rw [hn] at this; simp at this

/-- what `ResetStream(r)` tells the listeners of a stream that is not destroyed yet: `r`, or ConnectionFailed iff a GOAWAY
was seen and the stream's id is above its last-stream-id -/
theorem resetStream_reason (s : Conn) (w : Nat) (r : Reason) (hl : (s.str w).live = true) :
    ((resetStream G s w r).str w).resets =
      (s.str w).resets ++ [if 0 < s.last ∧ s.last < (s.str w).id then Reason.connFailed else r] ∧
    ∀ k, k ≠ w → (resetStream G s w r).str k = s.str k := by
  refine ⟨?_, resetStream_others s w r⟩
  have hs := (resetTables_str s w).1
  rw [resetStream_eq]
  unfold baseReset
  rw [hs, if_pos hl, updW_str, if_pos rfl, hs]
  simp only [G, goodShape, Bool.and_eq_true, decide_eq_true_eq, gt_iff_lt]

/-- stream objects whose id is not `id` keep their deliveries and reset notifications -/
def Untouched (id : Int) (s s' : Conn) : Prop :=
  Same false s s' ∧ s'.closed = s.closed ∧
  ∀ w, (s.str w).id ≠ id → (s'.str w).got = (s.str w).got ∧ (s'.str w).resets = (s.str w).resets

/-- **a frame touches only its own id**: a HEADERS / DATA / trailers / RST_STREAM frame with stream id `id` that does not
close the connection changes the deliveries and reset notifications of no stream object registered under another id -/
theorem frame_touches_only_its_id (s : Conn) (h : HInv s) (id : Int) (op : Op) (hop : op.frameOn id)
    (hc : (step G s op).closed = false) : Untouched id s (step G s op) := by
  rcases frame_eff s id op hop with ⟨hcl, -⟩ | e
  · rw [hc] at hcl; cases hcl
  · refine ⟨e.same false nofun, ?_, fun w hw => ?_⟩
    · cases hs : s.closed with
      | false => exact hc
      | true => rw [step_closed s op hs]; exact hs
    · have hn : ¬ lookup s.tbl id = some w := fun hl => hw (h.tbl_key hl)
      exact ⟨e.got w fun hd => hn hd.2, e.resets w hn⟩

section Spec
open MosnVerif.Model.H2ClientTableSpec

theorem obsSpec_of_hinv (s : Conn) (h : HInv s) : obsSpec (obsOf s) = true := by
  unfold obsSpec
  simp only [Bool.and_eq_true, List.all_eq_true, decide_eq_true_eq, List.any_eq_true, beq_iff_eq]
  refine ⟨⟨?_, ?_⟩, ?_⟩
  · intro ox hox
    simp only [obsOf, List.mem_map, List.mem_range] at hox
    obtain ⟨w, _, rfl⟩ := hox
    refine ⟨by simpa using h.once w, ?_⟩
    intro od hod
    simp only [List.mem_map] at hod
    obtain ⟨d, hd, rfl⟩ := hod
    obtain ⟨⟨t, ht⟩, hb, htr⟩ := (h.own w).1 d hd
    simp only [delOwn, Bool.and_eq_true, beq_iff_eq, List.all_eq_true, Bool.or_eq_true, List.mem_map, partLabel]
    refine ⟨⟨by rw [ht]; rfl, ?_⟩, ?_⟩
    · rintro x ⟨p, hp, rfl⟩; exact hb p hp
    · cases htl : d.trailer with
      | none => left; rfl
      | some p => right; simp [partLabel, htr p htl]
  · have : (obsOf s).tbl = s.tbl.map (·.1) := rfl
    rw [this]; exact h.tkeys
  · intro k hk
    simp only [obsOf, List.mem_map] at hk
    obtain ⟨e, he, rfl⟩ := hk
    have hl := lookup_of_mem_nodup s.tbl e he h.tkeys
    have ⟨h1, h2, h3, _⟩ := h.tentry e.1 e.2 hl
    refine ⟨_, List.mem_map.mpr ⟨e.2, List.mem_range.mpr h1, rfl⟩, ?_⟩
    simp [h2, h3]

/-- what a snapshot shows of one stream object -/
def ostr (x : Str) : OStr :=
  ⟨x.id, x.id, x.got.map (fun d => ⟨d.hdr.map partLabel, d.body.map partLabel, d.trailer.map partLabel⟩), x.resets.length⟩

theorem strsKeep_of (p : Nat → OStr → OStr → Bool) (s s' : Conn) (hn : s.nW ≤ s'.nW)
    (h : ∀ w, w < s.nW → p w (ostr (s.str w)) (ostr (s'.str w)) = true) : strsKeep p (obsOf s) (obsOf s') = true := by
  unfold strsKeep
  rw [List.all_eq_true]
  intro i hi
  have hi : i < s.nW := by simpa [obsOf] using hi
  have e : ∀ t : Conn, i < t.nW → (obsOf t).strs[i]? = some (ostr (t.str i)) := fun t ht => by simp [obsOf, ostr, ht]
  rw [e s hi, e s' (by omega)]
  exact h i hi

theorem frameStepSpec_of (s : Conn) (h : HInv s) (id : Int) (op : Op) (hop : op.frameOn id)
    (hc : (step G s op).closed = false) : frameStepSpec id (obsOf s) (obsOf (step G s op)) = true := by
  have u := frame_touches_only_its_id s h id op hop hc
  apply strsKeep_of _ s _ (by rw [u.1.2.1]; exact Nat.le_refl _)
  intro w hw
  by_cases e : (s.str w).id = id
  · simp [ostr, e]
  · have := u.2.2 w e
    simp [ostr, sameOutcome, this.1, this.2]

/-- GOAWAY, WINDOW_UPDATE, SETTINGS, a new request -/
theorem quietStepSpec_of (s : Conn) (op : Op)
    (hop : (∃ l c, op = .goaway l c) ∨ (∃ i, op = .window i) ∨ op = .noise ∨ (∃ o, op = .open_ o)) :
    quietStepSpec (obsOf s) (obsOf (step G s op)) = true := by
  have key : s.nW ≤ (step G s op).nW ∧ ∀ w, w < s.nW → (step G s op).str w = s.str w := by
    unfold step
    split
    · exact ⟨Nat.le_refl _, fun _ _ => rfl⟩
    · rcases hop with ⟨l, c, rfl⟩ | ⟨i, rfl⟩ | rfl | ⟨o, rfl⟩
      · simp only [onGoAway]; split <;> exact ⟨Nat.le_refl _, fun _ _ => rfl⟩
      · simp only []
        rw [streamByID_snd]; split <;> exact ⟨Nat.le_refl _, fun _ _ => rfl⟩
      · exact ⟨Nat.le_refl _, fun _ _ => rfl⟩
      · exact ⟨(open_spec s o).2.1 ▸ Nat.le_succ _, fun w hw => (open_spec s o).2.2.2.2 w (Nat.ne_of_lt hw)⟩
  apply strsKeep_of _ s _ key.1
  intro w hw
  rw [key.2 w hw]
  simp [sameOutcome]

/-- an operation that answers nobody and resets at most `o` (`none`: no such claim) -/
theorem resetStepSpec_of_eff {R : Nat → Prop} (o : Option Nat) (s s' : Conn) (e : Eff (fun _ => False) R s s')
    (hr : ∀ k, R k → o = none ∨ o = some k) : resetStepSpec o (obsOf s) (obsOf s') = true := by
  apply strsKeep_of _ s _ (by rw [e.nW]; exact Nat.le_refl _)
  intro k hk
  by_cases h : R k
  · rcases hr k h with o | o <;> simp [ostr, e.got k id, o]
  · simp [ostr, e.got k id, e.resets k h]

/-- ResetStream of one stream object; connection reset / connection error -/
theorem resetStepSpec_of (s : Conn) :
    (∀ w, resetStepSpec (some w) (obsOf s) (obsOf (step G s (.reset w))) = true) ∧
    resetStepSpec none (obsOf s) (obsOf (step G s .connReset)) = true ∧
    resetStepSpec none (obsOf s) (obsOf (step G s .connError)) = true :=
  ⟨fun w => resetStepSpec_of_eff _ s _ (other_eff s (.reset w) nofun nofun)
      fun _ h => .inr (h.elim (fun h => congrArg some (Op.reset.inj h)) (fun h => h.elim nofun nofun)),
    resetStepSpec_of_eff none s _ (other_eff s .connReset nofun nofun) fun _ _ => .inl rfl,
    resetStepSpec_of_eff none s _ (other_eff s .connError nofun nofun) fun _ _ => .inl rfl⟩

/-- ids of the streams whose request went out: in range, odd for an odd start, pairwise distinct below 2^31 stream objects -/
theorem obsSpecIds_of_idinv (s : Conn) (first : Int) (h : IdInv s first) (hn : s.nW ≤ 2147483648) :
    obsSpecIds (first % 2 == 1) ((List.range s.nW).map (fun w => (s.str w).id)) = true := by
  unfold obsSpecIds
  simp only [Bool.and_eq_true, List.all_eq_true, decide_eq_true_eq, Bool.or_eq_true, Bool.not_eq_true', beq_iff_eq,
    List.mem_filter, List.mem_map, List.mem_range, bne_iff_ne, ne_eq, beq_eq_false_iff_ne]
  have key : ∀ w, w < s.nW → (s.str w).id ≠ 0 → (s.str w).id = idAt first w ∧ 0 < idAt first w ∧ idAt first w < 2147483648 := by
    intro w hw hne
    have hi := (h.ids w hw).2
    by_cases hv : G.valid (idAt first w) = true
    · rw [if_pos hv] at hi
      exact ⟨hi, valid_range _ (idAt_range first w) hv⟩
    · rw [if_neg hv] at hi; exact absurd hi hne
  refine ⟨?_, ?_⟩
  · rintro i ⟨⟨w, hw, rfl⟩, hne⟩
    obtain ⟨e, h1, h2⟩ := key w hw hne
    refine ⟨by rw [e]; exact ⟨h1, h2⟩, ?_⟩
    by_cases ho : first % 2 = 1
    · right; rw [e]; exact idAt_odd first w ho
    · left; exact ho
  · rw [List.filter_map, List.Nodup, List.pairwise_map, List.pairwise_filter]
    refine List.Pairwise.imp_of_mem ?_ (List.pairwise_lt_range (n := s.nW))
    intro a b ha hb hab pa pb
    simp only [Function.comp, bne_iff_ne, ne_eq] at pa pb
    rw [List.mem_range] at ha hb
    rw [(key a ha pa).1, (key b hb pb).1]
    exact idAt_distinct first a b hab (by omega)

end Spec

end MosnVerif.Model.H2ClientTable
