import MosnVerif.Model.PoolMux
import MosnVerif.Lemmas.PoolSpec
/-!
Invariant of the multiplex pool model (`Model/PoolMux.lean`), inductive over every operation.
-/
namespace MosnVerif.Model.PoolMux
open MosnVerif.Gen.PoolMux MosnVerif.Gen.PoolMuxMoves MosnVerif.Gen.Pool
open MosnVerif.Model.Pool (Stream Dial countLive countLive_eq countLive_kill countLive_lease live_new req_inc req_dec OnceOk onceOk_lease onceOk_ended guarded)

/-- the live streams on `c` among the first `n`, counted over the index list -/
theorem countOn_eq (f : Nat → Stream) (c n : Nat) :
    countOn f c n = (List.range n).countP fun i => (f i).live && (f i).conn == c := by
  induction n with
  | zero => rfl
  | succ n ih => rw [List.range_succ, List.countP_append, ← ih, List.countP_singleton]; rfl

theorem countOn_congr (f g : Nat → Stream) (c n : Nat) (h : ∀ k, k < n → g k = f k) : countOn g c n = countOn f c n := by
  rw [countOn_eq, countOn_eq]
  exact List.countP_congr fun k hk => by rw [h k (List.mem_range.mp hk)]

theorem countOn_le_countLive (f : Nat → Stream) (c n : Nat) : countOn f c n ≤ countLive f n := by
  rw [countOn_eq, countLive_eq]
  exact List.countP_mono_left fun i _ h => (Bool.and_eq_true _ _ ▸ h).1

/-- request `i` ends: one live stream less on its connection, as many as before on the others -/
theorem countOn_ended (f : Nat → Stream) (i n c : Nat) (hi : i < n) (hl : (f i).live = true) (reset : Option String) :
    countOn (fun k => if k = i then ended (f i) reset else f k) c n + (if (f i).conn = c then 1 else 0) = countOn f c n := by
  induction n with
  | zero => omega
  | succ n ih =>
    simp only [countOn]
    by_cases hin : i = n
    · subst hin
      rw [countOn_congr f _ c i fun k hk => if_neg (Nat.ne_of_lt hk)]
      simp [hl, show (ended (f i) reset).live = false from rfl]
    · simp only [if_neg (Ne.symm hin)]
      have := ih (by omega); omega

/-- `killOn`: every live stream on `c` dies -/
def killed (f : Nat → Stream) (c : Nat) (reason : String) : Nat → Stream := fun i =>
  let st := f i
  if st.live && st.conn == c then { st with state := destroyedState, resets := st.resets ++ [reason], destroys := st.destroys + 1 } else st

theorem destroyed_not_live : ∀ st : Stream, ({ st with state := destroyedState } : Stream).live = false := by
  intro st; simp [Stream.live, destroyedState, streamStateReset]

/-- each live stream on `c` ends by a reset -/
theorem killed_eq (f : Nat → Stream) (c : Nat) (r : String) (i : Nat) :
    killed f c r i = if (f i).live && (f i).conn == c then ended (f i) (some r) else f i := rfl

theorem killed_live (f : Nat → Stream) (c : Nat) (r : String) (i : Nat) :
    (killed f c r i).live = ((f i).live && !((f i).conn == c)) := by
  rw [killed_eq]
  have hd : (ended (f i) (some r)).live = false := rfl
  cases h1 : (f i).live <;> cases h2 : ((f i).conn == c) <;> simp [h1, hd]

theorem killed_conn (f : Nat → Stream) (c : Nat) (r : String) (i : Nat) : (killed f c r i).conn = (f i).conn := by
  rw [killed_eq]; split <;> rfl

theorem countLive_killed (f : Nat → Stream) (c : Nat) (r : String) (n : Nat) :
    countLive (killed f c r) n + countOn f c n = countLive f n := by
  induction n with
  | zero => rfl
  | succ n ih =>
    simp only [countLive, countOn, killed_live]
    cases h1 : (f n).live <;> cases h2 : ((f n).conn == c) <;> simp <;> omega

theorem countOn_killed_same (f : Nat → Stream) (c : Nat) (r : String) (n : Nat) : countOn (killed f c r) c n = 0 := by
  rw [countOn_eq, List.countP_eq_zero]
  intro i _
  rw [killed_live, killed_conn]
  cases (f i).live <;> cases ((f i).conn == c) <;> decide

theorem countOn_killed_other (f : Nat → Stream) (c c' : Nat) (r : String) (n : Nat) (h : c' ≠ c) :
    countOn (killed f c r) c' n = countOn f c' n := by
  rw [countOn_eq, countOn_eq]
  refine List.countP_congr fun i _ => ?_
  rw [killed_live, killed_conn]
  cases (f i).live <;> cases h2 : ((f i).conn == c) <;> simp
  exact fun e => h (e.symm.trans (beq_iff_eq.mp h2))

theorem iter_decrease (m : Nat) (k : Nat) (x : Int) :
    iter (resDecrease m) k x = if m = 0 then x else x - k := by
  induction k generalizing x with
  | zero => simp [iter]
  | succ k ih => rw [iter, ih, Pool.resDecrease_eq]; split <;> omega

/-! ### the regenerated movements -/

theorem destroyMoves_eq : destroyMoves = { reqInc := 0, reqDec := 1, host := -1, cluster := -1, listens := false } := rfl

theorem movesN_destroy (n : Nat) (s : State) :
    movesN destroyMoves n s =
      { s with reqCur := iter (resDecrease s.maxReq) n s.reqCur, actHost := s.actHost - n, actCluster := s.actCluster - n } := by
  rw [destroyMoves_eq]
  simp only [movesN, iter]
  have e : ((n : Int) * -1) = -(n : Int) := by omega
  rw [e]; rfl

theorem movesN_lease (s : State) :
    movesN (muxLeaseMoves false) 1 s =
      { s with reqCur := resIncrease s.maxReq s.reqCur, actHost := s.actHost + 1, actCluster := s.actCluster + 1 } := by
  simp [movesN, iter, muxLeaseMoves]

/-- the one-way path of `NewStream` moves nothing -/
theorem movesN_oneway (s : State) : movesN (muxLeaseMoves true) 1 s = s := by
  simp [movesN, iter, muxLeaseMoves]

/-! ### every stream ends at most once -/

theorem onceOk_killed (f : Nat → Stream) (n : Nat) (h : OnceOk f n) (c : Nat) (r : String) : OnceOk (killed f c r) n := by
  intro i hi
  rw [killed_eq]
  split
  · rename_i hk; exact Pool.once_ended (h i hi) (Bool.and_eq_true _ _ ▸ hk).1 _
  · exact h i hi

/-! ### the request side, which this pool and the HTTP/2 pool share: the stream table against the requests breaker and the
two request_active gauges, and the three things that happen to it -/

/-- `up c`: connection `c` exists and is open -/
structure ReqOk (up : Nat → Prop) (m ext : Nat) (q a b : Int) (n : Nat) (f : Nat → Stream) : Prop where
  req : q = if m = 0 then 0 else (ext : Int) + (countLive f n : Int)
  act : a = (countLive f n : Int) ∧ b = (countLive f n : Int)
  liveOk : ∀ i, i < n → (f i).live = true → up (f i).conn
  once : OnceOk f n

section
variable {up : Nat → Prop} {m ext : Nat} {q a b : Int} {n : Nat} {f : Nat → Stream}

/-- a request is admitted on `c` -/
theorem reqOk_lease (h : ReqOk up m ext q a b n f) (c : Nat) (hc : up c) :
    ReqOk up m ext (resIncrease m q) (a + 1) (b + 1) (n + 1) (fun k => if k = n then { conn := c } else f k) where
  req := req_inc h.req (by rw [countLive_lease]; omega)
  act := by rw [countLive_lease]; have := h.act; omega
  liveOk := fun i hi hl => by
    by_cases hin : i = n
    · rw [if_pos hin]; exact hc
    · rw [if_neg hin] at hl ⊢; exact h.liveOk i (by omega) hl
  once := onceOk_lease f n h.once c

/-- request `i` ends -/
theorem reqOk_ended (h : ReqOk up m ext q a b n f) (i : Nat) (hi : i < n) (hl : (f i).live = true) (reset : Option String) :
    ReqOk up m ext (resDecrease m q) (a - 1) (b - 1) n (fun k => if k = i then ended (f i) reset else f k) := by
  have hk := countLive_kill f (fun k => if k = i then ended (f i) reset else f k) n i hi hl (by rw [if_pos rfl]; rfl)
    (fun k hk => by rw [if_neg hk])
  refine ⟨req_dec h.req (by omega), by have := h.act; omega, fun k hk hlk => ?_, onceOk_ended f n h.once i hi hl reset⟩
  obtain ⟨_, e⟩ := Pool.live_of_upd_dead (st' := ended (f i) reset) rfl hlk
  rw [e] at hlk ⊢; exact h.liveOk k hk hlk

/-- connection `c` is lost with every request on it: whatever was up besides `c` still is -/
theorem reqOk_killed (h : ReqOk up m ext q a b n f) (c : Nat) (r : String) {up' : Nat → Prop}
    (hup : ∀ k, k ≠ c → up k → up' k) :
    ReqOk up' m ext (iter (resDecrease m) (countOn f c n) q) (a - (countOn f c n : Nat)) (b - (countOn f c n : Nat)) n
      (killed f c r) := by
  have hk := countLive_killed f c r n
  refine ⟨?_, by have := h.act; omega, fun i hi hl => ?_, onceOk_killed f n h.once c r⟩
  · rw [iter_decrease, h.req]; split <;> omega
  · rw [killed_live, Bool.and_eq_true, Bool.not_eq_true', beq_eq_false_iff_ne] at hl
    rw [killed_conn]; exact hup _ hl.2 (h.liveOk i hi hl.1)

theorem ReqOk.nonneg (h : ReqOk up m ext q a b n f) : 0 ≤ q := by
  rw [h.req]; split <;> omega
end

structure Core (s : State) : Prop where
  req : s.reqCur = if s.maxReq = 0 then 0 else (s.ext : Int) + (s.liveCount : Int)
  /-- both upstream request_active gauges count the requests in flight -/
  act : s.actHost = (s.liveCount : Int) ∧ s.actCluster = (s.liveCount : Int)
  liveOk : ∀ i, i < s.nStreams → (s.stream i).live = true → (s.stream i).conn < s.nClients ∧ (s.client (s.stream i).conn).netOpen = true
  slotOk : ∀ i c, s.slot i = .real c → c < s.nClients ∧ (s.client c).slot = i ∧
    ((s.client c).state = muxConnected → (s.client c).netOpen = true)
  /-- an open connection that has not been told to go away is the Connected client of its slot -/
  openOk : ∀ c, c < s.nClients → (s.client c).netOpen = true → (s.client c).goaway = 0 → s.slot (s.client c).slot = .real c
  slotRange : ∀ i c, s.slot i = .real c → i < s.nSlots
  gw : ∀ c, (s.client c).goaway = 0 ∨ (s.client c).goaway = muxGoAway
  /-- a client is Connected exactly as long as it has not been told to go away -/
  st : ∀ c, c < s.nClients → ((s.client c).state = muxConnected ↔ (s.client c).goaway = 0)
  once : ∀ i, i < s.nStreams →
    ((s.stream i).live = true → (s.stream i).destroys = 0 ∧ (s.stream i).recv = 0 ∧ (s.stream i).resets = []) ∧
    ((s.stream i).live = false → (s.stream i).destroys = 1 ∧ (s.stream i).recv ≤ 1 ∧ (s.stream i).resets.length ≤ 1 ∧
      ((s.stream i).recv = 1 → (s.stream i).resets = []))

/-- an open connection that has been told to go away still has a request in flight -/
def Drain (s : State) (c : Nat) : Prop :=
  c < s.nClients → (s.client c).netOpen = true → (s.client c).goaway ≠ 0 → 0 < s.activeOn c

structure Inv (s : State) : Prop where
  core : Core s
  drain : ∀ c, Drain s c

theorem Core.reqOk {s : State} (h : Core s) :
    ReqOk (fun c => c < s.nClients ∧ (s.client c).netOpen = true) s.maxReq s.ext s.reqCur s.actHost s.actCluster s.nStreams s.stream :=
  ⟨h.req, h.act, h.liveOk, h.once⟩

theorem inv_init (maxConn maxReq : Nat) : Inv (init maxConn maxReq) := by
  refine ⟨⟨?_, ?_, ?_, ?_, ?_, ?_, ?_, ?_, ?_⟩, ?_⟩
  all_goals simp [init, State.liveCount, countLive, Drain]

theorem go_ne_connected : muxGoAway ≠ muxConnected := by decide

def closedSt (s : State) (c : Nat) (r : String) : State :=
  killOn (poolOnClose (s.updC c (fun cl => { cl with netOpen := false })) c) c r

def emptied (s : State) (c : Nat) : Bool :=
  muxDeleteOnClose (s.client c).state (decide (s.slot (s.client c).slot = .real c))

theorem emptied_spec (s : State) (c : Nat) (h : emptied s c = true) : s.slot (s.client c).slot = .real c := by
  simp only [emptied, muxDeleteOnClose, Bool.and_eq_true] at h
  exact of_decide_eq_true h.2

theorem poolOnClose_eq (t : State) (c : Nat) :
    poolOnClose t c = { t with slot := fun k => if emptied t c = true ∧ k = (t.client c).slot then .empty else t.slot k } := by
  unfold poolOnClose emptied
  by_cases h : muxDeleteOnClose (t.client c).state (decide (t.slot (t.client c).slot = SlotV.real c)) = true
  · simp only [State.setSlot, h, true_and, if_true]
  · simp only [h, if_false, Bool.false_eq_true, false_and]

theorem closedSt_eq (s : State) (c : Nat) (r : String) :
    closedSt s c r =
      { s with
        slot := fun k => if emptied s c = true ∧ k = (s.client c).slot then .empty else s.slot k,
        client := fun k => if k = c then { s.client c with netOpen := false } else s.client k,
        stream := killed s.stream c r,
        reqCur := iter (resDecrease s.maxReq) (s.activeOn c) s.reqCur,
        actHost := s.actHost - (s.activeOn c : Nat), actCluster := s.actCluster - (s.activeOn c : Nat) } := by
  unfold closedSt
  rw [poolOnClose_eq]
  simp only [killOn, movesN_destroy, State.updC, State.activeOn, emptied, if_true]
  rfl

theorem netClose_eq (s : State) (c : Nat) (r : String) (h1 : c < s.nClients) (h2 : (s.client c).netOpen = true) :
    netClose s c r = closedSt s c r := by
  simp [netClose, h1, h2, netDown, closedSt]

/-- `netClose` establishes the whole invariant from the core and the draining facts of the OTHER connections. -/
theorem inv_netClose (s : State) (hc : Core s) (c : Nat) (r : String) (hd : ∀ c', c' ≠ c → Drain s c') :
    Inv (netClose s c r) := by
  by_cases hh : c < s.nClients ∧ (s.client c).netOpen = true
  · rw [netClose_eq s c r hh.1 hh.2, closedSt_eq]
    have q := reqOk_killed hc.reqOk c r
      (up' := fun k => k < s.nClients ∧ (if k = c then { s.client c with netOpen := false } else s.client k).netOpen = true)
      (fun k hk hu => ⟨hu.1, by rw [if_neg hk]; exact hu.2⟩)
    -- of the clients only `c` changes, and only in that it is no longer open; a slot that still holds a client held it before
    -- and was not emptied
    have same : ∀ k, (if k = c then { s.client c with netOpen := false } else s.client k : MClient) =
        { s.client k with netOpen := decide (k ≠ c) && (s.client k).netOpen } := fun k => by
      by_cases e : k = c <;> simp [e]
    have held : ∀ {j k}, (if emptied s c = true ∧ j = (s.client c).slot then SlotV.empty else s.slot j) = .real k →
        s.slot j = .real k ∧ ¬ (emptied s c = true ∧ j = (s.client c).slot) := fun hj => by
      split at hj
      · cases hj
      · exact ⟨hj, ‹_›⟩
    refine ⟨⟨q.req, q.act, q.liveOk, fun j c' hj => ?_, fun c' hc' ho hg => ?_, fun j c' hj => hc.slotRange j c' (held hj).1,
      fun c' => ?_, fun c' hc' => ?_, q.once⟩, fun c' hc' ho hg => ?_⟩
    · have ⟨h1, h2, h3⟩ := hc.slotOk j c' (held hj).1
      simp only [same]
      refine ⟨h1, h2, fun hcon => ?_⟩
      -- had `c` been the Connected client of its slot, the slot would have been emptied
      have hne : c' ≠ c := fun e => (held hj).2 ⟨by
        subst e; simp [emptied, muxDeleteOnClose, h2, (held hj).1, hcon]; decide, e ▸ h2.symm⟩
      simp [hne, h3 hcon]
    · simp only [same, Bool.and_eq_true, decide_eq_true_eq] at ho hg ⊢
      have hold := hc.openOk c' hc' ho.2 hg
      rw [if_neg fun he => ho.1 (SlotV.real.inj ((he.2 ▸ hold).symm.trans (emptied_spec s c he.1)))]
      exact hold
    · simp only [same]; exact hc.gw c'
    · simp only [same]; exact hc.st c' hc'
    · simp only [same, Bool.and_eq_true, decide_eq_true_eq] at ho hg
      show 0 < countOn _ c' _
      rw [countOn_killed_other s.stream c c' r s.nStreams ho.1]
      exact hd c' ho.1 hc' ho.2 hg
  · -- nothing to close: the connection is unknown or already gone
    rw [show netClose s c r = s by simp [netClose, hh]]
    exact ⟨hc, fun c' => if e : c' = c then fun h1 h2 _ => absurd ⟨e ▸ h1, e ▸ h2⟩ hh else hd c' e⟩
theorem inv_netClose' (s : State) (h : Inv s) (c : Nat) (r : String) : Inv (netClose s c r) :=
  inv_netClose s h.core c r (fun c' _ => h.drain c')

/-- after a change that leaves the core intact, connection `c` is closed if the test says so; if not, it is still draining -/
theorem inv_closeIf (s : State) (hc : Core s) (c : Nat) (hd : ∀ c', c' ≠ c → Drain s c') (b : Bool)
    (hb : b = false → Drain s c) : Inv (if b = true then netClose s c connLost else s) := by
  cases b with
  | true => exact inv_netClose s hc c connLost hd
  | false => exact ⟨hc, fun c' => if e : c' = c then e ▸ hb rfl else hd c' e⟩

theorem countOn_lease (f : Nat → Stream) (n c c' : Nat) :
    countOn f c' n ≤ countOn (fun k => if k = n then ({ conn := c } : Stream) else f k) c' (n + 1) := by
  rw [countOn, countOn_congr f _ c' n fun k hk => if_neg (Nat.ne_of_lt hk)]
  exact Nat.le_add_right _ _

theorem inv_lease (s : State) (h : Inv s) (c : Nat) (hc : c < s.nClients) (ho : (s.client c).netOpen = true) :
    Inv (lease s c) := by
  rw [lease, movesN_lease]
  have r := reqOk_lease h.core.reqOk c ⟨hc, ho⟩
  refine ⟨{ h.core with req := r.req, act := r.act, liveOk := r.liveOk, once := r.once }, fun c' hc' ho' hg => ?_⟩
  exact Nat.lt_of_lt_of_le (h.drain c' hc' ho' hg) (countOn_lease s.stream s.nStreams c c')

/-- the tests of `NewStream`: a refusal changes nothing; a request is admitted on the client of the slot, which is
Connected, and only with room in the breaker -/
theorem newStream_cases (s : State) (k : Nat) :
    ((newStream s k).1 = s ∧ (newStream s k).2.isOk = false) ∨
    ∃ c, s.slot (slotIdx s k) = .real c ∧ (s.client c).state = muxConnected ∧ canCreate s.maxReq s.reqCur = true ∧
      newStream s k = (lease s c, .ok c) := by
  fun_cases newStream s k
  case case6 _ c hs hu hcan => exact .inr ⟨c, hs, by simpa [muxUnusable] using hu, by simpa using hcan, rfl⟩
  all_goals exact .inl ⟨rfl, rfl⟩

/-- `NewStream(ctx, nil)` makes the same tests and answers alike; admitted, it moves what the one-way path moves -/
theorem newStreamOneway_eq (s : State) (k : Nat) :
    newStreamOneway s k = (if (newStream s k).2.isOk then leaseOneway s else s, (newStream s k).2) := by
  unfold newStreamOneway newStream
  simp only
  split
  · rfl
  split
  · rfl
  · rfl
  · split
    · rfl
    · split <;> rfl

theorem Inv.usable {s : State} (h : Inv s) {i c : Nat} (hs : s.slot i = .real c) (hst : (s.client c).state = muxConnected) :
    c < s.nClients ∧ (s.client c).netOpen = true ∧ (s.client c).goaway = 0 :=
  have ⟨h1, _, h3⟩ := h.core.slotOk i c hs
  ⟨h1, h3 hst, (h.core.st c h1).mp hst⟩

theorem inv_newStream (s : State) (h : Inv s) (k : Nat) : Inv (newStream s k).1 := by
  rcases newStream_cases s k with ⟨e, _⟩ | ⟨c, hs, hst, _, e⟩ <;> rw [e]
  · exact h
  · exact inv_lease s h c (h.usable hs hst).1 (h.usable hs hst).2.1

/-- **a one-way request holds nothing**: whatever its outcome, `NewStream(ctx, nil)` leaves the whole state as it was
(with the regenerated movements of the `receiver == nil` path) -/
theorem newStreamOneway_state (s : State) (k : Nat) : (newStreamOneway s k).1 = s := by
  rw [newStreamOneway_eq]
  show (if _ then leaseOneway s else s) = s
  split
  · exact movesN_oneway s
  · rfl

/-- … and so does any number of them -/
theorem run_oneway (s : State) (k n : Nat) : run s (List.replicate n (.newStreamOneway k)) = s := by
  induction n with
  | zero => rfl
  | succ n ih => exact (congrArg (run · _) (newStreamOneway_state s k)).trans ih

theorem inv_endStream (s : State) (h : Inv s) (i : Nat) (hi : i < s.nStreams) (hl : (s.stream i).live = true)
    (reset : Option String) : Inv (endStream s i reset) := by
  have r := reqOk_ended h.core.reqOk i hi hl reset
  rw [endStream, if_pos (by simpa [destroyProceeds, Stream.live] using hl), onStreamDestroy, movesN_destroy]
  simp only [iter]
  refine inv_closeIf _ ?_ _ (fun c' hne hc' ho hg => ?_) _ (fun hcl hc' ho hg => ?_)
  · exact { h.core with req := r.req, act := r.act, liveOk := r.liveOk, once := r.once }
  · have e := countOn_ended s.stream i s.nStreams c' hi hl reset
    rw [if_neg (Ne.symm hne)] at e
    exact Nat.lt_of_lt_of_eq (h.drain c' hc' ho hg) e.symm
  · rcases h.core.gw (s.stream i).conn with h0 | h0
    · exact absurd h0 hg
    · simp only [muxCloseOnDestroy, h0, decide_true, Bool.true_and, decide_eq_false_iff_not] at hcl
      show 0 < State.activeOn _ _
      omega
theorem go_ne_zero : muxGoAway ≠ 0 := by decide

theorem core_mark (s : State) (hc : Core s) (c : Nat) (cl' : MClient) (hslot : cl'.slot = (s.client c).slot)
    (hopen : cl'.netOpen = (s.client c).netOpen) (hst : cl'.state ≠ muxConnected) (hg : cl'.goaway = muxGoAway) :
    Core { s with client := fun k => if k = c then cl' else s.client k } := by
  refine { hc with liveOk := ?_, slotOk := ?_, openOk := ?_, gw := ?_, st := ?_ }
  · intro i hi hl
    have ⟨h1, h2⟩ := hc.liveOk i hi hl
    refine ⟨h1, ?_⟩
    dsimp only
    by_cases e : (s.stream i).conn = c
    · rw [if_pos e, hopen, ← e]; exact h2
    · rw [if_neg e]; exact h2
  · intro j c' hj
    have ⟨h1, h2, h3⟩ := hc.slotOk j c' hj
    dsimp only
    by_cases e : c' = c
    · rw [if_pos e, hslot, ← e]; exact ⟨h1, h2, fun hcon => absurd hcon hst⟩
    · rw [if_neg e]; exact ⟨h1, h2, h3⟩
  · intro c' hc' ho hg'
    dsimp only at ho hg' ⊢
    by_cases e : c' = c
    · rw [if_pos e, hg] at hg'; exact absurd hg' go_ne_zero
    · rw [if_neg e] at ho hg' ⊢; exact hc.openOk c' hc' ho hg'
  · intro c'
    dsimp only
    by_cases e : c' = c
    · rw [if_pos e]; exact Or.inr hg
    · rw [if_neg e]; exact hc.gw c'
  · intro c' hc'
    dsimp only
    by_cases e : c' = c
    · rw [if_pos e, hg]; exact ⟨fun hcon => absurd hcon hst, fun h0 => absurd h0 go_ne_zero⟩
    · rw [if_neg e]; exact hc.st c' hc'

theorem inv_goAway (s : State) (h : Inv s) (c : Nat) : Inv (step s (.goAway c)).1 := by
  refine guarded h fun _ => inv_closeIf _ ?_ c (fun c' hne hc' ho' hg => ?_) _ (fun hcg _ _ _ => ?_)
  · exact core_mark s h.core c _ rfl rfl go_ne_connected rfl
  · simp only [State.updC, if_neg hne] at ho' hg
    exact h.drain c' hc' ho' hg
  · simp only [muxCloseOnGoAway, decide_eq_false_iff_not] at hcg
    show 0 < State.activeOn _ c
    omega

def SlotFree (s : State) (i : Nat) : Prop := ∀ c', s.slot i = .real c' → (s.client c').goaway ≠ 0

theorem inv_setSlot_nonreal (s : State) (h : Inv s) (i : Nat) (v : SlotV) (hv : ∀ c, v ≠ .real c)
    (hfree : SlotFree s i) : Inv (s.setSlot i v) := by
  have hc := h.core
  have hold : ∀ j c, (s.setSlot i v).slot j = .real c → s.slot j = .real c := by
    intro j c hj
    simp only [State.setSlot] at hj
    split at hj
    · exact absurd hj (hv c)
    · exact hj
  refine ⟨{ hc with slotOk := fun j c hj => hc.slotOk j c (hold j c hj), openOk := ?_,
                    slotRange := fun j c hj => hc.slotRange j c (hold j c hj) }, h.drain⟩
  · intro c' hc' ho hg
    have hold := hc.openOk c' hc' ho hg
    simp only [State.setSlot]
    split
    · rename_i e
      rw [e] at hold
      exact absurd hg (hfree c' hold)
    · exact hold

theorem inv_updState (s : State) (h : Inv s) (c : Nat) (x : Nat) (hx : x ≠ muxConnected)
    (hg : (s.client c).goaway ≠ 0) : Inv (s.updC c (fun cl => { cl with state := x })) := by
  refine ⟨core_mark s h.core c _ rfl rfl hx ((h.core.gw c).resolve_left hg), fun c' hc' ho hg' => ?_⟩
  simp only [State.updC] at ho hg'
  have : (s.client c').netOpen = true ∧ (s.client c').goaway ≠ 0 := by
    split at ho
    · rename_i e; subst e; exact ⟨ho, hg⟩
    · rename_i e; simp only [if_neg e] at hg'; exact ⟨ho, hg'⟩
  exact h.drain c' hc' this.1 this.2

/-- the connecting goroutine succeeded: a fresh client takes the slot -/
def withNewClient (s : State) (i : Nat) : State :=
  { s.setSlot i (.real s.nClients) with
    nClients := s.nClients + 1,
    client := fun k => if k = s.nClients then { state := muxFreshState, slot := i } else s.client k }

theorem inv_withNewClient (s : State) (h : Inv s) (i : Nat) (hi : i < s.nSlots) (hfree : SlotFree s i) : Inv (withNewClient s i) := by
  have hc := h.core
  -- the clients there were keep their entry; the new one is open, fresh and sits in slot `i`
  have old : ∀ {k}, k < s.nClients → (withNewClient s i).client k = s.client k := fun hk => if_neg (Nat.ne_of_lt hk)
  have new : (withNewClient s i).client s.nClients = { state := muxFreshState, slot := i } := if_pos rfl
  have lt : ∀ {k}, k < s.nClients + 1 → k ≠ s.nClients → k < s.nClients := fun h1 h2 => by omega
  refine ⟨⟨hc.req, hc.act, fun k hk hl => ?_, fun j c hj => ?_, fun c hc' ho hg => ?_, fun j c hj => ?_, fun c => ?_,
    fun c hc' => ?_, hc.once⟩, fun c hc' ho hg => ?_⟩
  · have ⟨h1, h2⟩ := hc.liveOk k hk hl
    exact ⟨Nat.lt_succ_of_lt h1, (old h1).symm ▸ h2⟩
  · by_cases e : j = i
    · cases (if_pos e).symm.trans hj
      exact ⟨Nat.lt_succ_self _, new ▸ e.symm, fun _ => new ▸ rfl⟩
    · have ⟨h1, h2⟩ := hc.slotOk j c ((if_neg e).symm.trans hj)
      exact ⟨Nat.lt_succ_of_lt h1, (old h1).symm ▸ h2⟩
  · show (if _ = i then _ else _) = _
    by_cases e : c = s.nClients
    · subst e; rw [new, if_pos rfl]
    · rw [old (lt hc' e)] at ho hg ⊢
      have hs := hc.openOk c (lt hc' e) ho hg
      rw [if_neg fun (e2 : (s.client c).slot = i) => hfree c (e2 ▸ hs) hg]; exact hs
  · by_cases e : j = i
    · exact e ▸ hi
    · exact hc.slotRange j c ((if_neg e).symm.trans hj)
  · by_cases e : c = s.nClients
    · subst e; rw [new]; exact .inl rfl
    · rw [show (withNewClient s i).client c = s.client c from if_neg e]; exact hc.gw c
  · by_cases e : c = s.nClients
    · subst e; rw [new]; simp [muxFreshState]
    · rw [old (lt hc' e)]; exact hc.st c (lt hc' e)
  · by_cases e : c = s.nClients
    · subst e; rw [new] at hg; exact absurd rfl hg
    · rw [old (lt hc' e)] at ho hg; exact h.drain c (lt hc' e) ho hg
theorem inv_rr (s : State) (h : Inv s) (x : Nat) : Inv { s with rr := x } := ⟨{ h.core with }, h.drain⟩

theorem inv_shutdown (s : State) (h : Inv s) : Inv { s with shutdown := true } := ⟨{ h.core with }, h.drain⟩

theorem inv_connect (s : State) (h : Inv s) (i : Nat) (dial : Dial) (hi : i < s.nSlots) (hfree : SlotFree s i) : Inv (connect s i dial) := by
  unfold connect
  split
  · exact h
  · split
    · exact inv_setSlot_nonreal s h i .empty (by intro c hc; cases hc) hfree
    · exact inv_withNewClient s h i hi hfree

/-- what `CheckAndInit` does once the slot is chosen -/
theorem inv_withPlaceholder (s0 : State) (h0 : Inv s0) (i : Nat) : Inv (withPlaceholder s0 i) := by
  unfold withPlaceholder
  split
  · rename_i he
    exact inv_setSlot_nonreal s0 h0 i _ (by intro c hc; cases hc) (by intro c' hc'; rw [he] at hc'; cases hc')
  · exact h0

/-- the state word of a slot's occupant that is not Connected moves to another word that is not Connected: the slot stays free -/
theorem inv_setSlotState (s : State) (h : Inv s) (i x : Nat) (hx : x ≠ muxConnected)
    (hne : s.slotState i ≠ some muxConnected) :
    Inv (s.setSlotState i x) ∧ SlotFree (s.setSlotState i x) i ∧ (s.setSlotState i x).nSlots = s.nSlots := by
  unfold State.setSlotState State.slotState at *
  cases hsl : s.slot i with
  | empty => exact ⟨h, (fun c' hc' => nomatch hsl.symm.trans hc'), rfl⟩
  | fake _ =>
    exact ⟨inv_setSlot_nonreal s h i _ (fun c hc => nomatch hc) (fun c' hc' => nomatch hsl.symm.trans hc'),
      (fun c' hc' => nomatch (if_pos rfl).symm.trans hc'), rfl⟩
  | real c =>
    rw [hsl] at hne
    have hg : (s.client c).goaway ≠ 0 := fun hz => hne (congrArg some ((h.core.st c (h.core.slotOk i c hsl).1).mpr hz))
    refine ⟨inv_updState s h c x hx hg, fun c' hc' => ?_, rfl⟩
    cases hsl.symm.trans hc'
    show (if c = c then _ else _ : MClient).goaway ≠ 0
    rw [if_pos rfl]; exact hg

theorem inv_checkClient (s1 : State) (h1 : Inv s1) (i : Nat) (hi : i < s1.nSlots) (dial : Dial) : Inv (checkClient s1 i dial).1 := by
  fun_cases checkClient s1 i dial
  case case3 st hst hnr _ =>
    have ⟨h2, hf, hn⟩ := inv_setSlotState s1 h1 i muxReinitTo (by decide) fun e => hnr (by cases hst.symm.trans e; decide)
    exact inv_connect _ h2 i dial (hn ▸ hi) hf
  all_goals exact h1

theorem withPlaceholder_nSlots (s : State) (i : Nat) : (withPlaceholder s i).nSlots = s.nSlots := by
  unfold withPlaceholder; split <;> rfl

theorem inv_checkSlot (s0 : State) (h0 : Inv s0) (i : Nat) (dial : Dial) : Inv (checkSlot s0 i dial).1 := by
  unfold checkSlot
  split
  · rename_i hi
    exact inv_checkClient _ (inv_withPlaceholder s0 h0 i) i (by rw [withPlaceholder_nSlots]; exact hi) dial
  · exact h0

theorem inv_checkAndInit (s : State) (h : Inv s) (slot : Option Nat) (dial : Dial) :
    Inv (checkAndInit s slot dial).1 := by
  unfold checkAndInit
  cases slot with
  | some k => exact inv_checkSlot s h (slotIdx s k) dial
  | none =>
    simp only
    split
    · exact inv_checkSlot _ (inv_rr s h _) _ dial
    · exact inv_checkSlot s h 0 dial

theorem inv_step (s : State) (h : Inv s) (op : Op) : Inv (step s op).1 := by
  cases op with
  | checkAndInit slot dial => exact inv_checkAndInit s h slot dial
  | newStream k => exact inv_newStream s h k
  | newStreamOneway k => rw [show (step s (.newStreamOneway k)).1 = s from newStreamOneway_state s k]; exact h
  | response i => exact guarded h fun hh => inv_endStream s h i hh.1 hh.2 none
  | localReset i => exact guarded h fun hh => inv_endStream s h i hh.1 hh.2 _
  | garbage i => exact guarded h fun _ => inv_netClose' s h _ _
  | goAway c => exact inv_goAway s h c
  | connClose c remote => exact inv_netClose' s h c _
  | shutdown => exact inv_shutdown s h
  | closeAll => exact Lemmas.Fold.foldl_inv (fun s c h => inv_netClose' s h c connLost) _ s h
  | extInc =>
    exact ⟨{ h.core with req := req_inc h.core.req (by show ((s.ext + 1 : Nat) : Int) + (s.liveCount : Int) = _; omega) }, h.drain⟩
  | extDec =>
    exact guarded h fun _ =>
      ⟨{ h.core with req := req_dec h.core.req (by show ((s.ext - 1 : Nat) : Int) + (s.liveCount : Int) + 1 = _; omega) }, h.drain⟩
theorem inv_run (s : State) (h : Inv s) (ops : List Op) : Inv (run s ops) := by
  induction ops generalizing s with
  | nil => exact h
  | cons op r ih => exact ih _ (inv_step s h op)

end MosnVerif.Model.PoolMux
