import MosnVerif.Model.RedactGuards
import MosnVerif.Lemmas.Redact
/-! # Lemmas: a benign guard of redact.go is transparent (skipping = redacting) -/
namespace MosnVerif.Model.RedactGuards
open MosnVerif.Model MosnVerif.Model.Redact MosnVerif.Model.GoTypes

theorem apply_nil_list (vis : Visit) : apply vis (.list []) = .list [] := by
  cases vis <;> simp [apply, applyL]

theorem apply_nil_map (vis : Visit) : apply vis (.map []) = .map [] := by
  cases vis <;> simp [apply, applyM]

theorem clean_nil (g : Graph) (ck ch : Bool) (fi : FInfo) :
    clean g ck ch fi (.list []) = true ∧ clean g ck ch fi (.map []) = true := by
  simp [clean, cleanL, cleanM]

theorem redactKeyF_keyEmpty : (fs : List (String × Val)) → keyEmpty fs = true → redactKeyF fs = fs
  | [], _ => rfl
  | (k, v) :: r, h => by
    simp only [keyEmpty, Bool.and_eq_true, Bool.or_eq_true] at h
    have ih := redactKeyF_keyEmpty r h.2
    simp only [redactKeyF, ih]
    by_cases hk : (k == "PrivateKey") = true
    · simp only [hk, if_true]
      rcases h.1 with h1 | h1
      · simp [bne, hk] at h1
      · cases v with
        | str s =>
          have : s = "" := by simpa using h1
          subst this; simp
        | _ => rfl
    · simp [hk]

/-- when a guard of a benign kind skips, the unconditional redaction would have returned the value unchanged -/
theorem skip_is_identity (k : GKind) (vis : Visit) (hb : benignFor k vis = true) (v : Val)
    (hs : k.skips v = true) : apply vis v = v := by
  cases k with
  | emptySkip =>
    cases v with
    | list vs => cases vs with
      | nil => exact apply_nil_list vis
      | cons _ _ => simp [GKind.skips] at hs
    | map kvs => cases kvs with
      | nil => exact apply_nil_map vis
      | cons _ _ => simp [GKind.skips] at hs
    | _ => simp [GKind.skips] at hs
  | loopAll => simp [GKind.skips] at hs
  | unchangedSkip =>
    cases vis <;> simp [benignFor] at hb
    cases v with
    | hole j =>
      simp only [GKind.skips] at hs
      simp only [apply, redJ_of_clean false j hs]
    | _ => simp [GKind.skips] at hs
  | keyEmptySkip =>
    cases vis <;> simp [benignFor] at hb
    cases v with
    | struct s fs =>
      simp only [GKind.skips] at hs
      simp only [apply, redactKeyF_keyEmpty fs hs]
    | _ => simp [GKind.skips] at hs
  | attr _ _ | unknown => simp [benignFor] at hb

/-- **a benign guard is transparent**: the guarded code computes what the unguarded model computes -/
theorem guard_transparent (k : GKind) (vis : Visit) (hb : benignFor k vis = true) (v : Val) :
    applyG k vis v = apply vis v := by
  unfold applyG
  by_cases hs : k.skips v = true
  · simp only [hs, if_true]; exact (skip_is_identity k vis hb v hs).symm
  · simp [hs]

/-- every benign kind has a redaction it is benign for; `attr` / `unknown` have none -/
theorem benign_iff (k : GKind) : k.benign = true ↔ ∃ vis, benignFor k vis = true := by
  cases k <;> simp [GKind.benign, benignFor]
  · exact ⟨.hole, rfl⟩
  · exact ⟨.tls, rfl⟩

end MosnVerif.Model.RedactGuards
