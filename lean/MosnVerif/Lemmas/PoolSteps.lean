import MosnVerif.Lemmas.Pool
import MosnVerif.Lemmas.Fold
/-! C09: every pool operation reduces to one of the canonical transitions of Lemmas/Pool; the invariant holds along every run. -/
namespace MosnVerif.Model.Pool
open MosnVerif.Gen.Pool

@[simp] theorem updC_kind (s : State) (c : Nat) (f : Client → Client) : (s.updC c f).kind = s.kind := rfl
@[simp] theorem updC_maxConn (s : State) (c : Nat) (f : Client → Client) : (s.updC c f).maxConn = s.maxConn := rfl
@[simp] theorem updC_maxReq (s : State) (c : Nat) (f : Client → Client) : (s.updC c f).maxReq = s.maxReq := rfl
@[simp] theorem updC_total (s : State) (c : Nat) (f : Client → Client) : (s.updC c f).total = s.total := rfl
@[simp] theorem updC_idle (s : State) (c : Nat) (f : Client → Client) : (s.updC c f).idle = s.idle := rfl
@[simp] theorem updC_nClients (s : State) (c : Nat) (f : Client → Client) : (s.updC c f).nClients = s.nClients := rfl
@[simp] theorem updC_nStreams (s : State) (c : Nat) (f : Client → Client) : (s.updC c f).nStreams = s.nStreams := rfl
@[simp] theorem updC_stream (s : State) (c : Nat) (f : Client → Client) : (s.updC c f).stream = s.stream := rfl
@[simp] theorem updC_reqCur (s : State) (c : Nat) (f : Client → Client) : (s.updC c f).reqCur = s.reqCur := rfl
@[simp] theorem updC_ext (s : State) (c : Nat) (f : Client → Client) : (s.updC c f).ext = s.ext := rfl
@[simp] theorem updC_client (s : State) (c : Nat) (f : Client → Client) (k : Nat) : (s.updC c f).client k = if k = c then f (s.client c) else s.client k := rfl
@[simp] theorem updS_kind (s : State) (i : Nat) (f : Stream → Stream) : (s.updS i f).kind = s.kind := rfl
@[simp] theorem updS_maxConn (s : State) (i : Nat) (f : Stream → Stream) : (s.updS i f).maxConn = s.maxConn := rfl
@[simp] theorem updS_maxReq (s : State) (i : Nat) (f : Stream → Stream) : (s.updS i f).maxReq = s.maxReq := rfl
@[simp] theorem updS_total (s : State) (i : Nat) (f : Stream → Stream) : (s.updS i f).total = s.total := rfl
@[simp] theorem updS_idle (s : State) (i : Nat) (f : Stream → Stream) : (s.updS i f).idle = s.idle := rfl
@[simp] theorem updS_nClients (s : State) (i : Nat) (f : Stream → Stream) : (s.updS i f).nClients = s.nClients := rfl
@[simp] theorem updS_client (s : State) (i : Nat) (f : Stream → Stream) : (s.updS i f).client = s.client := rfl
@[simp] theorem updS_nStreams (s : State) (i : Nat) (f : Stream → Stream) : (s.updS i f).nStreams = s.nStreams := rfl
@[simp] theorem updS_reqCur (s : State) (i : Nat) (f : Stream → Stream) : (s.updS i f).reqCur = s.reqCur := rfl
@[simp] theorem updS_ext (s : State) (i : Nat) (f : Stream → Stream) : (s.updS i f).ext = s.ext := rfl
@[simp] theorem updS_stream (s : State) (i : Nat) (f : Stream → Stream) (k : Nat) : (s.updS i f).stream k = if k = i then f (s.stream i) else s.stream k := rfl
@[simp] theorem poolOnClose_kind (s : State) (c : Nat) : (poolOnClose s c).kind = s.kind := rfl
@[simp] theorem poolOnClose_maxConn (s : State) (c : Nat) : (poolOnClose s c).maxConn = s.maxConn := rfl
@[simp] theorem poolOnClose_maxReq (s : State) (c : Nat) : (poolOnClose s c).maxReq = s.maxReq := rfl
@[simp] theorem poolOnClose_nClients (s : State) (c : Nat) : (poolOnClose s c).nClients = s.nClients := rfl
@[simp] theorem poolOnClose_nStreams (s : State) (c : Nat) : (poolOnClose s c).nStreams = s.nStreams := rfl
@[simp] theorem poolOnClose_stream (s : State) (c : Nat) : (poolOnClose s c).stream = s.stream := rfl
@[simp] theorem poolOnClose_reqCur (s : State) (c : Nat) : (poolOnClose s c).reqCur = s.reqCur := rfl
@[simp] theorem poolOnClose_ext (s : State) (c : Nat) : (poolOnClose s c).ext = s.ext := rfl
@[simp] theorem poolOnClose_total (s : State) (c : Nat) : (poolOnClose s c).total = s.total + closeDelta s.kind := rfl
@[simp] theorem poolOnClose_idle (s : State) (c : Nat) : (poolOnClose s c).idle = removeIdle s.kind s.idle c := rfl
@[simp] theorem poolOnClose_client (s : State) (c k : Nat) : (poolOnClose s c).client k = if k = c then { s.client c with closed := true } else s.client k := rfl
@[simp] theorem lease_kind (s : State) (c : Nat) : (lease s c).kind = s.kind := rfl
@[simp] theorem lease_maxConn (s : State) (c : Nat) : (lease s c).maxConn = s.maxConn := rfl
@[simp] theorem lease_maxReq (s : State) (c : Nat) : (lease s c).maxReq = s.maxReq := rfl
@[simp] theorem lease_total (s : State) (c : Nat) : (lease s c).total = s.total := rfl
@[simp] theorem lease_idle (s : State) (c : Nat) : (lease s c).idle = s.idle := rfl
@[simp] theorem lease_nClients (s : State) (c : Nat) : (lease s c).nClients = s.nClients := rfl
@[simp] theorem lease_client (s : State) (c : Nat) : (lease s c).client = s.client := rfl
@[simp] theorem lease_ext (s : State) (c : Nat) : (lease s c).ext = s.ext := rfl
@[simp] theorem lease_reqCur (s : State) (c : Nat) : (lease s c).reqCur = resIncrease s.maxReq s.reqCur := rfl
@[simp] theorem lease_nStreams (s : State) (c : Nat) : (lease s c).nStreams = s.nStreams + 1 := rfl
@[simp] theorem lease_stream (s : State) (c k : Nat) : (lease s c).stream k = if k = s.nStreams then { conn := c } else s.stream k := rfl

/-! ### the regenerated decisions of `Gen.Pool` in closed form (a changed comparison in the Go source breaks these) -/
theorem closeOnDestroy_eq (k : Kind) (a b : Bool) : closeOnDestroy k a b = (!a && b) := by cases k <;> rfl
theorem putBack_eq (k : Kind) (a : Bool) : putBack k a = !a := by cases k <;> rfl
theorem closeDelta_eq (k : Kind) : closeDelta k = -1 := by cases k <;> rfl
theorem breakerFirst_eq (k : Kind) : breakerFirst k = true := by cases k <;> rfl
theorem destroyProceeds_iff (x : Nat) : destroyProceeds x = true ↔ x = streamStateReset := by simp [destroyProceeds]
theorem resetProceeds_iff (x : Nat) : resetProceeds x = true ↔ x = streamStateReset := by simp [resetProceeds]
theorem destroyedState_eq : destroyedState = streamStateDestroyed := rfl
theorem markClose_local (k : Kind) : markClose k reasonStreamLocalReset false = true := by cases k <;> decide
theorem markClose_remote_h1 : markClose .h1 reasonStreamRemoteReset false = true := by decide
theorem live_iff (st : Stream) : st.live = true ↔ st.state = streamStateReset := by simp [Stream.live]
theorem not_live_iff (st : Stream) : st.live = false ↔ st.state ≠ streamStateReset := by simp [Stream.live]

/-- the pool's close listener on an open connection: the pool forgets the client -/
theorem netDown_open (s : State) (c : Nat) (h : (s.client c).netOpen = true) :
    netDown s c = tCloseIdle s c { s.client c with netOpen := false, closed := true } := by
  simp only [netDown, h, if_true, tCloseIdle, poolOnClose, State.updC, closeDelta_eq]
  congr 1
  funext k; by_cases hk : k = c <;> simp [hk]

/-- `destroyStream` of a live stream on an open client: a marked client's connection is closed and nothing goes back, an
unmarked client goes back as it is -/
theorem destroyStream_live (s : State) (i c : Nat) (hl : (s.stream i).live = true) (hc : (s.stream i).conn = c)
    (hcl : (s.client c).closed = false) (hno : (s.client c).netOpen = true) :
    destroyStream s i = tFinish s i c
      { s.stream i with state := streamStateDestroyed, destroys := (s.stream i).destroys + 1 }
      (if (s.client c).closeConn then { s.client c with netOpen := false, closed := true } else s.client c) := by
  have hst := (live_iff _).mp hl
  simp only [destroyStream, destroyProceeds_iff, destroyedState_eq, hst, if_true, hc, onStreamDestroy, closeOnDestroy_eq, putBack_eq, updS_client, updS_kind, hcl]
  cases hcc : (s.client c).closeConn
  · simp [tFinish, State.updS, hcl, hc]
    funext k; by_cases hk : k = c <;> simp [hk]
  · rw [netDown_open _ _ (by simpa using hno)]
    simp [tFinish, tCloseIdle, State.updS, hcc, hc]

theorem destroyStream_dead (s : State) (i : Nat) (hl : (s.stream i).live = false) : destroyStream s i = s := by
  have := (not_live_iff _).mp hl
  simp [destroyStream, destroyProceeds_iff, this]

theorem resetStream_dead (s : State) (i : Nat) (r : String) (hl : (s.stream i).live = false) : resetStream s i r = s := by
  have := (not_live_iff _).mp hl
  simp [resetStream, resetProceeds_iff, this]

theorem onStreamDestroy_closed (s : State) (c : Nat) (hcl : (s.client c).closed = true) :
    onStreamDestroy s c = { s with reqCur := resDecrease s.maxReq s.reqCur } := by
  simp [onStreamDestroy, closeOnDestroy_eq, putBack_eq, hcl]

/-- local / remote reset of a live stream on an open client: the client is marked and closed on destroy -/
theorem resetStream_close (s : State) (i c : Nat) (r : String) (hl : (s.stream i).live = true) (hc : (s.stream i).conn = c)
    (hcl : (s.client c).closed = false) (hno : (s.client c).netOpen = true) (hm : markClose s.kind r false = true) :
    resetStream s i r = tFinish s i c
      (PoolMux.ended (s.stream i) (some r))
      { s.client c with cwar := (s.client c).cwar || markCwar s.kind r, closeConn := true, dirty := true,
                        netOpen := false, closed := true } := by
  have hst := (live_iff _).mp hl
  simp only [resetStream, resetProceeds_iff, hst, if_true, hc]
  rw [destroyStream_live _ i c (by simp [Stream.live, hst]) (by simp [hc]) (by simp [hcl]) (by simp [hno])]
  simp [tFinish, State.updC, State.updS, PoolMux.ended, hcl, hm]
  refine ⟨?_, ?_⟩
  · funext k; by_cases hk : k = c <;> simp [hk]
  · funext k; by_cases hk : k = i <;> simp [hk, hc, destroyedState_eq]

/-- the connection of a leased client goes away: pool event first, then the in-flight stream is reset -/
theorem netDown_reset (s : State) (i c : Nat) (r : String) (hl : (s.stream i).live = true) (hc : (s.stream i).conn = c)
    (hno : (s.client c).netOpen = true) :
    resetStream (netDown s c) i r = tFinish s i c
      (PoolMux.ended (s.stream i) (some r))
      { s.client c with cwar := (s.client c).cwar || markCwar s.kind r,
                        closeConn := (s.client c).closeConn || markClose s.kind r true, dirty := true,
                        netOpen := false, closed := true } := by
  have hst := (live_iff _).mp hl
  rw [netDown_open s c hno]
  simp only [resetStream, resetProceeds_iff, destroyProceeds_iff, destroyedState_eq, tCloseIdle, updC_stream, hst, if_true, hc,
    destroyStream, updS_stream]
  rw [onStreamDestroy_closed _ c (by simp)]
  simp [tFinish, State.updC, State.updS, PoolMux.ended]
  refine ⟨?_, ?_⟩
  · funext k; by_cases hk : k = c <;> simp [hk]
  · funext k; by_cases hk : k = i <;> simp [hk, hc, destroyedState_eq]

theorem liveOn_some (f : Nat → Stream) (c n i : Nat) (h : liveOn f c n = some i) :
    i < n ∧ (f i).live = true ∧ (f i).conn = c := by
  fun_induction liveOn f c n with
  | case1 => cases h
  | case2 n hh => cases h; exact ⟨Nat.lt_succ_self _, by simpa using hh⟩
  | case3 n hh ih => exact have ⟨a, b⟩ := ih h; ⟨Nat.lt_succ_of_lt a, b⟩

theorem liveOn_none (f : Nat → Stream) (c n : Nat) (h : liveOn f c n = none) :
    ∀ k, k < n → (f k).live = true → (f k).conn ≠ c := by
  fun_induction liveOn f c n with
  | case1 => exact fun k hk => absurd hk (Nat.not_lt_zero k)
  | case2 n hh => cases h
  | case3 n hh ih =>
    intro k hk hl hc
    rcases Nat.lt_succ_iff_lt_or_eq.mp hk with hk | rfl
    · exact ih h k hk hl hc
    · exact hh (by simp [hl, hc])

def SameCfg (s s' : State) : Prop := s'.kind = s.kind ∧ s'.maxConn = s.maxConn ∧ s'.maxReq = s.maxReq

theorem SameCfg.rfl' (s : State) : SameCfg s s := ⟨rfl, rfl, rfl⟩
theorem SameCfg.trans {a b c : State} (h1 : SameCfg a b) (h2 : SameCfg b c) : SameCfg a c :=
  ⟨h2.1.trans h1.1, h2.2.1.trans h1.2.1, h2.2.2.trans h1.2.2⟩

/-- the invariant holds after the step, and the step has not written the pool's kind or limits (every step ends in one of
the canonical transitions of Lemmas/Pool, none of which does) -/
def Kept (s s' : State) : Prop := Inv s' ∧ SameCfg s s'

theorem Kept.rfl' {s : State} (h : Inv s) : Kept s s := ⟨h, .rfl' s⟩
theorem Kept.trans {a b c : State} (h1 : Kept a b) (h2 : Kept b c) : Kept a c := ⟨h2.1, h1.2.trans h2.2⟩

/-- a connection closes (either side) -/
theorem netClose_kept (s : State) (h : Inv s) (c : Nat) (r : String) : Kept s (netClose s c r) := by
  unfold netClose
  split
  · rename_i hco
    obtain ⟨hcn, hno⟩ := hco
    have hcl := (h.open_iff hcn).mp hno
    have hstream : (netDown s c).stream = s.stream := by rw [netDown_open s c hno]; rfl
    have hns : (netDown s c).nStreams = s.nStreams := by rw [netDown_open s c hno]; rfl
    simp only [hstream, hns]
    cases hlo : liveOn s.stream c s.nStreams with
    | some i =>
      obtain ⟨hi, hl, hc⟩ := liveOn_some _ _ _ _ hlo
      simp only []
      rw [netDown_reset s i c r hl hc hno]
      exact ⟨inv_finish s h i c (some r) _ hi hl hc (fun _ => rfl) (fun _ => rfl) rfl, rfl, rfl, rfl⟩
    | none =>
      simp only []
      have hidle : c ∈ s.idle := by
        rcases h.noLeak c hcn hcl with h' | ⟨i, hi, hl, hc⟩
        · exact h'
        · exact absurd hc (liveOn_none _ _ _ hlo i hi hl)
      rw [netDown_open s c hno]
      exact ⟨inv_close_idle s h c _ hidle rfl rfl, rfl, rfl, rfl⟩
  · exact .rfl' h

theorem tFinish_updS (s : State) (i c : Nat) (st' : Stream) (cl' : Client) (f : Stream → Stream) :
    (tFinish s i c st' cl').updS i f = tFinish s i c (f st') cl' := by
  simp [tFinish, State.updS]
  funext k; by_cases hk : k = i <;> simp [hk]

/-- the HTTP/1 `Connection: close` mark and the ping-pong go-away: a flag of one client is set -/
theorem mark_kept (s : State) (h : Inv s) (c : Nat) : Kept s (s.updC c fun cl => { cl with closeConn := true }) :=
  ⟨inv_flags s h _ (fun k => by dsimp only [State.updC]; split <;> simp_all), rfl, rfl, rfl⟩

/-- a response completes live stream `i` -/
theorem destroy_kept (s : State) (h : Inv s) (i : Nat) (hi : i < s.nStreams) (hl : (s.stream i).live = true) :
    Kept s ((destroyStream s i).updS i fun st => { st with recv := st.recv + 1 }) := by
  have hcl := h.liveOk i hi hl
  have hcn := h.connOk i hi
  have hno := (h.open_iff hcn).mpr hcl
  rw [destroyStream_live s i _ hl rfl hcl hno, tFinish_updS]
  refine ⟨inv_finish s h i _ none _ hi hl rfl (fun e => nomatch e) ?_ ?_, rfl, rfl, rfl⟩
  · split
    · exact fun _ => rfl
    · exact h.dirtyClosed _ hcn
  · split
    · rfl
    · exact h.flagTruth _ hcn

/-- a live stream on an open client is reset with a reason that marks the client -/
theorem reset_kept (s : State) (h : Inv s) (i : Nat) (r : String) (hi : i < s.nStreams) (hl : (s.stream i).live = true)
    (hm : markClose s.kind r false = true) : Kept s (resetStream s i r) := by
  have hcl := h.liveOk i hi hl
  have hcn := h.connOk i hi
  have hno := (h.open_iff hcn).mpr hcl
  rw [resetStream_close s i _ r hl rfl hcl hno hm]
  exact ⟨inv_finish s h i _ (some r) _ hi hl rfl (fun _ => rfl) (fun _ => rfl) rfl, rfl, rfl, rfl⟩

theorem state_total_eta (s : State) (t : Int) (ht : t = s.total) : { s with total := t } = s := by
  subst ht; rfl

/-- `getAvailableClient` with an empty idle list: the counter (HTTP/1: already incremented) allows one more connection -/
def dialAllowed (s : State) : Bool :=
  match s.kind with
  | .h1 => h1CanNew s.maxConn (s.total + h1NewDelta)
  | .pp => ppCanNew s.maxConn s.total

/-- `getAvailableClient` / `GetActiveClient` in closed form: every failed dial and every refusal gives the slot it took
back (the regenerated counter movements cancel), so the state changes only when a client is handed out -/
theorem acquire_eq (s : State) (f : Dial) :
    acquire s f =
      if s.idle.isEmpty then
        if dialAllowed s then
          if f.fails then (s, .connFail f.isTimeout) else (withNewClient s, .ok s.nClients)
        else (s, .overflow)
      else
        if reuseRefused s.kind s.maxConn s.total s.idle.length then (s, .overflow)
        else ({ s with idle := s.idle.dropLast }, .ok (s.idle.getLast?.getD 0)) := by
  have back : ∀ (t : Int) (r : Res), t = s.total → (({ s with total := t }, r) : State × Res) = (s, r) :=
    fun t r ht => congrArg (·, r) (state_total_eta s t ht)
  -- both sides make the same tests in the same order: compare the outcomes one by one
  cases hk : s.kind <;> (unfold acquire dialAllowed reuseRefused; rw [hk]; dsimp only) <;>
    refine ite_congr rfl (fun _ => ite_congr rfl (fun _ => ite_congr rfl (fun _ => ?_) fun _ => ?_) fun _ => ?_)
      fun _ => ite_congr rfl (fun _ => rfl) fun _ => ?_
  · rw [← hk]; refine back _ _ ?_; unfold h1NewDelta h1DialFailDelta; split <;> omega
  · rw [← hk]; rfl
  · rw [← hk]; refine back _ _ ?_; unfold h1NewDelta h1OverflowDelta; omega
  · rw [← hk]
  · rw [← hk]; refine back _ _ ?_; unfold ppDialFailDelta; split <;> omega
  · rw [← hk]; rfl
  · rfl
  · rw [← hk]

/-- the four outcomes of `getAvailableClient` / `GetActiveClient` -/
theorem acquire_cases (s : State) (f : Dial) :
    acquire s f = (s, .overflow) ∨ acquire s f = (s, .connFail f.isTimeout) ∨
    acquire s f = (withNewClient s, .ok s.nClients) ∨
    ∃ rest c, s.idle = rest ++ [c] ∧ acquire s f = ({ s with idle := rest }, .ok c) := by
  generalize hr : acquire s f = r
  rw [acquire_eq] at hr
  split at hr
  · split at hr
    · split at hr
      · exact Or.inr (Or.inl hr.symm)
      · exact Or.inr (Or.inr (Or.inl hr.symm))
    · exact Or.inl hr.symm
  · split at hr
    · exact Or.inl hr.symm
    · rename_i hne _
      rcases List.eq_nil_or_concat s.idle with e | ⟨rest, c, e⟩
      · rw [e] at hne; exact absurd rfl hne
      · rw [List.concat_eq_append] at e
        refine Or.inr (Or.inr (Or.inr ⟨rest, c, e, ?_⟩))
        rw [← hr, e, List.dropLast_concat, List.getLast?_concat]; rfl

theorem newStream_cases (s : State) (f : Dial) :
    (newStream s f = (s, .overflow)) ∨ (newStream s f = (s, .connFail f.isTimeout)) ∨
    (newStream s f = (lease (withNewClient s) s.nClients, .ok s.nClients)) ∨
    ∃ rest c, s.idle = rest ++ [c] ∧ newStream s f = (lease { s with idle := rest } c, .ok c) := by
  unfold newStream
  rw [breakerFirst_eq]
  simp only [if_true]
  split
  · rcases acquire_cases s f with h | h | h | ⟨rest, c, h1, h2⟩
    · left; rw [h]
    · right; left; rw [h]
    · right; right; left; rw [h]
    · right; right; right; exact ⟨rest, c, h1, by rw [h2]⟩
  · left; rfl

theorem newStream_kept (s : State) (h : Inv s) (f : Dial) : Kept s (newStream s f).1 := by
  rcases newStream_cases s f with e | e | e | ⟨rest, c, h1, e⟩ <;> rw [e]
  · exact .rfl' h
  · exact .rfl' h
  · exact ⟨inv_lease_new s h, rfl, rfl, rfl⟩
  · exact ⟨inv_lease_pop s h rest c h1, rfl, rfl, rfl⟩

theorem step_kept (s : State) (h : Inv s) (op : Op) : Kept s (step s op).1 := by
  cases op with
  | newStream f => exact newStream_kept s h f
  | response i cc =>
    refine guarded (.rfl' h) fun hh => ?_
    split
    · exact (mark_kept s h _).trans (destroy_kept _ (mark_kept s h _).1 i hh.1 hh.2)
    · exact destroy_kept s h i hh.1 hh.2
  | garbage i =>
    refine guarded (.rfl' h) fun hh => ?_
    cases hk : s.kind
    · exact reset_kept s h i _ hh.1 hh.2 (by rw [hk]; exact markClose_remote_h1)
    · exact netClose_kept s h _ _
  | localReset i => exact guarded (.rfl' h) fun hh => reset_kept s h i _ hh.1 hh.2 (markClose_local _)
  | lateReset i =>
    refine guarded (.rfl' h) fun hh => ?_
    have hd : (s.stream i).live = false := by simpa using hh.2
    rw [resetStream_dead s i _ hd, destroyStream_dead s i hd]; exact .rfl' h
  | goAway c => exact guarded (.rfl' h) fun _ => mark_kept s h c
  | unknownReply c => exact .rfl' h
  | connClose c remote => exact netClose_kept s h c _
  | shutdown => exact ⟨inv_flags s h _ (fun k => by dsimp only []; split <;> simp), rfl, rfl, rfl⟩
  | closeAll =>
    exact Lemmas.Fold.foldl_inv (P := Kept s) (fun t c k => k.trans (netClose_kept t k.1 c _)) s.idle s (.rfl' h)
  | extInc => exact ⟨inv_ext_inc s h, rfl, rfl, rfl⟩
  | extDec => exact guarded (.rfl' h) fun hh => ⟨inv_ext_dec s h hh, rfl, rfl, rfl⟩

theorem inv_step (s : State) (h : Inv s) (op : Op) : Inv (step s op).1 := (step_kept s h op).1

theorem run_kept (s : State) (h : Inv s) (ops : List Op) : Kept s (run s ops) := by
  induction ops generalizing s with
  | nil => exact .rfl' h
  | cons op r ih => exact (step_kept s h op).trans (ih _ (step_kept s h op).1)

theorem inv_run (s : State) (h : Inv s) (ops : List Op) : Inv (run s ops) := (run_kept s h ops).1

theorem inv_trace (s : State) (h : Inv s) (ops : List Op) : ∀ p ∈ trace s ops, Inv p.2 := by
  induction ops generalizing s with
  | nil => intro p hp; simp [trace] at hp
  | cons op r ih =>
    intro p hp
    simp only [trace, List.mem_cons] at hp
    rcases hp with hp | hp
    · subst hp; exact inv_step s h op
    · exact ih _ (inv_step s h op) p hp

end MosnVerif.Model.Pool
