import MosnVerif.Lemmas.FrameSteps
import MosnVerif.Lemmas.Framing
/-! bolt v1 frames on a boltv2 connection (and v2 frames on a bolt connection): `Decode` looks at the first byte and hands
the buffer to the sibling codec BEFORE it applies its own minimum length — over the regenerated guard (`*_nonEmpty`),
first-byte test (`*_isOther`, `*_codeIdx`) and minimum lengths (`bolt_enough`, `boltv2_enough`) of Gen/FrameLen. -/
namespace MosnVerif.Lemmas.BoltHandover
open MosnVerif.Model.Framing MosnVerif.Model.FrameBytes MosnVerif.Model.FrameSteps
open MosnVerif.Gen.FrameLen MosnVerif.Gen.FrameConsts

theorem boltSel_v1_on_v2 (b : Bytes) (hb : 0 < b.length) (h1 : u8 b 0 = 1) :
    boltSel selFuel true b = boltSel selFuel false b := by
  have h0 : b.length > 0 := hb
  simp only [selFuel, boltSel]
  frame_len_defs
  simp [h0, h1]

theorem boltSel_v2_on_v1 (b : Bytes) (hb : 0 < b.length) (h2 : u8 b 0 = 2) :
    boltSel selFuel false b = boltSel selFuel true b := by
  have h0 : b.length > 0 := hb
  simp only [selFuel, boltSel]
  frame_len_defs
  simp [h0, h2]

theorem frameStep_sibling (v2 : Bool) (b : Bytes) (hb : 0 < b.length) (c : Nat) (h1 : u8 b 0 = c)
    (hs : ∀ q : Bytes, 0 < q.length → u8 q 0 = c → boltSel selFuel v2 q = boltSel selFuel (!v2) q) :
    envelope (boltHdr v2) (boltOk v2) b = envelope (boltHdr !v2) (boltOk !v2) b := by
  unfold envelope
  have hh : boltHdr v2 b = boltHdr (!v2) b := by unfold boltHdr; rw [hs b hb h1]
  rw [hh]
  split
  · rfl
  · rfl
  · rename_i n hn
    have ⟨n0, nl⟩ := (boltHdr_stable (!v2)).pos b n hn
    have hl : (b.take n).length = n := by simp [List.length_take]; omega
    have hu : u8 (b.take n) 0 = c := by
      have := u8_append (b.take n) (b.drop n) 0 (by omega)
      rw [List.take_append_drop] at this
      rw [← this]; exact h1
    have : boltOk v2 (b.take n) = boltOk (!v2) (b.take n) := by
      unfold boltOk
      rw [hs (b.take n) (by omega) hu]
    rw [this]

end MosnVerif.Lemmas.BoltHandover
