import MosnVerif.Model.FilterRegs
import MosnVerif.Lemmas.Fold
/-! Lemmas about one pass of the receiver / sender filter loop.

A receiver pass in closed form (`recvLoop_eq`): WHICH filters it invokes does not depend on what they do to the stream — it is
the declarative reference `cutAfter s.rcalls (ofPhase p fs idx)` (a filter is invoked at most once per pass, so its invocation
count is the one the pass started with); WHAT the pass does is the left fold of `invoke` over that list; WHERE it leaves the
cursor is read off the last invocation (`park`).  So a fact about the invocations of a pass is a fact about two list functions,
and a fact about the state after it is a fact about a fold (`Lemmas/Fold`). -/
namespace MosnVerif.Model.FilterChain
open MosnVerif.Gen.FilterPhase

/-- a header-only hijack CLEARS the held data, a hijack with body REPLACES it by its own -/
@[simp] theorem hijack_data_eff (body held : Bool) : applyEff (hijackDataEff body) body held = body := by
  cases body <;> rfl

/-- both hijack paths clear the held trailers -/
@[simp] theorem hijack_trailers_eff (body held : Bool) : applyEff (hijackTrailersEff body) false held = false := by
  cases body <;> rfl

/-- `SendDirectResponse(headers, nil, nil)` assigns both parts from its (absent) arguments -/
@[simp] theorem direct_data_eff (held : Bool) : applyEff Gen.ProxyReply.directData false held = false := rfl
@[simp] theorem direct_trailers_eff (held : Bool) : applyEff Gen.ProxyReply.directTrailers false held = false := rfl

/-- `sendHijackReply[WithBody]` in closed form: the stored response is exactly this reply -/
theorem sendHijack_eq (s : FState) (code : Nat) (body : Bool) :
    sendHijack s code body = { s with statusVar := some code, resp := some ⟨body, false⟩, direct := true } := by
  simp [sendHijack]

@[simp] theorem sendDirect_eq (s : FState) : sendDirect s = { s with resp := some ⟨false, false⟩, direct := true } := by
  simp [sendDirect]

/-- the handler calls of a filter do nothing (no call, or a refused `TerminateStream`) or store a reply: a response object, a
status code, the pending-reply flag, and for `TerminateStream` the won `upstreamResponseReceived` CAS -/
theorem applyAct_cases (s : FState) (a : Act) :
    applyAct s a = s ∨
      ∃ r sv u, applyAct s a = { s with resp := some r, statusVar := sv, direct := true, upRespReceived := u } := by
  cases a with
  | none => exact .inl rfl
  | hijack code body => exact .inr ⟨_, _, _, rfl⟩
  | direct => exact .inr ⟨_, _, _, rfl⟩
  | terminate code =>
    simp only [applyAct]
    split
    · exact .inl rfl
    · exact .inr ⟨_, _, _, rfl⟩

/-- the three ways the `switch filterStatus` of the receiver loop goes, in the vocabulary of the theorems -/
theorem recvSwitch_cases (st : FStatus) :
    (recvSwitch st = .next ∧ continues st = true ∧ ¬ asksAgain st) ∨
    (recvSwitch st = .resetReturn ∧ continues st = false ∧ ¬ asksAgain st) ∨
    (recvSwitch st = .keepReturn ∧ continues st = false ∧ asksAgain st) := by
  cases st <;> simp [recvSwitch, continues, asksAgain]

open MosnVerif.Model.FilterRegs (ofPhase cutAfter)
open MosnVerif.Lemmas

/-- one invocation: count it, run the filter's handler calls, then the status handler -/
def invoke (p : RPhase) (s : FState) (iv : Inv) : FState :=
  applyHandler (receiverHandler iv.2.status) p (applyAct { s with rcalls := bump s.rcalls iv.1 } iv.2.act)

/-- the cursor bookkeeping at the end of the loop: kept (with the phase) at a last filter that asked for a re-run, else 0 -/
def park (p : RPhase) (invs : List Inv) (s : FState) : FState :=
  match invs.getLast? with
  | some iv => if asksAgain iv.2.status then { s with cursor := iv.1, cphase := p } else { s with cursor := 0 }
  | none => { s with cursor := 0 }

theorem park_cons (p : RPhase) (a : Inv) (l : List Inv) (s : FState) (h : ¬ asksAgain a.2.status) :
    park p (a :: l) s = park p l s := by
  cases l with
  | nil => simp [park, h]
  | cons b r => simp [park, List.getLast?_cons_cons]

/-- the `case` number of downStream.receive that runs the receiver filters of a phase -/
def pn : RPhase → Nat
  | .BeforeRoute => DownFilter
  | .AfterRoute => DownFilterAfterRoute
  | .AfterChooseHost => DownFilterAfterChooseHost

/-- the status handler in closed form: `termination` cleans the stream, an honoured re-run request sets the again-phase to the
phase in front of the asking filter's, nothing else happens -/
theorem handler_eq (st : FStatus) (p : RPhase) (s : FState) :
    applyHandler (receiverHandler st) p s =
      { s with cleaned := st == .termination || s.cleaned, again := if accepted p st then pn p - 1 else s.again } := by
  cases st <;> cases p <;> rfl

/-- one invocation as one update of the stream state -/
theorem invoke_frame (p : RPhase) (s : FState) (iv : Inv) :
    ∃ r sv d u, invoke p s iv =
      { s with rcalls := bump s.rcalls iv.1, resp := r, statusVar := sv, direct := d, upRespReceived := u,
               cleaned := iv.2.status == .termination || s.cleaned,
               again := if accepted p iv.2.status then pn p - 1 else s.again } := by
  unfold invoke
  rcases applyAct_cases { s with rcalls := bump s.rcalls iv.1 } iv.2.act with e | ⟨_, _, _, e⟩ <;> rw [e, handler_eq]
  · exact ⟨_, _, _, _, rfl⟩
  · exact ⟨_, _, _, _, rfl⟩

theorem invoke_rcalls (p : RPhase) (s : FState) (iv : Inv) : (invoke p s iv).rcalls = bump s.rcalls iv.1 := by
  obtain ⟨_, _, _, _, e⟩ := invoke_frame p s iv
  rw [e]

theorem cutAfter_congr (c1 c2 : Nat → Nat) (l : List (Nat × RFilter)) (h : ∀ x ∈ l, c1 x.1 = c2 x.1) :
    cutAfter c1 l = cutAfter c2 l := by
  induction l with
  | nil => rfl
  | cons x r ih =>
    obtain ⟨i, f⟩ := x
    simp only [cutAfter, h (i, f) (.head _), ih (fun y hy => h y (.tail _ hy))]

/-- the filters of a phase: the chain with its indices, filtered -/
theorem ofPhase_eq (p : RPhase) (fs : List RFilter) (idx : Nat) :
    ofPhase p fs idx = (fs.zipIdx idx).filterMap fun x => if x.1.phase = p then some (x.2, x.1) else none := by
  induction fs generalizing idx with
  | nil => rfl
  | cons f r ih =>
    rw [ofPhase, List.zipIdx_cons, List.filterMap_cons, ← ih]
    split <;> rfl

theorem mem_ofPhase {p : RPhase} {fs : List RFilter} {idx : Nat} {x : Nat × RFilter} (h : x ∈ ofPhase p fs idx) :
    idx ≤ x.1 ∧ fs[x.1 - idx]? = some x.2 ∧ x.2.phase = p := by
  rw [ofPhase_eq, List.mem_filterMap] at h
  obtain ⟨y, hy, e⟩ := h
  split at e
  · cases e
    exact ⟨(List.mem_zipIdx_iff_le_and_getElem?_sub.mp hy).1, (List.mem_zipIdx_iff_le_and_getElem?_sub.mp hy).2, ‹_›⟩
  · cases e
/-- **a pass in closed form** -/
theorem recvLoop_eq (p : RPhase) (fs : List RFilter) (idx : Nat) (s : FState) :
    recvLoop p fs idx s =
      (park p (cutAfter s.rcalls (ofPhase p fs idx)) ((cutAfter s.rcalls (ofPhase p fs idx)).foldl (invoke p) s),
        cutAfter s.rcalls (ofPhase p fs idx)) := by
  induction fs generalizing idx s with
  | nil => rfl
  | cons f rest ih =>
    unfold recvLoop ofPhase
    by_cases hp : f.phase = p
    · rw [if_neg (not_not_intro hp), if_pos hp]
      -- the filters behind this one are counted as before it ran
      have later : cutAfter (invoke p s (idx, f.verdictAt (s.rcalls idx))).rcalls (ofPhase p rest (idx + 1)) =
          cutAfter s.rcalls (ofPhase p rest (idx + 1)) :=
        cutAfter_congr _ _ _ fun x hx => by
          have := (mem_ofPhase hx).1
          rw [invoke_rcalls]; exact if_neg (by omega)
      generalize hv : f.verdictAt (s.rcalls idx) = v at later
      simp only [cutAfter, hv]
      rcases recvSwitch_cases v.status with ⟨hsw, hc, hna⟩ | ⟨hsw, hc, hna⟩ | ⟨hsw, hc, ha⟩ <;> simp only [hsw]
      · have ih' := ih (idx + 1) (invoke p s (idx, v))
        rw [later] at ih'
        simp only [hc, if_true, List.foldl_cons, park_cons p (idx, v) _ _ hna]
        exact congrArg (fun r => (r.1, (idx, v) :: r.2)) ih'
      · simp [hc, park, hna, invoke]
      · simp [hc, park, ha, invoke, keepRecordsPhase]
    · rw [if_pos hp, if_neg hp]
      exact ih _ _

theorem park_frame (p : RPhase) (l : List Inv) (s : FState) : ∃ n cp, park p l s = { s with cursor := n, cphase := cp } := by
  unfold park
  split
  · split
    · exact ⟨_, _, rfl⟩
    · exact ⟨_, _, rfl⟩
  · exact ⟨_, _, rfl⟩

theorem park_cursor (p : RPhase) (l : List Inv) (s : FState) : (park p l s).cursor = cursorAfter l := by
  unfold park cursorAfter
  cases l.getLast? with
  | none => rfl
  | some iv => exact apply_ite FState.cursor _ _ _

/-- the state after a pass is the fold of its invocations, up to the cursor bookkeeping -/
theorem recvLoop_fold {P : FState → Prop} {p : RPhase} {fs : List RFilter} {idx : Nat} {s : FState}
    (cur : ∀ t n cp, P t → P { t with cursor := n, cphase := cp }) (h : P ((recvLoop p fs idx s).2.foldl (invoke p) s)) :
    P (recvLoop p fs idx s).1 := by
  rw [recvLoop_eq] at h ⊢
  obtain ⟨n, cp, e⟩ := park_frame p (cutAfter s.rcalls (ofPhase p fs idx)) ((cutAfter s.rcalls (ofPhase p fs idx)).foldl (invoke p) s)
  rw [e]
  exact cur _ _ _ h

/-- a pass counts each of its invocations -/
theorem recvLoop_rcalls (p : RPhase) (fs : List RFilter) (idx : Nat) (s : FState) :
    (recvLoop p fs idx s).1.rcalls = (recvLoop p fs idx s).2.foldl (fun rc iv => bump rc iv.1) s.rcalls :=
  recvLoop_fold (P := fun t => t.rcalls = _) (fun _ _ _ h => h)
    (List.foldl_hom FState.rcalls fun t iv => (invoke_rcalls p t iv).symm).symm

theorem recvLoop_invs (p : RPhase) (fs : List RFilter) (idx : Nat) (s : FState) :
    (recvLoop p fs idx s).2 = cutAfter s.rcalls (ofPhase p fs idx) :=
  congrArg Prod.snd (recvLoop_eq p fs idx s)

/-- the invocations of a pass are a prefix of "every filter of the phase, with the verdict of its invocation count" -/
theorem cutAfter_prefix (calls : Nat → Nat) (l : List (Nat × RFilter)) :
    cutAfter calls l <+: l.map (fun x => (x.1, x.2.verdictAt (calls x.1))) := by
  induction l with
  | nil => exact List.prefix_refl _
  | cons x r ih =>
    obtain ⟨i, f⟩ := x
    simp only [cutAfter, List.map_cons, List.cons_prefix_cons, true_and]
    split
    · exact ih
    · exact List.nil_prefix

/-- every invocation of a pass but the last lets the chain go on -/
theorem cutAfter_init (calls : Nat → Nat) (l : List (Nat × RFilter)) :
    ∀ iv ∈ (cutAfter calls l).dropLast, continues iv.2.status = true := by
  induction l with
  | nil => intro iv h; cases h
  | cons x r ih =>
    obtain ⟨i, f⟩ := x
    simp only [cutAfter]
    by_cases hc : continues (f.verdictAt (calls i)).status = true
    · rw [if_pos hc]
      intro iv hiv
      cases hl : cutAfter calls r with
      | nil => rw [hl] at hiv; cases hiv
      | cons b r' =>
        rw [hl, List.dropLast_cons_cons] at hiv
        rcases List.mem_cons.mp hiv with rfl | h
        · exact hc
        · exact ih iv (hl ▸ h)
    · rw [if_neg hc]; intro iv h; cases h

/-- what a member of the run establishes and every invocation keeps holds after the run -/
theorem foldl_of_mem {σ α : Type} {P Q : σ → Prop} {f : σ → α → σ} (keepP : ∀ s a, P s → P (f s a))
    (keepQ : ∀ s a, Q s → Q (f s a)) {a : α} (hit : ∀ s, P s → Q (f s a)) {l : List α} (ha : a ∈ l) (s : σ) (h : P s) :
    Q (l.foldl f s) := by
  obtain ⟨l1, l2, rfl⟩ := List.append_of_mem ha
  rw [List.foldl_append, List.foldl_cons]
  exact Fold.foldl_inv keepQ l2 _ (hit _ (Fold.foldl_inv keepP l1 s h))

theorem ascFrom_mono {lb lb' : Nat} {l : List Inv} (h : lb' ≤ lb) (ha : ascFrom lb l) : ascFrom lb' l := by
  cases l with
  | nil => trivial
  | cons iv r => exact ⟨Nat.le_trans h ha.1, ha.2⟩

/-- **order inside one pass**: the invocations of one `RunReceiverFilter` call have strictly increasing indices ≥ the
start cursor -/
theorem recvLoop_asc (p : RPhase) (fs : List RFilter) (idx : Nat) (s : FState) :
    ascFrom idx (recvLoop p fs idx s).2 := by
  rw [recvLoop_invs]
  induction fs generalizing idx with
  | nil => trivial
  | cons f rest ih =>
    unfold ofPhase
    split
    · exact ⟨Nat.le_refl _, by split; exact ih _; trivial⟩
    · exact ascFrom_mono (Nat.le_succ idx) (ih _)

theorem ascFrom_lb {lb : Nat} {l : List Inv} (ha : ascFrom lb l) : ∀ iv ∈ l, lb ≤ iv.1 := by
  induction l generalizing lb with
  | nil => intro iv h; cases h
  | cons a r ih =>
    intro iv h
    cases h with
    | head => exact ha.1
    | tail _ h' => exact Nat.le_trans (Nat.le_trans ha.1 (Nat.le_succ _)) (ih ha.2 iv h')

theorem ascFrom_count_le_one {lb : Nat} {l : List Inv} (ha : ascFrom lb l) (i : Nat) :
    (l.filter (fun iv => iv.1 == i)).length ≤ 1 := by
  induction l generalizing lb with
  | nil => simp
  | cons a r ih =>
    simp only [List.filter_cons]
    split
    · rename_i h
      have hai : a.1 = i := by simpa using h
      have : r.filter (fun iv => iv.1 == i) = [] := by
        rw [List.filter_eq_nil_iff]
        intro iv hiv
        have := ascFrom_lb ha.2 iv hiv
        simp; omega
      simp [this]
    · exact ih ha.2

/-- every invocation of a pass is of a filter registered for the phase of the pass, and returns what the filter's
script says for its invocation count -/
theorem recvLoop_mem (p : RPhase) (fs : List RFilter) (idx : Nat) (s : FState) :
    ∀ iv ∈ (recvLoop p fs idx s).2, ∃ f, fs[iv.1 - idx]? = some f ∧ idx ≤ iv.1 ∧ f.phase = p ∧
      iv.2 = f.verdictAt (s.rcalls iv.1) := by
  rw [recvLoop_eq]
  intro iv hiv
  obtain ⟨x, hx, rfl⟩ := List.mem_map.mp ((cutAfter_prefix _ _).subset hiv)
  obtain ⟨h1, h2, h3⟩ := mem_ofPhase hx
  exact ⟨x.2, h2, h1, h3, rfl⟩

/-- a pass started at a filter of its own phase invokes that filter first -/
theorem recvLoop_first (p : RPhase) (f : RFilter) (rest : List RFilter) (idx : Nat) (s : FState) (hp : f.phase = p) :
    ∃ v l, (recvLoop p (f :: rest) idx s).2 = (idx, v) :: l := by
  rw [recvLoop_eq, ofPhase, if_pos hp]; exact ⟨_, _, rfl⟩

/-- every invocation of a pass but the last lets the chain go on -/
theorem recvLoop_init_next (p : RPhase) (fs : List RFilter) (idx : Nat) (s : FState) :
    ∀ iv ∈ (recvLoop p fs idx s).2.dropLast, continues iv.2.status = true := by
  rw [recvLoop_invs]; exact cutAfter_init _ _

/-- a list that goes on from `idx` with `a` has `a` at `idx` -/
theorem getElem?_of_drop {α} {l : List α} {idx : Nat} {a : α} {rest : List α} (h : l.drop idx = a :: rest) :
    l[idx]? = some a ∧ l.drop (idx + 1) = rest := by
  have hlt : idx < l.length := Nat.lt_of_not_le fun h' => by rw [List.drop_eq_nil_of_le h'] at h; cases h
  rw [List.drop_eq_getElem_cons hlt] at h
  cases h
  exact ⟨List.getElem?_eq_getElem hlt, rfl⟩

/-- **resume (cursor)**: after a pass the cursor stands at the last invoked filter if that one asked for
re-match / re-choose, and at 0 otherwise -/
theorem recvLoop_cursor (p : RPhase) (fs : List RFilter) (idx : Nat) (s : FState) :
    (recvLoop p fs idx s).1.cursor = cursorAfter (recvLoop p fs idx s).2 := by
  rw [recvLoop_eq]; exact park_cursor _ _ _

/-- the regenerated start guard, in the vocabulary of the theorems: a kept cursor only resumes a pass of the same phase -/
theorem startOf_eq (s : FState) (p : RPhase) :
    startOf s p = if s.cursor ≠ 0 ∧ p ≠ s.cphase then 0 else s.cursor := by
  unfold startOf recvStart
  by_cases h0 : s.cursor = 0 <;> by_cases hp : s.cphase = p <;> simp [h0, hp]
  all_goals (first | (intro h; exact absurd h.symm hp) | skip)

/-- a pass that leaves the cursor at a filter records its own phase with it -/
theorem recvLoop_cphase (p : RPhase) (fs : List RFilter) (idx : Nat) (s : FState) :
    (recvLoop p fs idx s).1.cursor ≠ 0 → (recvLoop p fs idx s).1.cphase = p := by
  rw [recvLoop_eq]
  unfold park
  split
  · split
    · exact fun _ => rfl
    · exact fun h => absurd rfl h
  · exact fun h => absurd rfl h

/-- a local reply is pending or the stream is already cleaned -/
def Pending (s : FState) : Prop := s.direct = true ∨ s.cleaned = true

/-- a response object or a won `upstreamResponseReceived` CAS only exists together with a pending reply (true in
the receive phases: nothing has been sent upstream yet) -/
def Rinv (s : FState) : Prop := (s.resp.isSome = true ∨ s.upRespReceived = true) → Pending s

theorem applyAct_pending (s : FState) (a : Act) (h : Pending s) : Pending (applyAct s a) := by
  rcases applyAct_cases s a with e | ⟨_, _, _, e⟩ <;> rw [e]
  · exact h
  · exact .inl rfl

theorem applyHandler_pending (e : HEffect) (p : RPhase) (s : FState) (h : Pending s) : Pending (applyHandler e p s) := by
  unfold Pending at *
  cases e <;> simp [applyHandler, cleanStream] <;> try exact h
  split <;> exact h

theorem applyAct_rinv (s : FState) (a : Act) (h : Rinv s) : Rinv (applyAct s a) := by
  rcases applyAct_cases s a with e | ⟨_, _, _, e⟩ <;> rw [e]
  · exact h
  · exact fun _ => .inl rfl

theorem applyHandler_rinv (e : HEffect) (p : RPhase) (s : FState) (h : Rinv s) : Rinv (applyHandler e p s) := by
  unfold Rinv Pending at *
  cases e <;> simp [applyHandler, cleanStream] <;> try exact h
  split <;> exact h

/-- a denying verdict leaves a pending reply (or a cleaned stream) behind -/
theorem deny_pending (s : FState) (v : Verdict) (p : RPhase) (hr : Rinv s) (hd : v.isDeny = true) :
    Pending (applyHandler (receiverHandler v.status) p (applyAct { s with rcalls := bump s.rcalls i } v.act)) := by
  obtain ⟨act, st⟩ := v
  have hr' : Rinv { s with rcalls := bump s.rcalls i } := hr
  simp only [Verdict.isDeny, Bool.or_eq_true] at hd
  rcases hd with (hd | hd) | hd
  · apply applyHandler_pending
    cases act <;> simp [Act.answers] at hd <;> simp [applyAct, sendHijack, Pending]
  · apply applyHandler_pending
    cases act <;> simp at hd
    simp only [applyAct]
    split
    · rename_i hc
      simp only [Bool.or_eq_true] at hc
      rcases hc with (hc | hc) | hc
      · exact hr' (Or.inl hc)
      · exact Or.inr hc
      · exact hr' (Or.inr hc)
    · simp [sendHijack, Pending]
  · have : st = .termination := by simpa using hd
    subst this
    simp [receiverHandler, applyHandler, cleanStream, Pending]

theorem invoke_rinv (p : RPhase) (s : FState) (iv : Inv) (h : Rinv s) : Rinv (invoke p s iv) :=
  applyHandler_rinv _ _ _ (applyAct_rinv _ _ (h : Rinv { s with rcalls := bump s.rcalls iv.1 }))

theorem invoke_pending (p : RPhase) (s : FState) (iv : Inv) (h : Pending s) : Pending (invoke p s iv) :=
  applyHandler_pending _ _ _ (applyAct_pending _ _ (h : Pending { s with rcalls := bump s.rcalls iv.1 }))

/-- what every invocation and the cursor bookkeeping preserve, the receiver loop preserves -/
theorem recvLoop_preserves {P : FState → Prop} (p : RPhase) (fs : List RFilter) (idx : Nat) (s : FState) (h : P s)
    (inv : ∀ t iv, P t → P (invoke p t iv)) (cur : ∀ t n cp, P t → P { t with cursor := n, cphase := cp }) :
    P (recvLoop p fs idx s).1 :=
  recvLoop_fold cur (Fold.foldl_inv inv _ s h)

theorem recvLoop_rinv (p : RPhase) (fs : List RFilter) (idx : Nat) (s : FState) (h : Rinv s) :
    Rinv (recvLoop p fs idx s).1 :=
  recvLoop_preserves p fs idx s h (invoke_rinv p) (fun _ _ _ ht => ht)

/-- **a deny is never lost inside a pass**: if some invocation of the pass denied, the pass ends with a pending reply
or a cleaned stream — whatever later filters of the same pass returned -/
theorem recvLoop_deny (p : RPhase) (fs : List RFilter) (idx : Nat) (s : FState) (hr : Rinv s)
    (hd : ∃ iv ∈ (recvLoop p fs idx s).2, iv.2.isDeny = true) : Pending (recvLoop p fs idx s).1 := by
  obtain ⟨iv, hiv, hdeny⟩ := hd
  exact recvLoop_fold (fun _ _ _ h => h)
    (foldl_of_mem (invoke_rinv p) (invoke_pending p) (fun t ht => deny_pending t iv.2 p ht hdeny) hiv s hr)

/-- the reply-related fields of the stream state -/
def core (s : FState) : Bool × Bool × Option Resp × Option Nat × Bool :=
  (s.direct, s.cleaned, s.resp, s.statusVar, s.upRespReceived)

theorem nodeny_core (s : FState) (v : Verdict) (p : RPhase) (i : Nat) (hd : v.isDeny = false) :
    core (applyHandler (receiverHandler v.status) p (applyAct { s with rcalls := bump s.rcalls i } v.act)) = core s := by
  obtain ⟨act, st⟩ := v
  simp only [Verdict.isDeny, Bool.or_eq_false_iff] at hd
  obtain ⟨⟨h1, h2⟩, h3⟩ := hd
  have hact : act = .none := by cases act <;> simp [Act.answers] at h1 h2 ⊢
  subst hact
  have hst : st ≠ .termination := by simpa using h3
  cases st <;> simp [receiverHandler, applyHandler, applyAct, core] at hst ⊢ <;> (try split) <;> simp

/-- a pass without a denying verdict leaves the reply-related state untouched -/
theorem recvLoop_nodeny (p : RPhase) (fs : List RFilter) (idx : Nat) (s : FState)
    (hd : ∀ iv ∈ (recvLoop p fs idx s).2, iv.2.isDeny = false) : core (recvLoop p fs idx s).1 = core s :=
  recvLoop_fold (P := fun t => core t = core s) (fun _ _ _ h => h)
    (Fold.foldl_frame core _ _ (fun iv hiv t => nodeny_core t iv.2 p iv.1 (hd iv hiv)) s)

/-- during a pass that started in the receive phases: a won `upstreamResponseReceived` CAS implies a response object,
and the stream is not cleaned (a termination ends the pass at once) -/
def ActOK (s : FState) : Prop := s.cleaned = false ∧ (s.upRespReceived = true → s.resp.isSome = true)

theorem applyAct_reply (s : FState) (a : Act) (h : ActOK s) :
    ((applyAct s a).resp, (applyAct s a).statusVar) = replyOf [⟨a, .Continue⟩] (s.resp, s.statusVar) ∧
    ActOK (applyAct s a) := by
  obtain ⟨hc, hu⟩ := h
  cases a with
  | none => exact ⟨rfl, hc, hu⟩
  | hijack k b => exact ⟨by simp [applyAct, sendHijack, replyOf], by simpa [applyAct, sendHijack] using hc, fun _ => by simp [applyAct, sendHijack]⟩
  | direct => exact ⟨by simp [applyAct, replyOf], by simpa [applyAct] using hc, fun _ => by simp [applyAct]⟩
  | terminate k =>
    simp only [applyAct, replyOf, hc, Bool.or_false]
    by_cases hr : s.resp.isSome = true
    · simp [hr, ActOK, hc]
    · have hr' : s.resp.isSome = false := by simpa using hr
      have hu' : s.upRespReceived = false := by
        cases h : s.upRespReceived
        · rfl
        · rw [hu h] at hr'; cases hr'
      simp [hr', hu', sendHijack, ActOK]

theorem replyOf_cons (v : Verdict) (l : List Verdict) (acc : Option Resp × Option Nat) :
    replyOf (v :: l) acc = replyOf l (replyOf [⟨v.act, .Continue⟩] acc) := by
  obtain ⟨resp, code⟩ := acc
  simp [replyOf]

theorem replyOf_append (l1 l2 : List Verdict) (acc : Option Resp × Option Nat) :
    replyOf (l1 ++ l2) acc = replyOf l2 (replyOf l1 acc) := by
  induction l1 generalizing acc with
  | nil => rfl
  | cons v r ih =>
    obtain ⟨resp, code⟩ := acc
    simp [replyOf, ih]

theorem replyOf_noact (l : List Verdict) (acc : Option Resp × Option Nat) (h : ∀ v ∈ l, v.act = .none) :
    replyOf l acc = acc := by
  induction l generalizing acc with
  | nil => rfl
  | cons v r ih =>
    obtain ⟨resp, code⟩ := acc
    simp only [replyOf, h v (by simp)]
    exact ih _ (fun x hx => h x (by simp [hx]))

/-- the handler of a status that lets the pass go on does nothing -/
theorem handler_next {st : FStatus} (h : recvSwitch st = .next) (p : RPhase) (s : FState) :
    applyHandler (receiverHandler st) p s = s := by
  cases st <;> first | rfl | cases h

/-- the pending response and status code after a pass are the fold of the handler calls of its invocations -/
theorem recvLoop_reply (p : RPhase) (fs : List RFilter) (idx : Nat) (s : FState) (h : ActOK s) :
    ((recvLoop p fs idx s).1.resp, (recvLoop p fs idx s).1.statusVar) =
      replyOf ((recvLoop p fs idx s).2.map (·.2)) (s.resp, s.statusVar) := by
  induction fs generalizing idx s with
  | nil => rfl
  | cons f rest ih =>
    simp only [recvLoop]
    split
    · exact ih _ _ h
    · generalize hv : f.verdictAt (s.rcalls idx) = v
      have h0 : ActOK { s with rcalls := bump s.rcalls idx } := h
      obtain ⟨e1, ok1⟩ := applyAct_reply { s with rcalls := bump s.rcalls idx } v.act h0
      have e1' : ((applyAct { s with rcalls := bump s.rcalls idx } v.act).resp,
          (applyAct { s with rcalls := bump s.rcalls idx } v.act).statusVar) = replyOf [⟨v.act, .Continue⟩] (s.resp, s.statusVar) := e1
      split
      · rename_i hsw
        simp only [List.map_cons]
        rw [replyOf_cons, ← e1', handler_next hsw]
        exact ih _ _ ok1
      all_goals
        simp only [List.map_cons, List.map_nil]
        rw [replyOf_cons, ← e1', handler_eq]
        rfl

/-- the sender-side state is untouched by a receiver pass -/
theorem recvLoop_sender (p : RPhase) (fs : List RFilter) (idx : Nat) (s : FState) :
    (recvLoop p fs idx s).1.scalls = s.scalls ∧ (recvLoop p fs idx s).1.scursor = s.scursor := by
  refine recvLoop_preserves (P := fun t => t.scalls = s.scalls ∧ t.scursor = s.scursor) p fs idx s ⟨rfl, rfl⟩
    (fun t iv ht => ?_) (fun _ _ _ ht => ht)
  obtain ⟨_, _, _, _, e⟩ := invoke_frame p t iv
  rw [e]
  exact ht

theorem recvPhaseOf_pn (p : RPhase) : recvPhaseOf (pn p) = some p := by cases p <;> rfl

theorem recvPhaseOf_eq {n : Nat} {p : RPhase} (h : recvPhaseOf n = some p) : n = pn p := by
  unfold recvPhaseOf at h
  split at h
  · cases h; assumption
  · split at h
    · cases h; assumption
    · split at h
      · cases h; assumption
      · cases h

theorem pn_le5 (p : RPhase) : pn p ≤ 5 := by cases p <;> decide

theorem recvPhaseOf_le {n : Nat} {p : RPhase} (h : recvPhaseOf n = some p) : n ≤ 5 := by
  rw [recvPhaseOf_eq h]; exact pn_le5 p

/-- a `termination` status cleans the stream, nothing else of an invocation does -/
theorem invoke_cleaned (p : RPhase) (s : FState) (iv : Inv) :
    (invoke p s iv).cleaned = (iv.2.status == .termination || s.cleaned) := by
  obtain ⟨_, _, _, _, e⟩ := invoke_frame p s iv
  rw [e]

/-- the again-phase is set only by an honoured re-run request, to the phase in front of the asking filter's -/
theorem invoke_again (p : RPhase) (s : FState) (iv : Inv) :
    (invoke p s iv).again = if accepted p iv.2.status then pn p - 1 else s.again := by
  obtain ⟨_, _, _, _, e⟩ := invoke_frame p s iv
  rw [e]

/-- only a re-run request is honoured, and it ends the pass -/
theorem accepted_spec {p : RPhase} {st : FStatus} (h : accepted p st = true) : asksAgain st ∧ continues st = false := by
  cases st <;> first | exact ⟨.inl rfl, rfl⟩ | exact ⟨.inr rfl, rfl⟩ | (cases p <;> cases h)

/-- a pass cleans the stream only through a `termination` status -/
theorem recvLoop_cleaned (p : RPhase) (fs : List RFilter) (idx : Nat) (s : FState)
    (h : (recvLoop p fs idx s).1.cleaned = true) :
    s.cleaned = true ∨ ∃ iv ∈ (recvLoop p fs idx s).2, iv.2.status = .termination := by
  by_cases hx : ∃ iv ∈ (recvLoop p fs idx s).2, iv.2.status = .termination
  · exact .inr hx
  · refine .inl (recvLoop_fold (P := fun t => t.cleaned = true → s.cleaned = true) (fun _ _ _ h => h) (fun h => ?_) h)
    refine (Fold.foldl_frame (·.cleaned) (invoke p) _ (fun iv hiv t => ?_) s).symm.trans h
    rw [invoke_cleaned, Bool.or_eq_right_iff_imp.mpr]
    exact fun ht => absurd ⟨iv, hiv, by simpa using ht⟩ hx

/-- a pending direct response always comes with a response object -/
theorem recvLoop_direct_resp (p : RPhase) (fs : List RFilter) (idx : Nat) (s : FState)
    (h : s.direct = true → s.resp.isSome = true) :
    (recvLoop p fs idx s).1.direct = true → (recvLoop p fs idx s).1.resp.isSome = true := by
  refine recvLoop_preserves (P := fun t => t.direct = true → t.resp.isSome = true) p fs idx s h
    (fun t iv ht => ?_) (fun _ _ _ ht => ht)
  unfold invoke
  rw [handler_eq]
  rcases applyAct_cases { t with rcalls := bump t.rcalls iv.1 } iv.2.act with e | ⟨_, _, _, e⟩ <;> rw [e]
  · exact ht
  · exact fun _ => rfl

/-- the again-phase a pass can leave is MatchRoute or ChooseHost (or nothing) -/
theorem recvLoop_again_vals (p : RPhase) (fs : List RFilter) (idx : Nat) (s : FState)
    (h : s.again = InitPhase ∨ s.again = MatchRoute ∨ s.again = ChooseHost) :
    (recvLoop p fs idx s).1.again = InitPhase ∨ (recvLoop p fs idx s).1.again = MatchRoute ∨
      (recvLoop p fs idx s).1.again = ChooseHost := by
  refine recvLoop_preserves (P := fun t => t.again = InitPhase ∨ t.again = MatchRoute ∨ t.again = ChooseHost) p fs idx s h
    (fun t iv ht => ?_) (fun _ _ _ ht => ht)
  rw [invoke_again]
  split
  · cases p <;> decide
  · exact ht

/-- what the last invocation of a pass tells about the state the pass leaves (pass started with no again-phase) -/
theorem recvLoop_last (p : RPhase) (fs : List RFilter) (idx : Nat) (s : FState) (h0 : s.again = InitPhase) :
    ((recvLoop p fs idx s).1.again ≠ InitPhase →
      ∃ iv, (recvLoop p fs idx s).2.getLast? = some iv ∧ accepted p iv.2.status = true ∧
        (recvLoop p fs idx s).1.again + 1 = pn p) ∧
    (∀ iv, (recvLoop p fs idx s).2.getLast? = some iv → iv.2.status = .termination →
      (recvLoop p fs idx s).1.cleaned = true) := by
  rw [recvLoop_eq]
  generalize hl : cutAfter s.rcalls (ofPhase p fs idx) = l
  have hinit := cutAfter_init s.rcalls (ofPhase p fs idx)
  rw [hl] at hinit
  cases hlast : l.getLast? with
  | none =>
    obtain rfl := List.getLast?_eq_none_iff.mp hlast
    exact ⟨fun h => absurd h0 h, fun iv h => by cases h⟩
  | some iv =>
    obtain ⟨ys, rfl⟩ := List.getLast?_eq_some_iff.mp hlast
    rw [List.dropLast_concat] at hinit
    -- the invocations in front of the last one continued: they left the again-phase alone
    have hys : (ys.foldl (invoke p) s).again = InitPhase :=
      (Fold.foldl_frame (·.again) (invoke p) ys (fun a ha t => by
        rw [invoke_again, if_neg fun h => by have := (accepted_spec h).2; rw [hinit a ha] at this; cases this]) s).trans h0
    rw [List.foldl_append]
    obtain ⟨n, cp, e⟩ := park_frame p (ys ++ [iv]) ([iv].foldl (invoke p) (ys.foldl (invoke p) s))
    rw [e]
    show (_ → ∃ iv', _ ∧ _ ∧ (invoke p (ys.foldl (invoke p) s) iv).again + 1 = _) ∧
      ∀ iv', _ → _ → (invoke p (ys.foldl (invoke p) s) iv).cleaned = true
    refine ⟨fun hne => ⟨iv, rfl, ?_⟩, fun iv' e ht => ?_⟩
    · have ha := invoke_again p (ys.foldl (invoke p) s) iv
      by_cases h1 : accepted p iv.2.status = true
      · rw [if_pos h1] at ha
        exact ⟨h1, by rw [ha]; cases p <;> rfl⟩
      · rw [if_neg h1] at ha
        exact absurd (ha.trans hys) hne
    · cases e
      rw [invoke_cleaned, ht]; rfl

theorem sendSwitch_cases (st : FStatus) :
    (sendSwitch st = .next ∧ continues st = true) ∨ (sendSwitch st = .resetReturn ∧ continues st = false) := by
  cases st <;> simp [sendSwitch, continues]

/-! The sender pass in the same closed form: the reference list with invocation counts (`sendCut`; `sendRun` is its instance
for fresh filters), the fold of `sinvoke` over it, the cursor back at 0 (no sender status keeps it). -/

/-- filters `idx`, `idx+1`, … in order, each with the status of its invocation count, up to and including the first that does
not continue -/
def sendCut (calls : Nat → Nat) : List SFilter → Nat → List SInv
  | [], _ => []
  | f :: r, i => (i, f.statusAt (calls i)) :: (if continues (f.statusAt (calls i)) then sendCut calls r (i + 1) else [])

/-- one sender invocation: count it, then the status handler (`termination` cleans the stream, nothing else happens) -/
def sinvoke (s : FState) (iv : SInv) : FState :=
  applyHandler (senderHandler iv.2) .BeforeRoute { s with scalls := bump s.scalls iv.1 }

theorem sinvoke_eq (s : FState) (iv : SInv) :
    sinvoke s iv = { s with scalls := bump s.scalls iv.1, cleaned := iv.2 == .termination || s.cleaned } := by
  unfold sinvoke; cases iv.2 <;> rfl

theorem sendCut_congr (c1 c2 : Nat → Nat) (fs : List SFilter) (idx : Nat) (h : ∀ j, idx ≤ j → c1 j = c2 j) :
    sendCut c1 fs idx = sendCut c2 fs idx := by
  induction fs generalizing idx with
  | nil => rfl
  | cons f r ih => simp only [sendCut, h idx (Nat.le_refl _), ih (idx + 1) (fun j hj => h j (Nat.le_of_succ_le hj))]

theorem sendLoop_eq (fs : List SFilter) (idx : Nat) (s : FState) :
    sendLoop fs idx s = ({ (sendCut s.scalls fs idx).foldl sinvoke s with scursor := 0 }, sendCut s.scalls fs idx) := by
  induction fs generalizing idx s with
  | nil => rfl
  | cons f rest ih =>
    unfold sendLoop sendCut
    have later : sendCut (sinvoke s (idx, f.statusAt (s.scalls idx))).scalls rest (idx + 1) = sendCut s.scalls rest (idx + 1) :=
      sendCut_congr _ _ _ _ fun j hj => by rw [sinvoke_eq]; exact if_neg (by omega)
    generalize f.statusAt (s.scalls idx) = st at later
    have ih' := ih (idx + 1) (sinvoke s (idx, st))
    rw [later] at ih'
    rcases sendSwitch_cases st with ⟨hsw, hc⟩ | ⟨hsw, hc⟩ <;> simp only [hsw, hc]
    · simp only [if_true, List.foldl_cons]
      exact congrArg (fun r => (r.1, (idx, st) :: r.2)) ih'
    · rfl

theorem sendLoop_scalls (fs : List SFilter) (idx : Nat) (s : FState) :
    (sendLoop fs idx s).1.scalls = (sendLoop fs idx s).2.foldl (fun sc iv => bump sc iv.1) s.scalls := by
  rw [sendLoop_eq]
  exact (List.foldl_hom FState.scalls fun t iv => by rw [sinvoke_eq]).symm

theorem sendCut_fresh (calls : Nat → Nat) (fs : List SFilter) (idx : Nat) (h : ∀ j, idx ≤ j → calls j = 0) :
    sendCut calls fs idx = sendRun fs idx := by
  induction fs generalizing idx with
  | nil => rfl
  | cons f r ih => simp only [sendCut, sendRun, h idx (Nat.le_refl _), ih (idx + 1) (fun j hj => h j (Nat.le_of_succ_le hj))]

/-- **each sender filter once, in order**: a sender pass over fresh filters makes exactly the invocations `sendRun` -/
theorem sendLoop_run (fs : List SFilter) (idx : Nat) (s : FState) (h : ∀ j, idx ≤ j → s.scalls j = 0) :
    (sendLoop fs idx s).2 = sendRun fs idx := by
  rw [sendLoop_eq]; exact sendCut_fresh _ fs idx h

/-- a sender pass writes only its own invocation counters and cursor and (through a `termination`) the cleaned flag -/
theorem sendLoop_frame (fs : List SFilter) (idx : Nat) (s : FState) :
    ∃ sc cu cl, (sendLoop fs idx s).1 = { s with scalls := sc, scursor := cu, cleaned := cl } := by
  rw [sendLoop_eq]
  obtain ⟨sc, cl, e⟩ := Fold.foldl_inv (f := sinvoke) (P := fun t => ∃ sc cl, t = { s with scalls := sc, cleaned := cl })
    (by rintro t iv ⟨sc, cl, rfl⟩; exact ⟨_, _, sinvoke_eq _ _⟩) (sendCut s.scalls fs idx) s ⟨_, _, rfl⟩
  exact ⟨sc, 0, cl, by rw [e]⟩

/-- a sender pass cleans the stream only through a `termination` status -/
theorem sendLoop_cleaned (fs : List SFilter) (idx : Nat) (s : FState) (h : (sendLoop fs idx s).1.cleaned = true) :
    s.cleaned = true ∨ ∃ iv ∈ (sendLoop fs idx s).2, iv.2 = .termination := by
  rw [sendLoop_eq] at h ⊢
  by_cases hx : ∃ iv ∈ sendCut s.scalls fs idx, iv.2 = .termination
  · exact .inr hx
  · refine .inl ((Fold.foldl_frame (·.cleaned) sinvoke _ (fun iv hiv t => ?_) s).symm.trans h)
    rw [sinvoke_eq]
    exact Bool.or_eq_right_iff_imp.mpr fun ht => absurd ⟨iv, hiv, by simpa using ht⟩ hx

end MosnVerif.Model.FilterChain
