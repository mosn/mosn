import MosnVerif.Lemmas.PoolSteps
/-! C09: capacity of the pool as a function of the truth, and the executable observation predicate (`obsSpec`,
`newStreamSpec`) holds of every model state satisfying the invariant. -/
namespace MosnVerif.Model.Pool
open MosnVerif.Gen.Pool


def Res.isOk : Res → Bool
  | .ok _ => true
  | _ => false

theorem canCreate_iff (s : State) (h : Inv s) :
    canCreate s.maxReq s.reqCur = true ↔ (s.maxReq = 0 ∨ s.ext + s.liveCount < s.maxReq) := by
  -- `Gen.Pool.canCreate` is `Gen.Resource.canCreate` regenerated for the pool package
  rw [show canCreate s.maxReq s.reqCur = Gen.Resource.canCreate s.maxReq s.reqCur from rfl,
    Lemmas.Resource.canCreate_iff _ _ (by rw [h.req]; split <;> omega), h.req]
  by_cases hm : s.maxReq = 0
  · simp only [hm, true_or]
  · rw [if_neg hm]; omega

/-- a client is handed out when one can be had (an idle one, or a dial that succeeds) and the connection limit allows it -/
theorem acquire_isOk (s : State) (f : Dial) :
    (acquire s f).2.isOk = ((!f.fails || !s.idle.isEmpty) &&
      if s.idle.isEmpty then dialAllowed s else !reuseRefused s.kind s.maxConn s.total s.idle.length) := by
  rw [acquire_eq]
  cases s.idle.isEmpty
  · cases f.fails <;> cases reuseRefused s.kind s.maxConn s.total s.idle.length <;> rfl
  · cases f.fails <;> cases dialAllowed s <;> rfl

theorem newStream_isOk (s : State) (f : Dial) :
    (newStream s f).2.isOk = (canCreate s.maxReq s.reqCur && (acquire s f).2.isOk) := by
  unfold newStream
  rw [breakerFirst_eq]
  simp only [if_true]
  split
  · rename_i hc
    rw [hc, Bool.true_and]
    rcases hacq : acquire s f with ⟨s1, r⟩
    cases r <;> simp [Res.isOk]
  · rename_i hc; simp [Res.isOk, hc]

/-- the two connection-limit tests say the same of the truth: fewer than `maxConn` connections are leased -/
theorem connRoom_iff (s : State) (h : Inv s) :
    (if s.idle.isEmpty then dialAllowed s else !reuseRefused s.kind s.maxConn s.total s.idle.length) = true ↔
      (s.maxConn = 0 ∨ s.liveCount < s.maxConn) := by
  have hb := h.books
  unfold dialAllowed reuseRefused
  cases s.kind <;> cases hi : s.idle <;>
    simp [hb, hi, h1CanNew, ppCanNew, h1NewDelta, h1ReuseRefused, ppReuseRefused] <;> omega

/-- **capacity is a function of the truth**: `NewStream` grants a lease exactly when the requests breaker has room
and fewer than `maxConn` connections are really in use (and a connection can be had: an idle one, or a connect that
succeeds). -/
theorem granted_iff (s : State) (h : Inv s) (f : Dial) :
    (newStream s f).2.isOk = true ↔
      ((s.maxReq = 0 ∨ s.ext + s.liveCount < s.maxReq) ∧ (s.maxConn = 0 ∨ s.liveCount < s.maxConn) ∧
       (f.fails = false ∨ s.idle ≠ [])) := by
  rw [newStream_isOk, acquire_isOk, Bool.and_eq_true, Bool.and_eq_true, canCreate_iff s h, connRoom_iff s h]
  simp [and_comm]

theorem length_filter_range (f : Nat → Stream) (n : Nat) :
    ((List.range n).filter (fun i => (f i).live)).length = countLive f n := by
  rw [countLive_eq, List.countP_eq_length_filter]


/-- every stream tells its listeners of its end at most once, exactly once when it is no longer in flight; it hands over at
most one response, and none after a reset -/
theorem onceOk_at {f : Nat → Stream} {n : Nat} (h : OnceOk f n) {i : Nat} (hi : i < n) :
    (f i).destroys ≤ 1 ∧ ((f i).destroys = 0 ↔ (f i).live = true) ∧
    (f i).recv ≤ 1 ∧ (f i).resets.length ≤ 1 ∧ ((f i).recv = 1 → (f i).resets = []) := by
  cases hl : (f i).live
  · have ⟨d1, d2, d3, d4⟩ := (h i hi).2 hl
    exact ⟨by omega, by simp [d1], d2, d3, d4⟩
  · have ⟨f1, f2, f3⟩ := (h i hi).1 hl
    exact ⟨by omega, by simp [f1], by omega, by simp [f3], fun _ => f3⟩

/-- what an observation shows of the stream table (`obsOf` of each of the three pool models) -/
def obsStreams (f : Nat → Stream) (n : Nat) : List OStream :=
  (List.range n).map (fun i =>
    let st := f i
    { conn := st.conn, recv := st.recv, resets := st.resets.length, destroys := st.destroys })

/-- the observation tells a live stream by its counters -/
theorem liveConns_obsStreams (f : Nat → Stream) (n : Nat) (h : OnceOk f n) :
    ((obsStreams f n).filter (·.live)).map (·.conn) = ((List.range n).filter (fun i => (f i).live)).map (fun i => (f i).conn) := by
  simp only [obsStreams, List.filter_map, List.map_map]
  congr 1
  exact List.filter_congr fun i hi => Bool.eq_iff_iff.mpr (beq_iff_eq.trans (onceOk_at h (List.mem_range.mp hi)).2.1)

theorem mem_liveConns_obsStreams (f : Nat → Stream) (n : Nat) (h : OnceOk f n) (c : Nat) :
    c ∈ ((obsStreams f n).filter (·.live)).map (·.conn) ↔ ∃ i, i < n ∧ (f i).live = true ∧ (f i).conn = c := by
  simp only [liveConns_obsStreams f n h, List.mem_map, List.mem_filter, List.mem_range, and_assoc]

theorem length_liveConns_obsStreams (f : Nat → Stream) (n : Nat) (h : OnceOk f n) :
    (((obsStreams f n).filter (·.live)).map (·.conn)).length = countLive f n := by
  rw [liveConns_obsStreams f n h, List.length_map]; exact length_filter_range f n

/-- what an observation shows of the connections: open, for those that exist -/
theorem getD_map_range (g : Nat → Bool) (n c : Nat) : ((List.range n).map g).getD c false = (decide (c < n) && g c) := by
  simp only [List.getD_eq_getElem?_getD, List.getElem?_map]
  by_cases hc : c < n <;> simp [hc]

/-- the last clause of `obsSpec` -/
theorem obsStreams_once (f : Nat → Stream) (n : Nat) (h : OnceOk f n) :
    ∀ st ∈ obsStreams f n,
      ((st.destroys ≤ 1 ∧ st.recv ≤ 1) ∧ st.resets ≤ 1) ∧ (st.recv = 0 ∨ st.destroys = 1 ∧ st.resets = 0) := by
  intro st hst
  simp only [obsStreams, List.mem_map, List.mem_range] at hst
  obtain ⟨i, hi, rfl⟩ := hst
  simp only
  cases hl : (f i).live
  · have ⟨d1, d2, d3, d4⟩ := (h i hi).2 hl
    refine ⟨⟨⟨by omega, d2⟩, d3⟩, ?_⟩
    by_cases hr : (f i).recv = 0
    · left; exact hr
    · right; exact ⟨d1, by have := d4 (by omega); simp [this]⟩
  · have ⟨f1, f2, f3⟩ := (h i hi).1 hl
    refine ⟨⟨⟨by omega, by omega⟩, by simp [f3]⟩, Or.inl f2⟩

theorem isOpen_obsOf (s : State) (c : Nat) :
    (obsOf s).isOpen c = (decide (c < s.nClients) && (s.client c).netOpen) := getD_map_range _ _ c

theorem obsSpec_holds (s : State) (h : Inv s) : obsSpec s.maxReq s.ext (obsOf s) = true := by
  have hmem : ∀ c, c ∈ (obsOf s).liveConns ↔ ∃ i, i < s.nStreams ∧ (s.stream i).live = true ∧ (s.stream i).conn = c :=
    mem_liveConns_obsStreams s.stream s.nStreams h.onceOk
  have hlen : (obsOf s).liveConns.length = s.liveCount := length_liveConns_obsStreams _ _ h.onceOk
  -- the live streams are distinct indices, and `excl` makes their connections distinct
  have hnd : (obsOf s).liveConns.Nodup := by
    rw [show (obsOf s).liveConns = _ from liveConns_obsStreams s.stream s.nStreams h.onceOk]
    refine List.pairwise_map.mpr (List.Pairwise.imp_of_mem (fun hx hy hne e => hne ?_)
      (List.Nodup.sublist List.filter_sublist List.nodup_range))
    have hx := List.mem_filter.mp hx
    have hy := List.mem_filter.mp hy
    exact h.excl _ _ (List.mem_range.mp hx.1) (List.mem_range.mp hy.1) hx.2 hy.2 e
  unfold obsSpec
  simp only [Bool.and_eq_true, decide_eq_true_eq, List.all_eq_true, Bool.or_eq_true, Bool.not_eq_true',
    List.contains_iff_mem, isOpen_obsOf, beq_iff_eq, hlen]
  refine ⟨⟨⟨⟨⟨⟨⟨⟨hnd, h.idleNodup⟩, ?_⟩, ?_⟩, ?_⟩, h.books⟩, h.req⟩, ?_⟩, ?_⟩
  · intro c hc
    have ⟨h1, h2, h3⟩ := h.idleOk c hc
    refine ⟨⟨h1, (h.open_iff h1).mpr h2⟩, ?_⟩
    cases hx : (obsOf s).liveConns.contains c
    · rfl
    · rw [List.contains_iff_mem, hmem] at hx
      obtain ⟨i, hi, hl, hcc⟩ := hx
      exact absurd hcc (h3 i hi hl)
  · intro c hc
    obtain ⟨i, hi, hl, hcc⟩ := (hmem c).mp hc
    subst hcc
    have := h.connOk i hi
    exact ⟨this, (h.open_iff this).mpr (h.liveOk i hi hl)⟩
  · intro c hc
    have hc' : c < s.nClients := by simpa [obsOf] using List.mem_range.mp hc
    cases hcl : (s.client c).closed
    · rcases h.noLeak c hc' hcl with h1 | ⟨i, hi, hl, hcc⟩
      · left; right; exact h1
      · right; exact (hmem c).mpr ⟨i, hi, hl, hcc⟩
    · left; left; rw [h.flagTruth c hc', hcl]; simp
  · intro st hst
    simp only [obsOf, List.mem_map, List.mem_range] at hst
    obtain ⟨i, hi, rfl⟩ := hst
    simp only
    by_cases hr : (s.stream i).resets = []
    · left; simp [hr]
    · right
      have hd := h.resetDirty i hi hr
      have hcn := h.connOk i hi
      have hcl := h.dirtyClosed _ hcn hd
      rw [h.flagTruth _ hcn, hcl]; simp
  · exact obsStreams_once s.stream s.nStreams h.onceOk

theorem newStream_refused (s : State) (f : Dial) (h : (newStream s f).2.isOk = false) : (newStream s f).1 = s := by
  rcases newStream_cases s f with e | e | e | ⟨rest, c, _, e⟩ <;> rw [e] at h ⊢ <;> simp [Res.isOk] at h ⊢

theorem newStreamSpec_holds (s : State) (h : Inv s) (f : Dial) :
    newStreamSpec s.maxConn s.maxReq s.ext f.fails (obsOf s) (newStream s f).2.isOk (obsOf (newStream s f).1) = true := by
  have hlen : (obsOf s).liveConns.length = s.liveCount := length_liveConns_obsStreams _ _ h.onceOk
  unfold newStreamSpec
  simp only [Bool.and_eq_true, Bool.or_eq_true, beq_iff_eq]
  refine ⟨?_, ?_⟩
  · cases hok : (newStream s f).2.isOk
    · right; rw [newStream_refused s f hok]
    · left; rfl
  · -- the predicate's condition is `granted_iff`'s, with the idle list and the live connections read off the observation
    rw [hlen, show (obsOf s).idle = s.idle from rfl, Bool.eq_iff_iff, decide_eq_true_iff, granted_iff s h f,
      List.isEmpty_eq_false_iff, and_assoc]
    exact and_congr_left' (by omega)

end MosnVerif.Model.Pool
