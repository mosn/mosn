import MosnVerif.Model.H2Msg
import MosnVerif.Lemmas.Fold
/-! Lemmas about the header-map model of `Model/H2Msg.lean` (core Lean only). -/
namespace MosnVerif.Lemmas.H2Msg
open MosnVerif.Model.H2Msg MosnVerif.Gen

/-- an upper-case letter goes to `b + 32 ∈ [97, 122]`, outside the range that is shifted -/
theorem lowerByte_idem (b : UInt8) : lowerByte (lowerByte b) = lowerByte b := by
  unfold lowerByte
  split
  · rename_i h
    have : ¬ (65 ≤ b + 32 ∧ b + 32 ≤ 90) := by
      simp only [UInt8.le_iff_toNat_le, UInt8.toNat_add, UInt8.reduceToNat] at h ⊢
      omega
    rw [if_neg this]
  · rfl

theorem lower_idem (s : Bytes) : lower (lower s) = lower s := by
  simp [lower, List.map_map, Function.comp_def, lowerByte_idem]

/-! ### association lists with distinct keys -/
def Distinct (m : HMap) : Prop := (m.map (·.1)).Nodup

theorem distinct_cons {k : Bytes} {vs : List Bytes} {r : HMap} :
    Distinct ((k, vs) :: r) ↔ k ∉ r.map (·.1) ∧ Distinct r := List.nodup_cons

theorem vals_of_not_mem (m : HMap) (k : Bytes) (hk : k ∉ m.map (·.1)) : m.vals k = [] := by
  induction m with
  | nil => rfl
  | cons e r ih =>
    obtain ⟨k', vs⟩ := e
    rw [List.map_cons, List.mem_cons, not_or] at hk
    simp only [HMap.vals, Ne.symm hk.1, if_false]
    exact ih hk.2

theorem vals_add (m : HMap) (k v n : Bytes) :
    (m.add k v).vals n = if k = n then m.vals n ++ [v] else m.vals n := by
  fun_induction HMap.add m k v <;> grind [HMap.vals]

theorem keys_add (m : HMap) (k v : Bytes) :
    (m.add k v).map (·.1) = if k ∈ m.map (·.1) then m.map (·.1) else m.map (·.1) ++ [k] := by
  fun_induction HMap.add m k v with
  | case1 => rfl
  | case2 => simp
  | case3 k' vs r k v h ih =>
    simp only [List.map_cons, ih, List.mem_cons, Ne.symm h, false_or]
    split <;> rfl

theorem distinct_add (m : HMap) (k v : Bytes) (h : Distinct m) : Distinct (m.add k v) := by
  unfold Distinct at *
  rw [keys_add]
  split
  · exact h
  · rename_i hk
    rw [List.nodup_append]
    refine ⟨h, by simp, ?_⟩
    intro a ha b hb
    simp at hb
    subst hb
    intro hab
    exact hk (hab ▸ ha)

theorem foldl_add_vals (fs : List Field) (m : HMap) (n : Bytes) :
    (fs.foldl (fun m f => m.add (lower f.1) f.2) m).vals n = m.vals n ++ valuesOf n fs := by
  induction fs generalizing m with
  | nil => simp [valuesOf]
  | cons f r ih =>
    simp only [List.foldl_cons, ih, vals_add]
    by_cases h : lower f.1 = n
    · simp [valuesOf, h]
    · simp [valuesOf, h]

theorem vals_ofFields (fs : List Field) (n : Bytes) : (ofFields fs).vals n = valuesOf n fs := by
  simp [ofFields, foldl_add_vals, HMap.vals]

theorem distinct_ofFields (fs : List Field) : Distinct (ofFields fs) :=
  Lemmas.Fold.foldl_inv (fun m _ => distinct_add m _ _) fs [] List.nodup_nil

/-- the fields printed from a map with distinct keys: per name exactly the map's value list -/
theorem valuesAt_toFields (m : HMap) (h : Distinct m) (n : Bytes) : valuesAt n (toFields m) = m.vals n := by
  induction m with
  | nil => simp [toFields, valuesAt, HMap.vals]
  | cons e r ih =>
    obtain ⟨k, vs⟩ := e
    obtain ⟨hk, hr⟩ := distinct_cons.mp h
    have ih' := ih hr
    simp only [toFields, valuesAt, List.flatMap_cons, List.filter_append, List.map_append] at *
    by_cases hn : k = n
    · subst hn
      simp [HMap.vals, ih', vals_of_not_mem r k hk, List.filter_map, Function.comp_def]
    · simp [HMap.vals, hn, ih', List.filter_map, Function.comp_def]

theorem vals_del (m : HMap) (k n : Bytes) : (m.del k).vals n = if k = n then [] else m.vals n := by
  unfold HMap.del
  induction m with
  | nil => simp [HMap.vals]
  | cons e r ih => grind [HMap.vals]

theorem keys_setVals (m : HMap) (k : Bytes) (ws : List Bytes) : (m.setVals k ws).map (·.1) = m.map (·.1) := by
  fun_induction HMap.setVals m k ws <;> simp_all

theorem vals_setVals_ne (m : HMap) (k n : Bytes) (ws : List Bytes) (hn : k ≠ n) : (m.setVals k ws).vals n = m.vals n := by
  fun_induction HMap.setVals m k ws <;> simp_all [HMap.vals]

/-! ### properties of the key list

`Distinct` and `H2Spec.KeysLower` only look at the key list of a map and survive dropping keys; the operations that keep,
drop or re-value entries shorten the key list at most, so they preserve every such property. -/
def KeyProp (P : HMap → Prop) : Prop := ∀ m m' : HMap, (m'.map (·.1)).Sublist (m.map (·.1)) → P m → P m'

theorem keyProp_distinct : KeyProp Distinct := fun _ _ hs h => hs.nodup h

theorem keys_filterMap (m : HMap) (g : Bytes × List Bytes → Option (Bytes × List Bytes))
    (hg : ∀ e e', g e = some e' → e'.1 = e.1) : ((m.filterMap g).map (·.1)).Sublist (m.map (·.1)) := by
  induction m with
  | nil => simp
  | cons e r ih =>
    simp only [List.filterMap_cons]
    cases hge : g e with
    | none => simp only [List.map_cons]; exact ih.cons _
    | some e' =>
      simp only [List.map_cons, hg _ _ hge]
      exact ih.cons_cons _

section
variable {P : HMap → Prop} (hP : KeyProp P)
include hP

theorem filterMap_keeps (m : HMap) (g : Bytes × List Bytes → Option (Bytes × List Bytes))
    (hg : ∀ e e', g e = some e' → e'.1 = e.1) (h : P m) : P (m.filterMap g) := hP _ _ (keys_filterMap m g hg) h

theorem filter_keeps (m : HMap) (p : Bytes × List Bytes → Bool) (h : P m) : P (m.filter p) :=
  hP _ _ (List.filter_sublist.map _) h

theorem del_keeps (m : HMap) (k : Bytes) (h : P m) : P (m.del k) := filter_keeps hP m _ h

theorem map_keeps (m : HMap) (f : Bytes × List Bytes → Bytes × List Bytes) (hf : ∀ e, (f e).1 = e.1) (h : P m) :
    P (m.map f) :=
  hP _ _ (by simp [List.map_map, Function.comp_def, hf]) h

theorem joinCookies_keeps (m : HMap) (h : P m) : P (joinCookies m) := by
  unfold joinCookies; split
  · exact hP _ _ (by rw [keys_setVals]; exact List.Sublist.refl _) h
  · exact h

end

theorem vals_joinCookies_ne (m : HMap) (n : Bytes) (hn : nCookie ≠ n) : (joinCookies m).vals n = m.vals n := by
  unfold joinCookies; split
  · exact vals_setVals_ne _ _ _ _ hn
  · rfl

/-- the fields printed from a map: an entry's name with one of its values -/
theorem mem_toFields {m : HMap} {n v : Bytes} : (n, v) ∈ toFields m ↔ ∃ e ∈ m, e.1 = n ∧ v ∈ e.2 := by
  simp only [toFields, List.mem_flatMap, List.mem_map, Prod.mk.injEq]
  exact ⟨fun ⟨e, he, _, hv, hk, h⟩ => ⟨e, he, hk, h ▸ hv⟩, fun ⟨e, he, hk, hv⟩ => ⟨e, he, v, hv, hk, rfl⟩⟩

theorem mem_valuesAt {n v : Bytes} {fs : List Field} : v ∈ valuesAt n fs ↔ (n, v) ∈ fs := by
  simp only [valuesAt, List.mem_map, List.mem_filter, decide_eq_true_eq]
  exact ⟨fun ⟨_, ⟨hf, hn⟩, hv⟩ => hn ▸ hv ▸ hf, fun h => ⟨_, ⟨h, rfl⟩, rfl⟩⟩

theorem vals_of_mem (m : HMap) (h : Distinct m) (e : Bytes × List Bytes) (he : e ∈ m) : m.vals e.1 = e.2 := by
  induction m with
  | nil => cases he
  | cons e0 r ih =>
    obtain ⟨k, vs⟩ := e0
    obtain ⟨hk, hr⟩ := distinct_cons.mp h
    cases he with
    | head => simp [HMap.vals]
    | tail _ ht =>
      have : ¬ k = e.1 := by
        intro hke
        exact hk (by rw [hke]; exact List.mem_map_of_mem ht)
      simp only [HMap.vals, this, if_false]
      exact ih hr ht

/-- entries kept by a key-preserving `filterMap` -/
theorem vals_filterMap (m : HMap) (g : Bytes × List Bytes → Option (Bytes × List Bytes))
    (hg : ∀ e e', g e = some e' → e'.1 = e.1) (n : Bytes) (hn : ∀ e, e.1 = n → g e = some e) :
    HMap.vals (m.filterMap g) n = m.vals n := by
  induction m with
  | nil => rfl
  | cons e r ih =>
    rw [List.filterMap_cons]
    by_cases h : e.1 = n
    · simp [hn e h, HMap.vals, h]
    · cases hge : g e with
      | none => simp [HMap.vals, h, ih]
      | some e' => simp [HMap.vals, hg _ _ hge, h, ih]

theorem vals_map (m : HMap) (f : Bytes × List Bytes → Bytes × List Bytes) (hf : ∀ e, (f e).1 = e.1)
    (n : Bytes) (hn : ∀ e, e.1 = n → f e = e) : HMap.vals (m.map f) n = m.vals n := by
  rw [← List.filterMap_eq_map]
  exact vals_filterMap m _ (fun e e' h => by cases h; exact hf e) n (fun e he => congrArg some (hn e he))

theorem vals_filter (m : HMap) (p : Bytes × List Bytes → Bool) (n : Bytes) (hn : ∀ e, e.1 = n → p e = true) :
    HMap.vals (m.filter p) n = m.vals n := by
  rw [← List.filterMap_eq_filter]
  exact vals_filterMap m _ (fun e e' h => by rw [(Option.guard_eq_some_iff.mp h).1]) n
    (fun e he => Option.guard_eq_some_iff.mpr ⟨rfl, hn e he⟩)

theorem valuesAt_append (n : Bytes) (a b : List Field) : valuesAt n (a ++ b) = valuesAt n a ++ valuesAt n b := by
  simp [valuesAt]

theorem flatten_splitBy (d : Bytes) (s : List Nat) : (splitBy d s).flatten = d := by
  fun_induction splitBy d s <;> simp_all

end MosnVerif.Lemmas.H2Msg
