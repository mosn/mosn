import MosnVerif.Model.GoDuration
/-! `time.ParseDuration (d.String()) = d` for the digit-level model (C19). -/
namespace MosnVerif.Model.GoDuration

def StartsDigit (l : List Char) : Prop := ∃ c r, l = c :: r ∧ isDig c = true

/-- the rest of the input after a term: nothing, or the next term (which starts with a digit) -/
def RestOK (rest : List Char) : Prop := rest = [] ∨ StartsDigit rest

/-- the input after a run of digits: nothing, or a non-digit -/
def StopsDigits (rest : List Char) : Prop := rest = [] ∨ ∃ c r, rest = c :: r ∧ isDig c = false

theorem spanDigits_append : (ds rest : List Char) → (∀ c ∈ ds, isDig c = true) → StopsDigits rest →
    spanDigits (ds ++ rest) = (ds, rest)
  | [], rest, _, hr => by
    rcases hr with rfl | ⟨c, r, rfl, hc⟩
    · simp [spanDigits]
    · simp [spanDigits, hc]
  | c :: ds, rest, hd, hr => by
    have hc : isDig c = true := hd c (by simp)
    have ih := spanDigits_append ds rest (fun x hx => hd x (by simp [hx])) hr
    simp [spanDigits, hc, ih]

theorem spanUnit_append : (us rest : List Char) → (∀ c ∈ us, (isDig c || c == '.') = false) → RestOK rest →
    spanUnit (us ++ rest) = (us, rest)
  | [], rest, _, hr => by
    rcases hr with rfl | ⟨c, r, rfl, hc⟩
    · simp [spanUnit]
    · simp [spanUnit, hc]
  | c :: us, rest, hu, hr => by
    have hc := hu c (by simp)
    have ih := spanUnit_append us rest (fun x hx => hu x (by simp [hx])) hr
    simp only [List.cons_append, spanUnit, hc, ih]
    simp

theorem toDigits_isDig (n : Nat) : ∀ c ∈ Nat.toDigits 10 n, isDig c = true := by
  intro c hc
  exact Nat.isDigit_of_mem_toDigits (by decide) (by decide) hc

theorem digitsVal_toDigits (n : Nat) : digitsVal (Nat.toDigits 10 n) = n := by
  simp [digitsVal]

theorem startsDigit_append {s : List Char} (h : StartsDigit s) (t : List Char) : StartsDigit (s ++ t) := by
  obtain ⟨c, r, rfl, hc⟩ := h
  exact ⟨c, r ++ t, rfl, hc⟩

theorem startsDigit_toDigits (n : Nat) : StartsDigit (Nat.toDigits 10 n) := by
  cases h : Nat.toDigits 10 n with
  | nil => exact absurd h Nat.toDigits_ne_nil
  | cons c r => exact ⟨c, r, rfl, toDigits_isDig n c (by simp [h])⟩

theorem fracTrim_spec : (prec v : Nat) → v < 10 ^ prec →
    (fracTrim prec v).1 * 10 ^ (prec - (fracTrim prec v).2) = v ∧ (fracTrim prec v).2 ≤ prec ∧
    (fracTrim prec v).1 < 10 ^ (fracTrim prec v).2
  | 0, v, h => by simp [fracTrim] at h ⊢; omega
  | p + 1, v, h => by
    simp only [fracTrim]
    split
    · rename_i h0
      have h0' : v % 10 = 0 := by simpa using h0
      have hlt : v / 10 < 10 ^ p := by
        rw [Nat.pow_succ] at h; omega
      obtain ⟨i1, i2, i3⟩ := fracTrim_spec p (v / 10) hlt
      refine ⟨?_, by omega, i3⟩
      have : p + 1 - (fracTrim p (v / 10)).2 = (p - (fracTrim p (v / 10)).2) + 1 := by omega
      rw [this, Nat.pow_succ, ← Nat.mul_assoc, i1]
      omega
    · simp
      exact h

theorem pad_isDig (p v : Nat) : ∀ c ∈ pad p v, isDig c = true := by
  intro c hc
  simp only [pad, List.mem_append, List.mem_replicate] at hc
  rcases hc with ⟨_, rfl⟩ | hc
  · decide
  · exact toDigits_isDig v c hc

theorem digitsVal_pad (p v : Nat) : digitsVal (pad p v) = v := by
  simp [digitsVal, pad, Nat.ofDigitChars_append]

theorem length_pad (p v : Nat) (hp : 0 < p) (hv : v < 10 ^ p) : (pad p v).length = p := by
  have := (Nat.length_toDigits_le_iff (b := 10) (n := v) (k := p) (by decide) hp).mpr hv
  simp only [pad, List.length_append, List.length_replicate]
  omega

/-- the digits printed after the point (none when the fraction is zero) -/
def fracDigits (v prec : Nat) : List Char :=
  if (fracTrim prec v).2 == 0 then [] else pad (fracTrim prec v).2 (fracTrim prec v).1

theorem fracChars_eq (v prec : Nat) :
    fracChars v prec = (if fracDigits v prec = [] then [] else '.' :: fracDigits v prec) := by
  unfold fracChars fracDigits
  by_cases h : ((fracTrim prec v).2 == 0) = true
  · simp [h]
  · have hne : pad (fracTrim prec v).2 (fracTrim prec v).1 ≠ [] := by
      simp [pad]
    simp [h, hne]

theorem fracDigits_isDig (v prec : Nat) : ∀ c ∈ fracDigits v prec, isDig c = true := by
  unfold fracDigits
  split
  · simp
  · exact pad_isDig _ _

/-- the value `time.ParseDuration` gives to the printed fraction: exactly the fraction that was printed -/
theorem fracValue (v prec : Nat) (h : v < 10 ^ prec) :
    digitsVal (fracDigits v prec) * 10 ^ prec / 10 ^ (fracDigits v prec).length = v := by
  obtain ⟨i1, i2, i3⟩ := fracTrim_spec prec v h
  unfold fracDigits
  by_cases h0 : ((fracTrim prec v).2 == 0) = true
  · have h0' : (fracTrim prec v).2 = 0 := by simpa using h0
    simp only [h0, if_true, digitsVal, Nat.ofDigitChars_nil, List.length_nil, Nat.zero_mul, Nat.pow_zero, Nat.div_one]
    rw [h0'] at i3 i1
    have : (fracTrim prec v).1 = 0 := by simpa using i3
    rw [this] at i1; omega
  · have hp : 0 < (fracTrim prec v).2 := by
      have : (fracTrim prec v).2 ≠ 0 := by simpa using h0
      omega
    simp only [h0, Bool.false_eq_true, if_false]
    rw [digitsVal_pad, length_pad _ _ hp i3]
    have hsplit : 10 ^ prec = 10 ^ (fracTrim prec v).2 * 10 ^ (prec - (fracTrim prec v).2) := by
      rw [← Nat.pow_add]; congr 1; omega
    rw [hsplit, ← Nat.mul_assoc, Nat.mul_comm (fracTrim prec v).1, Nat.mul_assoc,
      Nat.mul_div_cancel_left _ (Nat.pow_pos (by decide))]
    exact i1

/-- the characters of a unit: not empty, no digit, no point -/
def UnitOK (unit : List Char) : Prop := unit ≠ [] ∧ ∀ c ∈ unit, (isDig c || c == '.') = false

theorem unitOK_head {unit : List Char} (h : UnitOK unit) (rest : List Char) :
    ∃ c r, unit ++ rest = c :: r ∧ isDig c = false ∧ (c == '.') = false := by
  obtain ⟨hne, hall⟩ := h
  cases unit with
  | nil => exact absurd rfl hne
  | cons c r =>
    have := hall c (by simp)
    simp only [Bool.or_eq_false_iff] at this
    exact ⟨c, r ++ rest, rfl, this.1, this.2⟩

theorem parseLoop_nil (fuel d : Nat) : parseLoop (fuel + 1) [] d = some d := by simp [parseLoop]

/-- `unit` is one of the names of `time.unitMap`, worth `U` nanoseconds -/
def IsUnit (unit : List Char) (U : Nat) : Prop := unitNs unit = some U ∧ UnitOK unit ∧ 0 < U

/-- `s` is `k` terms worth `v` nanoseconds in all: the loop reads them in `k` rounds, whatever follows -/
def Reads (k : Nat) (s : List Char) (v : Nat) : Prop :=
  StartsDigit s ∧ k ≤ s.length ∧ ∀ fuel rest d, RestOK rest → d + v ≤ two63 →
    parseLoop (fuel + k) (s ++ rest) d = parseLoop fuel rest (d + v)

/-- one round of the loop on `n[.fp]unit`; none of the four overflow checks fires when the new total is in range -/
theorem reads_term (n : Nat) (fp unit : List Char) (U : Nat) (hfp : ∀ c ∈ fp, isDig c = true) (hu : IsUnit unit U) :
    Reads 1 (Nat.toDigits 10 n ++ ((if fp = [] then [] else '.' :: fp) ++ unit))
      (n * U + digitsVal fp * U / 10 ^ fp.length) := by
  obtain ⟨hunit, huc, hU⟩ := hu
  obtain ⟨c0, t0, hd0, hc0⟩ := startsDigit_toDigits n
  refine ⟨⟨c0, _, by rw [hd0]; rfl, hc0⟩, by rw [hd0]; simp, fun fuel rest d hrest hd => ?_⟩
  rw [List.append_assoc, List.append_assoc]
  obtain ⟨uc, ur, hue, hud, hup⟩ := unitOK_head huc rest
  -- behind the integer part: the fraction if there is one, then the unit
  obtain ⟨hstop, hfrac⟩ : StopsDigits ((if fp = [] then [] else '.' :: fp) ++ (unit ++ rest)) ∧
      splitFrac ((if fp = [] then [] else '.' :: fp) ++ (unit ++ rest)) = (fp, unit ++ rest) := by
    by_cases hf : fp = []
    · subst hf
      rw [if_pos rfl, List.nil_append, hue]
      refine ⟨Or.inr ⟨uc, ur, rfl, hud⟩, ?_⟩
      unfold splitFrac
      split
      · rename_i heq; cases heq; cases hup
      · rfl
    · rw [if_neg hf]
      exact ⟨Or.inr ⟨'.', _, rfl, by decide⟩,
        by simp [splitFrac, spanDigits_append fp (unit ++ rest) hfp (Or.inr ⟨uc, ur, hue, hud⟩)]⟩
  have hsp := spanDigits_append (Nat.toDigits 10 n) _ (toDigits_isDig n) hstop
  have hsu := spanUnit_append unit rest huc.2 hrest
  have hne : (Nat.toDigits 10 n).isEmpty = false := by simp [hd0]
  have hune : unit.isEmpty = false := by
    cases unit with
    | nil => exact absurd rfl huc.1
    | cons _ _ => rfl
  -- expose the head of the input, unfold one iteration, fold the input back
  generalize hL : Nat.toDigits 10 n ++ ((if fp = [] then [] else '.' :: fp) ++ (unit ++ rest)) = L at hsp
  have hLc : L = c0 :: (t0 ++ ((if fp = [] then [] else '.' :: fp) ++ (unit ++ rest))) := by rw [← hL, hd0]; rfl
  rw [hLc, parseLoop]
  simp only [← hLc]
  simp only [hsp, hfrac, hsu, digitsVal_toDigits, hne, hune, hunit, hc0, Bool.or_true, Bool.not_true,
    Bool.false_eq_true, if_false, Bool.false_and]
  generalize digitsVal fp * U / 10 ^ fp.length = q at hd ⊢
  have hnU : n ≤ n * U := Nat.le_mul_of_pos_right n hU
  have e1 : ¬ (n > two63) := by omega
  have e2 : ¬ (n > two63 / U) := Nat.not_lt.mpr ((Nat.le_div_iff_mul_le hU).mpr (by omega))
  have e3 : ¬ (n * U + q > two63) := by omega
  have e4 : ¬ (d + (n * U + q) > two63) := by omega
  simp only [e1, e2, e3, e4, if_false]

theorem unit_ns : IsUnit ['n', 's'] 1 := by unfold IsUnit UnitOK; decide +kernel
theorem unit_us : IsUnit ['µ', 's'] 1000 := by unfold IsUnit UnitOK; decide +kernel
theorem unit_ms : IsUnit ['m', 's'] 1000000 := by unfold IsUnit UnitOK; decide +kernel
theorem unit_s : IsUnit ['s'] 1000000000 := by unfold IsUnit UnitOK; decide +kernel
theorem unit_m : IsUnit ['m'] 60000000000 := by unfold IsUnit UnitOK; decide +kernel
theorem unit_h : IsUnit ['h'] 3600000000000 := by unfold IsUnit UnitOK; decide +kernel

theorem reads_int (n : Nat) (unit : List Char) (U : Nat) (hu : IsUnit unit U) :
    Reads 1 (Nat.toDigits 10 n ++ unit) (n * U) := by
  simpa [digitsVal] using reads_term n [] unit U (by simp) hu

/-- a term with the `prec`-digit fraction `f` of its unit `10 ^ prec` -/
theorem reads_frac (n f prec : Nat) (unit : List Char) (hu : IsUnit unit (10 ^ prec)) (hf : f < 10 ^ prec) :
    Reads 1 (Nat.toDigits 10 n ++ (fracChars f prec ++ unit)) (n * 10 ^ prec + f) := by
  have := reads_term n (fracDigits f prec) unit _ (fracDigits_isDig _ _) hu
  rwa [fracValue f prec hf, ← fracChars_eq] at this

theorem reads_append {k k' : Nat} {s s' : List Char} {v v' : Nat} (h : Reads k s v) (h' : Reads k' s' v') :
    Reads (k' + k) (s ++ s') (v + v') := by
  refine ⟨startsDigit_append h.1 s', by rw [List.length_append]; exact Nat.add_comm k' k ▸ Nat.add_le_add h.2.1 h'.2.1,
    fun fuel rest d hr hd => ?_⟩
  rw [List.append_assoc, ← Nat.add_assoc, h.2.2 (fuel + k') (s' ++ rest) d (Or.inr (startsDigit_append h'.1 rest)) (by omega),
    h'.2.2 fuel rest (d + v) hr (by omega), Nat.add_assoc]

/-- what `String` prints is one to three terms worth `u` -/
theorem reads_body (u : Nat) : ∃ k, Reads k (bodyChars u) u := by
  unfold bodyChars
  simp only [List.append_assoc]
  by_cases h0 : u = 0
  · subst h0
    exact ⟨1, reads_int 0 ['s'] _ unit_s⟩
  by_cases h3 : u < 1000
  · exact ⟨1, by simpa [h0, h3] using reads_int u ['n', 's'] 1 unit_ns⟩
  by_cases h6 : u < 1000000
  · have := reads_frac (u / 1000) (u % 1000) 3 ['µ', 's'] unit_us (by omega)
    rw [show u / 1000 * 10 ^ 3 + u % 1000 = u by omega] at this
    exact ⟨1, by simpa [h0, h3, h6] using this⟩
  by_cases h9 : u < 1000000000
  · have := reads_frac (u / 1000000) (u % 1000000) 6 ['m', 's'] unit_ms (by omega)
    rw [show u / 1000000 * 10 ^ 6 + u % 1000000 = u by omega] at this
    exact ⟨1, by simpa [h0, h3, h6, h9] using this⟩
  simp only [h0, h3, h6, h9, beq_iff_eq, if_false]
  -- minutes in total, seconds and the fraction of a second
  generalize hT : u / 1000000000 / 60 = T
  generalize hS : u / 1000000000 % 60 = S
  generalize hF : u % 1000000000 = F
  have hs := reads_frac S F 9 ['s'] unit_s (by omega)
  have hm := reads_append (reads_int (T % 60) ['m'] _ unit_m) hs
  have hh := reads_append (reads_int (T / 60) ['h'] _ unit_h) hm
  simp only [List.append_assoc, List.cons_append, List.nil_append] at hm hh
  by_cases hmz : T = 0
  · simp only [hmz, if_true]
    exact ⟨_, (by omega : S * 10 ^ 9 + F = u) ▸ hs⟩
  simp only [hmz, if_false]
  by_cases hhz : T / 60 = 0
  · simp only [hhz, if_true]
    exact ⟨_, (by omega : T % 60 * 60000000000 + (S * 10 ^ 9 + F) = u) ▸ hm⟩
  · simp only [hhz, if_false]
    exact ⟨_, (by omega : T / 60 * 3600000000000 + (T % 60 * 60000000000 + (S * 10 ^ 9 + F)) = u) ▸ hh⟩

theorem parse_body (u : Nat) (hu : u ≤ two63) : parseLoop ((bodyChars u).length + 1) (bodyChars u) 0 = some u := by
  obtain ⟨k, _, hk, h⟩ := reads_body u
  have := h ((bodyChars u).length - k + 1) [] 0 (Or.inl rfl) (by omega)
  rw [List.append_nil, parseLoop_nil, Nat.zero_add] at this
  rw [← this]
  congr 1
  omega

/-- **`time.ParseDuration (d.String()) = d`** for every int64 duration -/
theorem parse_fmt (d : Int) (hlo : -(two63 : Int) ≤ d) (hhi : d < (two63 : Int)) : parseChars (fmtChars d) = some d := by
  have hu : d.natAbs ≤ two63 := by simp only [two63] at hlo hhi ⊢; omega
  have hp := parse_body d.natAbs hu
  obtain ⟨_, ⟨c, t, hb, hc⟩, _⟩ := reads_body d.natAbs
  have hne0 : (bodyChars d.natAbs == ['0']) = false := by
    rw [Bool.eq_false_iff]; intro h
    rw [beq_iff_eq.mp h] at hp
    cases hp
  have hnemp : (bodyChars d.natAbs).isEmpty = false := by rw [hb]; rfl
  have hcm : c ≠ '-' := by intro h; subst h; simp [isDig] at hc
  have hcp : c ≠ '+' := by intro h; subst h; simp [isDig] at hc
  unfold fmtChars parseChars
  by_cases hneg : d < 0
  · simp only [hneg, if_true, isNeg, stripSign, hne0, hnemp, Bool.false_eq_true, if_false, hp]
    congr 1
    omega
  · simp only [hneg, if_false]
    have hm1 : isNeg (bodyChars d.natAbs) = false := by
      rw [hb]; unfold isNeg; split
      · rename_i heq; cases heq; exact absurd rfl hcm
      · rfl
    have hm2 : stripSign (bodyChars d.natAbs) = bodyChars d.natAbs := by
      rw [hb]; unfold stripSign; split
      · rename_i heq; cases heq; exact absurd rfl hcm
      · rename_i heq; cases heq; exact absurd rfl hcp
      · rfl
    have hle : ¬ (d.natAbs > two63 - 1) := by simp only [two63] at hhi ⊢; omega
    simp only [hm1, hm2, hne0, hnemp, Bool.false_eq_true, if_false, hp, hle]
    congr 1
    omega

theorem parseLoop_le : (fuel : Nat) → (cs : List Char) → (d0 d : Nat) → d0 ≤ two63 → parseLoop fuel cs d0 = some d → d ≤ two63
  | 0, _, _, _, _, h => by simp [parseLoop] at h
  | fuel + 1, [], d0, d, h0, h => by simp [parseLoop] at h; omega
  | fuel + 1, c :: r, d0, d, h0, h => by
    -- every early exit returns `none`; the round that remains starts from a total that passed the check
    rw [parseLoop] at h
    simp only [Option.ite_none_left_eq_some] at h
    obtain ⟨-, -, -, -, h⟩ := h
    split at h
    · cases h
    · simp only [Option.ite_none_left_eq_some] at h
      exact parseLoop_le fuel _ _ d (by omega) h.2.2.2

/-- whatever `time.ParseDuration` accepts is an int64 -/
theorem parseChars_range (cs : List Char) (d : Int) (h : parseChars cs = some d) :
    -(two63 : Int) ≤ d ∧ d < (two63 : Int) := by
  revert h
  fun_cases parseChars cs with
  | case1 => intro h; cases h; simp [two63]
  | case2 | case3 | case5 => nofun
  | case4 _ _ _ _ n hn =>
    intro h; cases h
    have := parseLoop_le _ _ 0 n (by simp [two63]) hn
    simp only [two63] at this ⊢; omega
  | case6 _ _ _ _ n hn _ hgt =>
    intro h; cases h
    have := parseLoop_le _ _ 0 n (by simp [two63]) hn
    simp only [two63] at hgt this ⊢; omega

theorem parseDur_fmtDur (d : Int) (hlo : -(two63 : Int) ≤ d) (hhi : d < (two63 : Int)) : parseDur (fmtDur d) = some d := by
  simp [parseDur, fmtDur, parse_fmt d hlo hhi]

end MosnVerif.Model.GoDuration
