import MosnVerif.Lemmas.PoolWin
/-! Instances and negation witnesses for `Lemmas/PoolWin.lean`: the regenerated programs are in the
proved classes; a put-back-before-close program and a return-after-close program are outside them, and concrete
schedules show what goes wrong for each. -/
namespace MosnVerif.Lemmas.PoolWinWitness
open MosnVerif.Model.PoolWin MosnVerif.Lemmas.PoolWin
open MosnVerif.Model.Pool (Kind Dial Res)

/-! ### 1. the regenerated programs are in the classes -/
theorem progOk_pp : progOk (destroyProg .pp) = true := by decide +kernel
theorem progOk_h1 : progOk (destroyProg .h1) = true := by decide +kernel
theorem ledgerOk_pp : ledgerOk .pp (destroyProg .pp) = true := by decide +kernel
theorem ledgerOk_h1 : ledgerOk .h1 (destroyProg .h1) = true := by decide +kernel

/-! ### 2. put back, then close: a dirty, already closed connection is leased -/
def bad : List DStep := [.decHost, .decCluster, .decRes, .put, .closeIf false]
def badSched : List Label :=
  [.newStream .ok, .endStream 0 .localReset, .taskStep 0, .taskStep 0, .taskStep 0, .taskStep 0, .taskStep 0]

theorem bad_not_progOk : progOk bad = false := by decide +kernel
theorem bad_idle : (run (initWith .pp 0 0 bad) badSched).idle = [0] := by decide +kernel
theorem bad_dirty : ((run (initWith .pp 0 0 bad) badSched).client 0).dirty = true := by decide +kernel
theorem bad_netClosed : ((run (initWith .pp 0 0 bad) badSched).client 0).netOpen = false := by decide +kernel
theorem bad_not_idleClean : ¬ idleClean (run (initWith .pp 0 0 bad) badSched) := by
  intro h
  have h0 := h 0 (by rw [bad_idle]; exact List.mem_singleton.mpr rfl)
  rw [bad_dirty] at h0
  exact absurd h0.2.2.2.1 (by decide)
theorem bad_leased : (step (run (initWith .pp 0 0 bad) badSched) (.newStream .ok)).2 = .ok 0 := by decide +kernel
/-- the same as one schedule of eight labels: the last `NewStream` is answered with connection 0 -/
theorem bad_leased' : (step (run (initWith .pp 0 0 bad) (badSched.take 7)) (.newStream .ok)).2 = .ok 0 := by decide +kernel

/-! ### 3. return after close (HTTP/1): the breaker slot and the gauges leak -/
def leak : List DStep := [.closeIf true, .decHost, .decCluster, .decRes, .put]
def leakSched : List Label := [.newStream .ok, .endStream 0 .localReset, .taskStep 0, .taskStep 0]

theorem leak_not_ledgerOk : ledgerOk .h1 leak = false := by decide +kernel
theorem leak_tasks : (run (initWith .h1 0 1 leak) leakSched).tasks = [] := by decide +kernel
theorem leak_liveN : (run (initWith .h1 0 1 leak) leakSched).liveN = 0 := by decide +kernel
theorem leak_reqCur : (run (initWith .h1 0 1 leak) leakSched).reqCur = 1 := by decide +kernel
theorem leak_rqHost : (run (initWith .h1 0 1 leak) leakSched).rqHost = 1 := by decide +kernel
theorem leak_overflow : (step (run (initWith .h1 0 1 leak) leakSched) (.newStream .ok)).2 = .overflow := by decide +kernel

end MosnVerif.Lemmas.PoolWinWitness
