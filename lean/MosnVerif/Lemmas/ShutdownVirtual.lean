import MosnVerif.Lemmas.Shutdown
/-! the shutdown callback runs whether or not the listener binds a port or ever was Running -/
namespace MosnVerif.Model.Shutdown
open MosnVerif.Gen.Shutdown

/-- `Shutdown` of a listener that is neither Closed nor Stopped invokes the shutdown callback exactly once — in the
upgrade stage through `stopAccept`'s `changed`, otherwise through the close branch — whether or not it binds a port and
whether or not it ever was Running -/
theorem lisShutdown_cb (l : Lis) (stage : Int) (hc : l.state ≠ ListenerClosed) (hs : l.state ≠ ListenerStopped) :
    (lisShutdown l stage).2.shutdownCb = 1 := by
  unfold lisShutdown
  split
  · simp [stopAccept, shutdownCbStop, hc, hs]
  · simp [shutdownCbClose]

/-- outside the upgrade stage the callback runs whatever the listener's state -/
theorem lisShutdown_cb_close (l : Lis) (stage : Int) (h : shutdownOnlyStops stage = false) :
    (lisShutdown l stage).2.shutdownCb = 1 := by
  unfold lisShutdown
  simp [h, shutdownCbClose]

end MosnVerif.Model.Shutdown
