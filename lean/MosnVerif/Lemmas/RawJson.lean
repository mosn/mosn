import MosnVerif.Model.RawJson
import MosnVerif.Lemmas.Redact
/-!
Lemmas for the raw level of the hole redaction: cleanliness of a document in terms of the strings a consumer
reads as private keys, the case analysis of `redactedRaw` for a program without raw-byte guards, and the decoding of
every legal spelling of a key.
-/
namespace MosnVerif.Model.RawJson
open MosnVerif.Model MosnVerif.Model.Redact

/-! ### `cleanJ` = every private-key string is empty or the placeholder -/

mutual
theorem cleanJ_pk (key : Bool) : (j : Json) → cleanJ key j = (pkStrings key j).all keyOk
  | .null | .bool _ | .num _ => by simp [cleanJ, pkStrings]
  | .str s => by cases key <;> simp [cleanJ, pkStrings]
  | .arr xs => by simp [cleanJ, pkStrings, cleanJL_pk xs]
  | .obj kvs => by simp [cleanJ, pkStrings, cleanJO_pk kvs]
theorem cleanJL_pk : (xs : List Json) → cleanJL xs = (pkStringsL xs).all keyOk
  | [] => by simp [cleanJL, pkStringsL]
  | x :: r => by simp [cleanJL, pkStringsL, cleanJ_pk false x, cleanJL_pk r, List.all_append]
theorem cleanJO_pk : (kvs : List (String × Json)) → cleanJO kvs = (pkStringsO kvs).all keyOk
  | [] => by simp [cleanJO, pkStringsO]
  | (k, v) :: r => by simp [cleanJO, pkStringsO, cleanJ_pk (isPK k) v, cleanJO_pk r, List.all_append]
end

theorem clean_of_sub (j j' : Json) (hc : cleanJ false j = true)
    (hs : ∀ s ∈ pkStrings false j', s ∈ pkStrings false j) : cleanJ false j' = true := by
  rw [cleanJ_pk] at hc ⊢
  rw [List.all_eq_true] at hc ⊢
  intro s hm
  exact hc s (hs s hm)

theorem parseFirst_of_parseDoc (t : Text) (j : Json) (h : parseDoc t = some j) : parseFirst t = some j := by
  unfold parseDoc at h
  unfold parseFirst
  cases hp : parsePrefix t with
  | none => simp [hp] at h
  | some jr =>
    obtain ⟨j0, r⟩ := jr
    simp only [hp] at h
    by_cases he : (skipWs r).isEmpty = true
    · simp only [he, if_true, Option.some.injEq] at h
      simp [h]
    · simp [he] at h

theorem parseDoc_nil : parseDoc [] = none := by decide

/-! ### `redactedRaw` behind the single guard `len(raw) == 0` -/

/-- the shape of a program accepted by `rawChecks` -/
def Prog.bare (p : Prog) : Bool := p.piped && p.guards == [.len0]

theorem redactedRaw_bare (p : Prog) (hp : p.bare = true) (unk : String → Text → Bool) (enc : Json → Option Text)
    (raw : Text) : redactedRaw p unk enc raw = walkOut enc raw (parseFirst raw) := by
  simp only [Prog.bare, Bool.and_eq_true, beq_iff_eq] at hp
  unfold redactedRaw
  rw [hp.2]
  cases raw with
  | nil =>
    have : parseFirst ([] : Text) = none := by decide
    simp [Guard.fires, this, walkOut]
  | cons c r => simp [Guard.fires]

/-! ### every legal spelling of a key decodes to the key -/

theorem hexVal_hexDig (n : Nat) (h : n < 16) (u : Bool) : hexVal (hexDig n u) = some n :=
  (by decide : ∀ (n : Fin 16) (u : Bool), hexVal (hexDig n.val u) = some n.val) ⟨n, h⟩ u

theorem hex4_digits (n : Nat) (h : n < 0x10000) (u0 u1 u2 u3 : Bool) :
    hex4 (hexDig (n / 4096 % 16) u0) (hexDig (n / 256 % 16) u1) (hexDig (n / 16 % 16) u2) (hexDig (n % 16) u3) = some n := by
  unfold hex4
  rw [hexVal_hexDig _ (Nat.mod_lt _ (by decide)), hexVal_hexDig _ (Nat.mod_lt _ (by decide)),
    hexVal_hexDig _ (Nat.mod_lt _ (by decide)), hexVal_hexDig _ (Nat.mod_lt _ (by decide))]
  simp only [Option.some.injEq]
  omega

theorem decStrP_sp (sp : Sp) (h : sp.ok = true) (rest : Text) (acc : List Char) :
    decStrP (sp.text ++ rest) none acc = decStrP rest none (sp.char :: acc) := by
  cases sp with
  | plain c =>
    simp only [Sp.ok, Bool.and_eq_true, bne_iff_ne, ne_eq, Bool.not_eq_true', decide_eq_false_iff_not] at h
    obtain ⟨⟨h1, h2⟩, h3⟩ := h
    simp only [Sp.text, Sp.char, List.cons_append, List.nil_append]
    rw [decStrP.eq_def]
    simp [h1, h2, h3, flush]
  | uni c u0 u1 u2 u3 =>
    simp only [Sp.ok, Bool.and_eq_true, decide_eq_true_eq, Bool.not_eq_true'] at h
    obtain ⟨⟨h1, h2⟩, h3⟩ := h
    simp only [Sp.text, Sp.char, List.cons_append, List.nil_append]
    rw [decStrP.eq_def]
    simp only [Char.reduceBEq, if_true, Bool.false_eq_true, if_false]
    rw [hex4_digits c.toNat h1]
    simp only [h2, Bool.false_eq_true, if_false, uChar, h3, Bool.or_self]
    simp [Char.ofNat_toNat]
  | short e =>
    simp only [Sp.ok] at h
    simp only [Sp.text, Sp.char, List.cons_append, List.nil_append]
    rw [decStrP.eq_def]
    have hne : (e == 'u') = false := by
      rw [beq_eq_false_iff_ne]
      rintro rfl
      exact absurd h (by decide)
    simp only [Char.reduceBEq, hne, if_true, Bool.false_eq_true, if_false]
    cases hs : shortEsc e with
    | none => simp [hs] at h
    | some x => simp [flush]

theorem decStrP_spell (sps : List Sp) (h : sps.all Sp.ok = true) (rest : Text) (acc : List Char) :
    decStrP (spell sps ++ '"' :: rest) none acc = some (acc.reverse ++ sps.map Sp.char, rest) := by
  induction sps generalizing acc with
  | nil =>
    simp only [spell, List.flatMap_nil, List.nil_append, List.map_nil, List.append_nil]
    rw [decStrP.eq_def]
    simp [flush]
  | cons sp r ih =>
    simp only [List.all_cons, Bool.and_eq_true] at h
    have : spell (sp :: r) ++ '"' :: rest = sp.text ++ (spell r ++ '"' :: rest) := by
      simp [spell, List.flatMap_cons, List.append_assoc]
    rw [this, decStrP_sp sp h.1, ih h.2]
    simp

theorem decStr_spell (sps : List Sp) (h : sps.all Sp.ok = true) (rest : Text) :
    decStr (spell sps ++ '"' :: rest) [] = some (sps.map Sp.char, rest) := by
  unfold decStr
  rw [decStrP_spell sps h rest []]
  simp

/-! ### the encoder (`json.Marshal` of a decoded tree) as an oracle with a contract -/

/-- what the theorems assume of `json.Marshal` on trees produced by `Decoder.Decode` (UseNumber): it does not
fail, and reading its output back shows no private-key string that the encoded tree does not hold (members may be
reordered, duplicates are gone, characters may be spelled differently). -/
def EncOK (enc : Json → Option Text) : Prop :=
  (∀ j, (enc j).isSome = true) ∧
  (∀ j t j', enc j = some t → parseDoc t = some j' → ∀ s ∈ pkStrings false j', s ∈ pkStrings false j)

theorem walkOut_clean (enc : Json → Option Text) (henc : EncOK enc) (raw : Text) (j' : Json)
    (h : parseDoc (walkOut enc raw (parseFirst raw)) = some j') : cleanJ false j' = true := by
  cases hf : parseFirst raw with
  | none =>
    simp only [hf, walkOut] at h
    rw [parseFirst_of_parseDoc raw j' h] at hf
    simp at hf
  | some j =>
    simp only [hf, walkOut] at h
    by_cases hc : cleanJ false j = true
    · simp only [hc, if_true] at h
      have := parseFirst_of_parseDoc raw j' h
      rw [hf] at this
      simp only [Option.some.injEq] at this
      rw [← this]; exact hc
    · simp only [hc, Bool.false_eq_true, if_false] at h
      cases he : enc (redJ false j) with
      | none =>
        have := henc.1 (redJ false j)
        simp [he] at this
      | some t =>
        simp only [he, Option.getD_some] at h
        exact clean_of_sub (redJ false j) j' (redJ_clean false j) (henc.2 _ t j' he h)

/-- a document whose one member is a real key under a name that folds to `private_key` is never returned as it is: the output is
the encoding of the document holding the placeholder -/
theorem walkOut_pk (enc : Json → Option Text) (henc : EncOK enc) (raw : Text) (k v : String) (hpk : isPK k = true)
    (hval : keyOk v = false) :
    enc (.obj [(k, .str placeholder)]) = some (walkOut enc raw (some (.obj [(k, .str v)]))) := by
  have hne : v ≠ "" := fun e => by simp [keyOk, e] at hval
  obtain ⟨t, he⟩ := Option.isSome_iff_exists.mp (henc.1 (.obj [(k, .str placeholder)]))
  simp [walkOut, cleanJ, cleanJO, redJ, redJO, hpk, hval, hne, he]

/-! ### the one-member document `{"<key>":"<value>"}` in every spelling -/

def keyDoc (ks vs : List Sp) : Text := '{' :: '"' :: (spell ks ++ '"' :: ':' :: '"' :: (spell vs ++ ['"', '}']))

theorem pVal_string (f : Nat) (t : Text) :
    pVal (f + 1) ('"' :: t) = (decStr t []).map (fun (s, r') => (Json.str (String.ofList s), r')) := by
  rw [pVal]
  simp [skipWs, isWs]

theorem pVal_object (f : Nat) (t : Text) :
    pVal (f + 1) ('{' :: '"' :: t) = (pMembers f ('"' :: t) []).map (fun (kvs, r'') => (Json.obj (dedupLast kvs), r'')) := by
  rw [pVal]
  simp [skipWs, isWs]

theorem pMembers_last (f : Nat) (t : Text) (acc : List (String × Json)) (k : List Char) (r2 : Text) (v : Json) (r4 : Text)
    (hk : decStr t [] = some (k, ':' :: r2)) (hv : pVal f r2 = some (v, '}' :: r4)) :
    pMembers (f + 1) ('"' :: t) acc = some (((String.ofList k, v) :: acc).reverse, r4) := by
  rw [pMembers]
  simp [skipWs, isWs, hk, hv]

theorem parsePrefix_keyDoc (ks vs : List Sp) (hk : ks.all Sp.ok = true) (hv : vs.all Sp.ok = true) :
    parsePrefix (keyDoc ks vs) =
      some (.obj [(String.ofList (ks.map Sp.char), .str (String.ofList (vs.map Sp.char)))], []) := by
  unfold parsePrefix
  obtain ⟨n, hn⟩ : ∃ n, (keyDoc ks vs).length + 1 = n + 3 := ⟨(keyDoc ks vs).length - 2, by
    simp only [keyDoc, List.length_cons, List.length_append]; omega⟩
  rw [hn]
  unfold keyDoc
  rw [pVal_object]
  have e : spell vs ++ ['"', '}'] = spell vs ++ '"' :: ['}'] := rfl
  rw [pMembers_last (n + 1) _ [] (ks.map Sp.char) _ (.str (String.ofList (vs.map Sp.char))) []
    (decStr_spell ks hk _) (by rw [pVal_string, e, decStr_spell vs hv]; rfl)]
  simp [dedupLast]

theorem parseFirst_keyDoc (ks vs : List Sp) (hk : ks.all Sp.ok = true) (hv : vs.all Sp.ok = true) :
    parseFirst (keyDoc ks vs) =
      some (.obj [(String.ofList (ks.map Sp.char), .str (String.ofList (vs.map Sp.char)))]) := by
  simp [parseFirst, parsePrefix_keyDoc ks vs hk hv]

/-! ### a walker that stores only into containers it allocated writes no cell of its input -/

mutual
theorem wWrites_cow : (j : Json) → wWrites ⟨false, false, false⟩ j = 0
  | .null | .bool _ | .num _ | .str _ => by simp [wWrites]
  | .arr xs => by simp [wWrites, wWritesL_cow xs]
  | .obj kvs => by simp [wWrites, wWritesO_cow kvs]
theorem wWritesL_cow : (xs : List Json) → wWritesL ⟨false, false, false⟩ xs = 0
  | [] => by simp [wWritesL]
  | x :: r => by simp [wWritesL, wWrites_cow x, wWritesL_cow r]
theorem wWritesO_cow : (kvs : List (String × Json)) → wWritesO ⟨false, false, false⟩ kvs = 0
  | [] => by simp [wWritesO]
  | (k, v) :: r => by simp [wWritesO, wWrites_cow v, wWritesO_cow r]
end

end MosnVerif.Model.RawJson
