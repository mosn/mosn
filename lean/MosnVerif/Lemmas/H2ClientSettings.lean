import MosnVerif.Model.H2ClientSettings
/-! Validated SETTINGS keep MAX_FRAME_SIZE in range; the chunking loops end iff the step is positive -/
namespace MosnVerif.Lemmas.H2ClientSettings
open MosnVerif.Gen MosnVerif.Model.H2ClientSettings

theorem invalidCode_zero_maxFrame (val : Nat) (h : (H2Limits.settingInvalidCode (5 : Nat) (val : Int)).toNat = 0) :
    16384 ≤ val ∧ val ≤ 16777215 := by
  simp only [H2Limits.settingInvalidCode] at h
  by_cases h1 : (val : Int) < 16384
  · simp [h1] at h
  · by_cases h2 : (val : Int) > 16777215
    · simp [h2] at h
    · omega

theorem init_ok : init.Ok := by simp [Conn.Ok, init, H2Limits.initialMaxFrameSize]

/-- a validating callback never stores a MAX_FRAME_SIZE outside the range -/
theorem applyOne_ok (applies : List (Nat × String)) (c c' : Conn) (id val : Nat) (hc : c.Ok)
    (h : applyOne true applies c id val = .ok c') : c'.Ok := by
  revert h
  fun_cases applyOne true applies c id val with
  | case3 code hv _ =>
    rintro ⟨⟩
    simp only [Conn.Ok]
    by_cases h5 : (id == H2Limits.settingMaxFrameSize && stores applies id "cc.maxFrameSize") = true
    · rw [if_pos h5]
      simp only [Bool.and_eq_true, beq_iff_eq, H2Limits.settingMaxFrameSize] at h5
      obtain ⟨rfl, _⟩ := h5
      exact invalidCode_zero_maxFrame val (by simpa [code] using hv)
    · rw [if_neg h5]; exact hc
  | _ => nofun

theorem processSettings_ok (applies : List (Nat × String)) (ss : List (Nat × Nat)) (c c' : Conn) (hc : c.Ok)
    (h : processSettings true applies c ss = .ok c') : c'.Ok := by
  fun_induction processSettings true applies c ss with
  | case1 => cases h; exact hc
  | case2 => cases h
  | case3 c id val r c1 h1 ih => exact ih (applyOne_ok applies c c1 id val hc h1) h

theorem chunkLen_pos (m : Int) (hm : 0 < m) (rest : Int) (hr : 0 < rest) :
    0 < chunkLen rest m ∧ chunkLen rest m ≤ rest ∧ chunkLen rest m ≤ m := by
  simp only [chunkLen, C08H2Settings.headersChunkCut, decide_eq_true_eq]
  omega

def sumI (l : List Int) : Int := l.foldr (· + ·) 0

theorem sumI_append (x y : List Int) : sumI (x ++ y) = sumI x + sumI y := List.sum_append

/-- A loop that, while something is left, cuts `cut rest` off it (`headerFrames`, `fragFrames`): when every cut is positive
and at most what is left, the loop ends within `rest` turns, the cuts add up to `rest`, and each is as `cut` makes them. -/
theorem chunks_terminate {loop : Nat → Int → Option (List Int)} {cut : Int → Int} {P : Int → Prop}
    (hloop : ∀ n r, loop (n + 1) r = if r > 0 then (loop n (r - cut r)).map (cut r :: ·) else some [])
    (hcut : ∀ r, 0 < r → 0 < cut r ∧ cut r ≤ r ∧ P (cut r)) (fuel : Nat) (rest : Int) (h0 : 0 ≤ rest) (hf : rest ≤ fuel) :
    ∃ fs, loop (fuel + 1) rest = some fs ∧ sumI fs = rest ∧ (∀ f ∈ fs, 0 < f ∧ P f) ∧ (fs.length : Int) ≤ rest := by
  induction fuel generalizing rest with
  | zero => exact ⟨[], by rw [hloop, if_neg (by omega)], by simp [sumI]; omega, by simp, by simp; omega⟩
  | succ n ih =>
    by_cases hr : rest > 0
    · have ⟨hp, hle, hP⟩ := hcut rest hr
      obtain ⟨fs, h1, h2, h3, h4⟩ := ih (rest - cut rest) (by omega) (by omega)
      refine ⟨cut rest :: fs, ?_, ?_, ?_, ?_⟩
      · rw [hloop, if_pos hr, h1, Option.map_some]
      · simp only [sumI, List.foldr_cons] at h2 ⊢; omega
      · intro f hfm
        rcases List.mem_cons.mp hfm with rfl | h'
        · exact ⟨hp, hP⟩
        · exact h3 f h'
      · simp only [List.length_cons]; omega
    · exact ⟨[], by rw [hloop, if_neg hr], by simp [sumI]; omega, by simp, by simp; omega⟩

/-- with a positive frame size the HEADERS/CONTINUATION loop ends within `rest` turns: fragments are non-empty, at most
the frame size, and add up to the block -/
theorem headerFrames_terminates (m : Int) (hm : 0 < m) (fuel : Nat) (rest : Int) (h0 : 0 ≤ rest) (hf : rest ≤ fuel) :
    ∃ fs, headerFrames m (fuel + 1) rest = some fs ∧ sumI fs = rest ∧ (∀ f ∈ fs, 0 < f ∧ f ≤ m) ∧ (fs.length : Int) ≤ rest :=
  chunks_terminate (fun _ _ => rfl) (chunkLen_pos m hm) fuel rest h0 hf

/-- with a frame size ≤ 0 the loop never ends, whatever the fuel: `hdrs` does not shrink -/
theorem headerFrames_diverges (m : Int) (hm : m ≤ 0) (fuel : Nat) (rest : Int) (hr : 0 < rest) :
    headerFrames m fuel rest = none := by
  induction fuel generalizing rest with
  | zero => rfl
  | succ n ih =>
    rw [headerFrames]
    have hc : chunkLen rest m = m := by
      simp only [chunkLen, C08H2Settings.headersChunkCut]
      have : rest > m := by omega
      simp [this]
    simp only [hr, if_true, hc, ih (rest - m) (by omega), Option.map_none]

theorem fragLen_pos (rest : Int) (hr : 0 < rest) :
    0 < fragLen rest ∧ fragLen rest ≤ rest ∧ fragLen rest ≤ C08H2Settings.dataFragMax := by
  simp only [fragLen, C08H2Settings.dataFragCut, C08H2Settings.dataFragMax]
  by_cases h : rest > ((16384 : Nat) : Int)
  · simp; omega
  · simp; omega

/-- `writeData` ends: fragments are non-empty, at most the constant size, and add up to what was to be written -/
theorem fragFrames_terminates (fuel : Nat) (rest : Int) (h0 : 0 ≤ rest) (hf : rest ≤ fuel) :
    ∃ fs, fragFrames (fuel + 1) rest = some fs ∧ sumI fs = rest ∧ (∀ f ∈ fs, 0 < f ∧ f ≤ C08H2Settings.dataFragMax) ∧
      (fs.length : Int) ≤ rest :=
  chunks_terminate (fun _ _ => rfl) fragLen_pos fuel rest h0 hf

theorem take_pos (avail rest m : Int) (hm : 0 < m) (hr : 0 < rest) (ha : rest ≤ avail) :
    0 < take avail rest m ∧ take avail rest m ≤ rest ∧ take avail rest m ≤ m := by
  simp only [take, C08H2Settings.clientTakeOverBytes, C08H2Settings.clientTakeOverFrame, decide_eq_true_eq]
  omega

/-- with a positive frame size and a send window covering the body the DATA loop ends: every frame is non-empty -/
theorem dataFrames_terminates (m : Int) (hm : 0 < m) (fuel : Nat) (avail rest : Int) (h0 : 0 ≤ rest) (hf : rest ≤ fuel)
    (ha : rest ≤ avail) :
    ∃ fs, dataFrames m (fuel + 1) avail rest = some fs ∧ sumI fs = rest ∧ (∀ f ∈ fs, 0 < f) := by
  induction fuel generalizing rest avail with
  | zero =>
    have : rest = 0 := by omega
    subst this
    exact ⟨[], by simp [dataFrames], rfl, by simp⟩
  | succ n ih =>
    by_cases hr : rest > 0
    · have ⟨hp, hle, _⟩ := take_pos avail rest m hm hr ha
      obtain ⟨a, a1, a2, a3, _⟩ := fragFrames_terminates (take avail rest m).toNat (take avail rest m) (by omega) (by omega)
      obtain ⟨b, b1, b2, b3⟩ := ih (avail - take avail rest m) (rest - take avail rest m) (by omega) (by omega) (by omega)
      refine ⟨a ++ b, ?_, ?_, ?_⟩
      · rw [dataFrames]; simp only [hr, if_true, a1, b1]
      · rw [sumI_append, a2, b2]; omega
      · intro f hfm
        rcases List.mem_append.mp hfm with h' | h'
        · exact (a3 f h').1
        · exact b3 f h'
    · exact ⟨[], by rw [dataFrames]; simp [hr], by simp [sumI]; omega, by simp⟩

/-- with frame size 0 the DATA loop never ends (and writes nothing: `writeData` of an empty non-nil slice) -/
theorem dataFrames_diverges (fuel : Nat) (avail rest : Int) (hr : 0 < rest) (ha : 0 < avail) :
    dataFrames 0 fuel avail rest = none := by
  induction fuel generalizing rest avail with
  | zero => rfl
  | succ n ih =>
    have ht : take avail rest 0 = 0 := by
      simp only [take, C08H2Settings.clientTakeOverBytes, C08H2Settings.clientTakeOverFrame]
      by_cases h1 : avail > rest <;> simp [h1] <;> omega
    rw [dataFrames, if_pos hr]
    simp only [ht, Int.sub_zero, ih avail rest hr ha]
    -- whatever `writeData` of the empty slice yields, the rest of the loop never ends
    cases fragFrames _ _ <;> rfl

theorem zeros_eq_zero_of_pos (l : List Int) (h : ∀ f ∈ l, 0 < f) : zeros l = 0 := by
  simp only [zeros, List.length_eq_zero_iff, List.filter_eq_nil_iff, beq_iff_eq]
  intro a ha h0
  have := h a ha
  omega

/-- a request written with a frame size in range satisfies the predicate (window of 65535 covers the body) -/
theorem request_spec (settle same : String) (m h b : Nat) (hs : settle ≠ "none") (hm : 0 < m) (hb : b ≤ 65535) :
    h2setSpec (request settle same m h b) = true := by
  obtain ⟨hf, h1, _, h3, _⟩ := headerFrames_terminates (m : Int) (by omega) h (h : Int) (by omega) (by omega)
  obtain ⟨df, d1, _, d3⟩ := dataFrames_terminates (m : Int) (by omega) b (H2Limits.initialWindowSize : Int) (b : Int)
    (by omega) (by omega) (by simp [H2Limits.initialWindowSize]; omega)
  have z1 := zeros_eq_zero_of_pos hf (fun f hfm => (h3 f hfm).1)
  have z2 := zeros_eq_zero_of_pos df d3
  simp only [request, h1, d1, h2setSpec, z1, z2]
  simp [hs]

end MosnVerif.Lemmas.H2ClientSettings
