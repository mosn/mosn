import MosnVerif.Model.ConfigCodec
import MosnVerif.Lemmas.GoDuration
import MosnVerif.Lemmas.ConfigMeta
import MosnVerif.Lemmas.Fold
/-! Lemmas behind C19: the generic codec round trip. -/
namespace MosnVerif.Model.ConfigCodec
open MosnVerif.Model MosnVerif.Model.GoDuration

theorem lookupLast_foldl_none (k : String) (ms : List (String × Json)) (acc : Option Json)
    (h : ∀ m ∈ ms, (fold m.1 == fold k) = false) :
    ms.foldl (fun acc m => if fold m.1 == fold k then some m.2 else acc) acc = acc :=
  Lemmas.Fold.foldl_frame id _ ms (fun m hm a => by simp [h m hm]) acc

theorem lookupLast_append (a b : List (String × Json)) (k : String) :
    lookupLast (a ++ b) k = b.foldl (fun acc m => if fold m.1 == fold k then some m.2 else acc) (lookupLast a k) := by
  simp [lookupLast, List.foldl_append]

def noMatch (ms : List (String × Json)) (k : String) : Prop := ∀ m ∈ ms, (fold m.1 == fold k) = false

theorem lookupLast_noMatch (ms : List (String × Json)) (k : String) (h : noMatch ms k) : lookupLast ms k = none :=
  lookupLast_foldl_none k ms none h

theorem lookupLast_mid (a b : List (String × Json)) (k : String) (j : Json) (ha : noMatch b k) :
    lookupLast (a ++ (k, j) :: b) k = some j := by
  rw [lookupLast_append]
  simp only [List.foldl, BEq.rfl, if_true]
  exact lookupLast_foldl_none k b (some j) ha

theorem lookupLast_skip (a b : List (String × Json)) (k : String) (ha : noMatch a k) (hb : noMatch b k) :
    lookupLast (a ++ b) k = none := by
  rw [lookupLast_append, lookupLast_noMatch a k ha]
  exact lookupLast_foldl_none k b none hb

theorem encodeF_keys : (fs : Fields) → (vs : List CVal) → ∀ m ∈ encodeF fs vs, m.1 ∈ fs.keys
  | .nil, _ => by simp [encodeF]
  | .cons k o sh r, [] => by simp [encodeF]
  | .cons k o sh r, v :: vs => by
    intro m hm
    simp only [encodeF] at hm
    split at hm
    · exact List.mem_cons_of_mem _ (encodeF_keys r vs m hm)
    · simp only [List.mem_cons] at hm
      rcases hm with rfl | hm
      · simp [Fields.keys]
      · exact List.mem_cons_of_mem _ (encodeF_keys r vs m hm)

theorem rtL (e : Shape) (ih : ∀ v, wt e v = true → decode e (encode e v) = some (norm e v)) (vs : List CVal)
    (h : wtL (wt e) vs = true) : decodeL (decode e) (encodeL (encode e) vs) = some (normL (norm e) vs) := by
  fun_induction wtL (wt e) vs <;> simp_all [encodeL, decodeL, normL]

theorem rtM (e : Shape) (ih : ∀ v, wt e v = true → decode e (encode e v) = some (norm e v)) (kvs : List (String × CVal))
    (h : wtM (wt e) kvs = true) : decodeM (decode e) (encodeM (encode e) kvs) = some (normM (norm e) kvs) := by
  fun_induction wtM (wt e) kvs <;> simp_all [encodeM, decodeM, normM]

theorem encode_ne_null (e : Shape) (v : CVal) (he : ptrElemOK e = true) (hw : wt e v = true) : encode e v ≠ .null := by
  fun_cases wt e v <;> simp [wt] at hw <;> simp [ptrElemOK] at he <;> simp [encode]

theorem decode_ptr (e : Shape) (j : Json) (h : j ≠ .null) : decode (.ptr e) j = (decode e j).map (fun v => .ptr [v]) := by
  cases j <;> simp [decode] at h ⊢

mutual
theorem rt : (sh : Shape) → keysOK sh = true → (v : CVal) → wt sh v = true → decode sh (encode sh v) = some (norm sh v)
  | .str, _, v, hw | .num, _, v, hw | .bool, _, v, hw | .hole, _, v, hw | .hmap, _, v, hw => by
    cases v <;> simp [wt] at hw
    simp [encode, decode, norm, hw]
  | .dur, _, v, hw => by
    cases v <;> simp [wt] at hw
    simp [encode, decode, norm, durU, parseDur_fmtDur _ hw.1 hw.2]
  | .struct fs, hk, v, hw => by
    cases v <;> simp [wt] at hw
    rename_i vs
    simp only [keysOK] at hk
    simpa [encode, decode, norm] using rtF fs hk [] vs hw (by simp [noMatch])
  | .slice e, hk, v, hw => by
    cases v <;> simp [wt] at hw
    rename_i n vs
    simp only [keysOK] at hk
    cases n with
    | true =>
      have : vs = [] := by simpa using hw.1
      subst this
      simp [encode, decode, norm, normL]
    | false => simp [encode, decode, norm, rtL e (rt e hk) vs hw.2]
  | .map e, hk, v, hw => by
    cases v <;> simp [wt] at hw
    rename_i n kvs
    simp only [keysOK] at hk
    cases n with
    | true =>
      have : kvs = [] := by simpa using hw.1
      subst this
      simp [encode, decode, norm, normM]
    | false => simp [encode, decode, norm, rtM e (rt e hk) kvs hw.2]
  | .ptr e, hk, v, hw => by
    cases v <;> simp [wt] at hw
    rename_i vs
    simp only [keysOK, Bool.and_eq_true] at hk
    have hk := hk.2
    obtain ⟨⟨hpe, hlen⟩, hwl⟩ := hw
    match vs, hlen, hwl with
    | [], _, _ => simp [encode, decode, norm, normL]
    | [v], _, hwl =>
      simp only [wtL, Bool.and_true] at hwl
      simp only [encode, norm, normL]
      rw [decode_ptr e _ (encode_ne_null e v hpe hwl), rt e hk v hwl]
      rfl
    | _ :: _ :: _, hlen, _ => simp at hlen
  | .metaS i fs, hk, v, hw => by
    cases v <;> simp [wt] at hw
    rename_i vs
    simp only [keysOK, Bool.and_eq_true] at hk
    obtain ⟨k, hg⟩ := metaAt_get fs i hk.1
    have hw2 : wtF fs (metaFix i vs) = true := wtF_set fs vs i k true metaShape _ hw.2 hg (wt_fromMeta _)
    simpa [encode, decode, norm] using rtF fs hk.2 [] (metaFix i vs) hw2 (by simp [noMatch])
  | .boxed e, hk, v, hw => by
    cases v <;> simp [wt] at hw
    rename_i vs
    simp only [keysOK] at hk
    match vs, hw with
    | [v], hw => simp [encode, decode, norm, normL, rt e hk v hw]
theorem rtF : (fs : Fields) → keysOKF fs = true → (pre : List (String × Json)) → (vs : List CVal) → wtF fs vs = true →
    (∀ k ∈ fs.keys, noMatch pre k) → decodeF fs (pre ++ encodeF fs vs) = some (normF fs vs)
  | .nil, _, pre, vs, hw, _ => by cases vs <;> simp [wtF] at hw; simp [decodeF, normF]
  | .cons k o sh r, hk, pre, vs, hw, hpre => by
    cases vs with
    | nil => simp [wtF] at hw
    | cons v vs =>
      simp only [wtF, Bool.and_eq_true] at hw
      simp only [keysOKF, Bool.and_eq_true, Bool.not_eq_true', List.any_eq_false, beq_iff_eq] at hk
      obtain ⟨⟨hdist, hksh⟩, hkr⟩ := hk
      have hrest : noMatch (encodeF r vs) k := fun m hm => by simpa using hdist m.1 (encodeF_keys r vs m hm)
      have hprek : noMatch pre k := hpre k (by simp [Fields.keys])
      simp only [encodeF, normF]
      by_cases hom : (o && isEmpty v) = true
      · simp only [hom, if_true]
        have hl : lookupLast (pre ++ encodeF r vs) k = none := lookupLast_skip pre _ k hprek hrest
        have ih := rtF r hkr pre vs hw.2 (fun k' hk' => hpre k' (by simp [Fields.keys, hk']))
        simp [decodeF, hl, ih]
      · simp only [hom]
        have hl : lookupLast (pre ++ (k, encode sh v) :: encodeF r vs) k = some (encode sh v) :=
          lookupLast_mid pre _ k _ hrest
        -- the rest sees `pre ++ [(k, _)]` as its prefix
        have hpre' : ∀ k' ∈ r.keys, noMatch (pre ++ [(k, encode sh v)]) k' := by
          intro k' hk' m hm
          simp only [List.mem_append, List.mem_singleton] at hm
          rcases hm with hm | rfl
          · exact hpre k' (by simp [Fields.keys, hk']) m hm
          · simpa using Ne.symm (hdist k' hk')
        have ih := rtF r hkr (pre ++ [(k, encode sh v)]) vs hw.2 hpre'
        simp only [List.append_assoc, List.singleton_append] at ih
        simp [decodeF, hl, ih, rt sh hksh v hw.1]
end

/-! ### `norm` is what the cycle keeps: encoding is blind to it -/

theorem normL_length (e : Shape) : (vs : List CVal) → (normL (norm e) vs).length = vs.length
  | [] => by simp [normL]
  | v :: r => by simp [normL, normL_length e r]

theorem normM_isEmpty (e : Shape) (kvs : List (String × CVal)) : (normM (norm e) kvs).isEmpty = kvs.isEmpty := by
  cases kvs with
  | nil => simp [normM]
  | cons kv r => obtain ⟨k, v⟩ := kv; simp [normM]

theorem normL_isEmpty (e : Shape) (vs : List CVal) : (normL (norm e) vs).isEmpty = vs.isEmpty := by
  cases vs <;> simp [normL]

theorem isEmpty_norm (sh : Shape) (v : CVal) (hw : wt sh v = true) : isEmpty (norm sh v) = isEmpty v := by
  fun_cases wt sh v <;> simp [wt] at hw <;> simp [norm, isEmpty, normL_isEmpty, normM_isEmpty, normL]

theorem isEmpty_zero (sh : Shape) (v : CVal) (hw : wt sh v = true) (he : isEmpty v = true) : isEmpty (zero sh) = true := by
  -- the shapes whose zero value is not empty have no empty value at all
  fun_cases wt sh v <;> simp [wt, isEmpty] at hw he <;> rfl

theorem enL (e : Shape) (ih : ∀ v, wt e v = true → encode e (norm e v) = encode e v) (vs : List CVal)
    (h : wtL (wt e) vs = true) : encodeL (encode e) (normL (norm e) vs) = encodeL (encode e) vs := by
  fun_induction wtL (wt e) vs <;> simp_all [encodeL, normL]

theorem enM (e : Shape) (ih : ∀ v, wt e v = true → encode e (norm e v) = encode e v) (kvs : List (String × CVal))
    (h : wtM (wt e) kvs = true) : encodeM (encode e) (normM (norm e) kvs) = encodeM (encode e) kvs := by
  fun_induction wtM (wt e) kvs <;> simp_all [encodeM, normM]

mutual
theorem en : (sh : Shape) → (v : CVal) → wt sh v = true → encode sh (norm sh v) = encode sh v
  | .str, v, _ | .num, v, _ | .bool, v, _ | .hole, v, _ | .hmap, v, _ | .dur, v, _ => by simp [norm]
  | .struct fs, v, hw => by
    cases v <;> simp [wt] at hw
    simp [norm, encode, enF fs _ hw]
  | .slice e, v, hw => by
    cases v <;> simp [wt] at hw
    simp [norm, encode, enL e (en e) _ hw.2]
  | .map e, v, hw => by
    cases v <;> simp [wt] at hw
    simp [norm, encode, enM e (en e) _ hw.2]
  | .ptr e, v, hw => by
    cases v <;> simp [wt] at hw
    rename_i vs
    match vs, hw with
    | [], _ => simp [norm, normL, encode]
    | v :: r, hw =>
      simp only [wtL, Bool.and_eq_true] at hw
      simp [norm, normL, encode, en e v hw.2.1]
  | .metaS i fs, v, hw => by
    cases v <;> simp [wt] at hw
    rename_i vs
    obtain ⟨k, hg⟩ := metaAt_get fs i hw.1
    have hlt : i < vs.length := by rw [wtF_length fs vs hw.2]; exact get?_lt fs i _ hg
    have hw2 : wtF fs (metaFix i vs) = true := wtF_set fs vs i k true metaShape _ hw.2 hg (wt_fromMeta _)
    have hget : (metaFix i vs)[i]? = some (fromMeta (mdOf vs[i]?)) := by simp [metaFix, hlt]
    have hn := normF_get fs _ i k true metaShape _ hg hget
    rw [norm_fromMeta] at hn
    have hfix : metaFix i (normF fs (metaFix i vs)) = normF fs (metaFix i vs) := by
      unfold metaFix at hn ⊢
      rw [hn, mdOf_fromMeta _ (mdOf_nodup _)]
      exact set_self _ i _ hn
    simp only [norm, encode, hfix, enF fs _ hw2]
  | .boxed e, v, hw => by
    cases v <;> simp [wt] at hw
    rename_i vs
    match vs, hw with
    | [v], hw => simp [norm, normL, encode, en e v hw]
theorem enF : (fs : Fields) → (vs : List CVal) → wtF fs vs = true → encodeF fs (normF fs vs) = encodeF fs vs
  | .nil, vs, _ => by cases vs <;> simp [encodeF]
  | .cons k o sh r, [], hw => by simp [wtF] at hw
  | .cons k o sh r, v :: vs, hw => by
    simp only [wtF, Bool.and_eq_true] at hw
    simp only [normF, encodeF]
    by_cases hom : (o && isEmpty v) = true
    · have ho : o = true := by simp only [Bool.and_eq_true] at hom; exact hom.1
      have he : isEmpty v = true := by simp only [Bool.and_eq_true] at hom; exact hom.2
      have hz := isEmpty_zero sh v hw.1 he
      subst ho
      simp only [Bool.true_and, he, if_true, hz, enF r vs hw.2]
    · simp only [hom]
      have : (o && isEmpty (norm sh v)) = (o && isEmpty v) := by rw [isEmpty_norm sh v hw.1]
      simp [this, hom, en sh v hw.1, enF r vs hw.2]
end

mutual
theorem wt_zero : (sh : Shape) → keysOK sh = true → wt sh (zero sh) = true
  | .str, _ | .num, _ | .bool, _ | .hole, _ | .hmap, _ | .dur, _ => by simp [zero, wt, isObjOrNull, two63]
  | .struct fs, h => by simp only [keysOK] at h; simp [zero, wt, wtF_zero fs h]
  | .slice e, _ => by simp [zero, wt, wtL]
  | .map e, _ => by simp [zero, wt, wtM]
  | .ptr e, h => by simp only [keysOK, Bool.and_eq_true] at h; simp [zero, wt, wtL, h.1]
  | .metaS i fs, h => by simp only [keysOK, Bool.and_eq_true] at h; simp [zero, wt, h.1, wtF_zero fs h.2]
  | .boxed e, h => by simp only [keysOK] at h; simp [zero, wt, wt_zero e h]
theorem wtF_zero : (fs : Fields) → keysOKF fs = true → wtF fs (zeroF fs) = true
  | .nil, _ => by simp [zeroF, wtF]
  | .cons k o sh r, h => by
    simp only [keysOKF, Bool.and_eq_true] at h
    simp [zeroF, wtF, wt_zero sh h.1.2, wtF_zero r h.2]
end

theorem dwL (e : Shape) (ih : ∀ j v, decode e j = some v → wt e v = true) (xs : List Json) (vs : List CVal)
    (h : decodeL (decode e) xs = some vs) : wtL (wt e) vs = true := by
  fun_induction decodeL (decode e) xs generalizing vs with
  | case1 => cases h; rfl
  | case2 x r v vs' hr hv ihl => cases h; simp [wtL, ih x v hv, ihl vs' hr]
  | case3 => cases h

theorem dwM (e : Shape) (ih : ∀ j v, decode e j = some v → wt e v = true) (ms : List (String × Json))
    (kvs : List (String × CVal)) (h : decodeM (decode e) ms = some kvs) : wtM (wt e) kvs = true := by
  fun_induction decodeM (decode e) ms generalizing kvs with
  | case1 => cases h; rfl
  | case2 k x r v vs' hr hv ihl => cases h; simp [wtM, ih x v hv, ihl vs' hr]
  | case3 => cases h

theorem durU_range {j : Json} {d : Int} (h : durU j = some d) : -(two63 : Int) ≤ d ∧ d < (two63 : Int) := by
  cases j <;> simp [durU, parseDur] at h <;> exact parseChars_range _ d h

mutual
theorem dw : (sh : Shape) → keysOK sh = true → (j : Json) → (v : CVal) → decode sh j = some v → wt sh v = true
  | .str, _, j, v, h | .num, _, j, v, h | .bool, _, j, v, h => by
    cases j <;> simp [decode] at h <;> subst h <;> simp [wt]
  | .hole, _, j, v, h => by simp [decode] at h; subst h; simp [wt]
  | .hmap, _, j, v, h => by
    simp only [decode] at h
    split at h
    · rename_i ho; simp at h; subst h; simp [wt, ho]
    · simp at h
  | .dur, _, j, v, h => by
    obtain ⟨d, hd, rfl⟩ := Option.map_eq_some_iff.mp h
    simpa [wt] using durU_range hd
  | .struct fs, hk, j, v, h => by
    simp only [keysOK] at hk
    cases j <;> simp [decode] at h
    · subst h; simp [wt, wtF_zero fs hk]
    · obtain ⟨vs, hvs, rfl⟩ := h
      simp [wt, dwF fs hk _ vs hvs]
  | .slice e, hk, j, v, h => by
    simp only [keysOK] at hk
    cases j <;> simp [decode] at h
    · subst h; simp [wt, wtL]
    · obtain ⟨vs, hvs, rfl⟩ := h
      simp [wt, dwL e (dw e hk) _ vs hvs]
  | .map e, hk, j, v, h => by
    simp only [keysOK] at hk
    cases j <;> simp [decode] at h
    · subst h; simp [wt, wtM]
    · obtain ⟨vs, hvs, rfl⟩ := h
      simp [wt, dwM e (dw e hk) _ vs hvs]
  | .ptr e, hk, j, v, h => by
    simp only [keysOK, Bool.and_eq_true] at hk
    by_cases hj : j = .null
    · subst hj; simp [decode] at h; subst h; simp [wt, wtL, hk.1]
    · rw [decode_ptr e j hj] at h
      obtain ⟨v', h1, rfl⟩ := Option.map_eq_some_iff.mp h
      simp [wt, wtL, hk.1, dw e hk.2 j v' h1]
  | .metaS i fs, hk, j, v, h => by
    simp only [keysOK, Bool.and_eq_true] at hk
    cases j <;> simp [decode] at h
    · subst h; simp [wt, hk.1, wtF_zero fs hk.2]
    · obtain ⟨vs, hvs, rfl⟩ := h
      simp [wt, hk.1, dwF fs hk.2 _ vs hvs]
  | .boxed e, hk, j, v, h => by
    simp only [keysOK] at hk
    obtain ⟨v', h1, rfl⟩ := Option.map_eq_some_iff.mp h
    simp [wt, dw e hk j v' h1]
theorem dwF : (fs : Fields) → keysOKF fs = true → (ms : List (String × Json)) → (vs : List CVal) →
    decodeF fs ms = some vs → wtF fs vs = true
  | .nil, _, ms, vs, h => by simp [decodeF] at h; subst h; simp [wtF]
  | .cons k o sh r, hk, ms, vs, h => by
    simp only [keysOKF, Bool.and_eq_true] at hk
    simp only [decodeF] at h
    split at h
    · next v vs' h1 h2 =>
      cases h
      -- the member's value: decoded, or the zero value when the member is absent
      have hv : wt sh v = true := by
        split at h1
        · exact dw sh hk.1.2 _ v h1
        · cases h1; exact wt_zero sh hk.1.2
      simp [wtF, hv, dwF r hk.2 ms vs' h2]
    · cases h
end

/-! ### distinct keys, checked on bytes

`fold` goes through `String.toList`; on a literal the kernel then decodes UTF-8 character by character, which is most of
what a check of `keysOK` on the regenerated tables costs.  The same folding on the UTF-8 bytes (`keysOKB`) separates at
least as much — ASCII letters are single bytes, and no byte of a longer sequence is below 128 — and never decodes. -/

def foldB (b : UInt8) : UInt8 := if 65 ≤ b ∧ b ≤ 90 then b + 32 else b

def foldBytes (k : String) : List UInt8 := k.toByteArray.data.toList.map foldB

mutual
def keysOKB : Shape → Bool
  | .struct fs => keysOKFB fs
  | .slice e => keysOKB e
  | .map e => keysOKB e
  | .ptr e => ptrElemOK e && keysOKB e
  | .metaS i fs => metaAt fs i && keysOKFB fs
  | .boxed e => keysOKB e
  | _ => true
def keysOKFB : Fields → Bool
  | .nil => true
  | .cons k _ sh r => !(r.keys.any (fun k' => foldBytes k' == foldBytes k)) && keysOKB sh && keysOKFB r
end

def foldC (c : Char) : Char := if 'A' ≤ c ∧ c ≤ 'Z' then Char.ofNat (c.toNat + 32) else c

theorem foldB_encode (c : Char) :
    (String.utf8EncodeChar c).map foldB = (String.utf8EncodeChar (foldC c)).map foldB := by
  unfold foldC
  split
  · rename_i h
    have h1 : 65 ≤ c.toNat := h.1
    have h2 : c.toNat ≤ 90 := h.2
    have hall : ∀ i : Fin 26, (String.utf8EncodeChar (Char.ofNat (65 + i))).map foldB =
        (String.utf8EncodeChar (Char.ofNat ((Char.ofNat (65 + i)).toNat + 32))).map foldB := by decide
    have := hall ⟨c.toNat - 65, by omega⟩
    have e : 65 + (c.toNat - 65) = c.toNat := by omega
    simp only [e, Char.ofNat_toNat] at this
    exact this
  · rfl

theorem bytes_toList (k : String) : k.toByteArray.data.toList = k.toList.flatMap String.utf8EncodeChar := by
  conv => lhs; rw [← String.ofList_toList (s := k), String.toByteArray_ofList]
  simp [List.utf8Encode]

/-- the folded bytes are a function of the folded characters -/
theorem foldBytes_eq (k : String) :
    foldBytes k = (k.toList.map foldC).flatMap (fun c => (String.utf8EncodeChar c).map foldB) := by
  unfold foldBytes
  rw [bytes_toList, List.map_flatMap, List.flatMap_map]
  congr 1
  funext c
  exact foldB_encode c

theorem foldBytes_of_fold {k k' : String} (h : fold k' = fold k) : foldBytes k' = foldBytes k := by
  rw [foldBytes_eq, foldBytes_eq]
  have : k'.toList.map foldC = k.toList.map foldC := String.ofList_injective h
  rw [this]

mutual
theorem keysOK_of_keysOKB : (sh : Shape) → keysOKB sh = true → keysOK sh = true
  | .str, _ | .num, _ | .bool, _ | .hole, _ | .hmap, _ | .dur, _ => rfl
  | .struct fs, h => by simp only [keysOKB] at h; simp only [keysOK, keysOKF_of_keysOKFB fs h]
  | .slice e, h => by simp only [keysOKB] at h; simp only [keysOK, keysOK_of_keysOKB e h]
  | .map e, h => by simp only [keysOKB] at h; simp only [keysOK, keysOK_of_keysOKB e h]
  | .boxed e, h => by simp only [keysOKB] at h; simp only [keysOK, keysOK_of_keysOKB e h]
  | .ptr e, h => by
    simp only [keysOKB, Bool.and_eq_true] at h
    simp only [keysOK, h.1, keysOK_of_keysOKB e h.2, Bool.and_self]
  | .metaS i fs, h => by
    simp only [keysOKB, Bool.and_eq_true] at h
    simp only [keysOK, h.1, keysOKF_of_keysOKFB fs h.2, Bool.and_self]
theorem keysOKF_of_keysOKFB : (fs : Fields) → keysOKFB fs = true → keysOKF fs = true
  | .nil, _ => rfl
  | .cons k o sh r, h => by
    simp only [keysOKFB, Bool.and_eq_true, Bool.not_eq_true', List.any_eq_false, beq_iff_eq] at h
    simp only [keysOKF, Bool.and_eq_true, Bool.not_eq_true', List.any_eq_false, beq_iff_eq]
    exact ⟨⟨fun k' hk' e => h.1.1 k' hk' (foldBytes_of_fold e), keysOK_of_keysOKB sh h.1.2⟩, keysOKF_of_keysOKFB r h.2⟩
end

theorem name_mem_of_expandTy {g : GoTypes.Graph} {n : Nat} {s : String} {sh : Shape}
    (h : expandTy g n (.named s) = some sh) : s ∈ g.map (·.name) := by
  cases n with
  | zero => simp [expandTy] at h
  | succ n =>
    rw [expandTy] at h
    cases hf : g.find s with
    | none => simp [hf] at h
    | some d =>
      have hn : d.name = s := by simpa using List.find?_some hf
      exact List.mem_map.mpr ⟨d, List.mem_of_find?_eq_some hf, hn⟩

end MosnVerif.Model.ConfigCodec
