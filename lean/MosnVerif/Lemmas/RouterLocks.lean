import MosnVerif.Model.RouterLocks
import MosnVerif.Lemmas.Fold
/-! Serializability of write-lock-disciplined step programs under a read/write mutex and a second mutex (generic part). -/
namespace MosnVerif.Model.RouterLocks
open MosnVerif MosnVerif.Gen.RouterLocks

variable {S L : Type}

/-- a step that neither reads nor writes the shared state -/
def LocalStep (exec : Exec S L) (a : Step) : Prop :=
  ∀ s s' l, (exec a s l).1 = s ∧ (exec a s l).2 = (exec a s' l).2

theorem outside_not_lock {a : Step} (h : outside a = true) : a ≠ .lock ∧ a ≠ .unlock := by
  constructor <;> (intro e; subst e; simp [outside, localStep] at h)

theorem kind_wlock {a : Step} (h : kind a = .wlock) : a = .lock := by cases a <;> simp [kind] at h ⊢
theorem kind_wunlock {a : Step} (h : kind a = .wunlock) : a = .unlock := by cases a <;> simp [kind] at h ⊢

theorem outside_cases {a : Step} (h : outside a = true) :
    localStep a = true ∨ a = .mlock ∨ a = .munlock ∨ a = .rlock ∨ a = .runlock := by
  simpa only [outside, Bool.or_eq_true, beq_iff_eq, or_assoc] using h

theorem localStep_plain {a : Step} (h : localStep a = true) : kind a = .plain := by
  simp only [localStep, Bool.or_eq_true, beq_iff_eq] at h
  rcases h with (rfl | rfl) | rfl <;> rfl

theorem notLock_plain {a : Step} (h : (!isLockOp a) = true) : kind a = .plain := by
  simpa [isLockOp] using h

theorem disciplined_shape {p : List Step} (h : disciplined p = true) :
    p.all outside = true ∨
    ∃ pre mid post, p = pre ++ Step.lock :: (mid ++ Step.unlock :: post) ∧ pre.all outside = true ∧
      mid.all (fun a => !isLockOp a) = true ∧ post.all outside = true := by
  unfold disciplined at h
  have hp := List.takeWhile_append_dropWhile (p := (· != Step.lock)) (l := p)
  cases hd : p.dropWhile (· != Step.lock) with
  | nil =>
    rw [hd, List.append_nil] at hp
    rw [hd, hp] at h
    exact Or.inl h
  | cons a r =>
    have ha : a = .lock := by
      have := List.head_dropWhile_not (· != Step.lock) (l := p) (by simp [hd])
      simpa [hd] using this
    subst ha
    rw [hd] at h hp
    simp only at h
    have hr := List.takeWhile_append_dropWhile (p := (· != Step.unlock)) (l := r)
    cases hd2 : r.dropWhile (· != Step.unlock) with
    | nil => simp [hd2] at h
    | cons b post =>
      have hb : b = .unlock := by
        have := List.head_dropWhile_not (· != Step.unlock) (l := r) (by simp [hd2])
        simpa [hd2] using this
      subst hb
      rw [hd2] at h hr
      simp only [Bool.and_eq_true] at h
      exact Or.inr ⟨_, _, post, by rw [hr, hp], h.1.1, h.1.2, h.2⟩

theorem runBody_cons_lock (exec : Exec S L) {a : Step} (h : isLockOp a = true) (r : List Step) (s : S) (l : L) :
    runBody exec (a :: r) s l = runBody exec r s l := by
  simp [runBody, h]

theorem runBody_cons_plain (exec : Exec S L) {a : Step} (h : isLockOp a = false) (r : List Step) (s : S) (l : L) :
    runBody exec (a :: r) s l =
      if (exec a s l).2.2 then ((exec a s l).1, (exec a s l).2.1) else runBody exec r (exec a s l).1 (exec a s l).2.1 := by
  simp [runBody, h]

theorem localStep_notLock {a : Step} (h : localStep a = true) : isLockOp a = false := by
  simp [isLockOp, localStep_plain h]

theorem outside_lockOp_or_local {a : Step} (h : outside a = true) : isLockOp a = true ∨ localStep a = true := by
  rcases outside_cases h with h | rfl | rfl | rfl | rfl
  · exact Or.inr h
  all_goals exact Or.inl rfl

theorem runBody_cons_local (exec : Exec S L) (hloc : ∀ a, localStep a = true → LocalStep exec a) {a : Step}
    (h : localStep a = true) (r : List Step) (s s' : S) (l : L) :
    (runBody exec (a :: r) s l).1 = if (exec a s' l).2.2 then s else (runBody exec r s (exec a s' l).2.1).1 := by
  rw [runBody_cons_plain exec (localStep_notLock h), (hloc a h s s' l).1, (hloc a h s s' l).2]
  split <;> rfl

theorem runBody_outside_fst (exec : Exec S L) (hloc : ∀ a, localStep a = true → LocalStep exec a) (xs : List Step)
    (h : xs.all outside = true) (s : S) (l : L) : (runBody exec xs s l).1 = s := by
  induction xs generalizing l with
  | nil => rfl
  | cons a r ih =>
    simp only [List.all_cons, Bool.and_eq_true] at h
    rcases outside_lockOp_or_local h.1 with hk | hk
    · rw [runBody_cons_lock exec hk]; exact ih h.2 l
    · rw [runBody_cons_local exec hloc hk r s s]
      split
      · rfl
      · exact ih h.2 _

/-- what a program does to the shared state depends on its tail only through what the tail does to the shared state -/
theorem runBody_append_congr (exec : Exec S L) (xs ys zs : List Step)
    (h : ∀ s l, (runBody exec ys s l).1 = (runBody exec zs s l).1) (s : S) (l : L) :
    (runBody exec (xs ++ ys) s l).1 = (runBody exec (xs ++ zs) s l).1 := by
  induction xs generalizing s l with
  | nil => exact h s l
  | cons a r ih =>
    simp only [List.cons_append, runBody]
    split
    · exact ih s l
    · split
      · rfl
      · exact ih _ _

/-- run alone, a disciplined program does to the shared state what its prefix and critical section do: the lock steps and the
suffix change nothing -/
theorem runBody_critical (exec : Exec S L) (hloc : ∀ a, localStep a = true → LocalStep exec a) (pre mid post : List Step)
    (h : post.all outside = true) (s : S) (l : L) :
    (runBody exec (pre ++ Step.lock :: (mid ++ Step.unlock :: post)) s l).1 = (runBody exec (pre ++ mid) s l).1 := by
  refine runBody_append_congr exec pre _ _ (fun s l => ?_) s l
  rw [runBody_cons_lock exec rfl]
  have := runBody_append_congr exec mid (Step.unlock :: post) [] (fun s l => ?_) s l
  · rwa [List.append_nil] at this
  · rw [runBody_cons_lock exec rfl]; exact runBody_outside_fst exec hloc post h s l

theorem serialS_append (exec : Exec S L) (calls : Nat → Call L) (o : List Nat) (t : Nat) (s : S) :
    serialS exec calls (o ++ [t]) s = (runBody exec (calls t).prog (serialS exec calls o s) (calls t).l0).1 := by
  induction o generalizing s with
  | nil => rfl
  | cons u r ih => simp only [List.cons_append, serialS, ih]

/-- a call that has not taken the write lock yet and will: the rest of its prefix, its critical section, its suffix -/
def Pending (exec : Exec S L) (calls : Nat → Call L) (t : Nat) (th : Thread L) : Prop :=
  ∃ pr mid post, th.todo = pr ++ Step.lock :: (mid ++ Step.unlock :: post) ∧ pr.all outside = true ∧
    mid.all (fun a => !isLockOp a) = true ∧ post.all outside = true ∧
    ∀ s, (runBody exec (pr ++ mid) s th.loc).1 = (runBody exec (calls t).prog s (calls t).l0).1

/-- a call that changes nothing shared when it runs alone -/
def Noop (exec : Exec S L) (calls : Nat → Call L) (t : Nat) : Prop :=
  ∀ s, (runBody exec (calls t).prog s (calls t).l0).1 = s

structure SerInv (exec : Exec S L) (calls : Nat → Call L) (s0 : S) (c : Conf S L) : Prop where
  nodup : c.done.Nodup
  /-- while nobody holds the write lock the shared state is the sequential one -/
  idle : c.writer = none → c.shared = serialS exec calls c.done s0
  /-- the holder is inside its critical section: finishing it alone yields the next sequential state -/
  crit : ∀ h, c.writer = some h → h ∉ c.done ∧ ∃ rest post, (c.threads h).todo = rest ++ Step.unlock :: post ∧
    rest.all (fun a => !isLockOp a) = true ∧ post.all outside = true ∧
    (runBody exec rest c.shared (c.threads h).loc).1 =
      (runBody exec (calls h).prog (serialS exec calls c.done s0) (calls h).l0).1
  /-- every other call only has outside steps left (it is through, or it never changes anything), or is still to lock -/
  out : ∀ t, c.writer ≠ some t →
    ((c.threads t).todo.all outside = true ∧ (t ∈ c.done ∨ Noop exec calls t)) ∨
    (t ∉ c.done ∧ Pending exec calls t (c.threads t))

theorem setThread_same (th : Nat → Thread L) (t : Nat) (v : Thread L) : setThread th t v t = v := by
  simp [setThread]

theorem setThread_other (th : Nat → Thread L) (t u : Nat) (v : Thread L) (h : u ≠ t) : setThread th t v u = th u := by
  simp [setThread, h]

theorem inv_init (exec : Exec S L) (hloc : ∀ a, localStep a = true → LocalStep exec a) (calls : Nat → Call L) (s0 : S)
    (hd : ∀ t, disciplined (calls t).prog = true) : SerInv exec calls s0 (initConf calls s0) := by
  refine ⟨by simp [initConf], fun _ => rfl, by simp [initConf], ?_⟩
  intro t _
  rcases disciplined_shape (hd t) with h | ⟨pre, mid, post, hp, h1, h2, h3⟩
  · left
    exact ⟨h, Or.inr (fun s => runBody_outside_fst exec hloc _ h s _)⟩
  · right
    refine ⟨by simp [initConf], pre, mid, post, hp, h1, h2, h3, ?_⟩
    intro s
    rw [hp]
    exact (runBody_critical exec hloc pre mid post h3 s _).symm

theorem stepThread_otherLock (exec : Exec S L) (c : Conf S L) (t : Nat) {a : Step} {r : List Step}
    (htodo : (c.threads t).todo = a :: r) (ha : a = .mlock ∨ a = .munlock ∨ a = .rlock ∨ a = .runlock) :
    stepThread exec c t = c ∨ ∃ rd mh, stepThread exec c t = { advance c t r with readers := rd, mholder := mh } := by
  rcases ha with rfl | rfl | rfl | rfl <;> simp only [stepThread, htodo, kind]
  · split
    · exact Or.inr ⟨_, _, rfl⟩
    · exact Or.inl rfl
  · exact Or.inr ⟨_, _, rfl⟩
  · split
    · exact Or.inr ⟨_, _, rfl⟩
    · exact Or.inl rfl
  · exact Or.inr ⟨_, _, rfl⟩

/-- a step outside the lock vocabulary: the shared state and the thread are what `exec` returns; an early return leaves the
deferred unlocks to do -/
theorem stepThread_plain (exec : Exec S L) (c : Conf S L) (t : Nat) {a : Step} {r : List Step}
    (htodo : (c.threads t).todo = a :: r) (hk : kind a = .plain) :
    stepThread exec c t =
      { c with shared := (exec a c.shared (c.threads t).loc).1,
               threads := setThread c.threads t
                 ⟨if (exec a c.shared (c.threads t).loc).2.2 then releases c t else r, (exec a c.shared (c.threads t).loc).2.1⟩ } := by
  simp only [stepThread, htodo, hk]

/-- what a step outside the write lock by a thread that does not hold it does to the configuration: the thread is blocked and
nothing happens; or only the other locks and the thread itself change, and the thread goes on (run alone, the rest of its program
does from its new local state what the step and the rest do from the old one) or has returned early (run alone, it leaves the
shared state as it is) -/
theorem step_outside (exec : Exec S L) (hloc : ∀ a, localStep a = true → LocalStep exec a) (c : Conf S L) (t : Nat)
    {a : Step} {r : List Step} (htodo : (c.threads t).todo = a :: r) (ha : outside a = true) (hw : c.writer ≠ some t) :
    stepThread exec c t = c ∨
    ((stepThread exec c t).shared = c.shared ∧ (stepThread exec c t).writer = c.writer ∧ (stepThread exec c t).done = c.done ∧
     (∀ u, u ≠ t → (stepThread exec c t).threads u = c.threads u) ∧
     ((((stepThread exec c t).threads t).todo = r ∧ ∀ xs s, (runBody exec (a :: xs) s (c.threads t).loc).1 =
        (runBody exec xs s ((stepThread exec c t).threads t).loc).1) ∨
      (((stepThread exec c t).threads t).todo.all outside = true ∧
        ∀ xs s, (runBody exec (a :: xs) s (c.threads t).loc).1 = s))) := by
  rcases outside_cases ha with hl | ha
  · right
    have hrel : (releases c t).all outside = true := by
      unfold releases
      simp only [hw, if_false, List.nil_append]
      split <;> split <;> rfl
    rw [stepThread_plain exec c t htodo (localStep_plain hl)]
    refine ⟨(hloc a hl c.shared c.shared _).1, rfl, rfl, fun u hu => setThread_other _ _ _ _ hu, ?_⟩
    simp only [setThread_same]
    cases he : (exec a c.shared (c.threads t).loc).2.2
    · exact .inl ⟨rfl, fun xs s => by rw [runBody_cons_local exec hloc hl xs s c.shared, he]; rfl⟩
    · exact .inr ⟨hrel, fun xs s => by rw [runBody_cons_local exec hloc hl xs s c.shared, he]; rfl⟩
  · have hlk : isLockOp a = true := by rcases ha with rfl | rfl | rfl | rfl <;> rfl
    refine (stepThread_otherLock exec c t htodo ha).imp_right fun ⟨rd, mh, e⟩ => ?_
    rw [e]
    refine ⟨rfl, rfl, rfl, fun u hu => setThread_other _ _ _ _ hu, .inl ?_⟩
    simp only [advance, setThread_same, true_and]
    exact fun xs s => by rw [runBody_cons_lock exec hlk]

/-- a step of thread `t`, which does not hold the write lock, that leaves the shared state, the write lock, `done` and every
other thread alone keeps the invariant, given what `t` is about to do afterwards -/
theorem SerInv.frame {exec : Exec S L} {calls : Nat → Call L} {s0 : S} {c c' : Conf S L} {t : Nat}
    (I : SerInv exec calls s0 c) (hwt : c.writer ≠ some t) (hs : c'.shared = c.shared) (hw : c'.writer = c.writer)
    (hd : c'.done = c.done) (hoth : ∀ u, u ≠ t → c'.threads u = c.threads u)
    (hme : ((c'.threads t).todo.all outside = true ∧ (t ∈ c.done ∨ Noop exec calls t)) ∨
      (t ∉ c.done ∧ Pending exec calls t (c'.threads t))) : SerInv exec calls s0 c' := by
  refine ⟨hd ▸ I.nodup, fun h => by rw [hs, hd]; exact I.idle (hw ▸ h), fun h hh => ?_, fun u hu => ?_⟩
  · rw [hw] at hh
    rw [hs, hd, hoth h (fun e => hwt (e ▸ hh))]
    exact I.crit h hh
  · rw [hd]
    by_cases hut : u = t
    · subst hut; exact hme
    · rw [hoth u hut]; exact I.out u (hw ▸ hu)

theorem inv_step (exec : Exec S L) (hloc : ∀ a, localStep a = true → LocalStep exec a) (calls : Nat → Call L) (s0 : S)
    (c : Conf S L) (t : Nat) (I : SerInv exec calls s0 c) : SerInv exec calls s0 (stepThread exec c t) := by
  by_cases hwt : c.writer = some t
  · -- the holder of the write lock
    obtain ⟨hnd, rest, post, htodo, hfree, hpost, hrun⟩ := I.crit t hwt
    cases rest with
    | nil =>
      -- releases the write lock: its critical section is complete
      have e : stepThread exec c t = { advance c t post with writer := none, done := c.done ++ [t] } := by
        simp only [stepThread, htodo, List.nil_append, kind, hwt, if_true]
      rw [e]
      refine ⟨?_, ?_, by simp, ?_⟩
      · exact (List.perm_append_singleton t c.done).nodup_iff.2 (List.nodup_cons.2 ⟨hnd, I.nodup⟩)
      · intro _
        show c.shared = _
        rw [serialS_append, ← hrun]
        rfl
      · intro u _
        by_cases hu : u = t
        · subst hu
          left
          simp only [advance, setThread_same]
          exact ⟨hpost, Or.inl (by simp)⟩
        · have hold := I.out u (by rw [hwt]; simp; exact fun h => hu h.symm)
          simp only [advance, setThread_other _ _ _ _ hu]
          rcases hold with ⟨h1, h2⟩ | ⟨h1, h2⟩
          · left; exact ⟨h1, h2.elim (fun h => Or.inl (by simp [h])) Or.inr⟩
          · right; exact ⟨by simp [h1, hu], h2⟩
    | cons a rest' =>
      -- one step inside the critical section
      simp only [List.all_cons, Bool.and_eq_true] at hfree
      have hnl : isLockOp a = false := by simpa using hfree.1
      rw [stepThread_plain exec c t htodo (notLock_plain hfree.1)]
      refine { I with idle := by simp [hwt], crit := ?_, out := ?_ }
      · intro h' hh'
        simp only [hwt, Option.some.injEq] at hh'
        subst hh'
        refine ⟨hnd, ?_⟩
        simp only [setThread_same]
        rw [← hrun, runBody_cons_plain exec hnl]
        cases he : (exec a c.shared (c.threads t).loc).2.2
        · exact ⟨rest', post, by simp, hfree.2, hpost, by simp⟩
        · -- an early return inside the critical section: the deferred unlock is what is left of it
          refine ⟨[], (if t ∈ c.readers then [Step.runlock] else []) ++ (if c.mholder = some t then [Step.munlock] else []),
            by simp [releases, hwt], by simp, ?_, by simp [runBody]⟩
          split <;> split <;> rfl
      · intro u hu
        have hut : u ≠ t := fun h => hu (by simp [h, hwt])
        simp only [setThread_other _ _ _ _ hut]
        exact I.out u hu
  · -- a thread that does not hold the write lock
    rcases I.out t hwt with ⟨hall, htag⟩ | ⟨hnd, pr, mid, post, htodo, hpr, hmid, hpost, heq⟩
    · -- only outside steps left
      cases htodo : (c.threads t).todo with
      | nil =>
        have e : stepThread exec c t = c := by simp only [stepThread, htodo]
        rw [e]; exact I
      | cons a r =>
        rw [htodo] at hall
        simp only [List.all_cons, Bool.and_eq_true] at hall
        rcases step_outside exec hloc c t htodo hall.1 hwt with e | ⟨hs, hw, hdn, hoth, hme⟩
        · rw [e]; exact I
        · refine I.frame hwt hs hw hdn hoth (Or.inl ⟨?_, htag⟩)
          rcases hme with ⟨h, _⟩ | ⟨h, _⟩
          · rw [h]; exact hall.2
          · exact h
    · cases pr with
      | cons a pr' =>
        -- a step of the prefix: the rest of the prefix and the critical section still do what the whole call does alone
        simp only [List.all_cons, Bool.and_eq_true] at hpr
        rcases step_outside exec hloc c t htodo hpr.1 hwt with e | ⟨hs, hw, hdn, hoth, hme⟩
        · rw [e]; exact I
        · refine I.frame hwt hs hw hdn hoth ?_
          rcases hme with ⟨h, hr⟩ | ⟨h, hr⟩
          · exact Or.inr ⟨hnd, pr', mid, post, h, hpr.2, hmid, hpost, fun s => by rw [← heq s, List.cons_append, hr]⟩
          · exact Or.inl ⟨h, Or.inr fun s => by rw [← heq s, List.cons_append, hr]⟩
      | nil =>
        -- at the write lock
        by_cases hfree : c.writer = none ∧ c.readers = []
        · have e : stepThread exec c t = { advance c t (mid ++ Step.unlock :: post) with writer := some t } := by
            simp only [stepThread, htodo, List.nil_append, kind, hfree, and_self, if_true]
          rw [e]
          refine { I with idle := by simp, crit := ?_, out := ?_ }
          · intro h hh
            simp only [Option.some.injEq] at hh
            subst hh
            refine ⟨hnd, mid, post, by simp [advance, setThread_same], hmid, hpost, ?_⟩
            simp only [advance, setThread_same]
            rw [← I.idle hfree.1]
            exact heq c.shared
          · intro u hu
            have hut : u ≠ t := fun h => hu (by simp [h])
            simp only [advance, setThread_other _ _ _ _ hut]
            exact I.out u (by rw [hfree.1]; simp)
        · have e : stepThread exec c t = c := by
            simp only [stepThread, htodo, List.nil_append, kind, hfree, if_false]
          rw [e]; exact I

theorem inv_run (exec : Exec S L) (hloc : ∀ a, localStep a = true → LocalStep exec a) (calls : Nat → Call L) (s0 : S)
    (sched : List Nat) (c : Conf S L) (I : SerInv exec calls s0 c) : SerInv exec calls s0 (runSched exec c sched) :=
  Lemmas.Fold.foldl_inv (P := SerInv exec calls s0) (inv_step exec hloc calls s0) sched c I

/-- the generic theorem: under every schedule, whenever nobody holds the write lock the shared state is the one the calls that
went through their critical section leave when they run ONE AFTER THE OTHER in the order they released the lock; every other
call that has finished changes nothing when it runs alone. -/
theorem serializable (exec : Exec S L) (hloc : ∀ a, localStep a = true → LocalStep exec a) (calls : Nat → Call L) (s0 : S)
    (hd : ∀ t, disciplined (calls t).prog = true) (sched : List Nat) :
    let c := runSched exec (initConf calls s0) sched
    c.done.Nodup ∧ (c.writer = none → c.shared = serialS exec calls c.done s0) ∧
    (∀ t, (c.threads t).todo = [] → t ∉ c.done → Noop exec calls t) := by
  have I := inv_run exec hloc calls s0 sched _ (inv_init exec hloc calls s0 hd)
  refine ⟨I.nodup, I.idle, ?_⟩
  intro t ht hnd
  by_cases hw : (runSched exec (initConf calls s0) sched).writer = some t
  · obtain ⟨_, rest, post, h, _⟩ := I.crit t hw
    rw [ht] at h; simp at h
  · rcases I.out t hw with ⟨_, h | h⟩ | ⟨_, pr, mid, post, h, _⟩
    · exact absurd h hnd
    · exact h
    · rw [ht] at h; simp at h

end MosnVerif.Model.RouterLocks
