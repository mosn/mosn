import MosnVerif.Model.RetryPolicy
import MosnVerif.Lemmas.Retry
/-! Lemmas for the configuration → accessor → proxy chain of the retry policy (`Model/RetryPolicy.lean`) and the EXACT number of
attempts of consecutive-failure histories on the attempt machine (`Model/Retry.lean`). Core Lean only. -/
namespace MosnVerif.Model.RetryPolicy
open MosnVerif.Model.Retry MosnVerif.Gen.RetryState MosnVerif.Gen.RetryPolicyBuild

theorem toNat_codes (l : List Nat) : (l.map Int.ofNat).map Int.toNat = l := by
  induction l with
  | nil => rfl
  | cons a r ih => simp [ih]

/-- a request that can still retry: an attempt is outstanding, the retry state exists, nothing was sent downstream, the worker
has a pass left -/
structure Alive (s : St) : Prop where
  live : s.live = true
  hasRS : s.hasRS = true
  notStarted : s.started = false
  loops : s.loops ≠ 0

theorem foldl_step_not_live (p : Policy) (s : St) (ls : List Label) (h : s.live = false) : ls.foldl (step p) s = s :=
  Lemmas.Fold.foldl_inv (P := (· = s)) (fun _ l e => e ▸ step_not_live p s l h) ls s rfl

/-- an outcome that is not retried (budget used up, or not retryable under the policy) ends the exchange without any further
attempt -/
theorem step_not_retried (p : Policy) (s : St) (l : Label)
    (ha : Alive s) (hno : s.remaining = 0 ∨ retryable p l.o = false)
    (hpt : l.o = .perTry → p.tryTimeout = true) :
    (step p s l).live = false ∧ (step p s l).attempts = s.attempts := by
  obtain ⟨st, ⟨hr, _⟩ | ⟨_, r, _, _, he⟩⟩ := step_live p s l ha.live hpt
  · rcases hno with h | h
    · exact absurd h hr.2.2.1
    · rw [hr.2.2.2.1] at h; cases h
  · obtain ⟨_, _, _, _, hat, hlv⟩ := finish_ends { s with trace := s.trace ++ [.outcome l.o], lastStatus := st, remaining := r } l.o
    rw [he]
    exact ⟨hlv, hat⟩

/-- every label carries an outcome retryable under the policy, an admitting breaker and a healthy host -/
def AllRetried (p : Policy) (ls : List Label) : Prop :=
  ∀ l ∈ ls, retryable p l.o = true ∧ l.canCreate = true ∧ l.host.isSome = true ∧ (l.o = .perTry → p.tryTimeout = true)

/-- a history of retried outcomes adds one attempt per outcome until the budget is used up -/
theorem foldl_retried (p : Policy) (ls : List Label) (hall : AllRetried p ls) (s : St) (ha : Alive s) (n : Nat)
    (hr : s.remaining = n) : (ls.foldl (step p) s).attempts = s.attempts + min ls.length n := by
  induction ls generalizing s n with
  | nil => simp
  | cons l r ih =>
    obtain ⟨hret, hcc, hh, hpt⟩ := hall l (List.mem_cons_self ..)
    simp only [List.foldl_cons, List.length_cons]
    cases n with
    | zero =>
      obtain ⟨hd, hc⟩ := step_not_retried p s l ha (Or.inl hr) hpt
      rw [foldl_step_not_live p _ r hd, hc, Nat.min_zero, Nat.add_zero]
    | succ n =>
      obtain ⟨h, hh⟩ := Option.isSome_iff_exists.mp hh
      obtain ⟨st, he⟩ := step_retries p s l h ha.live ha.hasRS ha.notStarted (by omega) ha.loops hret hcc hh hpt
      rw [he, Nat.succ_min_succ, ih (fun x hx => hall x (List.mem_cons_of_mem _ hx)) _ _ n]
      · show s.attempts + 1 + _ = _; omega
      · show s.remaining - 1 = n; omega
      · exact ⟨ha.live, ha.hasRS, ha.notStarted, ha.loops⟩

theorem start_alive (p : Policy) (h0 : Nat) : Alive (start p (some h0)) := by
  constructor <;> simp [start, workLoopBound]

theorem start_remaining (p : Policy) (h0 : Nat) : (start p (some h0)).remaining = ((max 3 p.numRetries : Nat) : Int) := by
  simp only [start]; exact initialBudget_eq p.numRetries

/-- EXACT number of attempts of a history of retryable outcomes (the trace of a run holds as many attempts as were counted:
`Good.count`) -/
theorem run_retried_count (p : Policy) (h0 : Nat) (ls : List Label) (hall : AllRetried p ls) :
    attemptCount (run p (some h0) ls).trace = 1 + min ls.length (max 3 p.numRetries) := by
  rw [(run_good p _ ls).count]
  exact foldl_retried p ls hall _ (start_alive p h0) _ (start_remaining p h0)

/-- a first outcome that is not retryable under the policy: exactly one attempt, whatever follows -/
theorem run_not_retried_count (p : Policy) (h0 : Nat) (l : Label) (ls : List Label) (hno : retryable p l.o = false)
    (hpt : l.o = .perTry → p.tryTimeout = true) :
    attemptCount (run p (some h0) (l :: ls)).trace = 1 := by
  rw [(run_good p _ _).count]
  obtain ⟨hd, hc⟩ := step_not_retried p _ l (start_alive p h0) (Or.inr hno) hpt
  exact (congrArg St.attempts (foldl_step_not_live p _ ls hd)).trans hc

end MosnVerif.Model.RetryPolicy
