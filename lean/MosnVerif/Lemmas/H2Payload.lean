import MosnVerif.Model.H2Payload
import MosnVerif.Lemmas.H2Frame
/-!
Round trips `parse (write f) = f` of each frame type through the regenerated writers and parsers, the reserved bits, and
the error class of each frame type's payloads against the RFC table.
-/
set_option linter.unusedSimpArgs false
namespace MosnVerif.Lemmas.H2Payload
open MosnVerif.Gen.H2Payload MosnVerif.Model.H2Payload
open MosnVerif.Model.H2Frame (FrameHeader Priority Bytes)

theorem toNat_ofNat (x : Nat) (h : x < 256) : (UInt8.ofNat x).toNat = x :=
  UInt8.toNat_ofNat_of_lt' h

theorem be32_u32be (v : Nat) (h : v < 2 ^ 32) (r : Bytes) : be32 ((u32be v ++ r).take 4) = v := by
  simpa only [u32be, be32, byteAt, List.cons_append, List.nil_append, List.take_succ_cons, List.take_zero,
    List.getD_eq_getElem?_getD, List.getElem?_cons_zero, List.getElem?_cons_succ, Option.getD_some,
    Nat.shiftRight_eq_div_pow, UInt8.toNat_ofNat', Nat.reducePow, Nat.mod_mod] using Model.Bytes.digits32 v h

theorem drop_u32be (v : Nat) (r : Bytes) : (u32be v ++ r).drop 4 = r := by simp [u32be]

theorem length_u32be (v : Nat) : (u32be v).length = 4 := rfl

theorem be32_u32be' (v : Nat) (h : v < 2 ^ 32) : be32 (u32be v) = v := by
  have := be32_u32be v h []
  simpa [u32be] using this

theorem mu32be_eq (v : Nat) : mu32be v = u32be v := rfl
theorem mu16be_eq (v : Nat) : mu16be v = u16be v := rfl

theorem be16_u16be (v : Nat) (h : v < 2 ^ 16) (r : Bytes) : be16 ((u16be v ++ r).take 2) = v := by
  simp only [u16be, be16, byteAt, List.cons_append, List.nil_append, List.take_succ_cons, List.take_zero,
    List.getD_eq_getElem?_getD, List.getElem?_cons_zero, List.getElem?_cons_succ, Option.getD_some,
    Nat.shiftRight_eq_div_pow, UInt8.toNat_ofNat']
  omega

theorem mask31 (v : Nat) : v &&& 2147483647 = v % 2 ^ 31 := by
  have : (2147483647 : Nat) = 2 ^ 31 - 1 := by decide
  rw [this, Nat.and_two_pow_sub_one_eq_mod]

theorem bit31 (v : Nat) (h : v < 2 ^ 32) : (v &&& 2147483648 = 0) ↔ v < 2 ^ 31 := by
  have e : (2147483648 : Nat) = 2 ^ 31 := by decide
  rw [e]
  constructor
  · intro h0
    have := congrArg (fun x => Nat.testBit x 31) h0
    simp only [Nat.testBit_and, Nat.testBit_two_pow_self, Bool.and_true, Nat.zero_testBit] at this
    rw [Nat.testBit_eq_decide_div_mod_eq] at this
    simp only [decide_eq_false_iff_not] at this
    omega
  · intro hlt
    apply Nat.eq_of_testBit_eq
    intro i
    simp only [Nat.testBit_and, Nat.zero_testBit, Nat.testBit_two_pow]
    by_cases hi : 31 = i
    · subst hi; rw [Nat.testBit_lt_two_pow hlt]; rfl
    · simp [hi]

theorem validStreamID_iff (sid : Nat) (h : sid < 2 ^ 32) : validStreamID sid = true ↔ (sid ≠ 0 ∧ sid < 2 ^ 31) := by
  unfold validStreamID
  simp only [Bool.and_eq_true, decide_eq_true_eq, bit31 sid h]

theorem validStreamIDOrZero_iff (sid : Nat) (h : sid < 2 ^ 32) : validStreamIDOrZero sid = true ↔ sid < 2 ^ 31 := by
  unfold validStreamIDOrZero
  simp only [decide_eq_true_eq, bit31 sid h]

theorem or_bit31 (v : Nat) (h : v < 2 ^ 31) (e : Bool) : (v ||| (if e then 2147483648 else 0)) = v + (if e then 2 ^ 31 else 0) := by
  cases e
  · simp
  · simp only [if_true]
    have := Nat.two_pow_add_eq_or_of_lt h 1
    rw [Nat.mul_one] at this
    rw [Nat.or_comm, show (2147483648 : Nat) = 2 ^ 31 by decide, ← this, Nat.add_comm]

theorem mod31_lt (v : Nat) (h : v < 2 ^ 31) : v % 2 ^ 31 = v := Nat.mod_eq_of_lt h

/-- the value ranges the fields have by their Go types (uint32, uint8, [8]byte) and by RFC 7540 (31-bit stream ids, stream 0
where the frame type forbids it, zero padding, a frame below 2^24 octets, an extension type for a raw frame) -/
def WF : Frame → Prop
  | .data sid _ d pad =>
    0 < sid ∧ sid < 2 ^ 31 ∧ (∀ p', pad = some p' → p' = List.replicate p'.length 0 ∧ p'.length ≤ 255) ∧ d.length + 256 < 2 ^ 24
  | .headers sid _ _ pl pr frag =>
    0 < sid ∧ sid < 2 ^ 31 ∧ pl < 256 ∧ pr.streamDep < 2 ^ 31 ∧ pr.weight < 256 ∧ frag.length + 262 < 2 ^ 24
  | .priority sid p => 0 < sid ∧ sid < 2 ^ 31 ∧ p.streamDep < 2 ^ 31 ∧ p.weight < 256
  | .rst sid code => 0 < sid ∧ sid < 2 ^ 31 ∧ code < 2 ^ 32
  | .settings ss => (∀ s ∈ ss, s.1 < 2 ^ 16 ∧ s.2 < 2 ^ 32 ∧ (s.1 = 4 → s.2 < 2 ^ 31)) ∧ 6 * ss.length < 2 ^ 24
  | .settingsAck => True
  | .pushPromise sid pr _ pl frag => 0 < sid ∧ sid < 2 ^ 31 ∧ 0 < pr ∧ pr < 2 ^ 31 ∧ pl < 256 ∧ frag.length + 260 < 2 ^ 24
  | .ping _ d => d.length = 8
  | .goAway last code dbg => last < 2 ^ 31 ∧ code < 2 ^ 32 ∧ dbg.length + 8 < 2 ^ 24
  | .windowUpdate sid incr => sid < 2 ^ 31 ∧ 0 < incr ∧ incr < 2 ^ 31
  | .continuation sid _ frag => 0 < sid ∧ sid < 2 ^ 31 ∧ frag.length < 2 ^ 24
  | .raw t fl sid pl => 10 ≤ t ∧ t < 256 ∧ fl < 256 ∧ sid < 2 ^ 31 ∧ pl.length < 2 ^ 24

/-- what is read back from what `Framer.Write*` wrote (`allowIllegal` = `Framer.AllowIllegalWrites`) -/
def roundTrip (a : Bool) (f : Frame) : Option (Except PErr Frame) := (f.write a).map decode

theorem finishWrite_ok (t fl sid : Nat) (p : Bytes) (hp : p.length < 2 ^ 24) :
    finishWrite false t fl sid p = some ({ length := p.length, type := t, flags := fl, streamID := sid }, p) := by
  unfold finishWrite
  have : ¬ MosnVerif.Gen.H2Frame.writeTooLarge ≤ p.length := by
    unfold MosnVerif.Gen.H2Frame.writeTooLarge; omega
  simp [this]

theorem lookup_unknown (t : Nat) (h : 10 ≤ t) : (frameParsers.lookup t).getD "parseUnknownFrame" = "parseUnknownFrame" := by
  have hk : ∀ k : Nat, k < 10 → (t == k) = false := fun k hk => by simp; omega
  have : frameParsers.lookup t = none := by
    simp [frameParsers, List.lookup, hk]
  rw [this]; rfl

/-- the regenerated `frameParsers` map, read as a dispatch on the frame type -/
theorem parsePayload_eq (h : FrameHeader) (p : Bytes) :
    parsePayload h p = match h.type with
      | 0 => parseDataFrame h p
      | 1 => parseHeadersFrame h p
      | 2 => parsePriority h p
      | 3 => parseRst h p
      | 4 => parseSettings h p
      | 5 => parsePushPromise h p
      | 6 => parsePing h p
      | 7 => parseGoAway h p
      | 8 => parseWindowUpdate h p
      | 9 => parseContinuation h p
      | _ => .ok (.unknown p) := by
  unfold parsePayload
  match h.type with
  | 0 | 1 | 2 | 3 | 4 | 5 | 6 | 7 | 8 | 9 => simp [frameParsers, List.lookup]
  | t + 10 => rw [lookup_unknown _ (Nat.le_add_left 10 t)]; rfl

theorem readHdr_type (h : FrameHeader) : (readHdr h).type = h.type := rfl

theorem parsePayload_unknown (h : FrameHeader) (p : Bytes) (ht : 10 ≤ h.type) : parsePayload h p = .ok (.unknown p) := by
  unfold parsePayload; rw [lookup_unknown _ ht]; simp

/-! ### the parsers on the byte layouts the writers produce (any 32-bit word: the reserved bit is part of the input) -/

theorem parsePing_ok (h : FrameHeader) (d : Bytes) (hs : h.streamID = 0) (hd : d.length = 8) : parsePing h d = .ok (.ping d) := by
  simp [parsePing, pPingLen, pPingSid, hd, hs]

theorem parseRst_ok (h : FrameHeader) (code : Nat) (hs : h.streamID ≠ 0) (hc : code < 2 ^ 32) :
    parseRst h (u32be code) = .ok (.rst code) := by
  have e : be32 (List.take 4 (u32be code)) = code := by simpa using be32_u32be code hc []
  simp [parseRst, pRstLen, pRstSid, length_u32be, pRstCode, hs, e]

theorem pWuInc_u32be (x : Nat) (hx : x < 2 ^ 32) : pWuInc (u32be x) = x % 2 ^ 31 := by
  rw [pWuInc, show List.take 4 (u32be x) = u32be x from rfl, be32_u32be' x hx, mask31]

theorem parseWindowUpdate_ok (h : FrameHeader) (v : Nat) (hv : v < 2 ^ 32) (hz : v % 2 ^ 31 ≠ 0) :
    parseWindowUpdate h (u32be v) = .ok (.windowUpdate (v % 2 ^ 31)) := by
  simp [parseWindowUpdate, pWuLen, length_u32be, pWuInc_u32be v hv, pWuZero, hz]

theorem parseGoAway_ok (h : FrameHeader) (l c : Nat) (dbg : Bytes) (hs : h.streamID = 0) (hl : l < 2 ^ 32) (hc : c < 2 ^ 32) :
    parseGoAway h (u32be l ++ u32be c ++ dbg) = .ok (.goAway (l % 2 ^ 31) c dbg) := by
  have e1 : be32 (List.take 4 (u32be l ++ u32be c ++ dbg)) = l := by rw [List.append_assoc, be32_u32be _ hl]
  have e2 : be32 (List.take 4 (List.drop 4 (u32be l ++ u32be c ++ dbg))) = c := by
    rw [List.append_assoc, drop_u32be, be32_u32be c hc]
  have e3 : List.drop 8 (u32be l ++ u32be c ++ dbg) = dbg := by simp [u32be]
  have hlen : (u32be l ++ u32be c ++ dbg).length = dbg.length + 8 := by simp [length_u32be]; omega
  have h8 : ¬ dbg.length + 8 < 8 := by omega
  simp only [parseGoAway, pGoAwaySid, pGoAwayLen, hlen, pGoAwayLast, pGoAwayCode, pGoAwayDebug, e1, e2, e3, mask31, hs]
  simp [h8]

theorem pPrioDep_eq (v : Nat) : pPrioDep v = v % 2 ^ 31 := mask31 v
theorem pPrioExcl_eq (v d : Nat) : pPrioExcl v d = decide (d ≠ v) := rfl

theorem parsePriority_ok (h : FrameHeader) (v w : Nat) (hs : h.streamID ≠ 0) (hv : v < 2 ^ 32) (hw : w < 256) :
    parsePriority h (u32be v ++ u8be w) = .ok (.priority ⟨v % 2 ^ 31, decide (v % 2 ^ 31 ≠ v), w⟩) := by
  have e1 : pPrioV (u32be v ++ u8be w) = v := be32_u32be v hv _
  have e2 : pPrioWeight (u32be v ++ u8be w) = w := by simp [pPrioWeight, byteAt, u32be, u8be, Nat.mod_eq_of_lt hw]
  have g1 : pPrioSid h.flags h.streamID h.length (u32be v ++ u8be w) = false := by simp [pPrioSid, hs]
  have g2 : pPrioLen h.flags h.streamID h.length (u32be v ++ u8be w) = false := by simp [pPrioLen, u32be, u8be]
  unfold parsePriority
  rw [g1, g2, e1, e2, pPrioDep_eq, pPrioExcl_eq]
  rfl

theorem parseContinuation_ok (h : FrameHeader) (p : Bytes) (hs : h.streamID ≠ 0) : parseContinuation h p = .ok (.continuation p) := by
  simp [parseContinuation, pContSid, hs]

/-- what a round trip comes to: the writer does not refuse and writes type `t`, flags `fl`, stream `sid` and a payload `p`
below 2^24 octets; the parser accepts `p` under that header; the parsed frame, as arguments of the writer, is `f` -/
theorem roundTrip_of (a : Bool) (f : Frame) (t fl sid : Nat) (p : Bytes) (b : Body)
    (hw : f.write a = finishWrite false t fl sid p) (hs : sid < 2 ^ 31) (hl : p.length < 2 ^ 24)
    (hp : parsePayload ⟨p.length, t, fl, sid⟩ p = .ok b) (ht : toFrame ⟨p.length, t, fl, sid⟩ b = f) :
    roundTrip a f = some (.ok f) := by
  unfold roundTrip
  rw [hw, finishWrite_ok _ _ _ _ hl, Option.map_some, decode]
  simp only [readHdr, mod31_lt sid hs, hp, ht]

theorem validStreamID_of (sid : Nat) (h0 : 0 < sid) (hs : sid < 2 ^ 31) : validStreamID sid = true :=
  (validStreamID_iff sid (by omega)).2 ⟨by omega, hs⟩

theorem rt_ping (a ack : Bool) (d : Bytes) (hd : d.length = 8) : roundTrip a (.ping ack d) = some (.ok (.ping ack d)) := by
  refine roundTrip_of a _ 6 (if ack then 1 else 0) 0 d (.ping d) rfl (by decide) (by omega) ?_ ?_
  · simp only [parsePayload_eq]
    exact parsePing_ok _ _ rfl hd
  · cases ack <;> simp [toFrame, has, flagsHas, flagPingAck]

theorem rt_rst (a : Bool) (sid code : Nat) (h0 : 0 < sid) (hs : sid < 2 ^ 31) (hc : code < 2 ^ 32) :
    roundTrip a (.rst sid code) = some (.ok (.rst sid code)) := by
  refine roundTrip_of a _ 3 0 sid (u32be code) (.rst code) ?_ hs (by decide : 4 < 2 ^ 24) ?_ rfl
  · show finishWrite (wRstRefuse a sid code) _ _ _ _ = _
    rw [wRstRefuse, validStreamID_of sid h0 hs]; rfl
  · simp only [parsePayload_eq]
    exact parseRst_ok _ _ (Nat.ne_of_gt h0) hc

theorem rt_windowUpdate (a : Bool) (sid incr : Nat) (hs : sid < 2 ^ 31) (h0 : 0 < incr) (hi : incr < 2 ^ 31) :
    roundTrip a (.windowUpdate sid incr) = some (.ok (.windowUpdate sid incr)) := by
  refine roundTrip_of a _ 8 0 sid (u32be incr) (.windowUpdate (incr % 2 ^ 31)) ?_ hs (by decide : 4 < 2 ^ 24) ?_ ?_
  · show finishWrite (wWindowUpdateRefuse a sid incr) _ _ _ _ = _
    rw [wWindowUpdateRefuse, decide_eq_false (by omega : ¬ incr < 1), decide_eq_false (by omega : ¬ incr > 2147483647)]; rfl
  · simp only [parsePayload_eq]
    exact parseWindowUpdate_ok _ incr (by omega) (by rw [mod31_lt incr hi]; omega)
  · simp only [toFrame, mod31_lt incr hi]

theorem rt_goAway (a : Bool) (last code : Nat) (dbg : Bytes) (hl : last < 2 ^ 31) (hc : code < 2 ^ 32) (hd : dbg.length + 8 < 2 ^ 24) :
    roundTrip a (.goAway last code dbg) = some (.ok (.goAway last code dbg)) := by
  refine roundTrip_of a _ 7 0 0 (u32be (last &&& 2147483647) ++ u32be code ++ dbg)
    (.goAway ((last &&& 2147483647) % 2 ^ 31) code dbg) rfl (by decide) ?_ ?_ ?_
  · simp only [List.length_append, length_u32be]; omega
  · simp only [parsePayload_eq]
    exact parseGoAway_ok _ _ _ _ rfl (by rw [mask31]; omega) hc
  · simp only [toFrame, mask31, Nat.mod_mod, mod31_lt last hl]

theorem rt_priority (a : Bool) (sid : Nat) (p : Priority) (h0 : 0 < sid) (hs : sid < 2 ^ 31) (hd : p.streamDep < 2 ^ 31) (hw : p.weight < 256) :
    roundTrip a (.priority sid p) = some (.ok (.priority sid p)) := by
  obtain ⟨dep, ex, w⟩ := p
  simp only at hd hw
  have hv32 : dep + (if ex then 2 ^ 31 else 0) < 2 ^ 32 := by cases ex <;> simp <;> omega
  generalize hv : dep + (if ex then 2 ^ 31 else 0) = v at hv32
  refine roundTrip_of a _ 2 0 sid (u32be v ++ u8be w) (.priority ⟨v % 2 ^ 31, decide (v % 2 ^ 31 ≠ v), w⟩) ?_ hs
    (by decide : 5 < 2 ^ 24) ?_ ?_
  · show finishWrite (wPriorityRefuse a sid dep ex w) _ _ _ (wPriorityPayload a sid dep ex w) = _
    rw [wPriorityRefuse, validStreamID_of sid h0 hs, (validStreamIDOrZero_iff _ (by omega)).2 hd, wPriorityPayload,
      or_bit31 dep hd ex, hv]
    rfl
  · simp only [parsePayload_eq]
    exact parsePriority_ok _ _ _ (Nat.ne_of_gt h0) hv32 hw
  · subst hv
    cases ex
    · simp [toFrame, Nat.mod_eq_of_lt hd]
    · have e : (dep + 2 ^ 31) % 2 ^ 31 = dep := by omega
      have : dep ≠ dep + 2 ^ 31 := by omega
      simp [toFrame, e, this]

theorem rt_continuation (a : Bool) (sid : Nat) (eh : Bool) (frag : Bytes) (h0 : 0 < sid) (hs : sid < 2 ^ 31) (hf : frag.length < 2 ^ 24) :
    roundTrip a (.continuation sid eh frag) = some (.ok (.continuation sid eh frag)) := by
  refine roundTrip_of a _ 9 (0 ||| (if eh then 4 else 0)) sid frag (.continuation frag) ?_ hs hf ?_ ?_
  · show finishWrite (wContinuationRefuse a sid eh frag) _ _ _ _ = _
    rw [wContinuationRefuse, validStreamID_of sid h0 hs]; rfl
  · simp only [parsePayload_eq]
    exact parseContinuation_ok _ _ (Nat.ne_of_gt h0)
  · cases eh <;> simp [toFrame, has, flagsHas, flagContinuationEndHeaders]

theorem rt_raw (a : Bool) (t fl sid : Nat) (pl : Bytes) (ht : 10 ≤ t) (hs : sid < 2 ^ 31) (hp : pl.length < 2 ^ 24) :
    roundTrip a (.raw t fl sid pl) = some (.ok (.raw t fl sid pl)) :=
  roundTrip_of a _ t fl sid pl (.unknown pl) rfl hs hp (parsePayload_unknown _ _ ht) rfl

def encSetting (s : Nat × Nat) : Bytes := u16be s.1 ++ u32be s.2

theorem length_encSetting (s : Nat × Nat) : (encSetting s).length = 6 := rfl

theorem length_encSettings (ss : List (Nat × Nat)) : (ss.flatMap encSetting).length = 6 * ss.length := by
  induction ss with
  | nil => rfl
  | cons s r ih => simp only [List.flatMap_cons, List.length_append, length_encSetting, ih, List.length_cons]; omega

/-- `Setting(i)`: two octets at `6i`, four at `6i + 2` -/
theorem settingAt_eq (p : Bytes) (i : Nat) :
    settingAt p i = (be16 ((p.drop (i * 6)).take 2), be32 ((p.drop (i * 6 + 2)).take 4)) := by
  unfold settingAt setIdLo setIdHi setValLo setValHi
  rw [show i * 6 + 2 - i * 6 = 2 by omega, show i * 6 + 6 - (i * 6 + 2) = 4 by omega]

theorem settingAt_zero (s : Nat × Nat) (r : Bytes) (h1 : s.1 < 2 ^ 16) (h2 : s.2 < 2 ^ 32) :
    settingAt (encSetting s ++ r) 0 = s := by
  rw [settingAt_eq, encSetting, List.append_assoc]
  simp only [Nat.zero_mul, Nat.zero_add, List.drop_zero, be16_u16be _ h1,
    show List.drop 2 (u16be s.1 ++ (u32be s.2 ++ r)) = u32be s.2 ++ r from rfl, be32_u32be _ h2]

/-- behind six octets the settings are those of the rest -/
theorem settingAt_succ (x r : Bytes) (i : Nat) (hx : x.length = 6) : settingAt (x ++ r) (i + 1) = settingAt r i := by
  have e (k : Nat) : List.drop (6 + k) (x ++ r) = List.drop k r := by rw [← List.drop_drop, List.drop_left' hx]
  rw [settingAt_eq, settingAt_eq, Nat.add_mul, Nat.one_mul, Nat.add_comm (i * 6) 6, Nat.add_assoc, e, e]

theorem settingsOf_enc (ss : List (Nat × Nat)) (hr : ∀ s ∈ ss, s.1 < 2 ^ 16 ∧ s.2 < 2 ^ 32) :
    settingsOf (ss.flatMap encSetting) = ss := by
  induction ss with
  | nil => rfl
  | cons s r ih =>
    have hs := hr s (List.mem_cons_self ..)
    unfold settingsOf numSettings at ih ⊢
    rw [List.flatMap_cons, List.length_append, length_encSetting, show (6 + (r.flatMap encSetting).length) / 6 =
      (r.flatMap encSetting).length / 6 + 1 by omega, List.range_succ_eq_map, List.map_cons, List.map_map,
      settingAt_zero s _ hs.1 hs.2]
    congr 1
    exact (List.map_congr_left fun i _ => settingAt_succ _ _ i (length_encSetting s)).trans
      (ih fun x hx => hr x (List.mem_cons_of_mem _ hx))

theorem parseSettings_ok (h : FrameHeader) (ss : List (Nat × Nat)) (hs : h.streamID = 0)
    (hfl : flagsHas h.flags 1 = false ∨ h.length = 0)
    (hr : ∀ s ∈ ss, s.1 < 2 ^ 16 ∧ s.2 < 2 ^ 32 ∧ (s.1 = 4 → s.2 < 2 ^ 31)) :
    parseSettings h (ss.flatMap encSetting) = .ok (.settings ss) := by
  have hso := settingsOf_enc ss (fun s hs => ⟨(hr s hs).1, (hr s hs).2.1⟩)
  have g1 : pSettingsAckLen h.flags h.streamID h.length (ss.flatMap encSetting) = false := by
    unfold pSettingsAckLen
    rcases hfl with h1 | h1
    · rw [h1]; rfl
    · rw [h1]; simp
  have g2 : pSettingsSid h.flags h.streamID h.length (ss.flatMap encSetting) = false := by simp [pSettingsSid, hs]
  have g3 : pSettingsMod h.flags h.streamID h.length (ss.flatMap encSetting) = false := by
    unfold pSettingsMod
    rw [length_encSettings, Nat.mul_mod_right]
    rfl
  have g4 : pSettingsWinBad (settingValue (ss.flatMap encSetting) pSettingsWinId).1 (settingValue (ss.flatMap encSetting) pSettingsWinId).2 = false := by
    unfold settingValue
    rw [hso]
    cases hf : ss.find? (fun s => s.1 == pSettingsWinId) with
    | none => simp [pSettingsWinBad]
    | some s =>
      have hm := List.mem_of_find?_eq_some hf
      have hp := List.find?_some hf
      have : s.1 = 4 := by simpa [pSettingsWinId] using hp
      have := (hr s hm).2.2 this
      simp only [pSettingsWinBad, Bool.true_and, decide_eq_false_iff_not]
      omega
  unfold parseSettings
  rw [g1, g2, g3, g4, hso]
  rfl

theorem rt_settings (a : Bool) (ss : List (Nat × Nat)) (hr : ∀ s ∈ ss, s.1 < 2 ^ 16 ∧ s.2 < 2 ^ 32 ∧ (s.1 = 4 → s.2 < 2 ^ 31))
    (hl : 6 * ss.length < 2 ^ 24) : roundTrip a (.settings ss) = some (.ok (.settings ss)) := by
  refine roundTrip_of a _ 4 0 0 (ss.flatMap encSetting) (.settings ss) rfl (by decide) (by rw [length_encSettings]; exact hl) ?_ ?_
  · simp only [parsePayload_eq]
    exact parseSettings_ok _ ss rfl (Or.inl (by decide : flagsHas 0 1 = false)) hr
  · simp [toFrame, has, flagsHas, flagSettingsAck]

theorem rt_settingsAck (a : Bool) : roundTrip a .settingsAck = some (.ok .settingsAck) := by
  refine roundTrip_of a _ 4 1 0 [] (.settings []) rfl (by decide) (by decide) ?_ ?_
  · simp only [parsePayload_eq]
    exact parseSettings_ok _ [] rfl (Or.inr rfl) (by simp)
  · simp [toFrame, has, flagsHas, flagSettingsAck]

theorem pPushPromised_eq (v : Nat) : pPushPromised v = v % 2 ^ 31 := mask31 v

/-- PUSH_PROMISE on the layout `WritePushPromise` produces (pad length octet iff `pl ≠ 0`), for any 32-bit word -/
theorem parsePush_ok (h : FrameHeader) (v pl : Nat) (frag : Bytes) (hs : h.streamID ≠ 0) (hv : v < 2 ^ 32) (hp : pl < 256)
    (hf : flagsHas h.flags 8 = decide (pl ≠ 0)) :
    parsePushPromise h ((if decide (pl ≠ 0) then u8be pl else []) ++ u32be v ++ frag ++ List.replicate pl 0) =
      .ok (.pushPromise (v % 2 ^ 31) frag) := by
  have g1 : ∀ p, pPushSid h.flags h.streamID h.length p = false := fun p => by simp [pPushSid, hs]
  have g3 : readUint32Short (u32be v ++ (frag ++ List.replicate pl 0)) = false := by
    simp only [readUint32Short, List.length_append, length_u32be, decide_eq_false_iff_not]; omega
  have g4 : pPushPadBig pl (frag ++ List.replicate pl 0) = false := by
    simp only [pPushPadBig, List.length_append, List.length_replicate, decide_eq_false_iff_not]; omega
  have g5 : pPushFrag pl (frag ++ List.replicate pl 0) = frag := by
    simp only [pPushFrag, List.length_append, List.length_replicate, Nat.add_sub_cancel, List.take_left']
  unfold parsePushPromise
  rw [g1, List.append_assoc, List.append_assoc]
  -- the optional pad length octet is read off: both layouts go on with `(pl, u32be v ++ frag ++ padding)`
  by_cases hz : pl = 0
  · simp only [pPushPadded, hf, hz, ne_eq, not_true_eq_false, decide_false, Bool.false_eq_true, if_false, List.nil_append]
    simp only [← hz, g3, Bool.false_eq_true, if_false, be32_u32be v hv, drop_u32be, g4, g5, pPushPromised_eq]
  · have gb : byteAt (UInt8.ofNat pl :: (u32be v ++ (frag ++ List.replicate pl 0))) 0 = pl := by
      simp [byteAt, Nat.mod_eq_of_lt hp]
    simp only [pPushPadded, hf, hz, ne_eq, not_false_eq_true, decide_true, if_true, u8be, List.singleton_append, readByteShort,
      List.length_cons, Nat.add_one_ne_zero, decide_false, Bool.false_eq_true, if_false, gb, List.drop_succ_cons, List.drop_zero,
      g3, be32_u32be v hv, drop_u32be, g4, g5, pPushPromised_eq]

theorem rt_pushPromise (a : Bool) (sid pr : Nat) (eh : Bool) (pl : Nat) (frag : Bytes) (h0 : 0 < sid) (hs : sid < 2 ^ 31)
    (hp0 : 0 < pr) (hp : pr < 2 ^ 31) (hpl : pl < 256) (hf : frag.length + 260 < 2 ^ 24) :
    roundTrip a (.pushPromise sid pr eh pl frag) = some (.ok (.pushPromise sid pr eh pl frag)) := by
  have hr : wPushPromiseRefuse a sid pr eh pl frag = false := by
    simp [wPushPromiseRefuse, validStreamID_of sid h0 hs, validStreamID_of pr hp0 hp]
  have hlen : (wPushPromisePayload a sid pr eh pl frag).length = (if pl ≠ 0 then 1 else 0) + 4 + frag.length + pl := by
    by_cases hz : pl = 0 <;> simp [wPushPromisePayload, hz, u8be, length_u32be] <;> omega
  refine roundTrip_of a _ 5 (wPushPromiseFlags a sid pr eh pl frag) sid (wPushPromisePayload a sid pr eh pl frag)
    (.pushPromise (pr % 2 ^ 31) frag) ?_ hs (by rw [hlen]; split <;> omega) ?_ ?_
  · show finishWrite (wPushPromiseRefuse a sid pr eh pl frag) _ _ _ _ = _
    rw [hr]; rfl
  · simp only [parsePayload_eq]
    exact parsePush_ok _ pr pl frag (Nat.ne_of_gt h0) (by omega) hpl
      (by by_cases hz : pl = 0 <;> cases eh <;> simp [wPushPromiseFlags, flagsHas, hz])
  · rw [hlen]
    by_cases hz : pl = 0 <;> cases eh <;>
      simp [toFrame, has, flagsHas, wPushPromiseFlags, mod31_lt pr hp, flagPushPromiseEndHeaders, flagPushPromisePadded, hz] <;> omega

/-! #### DATA, HEADERS (the arithmetic is `Lemmas.H2Frame`; here: the regenerated writer produces that layout) -/

theorem parseData_ok (h : FrameHeader) (d : Bytes) (pad : Option Nat) (hs : h.streamID ≠ 0) (hk : ∀ k, pad = some k → k < 256)
    (hf : MosnVerif.Model.H2Frame.hasFlag h.flags MosnVerif.Gen.H2Frame.flagDataPadded = pad.isSome) :
    parseDataFrame h (MosnVerif.Model.H2Frame.encodeData d pad) = .ok (.data d) := by
  unfold parseDataFrame
  rw [if_neg hs]
  cases pad with
  | none => rw [MosnVerif.Lemmas.H2Frame.data_roundtrip_plain _ d hf]
  | some k => rw [MosnVerif.Lemmas.H2Frame.data_roundtrip_padded _ d k (hk k rfl) hf]

theorem rt_data_plain (a : Bool) (sid : Nat) (es : Bool) (d : Bytes) (h0 : 0 < sid) (hs : sid < 2 ^ 31) (hd : d.length < 2 ^ 24) :
    roundTrip a (.data sid es d none) = some (.ok (.data sid es d none)) := by
  refine roundTrip_of a _ 0 (if es then 1 else 0) sid d (.data d) ?_ hs hd ?_ ?_
  · show finishWrite (wDataRefuse a sid es d true []) _ _ _ _ = _
    rw [show wDataRefuse a sid es d true [] = false by simp [wDataRefuse, validStreamID_of sid h0 hs]]
    cases es <;> simp [wDataType, wDataFlags, wDataSid, wDataPayload]
  · simp only [parsePayload_eq]
    exact parseData_ok _ d none (Nat.ne_of_gt h0) nofun
      (by cases es <;> simp [MosnVerif.Model.H2Frame.hasFlag, MosnVerif.Gen.H2Frame.flagDataPadded])
  · cases es <;> simp [toFrame, has, flagsHas, flagDataEndStream, flagDataPadded]

theorem rt_data_padded (a : Bool) (sid : Nat) (es : Bool) (d : Bytes) (k : Nat) (h0 : 0 < sid) (hs : sid < 2 ^ 31) (hk : k ≤ 255)
    (hd : d.length + 256 < 2 ^ 24) :
    roundTrip a (.data sid es d (some (List.replicate k 0))) = some (.ok (.data sid es d (some (List.replicate k 0)))) := by
  have hr : wDataRefuse a sid es d false (List.replicate k 0) = false := by
    have : ¬ k > 255 := by omega
    simp [wDataRefuse, validStreamID_of sid h0 hs, List.any_replicate, this]
  refine roundTrip_of a _ 0 ((if es then 1 else 0) ||| 8) sid (MosnVerif.Model.H2Frame.encodeData d (some k)) (.data d) ?_ hs
    ?_ ?_ ?_
  · show finishWrite (wDataRefuse a sid es d false (List.replicate k 0)) _ _ _ _ = _
    rw [hr]
    cases es <;>
      simp [wDataType, wDataFlags, wDataSid, wDataPayload, MosnVerif.Model.H2Frame.encodeData, u8be,
        Nat.mod_eq_of_lt (show k < 256 by omega)]
  · simp [MosnVerif.Model.H2Frame.encodeData]; omega
  · simp only [parsePayload_eq]
    exact parseData_ok _ d (some k) (Nat.ne_of_gt h0) (fun _ h => by cases h; omega)
      (by cases es <;> simp [MosnVerif.Model.H2Frame.hasFlag, MosnVerif.Gen.H2Frame.flagDataPadded])
  · cases es <;> simp [toFrame, has, flagsHas, flagDataEndStream, flagDataPadded, MosnVerif.Model.H2Frame.encodeData]

/-- the optional priority of a HEADERS frame: `WriteHeaders` writes it iff it is not the zero value -/
def prioOpt (pr : Priority) : Option Priority := if prioZero pr then none else some pr

theorem prioOpt_getD (pr : Priority) : (prioOpt pr).getD ⟨0, false, 0⟩ = pr := by
  obtain ⟨d, e, w⟩ := pr
  unfold prioOpt prioZero
  by_cases h : (d == 0 && !e && w == 0) = true
  · simp only [h, if_true, Option.getD_none]
    simp only [Bool.and_eq_true, beq_iff_eq, Bool.not_eq_true'] at h
    obtain ⟨⟨h1, h2⟩, h3⟩ := h
    subst h1 h2 h3; rfl
  · simp [h]

theorem u32be_div (v : Nat) : u32be v = [UInt8.ofNat (v / 2 ^ 24), UInt8.ofNat (v / 2 ^ 16), UInt8.ofNat (v / 2 ^ 8), UInt8.ofNat v] := by
  simp only [u32be, Nat.shiftRight_eq_div_pow]
  have m : ∀ x : Nat, UInt8.ofNat (x % 256) = UInt8.ofNat x := by
    intro x; apply UInt8.toNat_inj.1; simp
  rw [m, m, m, m]

theorem wHeadersPayload_eq (a : Bool) (sid : Nat) (es eh : Bool) (pl : Nat) (pr : Priority) (frag : Bytes) (hd : pr.streamDep < 2 ^ 31) :
    wHeadersPayload a sid es eh pl (prioZero pr) pr.streamDep pr.exclusive pr.weight frag =
      MosnVerif.Model.H2Frame.encodeHeaders frag pl (prioOpt pr) := by
  unfold wHeadersPayload MosnVerif.Model.H2Frame.encodeHeaders prioOpt
  cases hpz : prioZero pr with
  | true => simp [u8be]
  | false =>
    have e1 : (pr.streamDep ||| if pr.exclusive = true then 2147483648 else 0) =
        pr.streamDep + (if pr.exclusive then 2 ^ 31 else 0) := or_bit31 pr.streamDep hd pr.exclusive
    simp only [Bool.not_false, Bool.true_and, if_true, Bool.false_eq_true, if_false]
    rw [e1, u32be_div]
    simp [MosnVerif.Model.H2Frame.encodePrio, u8be]

/-- the flag octet `WriteHeaders` composes, read back bit by bit -/
theorem headersFlags_bits : ∀ p es eh q : Bool,
    let f := (((0 ||| (if p then 8 else 0)) ||| (if es then 1 else 0)) ||| (if eh then 4 else 0)) ||| (if q then 32 else 0)
    flagsHas f 1 = es ∧ flagsHas f 4 = eh ∧ flagsHas f 8 = p ∧ flagsHas f 32 = q ∧
    MosnVerif.Model.H2Frame.hasFlag f 8 = p ∧ MosnVerif.Model.H2Frame.hasFlag f 32 = q := by decide

theorem rt_headers (a : Bool) (sid : Nat) (es eh : Bool) (pl : Nat) (pr : Priority) (frag : Bytes) (h0 : 0 < sid) (hs : sid < 2 ^ 31)
    (hpl : pl < 256) (hd : pr.streamDep < 2 ^ 31) (hw : pr.weight < 256) (hf : frag.length + 262 < 2 ^ 24) :
    roundTrip a (.headers sid es eh pl pr frag) = some (.ok (.headers sid es eh pl pr frag)) := by
  have hr : wHeadersRefuse a sid es eh pl (prioZero pr) pr.streamDep pr.exclusive pr.weight frag = false := by
    simp [wHeadersRefuse, validStreamID_of sid h0 hs, (validStreamIDOrZero_iff _ (by omega)).2 hd]
  have hlen : (MosnVerif.Model.H2Frame.encodeHeaders frag pl (prioOpt pr)).length =
      (if pl ≠ 0 then 1 else 0) + (if prioZero pr then 0 else 5) + frag.length + pl := by
    unfold MosnVerif.Model.H2Frame.encodeHeaders prioOpt
    by_cases c1 : pl = 0 <;> by_cases c2 : prioZero pr = true <;> simp [c1, c2, MosnVerif.Model.H2Frame.encodePrio] <;> omega
  generalize hfl : wHeadersFlags a sid es eh pl (prioZero pr) pr.streamDep pr.exclusive pr.weight frag = fl
  obtain ⟨b1, b4, b8, b32, f8, f32⟩ := headersFlags_bits (decide (pl ≠ 0)) es eh (!prioZero pr)
  rw [show (_ ||| _ : Nat) = fl from hfl] at b1 b4 b8 b32 f8 f32
  have hso : (prioOpt pr).isSome = !prioZero pr := by unfold prioOpt; cases prioZero pr <;> rfl
  refine roundTrip_of a _ 1 fl sid (MosnVerif.Model.H2Frame.encodeHeaders frag pl (prioOpt pr)) (.headers (prioOpt pr) frag) ?_ hs
    (by rw [hlen]; split <;> split <;> omega) ?_ ?_
  · show finishWrite (wHeadersRefuse a sid es eh pl (prioZero pr) pr.streamDep pr.exclusive pr.weight frag) _ _ _ _ = _
    rw [hr, wHeadersPayload_eq a sid es eh pl pr frag hd, hfl]
    rfl
  · simp only [parsePayload_eq]
    unfold parseHeadersFrame
    rw [if_neg (Nat.ne_of_gt h0), MosnVerif.Lemmas.H2Frame.headers_roundtrip' fl frag pl (prioOpt pr) hpl
      (by intro p hp; unfold prioOpt at hp; split at hp
          · cases hp
          · cases hp; exact ⟨hd, hw⟩)
      f8 (by rw [hso]; exact f32)]
  · simp only [toFrame, prioOpt_getD, has, flagHeadersEndStream, flagHeadersEndHeaders, flagHeadersPadded,
      flagHeadersPriority, b1, b4, b8, b32, hlen]
    congr 1
    by_cases c1 : pl = 0 <;> cases c2 : prioZero pr <;> simp [c1] <;> omega

/-! ### a writer that refuses more writes the same frame whenever it writes (MOSN's own writers against `Framer.Write*`) -/

theorem finishWrite_mono (r r' : Bool) (t fl sid : Nat) (p : Bytes) (w : FrameHeader × Bytes) (hr : r' = true → r = true)
    (h : finishWrite r t fl sid p = some w) : finishWrite r' t fl sid p = some w := by
  cases r with
  | true => cases h
  | false =>
    cases r' with
    | true => cases hr rfl
    | false => exact h

theorem wu_reserved (h : FrameHeader) (v : Nat) (hv : v < 2 ^ 32) :
    parseWindowUpdate h (u32be v) = parseWindowUpdate h (u32be (v % 2 ^ 31)) := by
  have hlen (x : Nat) : pWuLen h.flags h.streamID h.length (u32be x) = false := rfl
  unfold parseWindowUpdate
  rw [pWuInc_u32be v hv, pWuInc_u32be _ (by omega), Nat.mod_mod, hlen, hlen]

theorem goAway_reserved (h : FrameHeader) (l c : Nat) (dbg : Bytes) (hl : l < 2 ^ 32) (hc : c < 2 ^ 32) :
    parseGoAway h (u32be l ++ u32be c ++ dbg) = parseGoAway h (u32be (l % 2 ^ 31) ++ u32be c ++ dbg) := by
  by_cases hs : h.streamID = 0
  · rw [parseGoAway_ok h l c dbg hs hl hc, parseGoAway_ok h _ c dbg hs (by omega) hc, Nat.mod_mod]
  · have g : ∀ p, pGoAwaySid h.flags h.streamID h.length p = true := by intro p; simp [pGoAwaySid, hs]
    unfold parseGoAway
    simp only [g, if_true]

theorem push_reserved (h : FrameHeader) (v : Nat) (frag : Bytes) (hv : v < 2 ^ 32) (hf : flagsHas h.flags 8 = false) :
    parsePushPromise h (u32be v ++ frag) = parsePushPromise h (u32be (v % 2 ^ 31) ++ frag) := by
  by_cases hs : h.streamID = 0
  · have g : ∀ p, pPushSid h.flags h.streamID h.length p = true := by intro p; simp [pPushSid, hs]
    unfold parsePushPromise
    simp only [g, if_true]
  · have plain (x : Nat) (hx : x < 2 ^ 32) : parsePushPromise h (u32be x ++ frag) = .ok (.pushPromise (x % 2 ^ 31) frag) := by
      simpa using parsePush_ok h x 0 frag hs hx (by decide) hf
    rw [plain v hv, plain _ (by omega), Nat.mod_mod]

theorem hdr_reserved (h : FrameHeader) : readHdr { h with streamID := h.streamID % 2 ^ 31 + 2 ^ 31 } = readHdr h := by
  have e : (h.streamID % 2 ^ 31 + 2 ^ 31) % 2 ^ 31 = h.streamID % 2 ^ 31 := by omega
  unfold readHdr
  simp only [e]

/-! ### every payload: one of ok / connection error / stream error, as RFC 7540 §6 prescribes -/

/-- the parser's answer agrees with the table: accepted iff no rule is violated; an error is one the table lists -/
def Agrees (r : Except PErr Body) (v : List Class) : Prop :=
  match r with
  | .ok _ => v = []
  | .error e => classOf (.error e) ∈ v

/-! A parser is a cascade of guards, each answering with its error; the table lists the rules violated, in the order of the
guards: one after the other (`seq`, the lists appended) or the next only when the first holds (`ite`). -/

theorem Agrees.ok (b : Body) : Agrees (.ok b) [] := rfl

theorem Agrees.err (e : PErr) : Agrees (.error e) [classOf (.error e)] := List.mem_singleton_self _

section
variable {P : Prop} [Decidable P] {r r1 r2 : Except PErr Body} {v v1 v2 : List Class}

theorem Agrees.ite (h1 : Agrees r1 v1) (h2 : Agrees r2 v2) : Agrees (if decide P then r1 else r2) (if P then v1 else v2) := by
  by_cases h : P
  · rw [decide_eq_true h, if_pos rfl, if_pos h]; exact h1
  · rw [decide_eq_false h, if_neg Bool.false_ne_true, if_neg h]; exact h2

theorem Agrees.seq (e : PErr) (h : Agrees r v) :
    Agrees (if decide P then .error e else r) ((if P then [classOf (.error e)] else []) ++ v) := by
  by_cases hp : P
  · rw [decide_eq_true hp, if_pos rfl, if_pos hp]; exact List.mem_append_left _ (List.mem_singleton_self _)
  · rw [decide_eq_false hp, if_neg Bool.false_ne_true, if_neg hp]; exact h

end

theorem flagsHas_flagSet : ∀ f, f < 256 → (flagsHas f 1 = flagSet f 1 ∧ flagsHas f 8 = flagSet f 8 ∧ flagsHas f 32 = flagSet f 32) := by
  decide +kernel

theorem byteAt_take (p : Bytes) (n i : Nat) (h : i < n) : byteAt (p.take n) i = byteAt p i := by
  unfold byteAt
  rw [List.getD_eq_getElem?_getD, List.getD_eq_getElem?_getD, List.getElem?_take_of_lt h]

theorem byteAt_drop (p : Bytes) (n i : Nat) : byteAt (p.drop n) i = byteAt p (n + i) := by
  unfold byteAt
  rw [List.getD_eq_getElem?_getD, List.getD_eq_getElem?_getD, List.getElem?_drop]

theorem be32_take (p : Bytes) (k : Nat) : be32 (List.take 4 (List.drop k p)) = u32At p k := by
  unfold be32 u32At
  rw [byteAt_take _ _ _ (by decide), byteAt_take _ _ _ (by decide), byteAt_take _ _ _ (by decide), byteAt_take _ _ _ (by decide),
    byteAt_drop, byteAt_drop, byteAt_drop, byteAt_drop]
  simp [byteAt]

theorem total_ping (h : FrameHeader) (p : Bytes) : Agrees (parsePing h p) (rfcViolations 6 h.flags h.streamID p) :=
  .seq _ (.ite (.err _) (.ok _))

theorem total_rst (h : FrameHeader) (p : Bytes) : Agrees (parseRst h p) (rfcViolations 3 h.flags h.streamID p) :=
  .seq _ (.ite (.err _) (.ok _))

theorem total_priority (h : FrameHeader) (p : Bytes) : Agrees (parsePriority h p) (rfcViolations 2 h.flags h.streamID p) :=
  .seq _ (.ite (.err _) (.ok _))

theorem total_goAway (h : FrameHeader) (p : Bytes) : Agrees (parseGoAway h p) (rfcViolations 7 h.flags h.streamID p) :=
  .seq _ (.ite (.err _) (.ok _))

theorem total_continuation (h : FrameHeader) (p : Bytes) : Agrees (parseContinuation h p) (rfcViolations 9 h.flags h.streamID p) :=
  .ite (.err _) (.ok _)

theorem pWuInc_eq (p : Bytes) : pWuInc p = u32At p 0 % 2 ^ 31 := by
  rw [pWuInc, mask31, ← be32_take p 0]; rfl

theorem total_windowUpdate (h : FrameHeader) (p : Bytes) : Agrees (parseWindowUpdate h p) (rfcViolations 8 h.flags h.streamID p) := by
  unfold parseWindowUpdate
  rw [pWuInc_eq]
  -- the row of the table is given by rewriting: the kernel does not get through `u32At p 0 % 2 ^ 31 = 0` by unfolding
  simp only [rfcViolations, Nat.reduceEqDiff, if_false, if_true]
  exact .ite (.err _) (.ite (.ite (.err _) (.err _)) (.ok _))

theorem be16_take (p : Bytes) (k : Nat) : be16 (List.take 2 (List.drop k p)) = (p.getD k 0).toNat * 256 + (p.getD (k + 1) 0).toNat := by
  unfold be16
  rw [byteAt_take _ _ _ (by decide), byteAt_take _ _ _ (by decide), byteAt_drop, byteAt_drop]
  simp [byteAt]

theorem settingsOf_rfc (p : Bytes) : settingsOf p = rfcSettings p := by
  unfold settingsOf rfcSettings numSettings
  apply List.map_congr_left
  intro i _
  rw [settingAt_eq, be16_take, be32_take, Nat.mul_comm i 6]
theorem total_settings (h : FrameHeader) (p : Bytes) (hl : h.length = p.length) (hf : h.flags < 256) :
    Agrees (parseSettings h p) (rfcViolations 4 h.flags h.streamID p) := by
  -- the table's first rule is the parser's first test
  have e : pSettingsAckLen h.flags h.streamID h.length p = decide (flagSet h.flags 1 = true ∧ p.length ≠ 0) := by
    simp [pSettingsAckLen, (flagsHas_flagSet h.flags hf).1, hl, Nat.pos_iff_ne_zero]
  unfold parseSettings settingValue
  simp only [rfcViolations, Nat.reduceEqDiff, if_false, if_true, List.append_assoc, e, settingsOf_rfc, pSettingsWinId]
  refine .seq _ (.seq _ (.seq _ ?_))
  cases (rfcSettings p).find? (fun s => s.1 == 4) with
  | none => exact .ok _
  | some s => exact .ite (.err _) (.ok _)

theorem total_pushPromise (h : FrameHeader) (p : Bytes) (hf : h.flags < 256) :
    Agrees (parsePushPromise h p) (rfcViolations 5 h.flags h.streamID p) := by
  unfold parsePushPromise pPushPadded
  rw [(flagsHas_flagSet h.flags hf).2.1]
  simp only [rfcViolations, Nat.reduceEqDiff, if_false, if_true]
  refine .seq _ ?_
  cases flagSet h.flags 8
  · refine .ite (.err _) ?_
    simp [pPushPadBig, Agrees]
  · -- padded: the pad length octet `x` is read off, parser and table go on with the rest `r`
    cases p with
    | nil => exact .err _
    | cons x r =>
      have e1 : ((x :: r).length < 1 + 4) = (r.length < 4) := by simp; omega
      have e2 : (x :: r).length - (1 + 4) = r.length - 4 := by simp
      simp only [if_true, e1, e2, true_and, pPushPadBig, List.drop_succ_cons, List.drop_zero, List.length_drop]
      exact .ite (.err _) (.ite (.err _) (.ok _))

theorem total_unknown (h : FrameHeader) (p : Bytes) (ht : 10 ≤ h.type) : Agrees (parsePayload h p) (rfcViolations h.type h.flags h.streamID p) := by
  rw [parsePayload_unknown h p ht]
  have : ∀ k : Nat, k < 10 → ¬ h.type = k := fun k hk => by omega
  simp [Agrees, rfcViolations, this]

end MosnVerif.Lemmas.H2Payload
