import MosnVerif.Model.TlsUpdate
/-! A listener stays `coherent` — its live manager is the one built from its stored configuration — under every sequence of
Add / Update calls under one name, and the stored configuration is that of the last accepted call.  Core Lean only. -/
namespace MosnVerif.Model.TlsUpdate
open MosnVerif.Gen.TlsPolicy MosnVerif.Gen.TlsUpdate MosnVerif.Model.TlsSelect

/-- a listener whose live manager is the one `NewTLSServerContextManager` builds from its stored configuration -/
def coherent (lc : LCfg) : LState := ⟨lc, newManager lc⟩

theorem addListener_coherent (lc : LCfg) : addListener lc = coherent lc := by
  cases lc; rfl

/-- the regenerated update branch, applied to a coherent listener of the same name, yields the coherent listener of
the update: the manager is built from the UPDATE's inspector flag and contexts, the stored configuration receives the
same values, and the manager is installed. This is the lemma that breaks when a source expression of the update branch
reads the configuration being replaced. -/
theorem updateListener_coherent (old lc : LCfg) (h : old.name = lc.name) :
    updateListener (coherent old) lc = coherent lc := by
  cases old; cases lc
  simp only [coherent, updateListener, updStored, updMgrCfg, updInstalls, newManager, mngInspector] at h ⊢
  simp_all

theorem apply_coherent (n : String) (cur : Option LCfg) (hc : ∀ lc, cur = some lc → lc.name = n) (op : Op)
    (ho : op.lc.name = n) :
    apply (cur.map coherent) op = (if op.buildOk then some op.lc else cur).map coherent := by
  cases cur with
  | none => cases hb : op.buildOk <;> simp [apply, hb, addListener_coherent]
  | some old =>
    cases hb : op.buildOk
    · simp [apply, hb]
    · simp only [Option.map, apply, hb, if_true]
      rw [updateListener_coherent old op.lc (by rw [hc old rfl, ho])]

theorem foldl_apply_coherent (n : String) (ops : List Op) (hn : ∀ op ∈ ops, op.lc.name = n) (cur : Option LCfg)
    (hc : ∀ lc, cur = some lc → lc.name = n) : ops.foldl apply (cur.map coherent) = (specLast cur ops).map coherent := by
  fun_induction specLast cur ops with
  | case1 => rfl
  | case2 cur op r ih =>
    obtain ⟨ho, hr⟩ := List.forall_mem_cons.1 hn
    rw [List.foldl_cons, apply_coherent n cur hc op ho]
    refine ih hr fun lc hlc => ?_
    split at hlc
    · cases hlc
      exact ho
    · exact hc lc hlc

theorem lastAccepted_cons (op : Op) (r : List Op) :
    lastAccepted (op :: r) = (lastAccepted r).or (if op.buildOk then some op.lc else none) := by
  unfold lastAccepted
  rw [List.filter_cons]
  cases op.buildOk
  · simp
  · cases h : (r.filter (·.buildOk)).getLast? <;> simp [List.getLast?_cons, h]

/-- `specLast` is "the last accepted call, else what was there" -/
theorem specLast_eq (ops : List Op) : ∀ cur, specLast cur ops = ((lastAccepted ops).or cur) := by
  induction ops with
  | nil => intro cur; rfl
  | cons op r ih =>
    intro cur
    rw [specLast, ih, lastAccepted_cons, Option.or_assoc]
    cases op.buildOk <;> rfl

end MosnVerif.Model.TlsUpdate
