import MosnVerif.Model.TlsSelect
/-! The walk of `GetConfigForClient` in closed form (`walk_eq`), `MatchedServerName` / `MatchedALPN` as membership statements
(`matchedServerName_iff`, `matchedALPN_iff`), the shared match set against the statement's separate name and protocol rules, and
the client's and the listener's decision tables.  Core Lean only. -/
namespace MosnVerif.Model.TlsSelect
open MosnVerif.Gen.TlsPolicy

def ofOpt : Option Nat → Outcome
  | some i => .config (some i)
  | none => .errNoCert

theorem orElse'_eq_or (a b : Option Nat) : orElse' a b = a.or b := by cases a <;> rfl

theorem walkStep_eq (d a : Option Nat) (i : Nat) (r s al : Bool) :
    walkStep d a i r s al =
      if r = false then Step.next d a
      else if s = true then Step.ret (Outcome.config (some i))
      else Step.next (d.or (some i)) (a.or (if al then some i else none)) := by
  cases r
  · rfl
  cases s
  · cases d <;> cases a <;> cases al <;> rfl
  · rfl

theorem walkFinish_eq (d a : Option Nat) : walkFinish d a = ofOpt (a.or d) := by
  cases d <;> cases a <;> rfl

/-- the walk from position `i` on, with the default and the first ALPN match found so far: the three searches go on from
`i` (`List.findIdx?.go` is `findIdx?` counting from `i`) -/
theorem walk_eq (sni : Name) (protos : List Name) (ps : List Ctx) :
    ∀ (i : Nat) (d a : Option Nat),
    walk sni protos ps i d a =
      ofOpt ((List.findIdx?.go (fun c => c.ready && c.sniMatch sni) ps i).or
        ((a.or (List.findIdx?.go (fun c => c.ready && c.alpnMatch protos) ps i)).or
          (d.or (List.findIdx?.go (fun c => c.ready) ps i)))) := by
  induction ps with
  | nil =>
    intro i d a
    simp [walk, walkFinish_eq, List.findIdx?.go]
  | cons p r ih =>
    intro i d a
    simp only [walk, walkStep_eq, List.findIdx?.go]
    rcases Bool.eq_false_or_eq_true p.ready with hr | hr
    · rcases Bool.eq_false_or_eq_true (p.sniMatch sni) with hs | hs
      · simp [hr, hs, ofOpt]
      · rcases Bool.eq_false_or_eq_true (p.alpnMatch protos) with ha | ha <;>
          simp only [hr, hs, ha, Bool.and_true, Bool.and_false, Bool.true_eq_false, Bool.false_eq_true, ↓reduceIte,
            ih (i + 1), Option.or_assoc, Option.some_or, Option.or_none]
    · simp only [hr, Bool.false_and, Bool.false_eq_true, ↓reduceIte]
      exact ih (i + 1) d a

theorem findIdx?_congr {α} (l : List α) (p q : α → Bool) (h : ∀ x ∈ l, p x = q x) :
    l.findIdx? p = l.findIdx? q := by
  induction l with
  | nil => rfl
  | cons x r ih =>
    simp only [List.findIdx?_cons]
    rw [h x (by simp), ih (fun y hy => h y (by simp [hy]))]

theorem splitOn_ne_nil (sep : Char) (n : Name) : splitOn sep n ≠ [] := by
  cases n with
  | nil => simp [splitOn]
  | cons c r =>
    simp only [splitOn]
    split
    · simp
    · split <;> simp

/-- the wildcard candidates read directly off the name: one per dot, `*.` followed by what comes after that dot -/
def dotSuffixes : Name → List Name
  | [] => []
  | c :: r => if c == '.' then ('*' :: '.' :: r) :: dotSuffixes r else dotSuffixes r

theorem candidates_head_irrel (a b : Name) (t : List Name) : candidates (a :: t) = candidates (b :: t) := by
  cases t <;> simp [candidates]

/-- one more character in front: it opens a new piece if it is the separator, else it joins the first piece -/
theorem splitOn_cons (sep c : Char) (r : Name) :
    ∃ h t, splitOn sep r = h :: t ∧ splitOn sep (c :: r) = if c == sep then [] :: h :: t else (c :: h) :: t := by
  cases hsp : splitOn sep r with
  | nil => exact absurd hsp (splitOn_ne_nil _ _)
  | cons h t => exact ⟨h, t, rfl, by rw [splitOn, hsp]⟩

theorem joinDot_splitOn (n : Name) : joinDot (splitOn '.' n) = n := by
  induction n with
  | nil => rfl
  | cons c r ih =>
    obtain ⟨h, t, hr, hc⟩ := splitOn_cons '.' c r
    rw [hr] at ih
    rw [hc]
    by_cases hd : c = '.'
    · simp [hd, joinDot, ih]
    · cases t <;> simp [hd, joinDot] at ih ⊢ <;> exact ih

theorem candidates_splitOn (n : Name) : candidates (splitOn '.' n) = dotSuffixes n := by
  induction n with
  | nil => rfl
  | cons c r ih =>
    obtain ⟨h, t, hr, hc⟩ := splitOn_cons '.' c r
    have hj := joinDot_splitOn r
    rw [hr] at ih hj
    rw [hc, dotSuffixes]
    by_cases hd : c = '.'
    · simp [hd, candidates, joinDot, ih, hj]
    · simp only [hd, beq_iff_eq, if_false]
      rw [candidates_head_irrel (c :: h) h t, ih]

theorem mem_dotSuffixes (n x : Name) :
    x ∈ dotSuffixes n ↔ ∃ pre suf, n = pre ++ '.' :: suf ∧ x = '*' :: '.' :: suf := by
  induction n with
  | nil => simp [dotSuffixes]
  | cons c r ih =>
    have hd : x ∈ dotSuffixes (c :: r) ↔ (c = '.' ∧ x = '*' :: '.' :: r) ∨ x ∈ dotSuffixes r := by
      by_cases hc : c = '.' <;> simp [dotSuffixes, hc]
    rw [hd, ih]
    -- the dot is the head of the name (`pre` empty) or lies in its tail
    constructor
    · rintro (⟨rfl, hx⟩ | ⟨pre, suf, rfl, hx⟩)
      · exact ⟨[], r, rfl, hx⟩
      · exact ⟨c :: pre, suf, rfl, hx⟩
    · rintro ⟨pre, suf, h1, hx⟩
      cases pre with
      | nil => cases h1; exact Or.inl ⟨rfl, hx⟩
      | cons p pre' => cases h1; exact Or.inr ⟨pre', suf, rfl, hx⟩

theorem matchedServerName_iff (m : List Name) (sn : Name) :
    matchedServerName m sn = true ↔
      normSni sn ∈ m ∨ ∃ pre suf, normSni sn = pre ++ '.' :: suf ∧ ('*' :: '.' :: suf) ∈ m := by
  unfold matchedServerName
  rw [candidates_splitOn]
  simp only [Bool.or_eq_true, List.contains_iff_mem, List.any_eq_true, mem_dotSuffixes]
  exact or_congr_right ⟨fun ⟨_, ⟨pre, suf, h1, hx⟩, hm⟩ => ⟨pre, suf, h1, hx ▸ hm⟩,
    fun ⟨pre, suf, h1, hm⟩ => ⟨_, ⟨pre, suf, h1, rfl⟩, hm⟩⟩

theorem matchedALPN_iff (m : List Name) (protos : List Name) :
    matchedALPN m protos = true ↔ ∃ q ∈ protos, lower q ∈ m := by
  simp [matchedALPN]

theorem lower_eq_nil (x : Name) : lower x = [] ↔ x = [] := by
  cases x <;> simp [lower]

theorem mem_opt_name (n y : Name) :
    y ∈ (if n.length > 0 then [lower n] else []) ↔ ∃ x ∈ (if n ≠ [] then [n] else []), x ≠ [] ∧ lower x = y := by
  cases n with
  | nil => simp
  | cons a r => simp; exact eq_comm

theorem mem_buildMatch (c : Ctx) (y : Name) :
    y ∈ buildMatch c ↔ (∃ x ∈ c.names, x ≠ [] ∧ lower x = y) ∨ y ∈ c.alpn.map lower := by
  have hl : ∀ x : Name, decide (x.length > 0) = true ↔ x ≠ [] := by intro x; cases x <;> simp
  unfold buildMatch Ctx.names
  simp only [List.mem_append, mem_opt_name, List.mem_map, List.mem_filter, hl, or_and_right, exists_or, and_assoc]
  -- the same four parts on both sides; the key set has the ALPN tokens third, the statement has them last
  exact or_right_comm

theorem supported_facts : ∀ t ∈ alpnSupported.map String.toList, t ≠ [] ∧ t.head? ≠ some '*' := by decide +kernel

theorem alpn_lower_supported (c : Ctx) : ∀ t ∈ c.alpn, lower t ∈ alpnSupported.map String.toList := by
  intro t ht
  unfold Ctx.alpn parseALPN at ht
  split at ht
  · simp at ht
  · simp only [List.mem_filter, List.contains_iff_mem] at ht
    exact ht.2

theorem isWildOf_iff (pat n : Name) :
    isWildOf pat n = true ↔ ∃ pre suf, n = pre ++ '.' :: suf ∧ pat = '*' :: '.' :: suf := by
  unfold isWildOf
  split
  · rename_i suf
    simp only [List.isSuffixOf_iff_suffix, List.cons.injEq, true_and]
    constructor
    · rintro ⟨t, ht⟩; exact ⟨t, suf, ht.symm, rfl⟩
    · rintro ⟨pre, suf', h1, h2⟩; subst h2; exact ⟨pre, h1.symm⟩
  · rename_i hne
    simp only [Bool.false_eq_true, false_iff]
    rintro ⟨pre, suf, _, h2⟩
    exact hne suf h2

theorem nameRule_iff (c : Ctx) (sni : Name) :
    nameRule c sni = true ↔
      normSni sni ≠ [] ∧ ∃ x ∈ c.names, lower x = normSni sni ∨
        ∃ pre suf, normSni sni = pre ++ '.' :: suf ∧ lower x = '*' :: '.' :: suf := by
  unfold nameRule
  simp only [Bool.and_eq_true, List.any_eq_true, Bool.or_eq_true, beq_iff_eq, isWildOf_iff,
    ne_eq, decide_eq_true_eq]

/-- for a context whose ALPN tokens cannot be confused with the SNI, `MatchedServerName` over the shared set is the
statement's name rule -/
theorem sniMatch_eq_nameRule (c : Ctx) (sni : Name)
    (h1 : normSni sni ∉ c.alpn.map lower) : c.sniMatch sni = nameRule c sni := by
  rw [Bool.eq_iff_iff]
  unfold Ctx.sniMatch
  rw [matchedServerName_iff, nameRule_iff]
  constructor
  · rintro (h | ⟨pre, suf, e, h⟩)
    · rcases (mem_buildMatch c _).mp h with ⟨x, hx, hne, e⟩ | h
      · refine ⟨?_, x, hx, Or.inl e⟩
        rw [← e]; intro h0; exact hne ((lower_eq_nil x).mp h0)
      · exact absurd h h1
    · rcases (mem_buildMatch c _).mp h with ⟨x, hx, _, e'⟩ | h
      · refine ⟨?_, x, hx, Or.inr ⟨pre, suf, e, e'⟩⟩
        rw [e]; simp
      · obtain ⟨t, ht, e'⟩ := List.mem_map.mp h
        have := (supported_facts _ (alpn_lower_supported c t ht)).2
        rw [e'] at this
        simp at this
  · rintro ⟨hn, x, hx, h | ⟨pre, suf, e, h⟩⟩
    · refine Or.inl ((mem_buildMatch c _).mpr (Or.inl ⟨x, hx, ?_, h⟩))
      intro h0; subst h0; exact hn (by rw [← h]; rfl)
    · refine Or.inr ⟨pre, suf, e, (mem_buildMatch c _).mpr (Or.inl ⟨x, hx, ?_, h⟩)⟩
      intro h0; subst h0; simp [lower] at h

theorem alpnMatch_eq_alpnRule (c : Ctx) (protos : List Name)
    (h2 : ∀ q ∈ protos, lower q ∉ c.names.map lower) : c.alpnMatch protos = alpnRule c protos := by
  rw [Bool.eq_iff_iff]
  unfold Ctx.alpnMatch alpnRule
  rw [matchedALPN_iff]
  simp only [List.any_eq_true, List.contains_iff_mem]
  constructor
  · rintro ⟨q, hq, h⟩
    rcases (mem_buildMatch c _).mp h with ⟨x, hx, _, e⟩ | h
    · exact absurd (List.mem_map.mpr ⟨x, hx, e⟩) (h2 q hq)
    · exact ⟨q, hq, h⟩
  · rintro ⟨q, hq, h⟩
    exact ⟨q, hq, (mem_buildMatch c _).mpr (Or.inr h)⟩

/-- the two recorded exceptions to "plaintext only when inspector mode allows it", as one hypothesis: the connection is a
TCP connection (`tcp`; a unix-socket listener is not) and some context of the listener is ready (`en`; with every sds
secret pending none is). Outside it `serverContextManager.Conn` passes the connection through. -/
def ReadyTcp (tcp en : Bool) : Prop := tcp = true ∧ en = true

instance (tcp en : Bool) : Decidable (ReadyTcp tcp en) := by unfold ReadyTcp; infer_instance

/-- the regenerated `SetClientConfig`: InsecureSkipVerify is set by a hook or by insecure_skip; the hook survives unless
insecure_skip is set -/
theorem clientVerify_eq (hook ins : Bool) : clientVerify hook ins = (hook || ins, hook && !ins) := by
  cases hook <;> cases ins <;> rfl

theorem clientAccepts_eq_spec (hook ins sn : Bool) (s : ServerCert) (hok : Bool) :
    clientAccepts hook ins sn s hok = specClientAccepts hook ins sn s hok := by
  simp only [clientAccepts, clientVerify_eq, specClientAccepts]
  cases hook <;> cases ins <;> simp

/-- when `serverContextManager.Conn` leaves the connection in plaintext: outside `ReadyTcp` always (the pass-through),
inside it iff inspector mode is on and the first byte could be read and is not 0x16 -/
theorem servesPlain_connDecision (tcp en ins pf : Bool) (b : Nat) :
    servesPlain (connDecision tcp en ins pf b) = true ↔
      tcp = false ∨ en = false ∨ (ins = true ∧ pf = false ∧ b ≠ 0x16) := by
  unfold connDecision
  cases tcp
  · simp [servesPlain]
  cases en
  · simp [servesPlain]
  cases ins
  · simp [servesPlain]
  cases pf
  · by_cases h : b = 0x16 <;> simp [servesPlain, h]
  · simp [servesPlain]

theorem connDecision_peekError (tcp en ins pf : Bool) (b : Nat) :
    connDecision tcp en ins pf b = .peekError ↔ tcp = true ∧ en = true ∧ ins = true ∧ pf = true := by
  unfold connDecision
  cases tcp
  · simp
  cases en
  · simp
  cases ins
  · simp
  cases pf
  · by_cases h : b = 0x16 <;> simp [h]
  · simp

end MosnVerif.Model.TlsSelect
