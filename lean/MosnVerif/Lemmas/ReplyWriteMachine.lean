import MosnVerif.Model.DownstreamSpec
import MosnVerif.Lemmas.ReplyWrite
/-!
The downstream machine's infallible reply steps (`Model/Downstream.lean`: `dsAppendHeaders`, `dsAppendData`,
`dsAppendTrailers`) ARE the all-writes-succeed, nobody-interferes runs of the regenerated append programs of
`Model/ReplyWrite.lean`: on the write path's view of a machine state (its flags, one `clean` per access-log event) both
produce the same `upstreamProcessDone`, `downstreamCleaned`, `downstreamReset`, the same number of clean-up bodies, the same
gauge movement.  So `Model/ReplyWrite.lean` extends the machine's steps to failing writes and interleaved resets; it does not
replace them.  (Self-contained: unfolds the machine's definitions, uses none of its lemma files.)
-/
namespace MosnVerif.Model.ReplyWrite
open MosnVerif.Model.Downstream (S Cfg nLog isLog)

/-- the write path's view of a machine state -/
def viewS (s : S) : RW := viewOf s.procDone s.cleaned s.downReset s.downLive (nLog s.trace)

def okOuts : Outs := ⟨true, true, true⟩

/-- run the regenerated body of the append function of part `p` with endStream argument `eos`, every write succeeding -/
def okPart (p : Part) (eos : Bool) (v : RW) : RW :=
  exec okOuts { v with part := p, eos := eos } ((genProgs.prog p).map (fun ga => Op.stmt ga.1 ga.2))

/-- the fields both models have -/
def common (v : RW) : Bool × Bool × Bool × Nat × Int := (v.procDone, v.cleaned, v.downReset, cleans v, v.active)
def commonS (s : S) : Bool × Bool × Bool × Nat × Int := (s.procDone, s.cleaned, s.downReset, nLog s.trace, 1 - (nLog s.trace : Int))

theorem nLog_snoc (t : List Downstream.Ev) (e : Downstream.Ev) : nLog (t ++ [e]) = nLog t + (if isLog e then 1 else 0) := by
  simp only [nLog, List.filter_append, List.length_append]
  cases h : isLog e <;> simp [List.filter, h]

theorem machine_clean_common (c : Cfg) (s : S) (hd : s.procDone = true) (hc : s.cleaned = false) (h0 : nLog s.trace = 0) :
    commonS (Downstream.cleanStream c s) = (true, true, s.downReset, 1, 0) := by
  simp only [Downstream.cleanStream, hc, Bool.false_eq_true, if_false, Downstream.cleanBody, hd, Bool.not_true, Bool.and_false,
    Bool.false_and, Bool.or_false, commonS, Downstream.cleanUp, Downstream.rsReset, nLog_snoc, isLog, if_true, h0]
  simp

theorem cleans_replicate (n : Nat) : (List.filter isClean (List.replicate n Ev.clean)).length = n := by
  rw [List.filter_replicate]
  exact List.length_replicate

/-- **the machine's `dsAppendHeaders` / `dsAppendData` / `dsAppendTrailers` are the successful runs of the regenerated
`appendHeaders` / `appendData` / `appendTrailers`**: each of the three stores `upstreamProcessDone`, hands its part `e` to the
sender and ends the stream with the part that is the last (`appendTrailers` takes no argument: always) -/
theorem ok_part_is_machine_step (c : Cfg) (s : S) (p : Part) (eos : Bool) (e : Downstream.Ev) (he : isLog e = false)
    (hp : p = .trailers → eos = true) (hc : s.cleaned = false) (h0 : nLog s.trace = 0) :
    common (okPart p eos (viewS s)) =
      commonS (if eos then Downstream.endStream c { Downstream.emit { s with procDone := eos } e with downLive := false }
        else Downstream.emit { s with procDone := eos } e) := by
  cases eos
  · simp only [Bool.false_eq_true, if_false, Downstream.emit, commonS, nLog_snoc, he, h0]
    cases p
    · simp [okPart, genProgs, Progs.prog, Gen.ProxyReplyWrite.appendHeaders, exec, step, evalC, act, okOuts, Outs.of, common, viewS,
        viewOf, cleans, h0, isClean]
    · simp [okPart, genProgs, Progs.prog, Gen.ProxyReplyWrite.appendData, exec, step, evalC, act, okOuts, Outs.of, common, viewS,
        viewOf, cleans, h0, isClean]
    · cases hp rfl
  · have := machine_clean_common c ({ ({ s with procDone := true } : S) with trace := s.trace ++ [e], downLive := false })
      rfl hc (by simp [nLog_snoc, he, h0])
    simp only [Downstream.emit, Downstream.endStream, if_true]
    rw [this]
    cases p <;>
      simp [okPart, genProgs, Progs.prog, Gen.ProxyReplyWrite.appendHeaders, Gen.ProxyReplyWrite.appendData,
        Gen.ProxyReplyWrite.appendTrailers, exec, step, evalC, act, okOuts, Outs.of, common, viewS, viewOf, cleans, h0, isClean,
        gen_clean_facts, cleanStream, cleanBody, hc, hasStep] <;>
      exact ⟨rfl, by decide⟩

end MosnVerif.Model.ReplyWrite
