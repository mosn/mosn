import MosnVerif.Model.H1Continue
import MosnVerif.Lemmas.Framing
import MosnVerif.Lemmas.H1SegStable
import MosnVerif.Lemmas.Fold
/-! the two-phase read of the HTTP/1 server serve loop (`Expect: 100-continue`): with a continue branch that is
conditional on `MayContinue()` alone and reads the body from the same reader, the two-phase loop over the reader queue
IS the generic dispatch loop of the composed parser, seen through `view` (where the loop stands on the unparsed rest). -/
namespace MosnVerif.Lemmas.H1Continue
open MosnVerif.Model.Framing MosnVerif.Model.H1Seg MosnVerif.Model.H1Continue MosnVerif.Lemmas.H1SegStable

variable {H B : Type}

/-- a plan whose continue branch neither skips phase 2 nor loses the queue -/
def Faithful (pl : Plan) : Prop := pl.guarded = false ∧ pl.resetBetween = false

theorem _root_.MosnVerif.Model.H1Continue.PStable.rl_final {p : Parser H B} (hp : PStable p) : Final .needMore p.rl :=
  fun q e h => by
  cases hr : p.rl q with
  | needMore => exact absurd hr h
  | error => exact hp.errExt q e hr
  | full h' b n => exact hp.fullExt q h' b n e hr
  | head h' n => exact hp.headExt q h' n e hr

theorem _root_.MosnVerif.Model.H1Continue.PStable.cb_final {p : Parser H B} (hp : PStable p) (h : H) : Final .needMore (p.cb h) :=
  .of_step (hp.bodyExt h) (hp.bodyErrExt h)

theorem _root_.MosnVerif.Model.H1Continue.PStable.of_final {p : Parser H B}
    (fullPos : ∀ q h b n, p.rl q = .full h b n → 0 < n ∧ n ≤ q.length)
    (headPos : ∀ q h n, p.rl q = .head h n → 0 < n ∧ n ≤ q.length) (rlFinal : Final .needMore p.rl)
    (bodyLe : ∀ h q b m, p.cb h q = .frame b m → m ≤ q.length) (cbFinal : ∀ h, Final .needMore (p.cb h)) : PStable p where
  fullPos := fullPos
  headPos := headPos
  bodyLe := bodyLe
  fullExt _ _ _ _ e hq := rlFinal.ext hq nofun e
  headExt _ _ _ e hq := rlFinal.ext hq nofun e
  errExt _ e hq := rlFinal.ext hq nofun e
  bodyExt h _ _ _ e hq := (cbFinal h).ext hq nofun e
  bodyErrExt h _ e hq := (cbFinal h).ext hq nofun e

theorem compose_stable (pl : Plan) (p : Parser H B) (hp : PStable p) : Stable (compose pl p) := by
  refine .of_final (fun q f n h => ?_) (fun q e h => ?_)
  · revert h
    fun_cases compose pl p q with
    | case3 h' b k hr => rintro ⟨⟩; exact hp.fullPos q h' b _ hr
    | case6 h' k hr b m hc =>
      rintro ⟨⟩
      have := hp.headPos q h' k hr
      have := hp.bodyLe h' _ b m hc
      simp only [List.length_drop] at this
      omega
    | _ => nofun
  · have hr : p.rl q ≠ .needMore := fun hc => h (by simp [compose, hc])
    unfold compose at h ⊢
    rw [hp.rl_final q e hr]
    cases hq : p.rl q with
    | head h' k =>
      have hc : p.cb h' (q.drop k) ≠ .needMore := fun hc => h (by simp [hq, hc])
      simp only [List.drop_append_of_le_length (hp.headPos q h' k hq).2, hp.cb_final h' _ e hc]
    | _ => rfl

theorem split_nil (p : Parser H B) (hp : PStable p) : split p [] = (none, []) := by
  unfold split
  cases hr : p.rl [] with
  | head h n => have := hp.headPos [] h n hr; simp at this; omega
  | _ => rfl

/-- the two-phase loop over what is buffered = the dispatch loop of the composed parser, seen through `viewD` -/
theorem drainC_eq (pl : Plan) (hf : Faithful pl) (p : Parser H B) (hp : PStable p) :
    ∀ (fuel : Nat) (buf : Bytes), buf.length < fuel →
      drainC pl p fuel buf = viewD p (drain (compose pl p) fuel buf) := by
  obtain ⟨hg, hr⟩ := hf
  intro fuel
  induction fuel with
  | zero => intro buf h; omega
  | succ k ih =>
    intro buf hl
    unfold drainC drain
    by_cases hb : buf.isEmpty
    · have : buf = [] := by cases buf <;> simp_all
      subst this
      simp [viewD, split_nil p hp]
    · simp only [hb, Bool.false_eq_true, ↓reduceIte]
      cases hrl : p.rl buf with
      | needMore => simp [compose, hrl, viewD, split]
      | error => simp [compose, hrl, viewD]
      | full h b n =>
        have ⟨n0, nl⟩ := hp.fullPos buf h b n hrl
        have hl2 : (buf.drop n).length < k := by simp only [List.length_drop]; omega
        simp only [compose, hrl, ih _ hl2]
        simp only [viewD, DR.push]
        split <;> rfl
      | head h n =>
        have ⟨n0, nl⟩ := hp.headPos buf h n hrl
        simp only [hg, hr, Bool.false_and, Bool.false_eq_true, ↓reduceIte, compose, hrl]
        cases hc : p.cb h (buf.drop n) with
        | needMore => simp [viewD, split, hrl, hc]
        | error => simp [viewD]
        | frame b m =>
          have hm := hp.bodyLe h _ b m hc
          simp only [List.length_drop] at hm
          have hl2 : (buf.drop (n + m)).length < k := by simp only [List.length_drop]; omega
          simp only [List.drop_drop, ih _ hl2]
          simp only [viewD, DR.push]
          split <;> rfl

theorem drainC_all (pl : Plan) (hf : Faithful pl) (p : Parser H B) (hp : PStable p) (fuel : Nat) (buf : Bytes)
    (h : buf.length < fuel) : drainC pl p fuel buf = viewD p (drainAll (compose pl p) buf) := by
  rw [drainC_eq pl hf p hp fuel buf h, drainAll_of_fuel _ (compose_stable pl p hp) fuel buf h]

/-- where the loop stands on an unparsed rest: at the top of an iteration, or behind a head whose body is not complete -/
theorem split_cases (p : Parser H B) (buf : Bytes) :
    split p buf = (none, buf) ∨
      ∃ h n, p.rl buf = .head h n ∧ split p buf = (some h, buf.drop n) := by
  unfold split
  cases p.rl buf with
  | head h n =>
    dsimp only
    cases p.cb h (buf.drop n) with
    | frame b m => exact .inl rfl
    | _ => exact .inr ⟨h, n, rfl, rfl⟩
  | _ => exact .inl rfl

/-- one read event commutes with the view -/
theorem feedC_view (pl : Plan) (hf : Faithful pl) (p : Parser H B) (hp : PStable p) (a : Conn (Msg H B)) (x : Bytes) :
    feedC pl p (view p a) x = view p (feed (compose pl p) a x) := by
  have hs := compose_stable pl p hp
  by_cases hfa : a.failed
  · simp [feedC, view, feed_eq, hfa]
  rw [feed_eq]
  simp only [feedC, view, hfa, Bool.false_eq_true, ↓reduceIte]
  rcases split_cases p a.buf with hsp | ⟨h, n, hrl, hsp⟩
  · simp only [hsp]
    rw [drainC_all pl hf p hp _ _ (Nat.lt_succ_self _)]
    simp only [CConn.after, viewD, List.append_nil]
    split <;> simp_all
  · -- serve() is inside ContinueReadBody: what it answers on the longer queue is what `compose` answers
    have ⟨n0, nl⟩ := hp.headPos a.buf h n hrl
    have hext := hp.headExt a.buf h n x hrl
    have hd : (a.buf ++ x).drop n = a.buf.drop n ++ x := List.drop_append_of_le_length nl
    have hne : a.buf ++ x ≠ [] := fun he => by simp [List.append_eq_nil_iff.mp he |>.1] at nl; omega
    simp only [hsp]
    cases hc : p.cb h (a.buf.drop n ++ x) with
    | needMore =>
      rw [drainAll_needMore _ _ (by simp [compose, hext, hd, hc])]
      simp [split, hext, hd, hc]
    | error =>
      rw [drainAll_error _ _ hne (by simp [compose, hext, hd, hc])]
      simp
    | frame b m =>
      have hcm : compose pl p (a.buf ++ x) = .frame (Msg.cont pl h b) (n + m) := by simp [compose, hext, hd, hc]
      have hm := hp.bodyLe h _ b m hc
      rw [drainAll_frame _ hs _ _ _ hcm]
      dsimp only
      rw [drainC_all pl hf p hp _ _ (by simp only [List.length_drop]; omega), ← List.drop_drop, hd]
      simp only [CConn.after, viewD]
      split <;> simp_all

@[simp] theorem view_out (p : Parser H B) (a : Conn (Msg H B)) : (view p a).out = a.out := by
  unfold view; split <;> rfl

@[simp] theorem view_failed (p : Parser H B) (a : Conn (Msg H B)) : (view p a).failed = a.failed := by
  unfold view; split <;> simp_all

theorem view_init (p : Parser H B) (hp : PStable p) : view p (Conn.init : Conn (Msg H B)) = CConn.init := by
  simp [view, Conn.init, CConn.init, split_nil p hp]

/-- **refinement**: the two-phase serve loop on any chunking = the generic dispatch loop of the composed parser -/
theorem runC_view (pl : Plan) (hf : Faithful pl) (p : Parser H B) (hp : PStable p) (chunks : List Bytes) :
    runC pl p chunks = view p (run (compose pl p) chunks) := by
  unfold runC run
  rw [← view_init p hp]
  exact List.foldl_hom (view p) (feedC_view pl hf p hp)

/-! ### the reference parser is such an oracle pair -/

theorem trailerEnd_spec (r : Bytes) (t : Nat) (h : trailerEnd r = some t) :
    t ≤ r.length ∧ ∀ e, trailerEnd (r ++ e) = some t := by
  revert h
  fun_cases trailerEnd r with
  | case1 h2 =>
    rintro ⟨⟩
    have hl : 2 ≤ r.length := by
      have := congrArg List.length h2
      simp only [List.length_take, List.length_cons, List.length_nil] at this
      omega
    exact ⟨hl, fun e => by rw [trailerEnd, List.take_append_of_le_length hl, if_pos h2]⟩
  | case2 => nofun
  | case3 h2 hl =>
    intro h
    obtain ⟨_, f2, f3⟩ := findEnd_spec r t h
    refine ⟨f2, fun e => ?_⟩
    rw [trailerEnd, List.take_append_of_le_length (by omega), if_neg h2, if_neg (by simp only [List.length_append]; omega), f3 e]

theorem chunkedT_spec (f : Nat) (p : Bytes) :
    ∀ r, chunkedT f p = some r → r.1 ≤ p.length ∧ ∀ e k, chunkedT (f + k) (p ++ e) = some r := by
  fun_induction chunkedT f p with
  | case3 fuel b l hs =>
    intro r h
    obtain ⟨t, ht, rfl⟩ := Option.map_eq_some_iff.1 h
    obtain ⟨s1, s2, s3⟩ := sizeLine_spec b 0 0 0 l hs
    obtain ⟨t1, t2⟩ := trailerEnd_spec _ _ ht
    simp only [List.length_drop] at t1
    refine ⟨by simp only; omega, fun e k => ?_⟩
    rw [Nat.succ_add, chunkedT]
    simp only [s3 e, if_true]
    rw [List.drop_append_of_le_length (by omega), t2 e]
    rfl
  | case4 fuel b n l hs hn hl ih =>
    intro r h
    obtain ⟨r', hc, rfl⟩ := Option.map_eq_some_iff.1 h
    obtain ⟨s1, s2, s3⟩ := sizeLine_spec b 0 0 n l hs
    obtain ⟨c2, c3⟩ := ih r' hc
    simp only [List.length_drop] at c2
    refine ⟨by simp only; omega, fun e k => ?_⟩
    rw [Nat.succ_add, chunkedT]
    simp only [s3 e, hn, if_false]
    rw [if_pos (by simp only [List.length_append]; omega), List.drop_append_of_le_length hl, c3 e k,
      List.drop_append_of_le_length (by omega), List.take_append_of_le_length (by simp only [List.length_drop]; omega)]
    rfl
  | _ => nofun

/-- the body read: a body lies inside the queue, and an answer other than need-more is final -/
theorem bodyStep_spec (kind : Body) (q : Bytes) :
    (∀ b m, bodyStep kind q = .frame b m → m ≤ q.length) ∧
      (bodyStep kind q ≠ .needMore → ∀ e, bodyStep kind (q ++ e) = bodyStep kind q) := by
  fun_cases bodyStep kind q with
  | case1 => exact ⟨by rintro _ _ ⟨⟩; exact Nat.zero_le _, fun _ _ => rfl⟩
  | case2 => exact ⟨nofun, fun _ _ => rfl⟩
  | case3 n hn =>
    refine ⟨by rintro _ _ ⟨⟩; exact hn, fun _ e => ?_⟩
    rw [bodyStep, if_pos (by simp only [List.length_append]; omega), List.take_append_of_le_length hn]
  | case4 => exact ⟨nofun, fun h => absurd rfl h⟩
  | case5 r hc =>
    refine ⟨by rintro _ _ ⟨⟩; exact (chunkedT_spec _ _ _ hc).1, fun _ e => ?_⟩
    simp only [bodyStep]
    rw [List.length_append, Nat.add_right_comm, (chunkedT_spec _ _ _ hc).2 e e.length]
  | case6 => exact ⟨nofun, fun h => absurd rfl h⟩

theorem refParser_stable : PStable refParser := by
  -- behind the end of the head, `rl` is a function of the head and of `bodyStep` on the rest
  have rl_eq : ∀ q k, findEnd q = some k → refParser.rl q =
      if expects (q.take k) then .head (q.take k) k
      else match bodyStep (bodyKind false (q.take k)) (q.drop k) with
        | .needMore => .needMore
        | .error => .error
        | .frame b m => .full (q.take k) b (k + m) := fun q k hf => by simp only [refParser, hf]; rfl
  have rl_none : ∀ q, refParser.rl q ≠ .needMore → ∃ k, findEnd q = some k := fun q h => by
    cases hf : findEnd q with
    | none => simp [refParser, hf] at h
    | some k => exact ⟨k, rfl⟩
  refine .of_final (fun q h b n hq => ?_) (fun q h n hq => ?_) (fun q e hq => ?_)
    (fun h q b m hq => (bodyStep_spec _ q).1 b m hq) (fun h q e hq => (bodyStep_spec _ q).2 hq e)
  · obtain ⟨k, hf⟩ := rl_none q (by simp [hq])
    obtain ⟨f1, f2, _⟩ := findEnd_spec q k hf
    rw [rl_eq q k hf] at hq
    split at hq
    · cases hq
    · cases hb : bodyStep (bodyKind false (q.take k)) (q.drop k) with
      | frame b' m =>
        have := (bodyStep_spec _ _).1 _ _ hb
        simp only [List.length_drop] at this
        simp only [hb, R1.full.injEq] at hq
        omega
      | _ => simp [hb] at hq
  · obtain ⟨k, hf⟩ := rl_none q (by simp [hq])
    obtain ⟨f1, f2, _⟩ := findEnd_spec q k hf
    rw [rl_eq q k hf] at hq
    split at hq
    · simp only [R1.head.injEq] at hq; omega
    · split at hq <;> cases hq
  · obtain ⟨k, hf⟩ := rl_none q hq
    obtain ⟨f1, f2, f3⟩ := findEnd_spec q k hf
    rw [rl_eq q k hf] at hq ⊢
    rw [rl_eq _ k (f3 e), List.take_append_of_le_length f2, List.drop_append_of_le_length f2]
    split
    · rfl
    · rw [if_neg ‹_›] at hq
      rw [(bodyStep_spec _ _).2 (fun hc => hq (by simp [hc])) e]

/-! ### the dispatch loop commutes with a projection of the messages -/

def stepMap {F G : Type} (g : F → G) : Step F → Step G
  | .needMore => .needMore
  | .error => .error
  | .frame f n => .frame (g f) n

def connMap {F G : Type} (g : F → G) (c : Conn F) : Conn G := { buf := c.buf, out := c.out.map g, failed := c.failed }

theorem drain_map {F G : Type} (g : F → G) (d : Bytes → Step F) (fuel : Nat) (buf : Bytes) :
    drain (stepMap g ∘ d) fuel buf = ((drain d fuel buf).1.map g, (drain d fuel buf).2) := by
  induction fuel generalizing buf with
  | zero => rfl
  | succ k ih =>
    unfold drain
    split
    · rfl
    · cases hd : d buf <;> simp [hd, stepMap, ih]

theorem feed_map {F G : Type} (g : F → G) (d : Bytes → Step F) (c : Conn F) (x : Bytes) :
    feed (stepMap g ∘ d) (connMap g c) x = connMap g (feed d c x) := by
  unfold feed connMap
  cases c.failed <;> simp [drain_map]

theorem run_map {F G : Type} (g : F → G) (d : Bytes → Step F) (chunks : List Bytes) :
    run (stepMap g ∘ d) chunks = connMap g (run d chunks) :=
  List.foldl_hom (connMap g) (init := Conn.init) (feed_map g d)

/-- what a request is apart from the bookkeeping of the continue branch -/
def core (m : Msg H B) : H × B × Bool := (m.head, m.body, m.continued)

/-- the plan decides only the bookkeeping -/
theorem compose_core (pl pl' : Plan) (p : Parser H B) : stepMap core ∘ compose pl p = stepMap core ∘ compose pl' p := by
  funext q
  unfold Function.comp compose
  cases p.rl q with
  | head h n => dsimp only; cases p.cb h (q.drop n) <;> rfl
  | _ => rfl

/-! ### the bookkeeping of the continue branch, for every plan -/

/-- interim response and `Expect` deletion happen exactly in the iterations whose continue phase ran, once each -/
def MsgOk (pl : Plan) (m : Msg H B) : Prop :=
  (m.continued = false ∧ m.interims = 0 ∧ m.dels = 0) ∨
  (m.continued = true ∧ m.interims = (if pl.writes then 1 else 0) ∧ m.dels = (if pl.dels then 1 else 0))

theorem push_msgOk {pl : Plan} {m : Msg H B} {r : DR H B} (hm : MsgOk pl m) (hr : ∀ x ∈ r.out, MsgOk pl x) :
    ∀ x ∈ (r.push m).out, MsgOk pl x := by
  simpa [DR.push] using ⟨hm, hr⟩

theorem drainC_msgOk (pl : Plan) (p : Parser H B) (fuel : Nat) (buf : Bytes) :
    ∀ m ∈ (drainC pl p fuel buf).out, MsgOk pl m := by
  fun_induction drainC pl p fuel buf
  case case5 ih => exact push_msgOk (.inl ⟨rfl, rfl, rfl⟩) ih  -- a whole request
  case case6 ih => exact push_msgOk (.inl ⟨rfl, rfl, rfl⟩) ih  -- head only, continue phase skipped
  case case9 ih => exact push_msgOk (.inr ⟨rfl, rfl, rfl⟩) ih  -- head, then body
  all_goals simp

theorem feedC_msgOk (pl : Plan) (p : Parser H B) (c : CConn H B) (x : Bytes) (hc : ∀ m ∈ c.out, MsgOk pl m) :
    ∀ m ∈ (feedC pl p c x).out, MsgOk pl m := by
  have hd := drainC_msgOk pl p
  unfold feedC
  split
  · exact hc
  · split
    · simp only [CConn.after, List.append_nil, List.mem_append]
      exact fun m hm => hm.elim (hc m) (hd _ _ m)
    · dsimp only
      split
      · exact hc
      · exact hc
      · simp only [CConn.after, List.mem_append, List.mem_singleton]
        rintro m ((hm | rfl) | hm)
        · exact hc m hm
        · exact .inr ⟨rfl, rfl, rfl⟩
        · exact hd _ _ m hm

theorem runC_msgOk (pl : Plan) (p : Parser H B) (chunks : List Bytes) : ∀ m ∈ (runC pl p chunks).out, MsgOk pl m :=
  Lemmas.Fold.foldl_inv (P := fun c : CConn H B => ∀ m ∈ c.out, MsgOk pl m) (feedC_msgOk pl p) chunks _ (by simp [CConn.init])

end MosnVerif.Lemmas.H1Continue
