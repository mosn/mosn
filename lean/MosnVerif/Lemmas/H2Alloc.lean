import MosnVerif.Model.H2Alloc
import MosnVerif.Lemmas.Fold
/-! C08 (allocation): the header list never outgrows its budget — invariant of the regenerated emit step program. -/
namespace MosnVerif.Lemmas.H2Alloc
open MosnVerif.Model.H2Alloc MosnVerif.Gen.C08H2Alloc

theorem sum_append (a : List Int) (x : Int) : sum (a ++ [x]) = sum a + x := by
  induction a with
  | nil => simp [sum]
  | cons y r ih => simp only [List.cons_append, sum, ih]; omega

/-- budget invariant: what was kept plus what remains is the limit; nothing negative; every kept field counts ≥ 32 -/
def Inv (limit : Int) (s : ESt) : Prop :=
  0 ≤ s.remain ∧ sum s.kept + s.remain = limit ∧ 32 * (s.kept.length : Int) ≤ sum s.kept

/-- the regenerated step program on one field: refuse (and switch emitting off) when over budget, else pay and append -/
theorem runOps_eq (sz : Int) (s : ESt) : runOps sz h2a_emitOps s =
    if sz > s.remain then { s with enabled := false, truncated := true }
    else { s with remain := s.remain - sz, kept := s.kept ++ [sz] } := by
  by_cases h : sz > s.remain
  · simp [h2a_emitOps, runOps, emitOp, h2a_listOver, h]
  · simp [h2a_emitOps, runOps, emitOp, h2a_listOver, h2a_listTake, h]

theorem inv_field (limit : Int) (s : ESt) (nv : Nat × Nat) (h : Inv limit s) : Inv limit (emitField h2a_emitOps s nv) := by
  unfold emitField
  split
  · have hsz : 32 ≤ h2a_fieldSize nv.1 nv.2 := by simp only [h2a_fieldSize]; omega
    generalize h2a_fieldSize nv.1 nv.2 = sz at hsz
    rw [runOps_eq]
    obtain ⟨h0, h1, h2⟩ := h
    split
    · exact ⟨h0, h1, h2⟩
    · rename_i hle
      refine ⟨?_, ?_, ?_⟩
      · show 0 ≤ s.remain - sz; omega
      · show sum (s.kept ++ [sz]) + (s.remain - sz) = limit; rw [sum_append]; omega
      · show 32 * ((s.kept ++ [sz]).length : Int) ≤ sum (s.kept ++ [sz])
        rw [sum_append, List.length_append]; simp only [List.length_cons, List.length_nil]; omega
  · exact h

theorem emitAll_inv (limit : Int) (h : 0 ≤ limit) (fields : List (Nat × Nat)) : Inv limit (emitAll h2a_emitOps limit fields) :=
  Lemmas.Fold.foldl_inv (inv_field limit) fields _ ⟨h, by simp [sum], by simp [sum]⟩

end MosnVerif.Lemmas.H2Alloc
