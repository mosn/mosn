import MosnVerif.Lemmas.FilterAnnot
/-! completeness of the receiver passes: no configured filter is skipped -/
set_option linter.unusedSimpArgs false
namespace MosnVerif.Model.FilterSpec
open MosnVerif.Gen.FilterPhase MosnVerif.Model.FilterChain MosnVerif.Model.FilterMachine

/-- the predicate writes "if `a` then `b`" as `!a || b` -/
theorem not_or_of_imp {a b : Bool} (h : a = true → b = true) : (!a || b) = true := by
  cases a
  · rfl
  · exact h rfl

/-- no filter of phase `q` with an index in [lo, hi) -/
def noneOfP (chain : List RFilter) (q : RPhase) (lo hi : Nat) : Prop :=
  ∀ k, lo ≤ k → k < hi → ∀ f, chain[k]? = some f → f.phase ≠ q

theorem noneOf_iff (c : Cfg) (q : RPhase) (lo hi : Nat) : noneOf c q lo hi = true ↔ noneOfP c.recv q lo hi := by
  unfold noneOf noneOfP
  simp only [List.all_eq_true, List.mem_range]
  constructor
  · intro h k h1 h2 f hf
    have := h (k - lo) (by omega)
    rw [show lo + (k - lo) = k by omega, hf] at this
    simpa using this
  · intro h d hd
    cases hx : c.recv[lo + d]? with
    | none => rfl
    | some f => simpa using h (lo + d) (by omega) (by omega) f hx

theorem noneOfP_mono {chain : List RFilter} {q : RPhase} {lo lo' hi hi' : Nat} (h : noneOfP chain q lo hi)
    (h1 : lo ≤ lo') (h2 : hi' ≤ hi) : noneOfP chain q lo' hi' :=
  fun k hk1 hk2 => h k (by omega) (by omega)

theorem noneOfP_empty (chain : List RFilter) (q : RPhase) (lo hi : Nat) (h : hi ≤ lo) : noneOfP chain q lo hi :=
  fun k h1 h2 => by omega

theorem noneOfP_beyond (chain : List RFilter) (q : RPhase) (lo hi : Nat) (h : noneOfP chain q lo chain.length) :
    noneOfP chain q lo hi := by
  intro k h1 _ f hf
  have hlt : k < chain.length := by
    rcases Nat.lt_or_ge k chain.length with h' | h'
    · exact h'
    · rw [List.getElem?_eq_none h'] at hf; cases hf
  exact h k h1 hlt f hf

/-- between two consecutive invocations of a pass (and before the first) there is no filter of the phase -/
def gapsOK (chain : List RFilter) (p : RPhase) : Nat → List Inv → Prop
  | _, [] => True
  | lo, iv :: r => noneOfP chain p lo iv.1 ∧ gapsOK chain p (iv.1 + 1) r

theorem noneOfP_append {chain : List RFilter} {q : RPhase} {a b d : Nat} (h1 : noneOfP chain q a b) (h2 : noneOfP chain q b d) :
    noneOfP chain q a d := fun k hk1 hk2 f hf =>
  (Nat.lt_or_ge k b).elim (fun h => h1 k hk1 h f hf) (fun h => h2 k h hk2 f hf)

theorem gapsOK_from {chain : List RFilter} {p : RPhase} {lo lo' : Nat} {l : List Inv} (h : noneOfP chain p lo lo')
    (hg : gapsOK chain p lo' l) : gapsOK chain p lo l := by
  cases l with
  | nil => trivial
  | cons iv r => exact ⟨noneOfP_append h hg.1, hg.2⟩

/-- between the invocations of a pass over `chain` from `idx` on there is no filter of the phase; nor behind the last one, if
it let the chain go on; a pass without invocations found no filter of the phase at all -/
theorem recvLoop_gaps (chain : List RFilter) (p : RPhase) (fs : List RFilter) (idx : Nat) (s : FState)
    (hfs : chain.drop idx = fs) :
    gapsOK chain p idx (recvLoop p fs idx s).2 ∧
    ((recvLoop p fs idx s).2 = [] → noneOfP chain p idx chain.length) ∧
    (∀ iv, (recvLoop p fs idx s).2.getLast? = some iv → continues iv.2.status = true →
      noneOfP chain p (iv.1 + 1) chain.length) := by
  rw [recvLoop_invs]
  induction fs generalizing idx with
  | nil => exact ⟨trivial, fun _ => noneOfP_empty _ _ _ _ (List.drop_eq_nil_iff.mp hfs), fun iv h => by cases h⟩
  | cons f rest ih =>
    obtain ⟨hat, hrest⟩ := getElem?_of_drop hfs
    obtain ⟨i1, i2, i3⟩ := ih (idx + 1) hrest
    unfold FilterRegs.ofPhase
    split
    · simp only [FilterRegs.cutAfter]
      refine ⟨⟨noneOfP_empty _ _ _ _ (Nat.le_refl _), by split; exact i1; trivial⟩, nofun, fun iv hlast hiv => ?_⟩
      by_cases hc : continues (f.verdictAt (s.rcalls idx)).status = true
      · rw [if_pos hc] at hlast
        cases hl : FilterRegs.cutAfter s.rcalls (FilterRegs.ofPhase p rest (idx + 1)) with
        | nil => rw [hl] at hlast; cases hlast; exact i2 hl
        | cons b r => rw [hl, List.getLast?_cons_cons, ← hl] at hlast; exact i3 iv hlast hiv
      · rw [if_neg hc] at hlast; cases hlast; exact absurd hiv hc
    · -- a filter of another phase: skipped
      have hskip : noneOfP chain p idx (idx + 1) := fun k h1 h2 g hg => by
        obtain rfl : k = idx := by omega
        rw [hat] at hg; cases hg; assumption
      exact ⟨gapsOK_from hskip i1, fun hn => noneOfP_append hskip (i2 hn), i3⟩

theorem compChain_cons2 (c : Cfg) (a b : Nat × RPhase × Verdict) (r : List (Nat × RPhase × Verdict)) :
    compChain c (a :: b :: r) = (compStep c a b && compChain c (b :: r)) := rfl

/-- no configured receiver filter has phase `x` -/
def noPhaseP (c : Cfg) (x : RPhase) : Prop := noneOfP c.recv x 0 c.recv.length

def lastPn (T : List (Nat × RPhase × Verdict)) : Nat :=
  match T.getLast? with
  | some a => pn a.2.1
  | none => 0

theorem noneFrom_iff (c : Cfg) (q : RPhase) (lo : Nat) : noneFrom c q lo = true ↔ noneOfP c.recv q lo c.recv.length :=
  noneOf_iff c q lo _

/-- consecutive invocations of one pass satisfy the completeness step -/
theorem gaps_compChain (c : Cfg) (q : RPhase) (lo : Nat) (l : List Inv) (h : gapsOK c.recv q lo l) :
    compChain c (triples q l) = true := by
  induction l generalizing lo with
  | nil => rfl
  | cons a r ih =>
    cases r with
    | nil => rfl
    | cons b r' =>
      simp only [triples, List.map_cons] at ih ⊢
      rw [compChain_cons2]
      have h2 := h.2
      rw [ih (a.1 + 1) h2, Bool.and_true]
      simp only [compStep, beq_self_eq_true, if_true, Bool.or_eq_true]
      exact Or.inr ((noneOf_iff c q _ _).mpr h2.1)

theorem phasesBefore_pn {x q : RPhase} (h : x ∈ phasesBefore q) : pn x < pn q := by
  cases q <;> cases x <;> simp [phasesBefore] at h <;> decide

theorem phasesAfter_pn {x p : RPhase} (h : x ∈ phasesAfter p) : pn p < pn x := by
  cases p <;> cases x <;> simp [phasesAfter] at h <;> decide

theorem phasesBetween_pn {x p q : RPhase} (h : x ∈ phasesBetween p q) : pn p < pn x ∧ pn x < pn q := by
  simp only [phasesBetween, List.mem_filter] at h
  exact ⟨phasesAfter_pn h.1, phasesBefore_pn (by simpa using h.2)⟩

/-- a chain in which no phase has a filter is empty -/
theorem recv_empty_of_noPhase (c : Cfg) (h : ∀ x, noPhaseP c x) : c.recv = [] := by
  cases hr : c.recv with
  | nil => rfl
  | cons f r =>
    exfalso
    have := h f.phase 0 (Nat.le_refl _) (by rw [hr]; simp) f (by rw [hr]; rfl)
    exact this rfl

/-- what a request that reached the pool guarantees about the passes -/
def FwdFacts (c : Cfg) (T : List (Nat × RPhase × Verdict)) : Prop :=
  (T = [] → c.recv = []) ∧ (∀ a, T.getLast? = some a → compLast c a = true)

structure Cinv (c : Cfg) (s : St) : Prop where
  head : ∀ a, (recvObs (flat s.trace)).head? = some a → headOK c a = true
  chain : compChain c (recvObs (flat s.trace)) = true
  tail : ∀ a, (recvObs (flat s.trace)).getLast? = some a →
    (!continues a.2.2.status || noneFrom c a.2.1 (a.1 + 1)) = true
  curp : s.cursor ≠ 0 → ∃ a, (recvObs (flat s.trace)).getLast? = some a ∧ s.cphase = a.2.1
  gap : s.halted = false → s.phase ≤ 6 → ∀ x, lastPn (recvObs (flat s.trace)) < pn x → pn x < s.phase → noPhaseP c x
  fwd : ¬ NoUp s.trace → FwdFacts c (recvObs (flat s.trace))

/-- at DownRecvHeader every pass has been made -/
theorem fwdFacts_at6 (c : Cfg) (s : St) (h : Cinv c s) (hnh : s.halted = false) (h6 : s.phase = 6) :
    FwdFacts c (recvObs (flat s.trace)) := by
  have hgap := h.gap hnh (by omega)
  refine ⟨fun hT => ?_, fun a ha => ?_⟩
  · apply recv_empty_of_noPhase
    intro x
    apply hgap x
    · rw [hT]; simp only [lastPn, List.getLast?_nil]; cases x <;> decide
    · rw [h6]; have := pn_le5 x; omega
  · simp only [compLast, Bool.and_eq_true, List.all_eq_true]
    refine ⟨h.tail a ha, fun x hx => ?_⟩
    · rw [noneFrom_iff]
      apply hgap x
      · simp only [lastPn, ha]; exact phasesAfter_pn hx
      · rw [h6]; have := pn_le5 x; omega

theorem step_Cinv (c : Cfg) (s : St) (hg : Ginv c s) (hj : Dinv s) (ho : Oinv c s) (hc : Cinv c s) :
    Cinv c (step c s) := by
  cases hnh : s.halted with
  | true => rw [step_halted c s hnh]; exact hc
  | false =>
  rcases step_passes c s hg hnh with hq | ⟨q, hp⟩
  · have hT := recvObs_noPass hq.noPass
    obtain ⟨⟨evs, ht, hev⟩, hcur, _, hcph⟩ := hq.noPass
    refine ⟨by rw [hT]; exact hc.head, by rw [hT]; exact hc.chain, by rw [hT]; exact hc.tail,
      by rw [hT, hcur, hcph]; exact hc.curp, ?_, ?_⟩
    · intro hnh' hle x hx1 hx2
      rw [hT] at hx1
      rcases hq.next with h' | h' | ⟨h', hrp⟩ | h'
      · rw [h'] at hnh'; cases hnh'
      · rw [h'] at hle hx2; exact hc.gap hnh hle x hx1 hx2
      · rw [h'] at hx2 hle
        rcases Nat.lt_or_ge (pn x) s.phase with h | h
        · exact hc.gap hnh (by omega) x hx1 h
        · have : pn x = s.phase := by omega
          rw [← this, recvPhaseOf_pn] at hrp; cases hrp
      · have : 9 ≤ (step c s).phase := h'
        omega
    · intro hup
      rw [hT]
      by_cases hold : NoUp s.trace
      · -- this step sent the request upstream: it is the `case` DownRecvHeader
        by_cases h6 : s.phase = 6
        · exact fwdFacts_at6 c s hc hnh h6
        · exfalso; apply hup; rw [ht]
          intro e he
          rcases List.mem_append.mp he with h | h
          · exact hold e h
          · cases hu : isUp e
            · rfl
            · exact absurd ((hev e h).2 hu) h6
      · exact hc.fwd hold
  · obtain ⟨hphq, rT, rcur, rcph, _, hnext⟩ := hp
    have hq5 := pn_le5 q
    -- nothing was forwarded yet
    have hnoup : NoUp s.trace := hj.front hnh (by show s.phase ≤ 6; omega)
    obtain ⟨hgaps, hnone, hfull⟩ := recvLoop_gaps c.recv q (c.recv.drop (startOf s.toFState q)) (startOf s.toFState q) s.toFState rfl
    generalize hl : (runRecv c.recv q s.toFState).2 = l at rT rcur hnext
    have hl' : (recvLoop q (c.recv.drop (startOf s.toFState q)) (startOf s.toFState q) s.toFState).2 = l := hl
    rw [hl'] at hgaps hnone hfull
    generalize step c s = r at rT rcur rcph hnext ⊢
    have hT : recvObs (flat r.trace) = recvObs (flat s.trace) ++ triples q l := by
      rw [rT, flat_snoc, recvObs_append, recvObs_flatEv]
    -- a kept cursor belongs to the last invocation: unless that one is of this phase the pass starts at the first filter
    have hstart : (∀ a, (recvObs (flat s.trace)).getLast? = some a → a.2.1 ≠ q) → startOf s.toFState q = 0 := by
      intro hne
      rw [startOf_eq]
      by_cases h0 : s.toFState.cursor = 0
      · simp [h0]
      · obtain ⟨a, ha, hcp⟩ := hc.curp h0
        rw [if_pos ⟨h0, by rw [show s.toFState.cphase = a.2.1 from hcp]; exact fun h => hne a ha h.symm⟩]
    -- the last invocation so far, if of the same phase, asked for this re-run, and the pass starts with its filter
    have hsame : ∀ a, (recvObs (flat s.trace)).getLast? = some a → a.2.1 = q →
        accepted a.2.1 a.2.2.status = true ∧ l ≠ [] := by
      intro a ha hpq
      obtain ⟨_, h | ⟨_, hacc, v, rest, hvr⟩⟩ := ho.seam hnh ha hphq
      · rw [hpq] at h; omega
      · exact ⟨hpq ▸ hacc, fun hn => by rw [hl, hn] at hvr; cases hvr⟩
    have hgapq := hc.gap hnh (by omega)
    refine ⟨?_, ?_, ?_, ?_, ?_, ?_⟩
    · -- head
      intro a ha
      rw [hT] at ha
      cases hT0 : recvObs (flat s.trace) with
      | cons a0 r0 => rw [hT0] at ha; simp at ha; subst ha; exact hc.head a0 (by rw [hT0]; rfl)
      | nil =>
        rw [hT0] at ha
        cases l with
        | nil => simp [triples] at ha
        | cons b l' =>
          simp [triples] at ha
          subst ha
          simp only [headOK, Bool.and_eq_true, List.all_eq_true]
          refine ⟨?_, fun x hx => ?_⟩
          · rw [noneOf_iff]
            have := hgaps.1
            rw [hstart fun a ha => by rw [hT0] at ha; cases ha] at this
            exact this
          · rw [noneFrom_iff]
            apply hgapq x
            · rw [hT0]; simp only [lastPn, List.getLast?_nil]; cases x <;> decide
            · rw [hphq]; exact phasesBefore_pn hx
    · -- chain
      rw [hT]
      refine adjacent_join (compChain_cons2 c) hc.chain (gaps_compChain c q _ l hgaps) fun a b' h1 hb => ?_
      cases l with
      | nil => cases hb
      | cons b l' =>
        cases hb
        show compStep c a (b.1, q, b.2) = true
        unfold compStep
        by_cases hpq : a.2.1 = q
        · rw [if_pos (by simpa using hpq), (hsame a h1 hpq).1]; rfl
        · rw [if_neg (by simpa using hpq)]
          simp only [Bool.and_eq_true, List.all_eq_true]
          refine ⟨⟨hc.tail a h1, ?_⟩, fun x hx => ?_⟩
          · rw [noneOf_iff]
            have := hgaps.1
            rw [hstart fun a' ha' => by rw [h1] at ha'; cases ha'; exact hpq] at this
            exact this
          · rw [noneFrom_iff]
            obtain ⟨hx1, hx2⟩ := phasesBetween_pn hx
            exact hgapq x (by simp only [lastPn, h1]; exact hx1) (by rw [hphq]; exact hx2)
    · -- tail
      intro a ha
      rw [hT, getLast_append_triples] at ha
      cases hlv : l.getLast? with
      | none => simp only [hlv] at ha; exact hc.tail a ha
      | some iv =>
        simp only [hlv] at ha
        cases ha
        exact not_or_of_imp fun hcont => (noneFrom_iff c _ _).mpr (hfull iv hlv hcont)
    · -- curp
      intro hne
      rw [hT, getLast_append_triples]
      cases hlv : l.getLast? with
      | none => exact absurd (rcur.trans (by unfold cursorAfter; rw [hlv])) hne
      | some iv => exact ⟨(iv.1, q, iv.2), rfl, rcph hne⟩
    · -- gap
      intro hnh' hle x hx1 hx2
      rw [hT] at hx1
      have hlp : ∀ iv, l.getLast? = some iv → lastPn (recvObs (flat s.trace) ++ triples q l) = pn q := by
        intro iv hlv; unfold lastPn; rw [getLast_append_triples, hlv]
      rcases hnext with h' | h' | h' | ⟨iv, hlv, _, hag⟩
      · rw [h'] at hnh'; cases hnh'
      · have : 9 ≤ r.phase := h'
        omega
      · -- the pass went on to the next phase
        rw [h', hphq] at hx2
        cases hlv : l.getLast? with
        | some iv => rw [hlp iv hlv] at hx1; omega
        | none =>
          have hnil : l = [] := List.getLast?_eq_none_iff.mp hlv
          rw [hnil] at hx1
          simp only [triples, List.map_nil, List.append_nil] at hx1
          rcases Nat.lt_or_ge (pn x) (pn q) with h | h
          · exact hgapq x hx1 (by rw [hphq]; exact h)
          · -- an empty pass from the first filter: the phase has no filter
            rw [show x = q from pn_inj (by omega)]
            have hst : startOf s.toFState q = 0 := hstart fun a ha hpq => (hsame a ha hpq).2 hnil
            have := hnone hnil
            rw [hst] at this
            exact this
      · -- an honoured re-run request: back to the phase before the requesting filter's
        rw [hlp iv hlv] at hx1
        omega
    · -- fwd: a receiver pass forwards nothing
      intro hup
      exfalso; apply hup
      rw [rT, NoUp_snoc]; exact ⟨hnoup, rfl⟩

theorem init_Cinv (c : Cfg) : Cinv c init :=
  ⟨(fun a h => by cases h), rfl, (fun a h => by cases h), (fun h => absurd rfl h),
   (fun _ _ x _ hx => by have : pn x < 0 := hx; omega), (fun h => absurd (fun e he => by cases he) h)⟩

theorem run_all (c : Cfg) (n : Nat) (s : St) (hg : Ginv c s) (hj : Dinv s) (ho : Oinv c s) (hc : Cinv c s) :
    Ginv c (run c n s) ∧ Oinv c (run c n s) ∧ Cinv c (run c n s) :=
  ⟨run_Ginv c n s hg, (run_Ginv_and (P := fun s => Dinv s ∧ Oinv c s ∧ Cinv c s)
    (fun s hg ⟨hj, ho, hc⟩ => ⟨step_Dinv c s hg hj, step_Oinv c s hg ho, step_Cinv c s hg hj ho hc⟩) n s hg ⟨hj, ho, hc⟩).2⟩

/-- **no filter is skipped**: the completeness clause of the predicate, at every point of the run -/
theorem completeOK_run (c : Cfg) (n : Nat) : completeOK c (flat (run c n init).trace) = true := by
  obtain ⟨_, _, hc⟩ := run_all c n init (init_Ginv c) init_Dinv (init_Oinv c) (init_Cinv c)
  unfold completeOK
  have hfw : forwarded (flat (run c n init).trace) = true → FwdFacts c (recvObs (flat (run c n init).trace)) :=
    fun hf => hc.fwd (forwarded_flat hf)
  cases hT : recvObs (flat (run c n init).trace) with
  | nil =>
    exact not_or_of_imp fun hf => List.isEmpty_iff.mpr ((hfw hf).1 hT)
  | cons a r =>
    have hh := hc.head a (by rw [hT]; rfl)
    have hch := hc.chain
    rw [hT] at hch
    simp only [hh, hch, Bool.true_and]
    refine not_or_of_imp fun hf => ?_
    cases hl : (a :: r).getLast? with
    | none => rfl
    | some z => exact (hfw hf).2 z (by rw [hT]; exact hl)

/-- everything but single_reply, at every point of the run -/
theorem specSafety_run (c : Cfg) (n : Nat) : specSafety c (flat (run c n init).trace) = true := by
  obtain ⟨hg, ho, _⟩ := run_all c n init (init_Ginv c) init_Dinv (init_Oinv c) (init_Cinv c)
  have hn := run_Ginv_and (step_recvFirst c) n init (init_Ginv c) ⟨[], [], rfl, rfl, nofun⟩
  unfold specSafety
  rw [phasesOK_of_reg c _ ho.reg, ho.ord, completeOK_run c n, noRecvAfterSend_of_recvFirst _ hn,
    sendOK_of_SpOK c _ (Ginv_SpOK c _ hg)]
  simp only [Bool.true_and, Bool.and_true]
  refine not_or_of_imp fun hd => ?_
  cases hf : forwarded (flat (run c n init).trace)
  · rfl
  · exact absurd (deny_noUp c n (denied_flat hd)) (forwarded_flat hf)

theorem spec_final (c : Cfg) (hex : (final c).exhausted = false) (hrt : (final c).retried = false) :
    spec c (flat (final c).trace) = true := by
  unfold spec
  rw [show (final c).trace = (run c fuel init).trace from rfl, specSafety_run c fuel]
  simp only [Bool.true_and]
  apply singleReplyOK_of
  intro ha hnt hno
  exact single_reply_of c (final c) (run_Ginv c fuel init (init_Ginv c)) (final_halted c) ha hnt hno hex hrt

end MosnVerif.Model.FilterSpec
