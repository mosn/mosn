import MosnVerif.Model.TlsSds
import MosnVerif.Lemmas.Fold
/-!
Lemmas about `Model/TlsSds.lean`: the invariant of the provider state under every operation.
-/
namespace MosnVerif.Lemmas.TlsSds
open MosnVerif.Gen.TlsSds MosnVerif.Model.TlsSds

variable {κ σ : Type}

/-- the invariant: the context in force is built from the stored configuration and the stored secret -/
def Coherent (p : Prov κ σ) : Prop := p.ctx = p.secret.map (fun s => (p.config, s))

theorem rebuild_coherent (p : Prov κ σ) (h : p.secret = none → p.ctx = none) : Coherent (rebuild p) := by
  unfold rebuild Coherent
  cases hs : p.secret with
  | none => simp [updateNeedsFull, hs, h hs]
  | some s => simp [updateBuildsFromStoredConfig]

theorem coherent_noctx (p : Prov κ σ) (h : Coherent p) : p.secret = none → p.ctx = none := by
  intro hs; rw [h, hs]; rfl

theorem step_coherent (p : Prov κ σ) (op : SOp κ σ) (h : Coherent p) : Coherent (step p op) := by
  cases op with
  | update cfg g =>
    simp only [step, updateConfigStores, updateConfigRebuilds, if_true]
    exact rebuild_coherent _ (coherent_noctx p h)
  | push s =>
    simp only [step, secretPushRebuilds, if_true]
    apply rebuild_coherent
    intro hs; simp at hs
  | pushEmpty =>
    simp only [step, secretPushRebuilds, if_true]
    exact rebuild_coherent _ (coherent_noctx p h)

theorem create_coherent (cfg0 : κ) (s0 : Option σ) (g : Bool) : Coherent (create cfg0 s0 g) := by
  unfold create
  simp only [step, updateConfigStores, updateConfigRebuilds, if_true]
  exact rebuild_coherent _ (fun _ => rfl)

theorem foldl_coherent (ops : List (SOp κ σ)) (p : Prov κ σ) (h : Coherent p) : Coherent (ops.foldl step p) :=
  Fold.foldl_inv step_coherent ops p h

theorem rebuild_config (p : Prov κ σ) : (rebuild p).config = p.config ∧ (rebuild p).secret = p.secret := by
  unfold rebuild
  cases hs : p.secret <;> simp [updateNeedsFull, updateBuildsFromStoredConfig, hs]

theorem step_fields (p : Prov κ σ) (op : SOp κ σ) :
    (step p op).config = (match op with | .update c _ => c | _ => p.config) ∧
    (step p op).secret = (match op with | .push s => some s | _ => p.secret) := by
  cases op <;> simp [step, updateConfigStores, updateConfigRebuilds, secretPushRebuilds, rebuild_config]

theorem foldl_fields (ops : List (SOp κ σ)) (p : Prov κ σ) :
    (ops.foldl step p).config = latestCfg p.config ops ∧ (ops.foldl step p).secret = latestSecret p.secret ops := by
  induction ops generalizing p with
  | nil => simp [latestCfg, latestSecret]
  | cons op r ih =>
    have hf := step_fields p op
    rw [List.foldl_cons]
    refine ⟨by rw [(ih _).1, hf.1]; cases op <;> simp [latestCfg], by rw [(ih _).2, hf.2]; cases op <;> simp [latestSecret]⟩

theorem latestCfg_append (c : κ) (l l' : List (SOp κ σ)) : latestCfg c (l ++ l') = latestCfg (latestCfg c l) l' := by
  induction l generalizing c with
  | nil => rfl
  | cons o r ih => cases o <;> exact ih _

theorem latestSecret_append (x : Option σ) (l l' : List (SOp κ σ)) :
    latestSecret x (l ++ l') = latestSecret (latestSecret x l) l' := by
  induction l generalizing x with
  | nil => rfl
  | cons o r ih => cases o <;> exact ih _

theorem create_fields (cfg0 : κ) (s0 : Option σ) (g : Bool) :
    (create cfg0 s0 g).config = cfg0 ∧ (create cfg0 s0 g).secret = s0 := by
  have := step_fields (⟨cfg0, s0, none⟩ : Prov κ σ) (.update cfg0 g)
  simpa [create] using this

end MosnVerif.Lemmas.TlsSds
