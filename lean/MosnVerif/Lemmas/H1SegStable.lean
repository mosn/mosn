import MosnVerif.Model.H1Seg
import MosnVerif.Lemmas.Framing
namespace MosnVerif.Lemmas.H1SegStable
open MosnVerif.Model.Framing MosnVerif.Model.H1Seg

theorem findEnd_spec (p : Bytes) :
    ∀ k, findEnd p = some k → 4 ≤ k ∧ k ≤ p.length ∧ ∀ e, findEnd (p ++ e) = some k := by
  fun_induction findEnd p with
  | case1 => nofun
  | case2 c r h4 =>
    rintro _ ⟨⟩
    have hl : 4 ≤ (c :: r).length := by
      have := congrArg List.length h4
      simp only [List.length_take, List.length_cons, List.length_nil] at this ⊢
      omega
    refine ⟨Nat.le_refl 4, hl, fun e => ?_⟩
    rw [List.cons_append, findEnd, ← List.cons_append, List.take_append_of_le_length hl, if_pos h4]
  | case3 c r h4 ih =>
    intro k h
    obtain ⟨k', hr, rfl⟩ := Option.map_eq_some_iff.1 h
    obtain ⟨a, b, c'⟩ := ih k' hr
    refine ⟨by omega, by simp only [List.length_cons]; omega, fun e => ?_⟩
    rw [List.cons_append, findEnd, ← List.cons_append,
      List.take_append_of_le_length (by simp only [List.length_cons]; omega), if_neg h4, c' e]
    rfl

theorem sizeLine_spec (p : Bytes) (acc k0 : Nat) :
    ∀ n l, sizeLine p acc k0 = some (n, l) →
      k0 < l ∧ l ≤ k0 + p.length ∧ ∀ e, sizeLine (p ++ e) acc k0 = some (n, l) := by
  fun_induction sizeLine p acc k0 with
  | case2 acc k r =>
    rintro _ _ ⟨⟩
    exact ⟨by omega, by simp only [List.length_cons]; omega, fun e => rfl⟩
  | case5 c r acc k hc v hv ih =>
    intro n l h
    obtain ⟨a, b, c'⟩ := ih n l h
    refine ⟨by omega, by simp only [List.length_cons]; omega, fun e => ?_⟩
    simp only [List.cons_append, sizeLine, if_neg hc, hv, c' e]
  | _ => nofun

theorem chunkEnd_spec (f : Nat) (p : Bytes) :
    ∀ r, chunkEnd f p = some r →
      0 < r.1 ∧ r.1 ≤ p.length ∧ ∀ e k, chunkEnd (f + k) (p ++ e) = some r := by
  fun_induction chunkEnd f p with
  | case3 fuel b l hl hs =>
    rintro _ ⟨⟩
    refine ⟨by omega, hl, fun e k => ?_⟩
    rw [Nat.succ_add, chunkEnd]
    simp only [(sizeLine_spec b 0 0 0 l hs).2.2 e, if_true]
    rw [if_pos (by simp only [List.length_append]; omega)]
  | case5 fuel b n l hs hn hl ih =>
    intro r h
    obtain ⟨r', hc, rfl⟩ := Option.map_eq_some_iff.1 h
    obtain ⟨c1, c2, c3⟩ := ih r' hc
    simp only [List.length_drop] at c2
    refine ⟨by simp only; omega, by simp only; omega, fun e k => ?_⟩
    rw [Nat.succ_add, chunkEnd]
    simp only [(sizeLine_spec b 0 0 n l hs).2.2 e, hn, if_false]
    rw [if_pos (by simp only [List.length_append]; omega), List.drop_append_of_le_length hl, c3 e k]
    rfl
  | _ => nofun

theorem h1Hdr_stable (resp : Bool) : HdrStable (h1Hdr resp) := by
  refine .of_final (fun p n h => ?_) (fun p e h => ?_)
  all_goals
    obtain ⟨k, hf⟩ : ∃ k, findEnd p = some k := by
      cases hf : findEnd p with
      | none => simp [h1Hdr, hf] at h
      | some k => exact ⟨k, rfl⟩
    obtain ⟨f1, f2, f3⟩ := findEnd_spec p k hf
    simp only [h1Hdr, hf] at h
  · split at h
    · cases h; omega
    · cases h
    · split at h
      · cases h; omega
      · cases h
    · cases hc : chunkEnd (p.length + 1) (p.drop k) with
      | none => simp [hc] at h
      | some r =>
        obtain ⟨c1, c2, _⟩ := chunkEnd_spec _ _ _ hc
        simp only [List.length_drop] at c2
        simp only [hc, Hdr.len.injEq] at h
        omega
  · unfold h1Hdr
    simp only [f3 e, hf, List.take_append_of_le_length f2, List.drop_append_of_le_length f2]
    cases hb : bodyKind resp (p.take k) with
    | cl n =>
      simp only [hb] at h ⊢
      split at h
      · rw [if_pos (by simp; omega), if_pos ‹_›]
      · exact absurd rfl h
    | chunked =>
      simp only [hb] at h ⊢
      cases hc : chunkEnd (p.length + 1) (p.drop k) with
      | none => simp [hc] at h
      | some r => rw [List.length_append, Nat.add_right_comm, (chunkEnd_spec _ _ _ hc).2.2 e e.length]
    | _ => rfl

theorem h1Step_stable (resp : Bool) : Stable (h1Step resp) := envelope_stable _ (h1Hdr_stable resp) _

end MosnVerif.Lemmas.H1SegStable
