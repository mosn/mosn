import MosnVerif.Lemmas.CheckedGo
import MosnVerif.Model.CheckedWire
import MosnVerif.Model.Match
/-!
ONE matcher semantics for C07 and C08: for every registered protocol matcher and EVERY byte string, the
regenerated checked-access program (Gen/C08Matchers, behind the stream factory's result mapping) answers exactly what
the hand-written matcher model of C07 (Model/Match.lean) answers — never `oob`.  Hence every C07 theorem about
automatic protocol selection is a theorem about the regenerated code (`genMatcherOf_eq`, `genScopeOf_eq`).
-/
namespace MosnVerif.Lemmas.CheckedMatchEq
open MosnVerif.Model.CheckedGo MosnVerif.Model.CheckedWire MosnVerif.Gen.C08Matchers
open MosnVerif.Model MosnVerif.Model.FrameBytes MosnVerif.Gen.FrameConsts

/-- the hand model's verdict as an `api.MatchResult` of the regenerated programs -/
def toMR : Match.MR → MR
  | .again => .again
  | .success => .success
  | .failed => .failed

theorem u8_eq (b : List UInt8) (i : Nat) (h : i < b.length) : u8 b i = (b.getD i 0).toNat := by
  simp [u8, be, List.drop_take, List.take_one, List.head?_drop, h, FrameBytes.beNat]

theorem byteAt_eq (b : List UInt8) (i : Nat) (h : i < b.length) : byteAt b (i : Int) = (u8 b i : Int) := by
  simp [byteAt, u8_eq b i h]

theorem cmpBytes_eq_zero (a b : List UInt8) : cmpBytes a b = 0 ↔ a = b := by
  fun_induction cmpBytes a b with
  | case4 x xs y ys h => simpa using fun hxy : x = y => absurd (hxy ▸ h) (by simp)
  | case5 x xs y ys _ h => simpa using fun hxy : x = y => absurd (hxy ▸ h) (by simp)
  | case6 x xs y ys h1 h2 ih =>
    rw [ih, List.cons.injEq, UInt8.le_antisymm (UInt8.not_lt.mp h2) (UInt8.not_lt.mp h1), eq_self, true_and]
  | _ => simp

theorem nats_inj (a b : List UInt8) : Match.nats a = Match.nats b ↔ a = b :=
  List.map_inj_right fun _ _ => UInt8.toNat_inj.mp

theorem errToMR_xfactory (r : MR) : errToMR (xfactory_result r) = r := by cases r <;> rfl

theorem viaFactory_ok {m : List UInt8 → Chk MR} {b : List UInt8} {r : MR} (h : m b = .ok r) : viaFactory m b = .ok r := by
  rw [viaFactory, h, Chk.bind, errToMR_xfactory]

/-! ### comparisons and checked accesses of the programs on natural numbers in range

The programs compute in `Int`; `k`, `l`, `h` stand for the integer a program writes (a literal, or a cast), `hk : k = ↑n` is
closed by `rfl`. -/

theorem natCast_lt (n : Nat) (k : Int) (m : Nat) (hk : k = m) : decide ((n : Int) < k) = decide (n < m) := by
  subst hk; simp

theorem natCast_gt (n : Nat) (k : Int) (m : Nat) (hk : k = m) : decide ((n : Int) > k) = decide (n > m) := by
  subst hk; simp

theorem natCast_eq (n : Nat) (k : Int) (m : Nat) (hk : k = m) : decide ((n : Int) = k) = decide (n = m) := by
  subst hk; exact decide_eq_decide.2 Int.natCast_inj

theorem len_lt (b : List UInt8) (k : Int) (n : Nat) (hk : k = n) : decide (len b < k) = decide (b.length < n) :=
  natCast_lt b.length k n hk

theorem len_gt (b : List UInt8) (k : Int) (n : Nat) (hk : k = n) : decide (len b > k) = decide (b.length > n) :=
  natCast_gt b.length k n hk

theorem idx_nat (b : List UInt8) (k : Int) (i : Nat) (hk : k = i) (h : i < b.length) : idx b k = .ok ((u8 b i : Nat) : Int) := by
  subst hk
  have : (0:Int) ≤ i ∧ (i:Int) < len b := by simp [len]; omega
  rw [idx, if_pos this, byteAt_eq b i h]

theorem slc_nat (b : List UInt8) (l h : Int) (lo hi : Nat) (hl : l = lo) (hh : h = hi) (h1 : lo ≤ hi) (h2 : hi ≤ b.length) :
    slc b l h = .ok ((b.take hi).drop lo) := by
  subst hl hh
  have : (0:Int) ≤ lo ∧ (lo:Int) ≤ hi ∧ (hi:Int) ≤ len b := by simp [len]; omega
  simp [slc, this, sub]

/-- `boltMatcher` / `boltv2Matcher`: the program shape with the protocol code as a variable -/
theorem codeMatcher_eq (code : Nat) (b : List UInt8) :
    (if decide (len b = 0) then Chk.ok MR.again else
      Chk.bind (idx b 0) fun c => if decide (c = (code : Int)) then Chk.ok MR.success else Chk.ok MR.failed)
      = .ok (toMR (Match.codeMatch code b)) := by
  unfold Match.codeMatch
  rw [show decide (len b = 0) = decide (b.length = 0) from natCast_eq b.length 0 0 rfl]
  by_cases h : b.length = 0
  · simp only [h, decide_true, if_true]; rfl
  · simp only [h, decide_false, Bool.false_eq_true, if_false, idx_nat b 0 0 rfl (by omega), Chk.bind, natCast_eq _ _ code rfl,
      decide_eq_true_eq]
    split <;> rfl

theorem bolt_eq (b : List UInt8) : viaFactory bolt_matcher b = .ok (toMR (Match.boltMatch b)) :=
  viaFactory_ok (codeMatcher_eq 1 b)

theorem boltv2_eq (b : List UInt8) : viaFactory boltv2_matcher b = .ok (toMR (Match.boltv2Match b)) :=
  viaFactory_ok (codeMatcher_eq 2 b)

/-- `dubboMatcher` / `thriftMatcher`: wait for `minLen` bytes, then `bytes.Compare(data[lo:hi], tag)` — against
`nats (…) = tag` of the model -/
theorem magicMatcher_eq (b : List UInt8) (minLen lo hi : Nat) (tag : List UInt8) (tagN : List Nat)
    (ht : Match.nats tag = tagN) (hlo : lo ≤ hi) (hhi : hi ≤ minLen) :
    (if decide (len b < (minLen : Int)) then Chk.ok MR.again else
      Chk.bind (slc b lo hi) fun t => if decide (bytesCompare t tag ≠ 0) then Chk.ok MR.failed else Chk.ok MR.success)
      = .ok (toMR (if b.length < minLen then .again
          else if Match.nats ((b.take hi).drop lo) ≠ tagN then .failed else .success)) := by
  have hiff : bytesCompare ((b.take hi).drop lo) tag = 0 ↔ Match.nats ((b.take hi).drop lo) = tagN := by
    simp only [bytesCompare, cmpBytes_eq_zero, ← ht, nats_inj]
  rw [len_lt b _ minLen rfl]
  by_cases h : b.length < minLen
  · simp only [h, decide_true, if_true]; rfl
  · simp only [h, decide_false, Bool.false_eq_true, if_false, slc_nat b _ _ lo hi rfl rfl hlo (by omega), Chk.bind, ne_eq, hiff,
      decide_eq_true_eq]
    split <;> rfl

theorem dubbo_eq (b : List UInt8) : viaFactory dubbo_matcher b = .ok (toMR (Match.dubboMatch b)) :=
  viaFactory_ok (magicMatcher_eq b 16 0 2 _ _ (by decide) (by omega) (by omega))

theorem thrift_eq (b : List UInt8) : viaFactory thrift_matcher b = .ok (toMR (Match.thriftMatch b)) :=
  viaFactory_ok (magicMatcher_eq b 6 4 6 _ _ (by decide) (by omega) (by omega))

theorem preface_nats : Match.nats http2_ClientPreface = http2_preface := by decide

/-- the comparison both branches of the HTTP/2 `ProtocolMatch` end in: the first `n` peeked bytes against the first `n`
bytes of the client preface -/
theorem prefaceCmp_eq (b : List UInt8) (n : Nat) (hn : n ≤ b.length) (hp : n ≤ 24) (again : Bool) :
    mapErr ((slc b 0 n).bind fun a => (slc http2_ClientPreface 0 n).bind fun c =>
      if bytesEqual a c then (if again then Chk.ok Err.again else Chk.ok Err.nil) else Chk.ok Err.failed)
      = .ok (toMR (if Match.nats (b.take n) = http2_preface.take n then (if again then .again else .success) else .failed)) := by
  have hiff : b.take n = http2_ClientPreface.take n ↔ Match.nats (b.take n) = http2_preface.take n := by
    rw [← preface_nats, show (Match.nats http2_ClientPreface).take n = Match.nats (http2_ClientPreface.take n) by
      simp [Match.nats, List.map_take], nats_inj]
  simp only [mapErr, slc_nat b 0 _ 0 n rfl rfl (by omega) hn, slc_nat http2_ClientPreface 0 _ 0 n rfl rfl (by omega) hp, Chk.bind,
    List.drop_zero, bytesEqual, hiff, decide_eq_true_eq]
  by_cases hx : Match.nats (b.take n) = http2_preface.take n <;> cases again <;> simp [hx, toMR, errToMR]

theorem http2_eq (b : List UInt8) : mapErr (http2_matcher b) = .ok (toMR (Match.http2Match b)) := by
  have hpl : http2_preface.length = 24 := by decide
  unfold http2_matcher http2_StreamConnFactory_ProtocolMatch Match.http2Match
  simp only [show len http2_ClientPreface = ((24:Nat):Int) by decide, hpl]
  by_cases h : b.length ≥ 24
  · have h1 : len b ≥ ((24:Nat):Int) := by simp [len]; omega
    simp only [h, h1, decide_true, if_true]
    exact prefaceCmp_eq b 24 h (Nat.le_refl _) false
  · have h1 : ¬ len b ≥ ((24:Nat):Int) := by simp [len]; omega
    simp only [h, h1, decide_false, if_false, Bool.false_eq_true]
    exact prefaceCmp_eq b b.length (Nat.le_refl _) (by omega) true

theorem beNat_same (s : List UInt8) : CheckedGo.beNat s = FrameBytes.beNat s := rfl

/-- TarsGo `TarsRequest` against the model's `tarsRequest` -/
theorem tarsRequest_eq (b : List UInt8) : tars_TarsRequest b = .ok (match Match.tarsRequest b with
    | .less => (0, 0) | .error => (0, 2) | .full => ((be b 0 4 : Nat), 1)) := by
  unfold tars_TarsRequest Match.tarsRequest
  simp only [tars_lenFieldSize, tars_minPackageLength, tars_maxPackageLength]
  rw [len_lt b 4 4 rfl]
  by_cases h : b.length < 4
  · simp [h]
  · have hv : beU 4 (b.take 4) = .ok ((be b 0 4 : Nat) : Int) := by
      have hl : (4:Int) ≤ len (b.take 4) := by simp [len]; omega
      simp [beU, hl, beVal, be, beNat_same, List.take_take]
    -- every guard of the program becomes the guard of the model
    simp only [h, decide_false, Bool.false_eq_true, if_false, slc_nat b 0 4 0 4 rfl rfl (by omega) (by omega), List.drop_zero,
      Chk.bind, hv, len_lt b _ (be b 0 4) rfl, natCast_lt _ 4 4 rfl, natCast_gt _ 10485760 10485760 rfl, Bool.or_eq_true,
      decide_eq_true_eq]
    by_cases h1 : be b 0 4 < 4 ∨ be b 0 4 > 10485760
    · simp only [h1, if_true]
    · by_cases h2 : b.length < be b 0 4 <;> simp only [h1, h2, if_true, if_false]

theorem tars_eq (b : List UInt8) : viaFactory tars_matcher b = .ok (toMR (Match.tarsMatch b)) := by
  refine viaFactory_ok ?_
  unfold tars_matcher tars_tarsMatcher Match.tarsMatch
  simp only [tars_matchMinLen, tars_IVersionHeaderIdx, tars_iVersionDataIdx, tars_versionOk]
  rw [len_lt b 6 6 rfl]
  by_cases h : b.length < 6
  · simp [h, toMR]
  · simp only [h, decide_false, Bool.false_eq_true, if_false, idx_nat b 4 4 rfl (by omega), idx_nat b 5 5 rfl (by omega), Chk.bind,
      natCast_eq _ 16 16 rfl, natCast_eq _ 1 1 rfl, natCast_eq _ 3 3 rfl, tarsRequest_eq]
    by_cases v4 : u8 b 4 = 16
    · by_cases v1 : u8 b 5 = 1
      · cases Match.tarsRequest b <;> simp [v4, v1, toMR]
      · by_cases v3 : u8 b 5 = 3
        · cases Match.tarsRequest b <;> simp [v4, v3, toMR]
        · simp [v4, v1, v3, toMR]
    · simp [v4, toMR]

theorem methods_nats : http_methods = http1_httpMethod.map Match.nats := by decide

theorem contains_nats (l : List (List UInt8)) (t : List UInt8) :
    (l.map Match.nats).contains (Match.nats t) = l.contains t := by
  rw [List.contains_map, List.contains_eq_any_beq]
  congr 1
  funext a
  rw [Bool.eq_iff_iff, beq_iff_eq, beq_iff_eq, nats_inj]

theorem range_any_from (P : Nat → Bool) (lo n : Nat) :
    (List.range (lo + n)).any (fun j => decide (lo ≤ j) && P j) = (List.range' lo n).any P := by
  rw [Bool.eq_iff_iff, List.any_eq_true, List.any_eq_true]
  simp only [List.mem_range, List.mem_range'_1, Bool.and_eq_true, decide_eq_true_eq]
  exact ⟨fun ⟨j, h1, h2, h3⟩ => ⟨j, ⟨h2, h1⟩, h3⟩, fun ⟨j, ⟨h1, h2⟩, h3⟩ => ⟨j, h2, h1, h3⟩⟩

/-- the body of the method-search loop of the HTTP/1 `ProtocolMatch` -/
def h1body (b : List UInt8) : Int → (Unit → Chk Err) → Chk Err :=
  fun i cn => (slc b 0 i).bind fun t => if mapHas http1_httpMethod t = true then Chk.ok Err.nil else cn ()

theorem h1body_eq (b : List UInt8) (i : Nat) (hi : i ≤ b.length) (cn : Unit → Chk Err) :
    h1body b (i : Int) cn = if http1_httpMethod.contains (b.take i) = true then Chk.ok Err.nil else cn () := by
  simp only [h1body, slc_nat b 0 _ 0 i rfl rfl (Nat.zero_le i) hi, Chk.bind, List.drop_zero, mapHas]
  rfl

theorem go_search (b : List UInt8) (after : Unit → Chk Err) : ∀ (n i : Nat), i + n ≤ b.length + 1 →
    forRange.go (h1body b) after n (i : Int) =
    if (List.range' i n).any (fun j => http1_httpMethod.contains (b.take j)) = true then Chk.ok Err.nil else after () := by
  intro n
  induction n with
  | zero => intro i _; simp [forRange.go]
  | succ k ih =>
    intro i hi
    rw [forRange.go, h1body_eq b i (by omega), show ((i:Int) + 1) = ((i + 1 : Nat) : Int) by omega, ih (i + 1) (by omega)]
    simp only [List.range'_succ, List.any_cons, Bool.or_eq_true]
    by_cases hx : http1_httpMethod.contains (b.take i) = true
    · rw [if_pos hx, if_pos (Or.inl hx)]
    · simp only [hx, Bool.false_eq_true, false_or, if_false]

theorem http1_eq (b : List UInt8) : mapErr (http1_matcher b) = .ok (toMR (Match.http1Match b)) := by
  unfold mapErr http1_matcher http1_StreamConnFactory_ProtocolMatch Match.http1Match
  simp only [http_minMethodLen, http_maxMethodLen]
  rw [len_lt b 3 3 rfl, len_gt b 7 7 rfl]
  by_cases h : b.length < 3
  · simp [h, Chk.bind, toMR, errToMR]
  · simp only [h, decide_false, if_false, Bool.false_eq_true]
    -- the search up to `size` (7, or all that is there)
    have key : ∀ size : Nat, 3 ≤ size → size ≤ b.length →
        (forRange 3 ((size : Int) + 1) (h1body b)
            (fun _ => if decide ((size : Int) < 7) = true then Chk.ok Err.again else Chk.ok Err.failed)).bind
          (fun e => Chk.ok (errToMR e)) =
        Chk.ok (toMR (if (List.range (size + 1)).any (fun i => decide (3 ≤ i) && http_methods.contains (Match.nats (b.take i))) = true
          then Match.MR.success else if size < 7 then Match.MR.again else Match.MR.failed)) := by
      intro size h3 hs
      unfold forRange
      have hn : ((size : Int) + 1 - 3).toNat = size + 1 - 3 := by omega
      rw [hn, show (3:Int) = ((3:Nat):Int) from rfl, go_search b _ (size + 1 - 3) 3 (by omega)]
      have hr := range_any_from (fun j => http1_httpMethod.contains (b.take j)) 3 (size + 1 - 3)
      rw [show 3 + (size + 1 - 3) = size + 1 from by omega] at hr
      have hm : ∀ i, http_methods.contains (Match.nats (b.take i)) = http1_httpMethod.contains (b.take i) := by
        intro i; rw [methods_nats, contains_nats]
      simp only [hm, hr, natCast_lt size 7 7 rfl, decide_eq_true_eq]
      by_cases ha : (List.range' 3 (size + 1 - 3)).any (fun j => http1_httpMethod.contains (b.take j)) = true
      · simp only [ha, if_true]; rfl
      · by_cases h7 : size < 7 <;> simp only [ha, h7, if_true, if_false] <;> rfl
    by_cases h7 : b.length > 7
    · simp only [h7, decide_true, if_true]
      exact key 7 (by omega) (by omega)
    · simp only [h7, decide_false, if_false, Bool.false_eq_true]
      exact key b.length (by omega) (Nat.le_refl _)

def fromMR : MR → Match.MR
  | .again => .again
  | .success => .success
  | .failed => .failed

theorem fromMR_toMR (r : Match.MR) : fromMR (toMR r) = r := by cases r <;> rfl

/-- the value of a checked computation that is known not to panic (`failed` stands in for the impossible `oob`) -/
def valueOf : Chk MR → MR
  | .ok r => r
  | .oob => .failed

/-- the REGENERATED matcher of a protocol as a total function into C07's result type -/
def genMatcherOf (name : String) : Option (List UInt8 → Match.MR) :=
  (matcherOf name).map (fun g b => fromMR (valueOf (g b)))

/-- the scope of a listener over the REGENERATED matchers (`Match.scopeOf` over `genMatcherOf`) -/
def genScopeOf (names : List String) : List (String × (List UInt8 → Match.MR)) :=
  names.filterMap (fun n => (genMatcherOf n).map (fun m => (n, m)))

/-- **the regenerated matchers ARE the matcher model of C07**: a registered name is registered there too, and on every
byte string the regenerated program answers what the model's matcher answers -/
theorem gen_ok (name : String) (g : List UInt8 → Chk MR) (hg : matcherOf name = some g) :
    ∃ m, Match.matcherOf name = some m ∧ ∀ b, g b = .ok (toMR (m b)) := by
  unfold matcherOf at hg
  split at hg <;> simp only [Option.some.injEq, reduceCtorEq] at hg <;> subst hg
  · exact ⟨_, rfl, bolt_eq⟩
  · exact ⟨_, rfl, boltv2_eq⟩
  · exact ⟨_, rfl, dubbo_eq⟩
  · exact ⟨_, rfl, thrift_eq⟩
  · exact ⟨_, rfl, tars_eq⟩
  · exact ⟨_, rfl, http1_eq⟩
  · exact ⟨_, rfl, http2_eq⟩

theorem gen_eq (name : String) (g : List UInt8 → Chk MR) (m : List UInt8 → Match.MR)
    (hg : matcherOf name = some g) (hm : Match.matcherOf name = some m) (b : List UInt8) : g b = .ok (toMR (m b)) := by
  obtain ⟨m', hm', h⟩ := gen_ok name g hg
  cases hm.symm.trans hm'
  exact h b

theorem registered_of_model (name : String) (m : List UInt8 → Match.MR) (hm : Match.matcherOf name = some m) :
    (matcherOf name).isSome = true := by
  unfold Match.matcherOf at hm
  split at hm
  case h_8 => cases hm
  all_goals rfl

theorem genMatcherOf_eq (name : String) : genMatcherOf name = Match.matcherOf name := by
  unfold genMatcherOf
  cases hg : matcherOf name with
  | none =>
    cases hm : Match.matcherOf name with
    | none => rfl
    | some m => simpa [hg] using registered_of_model name m hm
  | some g =>
    obtain ⟨m, hm, h⟩ := gen_ok name g hg
    rw [hm, Option.map_some]
    congr 1
    funext b
    rw [h b]
    exact fromMR_toMR _

theorem genScopeOf_eq (names : List String) : genScopeOf names = Match.scopeOf names := by
  unfold genScopeOf Match.scopeOf
  simp only [genMatcherOf_eq]

end MosnVerif.Lemmas.CheckedMatchEq