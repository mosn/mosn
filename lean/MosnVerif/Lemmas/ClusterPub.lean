import MosnVerif.Model.ClusterPub
import MosnVerif.Lemmas.Threads
/-! Publication order in the cluster manager: under every schedule a lookup sees a host set that was supplied. -/
namespace MosnVerif.Model.ClusterPub
open MosnVerif.Gen.ClusterPub MosnVerif.Lemmas.Threads MosnVerif.Lemmas.Fold

/-- the cluster object at `a` carries a host set that exists (never the unfilled one). -/
def Good (m : Mgr) (a : Nat) : Prop := ∃ v, m.cl a = some v ∧ v ∈ m.supplied

def UOk (m : Mgr) (u : UT) : Prop :=
  (∀ a, u.nc = some a → a < m.next) ∧ (∀ b, u.oc = some b → b < m.next ∧ Good m b) ∧
  (∀ v, u.ns = some v → v ∈ m.supplied) ∧
  ∃ k : Chk, okFrom k u.todo = true ∧ (k.hasNc = true → u.nc.isSome = true) ∧
    (k.ncFilled = true → ∃ a, u.nc = some a ∧ Good m a) ∧
    (k.hasOc = true → u.oc.isSome = true) ∧ (k.built = true → u.ns.isSome = true)

def ThreadOk (m : Mgr) : Thread → Prop
  | .rd .start => True
  | .rd (.gotCluster a) => a < m.next ∧ Good m a
  | .rd (.done r) => ∃ v, r = some v ∧ v ∈ m.supplied
  | .upd u => UOk m u

def MapOk (m : Mgr) : Prop := m.map < m.next ∧ Good m m.map

structure Inv (c : Conf) : Prop where
  map : MapOk c.m
  thr : ∀ t, ThreadOk c.m (c.threads t)

/-- the manager only grows: allocated clusters stay allocated, filled clusters stay filled, host sets stay. -/
def Ext (m m' : Mgr) : Prop :=
  m.next ≤ m'.next ∧ (∀ a, a < m.next → Good m a → Good m' a) ∧ (∀ v, v ∈ m.supplied → v ∈ m'.supplied)

theorem ext_refl (m : Mgr) : Ext m m := ⟨Nat.le_refl _, fun _ _ h => h, fun _ h => h⟩

theorem ext_write (m : Mgr) (t : Nat) (x : Option Nat) (hx : ∃ v, x = some v ∧ v ∈ m.supplied) :
    Ext m { m with cl := setCl m.cl t x } := by
  refine ⟨Nat.le_refl _, ?_, fun _ h => h⟩
  intro a _ hg
  by_cases h : a = t
  · obtain ⟨v, rfl, hv⟩ := hx
    exact ⟨v, by simp [setCl, h], hv⟩
  · obtain ⟨v, h1, h2⟩ := hg
    exact ⟨v, by simp [setCl, h, h1], h2⟩

theorem good_write (m : Mgr) (t v : Nat) (hv : v ∈ m.supplied) : Good { m with cl := setCl m.cl t (some v) } t :=
  ⟨v, by simp [setCl], hv⟩

theorem ext_alloc (m : Mgr) : Ext m { m with cl := setCl m.cl m.next none, next := m.next + 1 } := by
  refine ⟨Nat.le_succ _, ?_, fun _ h => h⟩
  intro a ha hg
  obtain ⟨v, h1, h2⟩ := hg
  have : a ≠ m.next := by omega
  exact ⟨v, by simp [setCl, this, h1], h2⟩

theorem ext_supply (m : Mgr) (v : Nat) : Ext m { m with supplied := m.supplied ++ [v] } := by
  refine ⟨Nat.le_refl _, ?_, fun _ h => List.mem_append_left _ h⟩
  intro a _ hg
  obtain ⟨w, h1, h2⟩ := hg
  exact ⟨w, h1, List.mem_append_left _ h2⟩

theorem ext_map (m : Mgr) (a : Nat) : Ext m { m with map := a } :=
  ⟨Nat.le_refl _, fun _ _ h => h, fun _ h => h⟩

theorem filled_mono {m m' : Mgr} (e : Ext m m') {u : UT} (h1 : ∀ a, u.nc = some a → a < m.next) {f : Bool}
    (k2 : f = true → ∃ a, u.nc = some a ∧ Good m a) : f = true → ∃ a, u.nc = some a ∧ Good m' a := by
  intro hf
  obtain ⟨a, ha, hg⟩ := k2 hf
  exact ⟨a, ha, e.2.1 a (h1 a ha) hg⟩

theorem uok_mono {m m' : Mgr} (e : Ext m m') {u : UT} (h : UOk m u) : UOk m' u := by
  obtain ⟨h1, h2, h3, k, hk, k1, k2, k3, k4⟩ := h
  refine ⟨fun a ha => Nat.lt_of_lt_of_le (h1 a ha) e.1, ?_, fun v hv => e.2.2 v (h3 v hv), k, hk, k1,
    filled_mono e h1 k2, k3, k4⟩
  intro b hb
  exact ⟨Nat.lt_of_lt_of_le (h2 b hb).1 e.1, e.2.1 b (h2 b hb).1 (h2 b hb).2⟩

theorem threadOk_mono {m m' : Mgr} (e : Ext m m') (th : Thread) (h : ThreadOk m th) : ThreadOk m' th := by
  cases th with
  | upd u => exact uok_mono e h
  | rd st =>
    cases st with
    | start => trivial
    | gotCluster a => exact ⟨Nat.lt_of_lt_of_le h.1 e.1, e.2.1 a h.1 h.2⟩
    | done r =>
      obtain ⟨v, h1, h2⟩ := h
      exact ⟨v, h1, e.2.2 v h2⟩

theorem mapOk_mono {m m' : Mgr} (e : Ext m m') (hm : m'.map = m.map) (h : MapOk m) : MapOk m' := by
  unfold MapOk
  rw [hm]
  exact ⟨Nat.lt_of_lt_of_le h.1 e.1, e.2.1 _ h.1 h.2⟩

theorem stepUpd_inherit (m : Mgr) {u : UT} (r : List CStep) {n o : Nat} (hn : u.nc = some n) (ho : u.oc = some o) :
    stepUpd m u .inherit r = ({ m with cl := setCl m.cl n (m.cl o) }, { u with todo := r }) := by
  simp only [stepUpd, hn, ho]

theorem stepUpd_storeNew (m : Mgr) {u : UT} (r : List CStep) {n : Nat} (hn : u.nc = some n) :
    stepUpd m u .storeNew r = ({ m with map := n }, { u with todo := r }) := by
  simp only [stepUpd, hn]

theorem stepUpd_publish (m : Mgr) {u : UT} (r : List CStep) {t : Nat} (h : target u = some t) :
    stepUpd m u .publish r = ({ m with cl := setCl m.cl t u.ns }, { u with todo := r }) := by
  simp only [stepUpd, h]

theorem stepUpd_ok (m : Mgr) (u : UT) (a : CStep) (r : List CStep) (hm : MapOk m) (hu : UOk m u)
    (ht : u.todo = a :: r) :
    Ext m (stepUpd m u a r).1 ∧ MapOk (stepUpd m u a r).1 ∧ UOk (stepUpd m u a r).1 (stepUpd m u a r).2 := by
  have hu0 := hu
  obtain ⟨h1, h2, h3, k, hk, k1, k2, k3, k4⟩ := hu
  rw [ht] at hk
  -- what the order check says at the head step; it refuses four of the steps
  cases a <;> simp only [okFrom, Bool.and_eq_true, Bool.false_eq_true] at hk
  -- in every arm the manager grows (`e`), so the updater's facts hold of the new manager (`uok_mono e hu0`), and the
  -- step changes one of them
  case newCluster =>
    have e := ext_alloc m
    obtain ⟨_, b2, b3, _⟩ := uok_mono e hu0
    refine ⟨e, mapOk_mono e rfl hm, ?_, b2, b3, _, hk, fun _ => rfl, ?_, k3, k4⟩
    · intro a ha
      cases ha
      exact Nat.lt_succ_self _
    · intro hf
      cases hf
  case loadOld | loadCur =>
    refine ⟨ext_refl m, hm, h1, ?_, h3, _, hk, k1, k2, fun _ => rfl, k4⟩
    intro b hb
    cases hb
    exact hm
  case inherit =>
    obtain ⟨⟨hn, ho⟩, hr⟩ := hk
    obtain ⟨n, hn'⟩ := Option.isSome_iff_exists.mp (k1 hn)
    obtain ⟨o, ho'⟩ := Option.isSome_iff_exists.mp (k3 ho)
    obtain ⟨w, hw1, hw2⟩ := (h2 o ho').2
    have e := ext_write m n (m.cl o) ⟨w, hw1, hw2⟩
    obtain ⟨b1, b2, b3, _⟩ := uok_mono e hu0
    rw [stepUpd_inherit m r hn' ho']
    refine ⟨e, mapOk_mono e rfl hm, b1, b2, b3, _, hr, k1, fun _ => ⟨n, hn', ?_⟩, k3, k4⟩
    rw [hw1]
    exact good_write m n w hw2
  case build =>
    have e := ext_supply m u.v
    obtain ⟨b1, b2, _, _⟩ := uok_mono e hu0
    refine ⟨e, mapOk_mono e rfl hm, b1, b2, ?_, _, hk, k1, filled_mono e h1 k2, k3, fun _ => rfl⟩
    intro v hv
    cases hv
    exact List.mem_append_right _ (List.mem_singleton.mpr rfl)
  case publish =>
    obtain ⟨hb, hrest⟩ := hk
    obtain ⟨w, hw⟩ := Option.isSome_iff_exists.mp (k4 hb)
    have hws := h3 w hw
    cases hnc : k.hasNc with
    | true =>
      -- the built set goes into the new cluster, which is filled from now on
      simp only [hnc, if_true] at hrest
      obtain ⟨n, hn'⟩ := Option.isSome_iff_exists.mp (k1 hnc)
      have htg : target u = some n := by simp only [target, hn']
      have e := ext_write m n u.ns ⟨w, hw, hws⟩
      obtain ⟨b1, b2, b3, _⟩ := uok_mono e hu0
      rw [stepUpd_publish m r htg]
      refine ⟨e, mapOk_mono e rfl hm, b1, b2, b3, _, hrest, fun _ => k1 hnc, fun _ => ⟨n, hn', ?_⟩, k3, k4⟩
      rw [hw]
      exact good_write m n w hws
    | false =>
      simp only [hnc, Bool.false_eq_true, if_false, Bool.and_eq_true] at hrest
      cases htg : target u with
      | none =>
        simp only [stepUpd, htg]
        exact ⟨ext_refl m, hm, h1, h2, h3, k, hrest.2, k1, k2, k3, k4⟩
      | some t =>
        have e := ext_write m t u.ns ⟨w, hw, hws⟩
        obtain ⟨b1, b2, b3, _⟩ := uok_mono e hu0
        rw [stepUpd_publish m r htg]
        exact ⟨e, mapOk_mono e rfl hm, b1, b2, b3, k, hrest.2, k1, filled_mono e h1 k2, k3, k4⟩
  case storeNew =>
    obtain ⟨⟨hn, hf⟩, hr⟩ := hk
    obtain ⟨n, hn', hg⟩ := k2 hf
    rw [stepUpd_storeNew m r hn']
    exact ⟨ext_map m n, ⟨h1 n hn', hg⟩, h1, h2, h3, k, hr, k1, k2, k3, k4⟩
  case other => exact ⟨ext_refl m, hm, h1, h2, h3, k, hk, k1, k2, k3, k4⟩

theorem inv_step (c : Conf) (t : Nat) (I : Inv c) : Inv (step c t) := by
  unfold step
  have ht := I.thr t
  split
  · exact ⟨I.map, forall_set (fun _ h => h) I.thr t I.map⟩
  · rename_i a heq
    rw [heq] at ht
    exact ⟨I.map, forall_set (fun _ h => h) I.thr t ht.2⟩
  · exact I
  · rename_i u heq
    rw [heq] at ht
    split
    · exact I
    · rename_i a r htodo
      obtain ⟨e, hm, hu⟩ := stepUpd_ok c.m u a r I.map ht htodo
      exact ⟨hm, forall_set (threadOk_mono e) I.thr t hu⟩

theorem inv_run (sched : List Nat) (c : Conf) (I : Inv c) : Inv (run c sched) :=
  foldl_inv inv_step sched c I

theorem inv_init (prog : List CStep) (h : orderOk prog = true) (n : Nat) : Inv (initConf prog n) := by
  refine ⟨⟨by simp [initConf], 0, by simp [initConf], by simp [initConf]⟩, ?_⟩
  intro t
  simp only [initConf]
  split
  · exact ⟨by simp, by simp, by simp, {}, h, by simp, by simp, by simp, by simp⟩
  · trivial

def SupLe (n : Nat) : Thread → Prop
  | .upd u => u.v ≤ n
  | .rd _ => True

/-- ghost list of host sets: the initial one and the numbers of the updaters. -/
def SupBound (n : Nat) (c : Conf) : Prop := (∀ x ∈ c.m.supplied, x ≤ n) ∧ ∀ t, SupLe n (c.threads t)

theorem stepUpd_supplied (m : Mgr) (u : UT) (a : CStep) (r : List CStep) :
    (stepUpd m u a r).2.v = u.v ∧ ∀ x ∈ (stepUpd m u a r).1.supplied, x ∈ m.supplied ∨ x = u.v := by
  cases a <;> simp only [stepUpd] <;> (try split) <;> simp_all

theorem supBound_step (n : Nat) (c : Conf) (t : Nat) (B : SupBound n c) : SupBound n (step c t) := by
  obtain ⟨b1, b2⟩ := B
  have keep (v : Thread) (hv : SupLe n v) : ∀ u, SupLe n (setThread c.threads t v u) :=
    forall_set (fun _ h => h) b2 t hv
  unfold step
  have ht := b2 t
  split
  · exact ⟨b1, keep _ trivial⟩
  · exact ⟨b1, keep _ trivial⟩
  · exact ⟨b1, b2⟩
  · rename_i u heq
    rw [heq] at ht
    split
    · exact ⟨b1, b2⟩
    · rename_i a r _
      have hs := stepUpd_supplied c.m u a r
      refine ⟨?_, keep _ (Nat.le_trans (Nat.le_of_eq hs.1) ht)⟩
      intro x hx
      rcases hs.2 x hx with h | h
      · exact b1 x h
      · exact h ▸ ht

theorem supBound_run (n : Nat) (sched : List Nat) (c : Conf) (B : SupBound n c) : SupBound n (run c sched) :=
  foldl_inv (supBound_step n) sched c B

theorem supBound_init (prog : List CStep) (n : Nat) : SupBound n (initConf prog n) := by
  refine ⟨by simp [initConf], ?_⟩
  intro t
  simp only [initConf]
  split
  · rename_i h
    exact h.2
  · trivial

end MosnVerif.Model.ClusterPub
