import MosnVerif.Model.XHijack
/-! Every status name of the regenerated hijack tables resolves and fits the status field of its codec (`names_fit`, a finite
table), so a local reply always has a frame, and the frame carries the request id and a status that fits. -/
namespace MosnVerif.Lemmas.XHijack
open MosnVerif.Model.XHijack MosnVerif.Gen.XHijack

def fits (c : Codec) (n : String) : Bool := (resolve n).any (· < 2 ^ statusBits c)

theorem names_fit : ∀ c ∈ Codec.all, ∀ n ∈ dflt c :: (table c).map (·.2), fits c n = true := by
  decide +kernel

theorem statusName_mem (c : Codec) (code : Nat) : statusName c code ∈ dflt c :: (table c).map (·.2) := by
  unfold statusName
  cases h : (table c).lookup code with
  | none => exact List.mem_cons_self
  | some n =>
    obtain ⟨l₁, l₂, hl, _⟩ := List.lookup_eq_some_iff.mp h
    exact List.mem_cons_of_mem _ (List.mem_map.mpr ⟨(code, n), by rw [hl]; simp, rfl⟩)

theorem status_fits (c : Codec) (code : Nat) : ∃ v, status c code = some v ∧ v < 2 ^ statusBits c := by
  have h := names_fit c (by cases c <;> decide) _ (statusName_mem c code)
  unfold fits at h
  unfold status
  cases hr : resolve (statusName c code) with
  | none => rw [hr] at h; cases h
  | some v => rw [hr] at h; exact ⟨v, rfl, by simpa using h⟩

theorem status_isSome (c : Codec) (code : Nat) : (status c code).isSome = true := by
  obtain ⟨v, hv, _⟩ := status_fits c code
  rw [hv]; rfl

theorem status_bounded (c : Codec) (code v : Nat) (h : status c code = some v) : v < 2 ^ statusBits c := by
  obtain ⟨w, hw, hb⟩ := status_fits c code
  rw [hw] at h; cases h; exact hb

theorem hijackNil_false (c : Codec) : hijackNil c = false := by cases c <;> rfl

theorem wire_eq (c : Codec) (reqId code : Nat) :
    wire c reqId code = (status c (code % two32)).map (fun st => ⟨reqId, st⟩) := by
  have h1 : buildHijackViaMapping = true := rfl
  have h2 : endStreamNilGuard = true := rfl
  have h3 : endStreamWritesFrame = true := rfl
  have h4 : endStreamSetsRequestId = true := rfl
  simp only [wire, hijack, hijackWith, h1, h2, h3, h4, hijackNil_false, Bool.and_self, if_true]
  cases status c (code % two32) <;> simp

end MosnVerif.Lemmas.XHijack
