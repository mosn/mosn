import MosnVerif.Model.Dubbo
import MosnVerif.Model.EnvelopeRef
import MosnVerif.Lemmas.Bytes
/-! lemmas about the dubbo envelope model (core only) -/
namespace MosnVerif.Model.Dubbo
open MosnVerif.Model MosnVerif.Model.Bytes
open Gen.C01Dubbo

/-- what `decode` fixes about a frame it returns -/
theorem decode_frame {svcOK : Bytes → Bool} {b : Bytes} {f : Frame} {n : Nat} (h : decode svcOK b = .frame f n) :
    n = 16 + getBE b 12 16 ∧ n ≤ b.length ∧ 16 ≤ n ∧ n < 4294967296 ∧ f.raw = some (b.take n) ∧
    f.dataLen = getBE b 12 16 ∧ f.payload = (b.take n).drop 16 ∧ f.flag = getBE b 2 3 ∧ f.status = getBE b 3 4 ∧
    f.id = getBE b 4 12 ∧ f.magic0 = byteAt b 0 ∧ f.magic1 = byteAt b 1 ∧
    ((!isEvent f.flag && isRequest f.flag) = true → serializationId f.flag = 2 ∧ svcOK f.payload = true) := by
  unfold decode at h
  simp only [HeaderLen, DataLenIdx, DataLenSize, show 12 + 4 = 16 by rfl] at h
  obtain ⟨h1, h⟩ := if_pos_of_ne h nofun
  obtain ⟨h2, h⟩ := if_pos_of_ne h nofun
  unfold decodeFrame at h
  simp only [frameLen, HeaderLen, dec_DataLen, dec_Flag, dec_Status, dec_Id, dec_Magic] at h
  obtain ⟨h3, h⟩ := if_neg_of_ne h nofun
  obtain ⟨hmod, hlt⟩ : (16 + getBE b 12 16) % 2 ^ 32 = 16 + getBE b 12 16 ∧ 16 + getBE b 12 16 < 4294967296 := by
    rcases add_mod_wrap 16 _ (getBE_lt b 12 16) with hw | hw
    · exact hw
    · exact absurd hw h3
  simp only [hmod] at h
  obtain ⟨h4, h⟩ := if_neg_of_ne h nofun
  injection h with hf hn
  subst hf hn
  refine ⟨rfl, by omega, by omega, hlt, rfl, rfl, rfl, rfl, rfl, rfl, rfl, rfl, ?_⟩
  intro hreq
  simpa [hreq] using h4

theorem encode_fast {svcOK : Bytes → Bool} {b : Bytes} {f : Frame} {n : Nat} (h : decode svcOK b = .frame f n) (i : Nat) :
    encode (setId f i) = patch (b.take n) 4 (be 8 i) := by
  obtain ⟨_, _, _, _, hraw, _⟩ := decode_frame h
  unfold encode setId
  simp only [hraw, patchIndex, patchWidth, be_eight_mod]

theorem byteAt_lt (b : Bytes) (i : Nat) : byteAt b i < 256 := by
  unfold byteAt; exact UInt8.toNat_lt _

theorem encodeHeader_layout (m0 m1 fl st id dl : Nat) :
    encodeHeader m0 m1 fl st id dl = fields [1, 1, 1, 1, 8, 4] [m0, m1, fl, st, id, dl] := by
  simp only [encodeHeader, fields, List.headD, List.tail, List.append_assoc, List.append_nil]

theorem take4 (b : Bytes) (h : 4 ≤ b.length) :
    b.take 4 = be 1 (byteAt b 0) ++ be 1 (byteAt b 1) ++ be 1 (byteAt b 2) ++ be 1 (byteAt b 3) := by
  match b, h with
  | x0 :: x1 :: x2 :: x3 :: r, _ => simp [byteAt, be]

/-- the model's refusal test (not an event, a request, wrong serialization or unparsable payload) and the reference's are
the same Boolean function of the flag bits and the oracle -/
theorem refusal_eq (req ev ser ok : Bool) : (!ev && req && (!ser || !ok)) = (req && !ev && !(ser && ok)) := by
  cases req <;> cases ev <;> cases ser <;> cases ok <;> rfl

/-- the length of the frame a decode step returns -/
def accepted {α : Type} : Step α → Option Nat
  | .frame _ n => some n
  | _ => none

/-- what the reference calls a well-formed frame is exactly what the model's `Decode` accepts: the two guard ladders agree
rung by rung (a length that wraps in uint32 makes the model panic, and the reference refuses it) -/
theorem wellFormed_eq (ok : Bool) (b : Bytes) : EnvelopeRef.Dubbo.wellFormed b ok = accepted (decode (fun _ => ok) b) := by
  have hlt : getBE b 12 16 < 4294967296 := getBE_lt b 12 16
  unfold EnvelopeRef.Dubbo.wellFormed decode decodeFrame
  simp only [frameLen, HeaderLen, DataLenIdx, DataLenSize, dec_DataLen, dec_Flag, Nat.reduceAdd, ← getBE_one b 2]
  by_cases g1 : b.length < 16
  · simp only [g1, Nat.not_le.mpr g1, if_true, if_false]; rfl
  by_cases g2 : b.length < 16 + getBE b 12 16
  · simp only [g1, g2, Nat.not_lt.mp g1, Nat.not_le.mpr g2, if_true, if_false]; rfl
  by_cases g3 : 16 + getBE b 12 16 ≥ 4294967296
  · have : (16 + getBE b 12 16) % 2 ^ 32 < 16 := by omega
    simp only [g1, g2, g3, Nat.not_lt.mp g1, Nat.not_lt.mp g2, this, if_true, if_false]; rfl
  have hmod : (16 + getBE b 12 16) % 2 ^ 32 = 16 + getBE b 12 16 := by omega
  simp only [g1, g2, g3, Nat.not_lt.mp g1, Nat.not_lt.mp g2, hmod, Nat.not_lt.mpr (Nat.le_add_right 16 _), if_true, if_false]
  rw [← refusal_eq]
  simp only [isEvent, isRequest, serializationId, bne]
  by_cases hc : (!getBE b 2 3 / 32 % 2 == 1 && getBE b 2 3 / 128 % 2 == 1 && (!getBE b 2 3 % 32 == 2 || !ok)) = true
  · simp only [hc, if_true]; rfl
  · simp only [hc]; rfl

/-- the frame handed to `Encode`: body replaced or not -/
def withBody (f : Frame) : Option Bytes → Frame
  | none => f
  | some d => setData f d

/-- the model satisfies the dubbo reference predicate (header-map operations excluded: `Encode` forwards the original frame, KNOWN_FINDINGS.txt) -/
theorem holds_frame (ok : Bool) (inp : Bytes) (body : Option Bytes) (id : Nat)
    (hbody : ∀ d, body = some d → 16 + d.length < 4294967296)
    (f : Frame) (n : Nat) (h : decode (fun _ => ok) inp = .frame f n) :
    EnvelopeRef.Dubbo.holds inp ok { hdrOps := false, body := body } id true n
      (some (encode (setId (withBody f body) id))) = true := by
  obtain ⟨hn, hle, h16, _, _, _, _, hfl, hst, _, hm0, hm1, _⟩ := decode_frame h
  unfold EnvelopeRef.Dubbo.holds
  rw [wellFormed_eq, h]
  simp only [accepted, Bool.true_and, beq_self_eq_true, Bool.false_eq_true, if_false]
  cases body with
  | none =>
    simp only [withBody]
    rw [encode_fast h id]
    simp
  | some d =>
    have hd := hbody d rfl
    have hd' : d.length < 4294967296 := by omega
    simp only [withBody, hd', if_true]
    have hdm : d.length % 2 ^ 32 = d.length := Nat.mod_eq_of_lt (by omega)
    have hout : encode (setId (setData f d) id) = inp.take 4 ++ be 8 id ++ be 4 d.length ++ d := by
      rw [take4 inp (by omega)]
      simp only [encode, setId, setData, encodeHeader, hdm, be_eight_mod, hm0, hm1, hfl, hst,
        getBE_one inp 2, getBE_one inp 3, List.append_assoc]
    rw [hout]
    simp

theorem holds_noframe (ok : Bool) (inp : Bytes) (m : EnvelopeRef.Mods) (id : Nat)
    (h : ∀ f n, decode (fun _ => ok) inp ≠ .frame f n) (acc : Bool) (k : Nat) (out : Option Bytes) :
    EnvelopeRef.Dubbo.holds inp ok m id acc k out = true := by
  unfold EnvelopeRef.Dubbo.holds
  rw [wellFormed_eq]
  cases hd : decode (fun _ => ok) inp with
  | frame f n => exact absurd hd (h f n)
  | _ => rfl

end MosnVerif.Model.Dubbo
