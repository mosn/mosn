import MosnVerif.Model.TransferLookup
/-! Lemmas about the listener look-up of a handed-over connection. -/
namespace MosnVerif.Lemmas.TransferLookup
open MosnVerif.Model.TransferLookup MosnVerif.Gen.TransferLookup

theorem findMatches_iff (ln la n a : String) : findMatches ln la n a = true ↔ ln = n ∧ la = a := by
  simp [findMatches]

/-- a listener with that network and address exists: the look-up by address finds one with the same network and address -/
theorem findByAddress_of_mem (ls : List Lst) (L : Lst) (hm : L ∈ ls) :
    ∃ R, findByAddress ls L.network L.addr = some R :=
  Option.isSome_iff_exists.1 (List.find?_isSome.2 ⟨L, hm, (findMatches_iff _ _ _ _).2 ⟨rfl, rfl⟩⟩)

theorem findByAddress_some (ls : List Lst) (n a : String) (R : Lst) (h : findByAddress ls n a = some R) :
    R ∈ ls ∧ R.network = n ∧ R.addr = a := by
  have := List.find?_some h
  exact ⟨List.mem_of_find?_eq_some h, (findMatches_iff _ _ _ _).1 this⟩

/-- whatever the rule: a found listener is a member, has the connection's network and one of the rule's addresses -/
theorem findWith_some (rule : Rule) (ls : List Lst) (a : Local) (R : Lst) (h : findWith rule ls a = some R) :
    R ∈ ls ∧ R.network = a.network ∧ R.addr ∈ rule a := by
  obtain ⟨s, hs, hf⟩ := List.exists_of_findSome?_eq_some h
  obtain ⟨h1, h2, h3⟩ := findByAddress_some ls a.network s R hf
  exact ⟨h1, h2, h3 ▸ hs⟩

/-- whatever the rule: if one of its addresses is the address of a listener of the connection's network, something is found -/
theorem findWith_isSome (rule : Rule) (ls : List Lst) (a : Local) (L : Lst) (hm : L ∈ ls) (hn : L.network = a.network)
    (hc : L.addr ∈ rule a) : ∃ R, findWith rule ls a = some R := by
  obtain ⟨R, hR⟩ := findByAddress_of_mem ls L hm
  exact Option.isSome_iff_exists.1 (List.findSome?_isSome_iff.2 ⟨L.addr, hc, by rw [← hn, hR]; rfl⟩)

/-- the regenerated rule tries exactly the addresses a listener that accepts such a connection can have -/
theorem mem_candidates (a : Local) (s : String) :
    s ∈ candidates a ↔ s = a.str ∨ (a.unix = false ∧ (s = v4wild a ∨ s = v6wild a)) := by
  unfold candidates
  cases a.unix <;> simp [unixCandidates, tcpCandidates, v4wild, v6wild]

/-- the connection's own address is the FIRST address tried -/
theorem candidates_head (a : Local) : ∃ tl, candidates a = a.str :: tl := by
  unfold candidates
  cases a.unix <;> simp [unixCandidates, tcpCandidates]

end MosnVerif.Lemmas.TransferLookup
