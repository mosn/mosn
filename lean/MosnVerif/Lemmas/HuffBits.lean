import MosnVerif.Model.HuffTree
/-!
Bit strings of numbers (`Model.Huffman.bitsOf`, most significant bit first): append / take / drop / prefix / all-ones
in terms of `/ 2^n` and `% 2^n`.
-/
namespace MosnVerif.Lemmas.HuffBits
open MosnVerif.Model.Huffman

theorem bitsOf_zero (v : Nat) : bitsOf v 0 = [] := rfl

theorem bit_eq (v n : Nat) : ((v >>> n) % 2 == 1) = v.testBit n := by
  rw [Nat.testBit_eq_decide_div_mod_eq, Nat.shiftRight_eq_div_pow]
  cases h : decide (v / 2 ^ n % 2 = 1) <;> simp_all

theorem bitsOf_succ (v n : Nat) : bitsOf v (n + 1) = v.testBit n :: bitsOf v n := by
  unfold bitsOf
  rw [List.range_succ_eq_map, List.map_cons, List.map_map]
  congr 1
  · rw [← bit_eq]; simp
  · apply List.map_congr_left
    intro k _
    simp only [Function.comp]
    have : n + 1 - 1 - (k + 1) = n - 1 - k := by omega
    rw [show Nat.succ k = k + 1 from rfl, this]

@[simp] theorem length_bitsOf (v n : Nat) : (bitsOf v n).length = n := by simp [bitsOf]

theorem bitsOf_congr (a b n : Nat) (h : a % 2 ^ n = b % 2 ^ n) : bitsOf a n = bitsOf b n := by
  simp only [bitsOf, bit_eq]
  refine List.map_congr_left fun k hk => ?_
  have hk : decide (n - 1 - k < n) = true := by have := List.mem_range.1 hk; simp; omega
  have e (x : Nat) : x.testBit (n - 1 - k) = (x % 2 ^ n).testBit (n - 1 - k) := by
    rw [Nat.testBit_mod_two_pow, hk, Bool.true_and]
  rw [e a, e b, h]

theorem bitsOf_mod (v n m : Nat) (h : n ≤ m) : bitsOf (v % 2 ^ m) n = bitsOf v n := by
  apply bitsOf_congr
  rw [Nat.mod_mod_of_dvd _ (Nat.pow_dvd_pow 2 h)]

theorem bitsOf_add (v m n : Nat) : bitsOf v (m + n) = bitsOf (v / 2 ^ n) m ++ bitsOf v n := by
  induction m with
  | zero => simp [bitsOf_zero]
  | succ m ih =>
    rw [show m + 1 + n = (m + n) + 1 by omega, bitsOf_succ, bitsOf_succ, ih, List.cons_append]
    congr 1
    rw [Nat.testBit_div_two_pow, Nat.add_comm]

theorem bitsOf_mul_add (a b m n : Nat) (hb : b < 2 ^ n) : bitsOf (a * 2 ^ n + b) (m + n) = bitsOf a m ++ bitsOf b n := by
  rw [bitsOf_add]
  congr 1
  · rw [Nat.add_comm, Nat.add_mul_div_right _ _ (Nat.two_pow_pos n), Nat.div_eq_of_lt hb, Nat.zero_add]
  · apply bitsOf_congr
    rw [Nat.add_comm, Nat.add_mul_mod_self_right]

theorem take_bitsOf (v m n : Nat) : (bitsOf v (m + n)).take m = bitsOf (v / 2 ^ n) m := by
  rw [bitsOf_add, List.take_left' (length_bitsOf _ _)]

theorem drop_bitsOf (v m n : Nat) : (bitsOf v (m + n)).drop m = bitsOf v n := by
  rw [bitsOf_add, List.drop_left' (length_bitsOf _ _)]

/-- bits back to the number -/
def val (l : List Bool) : Nat := l.foldl (fun a b => 2 * a + (if b then 1 else 0)) 0

theorem val_foldl (l : List Bool) (a : Nat) :
    l.foldl (fun a b => 2 * a + (if b then 1 else 0)) a = a * 2 ^ l.length + val l := by
  induction l generalizing a with
  | nil => simp [val]
  | cons b r ih =>
    simp only [List.foldl_cons, List.length_cons, val]
    rw [ih, ih (2 * 0 + _)]
    rw [Nat.pow_succ]
    simp only [Nat.add_mul, Nat.mul_assoc, Nat.mul_comm]
    omega

theorem val_cons (b : Bool) (l : List Bool) : val (b :: l) = (if b then 1 else 0) * 2 ^ l.length + val l := by
  simp only [val, List.foldl_cons]
  rw [val_foldl]
  simp [val]

theorem val_lt (l : List Bool) : val l < 2 ^ l.length := by
  induction l with
  | nil => simp [val]
  | cons b r ih =>
    rw [val_cons, List.length_cons, Nat.pow_succ]
    split <;> omega

theorem bitsOf_val (l : List Bool) : bitsOf (val l) l.length = l := by
  induction l with
  | nil => rfl
  | cons b r ih =>
    rw [val_cons, List.length_cons, Nat.add_comm r.length 1, bitsOf_mul_add _ _ 1 _ (val_lt r), ih]
    cases b <;> rfl

theorem val_bitsOf (v n : Nat) : val (bitsOf v n) = v % 2 ^ n := by
  induction n with
  | zero => simp [bitsOf_zero, val, Nat.mod_one]
  | succ n ih =>
    rw [bitsOf_succ, val_cons, length_bitsOf, ih]
    have h := Nat.mod_pow_succ (x := v) (b := 2) (k := n)
    rw [h, Nat.testBit_eq_decide_div_mod_eq]
    by_cases c : v / 2 ^ n % 2 = 1
    · simp [c, Nat.mul_comm, Nat.add_comm]
    · have : v / 2 ^ n % 2 = 0 := by omega
      simp [this]

theorem bitsOf_inj (a b n : Nat) (h : bitsOf a n = bitsOf b n) : a % 2 ^ n = b % 2 ^ n := by
  rw [← val_bitsOf, ← val_bitsOf, h]

theorem eq_bitsOf (l : List Bool) : l = bitsOf (val l) l.length := (bitsOf_val l).symm

theorem bitsOf_replicate_true (n : Nat) : bitsOf (2 ^ n - 1) n = List.replicate n true := by
  simp only [bitsOf, bit_eq, Nat.testBit_two_pow_sub_one]
  refine List.eq_replicate_iff.2 ⟨by simp, fun b hb => ?_⟩
  obtain ⟨k, hk, rfl⟩ := List.mem_map.1 hb
  have := List.mem_range.1 hk
  simp; omega

theorem bitsOf_replicate_false (n : Nat) : bitsOf 0 n = List.replicate n false := by
  simp [bitsOf, List.map_const']

/-- all ones: the bit string of `2 ^ n - 1` -/
theorem bitsOf_all_true (v n : Nat) : (bitsOf v n).all id = true ↔ v % 2 ^ n = 2 ^ n - 1 := by
  have hr : (bitsOf v n).all id = true ↔ bitsOf v n = bitsOf (2 ^ n - 1) n := by
    rw [bitsOf_replicate_true, List.eq_replicate_iff]; simp
  have hm : (2 ^ n - 1) % 2 ^ n = 2 ^ n - 1 := Nat.mod_eq_of_lt (Nat.sub_one_lt (Nat.ne_of_gt (Nat.two_pow_pos n)))
  exact hr.trans ⟨fun h => hm ▸ bitsOf_inj _ _ _ h, fun h => bitsOf_congr _ _ _ (h.trans hm.symm)⟩

theorem prefix_iff (a b m n : Nat) : bitsOf a m <+: bitsOf b (m + n) ↔ a % 2 ^ m = b / 2 ^ n % 2 ^ m := by
  rw [bitsOf_add]
  constructor
  · rintro ⟨t, ht⟩
    exact bitsOf_inj _ _ _ (List.append_inj ht (by rw [length_bitsOf, length_bitsOf])).1
  · intro h
    rw [bitsOf_congr _ _ _ h]
    exact List.prefix_append _ _

end MosnVerif.Lemmas.HuffBits
