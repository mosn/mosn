import MosnVerif.Model.BoltHeader
import MosnVerif.Lemmas.Bytes
/-! lemmas about the key/value block (core only) -/
namespace MosnVerif.Model.BoltHeader
open MosnVerif.Model MosnVerif.Model.Bytes

theorem encodeStr_length (s : Bytes) : (encodeStr s).length = 4 + s.length := by simp [encodeStr]

theorem encode_length (kvs : List KV) : (encode kvs).length = encodeLen kvs := by
  fun_induction encode kvs with
  | case1 => rfl
  | case2 k v r ih => simp only [encodeLen, List.length_append, encodeStr_length, ih]; omega

theorem encodeLen_ge (kvs : List KV) : 8 * kvs.length ≤ encodeLen kvs := by
  fun_induction encodeLen kvs with
  | case1 => exact Nat.le_refl 0
  | case2 k v r ih => rw [List.length_cons]; omega

theorem encodeLen_append (a b : List KV) : encodeLen (a ++ b) = encodeLen a + encodeLen b := by
  fun_induction encodeLen a with
  | case1 => simp
  | case2 k v r ih => simp only [List.cons_append, encodeLen, ih]; omega

theorem encode_append (a b : List KV) : encode (a ++ b) = encode a ++ encode b := by
  fun_induction encode a with
  | case1 => rfl
  | case2 k v r ih => simp only [List.cons_append, encode, ih, List.append_assoc]

theorem readStr_encodeStr (s rest : Bytes) (h : s.length < invalidLen) :
    readStr (encodeStr s ++ rest) = .str s rest := by
  have e : encodeStr s ++ rest = be 4 s.length ++ (s ++ rest) := List.append_assoc _ _ _
  have h4 : (be 4 s.length ++ (s ++ rest)).take 4 = be 4 s.length := List.take_left' (be_length 4 _)
  have hd : (be 4 s.length ++ (s ++ rest)).drop 4 = s ++ rest := List.drop_left' (be_length 4 _)
  have hdd := drop_of_drop hd (lo' := 4 + s.length) rfl
  have hv : toNat (be 4 s.length) = s.length := toNat_be_of_lt (by unfold invalidLen at h; omega)
  have hl : (be 4 s.length ++ (s ++ rest)).length = 4 + (s.length + rest.length) := by simp
  have h1 : ¬ (4 + (s.length + rest.length) < 4) := by omega
  have h2 : ¬ (s.length = invalidLen) := by omega
  have h3 : ¬ (4 + s.length > 4 + (s.length + rest.length)) := by omega
  simp only [readStr, e, h4, hv, hd, hdd, hl, h1, h2, h3, if_false, List.take_left]

theorem decodeLoop_encode (kvs : List KV) (hw : wf kvs) (fuel : Nat) (rest : Bytes) (acc : List KV) :
    decodeLoop (fuel + kvs.length) (encode kvs ++ rest) acc = decodeLoop fuel rest (kvs.reverse ++ acc) := by
  induction kvs generalizing acc with
  | nil => simp [encode]
  | cons kv r ih =>
    obtain ⟨k, v⟩ := kv
    have hk := hw (k, v) (by simp)
    have hr : wf r := fun x hx => hw x (by simp [hx])
    rw [List.length_cons, ← Nat.add_assoc, decodeLoop]
    -- the block starts with the four length bytes of `k`
    have hne : (encode ((k, v) :: r) ++ rest).isEmpty = false := rfl
    rw [hne]
    simp only [encode, List.append_assoc, Bool.false_eq_true, if_false]
    rw [readStr_encodeStr k _ hk.1]
    simp only
    rw [readStr_encodeStr v _ hk.2]
    simp only
    rw [ih hr]
    simp

theorem decode_encode (kvs : List KV) (hw : wf kvs) : decode (encode kvs) = .ok kvs := by
  -- each pair takes at least 8 bytes, so the fuel `|block| + 1` outlasts the pairs by one step, which sees the empty rest
  obtain ⟨k, hk⟩ : ∃ k, (encode kvs).length + 1 = k + 1 + kvs.length :=
    ⟨(encode kvs).length - kvs.length, by have := encode_length kvs; have := encodeLen_ge kvs; omega⟩
  have h := decodeLoop_encode kvs hw (k + 1) [] []
  rw [List.append_nil] at h
  rw [decode, hk, h, decodeLoop]
  simp

theorem wf_of_encodeLen (kvs : List KV) (h : encodeLen kvs ≤ 65535) : wf kvs := by
  fun_induction encodeLen kvs with
  | case1 => nofun
  | case2 k v r ih =>
    intro x hx
    rcases List.mem_cons.mp hx with rfl | hx
    · simp only [invalidLen]; omega
    · exact ih (by omega) x hx

end MosnVerif.Model.BoltHeader
