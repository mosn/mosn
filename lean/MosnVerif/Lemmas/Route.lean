import MosnVerif.Model.Route
import MosnVerif.Lemmas.RouteHdr
import MosnVerif.Lemmas.InsertSort
/-!
Lemmas for C04 (core Lean only), in this order: the regenerated `findHighestPriorityIndex` equals the cascade
`findIdx`, and the regenerated loops have closed forms (by the loop rules `forRange_eq` / `forRangeS_eq` of
Lemmas/RouteHdr); `NewRouters` maintains a characterisation of the three tables by the list of configured domains
(`Inv`); scanning a list sorted by the regenerated `Less` finds the longest matching suffix; rule matching refines the
declarative `Spec.ruleHolds`.
-/
namespace MosnVerif.Model.Route
open MosnVerif.Gen.Route

/-- a wildcard entry matches the host: strictly shorter and equal to the host's tail of that length -/
def wildHit (host : Str) (w : Wild) : Bool :=
  decide (w.hostLen < strLen host) && decide (w.host = strFrom host (strLen host - w.hostLen))

def scan (host : Str) (l : List Wild) : Option Int := (l.find? (wildHit host)).map (·.index)

def exactGet (t : Tables) (h p : Str) : Option Int :=
  (mapGet t.virtualHostPortsMap h).bind (fun m => mapGet m p)

def wildGet (t : Tables) (p : Str) : List Wild := (mapGet t.portWildcardVirtualHost p).getD []

/-- `findHighestPriorityIndex` as a cascade of four optional hits and the default -/
def findIdx (t : Tables) (host port : Str) : Int :=
  ((exactGet t host port).or ((exactGet t host star).or
    ((scan host (wildGet t port)).or (scan host (wildGet t star))))).getD t.defaultVirtualHostIndex

/-- the loop of priorities 3 and 4 returns the index of the first hit, else what follows the loop -/
theorem scanLoop_eq (host : Str) (l : List Wild) (done : Int) :
    forRange l (fun w next =>
      if decide (w.hostLen ≥ strLen host) then next
      else if decide (w.host = strFrom host (strLen host - w.hostLen)) then w.index else next) done
      = (scan host l).getD done := by
  refine forRange_eq _ _ (fun l => (scan host l).getD done) rfl (fun w r => ?_) l
  by_cases h1 : w.hostLen < strLen host <;>
    by_cases h2 : w.host = strFrom host (strLen host - w.hostLen) <;>
    simp [scan, wildHit, h1, h2, Int.not_le.mpr, Int.not_lt.mp]

theorem mapGet_of_len_zero {ν : Type} (m : List (Str × ν)) (k : Str) (h : ¬ (mapLen m > 0)) : mapGet m k = none := by
  cases m with
  | nil => rfl
  | cons a r => exact absurd (by simp [mapLen]) h

theorem gen_findIdx (t : Tables) (host port : Str) : findHighestPriorityIndex t host port = findIdx t host port := by
  have hwild : ∀ (o : Option (List Wild)) (r : Int),
      (if o.isSome then (scan host (o.getD default)).getD r else r) = (scan host (o.getD [])).getD r := by
    intro o r; cases o <;> rfl
  have hexact : ∀ (o : Option (List (Str × Int))) (p : Str) (r : Int),
      (if (mapGet (o.getD default) p).isSome then (mapGet (o.getD default) p).getD default else r)
        = (o.bind (mapGet · p)).getD r := by
    intro o p r
    cases o with
    | none => rfl
    | some m => cases h : mapGet m p <;> simp [h]
  simp only [findHighestPriorityIndex, scanLoop_eq, hwild, hexact, findIdx, exactGet, wildGet, star, Option.getD_or]
  -- the `len(m) > 0` guards and the test that the host has a port map only skip lookups that would miss
  by_cases he : mapLen t.virtualHostPortsMap > 0 <;> by_cases hw : mapLen t.portWildcardVirtualHost > 0 <;>
    simp only [he, hw, mapGet_of_len_zero, not_false_eq_true, decide_true, decide_false, if_true, if_false,
      Bool.false_eq_true] <;>
    cases mapGet t.virtualHostPortsMap host <;> rfl

/-- **the regenerated `VariableRouteRuleImpl.Match` is the closed-form loop** -/
theorem gen_variableMatch (rx : RxOracle) (ctx : Str → Option Str) (items : List VarItem) :
    variableMatch rx ctx items = varLoop rx ctx items true modelAnd := by
  unfold variableMatch
  refine forRangeS_eq _ _ (fun l (s : Bool × Str × Str) => varLoop rx ctx l s.1 s.2.2) ?_ ?_ items _
  · rintro ⟨result, _, _⟩; cases result <;> rfl
  · rintro ⟨name, value, rp, model⟩ r ⟨result, w, lastMode⟩
    have hd : (default : Str) = [] := rfl
    cases value <;> cases rp <;> by_cases hm : lastMode = modelAnd <;> by_cases ho : model = modelOr <;>
      simp [varLoop, hm, ho, rxMatch, hd]

theorem gen_getRoute {ρ : Type} (m : ρ → Option ρ) (l : List ρ) : getRouteFromEntries m l = l.findSome? m := by
  refine forRange_eq _ _ (fun l => l.findSome? m) rfl (fun a r => ?_) l
  cases h : m a <;> simp [h]

theorem gen_getAll {ρ : Type} (m : ρ → Option ρ) (l : List ρ) : getAllRoutesFromEntries m l = l.filterMap m := by
  unfold getAllRoutesFromEntries
  refine (forRangeS_eq _ _ (fun l acc => acc ++ l.filterMap m) ?_ ?_ l _).trans rfl
  · intro acc; simp
  · intro a r acc
    cases h : m a <;> simp [h]

theorem range_filter_eq_zipIdx {α : Type} (q : α → Bool) (l : List α) :
    (List.range l.length).filter (fun i => (l[i]?).any q) = (l.zipIdx.filter (fun x => q x.1)).map (·.2) := by
  rw [List.range_eq_range', ← List.zipIdx_map_snd 0 l, List.filter_map]
  congr 1
  apply List.filter_congr
  intro x hx
  simp [List.mem_zipIdx_iff_getElem?.mp hx]

/-- `GetRouteFromEntries` (regenerated loop) returns the first matching rule -/
theorem selectRoute_eq (rx : RxOracle) (req : Req) (rules : List Rule) :
    selectRoute rx req rules = rules.findIdx? (matchRule rx req) := by
  rw [selectRoute, gen_getRoute, List.map_findSome?, List.findIdx?_eq_findSome?_zipIdx]
  congr 1
  funext ⟨r, i⟩
  cases h : matchRule rx req r <;> simp [matchIdx, h]

/-- `GetAllRoutesFromEntries` (regenerated loop) returns the positions of all matching rules, in order -/
theorem allRoutes_eq (rx : RxOracle) (req : Req) (rules : List Rule) :
    allRoutes rx req rules = (List.range rules.length).filter (fun i => (rules[i]?).any (matchRule rx req)) := by
  rw [allRoutes, gen_getAll, range_filter_eq_zipIdx, ← List.filterMap_eq_filter]
  rfl

theorem allRoutes_head (rx : RxOracle) (req : Req) (rules : List Rule) :
    (allRoutes rx req rules).head? = selectRoute rx req rules := by
  rw [allRoutes, selectRoute, gen_getAll, gen_getRoute, List.head?_map, List.head?_filterMap]

/-- **the regenerated `findVirtualHost` in closed form** -/
theorem gen_findVirtualHost (t : Tables) (ctx : Str → Option Str) :
    Gen.Route.findVirtualHost splitGraceful t ctx = findVirtualHost t (ctx varHost) := by
  have hk : ∀ i : Int, (if i = -1 then -1 else i) = i := by intro i; split <;> simp_all
  simp only [Gen.Route.findVirtualHost, findVirtualHost, hk, mapLen, Int.natCast_eq_zero, Bool.and_eq_true,
    decide_eq_true_eq, and_assoc]
  split
  · rfl
  · cases ctx varHost with
    | none => simp
    | some h =>
      by_cases h0 : h = []
      · simp [h0]
      · cases hs : splitGraceful (lower h) <;> simp [h0, hs]

open Spec

theorem mapGet_mapSet {ν : Type} (m : List (Str × ν)) (k k' : Str) (v : ν) :
    mapGet (mapSet m k v) k' = if k = k' then some v else mapGet m k' := by
  fun_induction mapSet m k v <;> grind [mapGet]

theorem mapSet_ne_nil {ν : Type} (m : List (Str × ν)) (k : Str) (v : ν) : mapSet m k v ≠ [] := by
  fun_cases mapSet m k v <;> simp

theorem mapGet_map {α β : Type} (m : List (Str × α)) (f : α → β) (k : Str) :
    mapGet (m.map (fun kv => (kv.1, f kv.2))) k = (mapGet m k).map f := by
  fun_induction mapGet m k <;> simp_all [mapGet]

def toWild (e : Entry) : Wild := ⟨(e.host.length : Int) - 1, e.host.drop 1, e.idx⟩

theorem head_star_contains {host : Str} (h : host.head? = some '*') : host.contains '*' = true := by
  cases host with
  | nil => simp at h
  | cons c r => simp at h; simp [h]

theorem isExact_false_of_isWild {e : Entry} (h : e.isWild = true) : e.isExact = false := by
  simp only [Entry.isWild, Bool.and_eq_true, decide_eq_true_eq] at h
  rw [Entry.isExact, head_star_contains h.2]; simp

theorem isWild_false_of_isExact {e : Entry} (h : e.isExact = true) : e.isWild = false := by
  cases hw : e.isWild with
  | false => rfl
  | true => rw [isExact_false_of_isWild hw] at h; cases h

/-- what a successful `addEntry` did, by the class of the domain entered -/
inductive AddCase (t : Tables) (e : Entry) (t' : Tables) : Prop
  | dflt (hd : e.isDefault = true) (hfree : t.defaultVirtualHostIndex = -1)
      (ht : t' = { t with defaultVirtualHostIndex := e.idx })
  | exact (hx : e.isExact = true) (hfree : exactGet t e.host e.port = none)
      (ht : t' = { t with virtualHostPortsMap := mapSet t.virtualHostPortsMap e.host (mapSet ((mapGet t.virtualHostPortsMap e.host).getD []) e.port e.idx) })
  | wild (hw : e.isWild = true) (hfree : ∀ x ∈ wildGet t e.port, x.host ≠ e.suffix)
      (ht : t' = { t with portWildcardVirtualHost := mapSet t.portWildcardVirtualHost e.port (wildGet t e.port ++ [toWild e]) })

theorem addEntry_cases {t t' : Tables} {e : Entry} (h : addEntry t e.host e.port e.idx = .ok t') : AddCase t e t' := by
  unfold addEntry at h
  by_cases h0 : e.host = [] ∧ e.port = []
  · rw [if_pos h0] at h; cases h
  rw [if_neg h0] at h
  by_cases hd : e.host = star ∧ (e.port = star ∨ e.port = [])
  · rw [if_pos hd] at h
    split at h
    · cases h
    · rename_i hdi
      cases h
      exact .dflt (by simpa [Entry.isDefault, star] using hd) (by simpa using hdi) rfl
  rw [if_neg hd] at h
  have hdef : e.isDefault = false := by simpa [Entry.isDefault, star] using hd
  by_cases hc : ¬ e.host.contains '*'
  · rw [if_pos hc] at h
    have hx : e.isExact = true := by simpa [Entry.isExact, hdef] using hc
    -- with or without a port map for the host, the new port map is the old one (or none) with the port set
    cases hm : mapGet t.virtualHostPortsMap e.host with
    | none =>
      rw [hm] at h; cases h
      exact .exact hx (by simp [exactGet, hm]) (by rw [hm]; rfl)
    | some m =>
      cases hp : mapGet m e.port with
      | some i => simp only [hm, hp] at h; cases h
      | none =>
        simp only [hm, hp] at h; cases h
        exact .exact hx (by simp [exactGet, hm, hp]) (by rw [hm]; rfl)
  rw [if_neg hc] at h
  by_cases hh : e.host.head? = some '*'
  · rw [if_pos hh] at h
    have hw : e.isWild = true := by simp [Entry.isWild, hdef, hh]
    cases hm : mapGet t.portWildcardVirtualHost e.port with
    | none =>
      simp only [hm] at h; cases h
      exact .wild hw (by simp [wildGet, hm]) (by simp [wildGet, hm, toWild])
    | some l =>
      simp only [hm] at h
      split at h
      · cases h
      · rename_i hany
        cases h
        refine .wild hw ?_ (by simp [wildGet, hm, toWild])
        intro x hx hxe
        simp only [wildGet, hm, Option.getD_some] at hx
        exact hany (by simp only [List.any_eq_true, decide_eq_true_eq]; exact ⟨x, hx, hxe⟩)
  · rw [if_neg hh] at h; cases h

/-- the tables characterised by the list of configured domains entered so far -/
structure Inv (es : List Entry) (t : Tables) : Prop where
  dflt : t.defaultVirtualHostIndex = ((es.find? Entry.isDefault).map (·.idx)).getD (-1)
  exact : ∀ h p, exactGet t h p =
    (es.find? (fun e => e.isExact && decide (e.host = h) && decide (e.port = p))).map (·.idx)
  wild : ∀ p, wildGet t p = (es.filter (fun e => e.isWild && decide (e.port = p))).map toWild ∧
    ((es.filter (fun e => e.isWild && decide (e.port = p))).map Entry.suffix).Nodup
  nonneg : ∀ e ∈ es, 0 ≤ e.idx

theorem Inv.empty : Inv [] emptyTables := by
  constructor <;> simp [emptyTables, exactGet, wildGet, mapGet]

theorem mapGet_getD_nil {ν : Type} (m : List (Str × List (Str × ν))) (h p : Str) :
    mapGet ((mapGet m h).getD []) p = (mapGet m h).bind (fun x => mapGet x p) := by
  cases mapGet m h <;> simp [mapGet]

/-- the exact-host table after `addEntry` entered port `p` for host `h` -/
theorem exactGet_set (t : Tables) (h p : Str) (i : Int) (h' p' : Str) :
    exactGet { t with virtualHostPortsMap := mapSet t.virtualHostPortsMap h (mapSet ((mapGet t.virtualHostPortsMap h).getD []) p i) } h' p' =
      if h = h' ∧ p = p' then some i else exactGet t h' p' := by
  simp only [exactGet, mapGet_mapSet]
  by_cases hh : h = h'
  · subst hh
    simp only [if_true, Option.bind_some, mapGet_mapSet, mapGet_getD_nil, true_and]
  · simp only [hh, if_false, false_and]

theorem wildGet_set (t : Tables) (p : Str) (l : List Wild) (p' : Str) :
    wildGet { t with portWildcardVirtualHost := mapSet t.portWildcardVirtualHost p l } p' =
      if p = p' then l else wildGet t p' := by
  simp only [wildGet, mapGet_mapSet]
  split <;> rfl

/-! A domain of one class leaves the parts of the invariant about the other classes alone. -/

theorem Inv.dflt_frame {es : List Entry} {t : Tables} (hi : Inv es t) {e : Entry} (hd : e.isDefault = false) :
    t.defaultVirtualHostIndex = (((es ++ [e]).find? Entry.isDefault).map (·.idx)).getD (-1) := by
  simp only [List.find?_append, List.find?_singleton, hd, Bool.false_eq_true, if_false, Option.or_none]; exact hi.dflt

theorem Inv.exact_frame {es : List Entry} {t : Tables} (hi : Inv es t) {e : Entry} (hx : e.isExact = false) (h p : Str) :
    exactGet t h p =
      ((es ++ [e]).find? (fun e => e.isExact && decide (e.host = h) && decide (e.port = p))).map (·.idx) := by
  simp only [List.find?_append, List.find?_singleton, hx, Bool.false_and, Bool.false_eq_true, if_false, Option.or_none]; exact hi.exact h p

theorem Inv.wild_frame {es : List Entry} {t : Tables} (hi : Inv es t) {e : Entry} {p : Str}
    (hw : (e.isWild && decide (e.port = p)) = false) :
    wildGet t p = ((es ++ [e]).filter (fun e => e.isWild && decide (e.port = p))).map toWild ∧
    (((es ++ [e]).filter (fun e => e.isWild && decide (e.port = p))).map Entry.suffix).Nodup := by
  simp only [List.filter_append, List.filter_cons, hw, Bool.false_eq_true, if_false, List.filter_nil, List.append_nil]; exact hi.wild p

theorem Inv.nonneg_snoc {es : List Entry} {t : Tables} (hi : Inv es t) {e : Entry} (hidx : 0 ≤ e.idx) :
    ∀ x ∈ es ++ [e], 0 ≤ x.idx :=
  List.forall_mem_append.mpr ⟨hi.nonneg, List.forall_mem_singleton.mpr hidx⟩

theorem Inv.step {es : List Entry} {t t' : Tables} (hi : Inv es t) (e : Entry) (hidx : 0 ≤ e.idx)
    (h : addEntry t e.host e.port e.idx = .ok t') : Inv (es ++ [e]) t' := by
  cases addEntry_cases h with
  | dflt hd hfree ht =>
    have hx : e.isExact = false := by simp [Entry.isExact, hd]
    have hw : e.isWild = false := by simp [Entry.isWild, hd]
    -- no default so far: an earlier one would have left a non-negative index
    have hnone : es.find? Entry.isDefault = none := by
      cases hf : es.find? Entry.isDefault with
      | none => rfl
      | some e0 =>
        have := hi.dflt
        rw [hf, hfree] at this
        have h0 := hi.nonneg e0 (List.mem_of_find?_eq_some hf)
        simp at this; omega
    subst ht
    refine ⟨?_, hi.exact_frame hx, fun p => hi.wild_frame (by simp [hw]), hi.nonneg_snoc hidx⟩
    simp [hnone, hd]
  | exact hx hfree ht =>
    have hd : e.isDefault = false := by simp only [Entry.isExact, Bool.and_eq_true, Bool.not_eq_true'] at hx; exact hx.1
    have hw := isWild_false_of_isExact hx
    subst ht
    refine ⟨hi.dflt_frame hd, ?_, fun p => hi.wild_frame (by simp [hw]), hi.nonneg_snoc hidx⟩
    intro h p
    rw [exactGet_set, hi.exact h p, List.find?_append, List.find?_singleton]
    by_cases hhp : e.host = h ∧ e.port = p
    · obtain ⟨rfl, rfl⟩ := hhp
      have hnone := (hi.exact e.host e.port).symm.trans hfree
      simp [Option.map_eq_none_iff.mp hnone, hx]
    · have hq : (e.isExact && decide (e.host = h) && decide (e.port = p)) = false := by
        rw [Bool.and_assoc, ← Bool.decide_and, decide_eq_false hhp, Bool.and_false]
      simp only [if_neg hhp, hq, Bool.false_eq_true, if_false, Option.or_none]
  | wild hw hfree ht =>
    have hd : e.isDefault = false := by simp only [Entry.isWild, Bool.and_eq_true, Bool.not_eq_true'] at hw; exact hw.1
    subst ht
    refine ⟨hi.dflt_frame hd, hi.exact_frame (isExact_false_of_isWild hw), fun p => ?_, hi.nonneg_snoc hidx⟩
    rw [wildGet_set]
    by_cases hp : e.port = p
    · subst hp
      simp only [if_true, List.filter_append, List.filter_cons, List.filter_nil, hw, decide_true, Bool.and_self, List.map_append, List.map_cons, List.map_nil]
      refine ⟨by rw [(hi.wild e.port).1], ?_⟩
      -- the suffix entered is not among those entered before: `addEntry` checked the list of this port
      rw [List.nodup_append]
      refine ⟨(hi.wild e.port).2, by simp, ?_⟩
      intro a ha b hb
      rw [List.mem_singleton.mp hb]
      obtain ⟨f, hf, rfl⟩ := List.mem_map.mp ha
      exact hfree _ (by rw [(hi.wild e.port).1]; exact List.mem_map.mpr ⟨f, hf, rfl⟩)
    · rw [if_neg hp]
      exact hi.wild_frame (by simp [hp])

theorem addDomains_inv (i : Int) (hi0 : 0 ≤ i) (ds : List Str) (es : List Entry) (t t' : Tables)
    (hi : Inv es t) (h : addDomains i ds t = .ok t') :
    Inv (es ++ ds.filterMap (fun d => (splitGraceful (lower d)).map (fun hp => (⟨i, hp.1, hp.2⟩ : Entry)))) t' := by
  fun_induction addDomains i ds t generalizing es with
  | case1 t => cases h; simpa using hi
  | case2 => cases h
  | case3 => cases h
  | case4 d ds t hh pp hs t1 ha ih =>
    have := ih _ (Inv.step hi ⟨i, hh, pp⟩ hi0 ha) h
    simpa [List.filterMap_cons, hs, List.append_assoc] using this

theorem buildVhosts_inv (vs : List VHostCfg) (i : Int) (es : List Entry) (t t' : Tables)
    (hi0 : 0 ≤ i) (hi : Inv es t) (h : buildVhosts vs i t = .ok t') :
    Inv (es ++ entriesFrom vs i) t' ∧ ∀ vh ∈ vs, ∃ rs, mkRules vh.routers = .ok rs := by
  fun_induction buildVhosts vs i t generalizing es with
  | case1 => cases h; exact ⟨by simpa [entriesFrom] using hi, fun _ hvh => nomatch hvh⟩
  | case2 => cases h
  | case3 => cases h
  | case4 vh r i t rs hrs t1 ha ih =>
    have ⟨h2, hr⟩ := ih _ (by omega) (addDomains_inv i hi0 vh.domains es t t1 hi ha) h
    exact ⟨by simpa [entriesFrom, List.append_assoc] using h2, List.forall_mem_cons.mpr ⟨⟨rs, hrs⟩, hr⟩⟩

/-- a successful `NewRouters`: the unsorted tables satisfy the invariant for all configured domains, and the rules of
every virtual host were built -/
theorem build_ok {srt : List Wild → List Wild} {cfg : Config} {t : Tables} (h : build srt cfg = .ok t) :
    ∃ t0, Inv (entries cfg) t0 ∧ t = sortTables srt t0 ∧ ∀ vh ∈ cfg, ∃ rs, mkRules vh.routers = .ok rs := by
  unfold build at h
  split at h
  · cases h
  · split at h
    · cases h
    · rename_i t0 hb
      injection h with h
      have ⟨hinv, hr⟩ := buildVhosts_inv cfg 0 [] emptyTables t0 (by omega) Inv.empty hb
      exact ⟨t0, by simpa [entries] using hinv, h.symm, hr⟩

theorem best_none {α : Type} (key : α → Nat) (l : List α) : best key l = none ↔ l = [] := by
  fun_cases best key l <;> simp_all

theorem best_spec {α : Type} (key : α → Nat) (l : List α) (x : α) (h : best key l = some x) :
    x ∈ l ∧ ∀ y ∈ l, key y ≤ key x := by
  fun_induction best key l generalizing x with
  | case1 => cases h
  | case2 a r y hb hge ih =>
    cases h
    exact ⟨List.mem_cons_self, List.forall_mem_cons.mpr ⟨Nat.le_refl _, fun z hz => Nat.le_trans ((ih y hb).2 z hz) hge⟩⟩
  | case3 a r y hb hge ih =>
    cases h
    exact ⟨List.mem_cons_of_mem _ (ih y hb).1, List.forall_mem_cons.mpr ⟨by omega, (ih y hb).2⟩⟩
  | case4 a r hb ih =>
    cases h
    rw [(best_none key r).mp hb]
    simp

theorem best_eq_some {α : Type} {key : α → Nat} {l : List α} {x : α} (hx : x ∈ l)
    (hmax : ∀ y ∈ l, key y ≤ key x) (huniq : ∀ y ∈ l, key y = key x → y = x) : best key l = some x := by
  cases hb : best key l with
  | none => rw [(best_none key l).mp hb] at hx; cases hx
  | some b =>
    have ⟨hbl, hbmax⟩ := best_spec key l b hb
    rw [huniq b hbl (Nat.le_antisymm (hmax b hbl) (hbmax x hx))]

theorem find?_max_of_sorted {α : Type} {key : α → Int} {q : α → Bool} {l : List α} {x : α}
    (hs : l.Pairwise (fun a b => key b ≤ key a)) (hf : l.find? q = some x) :
    ∀ y ∈ l, q y = true → key y ≤ key x := by
  obtain ⟨-, as, bs, rfl, has⟩ := List.find?_eq_some_iff_append.mp hf
  exact List.forall_mem_append.mpr ⟨fun y hy hqy => absurd (has y hy) (by simp [hqy]), List.forall_mem_cons.mpr
    ⟨fun _ => Int.le_refl _, fun y hy _ => (List.pairwise_cons.mp (List.pairwise_append.mp hs).2.1).1 y hy⟩⟩

theorem less_false_iff (a b : Wild) : less b a = false ↔ b.hostLen ≤ a.hostLen := by
  simp only [less, decide_eq_false_iff_not]; omega

theorem eq_of_nodup_map {α β : Type} (f : α → β) (l : List α) (hnd : (l.map f).Nodup) :
    ∀ x ∈ l, ∀ y ∈ l, f x = f y → x = y := by
  have hp : l.Pairwise (fun a b => f a = f b → a = b) :=
    (List.pairwise_map.mp hnd).imp (fun hne heq => absurd heq hne)
  exact List.Pairwise.forall_of_forall_of_flip (fun _ _ _ => rfl) hp
    (hp.imp (fun h heq => (h heq.symm).symm))

theorem toWild_hostLen (f : Entry) (hne : f.host ≠ []) : (toWild f).hostLen = (f.suffix.length : Int) := by
  simp only [toWild, Entry.suffix, List.length_drop]
  have := List.length_pos_iff.mpr hne
  omega

theorem wildHit_toWild (h : Str) (f : Entry) (hne : f.host ≠ []) : wildHit h (toWild f) = f.wildMatches h := by
  have hl := toWild_hostLen f hne
  simp only [wildHit, Entry.wildMatches, hl, strLen, strFrom]
  by_cases hlt : f.suffix.length < h.length
  · have h1 : ((f.suffix.length : Int) < (h.length : Int)) := by omega
    have h2 : ((h.length : Int) - (f.suffix.length : Int)).toNat = h.length - f.suffix.length := by omega
    simp only [hlt, h1, decide_true, Bool.true_and, h2]
    have hhost : (toWild f).host = f.suffix := rfl
    rw [hhost]
    rw [Bool.eq_iff_iff]
    simp only [decide_eq_true_eq, List.isSuffixOf_iff_suffix]
    exact List.suffix_iff_eq_drop.symm
  · have h1 : ¬ ((f.suffix.length : Int) < (h.length : Int)) := by omega
    simp [hlt, h1]

theorem suffix_eq_of_matches (h : Str) (a b : Entry) (ha : a.wildMatches h = true) (hb : b.wildMatches h = true)
    (hlen : a.suffix.length = b.suffix.length) : a.suffix = b.suffix := by
  simp only [Entry.wildMatches, Bool.and_eq_true, decide_eq_true_eq, List.isSuffixOf_iff_suffix] at ha hb
  rw [List.suffix_iff_eq_drop.mp ha.2, List.suffix_iff_eq_drop.mp hb.2, hlen]

theorem scan_sorted (h : Str) (F : List Entry) (hne : ∀ f ∈ F, f.host ≠ [])
    (hnd : (F.map Entry.suffix).Nodup) (L' : List Wild) (hperm : L'.Perm (F.map toWild))
    (hsorted : L'.Pairwise (fun a b => less b a = false)) :
    scan h L' = (best (fun e => e.suffix.length) (F.filter (fun e => e.wildMatches h))).map (·.idx) := by
  have hhit : ∀ f ∈ F, wildHit h (toWild f) = f.wildMatches h := fun f hf => wildHit_toWild h f (hne f hf)
  have hmemL : ∀ f ∈ F, toWild f ∈ L' := fun f hf => hperm.mem_iff.mpr (List.mem_map_of_mem hf)
  unfold scan
  cases hfind : L'.find? (wildHit h) with
  | none =>
    have hM : F.filter (fun e => e.wildMatches h) = [] := by
      rw [List.filter_eq_nil_iff]
      intro f hf
      rw [← hhit f hf]
      exact List.find?_eq_none.mp hfind _ (hmemL f hf)
    rw [hM]; rfl
  | some x =>
    -- the hit found first is a matching entry; it is `best` because the list is sorted by suffix length and two
    -- matching entries with equally long suffixes are the same entry
    obtain ⟨f0, hf0, rfl⟩ := List.mem_map.mp (hperm.mem_iff.mp (List.mem_of_find?_eq_some hfind))
    have hm0 : f0.wildMatches h = true := by rw [← hhit f0 hf0]; exact List.find?_some hfind
    rw [best_eq_some (x := f0) (List.mem_filter.mpr ⟨hf0, hm0⟩)]
    · rfl
    · intro f hf
      obtain ⟨hfF, hfm⟩ := List.mem_filter.mp hf
      have := find?_max_of_sorted (key := Wild.hostLen) (hsorted.imp (less_false_iff _ _).mp) hfind _ (hmemL f hfF)
        (by rw [hhit f hfF]; exact hfm)
      rw [toWild_hostLen f (hne f hfF), toWild_hostLen f0 (hne f0 hf0)] at this
      omega
    · intro f hf hlen
      obtain ⟨hfF, hfm⟩ := List.mem_filter.mp hf
      exact eq_of_nodup_map Entry.suffix F hnd f hfF f0 hf0 (suffix_eq_of_matches h f f0 hfm hm0 hlen)

theorem sort_nil {srt : List Wild → List Wild} (hs : IsSorter srt) : srt [] = [] :=
  List.Perm.eq_nil (hs.perm [])

theorem wildGet_sort {srt : List Wild → List Wild} (hs : IsSorter srt) (t : Tables) (p : Str) :
    wildGet (sortTables srt t) p = srt (wildGet t p) := by
  simp only [wildGet, sortTables, mapGet_map]
  cases mapGet t.portWildcardVirtualHost p with
  | none => simp [sort_nil hs]
  | some l => simp

theorem isWild_host_ne {e : Entry} (h : e.isWild = true) : e.host ≠ [] := by
  simp only [Entry.isWild, Bool.and_eq_true, decide_eq_true_eq] at h
  intro h0; rw [h0] at h; simp at h

/-- priorities 3 / 4 on the sorted tables are the declarative "longest matching suffix" -/
theorem scan_refines {srt : List Wild → List Wild} (hs : IsSorter srt) {es : List Entry} {t0 : Tables}
    (hinv : Inv es t0) (h p : Str) :
    scan h (wildGet (sortTables srt t0) p) =
      (best (fun e => e.suffix.length) (es.filter (fun e => e.isWild && e.wildMatches h && decide (e.port = p)))).map (·.idx) := by
  rw [wildGet_sort hs, (hinv.wild p).1]
  have := scan_sorted h (es.filter (fun e => e.isWild && decide (e.port = p)))
    (by intro f hf; exact isWild_host_ne (by simp only [List.mem_filter, Bool.and_eq_true] at hf; exact hf.2.1))
    (hinv.wild p).2 _ (hs.perm _) (hs.sorted _)
  rw [this, List.filter_filter]
  congr 2
  apply List.filter_congr
  intro e _
  cases e.isWild <;> cases e.wildMatches h <;> cases decide (e.port = p) <;> rfl

theorem findIdx_of_nil {t : Tables} (he : t.virtualHostPortsMap = []) (hw : t.portWildcardVirtualHost = [])
    (h p : Str) : findIdx t h p = t.defaultVirtualHostIndex := by
  simp [findIdx, exactGet, wildGet, scan, he, hw, mapGet]

/-- the fast path of `findVirtualHost` (no exact and no wildcard domain) is what the lookup returns anyway -/
theorem findVirtualHost_eq (t : Tables) (hv : Option Str) :
    findVirtualHost t hv = match reqHost hv with
      | none => t.defaultVirtualHostIndex
      | some (h, p) => findIdx t h p := by
  unfold findVirtualHost
  split
  · rename_i hfast
    cases reqHost hv with
    | none => rfl
    | some hp =>
      exact (findIdx_of_nil (List.eq_nil_of_length_eq_zero hfast.1) (List.eq_nil_of_length_eq_zero hfast.2.1) _ _).symm
  · cases hv with
    | none => rfl
    | some h =>
      by_cases h0 : h = []
      · simp [reqHost, h0]
      · cases hs : splitGraceful (lower h) <;> simp [reqHost, h0, hs, gen_findIdx]

theorem vhost_refines_core {srt : List Wild → List Wild} (hs : IsSorter srt) {cfg : Config} {t : Tables}
    (hb : build srt cfg = .ok t) (hv : Option Str) : findVirtualHost t hv = Spec.vhost cfg hv := by
  obtain ⟨t0, hinv, rfl, -⟩ := build_ok hb
  rw [findVirtualHost_eq, Spec.vhost]
  cases reqHost hv with
  | none => exact hinv.dflt.trans (by simp)
  | some hp =>
    -- the lookup on the built tables is the documented cascade, hit by hit
    have hx : ∀ q, exactGet (sortTables srt t0) hp.1 q = exactGet t0 hp.1 q := fun _ => rfl
    have hd : (sortTables srt t0).defaultVirtualHostIndex = t0.defaultVirtualHostIndex := rfl
    simp only [findIdx, hx, hd, hinv.exact, hinv.dflt, scan_refines hs hinv, star, Option.getD_or]

theorem insertWild_isIns : Lemmas.InsertSort.IsIns (fun x y => ¬ less y x = true) insertWild :=
  ⟨fun _ => rfl, fun _ _ _ => (ite_not ..).symm⟩

theorem stringMatch_eq (rx : RxOracle) (sm : StringMatch) (s : Str) :
    stringMatch rx sm s = if sm.IsRegex then rxMatch rx sm.RegexPattern s else decide (s = sm.Value) := by
  unfold stringMatch
  cases hr : sm.IsRegex <;> cases hp : sm.RegexPattern <;> simp [rxMatch]

def kvHolds (rx : RxOracle) (hdr : Str → Option Str) (kv : KeyValueData) : Bool :=
  match hdr kv.Name with
  | some v => stringMatch rx kv.Value v
  | none => false

theorem commonMatches_eq (rx : RxOracle) (hdr : Str → Option Str) (m : List KeyValueData) :
    commonMatches rx hdr m = m.all (kvHolds rx hdr) := by
  refine forRange_eq _ _ (fun l => l.all (kvHolds rx hdr)) rfl (fun kv r => ?_) m
  cases hh : hdr kv.Name with
  | none => simp [kvHolds, hh]
  | some v => cases hs : stringMatch rx kv.Value v <;> simp [kvHolds, hh, hs]

theorem httpMatches_eq (rx : RxOracle) (ctx hdr : Str → Option Str) (m : HttpHeaderMatcher) :
    httpMatches rx ctx hdr m = (m.variables.all (fun kv => decide (ctx kv.1 = some kv.2)) && commonMatches rx hdr m.headers) := by
  refine forRange_eq _ _ (fun l => l.all (fun kv => decide (ctx kv.1 = some kv.2)) && commonMatches rx hdr m.headers)
    ?_ (fun kv r => ?_) m.variables
  · simp
  · cases hc : ctx kv.1 with
    | none => simp [hc]
    | some v => by_cases hv : v = kv.2 <;> simp [hc, hv]

def ctxPath (ctx : Str → Option Str) : Option Str :=
  match ctx varPath with
  | some p => if p = [] then none else some p
  | none => none

/-- the regenerated `Match` of path, prefix and regex rules is one text up to the test `test` applied to the request
path: the matchers of the rule base hold (`b`), the path variable is set and non-empty, and the path passes the test -/
theorem pathTest_eq (ctx : Str → Option Str) (b : Bool) (test : Str → Bool) :
    (if b then
      if ((if (ctx varPath).isSome then none else some () : Option Unit).isNone
          && decide ((ctx varPath).getD default ≠ [])) then
        if test ((ctx varPath).getD default) then true else false
      else false
    else false) = (b && match ctxPath ctx with | some p => test p | none => false) := by
  unfold ctxPath
  cases b <;> cases ctx varPath with
  | none => simp
  | some p => by_cases hp : p = [] <;> simp [hp]

theorem pathMatch_eq (rx : RxOracle) (pq : Str → List (Str × Str)) (ctx hdr : Str → Option Str) (hm : HttpHeaderMatcher) (path : Str) :
    pathMatch rx pq ctx hdr ⟨(), hm, none⟩ path =
      (httpMatches rx ctx hdr hm && match ctxPath ctx with | some p => equalFold p path | none => false) :=
  matchRoute_none rx pq ctx hdr hm ▸ pathTest_eq ctx _ (equalFold · path)

theorem prefixMatch_eq (rx : RxOracle) (pq : Str → List (Str × Str)) (ctx hdr : Str → Option Str) (hm : HttpHeaderMatcher) (pre : Str) :
    prefixMatch rx pq ctx hdr ⟨(), hm, none⟩ pre =
      (httpMatches rx ctx hdr hm && match ctxPath ctx with | some p => hasPrefix p pre | none => false) :=
  matchRoute_none rx pq ctx hdr hm ▸ pathTest_eq ctx _ (hasPrefix · pre)

theorem regexMatch_eq (rx : RxOracle) (pq : Str → List (Str × Str)) (ctx hdr : Str → Option Str) (hm : HttpHeaderMatcher) (id : RegexId) :
    regexMatch rx pq ctx hdr ⟨(), hm, none⟩ id =
      (httpMatches rx ctx hdr hm && match ctxPath ctx with | some p => rx id p | none => false) :=
  matchRoute_none rx pq ctx hdr hm ▸ pathTest_eq ctx _ (rx id)

theorem rpcMatch_eq (rx : RxOracle) (hdr : Str → Option Str) (fast : Str) (hm : List KeyValueData) :
    rpcMatch rx hdr fast hm =
      if fast = [] then commonMatches rx hdr hm
      else match hdr rpcRouteMatchKey with
        | some v => decide (v ≠ []) && (decide (v = fast) || decide (fast = ['.', '*']))
        | none => false := by
  unfold rpcMatch
  by_cases hf : fast = []
  · simp [hf]
  · cases hh : hdr rpcRouteMatchKey with
    | none =>
      have hd : (default : Str) = [] := rfl
      simp [hf, hd]
    | some v => by_cases hv : v = [] <;> simp [hf, hv]

theorem kv_all_eq (rx : RxOracle) (req : Req) (l : List HeaderCfg) :
    (l.filterMap newKV).all (kvHolds rx req.hdr) = l.all (headerHolds rx req) := by
  rw [List.all_filterMap]
  refine congrArg l.all (funext fun h => ?_)
  simp only [newKV, headerHolds, ← hdr_spec]
  by_cases hr : h.regex
  · by_cases hk : h.rx.ok
    · simp only [hr, hk, if_true, kvHolds, stringMatch_eq, rxMatch]
      rfl
    · simp only [hr, hk, if_true, Bool.false_eq_true, if_false]
  · simp only [hr, Bool.false_eq_true, if_false, kvHolds, stringMatch_eq]
    cases req.hdr h.name <;> simp

theorem commonMatches_newKV (rx : RxOracle) (req : Req) (hs : List HeaderCfg) :
    commonMatches rx req.hdr (hs.filterMap newKV) = hs.all (headerHolds rx req) := by
  rw [commonMatches_eq, kv_all_eq]

/-- **the HTTP matcher** (`CreateHTTPHeaderMatcher` + `httpHeaderMatcherImpl.Matches`) -/
theorem http_refines (rx : RxOracle) (req : Req) (hs : List HeaderCfg) :
    httpMatches rx req.var req.hdr (createHTTPHeaderMatcher hs) = httpHeadersHold rx req hs := by
  rw [gen_createHttp, httpMatches_eq, commonMatches_eq]
  simp only [kv_all_eq]
  unfold httpHeadersHold
  cases methodOf hs with
  | none => simp only [varsOf, List.all_nil, Bool.true_and]; rfl
  | some m => simp only [varsOf, List.all_cons, List.all_nil, Bool.and_true]; rfl

theorem ctxPath_eq (req : Req) : ctxPath req.var = reqPath req := rfl

theorem varLoop_or (rx : RxOracle) (ctx : Str → Option Str) (v : VarItem) (r : List VarItem) (x : Bool) :
    varLoop rx ctx (v :: r) x modelOr = varLoop rx ctx (v :: r) true modelAnd := by
  have hne : ¬ (modelOr = modelAnd) := by decide
  simp only [varLoop, hne, if_false, if_true, Bool.true_and]

/-- the item a successful `ParseToVariableMatchItem` returns: name, value and compiled pattern as configured, the model
normalised to `and` / `or` -/
def itemOf (v : VarCfg) : VarItem :=
  ⟨v.name, if v.value = [] then none else some v.value, v.regex.map (·.id), if isOr v then modelOr else modelAnd⟩

theorem parseVarItem_some {v : VarCfg} {it : VarItem} (h : parseVarItem v = some it) : it = itemOf v := by
  simp only [parseVarItem] at h
  split at h
  · rename_i p m hp hm
    cases h
    simp only [itemOf, isOr, VarItem.mk.injEq, true_and]
    constructor
    · cases hr : v.regex with
      | none => simpa [hr] using hp.symm
      | some r => by_cases ho : r.ok <;> simp [hr, ho] at hp ⊢; exact hp.symm
    · by_cases h0 : v.model = []
      · simp [h0] at hm; simp [h0, lower, ← hm]
      · rw [if_neg h0] at hm
        split at hm
        · rename_i hor; cases hm; rcases hor with hor | hor <;> simp [hor, modelAnd, modelOr]
        · cases hm
  · cases h

/-- the value the loop body computes for one item -/
def curOf (rx : RxOracle) (ctx : Str → Option Str) (it : VarItem) : Bool :=
  match it.regexPattern with
  | some id => rx id ((ctx it.name).getD [])
  | none => match it.value with
    | some x => decide (x = (ctx it.name).getD [])
    | none => false

theorem varLoop_cons (rx : RxOracle) (ctx : Str → Option Str) (it : VarItem) (its : List VarItem) (acc : Bool) :
    varLoop rx ctx (it :: its) acc modelAnd =
      if (acc && curOf rx ctx it) && decide (it.model = modelOr) then acc && curOf rx ctx it
      else varLoop rx ctx its (acc && curOf rx ctx it) it.model := by
  obtain ⟨name, value, rp, model⟩ := it
  simp only [varLoop, curOf, if_true]
  cases value <;> cases rp <;> rfl

theorem curOf_itemOf (rx : RxOracle) (req : Req) (v : VarCfg) : curOf rx req.var (itemOf v) = varItemHolds rx req v := by
  simp only [curOf, itemOf, varItemHolds]
  cases v.regex with
  | some r => rfl
  | none => by_cases h0 : v.value = [] <;> simp [h0] <;> rfl

theorem mapM_eq_map {α β : Type} {f : α → Option β} {g : α → β} (hf : ∀ a b, f a = some b → b = g a) :
    ∀ {l : List α} {bs : List β}, l.mapM f = some bs → bs = l.map g
  | [], _, h => by simpa [eq_comm] using h
  | a :: r, _, h => by
    rw [List.mapM_cons] at h
    obtain ⟨b, ha, h⟩ := Option.bind_eq_some_iff.mp h
    obtain ⟨bs, hr, h⟩ := Option.bind_eq_some_iff.mp h
    rw [← Option.some.inj h, hf a b ha, mapM_eq_map hf hr]
    rfl

/-- the loop over the parsed items is the documented disjunction of conjunctions -/
theorem varLoop_refines (rx : RxOracle) (req : Req) : ∀ (vs : List VarCfg) (acc : Bool),
    varLoop rx req.var (vs.map itemOf) acc modelAnd = varsHold rx req vs acc
  | [], _ => rfl
  | v :: r, acc => by
    have ih := varLoop_refines rx req r
    rw [List.map_cons, varLoop_cons, curOf_itemOf, varsHold]
    simp only [itemOf]
    by_cases ho : isOr v = true
    · simp only [ho, if_true, decide_true, Bool.and_true]
      cases acc && varItemHolds rx req v
      · simp only [Bool.false_eq_true, if_false, Bool.false_or]
        -- a group that failed: the next one starts afresh, unless there is none
        cases r with
        | nil => rfl
        | cons v2 r2 => rw [List.map_cons, varLoop_or, ← List.map_cons, ih true]; simp
      · simp
    · simp only [ho, if_false, show decide (modelAnd = modelOr) = false by decide, Bool.and_false, Bool.false_eq_true]
      exact ih _

theorem dsl_all (req : Req) (ds : List DslCfg) :
    ((ds.filterMap (fun d => if !d.empty && d.ok then some d.id else none)).all (fun i => req.dsl i == some true))
      = ds.all (fun d => d.empty || !d.ok || req.dsl d.id == some true) := by
  rw [List.all_filterMap]
  refine congrArg ds.all (funext fun d => ?_)
  cases d.empty <;> cases d.ok <;> rfl

/-- the fast-match value of a one-matcher RPC rule is non-empty exactly for an exact, non-empty `service` matcher -/
theorem fastOf_singleton (a : HeaderCfg) :
    fastOf [a] = if a.name = ['s', 'e', 'r', 'v', 'i', 'c', 'e'] ∧ a.regex = false ∧ a.value ≠ [] then a.value else [] := by
  show (if a.name = rpcRouteMatchKey ∧ a.regex = false then a.value else []) = _
  split <;> split <;> simp_all [rpcRouteMatchKey]

/-- **a built rule matches exactly when all matchers of the configured route hold** -/
theorem rule_refines (rx : RxOracle) (req : Req) {m : MatchCfg} {rule : Rule} (h : mkRule m = .ok rule) :
    matchRule rx req rule = ruleHolds rx req m := by
  unfold mkRule at h
  unfold ruleHolds
  -- `NewRouteBase` and the documented semantics choose the kind of rule by the same tests, in the same order
  by_cases hp : m.prefix_ ≠ []
  · rw [if_pos hp] at h ⊢
    cases h
    simp only [matchRule, gen_newBaseHTTP, prefixMatch_eq, http_refines, ctxPath_eq, hasPrefix]
    exact Bool.and_comm _ _
  rw [if_neg hp] at h ⊢
  by_cases hpa : m.path ≠ []
  · rw [if_pos hpa] at h ⊢
    cases h
    simp only [matchRule, gen_newBaseHTTP, pathMatch_eq, http_refines, ctxPath_eq, equalFold]
    exact Bool.and_comm _ _
  rw [if_neg hpa] at h ⊢
  cases hre : m.regex with
  | some r =>
    simp only [hre] at h ⊢
    split at h
    · cases h
      simp only [matchRule, gen_newBaseHTTP, regexMatch_eq, http_refines, ctxPath_eq]
      exact Bool.and_comm _ _
    · cases h
  | none =>
    simp only [hre] at h ⊢
    by_cases hvs : m.variables ≠ []
    · rw [if_pos hvs] at h ⊢
      split at h
      · rename_i items hmap
        cases h
        simp only [matchRule, gen_variableMatch, mapM_eq_map (fun _ _ => parseVarItem_some) hmap]
        exact varLoop_refines rx req m.variables true
      · cases h
    rw [if_neg hvs] at h ⊢
    by_cases hdsl : m.dsl ≠ []
    · rw [if_pos hdsl] at h ⊢
      cases h
      exact dsl_all req m.dsl
    rw [if_neg hdsl] at h ⊢
    cases h
    simp only [matchRule, gen_createRpc, rpcMatch_eq, commonMatches_newKV]
    cases m.headers with
    | nil => rfl
    | cons a r =>
      cases r with
      | cons b r2 => rfl
      | nil =>
        -- a lone matcher: the legacy fast match applies iff it is an exact, non-empty `service` matcher
        dsimp only
        rw [fastOf_singleton]
        by_cases hc : a.name = ['s', 'e', 'r', 'v', 'i', 'c', 'e'] ∧ a.regex = false ∧ a.value ≠ []
        · rw [if_pos hc, if_neg hc.2.2, if_pos hc, hc.1, hdr_spec]
          rfl
        · simp [if_neg hc]

/-- rule lists built by `NewVirtualHostImpl` match like the configured routes, position by position -/
theorem mkRules_map (rx : RxOracle) (req : Req) (ms : List MatchCfg) (rules : List Rule)
    (h : mkRules ms = .ok rules) : rules.map (matchRule rx req) = ms.map (ruleHolds rx req) := by
  fun_induction mkRules ms generalizing rules with
  | case1 => cases h; rfl
  | case2 => cases h
  | case3 => cases h
  | case4 m r x hx xs hxs ih => cases h; simp [rule_refines rx req hx, ih xs hxs]

/-! the first match and the list of all matches depend on a list only through the truth values of the predicate -/

theorem findIdx?_of_map_eq {α β : Type} {p : α → Bool} {q : β → Bool} {l : List α} {l' : List β}
    (h : l.map p = l'.map q) : l.findIdx? p = l'.findIdx? q := by
  have := congrArg (List.findIdx? id) h
  simpa [List.findIdx?_map] using this

theorem range_filter_of_map_eq {α β : Type} {p : α → Bool} {q : β → Bool} {l : List α} {l' : List β}
    (h : l.map p = l'.map q) :
    (List.range l.length).filter (fun i => (l[i]?).any p) = (List.range l'.length).filter (fun i => (l'[i]?).any q) := by
  have hl : l.length = l'.length := by simpa using congrArg List.length h
  rw [hl]
  apply List.filter_congr
  intro i _
  have := congrArg (·[i]?) h
  simp only [List.getElem?_map] at this
  cases h1 : l[i]? <;> cases h2 : l'[i]? <;> simp_all

/-- `GetRouteFromEntries` on the built rules = first configured route whose matchers all hold -/
theorem select_refines (rx : RxOracle) (req : Req) {ms : List MatchCfg} {rules : List Rule}
    (h : mkRules ms = .ok rules) : selectRoute rx req rules = Spec.route rx req ms := by
  rw [selectRoute_eq]; exact findIdx?_of_map_eq (mkRules_map rx req ms rules h)

theorem allRoutes_refines (rx : RxOracle) (req : Req) {ms : List MatchCfg} {rules : List Rule}
    (h : mkRules ms = .ok rules) : allRoutes rx req rules = Spec.routesAll rx req ms := by
  rw [allRoutes_eq]; exact range_filter_of_map_eq (mkRules_map rx req ms rules h)

/-- **the whole lookup refines the documented behaviour** -/
theorem answer_refines {srt : List Wild → List Wild} (hs : IsSorter srt) {cfg : Config} {t : Tables}
    (hb : build srt cfg = .ok t) (rx : RxOracle) (req : Req) :
    answer rx t cfg req = Spec.answer rx cfg req := by
  unfold answer Spec.answer
  simp only [findVirtualHostG, gen_findVirtualHost, vhost_refines_core hs hb, varHost]
  split
  · rfl
  · generalize Spec.vhost cfg _ = vh
    unfold rulesOf
    cases hc : cfg[vh.toNat]? with
    | none => simp [selectRoute_eq, allRoutes_eq, Spec.route, Spec.routesAll]
    | some v =>
      obtain ⟨_, _, _, hrules⟩ := build_ok hb
      obtain ⟨rs, hrs⟩ := hrules v (List.mem_of_getElem? hc)
      simp only [hrs, select_refines rx req hrs, allRoutes_refines rx req hrs]

theorem entriesFrom_idx : ∀ (vs : List VHostCfg) (k : Int) (e : Entry), e ∈ entriesFrom vs k →
    k ≤ e.idx ∧ e.idx < k + vs.length
  | [], _, e, h => by simp [entriesFrom] at h
  | v :: r, k, e, h => by
    simp only [entriesFrom, List.mem_append, List.mem_filterMap] at h
    rcases h with ⟨d, _, hd⟩ | h
    · cases hs : splitGraceful (lower d) with
      | none => rw [hs] at hd; simp at hd
      | some hp =>
        rw [hs] at hd; simp at hd
        subst hd; simp; omega
    · have := entriesFrom_idx r (k + 1) e h
      simp only [List.length_cons]; omega

/-- the precedence names the virtual host of a configured domain, or −1 -/
theorem vhost_mem (cfg : Config) (hv : Option Str) :
    Spec.vhost cfg hv = -1 ∨ ∃ e ∈ entries cfg, Spec.vhost cfg hv = e.idx := by
  -- every candidate of the cascade is the index of a configured domain, and `Option.or` chooses among candidates
  let P (o : Option Int) : Prop := ∀ i, o = some i → ∃ e ∈ entries cfg, i = e.idx
  have hfind : ∀ q : Entry → Bool, P (((entries cfg).find? q).map (·.idx)) := by
    intro q i h
    obtain ⟨e, he, rfl⟩ := Option.map_eq_some_iff.mp h
    exact ⟨e, List.mem_of_find?_eq_some he, rfl⟩
  have hbest : ∀ q : Entry → Bool, P ((best (fun e => e.suffix.length) ((entries cfg).filter q)).map (·.idx)) := by
    intro q i h
    obtain ⟨e, he, rfl⟩ := Option.map_eq_some_iff.mp h
    exact ⟨e, (List.mem_filter.mp (best_spec _ _ _ he).1).1, rfl⟩
  have hor : ∀ a b, P a → P b → P (a.or b) := by
    intro a b ha hb i h
    rcases Option.or_eq_some_iff.mp h with h | ⟨-, h⟩
    · exact ha i h
    · exact hb i h
  have key : ∀ o, P o → o.getD (-1) = -1 ∨ ∃ e ∈ entries cfg, o.getD (-1) = e.idx := by
    intro o h
    cases o with
    | none => exact .inl rfl
    | some i => exact .inr (h i rfl)
  unfold Spec.vhost
  cases reqHost hv with
  | none => exact key _ (hor _ _ (fun _ h => nomatch h) (hfind _))
  | some hp => exact key _ (hor _ _ (hor _ _ (hfind _) (hor _ _ (hfind _) (hor _ _ (hbest _) (hbest _)))) (hfind _))

theorem vhost_index_valid (cfg : Config) (hv : Option Str) :
    Spec.vhost cfg hv = -1 ∨ (0 ≤ Spec.vhost cfg hv ∧ Spec.vhost cfg hv < cfg.length) := by
  rcases vhost_mem cfg hv with h | ⟨e, he, h⟩
  · exact .inl h
  · have := entriesFrom_idx cfg 0 e he
    rw [h]; omega

theorem lower_eq_nil (h : Str) : lower h = [] ↔ h = [] := by simp [lower]

/-- **case-insensitivity**: two Host values that differ only in letter case select the same virtual host -/
theorem vhost_case_insensitive_core (cfg : Config) (h h' : Str) (heq : lower h = lower h') :
    Spec.vhost cfg (some h) = Spec.vhost cfg (some h') := by
  have hnil : (h = []) ↔ (h' = []) := by rw [← lower_eq_nil h, ← lower_eq_nil h', heq]
  unfold Spec.vhost reqHost
  by_cases h0 : h = []
  · have h0' := hnil.mp h0; simp [h0, h0']
  · have h0' : ¬ h' = [] := fun c => h0 (hnil.mpr c)
    simp only [h0, h0', if_false, heq]

end MosnVerif.Model.Route
