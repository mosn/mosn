import MosnVerif.Lemmas.StreamTable
import MosnVerif.Model.CorrelateSpec
/-! The regenerated id operations restore the stream's own id; the invariant of the composed system (one downstream
connection, one upstream stream table) along every run; an honest upstream's payloads reach their own exchange. -/
namespace MosnVerif.Model.Correlate
open MosnVerif.Model.StreamTable MosnVerif.Gen.StreamRestore MosnVerif.Gen.StreamIds

/-- whatever came before: when the LAST id operation applied to the frame is `SetRequestId(s.id)`, the frame goes out
with the stream's own id -/
theorem applyOps_last (alias : Bool) (sid req cur : Int) (ops : List IdOp) (h : ops.getLast? = some .setStreamId) :
    applyOps alias sid req cur ops = sid := by
  induction ops generalizing cur with
  | nil => simp at h
  | cons o r ih =>
    cases r with
    | nil =>
      simp at h; subst h; simp [applyOps]
    | cons o' r' =>
      have h' : (o' :: r').getLast? = some .setStreamId := by
        rw [List.getLast?_cons_cons] at h; exact h
      cases o <;> simp only [applyOps] <;> exact ih _ h'

/-- **id restoration** (about the regenerated `SetRequestId` placement): whatever frame a stream is handed — a response
from upstream, the request frame for a hijack reply, the request frame to be forwarded — and whatever id that frame
currently carries, the frame it writes carries the stream's own id. -/
theorem written_restores (dir sid st fid : Int) (b : Bool) : writtenId dir sid st fid b = sid := by
  unfold writtenId
  cases b <;> by_cases h : hijackBranch dir st = true <;>
    simp only [h, if_true, if_false, Bool.false_eq_true] <;> (apply applyOps_last; decide)

theorem serverStreamId_eq (x : Int) : serverStreamId x = x := rfl
theorem responseKey_eq (x : Int) : responseKey x = x := rfl

structure Inv (s : Sys) (p : Proto) (b0 : Int) : Prop where
  tinv : TInv s.up
  idinv : IdInv s.up p b0
  ownLt : ∀ w, w < s.up.nW → s.owner w < s.nE
  cur : ∀ k w, k < s.nE → (s.ex k).cur = some w → w < s.up.nW ∧ s.owner w = k ∧ (s.ex k).done = false
  sid : ∀ k, k < s.nE → (s.ex k).sid = (s.ex k).did
  wireLen : s.wire.length = s.up.nW
  wire : ∀ w, w < s.up.nW → s.wire[w]? = some ((s.up.waiter w).id, (s.ex (s.owner w)).tok)
  frames : ∀ f, f ∈ s.down → f.ex < s.nE ∧ f.id = (s.ex f.ex).did ∧ (s.ex f.ex).done = true ∧ f.pay ≠ .mixed ∧
      ∀ t, f.pay = .ok t → ∃ w, f.via = some w ∧ w < s.up.nW ∧ s.owner w = f.ex ∧
        (s.up.waiter w).got = [((s.up.waiter w).id, t)]
  exNodup : (s.down.map (·.ex)).Nodup

theorem inv_init (p : Proto) (b : Int) : Inv (init p b) p (u64 b) where
  tinv := tinv_init p b
  idinv := ⟨rfl, rfl, fun w hw => by simp [init, StreamTable.init] at hw⟩
  ownLt := fun w hw => by simp [init, StreamTable.init] at hw
  cur := fun k w hk => by simp [init] at hk
  sid := fun k hk => by simp [init] at hk
  wireLen := rfl
  wire := fun w hw => by simp [init, StreamTable.init] at hw
  frames := fun f hf => by simp [init] at hf
  exNodup := by simp [init]

/-- the upstream table takes a step that opens no stream (`reply`, `resetStream`, `connReset`): the stream objects, their
ids and the replies they have received stay -/
theorem inv_table {s : Sys} {p : Proto} {b0 : Int} (h : Inv s p b0) (op : Op) (hb : op.isSetBase = false)
    (hn : ∀ o, op ≠ .newStream o) : Inv { s with up := StreamTable.step s.up op } p b0 := by
  obtain ⟨hnW, hgot⟩ := step_keeps s.up h.tinv op hn
  have hi := idinv_step _ _ _ h.idinv op hb
  have hid : ∀ w, w < s.up.nW → ((StreamTable.step s.up op).waiter w).id = (s.up.waiter w).id := fun w hw => by
    rw [hi.ids w (hnW ▸ hw), h.idinv.ids w hw]
  refine ⟨tinv_step _ h.tinv op, hi, fun w hw => h.ownLt w (hnW ▸ hw), fun k w hk hc => ?_, h.sid,
    h.wireLen.trans hnW.symm, fun w hw => ?_, fun f hf => ?_, h.exNodup⟩
  · have ⟨a, b⟩ := h.cur k w hk hc
    exact ⟨hnW ▸ a, b⟩
  · have hw' : w < s.up.nW := hnW ▸ hw
    show s.wire[w]? = some (((StreamTable.step s.up op).waiter w).id, _)
    rw [hid w hw']; exact h.wire w hw'
  · have ⟨a, b, c, d, e⟩ := h.frames f hf
    refine ⟨a, b, c, d, fun t ht => ?_⟩
    obtain ⟨w, w1, w2, w3, w4⟩ := e t ht
    refine ⟨w, w1, hnW ▸ w2, w3, ?_⟩
    show ((StreamTable.step s.up op).waiter w).got = _
    rw [hgot w (by rw [w4]; simp), hid w w2]; exact w4

/-- a field of the exchanges on which `e` agrees with exchange `k` is the same after `setEx` -/
theorem setEx_field {α} (g : Exch → α) (s : Sys) (k : Nat) (e : Exch) (he : g e = g (s.ex k)) (j : Nat) :
    g ((s.setEx k e).ex j) = g (s.ex j) := by
  simp only [Sys.setEx]
  split
  · rename_i h; subst h; exact he
  · rfl

theorem notSetBase_reset (w : Nat) : (Op.resetStream w).isSetBase = false := rfl

/-- exchange `k` is rewritten: it keeps the identity of its request, does not un-do `done`, and a try it has in flight is
a stream object opened for it -/
theorem inv_exch {s : Sys} {p : Proto} {b0 : Int} (h : Inv s p b0) (k : Nat) (e' : Exch)
    (hd : e'.did = (s.ex k).did) (htk : e'.tok = (s.ex k).tok) (hs : e'.sid = (s.ex k).sid)
    (hm : (s.ex k).done = true → e'.done = true)
    (hc : ∀ w, e'.cur = some w → w < s.up.nW ∧ s.owner w = k ∧ e'.done = false) : Inv (s.setEx k e') p b0 := by
  have did := setEx_field Exch.did s k e' hd
  refine ⟨h.tinv, h.idinv, h.ownLt, fun j w hj hcw => ?_, fun j hj => ?_, h.wireLen, fun w hw => ?_, fun f hf => ?_, h.exNodup⟩
  · by_cases hjk : j = k
    · subst hjk; simp only [Sys.setEx, if_true] at hcw ⊢; exact hc w hcw
    · simp only [Sys.setEx, hjk, if_false] at hcw ⊢; exact h.cur j w hj hcw
  · exact (setEx_field Exch.sid s k e' hs j).trans ((h.sid j hj).trans (did j).symm)
  · show s.wire[w]? = some (_, ((s.setEx k e').ex (s.owner w)).tok)
    rw [setEx_field Exch.tok s k e' htk]; exact h.wire w hw
  · have ⟨a, b, c, d, e⟩ := h.frames f hf
    refine ⟨a, b.trans (did _).symm, ?_, d, e⟩
    by_cases hfk : f.ex = k
    · simp only [Sys.setEx, hfk, if_true]; exact hm (hfk ▸ c)
    · simp only [Sys.setEx, hfk, if_false]; exact c

/-- the reply of exchange `k`, which is done and has none yet, is written downstream -/
theorem inv_frame {s : Sys} {p : Proto} {b0 : Int} (h : Inv s p b0) (f0 : DFrame) (hk : f0.ex < s.nE)
    (hdone : (s.ex f0.ex).done = true) (hnew : ∀ f ∈ s.down, f.ex ≠ f0.ex) (hid : f0.id = (s.ex f0.ex).did)
    (hpay : f0.pay ≠ .mixed)
    (hvia : ∀ t, f0.pay = .ok t → ∃ w, f0.via = some w ∧ w < s.up.nW ∧ s.owner w = f0.ex ∧
      (s.up.waiter w).got = [((s.up.waiter w).id, t)]) : Inv { s with down := s.down ++ [f0] } p b0 := by
  refine { h with
    frames := List.forall_mem_append.mpr ⟨h.frames, List.forall_mem_singleton.mpr ⟨hk, hid, hdone, hpay, hvia⟩⟩
    exNodup := ?_ }
  show ((s.down ++ [f0]).map (·.ex)).Nodup
  rw [List.map_append, List.nodup_append]
  refine ⟨h.exNodup, by simp, fun a ha b hb => ?_⟩
  obtain ⟨f, hf, rfl⟩ := List.mem_map.mp ha
  rw [List.mem_singleton.mp hb]; exact hnew f hf

/-- an exchange that is not done has no frame downstream -/
theorem Inv.no_frame {s : Sys} {p : Proto} {b0 : Int} (h : Inv s p b0) {k : Nat} (hd : (s.ex k).done = false) :
    ∀ f ∈ s.down, f.ex ≠ k :=
  fun f hf e => by have := (h.frames f hf).2.2.1; rw [e, hd] at this; cases this

theorem inv_connReset {s : Sys} {p : Proto} {b0 : Int} (h : Inv s p b0) : Inv (step s .connReset) p b0 :=
  inv_table h .connReset rfl nofun

theorem inv_abandon {s : Sys} {p : Proto} {b0 : Int} (h : Inv s p b0) (k : Nat) : Inv (step s (.abandon k)) p b0 := by
  simp only [step]
  cases hc : (s.ex k).cur with
  | none => exact h
  | some w =>
    simp only []
    by_cases hg : k < s.nE ∧ (s.ex k).done = false
    · rw [if_pos hg]
      exact inv_exch (inv_table h (.resetStream w) rfl nofun) k { s.ex k with cur := none } rfl rfl rfl id nofun
    · rw [if_neg hg]; exact h

theorem inv_fail {s : Sys} {p : Proto} {b0 : Int} (h : Inv s p b0) (k : Nat) : Inv (step s (.fail k)) p b0 := by
  simp only [step]
  by_cases hg : k < s.nE ∧ (s.ex k).done = false
  · rw [if_pos hg]
    -- the table step (if there is a try in flight), then the exchange, then the frame
    have hup : Inv { s with up := match (s.ex k).cur with
        | some w => StreamTable.step s.up (.resetStream w) | none => s.up } p b0 := by
      cases (s.ex k).cur with
      | none => exact h
      | some w => exact inv_table h (.resetStream w) rfl nofun
    have hex := inv_exch hup k { s.ex k with cur := none, done := true } rfl rfl rfl (fun _ => rfl) nofun
    refine inv_frame hex ⟨k, _, .err, none⟩ hg.1 ?_ ?_ ?_ nofun nofun
    · simp [Sys.setEx]
    · simp only [Sys.setEx]; exact h.no_frame hg.2
    · simp only [Sys.setEx, if_true]
      rw [written_restores, h.sid k hg.1]
  · rw [if_neg hg]; exact h

theorem inv_reply {s : Sys} {p : Proto} {b0 : Int} (h : Inv s p b0) (id : Int) (tok : Nat) (body : Bool) :
    Inv (step s (.reply id tok body)) p b0 := by
  simp only [step]
  cases hl : lookup s.up.table (responseKey id) with
  | none => exact h
  | some w =>
    simp only []
    have hup := inv_table h (.reply (responseKey id) tok) rfl nofun
    by_cases hg : (s.ex (s.owner w)).done = false ∧ (s.ex (s.owner w)).cur = some w
    · rw [if_pos hg]
      have ⟨hw1, hw2, hw3⟩ := h.tinv.entry _ (lookup_mem _ _ _ hl)
      have hf := reply_fields s.up (responseKey id) tok w hl
      have hv : ((StreamTable.step s.up (.reply (responseKey id) tok)).waiter w).got =
          [(((StreamTable.step s.up (.reply (responseKey id) tok)).waiter w).id, tok)] := by
        rw [hf.2.2.2, hf.2.1 w, hw3, hw2]; rfl
      have hex := inv_exch hup (s.owner w) { s.ex (s.owner w) with cur := none, done := true } rfl rfl rfl (fun _ => rfl) nofun
      refine inv_frame hex ⟨s.owner w, _, .ok tok, some w⟩ (h.ownLt w hw1) ?_ ?_ ?_ nofun ?_
      · simp [Sys.setEx]
      · simp only [Sys.setEx]; exact h.no_frame hg.1
      · simp only [Sys.setEx, if_true]
        rw [written_restores, h.sid _ (h.ownLt w hw1)]
      · intro t ht
        cases ht
        exact ⟨w, rfl, hf.1 ▸ hw1, rfl, hv⟩
    · rw [if_neg hg]; exact hup

theorem inv_request {s : Sys} {p : Proto} {b0 : Int} (h : Inv s p b0) (did : Int) (tok : Nat) (body : Bool) :
    Inv (step s (.request did tok body)) p b0 := by
  -- the exchanges there were are untouched
  have old : ∀ j, j < s.nE → (step s (.request did tok body)).ex j = s.ex j := fun _ hj => if_neg (Nat.ne_of_lt hj)
  refine ⟨h.tinv, h.idinv, fun w hw => Nat.lt_succ_of_lt (h.ownLt w hw), fun k w hk hc => ?_, fun k hk => ?_, h.wireLen,
    fun w hw => ?_, fun f hf => ?_, h.exNodup⟩
  · rcases Nat.lt_succ_iff_lt_or_eq.mp hk with hk | rfl
    · rw [old k hk] at hc ⊢; exact h.cur k w hk hc
    · simp [step] at hc
  · rcases Nat.lt_succ_iff_lt_or_eq.mp hk with hk | rfl
    · rw [old k hk]; exact h.sid k hk
    · simp [step, serverStreamId_eq]
  · exact old _ (h.ownLt w hw) ▸ h.wire w hw
  · have ⟨a, b, c, d, e⟩ := h.frames f hf
    rw [old _ a]; exact ⟨Nat.lt_succ_of_lt a, b, c, d, e⟩

/-- a stream object is opened upstream for exchange `k`; the request frame goes out with its id and `k`'s token -/
theorem inv_open {s : Sys} {p : Proto} {b0 : Int} (h : Inv s p b0) (k : Nat) (hk : k < s.nE) :
    Inv { s with up := StreamTable.step s.up (.newStream false), owner := fun j => if j = s.up.nW then k else s.owner j,
                 wire := s.wire ++ [(nextUid s, (s.ex k).tok)] } p b0 := by
  obtain ⟨hnW, hold, hnew, -⟩ := newStream_fields s.up false
  have hold : ∀ v, v < s.up.nW → (StreamTable.step s.up (.newStream false)).waiter v = s.up.waiter v :=
    fun v hv => hold v (Nat.ne_of_lt hv)
  have own : ∀ v, v < s.up.nW → (if v = s.up.nW then k else s.owner v) = s.owner v := fun v hv => if_neg (Nat.ne_of_lt hv)
  refine ⟨tinv_step _ h.tinv (.newStream false), idinv_step _ _ _ h.idinv (.newStream false) rfl, fun w hw => ?_,
    fun j w hj hc => ?_, h.sid, ?_, fun w hw => ?_, fun f hf => ?_, h.exNodup⟩
  · dsimp only
    rcases Nat.lt_succ_iff_lt_or_eq.mp (hnW ▸ hw) with hw | rfl
    · rw [own w hw]; exact h.ownLt w hw
    · rw [if_pos rfl]; exact hk
  · have ⟨a, b, c⟩ := h.cur j w hj hc
    exact ⟨hnW ▸ Nat.lt_succ_of_lt a, (own w a).trans b, c⟩
  · dsimp only
    rw [List.length_append, List.length_singleton, hnW, h.wireLen]
  · dsimp only
    rcases Nat.lt_succ_iff_lt_or_eq.mp (hnW ▸ hw) with hw | rfl
    · rw [List.getElem?_append_left (h.wireLen ▸ hw), own w hw, hold w hw]
      exact h.wire w hw
    · rw [List.getElem?_append_right (Nat.le_of_eq h.wireLen), h.wireLen, Nat.sub_self, if_pos rfl,
        hnew]
      rfl
  · have ⟨a, b, c, d, e⟩ := h.frames f hf
    refine ⟨a, b, c, d, fun t ht => ?_⟩
    obtain ⟨w, w1, w2, w3, w4⟩ := e t ht
    exact ⟨w, w1, hnW ▸ Nat.lt_succ_of_lt w2, (own w w2).trans w3, (hold w w2).symm ▸ w4⟩

theorem inv_forward {s : Sys} {p : Proto} {b0 : Int} (h : Inv s p b0) (k : Nat) : Inv (step s (.forward k)) p b0 := by
  simp only [step]
  by_cases hg : k < s.nE ∧ (s.ex k).done = false ∧ (s.ex k).cur = none
  · rw [if_pos hg]
    simp only [written_restores]
    exact inv_exch (inv_open h k hg.1) k _ rfl rfl rfl id
      fun w hw => Option.some.inj hw ▸ ⟨(newStream_fields s.up false).1.symm ▸ Nat.lt_succ_self _, if_pos rfl, hg.2.1⟩
  · rw [if_neg hg]; exact h

theorem inv_step {s : Sys} {p : Proto} {b0 : Int} (h : Inv s p b0) (ev : Ev) : Inv (step s ev) p b0 := by
  cases ev with
  | request did tok body => exact inv_request h did tok body
  | forward k => exact inv_forward h k
  | reply id tok body => exact inv_reply h id tok body
  | abandon k => exact inv_abandon h k
  | fail k => exact inv_fail h k
  | connReset => exact inv_connReset h

theorem inv_run {s : Sys} {p : Proto} {b0 : Int} (h : Inv s p b0) (evs : List Ev) : Inv (run s evs) p b0 := by
  induction evs generalizing s with
  | nil => exact h
  | cons ev r ih => exact ih (inv_step h ev)

/-- an upstream that answers what it was asked, along a whole run -/
def Honest (s : Sys) : List Ev → Prop
  | [] => True
  | ev :: r => honest s ev = true ∧ Honest (step s ev) r

theorem honest_of_B (s : Sys) (evs : List Ev) (h : honestB s evs = true) : Honest s evs := by
  induction evs generalizing s with
  | nil => trivial
  | cons ev r ih =>
    simp only [honestB, Bool.and_eq_true] at h
    exact ⟨h.1, ih _ h.2⟩

theorem step_tok (s : Sys) (ev : Ev) (j : Nat) (hj : j < s.nE) : ((step s ev).ex j).tok = (s.ex j).tok := by
  -- the branches of `step` in the order of its definition: those that rewrite an exchange keep its token
  fun_cases step s ev with
  | case1 => simp [Nat.ne_of_lt hj]
  | case2 | case5 | case7 | case10 => exact setEx_field Exch.tok s _ _ (by rfl) j
  | case3 | case4 | case6 | case8 | case9 | case11 | case12 => rfl

/-- a step writes at most one frame; a payload it writes is the one an honest reply carries for that exchange -/
theorem step_down {s : Sys} {p : Proto} {b0 : Int} (hi : Inv s p b0) (ev : Ev) :
    (step s ev).down = s.down ∨ ∃ f0, (step s ev).down = s.down ++ [f0] ∧ f0.ex < s.nE ∧
      ∀ t, f0.pay = .ok t → honest s ev = true → t = (s.ex f0.ex).tok := by
  -- only an accepted reply and a local error reply write a frame
  fun_cases step s ev with
  | case5 id tok body w hl =>
    refine .inr ⟨_, rfl, hi.ownLt w (hi.tinv.entry _ (lookup_mem _ _ _ hl)).1, fun t ht hh => ?_⟩
    cases ht
    simpa [honest, hl] using hh
  | case10 k _ hg => exact .inr ⟨_, rfl, hg.1, nofun⟩
  | case1 | case2 | case3 | case4 | case6 | case7 | case8 | case9 | case11 | case12 => exact .inl rfl

/-- payloads carry the token of their exchange when the upstream is honest -/
theorem token_echo (p : Proto) (base : Int) (evs : List Ev) (hh : Honest (init p base) evs) (f : DFrame) (t : Nat) :
    let s := run (init p base) evs
    f ∈ s.down → f.pay = .ok t → t = (s.ex f.ex).tok := by
  have key : ∀ (s : Sys), Inv s p (u64 base) → (∀ f t, f ∈ s.down → f.pay = .ok t → t = (s.ex f.ex).tok) →
      ∀ evs, Honest s evs → ∀ f t, f ∈ (run s evs).down → f.pay = .ok t → t = ((run s evs).ex f.ex).tok := by
    intro s hi ht evs
    induction evs generalizing s with
    | nil => intro _; exact ht
    | cons ev r ih =>
      intro hh
      apply ih (step s ev) (inv_step hi ev) ?_ hh.2
      intro f t hf hp
      rcases step_down hi ev with hd | ⟨f0, hd, hlt, hf0⟩
      · rw [hd] at hf
        rw [step_tok s ev _ (hi.frames f hf).1]; exact ht f t hf hp
      · rw [hd] at hf
        rcases List.mem_append.mp hf with hf | hf
        · rw [step_tok s ev _ (hi.frames f hf).1]; exact ht f t hf hp
        · simp at hf; subst hf
          rw [step_tok s ev _ hlt]; exact hf0 t hp hh.1
  intro s hf hp
  exact key _ (inv_init p base) (fun f t hf _ => by simp [init] at hf) evs hh f t hf hp

end MosnVerif.Model.Correlate
