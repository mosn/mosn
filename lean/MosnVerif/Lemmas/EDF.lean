import MosnVerif.Model.EDF
import MosnVerif.Lemmas.NodupMap
/-! EDF scheduler: the invariant `deadline − 1/weight ≤ now ≤ deadline`, its preservation by every pick, and the
window (lag) bound it implies. Core Lean only. -/
namespace MosnVerif.Model.EDF
open MosnVerif.Gen

theorem one_div_pos {w : Rat} (h : 0 < w) : 0 < 1 / w := by
  rw [Rat.div_def, Rat.one_mul]; exact Rat.inv_pos.mpr h

theorem less_iff (a b : Entry) :
    less a b = true ↔ (a.deadline < b.deadline ∨ (a.deadline = b.deadline ∧ a.queued < b.queued)) := by
  unfold less Edf.edfEntryLess
  split
  · rename_i h; simp at h; simp [h]
  · rename_i h; simp at h; simp [h]

theorem less_false_le {a b : Entry} (h : less a b = false) : b.deadline ≤ a.deadline :=
  Rat.not_lt.mp fun hlt => Bool.false_ne_true (h.symm.trans ((less_iff a b).mpr (Or.inl hlt)))

theorem less_asymm (a b : Entry) (h : less a b = true) : less b a = false := by
  cases hb : less b a
  · rfl
  · rw [less_iff] at h hb; grind

theorem less_irrefl (a : Entry) : less a a = false := by
  cases h : less a a
  · rfl
  · have := less_asymm a a h; rw [h] at this; cases this

/-- `a ≤ b :⇔ ¬ b < a` is transitive. -/
theorem less_le_trans (a b c : Entry) (h1 : less b a = false) (h2 : less c b = false) : less c a = false := by
  cases hc : less c a
  · rfl
  · have n1 : ¬ (less b a = true) := by simp [h1]
    have n2 : ¬ (less c b = true) := by simp [h2]
    rw [less_iff] at hc n1 n2
    grind

/-- the scan that keeps the lesser entry ends with a least one among the entry it starts with and those it visits. -/
theorem foldl_least (r : List Entry) (best : Entry) :
    let m := r.foldl (fun best x => if less x best then x else best) best
    m ∈ best :: r ∧ ∀ f ∈ best :: r, less f m = false := by
  induction r generalizing best with
  | nil => exact ⟨List.mem_cons_self, List.forall_mem_singleton.mpr (less_irrefl _)⟩
  | cons x r ih =>
    simp only [List.foldl_cons]
    cases hl : less x best
    · simp only [Bool.false_eq_true, if_false]
      obtain ⟨h1, h2⟩ := ih best
      obtain ⟨hb, hr⟩ := List.forall_mem_cons.mp h2
      exact ⟨(List.mem_cons.mp h1).elim (fun h => by rw [h]; exact .head _) fun h => .tail _ (.tail _ h),
        List.forall_mem_cons.mpr ⟨hb, List.forall_mem_cons.mpr ⟨less_le_trans _ _ _ hb hl, hr⟩⟩⟩
    · simp only [if_true]
      obtain ⟨h1, h2⟩ := ih x
      exact ⟨.tail _ h1,
        List.forall_mem_cons.mpr ⟨less_le_trans _ _ _ (List.forall_mem_cons.mp h2).1 (less_asymm _ _ hl), h2⟩⟩

theorem minEntry_least {l : List Entry} {m : Entry} (h : minEntry l = some m) :
    m ∈ l ∧ ∀ f ∈ l, less f m = false := by
  cases l with
  | nil => simp [minEntry] at h
  | cons x r => exact Option.some.inj h ▸ foldl_least r x

theorem minEntry_mem_min {l : List Entry} {e : Entry} (h : minEntry l = some e) :
    e ∈ l ∧ ∀ f ∈ l, e.deadline ≤ f.deadline :=
  ⟨(minEntry_least h).1, fun f hf => less_false_le ((minEntry_least h).2 f hf)⟩

theorem minEntry_isSome {l : List Entry} (h : l ≠ []) : (minEntry l).isSome = true := by
  cases l with
  | nil => exact absurd rfl h
  | cons x r => simp [minEntry]

theorem pick_mem_min {s : Sched} {hint : Option Nat} {e : Entry} (h : s.pick hint = some e) :
    e ∈ s.entries ∧ ∀ f ∈ s.entries, e.deadline ≤ f.deadline := by
  unfold Sched.pick at h
  split at h
  · rename_i e' he
    simp only [Option.some.injEq] at h; subst h
    obtain ⟨hv, _, he⟩ := Option.bind_eq_some_iff.mp he
    have hp := List.find?_some he
    simp only [Bool.and_eq_true, isMinDeadline, List.all_eq_true, decide_eq_true_eq] at hp
    exact ⟨List.mem_of_find?_eq_some he, hp.2⟩
  · exact minEntry_mem_min h

theorem pick_none (s : Sched) : s.pick none = minEntry s.entries := by
  unfold Sched.pick; simp

/-- **the invariant**: every queued entry was pushed with a positive weight and satisfies
`deadline − 1/weight ≤ currentTime ≤ deadline`; items are distinct. -/
def Inv (s : Sched) : Prop :=
  (∀ e ∈ s.entries, 0 < e.weight ∧ e.deadline - 1 / e.weight ≤ s.now ∧ s.now ≤ e.deadline) ∧
  (s.entries.map (·.item)).Nodup

/-- hence the pairwise form of DESIGN.md: `dᵢ − 1/wᵢ ≤ dⱼ` for all queued `i, j`. -/
theorem Inv.pairwise {s : Sched} (h : Inv s) {e f : Entry} (he : e ∈ s.entries) (hf : f ∈ s.entries) :
    e.deadline - 1 / e.weight ≤ f.deadline :=
  Rat.le_trans (h.1 e he).2.1 (h.1 f hf).2.2

theorem inv_empty : Inv {} := ⟨by simp, by simp⟩

theorem inv_add {s : Sched} (h : Inv s) {item : Nat} {w : Rat} (hw : 0 < w)
    (hn : item ∉ s.entries.map (·.item)) : Inv (s.add item w) := by
  unfold Sched.add
  constructor
  · refine List.forall_mem_append.mpr ⟨h.1, List.forall_mem_singleton.mpr ?_⟩
    simp only [Edf.addDeadline]
    have := one_div_pos hw
    refine ⟨hw, ?_, ?_⟩ <;> grind
  · rw [List.map_append]
    exact (List.perm_append_singleton _ _).nodup_iff.mpr (List.nodup_cons.mpr ⟨hn, h.2⟩)

theorem map_item_replace (l : List Entry) (k : Nat) (e' : Entry) (hk : e'.item = k) :
    (l.map (fun f => if f.item = k then e' else f)).map (·.item) = l.map (·.item) := by
  induction l with
  | nil => rfl
  | cons x r ih =>
    simp only [List.map_cons, ih, List.cons.injEq, and_true]
    split
    · rename_i h; rw [hk, h]
    · rfl

theorem nextAndPush_spec {s s' : Sched} {wf : Nat → Rat} {hint : Option Nat} {i : Nat}
    (hn : s.nextAndPush wf hint = some (i, s')) :
    ∃ e, s.pick hint = some e ∧ i = e.item ∧
      s' = { entries := s.entries.map (fun f => if f.item = e.item then repush e (wf e.item) (s.clock + 1) else f)
             now := Edf.nextTime e.deadline
             clock := s.clock + 1 } := by
  unfold Sched.nextAndPush at hn
  split at hn
  · simp at hn
  · rename_i e hp
    simp only [Option.some.injEq, Prod.mk.injEq] at hn
    exact ⟨e, hp, hn.1.symm, hn.2.symm⟩

theorem nextAndPush_some {s : Sched} (hne : s.entries ≠ []) (wf : Nat → Rat) (hint : Option Nat) :
    ∃ i s', s.nextAndPush wf hint = some (i, s') := by
  have hpick : ∃ e, s.pick hint = some e := by
    unfold Sched.pick
    split
    · rename_i e _; exact ⟨e, rfl⟩
    · exact Option.isSome_iff_exists.mp (minEntry_isSome hne)
  obtain ⟨e, he⟩ := hpick
  unfold Sched.nextAndPush; rw [he]; exact ⟨_, _, rfl⟩

/-- a pick re-queues the served entry under its own item: the queued items stay. -/
theorem next_items {s s' : Sched} {wf : Nat → Rat} {hint : Option Nat} {i : Nat}
    (hn : s.nextAndPush wf hint = some (i, s')) : s'.entries.map (·.item) = s.entries.map (·.item) := by
  obtain ⟨e, _, _, rfl⟩ := nextAndPush_spec hn
  exact map_item_replace _ _ _ rfl

theorem inv_next {s s' : Sched} {wf : Nat → Rat} {hint : Option Nat} {i : Nat} (h : Inv s)
    (hwf : ∀ k, 0 < wf k) (hn : s.nextAndPush wf hint = some (i, s')) : Inv s' := by
  obtain ⟨e, hp, _, rfl⟩ := nextAndPush_spec hn
  obtain ⟨hm, hmin⟩ := pick_mem_min hp
  have he := h.1 e hm
  have hpos := one_div_pos (hwf e.item)
  constructor
  · refine List.forall_mem_map.mpr fun f hf => ?_
    simp only [Edf.nextTime]
    split
    · -- the served entry: its new deadline is the new time plus `1/w`
      simp only [repush, Edf.nextDeadline]
      have hle := Rat.add_le_add_left (c := e.deadline) |>.mpr (Rat.le_of_lt hpos)
      rw [Rat.add_zero] at hle
      exact ⟨hwf e.item, by rw [Rat.add_sub_cancel]; exact Rat.le_refl, hle⟩
    · -- any other entry: the new time is a minimal deadline
      exact ⟨(h.1 f hf).1, Rat.le_trans (h.1 f hf).2.1 he.2.2, hmin f hf⟩
  · simp only
    rw [map_item_replace _ _ _ (by simp [repush])]
    exact h.2

/-- weights are a fixed function of the item (weighted round robin: `fixHostWeight(host.Weight())`). -/
def StaticW (s : Sched) (wf : Nat → Rat) : Prop := ∀ e ∈ s.entries, e.weight = wf e.item

theorem static_next {s s' : Sched} {wf : Nat → Rat} {hint : Option Nat} {i : Nat} (h : StaticW s wf)
    (hn : s.nextAndPush wf hint = some (i, s')) : StaticW s' wf := by
  obtain ⟨e, _, _, rfl⟩ := nextAndPush_spec hn
  refine List.forall_mem_map.mpr fun f hf => ?_
  split
  · rfl
  · exact h f hf

theorem next_deadlines {s s' : Sched} {wf : Nat → Rat} {hint : Option Nat} {i : Nat} (h : Inv s)
    (hn : s.nextAndPush wf hint = some (i, s')) :
    i ∈ s.entries.map (·.item) ∧
    ∀ e ∈ s.entries, ∃ e' ∈ s'.entries, e'.item = e.item ∧
      e'.deadline = e.deadline + (if e.item = i then 1 / wf i else 0) := by
  obtain ⟨pe, hp, rfl, rfl⟩ := nextAndPush_spec hn
  obtain ⟨hm, _⟩ := pick_mem_min hp
  refine ⟨List.mem_map.mpr ⟨pe, hm, rfl⟩, ?_⟩
  intro e he
  by_cases hc : e.item = pe.item
  · have : e = pe := Lemmas.NodupMap.eq_of_nodup_map h.2 he hm hc
    subst this
    exact ⟨repush e (wf e.item) (s.clock + 1), List.mem_map.mpr ⟨e, he, if_pos rfl⟩, rfl, by rw [if_pos rfl]; rfl⟩
  · exact ⟨e, List.mem_map.mpr ⟨e, he, if_neg hc⟩, rfl, by rw [if_neg hc, Rat.add_zero]⟩

theorem run_nil (s : Sched) (wf : Nat → Rat) : s.run wf [] = ([], s) := rfl

theorem run_cons_some {s s' : Sched} {wf : Nat → Rat} {h : Option Nat} {i : Nat} (t : List (Option Nat))
    (hn : s.nextAndPush wf h = some (i, s')) : s.run wf (h :: t) = (i :: (s'.run wf t).1, (s'.run wf t).2) := by
  rw [Sched.run]
  simp only [hn]

theorem run_cons_none {s : Sched} {wf : Nat → Rat} {h : Option Nat} (t : List (Option Nat))
    (hn : s.nextAndPush wf h = none) : s.run wf (h :: t) = ([], s) := by
  rw [Sched.run]
  simp only [hn]

/-- what every pick keeps, every run keeps; what holds of the item of every pick from such a state holds of every served
item. -/
theorem run_preserves {P : Sched → Prop} {Q : Nat → Prop} {wf : Nat → Rat}
    (step : ∀ s s' hint i, P s → s.nextAndPush wf hint = some (i, s') → P s' ∧ Q i)
    (hints : List (Option Nat)) (s : Sched) (h : P s) : P (s.run wf hints).2 ∧ ∀ x ∈ (s.run wf hints).1, Q x := by
  induction hints generalizing s with
  | nil => exact ⟨h, nofun⟩
  | cons hd tl ih =>
    cases hn : s.nextAndPush wf hd with
    | none => rw [run_cons_none tl hn]; exact ⟨h, nofun⟩
    | some p =>
      obtain ⟨h', q⟩ := step _ _ _ _ h hn
      rw [run_cons_some tl hn]
      exact ⟨(ih _ h').1, List.forall_mem_cons.mpr ⟨q, (ih _ h').2⟩⟩

theorem run_facts (wf : Nat → Rat) (hwf : ∀ k, 0 < wf k) (hints : List (Option Nat)) (s : Sched)
    (h : Inv s) (hs : StaticW s wf) : Inv (s.run wf hints).2 ∧ StaticW (s.run wf hints).2 wf :=
  (run_preserves (P := fun t => Inv t ∧ StaticW t wf) (Q := fun _ => True)
    (fun _ _ _ _ ⟨h1, h2⟩ hn => ⟨⟨inv_next h1 hwf hn, static_next h2 hn⟩, trivial⟩) hints s ⟨h, hs⟩).1

theorem unserved_arith (d w : Rat) : d = d + ((0 : Nat) : Rat) / w := by
  rw [Rat.div_def]
  exact ((congrArg (d + ·) (Rat.zero_mul _)).trans (Rat.add_zero d)).symm

theorem advance_arith (d w : Rat) (c : Nat) : d + 1 / w + (c : Rat) / w = d + ((c + 1 : Nat) : Rat) / w := by
  rw [Rat.natCast_add, Rat.div_def, Rat.div_def, Rat.div_def, Rat.add_mul, Rat.add_assoc, Rat.add_comm (1 * w⁻¹)]
  rfl

/-- over a run every entry's deadline advances by (number of times served)/weight. -/
theorem run_deadline (wf : Nat → Rat) (hwf : ∀ k, 0 < wf k) (hints : List (Option Nat)) (s : Sched) (h : Inv s)
    {e : Entry} (he : e ∈ s.entries) :
    ∃ e' ∈ (s.run wf hints).2.entries, e'.item = e.item ∧
      e'.deadline = e.deadline + (((s.run wf hints).1.count e.item : Nat) : Rat) / wf e.item := by
  induction hints generalizing s e with
  | nil => exact ⟨e, he, rfl, unserved_arith _ _⟩
  | cons hd tl ih =>
    cases hn : s.nextAndPush wf hd with
    | none =>
      rw [run_cons_none tl hn]
      exact ⟨e, he, rfl, unserved_arith _ _⟩
    | some p =>
      obtain ⟨i, s1⟩ := p
      obtain ⟨e1, he1, hi1, hd1⟩ := (next_deadlines h hn).2 e he
      obtain ⟨e2, he2, hi2, hd2⟩ := ih s1 (inv_next h hwf hn) he1
      rw [run_cons_some tl hn]
      refine ⟨e2, he2, hi2.trans hi1, ?_⟩
      rw [hd2, hd1, hi1]
      by_cases hc : e.item = i
      · rw [if_pos hc, hc, List.count_cons_self, advance_arith]
      · rw [if_neg hc, Rat.add_zero, List.count_cons_of_ne (fun h => hc h.symm)]

theorem mem_of_item_mem {l : List Entry} {i : Nat} (h : i ∈ l.map (·.item)) : ∃ e ∈ l, e.item = i := by
  simpa using h

theorem window_arith (di dj p q u v : Rat) (a : di + p - u ≤ dj + q) (b : dj - v ≤ di) : p - q ≤ u + v := by
  grind

/-- **window bound (one direction; swap `i`, `j` for the other)**: from any state satisfying the invariant, with
item-determined positive weights, for ANY number of picks and ANY resolution of ties:
`nᵢ/wᵢ − nⱼ/wⱼ ≤ 1/wᵢ + 1/wⱼ`. -/
theorem window_bound (wf : Nat → Rat) (hwf : ∀ k, 0 < wf k) (hints : List (Option Nat)) (s : Sched)
    (h : Inv s) (hs : StaticW s wf) {i j : Nat} (hi : i ∈ s.entries.map (·.item)) (hj : j ∈ s.entries.map (·.item)) :
    (((s.run wf hints).1.count i : Nat) : Rat) / wf i - (((s.run wf hints).1.count j : Nat) : Rat) / wf j
      ≤ 1 / wf i + 1 / wf j := by
  obtain ⟨ei, hei, rfl⟩ := mem_of_item_mem hi
  obtain ⟨ej, hej, rfl⟩ := mem_of_item_mem hj
  obtain ⟨r1, r2⟩ := run_facts wf hwf hints s h hs
  obtain ⟨ei', hi', hii, hdi⟩ := run_deadline wf hwf hints s h hei
  obtain ⟨ej', hj', hji, hdj⟩ := run_deadline wf hwf hints s h hej
  -- `dᵢ' − 1/wᵢ ≤ now' ≤ dⱼ'` after the run, `dⱼ − 1/wⱼ ≤ now ≤ dᵢ` before it
  have a := r1.pairwise hi' hj'
  have b := h.pairwise hej hei
  rw [r2 ei' hi', hii, hdi, hdj] at a
  rw [hs ej hej] at b
  exact window_arith _ _ _ _ _ _ a b

theorem initWith_succ (wf : Nat → Rat) (n : Nat) : initWith wf (n + 1) = (initWith wf n).add n (wf n) := by
  unfold initWith
  rw [List.range_succ, List.foldl_append]
  rfl

/-- the scheduler of a balancer over hosts `0 … n-1` whose weights `wf` are determined by the host: the invariant,
weights `wf item`, one entry per host. Built by `refresh`, kept by every pick. -/
def Ready (wf : Nat → Rat) (n : Nat) (s : Sched) : Prop :=
  Inv s ∧ StaticW s wf ∧ s.entries.map (·.item) = List.range n

theorem Ready.mem {wf : Nat → Rat} {n : Nat} {s : Sched} (R : Ready wf n s) {i : Nat} (hi : i < n) :
    i ∈ s.entries.map (·.item) := by
  rw [R.2.2]; exact List.mem_range.mpr hi

theorem Ready.ne_nil {wf : Nat → Rat} {n : Nat} {s : Sched} (R : Ready wf n s) (hn : 0 < n) : s.entries ≠ [] := by
  intro h
  have := R.mem hn
  rw [h] at this
  exact List.not_mem_nil this

theorem Ready.next {wf : Nat → Rat} {n : Nat} {s s' : Sched} {hint : Option Nat} {i : Nat} (R : Ready wf n s)
    (hwf : ∀ k, 0 < wf k) (hn : s.nextAndPush wf hint = some (i, s')) : Ready wf n s' ∧ i < n := by
  have hi := (next_deadlines R.1 hn).1
  rw [R.2.2] at hi
  exact ⟨⟨inv_next R.1 hwf hn, static_next R.2.1 hn, (next_items hn).trans R.2.2⟩, List.mem_range.mp hi⟩

theorem Ready.run {wf : Nat → Rat} {n : Nat} {s : Sched} (R : Ready wf n s) (hwf : ∀ k, 0 < wf k)
    (hints : List (Option Nat)) : Ready wf n (s.run wf hints).2 :=
  (run_preserves (fun _ _ _ _ R hn => R.next hwf hn) hints s R).1

/-- every pick of a run of a scheduler over hosts `0 … n-1` is one of them. -/
theorem Ready.run_lt {wf : Nat → Rat} {n : Nat} {s : Sched} (R : Ready wf n s) (hwf : ∀ k, 0 < wf k)
    (hints : List (Option Nat)) : ∀ x ∈ (s.run wf hints).1, x < n :=
  (run_preserves (fun _ _ _ _ R hn => R.next hwf hn) hints s R).2

theorem Ready.run_append {wf : Nat → Rat} {n : Nat} {s : Sched} (R : Ready wf n s) (hwf : ∀ k, 0 < wf k) (hn : 0 < n)
    (H1 H2 : List (Option Nat)) :
    s.run wf (H1 ++ H2) = ((s.run wf H1).1 ++ ((s.run wf H1).2.run wf H2).1, ((s.run wf H1).2.run wf H2).2) := by
  induction H1 generalizing s with
  | nil => rfl
  | cons h t ih =>
    obtain ⟨i, s', hnp⟩ := nextAndPush_some (R.ne_nil hn) wf h
    rw [List.cons_append, run_cons_some (t ++ H2) hnp, run_cons_some t hnp, ih (R.next hwf hnp).1]
    rfl

theorem ready_initWith (wf : Nat → Rat) (hwf : ∀ k, 0 < wf k) (n : Nat) : Ready wf n (initWith wf n) := by
  induction n with
  | zero => exact ⟨inv_empty, by intro e he; simp [initWith] at he, by simp [initWith]⟩
  | succ n ih =>
    obtain ⟨h1, h2, h3⟩ := ih
    rw [initWith_succ]
    refine ⟨inv_add h1 (hwf n) (by rw [h3]; simp), ?_, ?_⟩
    · exact List.forall_mem_append.mpr ⟨h2, List.forall_mem_singleton.mpr rfl⟩
    · simp only [Sched.add, List.map_append, h3, List.map_cons, List.map_nil, List.range_succ]

theorem ready_refresh (wf : Nat → Rat) (hwf : ∀ k, 0 < wf k) (n : Nat) (pre : List (Option Nat)) :
    Ready wf n (refresh wf n pre) :=
  (ready_initWith wf hwf n).run hwf pre

def lagVal (wi wj : Int) (i j : Nat) (p : List Nat) : Int := (p.count i : Int) * wj - (p.count j : Int) * wi

theorem lagVal_nil (wi wj : Int) (i j : Nat) : lagVal wi wj i j [] = 0 := by
  simp [lagVal]

theorem lagVal_cons (wi wj : Int) (i j x : Nat) (p : List Nat) :
    lagVal wi wj i j (x :: p) = lagVal wi wj i j [x] + lagVal wi wj i j p := by
  simp only [lagVal, List.count_cons, List.count_nil, Int.natCast_add, Int.add_mul]
  omega

theorem lagStep_eq (wi wj : Int) {i j : Nat} (hij : i ≠ j) (x : Nat) (g : Int) :
    (if x = i then g + wj else if x = j then g - wi else g) = g + lagVal wi wj i j [x] := by
  unfold lagVal
  by_cases h1 : x = i
  · subst h1; simp [hij]
  · by_cases h2 : x = j
    · subst h2; simp [h1]; omega
    · simp [h1, h2]

/-- the running minimum and maximum of `lagRange` are each the initial value or the lag of a prefix: whatever holds of
all those holds of them. -/
theorem lagRange_attained (wi wj : Int) (i j : Nat) (hij : i ≠ j) (P : Int → Prop) (seq : List Nat) (g0 mn mx : Int)
    (hmn : P mn) (hmx : P mx) (hb : ∀ p, p <+: seq → P (g0 + lagVal wi wj i j p)) :
    let r := seq.foldl (fun (acc : Int × Int × Int) x =>
      let g := if x = i then acc.1 + wj else if x = j then acc.1 - wi else acc.1
      (g, min acc.2.1 g, max acc.2.2 g)) (g0, mn, mx)
    P r.2.1 ∧ P r.2.2 := by
  induction seq generalizing g0 mn mx with
  | nil => exact ⟨hmn, hmx⟩
  | cons x r ih =>
    simp only [List.foldl_cons]
    rw [lagStep_eq wi wj hij]
    have hx : P (g0 + lagVal wi wj i j [x]) := hb [x] (by simp)
    apply ih
    · rw [Int.min_def]; split <;> assumption
    · rw [Int.max_def]; split <;> assumption
    · intro p hp
      rw [Int.add_assoc, ← lagVal_cons]
      exact hb (x :: p) (by simpa using hp)

/-- the picks of a run cut anywhere: the first part is a run, the rest a run from the state that one leaves. -/
theorem run_split (wf : Nat → Rat) (hints : List (Option Nat)) (s : Sched) {a b : List Nat}
    (h : (s.run wf hints).1 = a ++ b) :
    ∃ H1 H2, (s.run wf H1).1 = a ∧ (s.run wf H1).2.run wf H2 = (b, (s.run wf hints).2) := by
  induction a generalizing s hints with
  | nil => exact ⟨[], hints, rfl, Prod.ext h rfl⟩
  | cons x a ih =>
    cases hints with
    | nil => cases h
    | cons hd tl =>
      cases hn : s.nextAndPush wf hd with
      | none => rw [run_cons_none tl hn] at h; cases h
      | some q =>
        rw [run_cons_some tl hn] at h ⊢
        cases (List.cons.inj h).1
        obtain ⟨H1, H2, e1, e2⟩ := ih _ _ (List.cons.inj h).2
        exact ⟨hd :: H1, H2, by rw [run_cons_some H1 hn, e1], by rw [run_cons_some H1 hn]; exact e2⟩

/-- the two pairwise inequalities of the invariant after a run, multiplied by `x·y`. -/
theorem lag_arith (di dj a b x y : Rat) (hx : 0 < x) (hy : 0 < y)
    (a1 : di + a / x - 1 / x ≤ dj + b / y) (a2 : dj + b / y - 1 / y ≤ di + a / x) :
    - x - (di - dj) * x * y ≤ a * y - b * x ∧ a * y - b * x ≤ y - (di - dj) * x * y := by
  have hx0 : x ≠ 0 := fun h => Rat.lt_irrefl (h ▸ hx)
  have hy0 : y ≠ 0 := fun h => Rat.lt_irrefl (h ▸ hy)
  have hxy : 0 ≤ x * y := Rat.le_of_lt (Rat.mul_pos hx hy)
  have m1 := Rat.mul_nonneg hxy ((Rat.le_iff_sub_nonneg _ _).mp a1)
  have m2 := Rat.mul_nonneg hxy ((Rat.le_iff_sub_nonneg _ _).mp a2)
  have e1 : x * y * (dj + b / y - (di + a / x - 1 / x)) = y - (di - dj) * x * y - (a * y - b * x) := by grind
  have e2 : x * y * (di + a / x - (dj + b / y - 1 / y)) = a * y - b * x - (- x - (di - dj) * x * y) := by grind
  rw [e1] at m1
  rw [e2] at m2
  exact ⟨(Rat.le_iff_sub_nonneg _ _).mpr m2, (Rat.le_iff_sub_nonneg _ _).mpr m1⟩

/-- the lags `nᵢ·wⱼ − nⱼ·wᵢ` of ALL runs from one state lie in one interval of width `wᵢ + wⱼ` (its position is fixed by
the two deadlines in that state). -/
theorem lag_interval (w : Nat → Int) (hw : ∀ k, 0 < w k) (s : Sched) (h : Inv s)
    (hs : StaticW s (fun k => ((w k : Int) : Rat))) {i j : Nat} (hi : i ∈ s.entries.map (·.item))
    (hj : j ∈ s.entries.map (·.item)) :
    ∃ L U : Rat, U - L = ((w i + w j : Int) : Rat) ∧ ∀ hints,
      L ≤ ((lagVal (w i) (w j) i j (s.run (fun k => ((w k : Int) : Rat)) hints).1 : Int) : Rat) ∧
      ((lagVal (w i) (w j) i j (s.run (fun k => ((w k : Int) : Rat)) hints).1 : Int) : Rat) ≤ U := by
  obtain ⟨ei, hei, rfl⟩ := mem_of_item_mem hi
  obtain ⟨ej, hej, rfl⟩ := mem_of_item_mem hj
  refine ⟨- ((w ei.item : Int) : Rat) - (ei.deadline - ej.deadline) * ((w ei.item : Int) : Rat) * ((w ej.item : Int) : Rat),
    ((w ej.item : Int) : Rat) - (ei.deadline - ej.deadline) * ((w ei.item : Int) : Rat) * ((w ej.item : Int) : Rat),
    by rw [Rat.intCast_add]; grind, fun hints => ?_⟩
  have hwf : ∀ k, (0 : Rat) < ((w k : Int) : Rat) := fun k => Rat.intCast_pos.mpr (hw k)
  obtain ⟨r1, r2⟩ := run_facts _ hwf hints s h hs
  obtain ⟨ei', hi', hii, hdi⟩ := run_deadline _ hwf hints s h hei
  obtain ⟨ej', hj', hji, hdj⟩ := run_deadline _ hwf hints s h hej
  have a1 := r1.pairwise hi' hj'
  have a2 := r1.pairwise hj' hi'
  rw [r2 ei' hi', hii, hdi, hdj] at a1
  rw [r2 ej' hj', hji, hdi, hdj] at a2
  have := lag_arith ei.deadline ej.deadline _ _ _ _ (hwf ei.item) (hwf ej.item) a1 a2
  simp only [lagVal, Rat.intCast_sub, Rat.intCast_mul, Rat.intCast_natCast]
  exact this

theorem range_arith (L U : Rat) (mn mx z : Int) (hLU : U - L = (z : Rat)) (l1 : L ≤ (mn : Rat)) (l2 : (mx : Rat) ≤ U) :
    mx - mn ≤ z := by
  have : ((mx - mn : Int) : Rat) ≤ (z : Rat) := by
    rw [Rat.intCast_sub, ← hLU]
    grind
  exact Rat.intCast_le_intCast.mp this

theorem pairOk_of_run (w : Nat → Int) (hw : ∀ k, 0 < w k) (hints : List (Option Nat)) (s : Sched)
    (h : Inv s) (hs : StaticW s (fun k => ((w k : Int) : Rat))) {i j : Nat}
    (hi : i ∈ s.entries.map (·.item)) (hj : j ∈ s.entries.map (·.item)) (hij : i ≠ j) :
    pairOk w (s.run (fun k => ((w k : Int) : Rat)) hints).1 i j = true := by
  obtain ⟨L, U, hLU, hb⟩ := lag_interval w hw s h hs hi hj
  have hb' : ∀ p, p <+: (s.run (fun k => ((w k : Int) : Rat)) hints).1 →
      L ≤ ((0 + lagVal (w i) (w j) i j p : Int) : Rat) ∧ ((0 + lagVal (w i) (w j) i j p : Int) : Rat) ≤ U := by
    intro p hp
    obtain ⟨t, ht⟩ := hp
    obtain ⟨h', _, rfl, _⟩ := run_split _ hints s ht.symm
    rw [Int.zero_add]
    exact hb h'
  have h0 := hb' [] List.nil_prefix
  rw [lagVal_nil] at h0
  obtain ⟨l1, l2⟩ := lagRange_attained (w i) (w j) i j hij (fun z => L ≤ ((z : Int) : Rat) ∧ ((z : Int) : Rat) ≤ U)
    (s.run (fun k => ((w k : Int) : Rat)) hints).1 0 0 0 h0 h0 hb'
  unfold pairOk lagRange
  simp only [decide_eq_true_eq]
  exact range_arith L U _ _ _ hLU l1.1 l2.2

/-- **the executable predicate holds of every run**: all windows of the served sequence respect the lag bound. -/
theorem windowsOk_of_run (w : Nat → Int) (hw : ∀ k, 0 < w k) (n : Nat) (hints : List (Option Nat)) (s : Sched)
    (R : Ready (fun k => ((w k : Int) : Rat)) n s) :
    windowsOk w n (s.run (fun k => ((w k : Int) : Rat)) hints).1 = true := by
  unfold windowsOk
  simp only [List.all_eq_true, List.mem_range, Bool.or_eq_true, decide_eq_true_eq]
  intro i hi j hj
  by_cases hji : j ≤ i
  · exact Or.inl hji
  · exact Or.inr (pairOk_of_run w hw hints s R.1 R.2.1 (R.mem hi) (R.mem hj) (by omega))

theorem fixHostWeight_range (x : Int) : 1 ≤ Edf.fixHostWeight x ∧ Edf.fixHostWeight x ≤ 128 := by
  unfold Edf.fixHostWeight Edf.minHostWeight Edf.maxHostWeight
  simp only [decide_eq_true_eq, ge_iff_le]
  split
  · omega
  · split <;> omega

theorem wrrWeight_eq (ws : List Nat) : wrrWeight ws = fun k => ((wrrW ws k : Int) : Rat) := rfl

theorem wrrW_pos (ws : List Nat) (k : Nat) : 0 < wrrW ws k := by
  have := (fixHostWeight_range ((ws.getD k 0 : Nat) : Int)).1
  unfold wrrW; omega

theorem wrrWeight_pos (ws : List Nat) (k : Nat) : 0 < wrrWeight ws k := Rat.intCast_pos.mpr (wrrW_pos ws k)

end MosnVerif.Model.EDF
