import MosnVerif.Model.Match
import MosnVerif.Lemmas.FrameSteps
/-! monotonicity of every protocol matcher -/
namespace MosnVerif.Model.Match
open MosnVerif.Model.Framing MosnVerif.Model.FrameBytes MosnVerif.Model.FrameSteps
open MosnVerif.Gen.FrameConsts

theorem codeMatch_mono (code : Nat) : Monotone (codeMatch code) := by
  refine guarded_final MR.again _ (fun l => decide (l = 0)) (fun b => u8 b 0)
    (fun _ v => if v = code then .success else .failed)
    (fun b => by simp [codeMatch]) ?_ (fun p e hs => u8_append p e 0 ?_) (fun _ _ _ _ => rfl)
  all_goals (intros; grind)

/-- `dubboMatcher` / `thriftMatcher`: wait for `minLen` bytes, then compare `b[lo:hi]` with the magic -/
theorem magicMatch_mono (minLen lo hi : Nat) (tag : List Nat) (h : hi ≤ minLen) :
    Monotone fun b => if b.length < minLen then .again else if nats ((b.take hi).drop lo) ≠ tag then .failed else .success :=
  guarded_final MR.again _ (fun l => decide (l < minLen)) (fun b => b.take hi)
    (fun _ v => if nats (v.drop lo) ≠ tag then .failed else .success) (fun b => by simp)
    (fun l k hl => by simp only [decide_eq_false_iff_not] at hl ⊢; omega)
    (fun p e hs => List.take_append_of_le_length (by simp only [decide_eq_false_iff_not] at hs; omega)) (fun _ _ _ _ => rfl)

theorem dubboMatch_mono : Monotone dubboMatch := magicMatch_mono 16 0 2 _ (by omega)

theorem thriftMatch_mono : Monotone thriftMatch := magicMatch_mono 6 4 6 _ (by omega)

theorem tarsRequest_ext : Final .less tarsRequest := by
  refine guarded_final TarsStatus.less _ (fun l => decide (l < tars_lenFieldSize)) (fun b => be b 0 tars_lenFieldSize)
    (fun l n => if n < tars_minPackageLength ∨ n > tars_maxPackageLength then .error else if l < n then .less else .full)
    (fun b => by simp [tarsRequest]) ?_ (fun p e hs => be_append p e 0 _ ?_) ?_
  all_goals (intros; grind)

theorem tarsMatch_mono : Monotone tarsMatch := by
  intro p e h
  unfold tarsMatch at h ⊢
  by_cases h1 : p.length < tars_matchMinLen
  · simp [h1] at h
  · have h1' : ¬ ((p ++ e).length < tars_matchMinLen) := by simp; omega
    have ha : tars_IVersionHeaderIdx < p.length := by frame_consts_defs; omega
    have hb : tars_iVersionDataIdx < p.length := by frame_consts_defs; omega
    simp only [h1, h1', ↓reduceIte, u8_append p e _ ha, u8_append p e _ hb] at h ⊢
    split
    · rename_i hv
      simp only [hv, ↓reduceIte] at h
      have : tarsRequest p ≠ .less := by
        intro hc; rw [hc] at h; simp at h
      rw [tarsRequest_ext p e this]
    · rfl

/-- a test on the prefixes of length `≤ size` sees only the first `size` bytes -/
theorem any_take_append (p e : Bytes) (f : Nat → List Nat → Bool) (size : Nat) (h : size ≤ p.length) :
    (List.range (size + 1)).any (fun i => f i (nats ((p ++ e).take i))) =
      (List.range (size + 1)).any (fun i => f i (nats (p.take i))) := by
  rw [Bool.eq_iff_iff, List.any_eq_true, List.any_eq_true]
  have ht : ∀ i ∈ List.range (size + 1), (p ++ e).take i = p.take i := fun i hi =>
    List.take_append_of_le_length (by simp at hi; omega)
  exact ⟨fun ⟨i, hi, hc⟩ => ⟨i, hi, ht i hi ▸ hc⟩, fun ⟨i, hi, hc⟩ => ⟨i, hi, (ht i hi).symm ▸ hc⟩⟩

theorem http1Match_mono : Monotone http1Match := by
  intro p e h
  unfold http1Match at h ⊢
  by_cases h1 : p.length < http_minMethodLen
  · simp [h1] at h
  · have h1' : ¬ ((p ++ e).length < http_minMethodLen) := by simp; omega
    simp only [h1, h1', ↓reduceIte] at h ⊢
    generalize hs : (if p.length > http_maxMethodLen then http_maxMethodLen else p.length) = size at h
    generalize hs' : (if (p ++ e).length > http_maxMethodLen then http_maxMethodLen else (p ++ e).length) = size'
    have hle : size ≤ p.length := by subst hs; split <;> omega
    have hss : size ≤ size' ∧ (¬ size < http_maxMethodLen → size' = size) := by
      subst hs; subst hs'; simp only [List.length_append]; split <;> split <;> omega
    have hA := any_take_append p e (fun i t => decide (http_minMethodLen ≤ i) && http_methods.contains t) size hle
    by_cases hany : (List.range (size + 1)).any
        (fun i => decide (http_minMethodLen ≤ i) && http_methods.contains (nats (p.take i))) = true
    · -- success stays success: the witness is still in range
      rw [← hA, List.any_eq_true] at hany
      obtain ⟨i, hi, hc⟩ := hany
      rw [if_pos (List.any_eq_true.mpr ⟨i, by simp at hi ⊢; omega, hc⟩), if_pos (hA ▸ List.any_eq_true.mpr ⟨i, hi, hc⟩)]
    · -- failed: all `http_maxMethodLen` bytes were there already
      rw [if_neg hany] at h ⊢
      have hlt : ¬ size < http_maxMethodLen := fun hlt => h (by simp [hlt])
      rw [hss.2 hlt, hA, if_neg hany]

theorem http2Match_mono : Monotone http2Match := by
  intro p e h
  unfold http2Match at h ⊢
  by_cases hf : p.length ≥ http2_preface.length
  · have hf' : (p ++ e).length ≥ http2_preface.length := by rw [List.length_append]; omega
    rw [if_pos hf, if_pos hf', List.take_append_of_le_length hf]
  · rw [if_neg hf] at h ⊢
    have hne : ¬ (nats (p.take p.length) = http2_preface.take p.length) := by
      intro hc; rw [if_pos hc] at h; exact h rfl
    rw [if_neg hne]
    -- the extension cannot repair a mismatch inside the first |p| bytes
    have key : ∀ size', p.length ≤ size' →
        ¬ (nats ((p ++ e).take size') = http2_preface.take size') := by
      intro size' hle hc
      apply hne
      have := congrArg (List.take p.length) hc
      simp only [nats, ← List.map_take, List.take_take, Nat.min_eq_left hle] at this
      simpa [nats, List.take_append_of_le_length (Nat.le_refl _)] using this
    by_cases hfull : (p ++ e).length ≥ http2_preface.length
    · rw [if_pos hfull]
      have hle : p.length ≤ http2_preface.length := by omega
      rw [if_neg (key _ hle)]
    · rw [if_neg hfull]
      have hle : p.length ≤ (p ++ e).length := by simp
      rw [if_neg (key _ hle)]

/-- at most one matcher of the scope can succeed on extensions of `p` (names of successful matchers coincide) -/
def Exclusive (ms : List (String × (Bytes → MR))) (p : Bytes) : Prop :=
  ∀ e m1 m2, m1 ∈ ms → m2 ∈ ms → m1.2 (p ++ e) = .success → m2.2 (p ++ e) = .success → m1.1 = m2.1

theorem find_success_name (ms : List (String × (Bytes → MR))) (q : Bytes) (m : String × (Bytes → MR))
    (h : ms.find? (fun m => m.2 q == .success) = some m) : m ∈ ms ∧ m.2 q = .success := by
  have h1 := List.mem_of_find?_eq_some h
  have h2 := List.find?_some h
  exact ⟨h1, by simpa using h2⟩

/-- once a protocol has been selected on a prefix, every longer prefix selects the same protocol — provided the
matchers are monotone and no second matcher of the scope can succeed on the stream. -/
theorem select_proto_final (ms : List (String × (Bytes → MR))) (hm : ∀ m ∈ ms, Monotone m.2)
    (p e : Bytes) (hx : Exclusive ms p) (n : String) (h : select ms p = .proto n) :
    select ms (p ++ e) = .proto n := by
  unfold select at h ⊢
  cases hf : ms.find? (fun m => m.2 p == .success) with
  | none => rw [hf] at h; simp only at h; split at h <;> simp at h
  | some m =>
    rw [hf] at h
    simp only [SelRes.proto.injEq] at h
    have ⟨hmem, hs⟩ := find_success_name ms p m hf
    have hs' : m.2 (p ++ e) = .success := by
      rw [hm m hmem p e (by rw [hs]; simp), hs]
    cases hf' : ms.find? (fun m => m.2 (p ++ e) == .success) with
    | none =>
      have := List.find?_eq_none.mp hf' m hmem
      simp [hs'] at this
    | some m' =>
      have ⟨hmem', hs2⟩ := find_success_name ms (p ++ e) m' hf'
      have := hx e m m' hmem hmem' hs' hs2
      simp only [SelRes.proto.injEq]
      rw [← this, h]

/-- selection fails exactly when every matcher of the scope has failed -/
theorem select_eq_failed (ms : List (String × (Bytes → MR))) (b : Bytes) :
    select ms b = .failed ↔ ∀ m ∈ ms, m.2 b = .failed := by
  unfold select
  cases hf : ms.find? (fun m => m.2 b == .success) with
  | some m =>
    have ⟨hmem, hs⟩ := find_success_name ms b m hf
    exact ⟨nofun, fun h => by simp [h m hmem] at hs⟩
  | none =>
    rw [List.find?_eq_none] at hf
    simp only [ite_eq_right_iff, reduceCtorEq, imp_false, List.any_eq_true, not_exists, not_and]
    refine ⟨fun h m hm => ?_, fun h m hm => by simp [h m hm]⟩
    have h1 := hf m hm
    have h2 := h m hm
    cases hv : m.2 b with
    | failed => rfl
    | success => simp [hv] at h1
    | again => simp [hv] at h2

/-- a failed selection is final (no exclusivity needed) -/
theorem select_failed_final (ms : List (String × (Bytes → MR))) (hm : ∀ m ∈ ms, Monotone m.2)
    (p e : Bytes) (h : select ms p = .failed) : select ms (p ++ e) = .failed := by
  rw [select_eq_failed] at h ⊢
  intro m hmem
  rw [hm m hmem p e (by simp [h m hmem]), h m hmem]

end MosnVerif.Model.Match
