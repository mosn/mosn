import MosnVerif.Model.Transfer
import MosnVerif.Lemmas.Bytes
/-! helper lemmas for the transfer codec -/
namespace MosnVerif.Model.Transfer
open MosnVerif.Gen.Transfer

theorem getU32_putU32 (n : Nat) (h : n < 4294967296) (r : Bytes) : getU32 (putU32 n ++ r) = n := by
  simpa only [putU32, getU32, List.cons_append, List.nil_append, UInt8.toNat_ofNat', Nat.reducePow, Nat.mod_mod]
    using Bytes.digits32 n h

theorem putU32_length (n : Nat) : (putU32 n).length = 4 := rfl

/-- with the regenerated layout the head is the two big-endian words in order -/
theorem buildHead_eq (s1 s2 : Nat) : buildHead s1 s2 = putU32 s1 ++ putU32 s2 := by
  simp [buildHead, writeAt, headLen, encOff1, encOff2, putU32, List.replicate]

theorem recvMsg_append (p r : Bytes) : recvMsg (p ++ r) p.length = some (p, r) := by
  simp [recvMsg]

theorem recvHead_buildHead (s1 s2 : Nat) (h1 : s1 < 4294967296) (h2 : s2 < 4294967296) (r : Bytes) :
    recvHead (buildHead s1 s2 ++ r) = some (s1, s2, r) := by
  unfold recvHead
  rw [buildHead_eq, show recvHeadLen = (putU32 s1 ++ putU32 s2).length from rfl, recvMsg_append]
  show some (getU32 (putU32 s1 ++ putU32 s2), getU32 (putU32 s2 ++ []), r) = _
  rw [getU32_putU32 s1 h1, getU32_putU32 s2 h2]

theorem buildHead_length (a b : Nat) : (buildHead a b).length = 8 := by
  rw [buildHead_eq]; simp [putU32_length]

/-- with the regenerated field order the read message is head(data length, TLS length) ++ data ++ TLS -/
theorem encodeRead_eq (data tls : Bytes) : encodeRead data tls = buildHead data.length tls.length ++ data ++ tls := by
  simp [encodeRead, readHeadIsDataThenTls]

theorem encodeWrite_eq (id : Nat) (data : Bytes) : encodeWrite id data = buildHead data.length id ++ data := by
  simp [encodeWrite, writeSendLenFirst]

theorem encodeRead_length (data tls : Bytes) : (encodeRead data tls).length = 8 + data.length + tls.length := by
  simp only [encodeRead_eq, List.length_append, buildHead_length]

theorem recvMsg_short (s : Bytes) (n : Nat) (h : s.length < n) : recvMsg s n = none := by
  unfold recvMsg; rw [if_pos h]

theorem decodeRead_short_head (s : Bytes) (h : s.length < 8) : decodeRead s = none := by
  unfold decodeRead recvHead
  rw [recvMsg_short s recvHeadLen (by simpa [recvHeadLen] using h)]

theorem readPayloadLen_nat (a b : Nat) : (readPayloadLen (a : Int) (b : Int)).toNat = a + b := by
  unfold readPayloadLen; omega

/-- once the head is read, the receiver takes exactly the announced number of payload bytes and cuts them in two -/
theorem decodeRead_of_head (s : Bytes) (a b : Nat) (r : Bytes) (hh : recvHead s = some (a, b, r)) :
    decodeRead s = (recvMsg r (a + b)).map fun q =>
      (slice q.1 (readDataLo a b) (readDataHi a b), slice q.1 (readTlsLo a b) (readTlsHi a b), q.2) := by
  unfold decodeRead
  rw [hh]
  simp only [readPayloadLen_nat]
  cases recvMsg r (a + b) <;> rfl

theorem decodeRead_short_payload (a b : Nat) (ha : a < 4294967296) (hb : b < 4294967296) (p : Bytes)
    (h : p.length < a + b) : decodeRead (buildHead a b ++ p) = none := by
  rw [decodeRead_of_head _ a b p (recvHead_buildHead a b ha hb p), recvMsg_short p _ h]
  rfl

theorem slice_data (data tls : Bytes) :
    slice (data ++ tls) (readDataLo data.length tls.length) (readDataHi data.length tls.length) = data := by
  simp [slice, readDataLo, readDataHi]

theorem slice_tls (data tls : Bytes) :
    slice (data ++ tls) (readTlsLo data.length tls.length) (readTlsHi data.length tls.length) = tls := by
  simp only [slice, readTlsLo, readTlsHi, Int.toNat_natCast, List.length_append]
  rw [List.take_of_length_le (by simp)]
  simp

theorem decodeWrite_some_of (s : Bytes) (size id : Nat) (r p rest : Bytes) (hh : recvHead s = some (size, id, r))
    (hm : recvMsg r size = some (p, rest)) : decodeWrite s = some (id, p, rest) := by
  unfold decodeWrite
  rw [hh]
  simp only [writeRecvSizeFirst, ↓reduceIte, hm]

end MosnVerif.Model.Transfer
