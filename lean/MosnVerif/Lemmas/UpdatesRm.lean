import MosnVerif.Lemmas.Updates
/-!
C12: what a successful single-route update leaves, and the `rm` cases: the model's observation of one multi-address
`RemoveClusterHosts` call in closed form, for the declarative predicate `Spec.rmHolds`.
-/
namespace MosnVerif.Model.Updates

theorem Table.addRoute_some {o : Oracle} {t t' : Table} {d : String} {r : Route} {i : Nat}
    (h : t.addRoute o d r = some (i, t')) :
    o.resolve t.doms d = some i ∧ t' = { t with vhs := modifyAt (fun vh => { vh with routes := vh.routes ++ [r] }) t.vhs i } := by
  unfold Table.addRoute at h
  split at h
  · cases h
  · rename_i hr
    split at h
    · split at h
      · cases h; exact ⟨hr, rfl⟩
      · cases h
    · cases h

theorem Table.removeAll_some {o : Oracle} {t t' : Table} {d : String} {i : Nat} (h : t.removeAll o d = some (i, t')) :
    o.resolve t.doms d = some i ∧ t' = { t with vhs := modifyAt (fun vh => { vh with routes := [] }) t.vhs i } := by
  unfold Table.removeAll at h
  split at h
  · cases h
  · rename_i hr
    split at h
    · cases h; exact ⟨hr, rfl⟩
    · cases h

/-- router `n` recorded with virtual host `i` modified in the live tables (by `f`) and in the configuration beside them (by `g`):
the modified virtual hosts sit at index `i` on both sides -/
theorem recordRouter_modify (s : State) (n : String) (t : Table) (cfg : RouterCfg) (hn : cfg.name = n) (f : LiveVH → LiveVH)
    (g : VHost → VHost) (i : Nat) :
    let cfg' := { cfg with vhosts := modifyAt g cfg.vhosts i }
    let s' := recordRouter true { s with wrappers := s.wrappers.set n ⟨some { t with vhs := modifyAt f t.vhs i }, cfg'⟩ } cfg'
    ∃ t' c', liveRouters s' n = some (some t') ∧ s'.rstore n = some c' ∧
      t'.vhs[i]? = (t.vhs[i]?).map f ∧ c'.vhosts[i]? = (cfg.vhosts[i]?).map g := by
  subst hn
  refine ⟨{ t with vhs := modifyAt f t.vhs i }, storedCfg { cfg with vhosts := modifyAt g cfg.vhosts i }, ?_, ?_, ?_, ?_⟩
  · simp [recordRouter, liveRouters]
  · simp [recordRouter, gen_setRouterStores]
  · simp [modifyAt_eq]
  · simp [modifyAt_eq]

/-- an operation that is the host-list update `f` of an existing cluster succeeds from a coherent state and leaves `f` of the
old hosts, live and stored -/
theorem step_updateHosts {o : Oracle} {s : State} (hI : Inv o s) (op : Op) {c : String} {lc : LiveCluster}
    (f : List Host → List Host) (hop : step o s op = updateHosts s c f) (hc : s.clusters c = some lc) :
    (step o s op).2 = true ∧ (step o s op).1.clusters c = some ⟨lc.tag, f lc.hosts⟩ ∧
    (step o s op).1.cstore c = some ⟨lc.tag, f lc.hosts⟩ := by
  have hI' := inv_step hI op
  rw [hop] at hI' ⊢
  obtain ⟨h1, h2, _⟩ := updateHosts_some f hc
  exact ⟨h1, h2, (hI'.c_some c _ h2).1⟩

/-- an operation that is a cluster update succeeds (from every state) and leaves the new configuration with the hosts the
handler picks, live and stored -/
theorem step_updateCluster {o : Oracle} {s : State} (op : Op) (c : String) (tag : Nat) (cfgHosts : List Host)
    (handler : Option LiveCluster → List Host) (hop : step o s op = updateCluster s c tag cfgHosts handler) :
    (step o s op).2 = true ∧ (step o s op).1.clusters c = some ⟨tag, handler (s.clusters c)⟩ ∧
    (step o s op).1.cstore c = some ⟨tag, handler (s.clusters c)⟩ := by
  rw [hop, updateCluster_eq]
  exact ⟨rfl, FMap.set_same _ _ _, FMap.set_same _ _ _⟩

theorem distinct_of_nodup (l : List String) (h : l.Nodup) : Spec.distinct l = true := by
  induction l with
  | nil => rfl
  | cons a r ih =>
    rw [List.nodup_cons] at h
    simp only [Spec.distinct, Bool.and_eq_true, Bool.not_eq_true', List.contains_eq_mem, decide_eq_false_iff_not]
    exact ⟨h.1, ih h.2⟩

theorem rmObserve_eq (o : Oracle) (hosts : List Host) (addrs : List String) :
    rmObserve o hosts addrs =
      ⟨true, ((sortByAddr (dedup hosts)).filter (fun h => !decide (h.addr ∈ addrs))).map (·.addr),
             ((sortByAddr (dedup hosts)).filter (fun h => !decide (h.addr ∈ addrs))).map (·.addr), []⟩ := by
  have hc0 : (run o [.addOrUpdateCluster "c" 1 []]).clusters "c" = some ⟨1, []⟩ :=
    (step_updateCluster (o := o) (s := init) (.addOrUpdateCluster "c" 1 []) "c" 1 [] inheritHosts rfl).2.1
  have hc1 : (run o [.addOrUpdateCluster "c" 1 [], .updateHosts "c" hosts]).clusters "c" = some ⟨1, replaceHosts hosts []⟩ :=
    (step_updateHosts (inv_run o _) (.updateHosts "c" hosts) (replaceHosts hosts) rfl hc0).2.1
  obtain ⟨h1, h2, h3⟩ := step_updateHosts (inv_run o _) (.removeHosts "c" addrs) (removeHosts addrs) rfl hc1
  simp only [replaceHosts] at h2 h3
  rw [removeHosts_eq addrs _ (dedup_nodup hosts)] at h2 h3
  unfold rmObserve
  simp only [step] at h1 h2 h3 ⊢
  simp only [h1, h2, h3, Option.map_some, Option.getD_some]

end MosnVerif.Model.Updates
