import MosnVerif.Lemmas.PoolH2Spec
/-! Single steps of the HTTP/2 pool model in closed form (for the scenario theorems of `Props/C09.lean`). -/
namespace MosnVerif.Model.PoolH2
open MosnVerif.Gen.PoolH2 MosnVerif.Gen.Pool
open MosnVerif.Model.Pool (Stream Dial countLive)

/-- the pool's client has been told to go away: the critical section gives it up and (dial ok) dials ONE replacement -/
theorem pick_goaway (s : State) (h : Inv s) (c : Nat) (ha : s.active = some c) (hg : (s.conn c).goaway ≠ 0) (dial : Dial) :
    pick s dial = if dial.fails then dropped s else dialled (dropped s) := by
  unfold pick
  rw [giveUp_eq s h, if_pos ⟨by simp [ha], by simpa [State.curGoaway, ha] using hg⟩, dialIfNone_eq]
  have : (dropped s).active = none := rfl
  cases dial.fails <;> simp [this]

/-- the pool's client has not been told to go away: the critical section changes nothing, whatever the dial would do -/
theorem pick_keep (s : State) (h : Inv s) (a : Nat) (ha : s.active = some a) (hg : (s.conn a).goaway = 0) (dial : Dial) :
    pick s dial = s := by
  unfold pick
  rw [giveUp_eq s h, if_neg (by simp [State.curGoaway, ha, hg]), dialIfNone_eq, if_neg (by simp [ha])]

/-- the pool holds no client: a dial, and nothing else -/
theorem pick_none (s : State) (h : Inv s) (ha : s.active = none) (dial : Dial) :
    pick s dial = if dial.fails then s else dialled s := by
  unfold pick
  rw [giveUp_eq s h, if_neg (by simp [ha]), dialIfNone_eq]
  cases dial.fails <;> simp [ha]

/-- the two ways out of the critical section of `NewStream` -/
theorem pick_cases (s : State) (h : Inv s) (dial : Dial) :
    (∃ a, s.active = some a ∧ (s.conn a).goaway = 0 ∧ pick s dial = s) ∨
    ((∀ a, s.active = some a → (s.conn a).goaway ≠ 0) ∧
      (pick s dial).conn = (if dial.fails then s.conn else fun k => if k = s.nConns then {} else s.conn k) ∧
      (pick s dial).nConns = (if dial.fails then s.nConns else s.nConns + 1) ∧
      (pick s dial).active = (if dial.fails then none else some s.nConns)) := by
  cases ha : s.active with
  | none =>
    refine Or.inr ⟨fun _ e => (nomatch e), ?_⟩
    rw [pick_none s h ha]
    cases dial.fails
    · exact ⟨rfl, rfl, rfl⟩
    · exact ⟨rfl, rfl, ha⟩
  | some a =>
    by_cases hg : (s.conn a).goaway = 0
    · exact Or.inl ⟨a, rfl, hg, pick_keep s h a ha hg dial⟩
    · refine Or.inr ⟨fun _ e => Option.some.inj e ▸ hg, ?_⟩
      rw [pick_goaway s h a ha hg]
      cases dial.fails <;> exact ⟨rfl, rfl, rfl⟩

/-- `NewStream` after the critical section touches the request books only -/
theorem newStream_conn_fields (s : State) (dial : Dial) :
    (newStream s dial).1.nConns = (pick s dial).nConns ∧ (newStream s dial).1.active = (pick s dial).active ∧
    (newStream s dial).1.connHost = (pick s dial).connHost ∧ (newStream s dial).1.connCluster = (pick s dial).connCluster ∧
    (newStream s dial).1.conn = (pick s dial).conn ∧ (newStream s dial).1.maxReq = (pick s dial).maxReq := by
  unfold newStream
  simp only
  split
  · exact ⟨rfl, rfl, rfl, rfl, rfl, rfl⟩
  · split
    · exact ⟨rfl, rfl, rfl, rfl, rfl, rfl⟩
    · rw [lease, movesN_lease]; exact ⟨rfl, rfl, rfl, rfl, rfl, rfl⟩

/-- the result of `NewStream` in terms of the client the critical section settled on -/
theorem newStream_result (s : State) (dial : Dial) :
    (newStream s dial).2 =
      match (pick s dial).active with
      | none => .connFail
      | some c => if canCreate (pick s dial).maxReq (pick s dial).reqCur then .ok c else .overflow := by
  unfold newStream
  simp only
  split
  · rename_i h; simp [h]
  · rename_i c h
    simp only [h]
    cases canCreate (pick s dial).maxReq (pick s dial).reqCur <;> simp

/-- with a client after the critical section the request is served by it, unless the breaker refuses -/
theorem newStream_served (s : State) (dial : Dial) (a : Nat) (ha : (pick s dial).active = some a) :
    (newStream s dial).2 = .ok a ∨ (newStream s dial).2 = .overflow := by
  rw [newStream_result, ha]
  dsimp only
  split
  · exact Or.inl rfl
  · exact Or.inr rfl

/-- a refusal takes nothing from the request books -/
theorem newStream_refused (s : State) (dial : Dial) (h : (newStream s dial).2.isOk = false) :
    (newStream s dial).1 = pick s dial := by
  unfold newStream at h ⊢
  simp only at h ⊢
  split
  · rfl
  · split
    · rfl
    · rename_i hc hcan
      simp [hc, hcan, Res.isOk] at h

theorem pick_req_fields (s : State) (h : Inv s) (dial : Dial) :
    (pick s dial).reqCur = s.reqCur ∧ (pick s dial).actHost = s.actHost ∧ (pick s dial).actCluster = s.actCluster ∧
    (pick s dial).nStreams = s.nStreams ∧ (pick s dial).stream = s.stream ∧ (pick s dial).maxReq = s.maxReq ∧
    (pick s dial).ext = s.ext := by
  unfold pick
  rw [giveUp_eq s h, dialIfNone_eq]
  split <;> split <;> exact ⟨rfl, rfl, rfl, rfl, rfl, rfl, rfl⟩

/-- a request is served by an open connection that has not been told to go away, which is the pool's client afterwards;
such a connection, when there is one before the call, serves it without a dial; at most one connection is dialled; a
refusal takes nothing from the request books -/
theorem lease_sound (s : State) (h : Inv s) (dial : Dial) :
    (∀ c, (newStream s dial).2 = .ok c → c < (newStream s dial).1.nConns ∧ ((newStream s dial).1.conn c).netOpen = true ∧
      ((newStream s dial).1.conn c).goaway = 0 ∧ (newStream s dial).1.active = some c) ∧
    (∀ c0, c0 < s.nConns → (s.conn c0).netOpen = true → (s.conn c0).goaway = 0 →
      (newStream s dial).1.nConns = s.nConns ∧ ((newStream s dial).2 = .ok c0 ∨ (newStream s dial).2 = .overflow)) ∧
    (newStream s dial).1.nConns ≤ s.nConns + 1 ∧
    ((newStream s dial).2.isOk = false → (newStream s dial).1.reqCur = s.reqCur ∧ (newStream s dial).1.actHost = s.actHost ∧
      (newStream s dial).1.actCluster = s.actCluster ∧ (newStream s dial).1.nStreams = s.nStreams) := by
  obtain ⟨f1, f2, _, _, f5, _⟩ := newStream_conn_fields s dial
  have hres := newStream_result s dial
  have hr := inv_newStream s h dial
  rw [f1, f2, f5]
  refine ⟨fun c hc => ?_, fun c0 hc0 ho hg => ?_, ?_, fun hno => ?_⟩
  · -- the client the critical section settled on: kept (not told to go away) or fresh
    have hact : (pick s dial).active = some c := by
      rw [hres] at hc
      split at hc
      · cases hc
      · rename_i c' ha; split at hc <;> cases hc; exact ha
    have ⟨h1, h2⟩ := hr.activeOk c (f2.trans hact)
    rw [f1] at h1; rw [f5] at h2
    refine ⟨h1, h2, ?_, hact⟩
    rcases pick_cases s h dial with ⟨a, ha, hg, e⟩ | ⟨_, e1, _, e3⟩
    · rw [e, ha] at hact; cases hact; rw [e]; exact hg
    · rw [e1]
      cases hf : dial.fails <;> rw [hf] at e3
      · cases hact.symm.trans e3; exact congrArg Conn.goaway (if_pos rfl)
      · cases hact.symm.trans e3
  · have ha := h.openOk c0 hc0 ho hg
    rcases pick_cases s h dial with ⟨a, _, _, e⟩ | ⟨hn, _⟩
    · exact ⟨congrArg State.nConns e, newStream_served s dial c0 (e.symm ▸ ha)⟩
    · exact absurd hg (hn c0 ha)
  · rcases pick_cases s h dial with ⟨a, _, _, e⟩ | ⟨_, _, e2, _⟩
    · rw [e]; omega
    · rw [e2]; split <;> omega
  · obtain ⟨g1, g2, g3, g4, _⟩ := pick_req_fields s h dial
    rw [newStream_refused s dial hno]; exact ⟨g1, g2, g3, g4⟩

/-- a pool that holds a client has both connection gauges at 1 -/
theorem Inv.gauge_some {s : State} (h : Inv s) {a : Nat} (ha : s.active = some a) : s.connHost = 1 ∧ s.connCluster = 1 := by
  have := h.gauge
  rwa [gaugeOf, ha] at this

theorem poolCanCreate_iff (m : Nat) (n : Int) (hn : 0 ≤ n) : canCreate (m : Int) n = true ↔ (m = 0 ∨ n < m) :=
  Lemmas.Resource.canCreate_iff m n hn

theorem find?_range_none (p : Nat → Bool) (n : Nat) (h : ∀ c, c < n → p c = false) : (List.range n).find? p = none := by
  rw [← List.head?_filter, filter_range_none p n h]; rfl

theorem find?_range_unique (p : Nat → Bool) (a n : Nat) (ha : a < n) (hp : ∀ c, c < n → (p c = true ↔ c = a)) :
    (List.range n).find? p = some a := by
  rw [← List.head?_filter, filter_range_single p a n ha hp]; rfl

/-- the connection a request would be served by, read off the observation: the pool's client if it has not been told to
go away -/
theorem usable_obsOf (s : State) (h : Inv s) :
    (List.range (obsOf s).conns.length).find? (fun c => (obsOf s).isOpen c && !s.told c) =
      (match s.active with
       | some a => if (s.conn a).goaway = 0 then some a else none
       | none => none) := by
  rw [conns_length]
  have hp : ∀ c, c < s.nConns → (((obsOf s).isOpen c && !s.told c) = true ↔ ((s.conn c).netOpen = true ∧ (s.conn c).goaway = 0)) := by
    intro c hc
    rw [isOpen_obsOf]
    simp [hc, State.told]
  cases ha : s.active with
  | none =>
    simp only
    apply find?_range_none
    intro c hc
    cases hv : ((obsOf s).isOpen c && !s.told c)
    · rfl
    · have ⟨h1, h2⟩ := (hp c hc).mp hv
      have := h.openOk c hc h1 h2
      rw [ha] at this; cases this
  | some a =>
    have ⟨ha1, ha2⟩ := h.activeOk a ha
    simp only
    by_cases hg : (s.conn a).goaway = 0
    · rw [if_pos hg]
      apply find?_range_unique _ a _ ha1
      intro c hc
      rw [hp c hc]
      constructor
      · intro ⟨h1, h2⟩
        have := h.openOk c hc h1 h2
        rw [ha] at this; cases this; rfl
      · intro e; subst e; exact ⟨ha2, hg⟩
    · rw [if_neg hg]
      apply find?_range_none
      intro c hc
      cases hv : ((obsOf s).isOpen c && !s.told c)
      · rfl
      · have ⟨h1, h2⟩ := (hp c hc).mp hv
        have := h.openOk c hc h1 h2
        rw [ha] at this; cases this
        exact absurd h2 hg

theorem room_obsOf (s : State) (h : Inv s) :
    decide (s.maxReq = 0 ∨ (s.ext : Int) + ((obsOf s).liveConns.length : Int) < s.maxReq) = canCreate s.maxReq s.reqCur := by
  have hlen : (obsOf s).liveConns.length = s.liveCount := Pool.length_liveConns_obsStreams _ _ h.once
  rw [hlen, Bool.eq_iff_iff, decide_eq_true_iff, poolCanCreate_iff s.maxReq s.reqCur h.reqOk.nonneg, h.req]
  split
  · rename_i hm; exact ⟨fun _ => Or.inl hm, fun _ => Or.inl hm⟩
  · exact Iff.rfl

def resGranted : Res → Option Nat
  | .ok c => some c
  | _ => none

/-- **the `NewStream` predicate on the model**: for every state satisfying the invariant and every dial outcome, the
observation pair (before, after) of the model's `NewStream` satisfies `newStreamSpec`. -/
theorem newStreamSpec_holds (s : State) (h : Inv s) (dial : Dial) :
    newStreamSpec s.maxReq s.ext s.told dial.fails (obsOf s) (resGranted (newStream s dial).2) (newStream s dial).2.render
      (obsOf (newStream s dial).1) = true := by
  obtain ⟨f1, f2, f3, f4, f5, f6⟩ := newStream_conn_fields s dial
  have hres := newStream_result s dial
  obtain ⟨g1, g2, g3, g4, g5, g6, g7⟩ := pick_req_fields s h dial
  have hafterlen : (obsOf (newStream s dial).1).conns.length = (pick s dial).nConns := by rw [conns_length, f1]
  -- a refusal leaves the request side of the observation as it was
  have hrefused : (newStream s dial).2.isOk = false →
      ((obsOf (newStream s dial).1).streams == (obsOf s).streams && (obsOf (newStream s dial).1).reqCur == (obsOf s).reqCur &&
       (obsOf (newStream s dial).1).actHost == (obsOf s).actHost && (obsOf (newStream s dial).1).actCluster == (obsOf s).actCluster) = true := by
    intro hno
    rw [newStream_refused s dial hno]
    simp [obsOf, g1, g2, g3, g4, g5]
  unfold newStreamSpec
  rw [usable_obsOf s h, room_obsOf s h, hafterlen, conns_length]
  rw [g6, g1] at hres
  rcases pick_cases s h dial with ⟨a, ha, hg, e⟩ | ⟨hn, _, e2, e3⟩
  · -- the client serves, nothing is dialled
    rw [e, ha] at hres
    rw [e]
    simp only [ha, hg, if_true]
    cases hcc : canCreate (s.maxReq : Int) s.reqCur <;> rw [hcc] at hres
    · have hno : (newStream s dial).2.isOk = false := by rw [hres]; rfl
      simp [hres, resGranted, Res.render, hrefused hno]
    · simp [hres, resGranted]
  · -- no client that could serve: the dial decides
    have hu : (match s.active with
        | some a => if (s.conn a).goaway = 0 then some a else none
        | none => none) = none := by
      cases ha : s.active with
      | none => rfl
      | some a => exact if_neg (hn a ha)
    rw [hu, e2]
    rw [e3] at hres
    cases hf : dial.fails <;> rw [hf] at hres
    · cases hcc : canCreate (s.maxReq : Int) s.reqCur <;> simp only [hcc, Bool.false_eq_true, if_false, if_true] at hres
      · have hno : (newStream s dial).2.isOk = false := by rw [hres]; rfl
        simp [hres, resGranted, Res.render, hrefused hno]
      · simp [hres, resGranted]
    · have hno : (newStream s dial).2.isOk = false := by rw [hres]; rfl
      simp [hres, resGranted, Res.render, hrefused hno]

end MosnVerif.Model.PoolH2
