import MosnVerif.Lemmas.DumpProto
/-!
C12, dump protocol: the scripts the driver runs (`runScript`: whole updates between rounds, rounds with one update injected
before / after the snapshot, failing writes) are schedules of the machine, every round of a script ends between two rounds with
all mutators idle, and the model's observations satisfy `Spec.dumpHolds`.
-/
namespace MosnVerif.Model.DumpProto
open MosnVerif.Gen.DumpProto

theorem run_append (c : Conf) (a b : List Ev) : run c (a ++ b) = run (run c a) b := by
  simp [run, List.foldl_append]

theorem setM_setM (m : Nat → MState) (t : Nat) (v w : MState) : setM (setM m t v) t w = setM m t w := by
  funext u; simp only [setM]; split <;> rfl

theorem setM_self (m : Nat → MState) (t : Nat) : setM m t (m t) = m := by
  funext u; simp only [setM]; split
  · rename_i e; rw [e]
  · rfl

/-- the actions of a request run alone (up to its last action; the step back to idle follows) only move the flag -/
theorem run_req (p : Prog) : ∀ (c : Conf), c.m 1 = .run p →
    run c (List.replicate (reqLen p c.flag) (.upd 1)) = { c with m := setM c.m 1 (.run .done), flag := reqFlag p c.flag } := by
  induction p with
  | done =>
    intro c hm
    simp only [reqLen, List.replicate_zero, run, List.foldl_nil, reqFlag, ← hm, setM_self]
  | cas o n a b iha ihb =>
    intro c hm
    simp only [reqLen, List.replicate_succ, run_cons, step, stepMut, hm, reqFlag]
    split
    · rw [iha _ (by simp [setM])]; simp only [setM_setM]
    · rw [ihb _ (by simp [setM])]; simp only [setM_setM]
  | load v a b iha ihb =>
    intro c hm
    simp only [reqLen, List.replicate_succ, run_cons, step, stepMut, hm, reqFlag]
    split
    · rw [iha _ (by simp [setM])]; simp only [setM_setM]
    · rw [ihb _ (by simp [setM])]; simp only [setM_setM]
  | store v k ih =>
    intro c hm
    simp only [reqLen, List.replicate_succ, run_cons, step, stepMut, hm, reqFlag]
    rw [ih _ (by simp [setM])]; simp only [setM_setM]
  | snapshot k ih =>
    intro c hm
    simp only [reqLen, List.replicate_succ, run_cons, step, stepMut, hm, reqFlag]
    rw [ih _ (by simp [setM])]; simp only [setM_setM]
  | write a b iha _ =>
    intro c hm
    simp only [reqLen, List.replicate_succ, run_cons, step, stepMut, hm, reqFlag]
    rw [iha _ (by simp [setM])]; simp only [setM_setM]

/-- a whole update from an idle mutator 1: the config version grows by one, the request has run, nothing else moved -/
theorem run_update (c : Conf) (hm : c.m 1 = .idle) :
    run c (updateSched c.setp c.flag) = { c with live := c.live + 1, flag := reqFlag c.setp c.flag } := by
  unfold updateSched
  rw [show reqLen c.setp c.flag + 2 = (reqLen c.setp c.flag + 1) + 1 from rfl, List.replicate_succ, run_cons,
    List.replicate_succ', run_append]
  have hs : step c (.upd 1) = { c with live := c.live + 1, m := setM c.m 1 (.run c.setp) } := by
    simp only [step, stepMut, hm]
  rw [hs, run_req c.setp _ (by simp [setM])]
  simp only [run, List.foldl_cons, List.foldl_nil, step, stepMut, setM, if_true, setM_setM]
  rw [← hm, setM_self]

/-- the dumper is between two rounds and no mutator is inside a request -/
structure Idle (c : Conf) : Prop where
  rest : c.d.rest = .done
  muts : ∀ t, c.m t = .idle

/-- the rest of a round, run by `roundSched`, ends between two rounds with all mutators idle -/
theorem run_round (pt : Point) (w : Bool) (p : Prog) : ∀ (c : Conf) (inj : Bool), c.d.rest = p → (∀ t, c.m t = .idle) →
    Idle (run c (roundSched pt w c.setp p c.flag inj)) := by
  induction p with
  | done =>
    intro c inj hr hm
    exact ⟨hr, hm⟩
  | cas o n t f iht ihf =>
    intro c inj hr hm
    simp only [roundSched, run_cons, step, stepDump, hr]
    split
    · exact iht { c with flag := n, d := { c.d with rest := t } } inj rfl hm
    · exact ihf { c with d := { c.d with rest := f } } inj rfl hm
  | load v t f iht ihf =>
    intro c inj hr hm
    simp only [roundSched, run_cons, step, stepDump, hr]
    split
    · exact iht { c with d := { c.d with rest := t } } inj rfl hm
    · exact ihf { c with d := { c.d with rest := f } } inj rfl hm
  | store v k ih =>
    intro c inj hr hm
    simp only [roundSched, run_cons, step, stepDump, hr]
    exact ih { c with flag := v, d := { c.d with rest := k } } inj rfl hm
  | snapshot k ih =>
    intro c inj hr hm
    unfold roundSched
    split
    · -- the update lands right before the snapshot
      rw [run_append, run_update c (hm 1), run_cons]
      simp only [step, stepDump, hr]
      exact ih _ true rfl hm
    · split
      · -- the update lands right after the snapshot
        rw [run_cons]
        simp only [step, stepDump, hr]
        rw [run_append]
        exact run_update { c with d := ⟨k, some c.live⟩ } (hm 1) ▸ ih _ true rfl hm
      · rw [run_cons]
        simp only [step, stepDump, hr]
        exact ih { c with d := ⟨k, some c.live⟩ } inj rfl hm
  | write t f iht ihf =>
    intro c inj hr hm
    simp only [roundSched, run_cons, step, stepDump, hr]
    cases w
    · exact ihf { c with d := { c.d with rest := f } } inj rfl hm
    · exact iht { c with file := c.d.content.getD c.file, d := { c.d with rest := t } } inj rfl hm

/-- a round without an injected update and with successful writes is the quiet round -/
theorem roundSched_quiet (setp p : Prog) (fl : Int) (inj : Bool) :
    roundSched .none true setp p fl inj = List.replicate (quietLen p fl) (.dump true) := by
  induction p generalizing fl inj with
  | done => rfl
  | cas o n t f iht ihf =>
    simp only [roundSched, quietLen, List.replicate_succ]
    split
    · rw [iht]
    · rw [ihf]
  | load v t f iht ihf =>
    simp only [roundSched, quietLen, List.replicate_succ]
    split
    · rw [iht]
    · rw [ihf]
  | store v k ih => simp only [roundSched, quietLen, List.replicate_succ]; rw [ih]
  | snapshot k ih =>
    unfold roundSched
    rw [if_neg (by intro h; cases h.1), if_neg (by intro h; cases h.1)]
    simp only [quietLen, List.replicate_succ]; rw [ih]
  | write t f iht _ => simp only [roundSched, quietLen, List.replicate_succ, if_true]; rw [iht]

/-- every item of a script ends idle -/
theorem item_idle (c : Conf) (hidle : Idle c) (it : Item) : Idle (run c (itemSched c it)) := by
  cases it with
  | update =>
    rw [show itemSched c .update = updateSched c.setp c.flag from rfl, run_update c (hidle.muts 1)]
    exact ⟨hidle.rest, hidle.muts⟩
  | round pt w =>
    simp only [itemSched, fullRound, run_cons, step, stepDump, hidle.rest]
    exact run_round pt w c.prog { c with d := ⟨c.prog, none⟩ } false rfl hidle.muts

theorem dumpHolds_runScript (items : List Item) : ∀ (c : Conf), Inv c → quietOk c.prog = true → Idle c →
    Spec.dumpHolds items (runScript c items) = true := by
  induction items with
  | nil => intro c _ _ _; rfl
  | cons it r ih =>
    intro c hI hq hidle
    have hid' := item_idle c hidle it
    have hp := (run_progs c (itemSched c it)).1
    have hI' : Inv (run c (itemSched c it)) := inv_run hI _
    cases it with
    | update =>
      simp only [runScript, Spec.dumpHolds]
      exact ih _ hI' (by rw [hp]; exact hq) hid'
    | round pt w =>
      simp only [runScript, Spec.dumpHolds, Bool.and_eq_true]
      refine ⟨⟨?_, ?_⟩, ih _ hI' (by rw [hp]; exact hq) hid'⟩
      · rcases behind_flag hI' hid'.rest hid'.muts with h | h
        · simp [h]
        · simp [h]
      · by_cases hq' : pt = .none ∧ w = true
        · obtain ⟨rfl, rfl⟩ := hq'
          have := (quiet_round_current hI hq hidle.rest hidle.muts).1
          simp only [itemSched, fullRound, roundSched_quiet]
          simp [this]
        · have : (pt == Point.none && w) = false := by
            cases pt <;> cases w <;> simp_all
          simp [this]

end MosnVerif.Model.DumpProto
