import MosnVerif.Model.HandoverStream
import MosnVerif.Lemmas.Fold
/-! Invariant of `Model/HandoverStream` for the step lists the source has. -/
namespace MosnVerif.Model.HandoverStream
open MosnVerif.Gen.HandoverLock

def realW : List WStep := [.lock, .check, .append, .io, .unlock]
def realH : List HStep := [.lock, .setMark, .unlock, .sendFd]

def headOk (l : List Entry) : Prop := match l.head? with | none => True | some p => complete p = true

structure Inv (s : St) : Prop where
  L : ∀ w, s.ocur = some w → 1 ≤ s.opc → s.opc ≤ 4 → s.lockBy = some .w
  Hh : (s.hpc = 1 ∨ s.hpc = 2) → s.lockBy = some .h
  J : s.mark = true → ∀ w, s.ocur = some w → ¬ (s.opc = 2 ∨ s.opc = 3)
  G : 2 ≤ s.hpc → s.mark = true
  F : s.fdSent = true → s.mark = true
  F3 : s.hpc ≤ 3 → s.fdSent = false
  N0 : s.fdSent = false → s.nidx = 0 ∧ allOld s.rsock = true
  O0 : 0 < s.oidx → ∃ w, s.ocur = some w ∧ s.opc = 3 ∧ s.oidx < w.k
  N1 : 0 < s.nidx → ∃ w, s.ncur = some w ∧ s.nidx < w.k
  C1 : ∀ w, s.ocur = some w → 0 < s.oidx → s.rsock.head? = some ⟨.old, w.id, s.oidx - 1, w.k⟩
  C2 : ∀ w, s.ncur = some w → 0 < s.nidx → s.rsock.head? = some ⟨.new, w.id, s.nidx - 1, w.k⟩
  C3 : s.oidx = 0 → s.nidx = 0 → headOk s.rsock
  Wl : wellR s.rsock = true
  Q : sortedR s.rsock = true

theorem inv_init (ws news : List Wr) : Inv (init ws news) := by
  constructor <;> simp [init, headOk, wellR, sortedR, allOld]

/-- the old writer is in the middle of a `doWrite` only at its `io` step -/
theorem Inv.oidx_zero {s : St} (h : Inv s) (hp : ∀ w, s.ocur = some w → s.opc ≠ 3) : s.oidx = 0 :=
  (Nat.eq_zero_or_pos s.oidx).resolve_right fun h0 =>
    let ⟨w, hw, h3, _⟩ := h.O0 h0
    hp w hw h3

theorem Inv.oidx_zero_of_mark {s : St} (h : Inv s) (hm : s.mark = true) : s.oidx = 0 :=
  h.oidx_zero fun w hw h3 => h.J hm w hw (Or.inr h3)

theorem Inv.nidx_zero {s : St} (h : Inv s) (hn : s.ncur = none) : s.nidx = 0 :=
  (Nat.eq_zero_or_pos s.nidx).resolve_right fun h0 =>
    let ⟨w, hw, _⟩ := h.N1 h0
    nomatch hn.symm.trans hw

theorem wellR_push {l : List Entry} {side : Side} {id idx k : Nat} (hw : wellR l = true) (hk : idx < k)
    (h0 : idx = 0 → headOk l) (h1 : 0 < idx → l.head? = some ⟨side, id, idx - 1, k⟩) :
    wellR (⟨side, id, idx, k⟩ :: l) = true := by
  simp only [wellR, okNext, hw, hk, decide_true, Bool.true_and, Bool.and_true]
  rcases Nat.eq_zero_or_pos idx with rfl | hi
  · have h := h0 rfl
    unfold headOk at h
    cases hh : l.head? with
    | none => rfl
    | some p => rw [hh] at h; simp [h]
  · rw [h1 hi]
    simp
    omega

/- Preservation, here and for the other two threads: each branch of the step names the clauses of `Inv` that mention a
field the branch changes; the other clauses carry over as they are, the projections of the updated state reducing to
those of `s`. -/
theorem inv_stepN (s : St) (h : Inv s) : Inv (stepN s) := by
  unfold stepN
  split
  · exact h
  · rename_i hfd
    have hfd : s.fdSent = true := by simpa using hfd
    have ho : s.oidx = 0 := h.oidx_zero_of_mark (h.F hfd)
    have hN0 {p : Prop} (hf : s.fdSent = false) : p := nomatch hfd.symm.trans hf
    split
    · rename_i hn
      split
      · exact h
      · exact { h with
          N0 := hN0
          N1 := by simp
          C2 := by simp
          C3 := fun ho _ => h.C3 ho (h.nidx_zero hn) }
    · rename_i w hw
      split
      · rename_i hk
        have hWl := wellR_push (side := .new) (id := w.id) h.Wl hk (fun hi => h.C3 ho hi) (h.C2 w hw)
        split
        · rename_i hk1
          exact { h with
            N0 := hN0
            N1 := fun _ => ⟨w, hw, hk1⟩
            C1 := by simp [ho]
            C2 := fun w' hw' _ => by cases hw.symm.trans hw'; rfl
            C3 := fun _ hn => nomatch hn
            Wl := hWl
            Q := by simp [sortedR, h.Q] }
        · rename_i hk1
          exact { h with
            N0 := hN0
            N1 := by simp
            C1 := by simp [ho]
            C2 := by simp
            C3 := fun _ _ => by simp [headOk, complete]; omega
            Wl := hWl
            Q := by simp [sortedR, h.Q] }
      · rename_i hk
        have hnz : s.nidx = 0 := (Nat.eq_zero_or_pos _).resolve_right fun h0 =>
          let ⟨w', hw', hk'⟩ := h.N1 h0
          by cases hw.symm.trans hw'; exact hk hk'
        exact { h with
          N0 := hN0
          N1 := by simp
          C2 := by simp
          C3 := fun ho _ => h.C3 ho hnz }

theorem realH_get (n : Nat) : realH[n]? =
    match n with | 0 => some .lock | 1 => some .setMark | 2 => some .unlock | 3 => some .sendFd | _ => none := by
  rcases n with _|_|_|_|n <;> rfl

theorem inv_stepH (s : St) (h : Inv s) : Inv (stepH realH s) := by
  unfold stepH
  rw [realH_get]
  rcases hp : s.hpc with _|_|_|_|n <;> simp only []
  · split
    · rename_i hl
      exact { h with
        L := fun w hw h1 h4 => nomatch hl.symm.trans (h.L w hw h1 h4)
        Hh := fun _ => rfl
        G := by simp
        F3 := fun _ => h.F3 (by omega) }
    · exact h
  · have hl : s.lockBy = some .h := h.Hh (Or.inl hp)
    exact { h with
      Hh := fun _ => hl
      J := fun _ w hw (hj : s.opc = 2 ∨ s.opc = 3) => nomatch hl.symm.trans (h.L w hw (by omega) (by omega))
      G := fun _ => rfl
      F := fun _ => rfl
      F3 := fun _ => h.F3 (by omega) }
  · have hl : s.lockBy = some .h := h.Hh (Or.inr hp)
    exact { h with
      L := fun w hw h1 h4 => nomatch hl.symm.trans (h.L w hw h1 h4)
      Hh := by simp
      G := fun _ => h.G (by omega)
      F3 := fun _ => h.F3 (by omega) }
  · exact { h with
      Hh := by simp
      G := fun _ => h.G (by omega)
      F := fun _ => h.G (by omega)
      F3 := by simp
      N0 := fun hf => nomatch hf }
  · exact h

theorem realW_get (n : Nat) : realW[n]? =
    match n with | 0 => some .lock | 1 => some .check | 2 => some .append | 3 => some .io | 4 => some .unlock | _ => none := by
  rcases n with _|_|_|_|_|n <;> rfl

theorem divert_real : divertTarget realW 1 = 4 := by decide

theorem inv_stepO (s : St) (h : Inv s) : Inv (stepO realW s) := by
  unfold stepO
  split
  · rename_i hc
    have ho : s.oidx = 0 := h.oidx_zero fun w hw => nomatch hc.symm.trans hw
    split
    · exact h
    · exact { h with
        L := by simp
        J := by simp
        O0 := by simp
        C1 := by simp
        C3 := fun _ => h.C3 ho }
  · rename_i w hw
    have ho : s.opc ≠ 3 → s.oidx = 0 := fun h3 => h.oidx_zero fun _ _ => h3
    have hl : 1 ≤ s.opc → s.opc ≤ 4 → s.lockBy = some .w := h.L w hw
    rw [realW_get]
    rcases hp : s.opc with _|_|_|_|_|n <;> simp only []
    · replace ho := ho (by omega)
      split
      · rename_i hl'
        exact { h with
          L := fun _ _ _ _ => rfl
          Hh := fun hh => nomatch hl'.symm.trans (h.Hh hh)
          J := by simp
          O0 := by simp [ho] }
      · exact h
    · replace ho := ho (by omega)
      replace hl := hl (by omega) (by omega)
      split
      · rw [divert_real]
        exact { h with
          L := fun _ _ _ _ => hl
          J := by simp
          O0 := by simp [ho] }
      · rename_i hm
        exact { h with
          L := fun _ _ _ _ => hl
          J := fun hm' => absurd hm' hm
          O0 := by simp [ho] }
    · replace ho := ho (by omega)
      replace hl := hl (by omega) (by omega)
      exact { h with
        L := fun _ _ _ _ => hl
        J := fun hm _ _ _ => h.J hm w hw (Or.inl hp)
        O0 := by simp [ho] }
    · have hm : s.mark = false := Bool.eq_false_iff.2 fun hm => h.J hm w hw (Or.inr hp)
      have hf : s.fdSent = false := Bool.eq_false_iff.2 fun hf => nomatch (h.F hf).symm.trans hm
      have hJ {p : Prop} (hm' : s.mark = true) : p := nomatch hm'.symm.trans hm
      obtain ⟨hn, ha⟩ := h.N0 hf
      replace hl := hl (by omega) (by omega)
      split
      · rename_i hk
        have hWl := wellR_push (side := .old) (id := w.id) h.Wl hk (fun hi => h.C3 hi hn) (h.C1 w hw)
        have hQ : sortedR (⟨.old, w.id, s.oidx, w.k⟩ :: s.rsock) = true := by simp [sortedR, ha, h.Q]
        have hA : allOld (⟨.old, w.id, s.oidx, w.k⟩ :: s.rsock) = true := by simpa [allOld] using ha
        split
        · rename_i hk1
          exact { h with
            L := fun _ _ _ _ => hl
            J := hJ
            N0 := fun _ => ⟨hn, hA⟩
            O0 := fun _ => ⟨w, hw, rfl, hk1⟩
            C1 := fun w' hw' _ => by cases hw.symm.trans hw'; rfl
            C2 := by simp [hn]
            C3 := fun h0 => nomatch h0
            Wl := hWl
            Q := hQ }
        · exact { h with
            L := fun _ _ _ _ => hl
            J := hJ
            N0 := fun _ => ⟨hn, hA⟩
            O0 := by simp
            C1 := by simp
            C2 := by simp [hn]
            C3 := fun _ _ => by simp [headOk, complete]; omega
            Wl := hWl
            Q := hQ }
      · rename_i hk
        replace ho : s.oidx = 0 := (Nat.eq_zero_or_pos _).resolve_right fun h0 =>
          let ⟨w', hw', _, hk'⟩ := h.O0 h0
          by cases hw.symm.trans hw'; exact hk hk'
        exact { h with
          L := fun _ _ _ _ => hl
          J := hJ
          O0 := by simp
          C1 := by simp
          C3 := fun _ => h.C3 ho }
    · replace ho := ho (by omega)
      replace hl := hl (by omega) (by omega)
      exact { h with
        L := by simp
        Hh := fun hh => nomatch hl.symm.trans (h.Hh hh)
        J := by simp
        O0 := by simp [ho] }
    · replace ho := ho (by omega)
      exact { h with
        L := fun _ hw' => nomatch hw'
        J := fun _ _ hw' => nomatch hw'
        O0 := by simp
        C1 := fun _ hw' => nomatch hw'
        C3 := fun _ => h.C3 ho }

theorem inv_step (s : St) (e : Ev) (h : Inv s) : Inv (step realW realH s e) := by
  cases e
  · exact inv_stepO s h
  · exact inv_stepH s h
  · exact inv_stepN s h

theorem inv_run (sched : List Ev) (s : St) (h : Inv s) : Inv (run realW realH s sched) :=
  Lemmas.Fold.foldl_inv inv_step sched s h

/-- the regenerated `writeSteps` and `handoverSteps` evaluate to `realW` and `realH` -/
theorem inv_runG (ws news : List Wr) (sched : List Ev) : Inv (runG ws news sched) :=
  inv_run sched (init ws news) (inv_init ws news)

/-- the write the old writer has begun and not yet classified at the mark test -/
def unclassified (s : St) : List Wr :=
  match s.ocur with
  | some w => if s.opc ≤ 1 then [w] else []
  | none => []

structure Acc (ws : List Wr) (s : St) : Prop where
  P : s.direct ++ (s.diverted ++ (unclassified s ++ s.opend)) = ws
  D : s.mark = false → s.diverted = []

theorem acc_init (ws news : List Wr) : Acc ws (init ws news) := by
  constructor <;> simp [init, unclassified]

theorem acc_stepO (ws : List Wr) (s : St) (h : Acc ws s) : Acc ws (stepO realW s) := by
  obtain ⟨P, D⟩ := h
  unfold stepO
  split
  · rename_i hc
    split
    · exact ⟨P, D⟩
    · rename_i w r hp
      exact ⟨by simpa [unclassified, hc, hp] using P, D⟩
  · rename_i w hw
    rw [realW_get]
    rcases hp : s.opc with _|_|_|_|_|n <;> simp only []
    · split
      · exact ⟨by simpa [unclassified, hw, hp] using P, D⟩
      · exact ⟨P, D⟩
    · split
      · rw [divert_real]
        exact ⟨by simpa [unclassified, hw, hp] using P, fun hm => by simp_all⟩
      · rename_i hm
        exact ⟨by simpa [unclassified, hw, hp, D (by simpa using hm)] using P, D⟩
    · exact ⟨by simpa [unclassified, hw, hp] using P, D⟩
    · repeat' split
      all_goals exact ⟨by simpa [unclassified, hw, hp] using P, D⟩
    · exact ⟨by simpa [unclassified, hw, hp] using P, D⟩
    · exact ⟨by simpa [unclassified, hw, hp] using P, D⟩

/- `Acc` speaks of `direct`, `diverted`, `ocur`, `opc`, `opend` and `mark` only. -/
theorem acc_stepH (ws : List Wr) (s : St) (h : Acc ws s) : Acc ws (stepH realH s) := by
  unfold stepH
  rw [realH_get]
  rcases s.hpc with _|_|_|_|n <;> simp only []
  · split <;> exact ⟨h.P, h.D⟩
  · exact ⟨h.P, fun hm => nomatch hm⟩
  · exact ⟨h.P, h.D⟩
  · exact ⟨h.P, h.D⟩
  · exact h

theorem acc_stepN (ws : List Wr) (s : St) (h : Acc ws s) : Acc ws (stepN s) := by
  unfold stepN
  repeat' split
  all_goals exact ⟨h.P, h.D⟩

theorem acc_run (ws : List Wr) (sched : List Ev) (s : St) (h : Acc ws s) : Acc ws (run realW realH s sched) := by
  refine Lemmas.Fold.foldl_inv (fun s e h => ?_) sched s h
  cases e
  · exact acc_stepO ws s h
  · exact acc_stepH ws s h
  · exact acc_stepN ws s h

theorem sortedR_split (l : List Entry) (h : sortedR l = true) :
    ∃ a b, l = a ++ b ∧ (∀ e ∈ a, e.side = .new) ∧ (∀ e ∈ b, e.side = .old) := by
  induction l with
  | nil => exact ⟨[], [], rfl, by simp, by simp⟩
  | cons e r ih =>
    simp only [sortedR, Bool.and_eq_true, Bool.or_eq_true, beq_iff_eq] at h
    obtain ⟨a, b, hab, ha, hb⟩ := ih h.2
    cases hs : e.side with
    | new => exact ⟨e :: a, b, by rw [hab]; rfl, List.forall_mem_cons.2 ⟨hs, ha⟩, hb⟩
    | old =>
      have ho : allOld r = true := h.1.resolve_left (by simp [hs])
      exact ⟨[], e :: r, rfl, by simp, List.forall_mem_cons.2 ⟨hs, by simpa [allOld] using ho⟩⟩

end MosnVerif.Model.HandoverStream
