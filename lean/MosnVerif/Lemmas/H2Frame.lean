import MosnVerif.Model.H2Frame
import MosnVerif.Lemmas.Bytes
/-! Lemmas for the frame-header and DATA/HEADERS payload model. -/
namespace MosnVerif.Lemmas.H2Frame
open MosnVerif.Model.H2Frame MosnVerif.Gen.H2Frame

theorem data_roundtrip_padded (flags : Nat) (data : Bytes) (k : Nat) (hk : k < 256)
    (hf : hasFlag flags flagDataPadded = true) : parseData flags (encodeData data (some k)) = .ok data := by
  simp only [parseData, hf, if_true, encodeData, dataPadTooBig, UInt8.toNat_ofNat_of_lt' hk, List.length_append,
    List.length_replicate]
  have h1 : ¬ ((k : Int) > ((data.length + k : Nat) : Int)) := by omega
  simp only [decide_eq_true_eq, h1, if_false, Nat.add_sub_cancel, List.take_left']

theorem data_roundtrip_plain (flags : Nat) (data : Bytes)
    (hf : hasFlag flags flagDataPadded = false) : parseData flags (encodeData data none) = .ok data := by
  simp only [parseData, hf, encodeData, dataPadTooBig]
  simp

theorem prio_roundtrip (pr : Priority) (hd : pr.streamDep < 2 ^ 31) (hw : pr.weight < 256) (r : Bytes) :
    ∃ a b c d w, encodePrio pr ++ r = a :: b :: c :: d :: w :: r ∧ decodePrio a b c d w = pr := by
  refine ⟨_, _, _, _, _, rfl, ?_⟩
  obtain ⟨dep, e, w⟩ := pr
  simp only at hd hw
  have hv : dep + (if e then 2 ^ 31 else 0) < 2 ^ 32 := by split <;> omega
  simp only [decodePrio, UInt8.toNat_ofNat', Model.Bytes.digits32 _ hv, Priority.mk.injEq, Nat.mod_eq_of_lt (show w < 2 ^ 8 from hw), and_true]
  cases e <;> simp <;> omega

theorem pad_tail (pr : Option Priority) (frag : Bytes) (pl : Nat) :
    (if headersPadTooBig ((frag ++ List.replicate pl (0:UInt8)).length) pl then
        (Except.error PErr.protocol : Except PErr (Option Priority × Bytes))
      else .ok (pr, (frag ++ List.replicate pl 0).take ((frag ++ List.replicate pl (0:UInt8)).length - pl))) = .ok (pr, frag) := by
  have hc : headersPadTooBig ((frag ++ List.replicate pl (0:UInt8)).length) pl = false := by
    simp only [headersPadTooBig, List.length_append, List.length_replicate, decide_eq_false_iff_not]
    omega
  rw [hc]
  simp

theorem headers_roundtrip' (flags : Nat) (frag : Bytes) (padLength : Nat) (prio : Option Priority)
    (hp : padLength < 256)
    (hpr : ∀ pr, prio = some pr → pr.streamDep < 2 ^ 31 ∧ pr.weight < 256)
    (hf1 : hasFlag flags flagHeadersPadded = decide (padLength ≠ 0))
    (hf2 : hasFlag flags flagHeadersPriority = prio.isSome) :
    parseHeaders flags (encodeHeaders frag padLength prio) = .ok (prio, frag) := by
  unfold parseHeaders encodeHeaders
  rw [hf1, hf2]
  cases prio with
  | none =>
    by_cases hpad : padLength = 0
    · subst hpad
      simp only [ne_eq, not_true_eq_false, decide_false, Option.isSome_none, if_false, List.nil_append, Bool.false_eq_true]
      exact pad_tail none frag 0
    · simp only [ne_eq, hpad, not_false_eq_true, decide_true, Option.isSome_none, if_true, List.cons_append, List.nil_append,
        Bool.false_eq_true, if_false, UInt8.toNat_ofNat_of_lt' hp]
      exact pad_tail none frag padLength
  | some pr =>
    obtain ⟨hd, hw⟩ := hpr pr rfl
    obtain ⟨a, b, c, d, w, he, hdec⟩ := prio_roundtrip pr hd hw (frag ++ List.replicate padLength 0)
    by_cases hpad : padLength = 0
    · subst hpad
      simp only [ne_eq, not_true_eq_false, decide_false, Option.isSome_some, if_false, if_true, List.nil_append,
        Bool.false_eq_true, List.append_assoc, he, hdec]
      exact pad_tail (some pr) frag 0
    · simp only [ne_eq, hpad, not_false_eq_true, decide_true, Option.isSome_some, if_true, List.cons_append, List.nil_append,
        List.append_assoc, UInt8.toNat_ofNat_of_lt' hp, he, hdec]
      exact pad_tail (some pr) frag padLength

theorem frame_header_roundtrip' (h : FrameHeader) (hl : h.length < 2 ^ 24) (ht : h.type < 256) (hf : h.flags < 256)
    (hs : h.streamID < 2 ^ 32) :
    (encodeHeader h).bind parseHeader = some { h with streamID := h.streamID % 2 ^ 31 } := by
  obtain ⟨L, T, F, S⟩ := h
  simp only at hl ht hf hs
  have hl' : ¬ (16777216 ≤ L) := by omega
  simp only [encodeHeader, writeTooLarge, hl', if_false, writeLayout, writeLengthLayout, List.map, fieldVal, List.foldl,
    List.set, Option.bind, parseHeader, frameHeaderLen, List.length, readLengthLayout, readTypeIdx, readFlagsIdx,
    readStreamIdx, readStreamMask, byteAt, List.getD, List.getElem?_cons_zero, List.getElem?_cons_succ, Option.getD,
    List.sum_cons, List.sum_nil, UInt8.toNat_ofNat']
  simp
  refine ⟨by omega, ht, hf, ?_⟩
  have d := Model.Bytes.digits32 S hs
  simp only [Nat.reducePow] at d
  rw [d]

end MosnVerif.Lemmas.H2Frame
