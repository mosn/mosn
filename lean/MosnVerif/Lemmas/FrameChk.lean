import MosnVerif.Model.FrameChk
import MosnVerif.Lemmas.KVBlock
import MosnVerif.Lemmas.FrameSteps
/-! the checked-access decoders never read outside the received bytes, never over-drain, never over-allocate -/
namespace MosnVerif.Model.FrameChk
open MosnVerif.Model.Framing MosnVerif.Model.FrameBytes MosnVerif.Model.KVBlock MosnVerif.Model.FrameSteps
open MosnVerif.Gen.FrameLen MosnVerif.Gen.FrameConsts

/-- everything C08 asks of one `Decode` call on a buffer of `len` received bytes, with allocation budget `a` -/
structure Good (len a : Nat) (r : Res) : Prop where
  noOob   : r.out ≠ .oob
  frame   : ∀ n, r.out = .frame n → 0 < n ∧ n ≤ len
  error   : ∀ k, r.out = .error k → k ≤ len
  alloc   : r.alloc ≤ a

theorem good_needMore (len a : Nat) : Good len a Res.needMore := by
  constructor <;> simp [Res.needMore]

theorem good_frame (len a n : Nat) (h0 : 0 < n) (h : n ≤ len) : Good len a (Res.frame n) := by
  constructor <;> simp [Res.frame] <;> omega

theorem good_error (len a k : Nat) (h : k ≤ len) : Good len a (Res.error k) := by
  constructor <;> simp [Res.error] <;> omega

theorem good_alloc (len a n : Nat) (r : Res) (h : Good len a r) : Good len (a + n) (alloc n r) := by
  constructor
  · exact h.noOob
  · exact h.frame
  · exact h.error
  · have := h.alloc; simp [FrameBytes.alloc]; omega

theorem good_mono (len a a' : Nat) (r : Res) (h : Good len a r) (ha : a ≤ a') : Good len a' r :=
  ⟨h.noOob, h.frame, h.error, Nat.le_trans h.alloc ha⟩

/-- the shape of every checked decoder once its accesses are discharged: the header stage of the `frameStep` (C07), and
behind `len n` a body that sees the `n` frame bytes -/
def ofHdr (h : Hdr) (body : Nat → Res) : Res :=
  match h with
  | .needMore => Res.needMore
  | .error => Res.error 0
  | .len n => body n

/-- the usual body: the frame is copied, then a verdict on its bytes -/
def verdict (n : Nat) (ok : Bool) : Res := alloc n (if ok then Res.frame n else Res.error 0)

theorem ofHdr_good {hdr : Bytes → Hdr} (hs : HdrStable hdr) (b : Bytes) {a : Nat} {body : Nat → Res}
    (hb : ∀ n, 0 < n → n ≤ b.length → Good b.length a (body n)) : Good b.length a (ofHdr (hdr b) body) := by
  cases h : hdr b with
  | needMore => exact good_needMore _ _
  | error => exact good_error _ _ _ (Nat.zero_le _)
  | len n => exact hb n (hs.pos b n h).1 (hs.pos b n h).2

theorem verdict_good {len n : Nat} (ok : Bool) (h0 : 0 < n) (h : n ≤ len) : Good len len (verdict n ok) := by
  refine good_mono _ _ _ _ (good_alloc len 0 n _ ?_) (by omega)
  cases ok
  · exact good_error _ _ _ (Nat.zero_le _)
  · exact good_frame _ _ _ h0 h

/-- … and it classifies the buffer as `envelope` does with the same header stage, when the body's verdict is `ok`'s -/
theorem ofHdr_toStep (hdr : Bytes → Hdr) (ok : Bytes → Bool) (b : Bytes) {body : Nat → Res}
    (hb : ∀ n, hdr b = .len n → (body n).out.toStep b = if ok (b.take n) then .frame (b.take n) n else .error) :
    (ofHdr (hdr b) body).out.toStep b = envelope hdr ok b := by
  unfold envelope
  cases h : hdr b with
  | needMore => rfl
  | error => rfl
  | len n => exact hb n h

theorem verdict_toStep (b : Bytes) (n : Nat) (ok : Bool) :
    (verdict n ok).out.toStep b = if ok then .frame (b.take n) n else .error := by
  cases ok <;> rfl

theorem need_ok (b : Bytes) (hi : Nat) (k : Res) (h : hi ≤ b.length) : need b hi k = k := by
  simp [need, h]

theorem rdBE_ok (b : Bytes) (r : Nat × Nat) (k : Nat → Res) (h1 : r.1 ≤ r.2) (h2 : r.2 ≤ b.length) :
    rdBE b r k = k (fld b r) := by
  simp [rdBE, h1, h2, fld]

theorem slice_ok (b : Bytes) (lo hi : Nat) (k : Bytes → Res) (h1 : lo ≤ hi) (h2 : hi ≤ b.length) :
    slice b lo hi k = k ((b.take hi).drop lo) := by
  simp [slice, h1, h2]

theorem slice_oob (b : Bytes) (lo hi : Nat) (k : Bytes → Res) (h : ¬(lo ≤ hi ∧ hi ≤ b.length)) : slice b lo hi k = Res.oob :=
  if_neg h

/-- two checked accesses in a row fail as one: a chain of them is its last continuation behind the conjunction of the guards -/
theorem ite_ite_oob (p q : Prop) [Decidable p] [Decidable q] (x : Res) :
    (if p then (if q then x else Res.oob) else Res.oob) = if p ∧ q then x else Res.oob := by
  by_cases hp : p <;> by_cases hq : q <;> simp [hp, hq]

/-- a slice that is taken only to be stored (the decoder goes on the same with or without it) and lies inside the buffer -/
theorem ite_slice_ok (c : Prop) [Decidable c] (b : Bytes) (lo hi : Nat) (r : Res) (h1 : lo ≤ hi) (h2 : hi ≤ b.length) :
    (if c then slice b lo hi (fun _ => r) else r) = r := by
  split
  · rw [slice_ok b lo hi _ h1 h2]
  · rfl

theorem slice_len (b : Bytes) (lo hi : Nat) (h2 : hi ≤ b.length) : ((b.take hi).drop lo).length = hi - lo := by
  simp [List.length_take, Nat.min_eq_left h2]

theorem be_take (b : Bytes) (n lo hi : Nat) (h : hi ≤ n) : be (b.take n) lo hi = be b lo hi := by
  simp [be, List.take_take, Nat.min_eq_left h]

theorem fld_take (b : Bytes) (n : Nat) (r : Nat × Nat) (h : r.2 ≤ n) : fld (b.take n) r = fld b r :=
  be_take b n r.1 r.2 h

/-- the body of a bolt `decodeRequest/Response` on a complete frame of `n` bytes: the frame is copied; a header block is
validated and decoded, one table slot per pair -/
def kvBody (L : Layout) (b : Bytes) (n : Nat) : Res :=
  alloc n (if fld b L.hl > 0 then
    (match safe (boltBlock L (b.take n)) with
     | .ok pairs => alloc pairs (Res.frame n)
     | .err => Res.error n
     | .oob => Res.oob)
  else Res.frame n)

/-- what `chkLayout` computes, with every checked access discharged -/
theorem chkLayout_eq (L : Layout) (hL : LayoutOk L) (b : Bytes) :
    chkLayout L b = ofHdr (layoutHdr L b) (kvBody L b) := by
  unfold chkLayout layoutHdr
  by_cases h1 : L.short1 b.length
  · simp only [h1, ↓reduceIte]; rfl
  · have ⟨a1, a2, a3, a4⟩ := hL.f2 b.length (by simpa using h1)
    simp only [h1, Bool.false_eq_true, ↓reduceIte]
    rw [rdBE_ok b L.cl _ hL.f1.1 a1, rdBE_ok b L.hl _ hL.f1.2.1 a2, rdBE_ok b L.ctl _ hL.f1.2.2 a3]
    by_cases h2 : L.short2 b.length (L.flen (fld b L.cl) (fld b L.hl) (fld b L.ctl))
    · simp only [h2, ↓reduceIte]; rfl
    · have h2' := hL.f3 _ _ (by simpa using h2)
      simp only [h2, Bool.false_eq_true, ↓reduceIte]
      have hfl := hL.f4 (fld b L.cl) (fld b L.hl) (fld b L.ctl)
      generalize hN : L.flen (fld b L.cl) (fld b L.hl) (fld b L.ctl) = N at h2' hfl ⊢
      have hclN : L.hl.2 ≤ N ∧ L.cl.2 ≤ N := by have := hL.f9; omega
      rw [need_ok b _ _ a4, slice_ok b 0 N _ (by omega) h2', List.drop_zero]
      have hrl : (b.take N).length = N := by rw [List.length_take, Nat.min_eq_left h2']
      have hpos := hL.f8
      rw [slice_ok (b.take N) 0 L.hdrLen _ (by omega) (by omega)]
      simp only [hL.f5, hL.f6, hL.f7, ofHdr, kvBody]
      -- rawClass and rawContent lie inside the frame
      rw [ite_slice_ok _ _ _ _ _ (by omega) (by omega), ite_slice_ok _ _ _ _ _ (by omega) (by omega)]
      congr 1
      split
      · rw [slice_ok _ _ _ _ (by omega) (by omega)]
        unfold boltBlock
        simp only [hL.f5, hL.f6, fld_take b N L.cl hclN.2, fld_take b N L.hl hclN.1]
        rfl
      · rfl

theorem kvBody_good (L : Layout) (b : Bytes) (n : Nat) (hpos : 0 < n) (hn : n ≤ b.length) :
    Good b.length (b.length + b.length / 8) (kvBody L b n) := by
  refine good_mono _ _ _ _ (good_alloc b.length (b.length / 8) n _ ?_) (by omega)
  split
  · -- the header block is a piece of the frame, and every pair takes 8 of its bytes
    have hblk : (boltBlock L (b.take n)).length ≤ b.length := by
      unfold boltBlock
      simp only [List.length_drop, List.length_take]
      omega
    cases hs : safe (boltBlock L (b.take n)) with
    | ok pairs =>
      have := safe_pairs _ pairs hs
      exact good_mono _ _ _ _ (good_alloc b.length 0 pairs _ (good_frame b.length 0 n hpos hn)) (by omega)
    | err => exact good_error _ _ _ hn
    | oob => exact absurd hs (safe_no_oob _)
  · exact good_frame _ _ _ hpos hn

theorem chkV1_eq (b : Bytes) (k : Sel → Res) : chkV1 b k = k (v1rules b) := by
  unfold chkV1 v1rules
  rw [apply_ite k]
  refine ite_congr rfl (fun _ => rfl) fun h => need_ok b _ _ ?_
  have : 20 ≤ b.length := by simpa [bolt_enough] using h
  show 2 ≤ _; omega

theorem chkV2_eq (b : Bytes) (k : Sel → Res) : chkV2 b k = k (v2rules b) := by
  unfold chkV2 v2rules
  rw [apply_ite k]
  refine ite_congr rfl (fun _ => rfl) fun h => need_ok b _ _ ?_
  have : 22 ≤ b.length := by simpa [boltv2_enough] using h
  show 3 ≤ _; omega

/-- a read of byte `i` behind the length test that guarantees it is the plain conditional -/
theorem need_guarded (b : Bytes) (ne c : Bool) (i : Nat) (x y : Res) (hi : ne = true → i < b.length) :
    (if ne then need b (i + 1) (if c then x else y) else y) = if ne && c then x else y := by
  cases ne
  · rfl
  · rw [if_pos rfl, need_ok b _ _ (hi rfl), Bool.true_and]

theorem chkSel_eq : ∀ (n : Nat) (v2 : Bool) (b : Bytes) (k : Sel → Res), chkSel n v2 b k = k (boltSel n v2 b) := by
  intro n
  induction n with
  | zero => intro v2 b k; rfl
  | succ n ih =>
    intro v2 b k
    cases v2 <;> unfold chkSel boltSel
    · rw [need_guarded b _ _ _ _ _ (by simp [bolt_nonEmpty, bolt_codeIdx]), ih, chkV1_eq, apply_ite k]
    · rw [need_guarded b _ _ _ _ _ (by simp [boltv2_nonEmpty, boltv2_codeIdx]), ih, chkV2_eq, apply_ite k]

theorem chkBolt_good (v2 : Bool) (b : Bytes) : Good b.length (b.length + b.length / 8) (chkBolt v2 b) := by
  unfold chkBolt
  rw [chkSel_eq]
  split
  · exact good_needMore _ _
  · exact good_error _ _ _ (by omega)
  · rename_i id _
    rw [chkLayout_eq _ (layoutOk id)]
    exact ofHdr_good (layoutHdr_stable _ (layoutOk id)) b (kvBody_good _ b)

theorem chkDubbo_eq (oracle : Bytes → Bool) (b : Bytes) :
    chkDubbo oracle b = ofHdr (dubboHdr b) fun n => verdict n (dubboOk oracle (b.take n)) := by
  unfold chkDubbo dubboHdr
  by_cases h1 : dubbo_enough1 b.length
  · have hl : 16 ≤ b.length := by simpa [dubbo_enough1] using h1
    simp only [h1, Bool.not_true, Bool.false_eq_true, ↓reduceIte]
    rw [rdBE_ok b dubbo_payLoadLen _ (by decide) hl]
    by_cases h2 : dubbo_enough2 b.length (fld b dubbo_payLoadLen)
    · have hn : dubbo_frameLen (fld b dubbo_dataLen) ≤ b.length := by
        have : 16 + fld b dubbo_payLoadLen ≤ b.length := by simpa [dubbo_enough2] using h2
        exact this
      have hN : 16 ≤ dubbo_frameLen (fld b dubbo_dataLen) := Nat.le_add_right 16 _
      simp only [h2, Bool.not_true, Bool.false_eq_true, ↓reduceIte]
      rw [need_ok b dubbo_HeaderLen _ hl, rdBE_ok b dubbo_dataLen _ (by decide) hl]
      generalize dubbo_frameLen (fld b dubbo_dataLen) = n at hn hN ⊢
      have hlen : (b.take n).length = n := by rw [List.length_take, Nat.min_eq_left hn]
      rw [slice_ok b 0 n _ (Nat.zero_le n) hn, List.drop_zero, slice_ok (b.take n) _ _ _ (by rw [hlen]; exact hN) (Nat.le_refl _)]
      simp only [ofHdr, verdict, dubboOk, dubbo_drain]
      by_cases hu : dubboUsesOracle (b.take n) = true <;> simp only [hu, ↓reduceIte, Bool.false_eq_true]
    · simp only [h2, Bool.not_false, ↓reduceIte]; rfl
  · simp only [h1, Bool.not_false, ↓reduceIte]; rfl

theorem chkDubbo_good (oracle : Bytes → Bool) (b : Bytes) : Good b.length b.length (chkDubbo oracle b) := by
  rw [chkDubbo_eq]
  exact ofHdr_good dubboHdr_stable b fun n => verdict_good _

theorem chkTars_eq (oracle : Bytes → Bool) (b : Bytes) :
    chkTars oracle b = ofHdr (tarsHdr b) fun n => verdict n (oracle (b.take n)) := by
  unfold chkTars tarsHdr
  by_cases h1 : b.length < tars_lenFieldSize
  · simp only [h1, ↓reduceIte]; rfl
  · simp only [h1, ↓reduceIte]
    rw [rdBE_ok b _ _ (Nat.zero_le _) (Nat.le_of_not_lt h1)]
    have hf : fld b (0, tars_lenFieldSize) = be b 0 tars_lenFieldSize := rfl
    rw [hf]
    generalize be b 0 tars_lenFieldSize = n
    by_cases h2 : n < tars_minPackageLength ∨ n > tars_maxPackageLength
    · simp only [h2, ↓reduceIte]; rfl
    · by_cases h3 : b.length < n
      · simp only [h2, h3, ↓reduceIte]; rfl
      · simp only [h2, h3, ↓reduceIte]
        rw [slice_ok b tars_MessageSizeLen _ _ (Nat.le_of_not_lt h1) (Nat.le_refl _), slice_ok b 0 _ _ (Nat.zero_le _) (Nat.le_of_not_lt h3),
          List.drop_zero]
        rfl

theorem chkTars_good (oracle : Bytes → Bool) (b : Bytes) : Good b.length b.length (chkTars oracle b) := by
  rw [chkTars_eq]
  exact ofHdr_good tarsHdr_stable b fun n => verdict_good _

theorem thriftBoundsOk_frame (b : Bytes) (m : Nat) (hm : fld b thrift_messageLen = m) (hn : m + 4 ≤ b.length) :
    thriftBoundsOk (b.take (m + 4)) = true ↔ 9 ≤ m ∧ be ((b.take (m + 4)).drop 4) 6 8 ≤ m := by
  have hbody : thriftBody (b.take (m + 4)) = (b.take (m + 4)).drop 4 := by
    unfold thriftBody
    rw [fld_take b (m + 4) _ (by show 4 ≤ _; omega), hm]
    show (List.take (m + 4) (List.take (m + 4) b)).drop 4 = _
    rw [List.take_take, Nat.min_self]
  have hlen : ((b.take (m + 4)).drop 4).length = m := by rw [slice_len b 4 (m + 4) hn]; omega
  simp only [thriftBoundsOk, hbody, hlen, Bool.and_eq_true, decide_eq_true_eq]
  rfl

/-- what `chkThrift` computes: of the accesses of `decodeFrame` only `body[frame.HeaderLength:]` and `body[HeaderIdx:]`
can fail -/
theorem chkThrift_eq (oracle : Bytes → Bool) (b : Bytes) :
    chkThrift oracle b = ofHdr (thriftHdr b) fun n =>
      recovered (if thriftBoundsOk (b.take n) then (if oracle (b.take n) then Res.frame n else Res.error 0) else Res.oob) := by
  unfold chkThrift thriftHdr
  by_cases h1 : thrift_enough1 b.length
  · have hl : 6 ≤ b.length := by simpa [thrift_enough1] using h1
    simp only [h1, Bool.not_true, Bool.false_eq_true, ↓reduceIte]
    rw [rdBE_ok b thrift_sizeField _ (by decide) (by show 4 ≤ b.length; omega)]
    by_cases h2 : thrift_enough2 b.length (fld b thrift_sizeField)
    · simp only [h2, Bool.not_true, Bool.false_eq_true, ↓reduceIte]
      rw [rdBE_ok b thrift_messageLen _ (by decide) (by show 4 ≤ b.length; omega)]
      have hn : fld b thrift_messageLen + 4 ≤ b.length := by
        have : fld b thrift_sizeField + 4 ≤ b.length := by simpa [thrift_enough2] using h2
        exact this
      congr 1
      generalize hm : fld b thrift_messageLen = m at hn ⊢
      simp only [thrift_bodyLo, thrift_bodyHi, thrift_frameLength, thrift_MagicLen, thrift_MessageLenIdx, thrift_MessageLenSize,
        thrift_headerLength, thrift_HeaderIdx, thrift_drain, thriftBoundsOk_frame b m hm hn]
      rw [slice_ok b 4 (m + 4) _ (by omega) hn]
      have hlen : ((b.take (m + 4)).drop 4).length = m := by rw [slice_len b 4 (m + 4) hn]; omega
      generalize (b.take (m + 4)).drop 4 = body at hlen ⊢
      -- the accesses to the `m` body bytes and to the frame as one guard: it holds exactly when the two bounds do
      simp only [slice, rdBE, hlen, ite_ite_oob, List.drop_zero]
      exact ite_congr (propext (by omega)) (fun _ => rfl) (fun _ => rfl)
    · simp only [h2, Bool.not_false, ↓reduceIte]; rfl
  · simp only [h1, Bool.not_false, ↓reduceIte]; rfl

theorem chkThrift_good (oracle : Bytes → Bool) (b : Bytes) : Good b.length 0 (chkThrift oracle b) := by
  rw [chkThrift_eq]
  refine ofHdr_good thriftHdr_stable b fun n h0 hn => ?_
  -- a failed bounds test is a recovered panic: a decode error with nothing drained
  cases thriftBoundsOk (b.take n)
  · exact good_error _ _ _ (Nat.zero_le _)
  · cases oracle (b.take n)
    · exact good_error _ _ _ (Nat.zero_le _)
    · exact good_frame _ _ _ h0 hn

end MosnVerif.Model.FrameChk
