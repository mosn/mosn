import MosnVerif.Lemmas.HuffBits
import MosnVerif.Lemmas.HuffTreeCheck
/-!
The regenerated Huffman code table is a prefix code on bit strings; hence what `Model.Huffman.matchSym` returns on bits
that start with a code, with EOS, or with ones only.
-/
namespace MosnVerif.Lemmas.HuffCode
open MosnVerif.Gen.Hpack MosnVerif.Model.Huffman MosnVerif.Model.HuffTree MosnVerif.Lemmas.HuffBits
open MosnVerif.Lemmas.HuffTreeCheck (table_len zip_get)

theorem table_wf : tableWf codes = true := by decide +kernel

/-! A code `(c, l)` of at most 30 bits is the interval `[lo, hi)` of the 30-bit strings that start with it: a code is a
prefix of another iff the other's interval starts inside its own.  The table is canonical — listed by code length
(`byLen`) the intervals lie one after the other (`chainFrom`, checked by the kernel in one pass) — hence prefix-free. -/

def lo (c : Nat × Nat) : Nat := c.1 * 2 ^ (30 - c.2)
def hi (c : Nat × Nat) : Nat := (c.1 + 1) * 2 ^ (30 - c.2)

def chainFrom (b : Nat) : List ((Nat × Nat) × Nat) → Bool
  | [] => true
  | e :: r => b ≤ lo e.1 && chainFrom (hi e.1) r

def byLen (l : List (Nat × Nat)) : List ((Nat × Nat) × Nat) :=
  (List.range 31).flatMap fun len => l.zipIdx.filter fun e => e.1.2 == len

theorem lo_lt_hi (c : Nat × Nat) : lo c < hi c :=
  Nat.mul_lt_mul_of_pos_right (Nat.lt_succ_self _) (Nat.two_pow_pos _)

/-- a chain is a list of intervals each starting where the one before it ends, or later -/
theorem chain_pairwise (b : Nat) (l : List ((Nat × Nat) × Nat)) (h : chainFrom b l = true) :
    (∀ x ∈ l, b ≤ lo x.1) ∧ l.Pairwise fun x y => hi x.1 ≤ lo y.1 := by
  induction l generalizing b with
  | nil => exact ⟨nofun, .nil⟩
  | cons e r ih =>
    simp only [chainFrom, Bool.and_eq_true, decide_eq_true_eq] at h
    obtain ⟨above, pw⟩ := ih (hi e.1) h.2
    exact ⟨List.forall_mem_cons.2 ⟨h.1, fun x hx => Nat.le_trans (Nat.le_trans h.1 (Nat.le_of_lt (lo_lt_hi e.1))) (above x hx)⟩,
      List.pairwise_cons.2 ⟨above, pw⟩⟩

theorem lo_mem_of_isPrefixCode (a b : Nat × Nat) (hb : b.2 ≤ 30) (h : isPrefixCode a b = true) : lo a ≤ lo b ∧ lo b < hi a := by
  simp only [isPrefixCode, Bool.and_eq_true, decide_eq_true_eq, beq_iff_eq, Nat.shiftRight_eq_div_pow] at h
  obtain ⟨hle, hq⟩ := h
  have hp : 2 ^ (30 - a.2) = 2 ^ (b.2 - a.2) * 2 ^ (30 - b.2) := by rw [← Nat.pow_add]; congr 1; omega
  unfold lo hi
  rw [hp, ← Nat.mul_assoc, ← Nat.mul_assoc, ← hq]
  exact ⟨Nat.mul_le_mul_right _ (Nat.div_mul_le_self _ _),
    Nat.mul_lt_mul_of_pos_right (Nat.mul_comm _ _ ▸ Nat.lt_mul_div_succ b.1 (Nat.two_pow_pos _)) (Nat.two_pow_pos _)⟩

theorem chain_byLen : chainFrom 0 (byLen codes) = true := by decide +kernel

theorem prefix_free : prefixFree codes = true := by
  have wf := table_wf
  simp only [tableWf, Bool.and_eq_true, List.all_eq_true, decide_eq_true_eq] at wf
  have len_le (e) (he : e ∈ codes.zipIdx) : e.1.2 ≤ 30 := (wf.2 e.1 (List.fst_mem_of_mem_zipIdx he)).1.2
  have mem (e) (he : e ∈ codes.zipIdx) : e ∈ byLen codes :=
    List.mem_flatMap.2 ⟨e.1.2, List.mem_range.2 (Nat.lt_succ_of_le (len_le e he)), List.mem_filter.2 ⟨he, beq_self_eq_true _⟩⟩
  have dis := (chain_pairwise 0 _ chain_byLen).2
  have apart : ∀ x ∈ byLen codes, ∀ y ∈ byLen codes, x = y ∨ hi x.1 ≤ lo y.1 ∨ hi y.1 ≤ lo x.1 :=
    List.Pairwise.forall_of_forall_of_flip (fun _ _ => .inl rfl) (dis.imp fun h => .inr (.inl h)) (dis.imp fun h => .inr (.inr h))
  simp only [prefixFree, List.all_eq_true, Bool.or_eq_true, beq_iff_eq, Bool.not_eq_true']
  intro a ha b hb
  by_cases hi : a.2 = b.2
  · exact Or.inl hi
  · refine Or.inr (Bool.eq_false_iff.2 fun hp => ?_)
    have := lo_mem_of_isPrefixCode a.1 b.1 (len_le b hb) hp
    have := lo_lt_hi b.1
    rcases apart a (mem a ha) b (mem b hb) with e | h | h
    · exact hi (e ▸ rfl)
    all_goals omega

/-- (code, length) of symbol `i`; `256` is EOS -/
def codeAt (i : Nat) : Nat × Nat := codes.getD i (0, 0)

def bitsAt (i : Nat) : List Bool := bitsOf (codeAt i).1 (codeAt i).2

theorem codes_length : codes.length = 257 := by
  simp [codes, List.length_zip, table_len.1, table_len.2]

theorem codes_get (i : Nat) (hi : i < 257) : codes[i]? = some (codeAt i) := by
  unfold codeAt
  rw [List.getD_eq_getElem?_getD]
  have : i < codes.length := by rw [codes_length]; exact hi
  rw [List.getElem?_eq_getElem this]; rfl

theorem codeAt_sym (s : Nat) (hs : s < 256) : codeAt s = (codeOf s, lenOf s) := by
  have hl : s < (huffmanCodes.zip huffmanCodeLen).length := by simp [List.length_zip, table_len.1, table_len.2]; exact hs
  unfold codeAt codes
  rw [List.getD_eq_getElem?_getD, List.getElem?_append_left hl, zip_get s hs, Option.getD_some]

theorem codeAt_eos : codeAt 256 = (eosCode, eosLen) := by
  have hl : (huffmanCodes.zip huffmanCodeLen).length = 256 := by simp [List.length_zip, table_len.1, table_len.2]
  unfold codeAt codes
  rw [List.getD_eq_getElem?_getD, List.getElem?_append_right (by omega), hl]
  rfl

theorem wf_at (i : Nat) (hi : i < 257) : 5 ≤ (codeAt i).2 ∧ (codeAt i).2 ≤ 30 ∧ (codeAt i).1 < 2 ^ (codeAt i).2 := by
  have h := table_wf
  simp only [tableWf, Bool.and_eq_true, List.all_eq_true, decide_eq_true_eq] at h
  have hm : codeAt i ∈ codes := List.mem_of_getElem? (codes_get i hi)
  have := h.2 _ hm
  exact ⟨this.1.1, this.1.2, this.2⟩

theorem prefix_free_at (i j : Nat) (hi : i < 257) (hj : j < 257) (hne : i ≠ j) : isPrefixCode (codeAt i) (codeAt j) = false := by
  have h := prefix_free
  simp only [prefixFree, List.all_eq_true] at h
  have hi' : (codeAt i, i) ∈ codes.zipIdx := List.mem_zipIdx_iff_getElem?.2 (codes_get i hi)
  have hj' : (codeAt j, j) ∈ codes.zipIdx := List.mem_zipIdx_iff_getElem?.2 (codes_get j hj)
  have := h _ hi' _ hj'
  simp only [Bool.or_eq_true, beq_iff_eq, Bool.not_eq_true'] at this
  rcases this with h | h
  · exact absurd h hne
  · exact h

theorem isPrefixCode_of_prefix (ca la cb lb : Nat) (ha : ca < 2 ^ la) (hb : cb < 2 ^ lb)
    (h : bitsOf ca la <+: bitsOf cb lb) : isPrefixCode (ca, la) (cb, lb) = true := by
  have hle : la ≤ lb := by have := h.length_le; simpa using this
  obtain ⟨n, rfl⟩ : ∃ n, lb = la + n := ⟨lb - la, by omega⟩
  have := (prefix_iff ca cb la n).1 h
  rw [Nat.mod_eq_of_lt ha] at this
  have hq : cb / 2 ^ n < 2 ^ la := by
    rw [Nat.div_lt_iff_lt_mul (Nat.two_pow_pos n), ← Nat.pow_add]; exact hb
  rw [Nat.mod_eq_of_lt hq] at this
  simp [isPrefixCode, Nat.shiftRight_eq_div_pow, this]

theorem prefix_of_isPrefixCode (ca la cb lb : Nat) (h : isPrefixCode (ca, la) (cb, lb) = true) :
    bitsOf ca la <+: bitsOf cb lb := by
  simp only [isPrefixCode, Bool.and_eq_true, decide_eq_true_eq, beq_iff_eq, Nat.shiftRight_eq_div_pow] at h
  obtain ⟨n, rfl⟩ : ∃ n, lb = la + n := ⟨lb - la, by omega⟩
  rw [Nat.add_sub_cancel_left] at h
  rw [prefix_iff, h.2]

/-- no code of the table is a prefix of another, on bit strings -/
theorem bitsAt_prefix (i j : Nat) (hi : i < 257) (hj : j < 257) (h : bitsAt i <+: bitsAt j) : i = j :=
  Decidable.byContradiction fun hne =>
    Bool.noConfusion <| (prefix_free_at i j hi hj hne).symm.trans <|
      isPrefixCode_of_prefix _ _ _ _ (wf_at i hi).2.2 (wf_at j hj).2.2 h

theorem code_unique (i j : Nat) (hi : i < 257) (hj : j < 257) (X : List Bool) (h1 : bitsAt i <+: X) (h2 : bitsAt j <+: X) : i = j :=
  (List.prefix_or_prefix_of_prefix h1 h2).elim (bitsAt_prefix i j hi hj) fun h => (bitsAt_prefix j i hj hi h).symm

def codeBits (s : Nat) : List Bool := bitsOf (codeOf s) (lenOf s)

theorem bitsAt_sym (s : Nat) (hs : s < 256) : bitsAt s = codeBits s := by
  unfold bitsAt codeBits; rw [codeAt_sym s hs]

def eosBits : List Bool := bitsOf eosCode eosLen

theorem bitsAt_eos : bitsAt 256 = eosBits := by unfold bitsAt eosBits; rw [codeAt_eos]

theorem eosBits_eq : eosBits = List.replicate 30 true := by
  have := bitsOf_replicate_true 30
  unfold eosBits eosCode eosLen
  rw [← this]

theorem length_eosBits : eosBits.length = 30 := by rw [eosBits_eq, List.length_replicate]

theorem wf_sym (s : Nat) (hs : s < 256) : 5 ≤ lenOf s ∧ lenOf s ≤ 30 ∧ codeOf s < 2 ^ lenOf s := by
  have := wf_at s (by omega)
  rwa [codeAt_sym s hs] at this

theorem length_codeBits (s : Nat) : (codeBits s).length = lenOf s := by simp [codeBits]

theorem mem_symTable (e : Nat × Nat × Nat) : e ∈ symTable ↔ e.1 < 256 ∧ e.2.1 = codeOf e.1 ∧ e.2.2 = lenOf e.1 := by
  unfold symTable
  rw [table_len.1]
  simp only [List.mem_map, List.mem_range]
  constructor
  · rintro ⟨i, hi, rfl⟩; exact ⟨hi, rfl, rfl⟩
  · rintro ⟨h1, h2, h3⟩
    refine ⟨e.1, h1, ?_⟩
    obtain ⟨a, b, c⟩ := e
    simp only at h1 h2 h3
    rw [h2, h3]; rfl

theorem matchSym_some (bits : List Bool) (s : Nat) (rest : List Bool) (h : matchSym bits = some (s, rest)) :
    s < 256 ∧ bits = codeBits s ++ rest := by
  unfold matchSym at h
  cases hf : symTable.find? (fun e => (bitsOf e.2.1 e.2.2).isPrefixOf bits) with
  | none => rw [hf] at h; cases h
  | some e =>
    rw [hf] at h
    simp only [Option.map_some, Option.some.injEq, Prod.mk.injEq] at h
    have hp := List.find?_some hf
    have hm := List.mem_of_find?_eq_some hf
    obtain ⟨h1, h2, h3⟩ := (mem_symTable e).1 hm
    simp only [List.isPrefixOf_iff_prefix] at hp
    rw [h2, h3] at hp
    rw [← h.1]
    refine ⟨h1, ?_⟩
    have := List.prefix_iff_eq_append.1 hp
    rw [length_bitsOf] at this
    rw [← h.2, h3]
    exact this.symm

/-- every code has at least 5 bits: a match consumes input -/
theorem matchSym_lt (bits : List Bool) (s : Nat) (rest : List Bool) (h : matchSym bits = some (s, rest)) :
    rest.length < bits.length := by
  obtain ⟨hs, rfl⟩ := matchSym_some bits s rest h
  have := (wf_sym s hs).1
  rw [List.length_append, length_codeBits]
  omega

theorem matchSym_none_iff (bits : List Bool) : matchSym bits = none ↔ ∀ s, s < 256 → ¬ codeBits s <+: bits := by
  unfold matchSym
  rw [Option.map_eq_none_iff, List.find?_eq_none]
  simp only [List.isPrefixOf_iff_prefix]
  constructor
  · intro h s hs; exact h (s, codeOf s, lenOf s) ((mem_symTable _).2 ⟨hs, rfl, rfl⟩)
  · intro h e he
    obtain ⟨h1, h2, h3⟩ := (mem_symTable e).1 he
    rw [h2, h3]; exact h e.1 h1

theorem matchSym_none (bits : List Bool) (h : ∀ s, s < 256 → ¬ codeBits s <+: bits) : matchSym bits = none :=
  (matchSym_none_iff bits).2 h

/-- "no code is a prefix of it" passes to prefixes -/
theorem matchSym_none_of_prefix {l m : List Bool} (hl : l <+: m) (hm : matchSym m = none) : matchSym l = none :=
  matchSym_none l fun s hs hp => (matchSym_none_iff m).1 hm s hs (hp.trans hl)

/-- some code matches (the bits start with it) and, the table being prefix-free, no other does -/
theorem matchSym_code (s : Nat) (hs : s < 256) (rest : List Bool) : matchSym (codeBits s ++ rest) = some (s, rest) := by
  cases h : matchSym (codeBits s ++ rest) with
  | none => exact absurd (List.prefix_append _ _) ((matchSym_none_iff _).1 h s hs)
  | some p =>
    obtain ⟨hs', he⟩ := matchSym_some _ p.1 p.2 h
    have : p.1 = s := code_unique p.1 s (by omega) (by omega) (codeBits s ++ rest)
      (by rw [bitsAt_sym _ hs', he]; exact List.prefix_append _ _) (by rw [bitsAt_sym _ hs]; exact List.prefix_append _ _)
    rw [this] at he
    rw [← this, List.append_cancel_left he]

theorem matchSym_eos (bits : List Bool) (h : eosBits <+: bits) : matchSym bits = none := by
  apply matchSym_none
  intro s hs hp
  have := code_unique s 256 (by omega) (by omega) bits (by rw [bitsAt_sym s hs]; exact hp) (by rw [bitsAt_eos]; exact h)
  omega

theorem matchSym_ones (k : Nat) : matchSym (List.replicate k true) = none := by
  apply matchSym_none
  intro s hs hp
  -- the code is all ones, hence a prefix of EOS
  obtain ⟨_, hc⟩ := List.prefix_replicate_iff.1 hp
  have := bitsAt_prefix s 256 (by omega) (by omega) (by
    rw [bitsAt_sym s hs, bitsAt_eos, eosBits_eq, List.prefix_replicate_iff]
    exact ⟨by rw [length_codeBits]; exact (wf_sym s hs).2.1, hc⟩)
  omega

end MosnVerif.Lemmas.HuffCode
