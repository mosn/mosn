import MosnVerif.Model.Shutdown
import MosnVerif.Lemmas.Fold
/-! helper lemmas for the shutdown models -/
namespace MosnVerif.Model.Shutdown
open MosnVerif.Gen.Shutdown

/-- whatever the state was, after `stopAccept` it is not Running -/
theorem stopAccept_after (s : Int) (b c : Bool) : (stopAccept s b c).1 ≠ ListenerRunning := by
  simp only [stopAccept, ListenerClosed, ListenerStopped, ListenerRunning]
  grind

/-- whatever the state was, after `Close` it is Closed -/
theorem closeStep_after (s : Int) (b : Bool) : (closeStep s b).1 = ListenerClosed := by
  unfold closeStep
  split
  · rename_i h; simpa using h
  · split <;> rfl

theorem stopAccept_not_running (s : Int) (b c : Bool) (h : s ≠ ListenerRunning) : (stopAccept s b c).1 ≠ ListenerRunning :=
  stopAccept_after s b c

theorem closeStep_not_running (s : Int) (b : Bool) (h : s ≠ ListenerRunning) : (closeStep s b).1 ≠ ListenerRunning := by
  rw [closeStep_after]; decide

theorem lisClose_state (l : Lis) : (lisClose l).1.state = ListenerClosed := by
  have := closeStep_after l.state l.bind
  unfold lisClose
  split
  rename_i st reach heq
  rw [heq] at this
  simp only at this
  split <;> simp [this]

theorem lisShutdown_not_running (l : Lis) (stage : Int) : (lisShutdown l stage).1.state ≠ ListenerRunning := by
  unfold lisShutdown
  split
  · have := stopAccept_after l.state l.bind false
    split
    rename_i st ch heq
    rw [heq] at this
    simpa using this
  · have := lisClose_state l
    split
    rename_i l' c heq
    rw [heq] at this
    simp only at this ⊢
    rw [this]; simp [ListenerClosed, ListenerRunning]

theorem lisClose_bind (l : Lis) : (lisClose l).1.bind = l.bind := by
  unfold lisClose
  split
  split <;> rfl

theorem lisShutdown_bind (l : Lis) (stage : Int) : (lisShutdown l stage).1.bind = l.bind := by
  unfold lisShutdown
  split
  · split; rfl
  · have := lisClose_bind l
    split
    rename_i l' c heq
    rw [heq] at this
    exact this

theorem accepting_false_of_state (l : Lis) (h : l.state ≠ ListenerRunning) : accepting l = false := by
  simp [accepting, h]

/-- a listener that is not Running stays so, with the same `bind`, under any operation that is not a `Start` — and under a
`Start` or restart too if it binds no port (`Start` ignores it) -/
theorem lisStep_off (l : Lis) (op : LOp) (h : l.state ≠ ListenerRunning) (hs : op.isStart = false ∨ l.bind = false) :
    (lisStep l op).1.bind = l.bind ∧ (lisStep l op).1.state ≠ ListenerRunning := by
  cases op with
  | start r =>
    have hb : l.bind = false := hs.resolve_left (by simp [LOp.isStart])
    simp [lisStep, lisStart, hb, h]
  | shutdown stage => exact ⟨lisShutdown_bind l stage, lisShutdown_not_running l stage⟩
  | close =>
    refine ⟨lisClose_bind l, ?_⟩
    simp only [lisStep]
    rw [lisClose_state l]; decide
  | probe => exact ⟨rfl, h⟩

theorem lisRun_off (ops : List LOp) : ∀ (l : Lis), l.state ≠ ListenerRunning →
    (∀ op ∈ ops, op.isStart = false) ∨ l.bind = false →
    (lisRun l ops).bind = l.bind ∧ (lisRun l ops).state ≠ ListenerRunning := by
  induction ops with
  | nil => exact fun l h _ => ⟨rfl, h⟩
  | cons op r ih =>
    intro l h hs
    obtain ⟨hb, hr⟩ := lisStep_off l op h (hs.imp_left fun hs => hs op List.mem_cons_self)
    obtain ⟨hb', hr'⟩ := ih _ hr (hs.imp (fun hs o ho => hs o (List.mem_cons_of_mem _ ho)) (hb ▸ ·))
    exact ⟨hb'.trans hb, hr'⟩

/-- `modifyAt` is core's `List.modify`, and the gauge's count is core's `List.countP`: what follows are instances of
their lemmas -/
theorem modifyAt_eq_modify (l : List Conn) (i : Nat) (f : Conn → Conn) : modifyAt l i f = l.modify i f := by
  induction l generalizing i with
  | nil => cases i <;> rfl
  | cons c r ih => cases i <;> simp [modifyAt, ih]

theorem countActive_eq_countP (l : List Conn) : countActive l = l.countP (·.phase == .active) :=
  List.countP_eq_length_filter.symm

theorem modifyAt_length (l : List Conn) (i : Nat) (f : Conn → Conn) : (modifyAt l i f).length = l.length := by
  rw [modifyAt_eq_modify, List.length_modify]

/-- changing the phase of connection `i` from `p` to `q` moves the active count accordingly -/
theorem countActive_modifyAt (l : List Conn) (i : Nat) (f : Conn → Conn) (p : Phase)
    (hp : phaseAt l i = some p) (q : Phase) (hf : ∀ c, (f c).phase = q) :
    (countActive (modifyAt l i f) : Int) = countActive l - (if p == .active then 1 else 0) + (if q == .active then 1 else 0) := by
  obtain ⟨c, hc, hp⟩ := Option.map_eq_some_iff.1 hp
  obtain ⟨hi, rfl⟩ := List.getElem?_eq_some_iff.1 hc
  -- the list around position `i`
  obtain ⟨l₁, a, l₂, rfl, rfl, e⟩ := List.exists_of_modify f hi
  rw [List.getElem_append_right (Nat.le_refl _)] at hp
  simp only [Nat.sub_self, List.getElem_cons_zero] at hp
  simp only [modifyAt_eq_modify, e, countActive_eq_countP, List.countP_append, List.countP_cons, hf, hp]
  split <;> split <;> omega

theorem countActive_map_goAway (l : List Conn) (k : Nat) :
    countActive (l.map (fun c => { c with goAway := c.goAway + 1, notified := c.notified + k })) = countActive l := by
  simp only [countActive_eq_countP, List.countP_map]
  rfl

theorem countActive_append_idle (l : List Conn) : countActive (l ++ [⟨.idle, 0, 0, 0, 0⟩]) = countActive l := by
  simp [countActive_eq_countP]

theorem phaseAt_active_pos (l : List Conn) (i : Nat) (h : phaseAt l i = some .active) : 0 < countActive l := by
  obtain ⟨c, hc, hp⟩ := Option.map_eq_some_iff.1 h
  rw [countActive_eq_countP, List.countP_pos_iff]
  exact ⟨c, List.mem_of_getElem? hc, by simp [hp]⟩


theorem step_of_exited (s : Sys) (e : Ev) (h : s.exited = true) : step s e = s := by
  unfold step; rw [if_pos h]

/-- what an event does to the listener and to the stop and exit flags: an ordinary event (and any event after the exit)
leaves them alone; the signal puts the listener through `Shutdown`; the exit sample, when enabled, only sets the flag. -/
theorem step_frame (s : Sys) (e : Ev) :
    ((step s e).lis = s.lis ∧ (step s e).stopBegan = s.stopBegan ∧ (step s e).exited = s.exited) ∨
    (∃ stage, (step s e).lis = (lisShutdown s.lis stage).1 ∧ (step s e).exited = s.exited) ∨
    (exitEnabled s = true ∧ step s e = { s with exited := true, draining := false }) := by
  by_cases hx : s.exited = true
  · rw [step_of_exited s e hx]; exact Or.inl ⟨rfl, rfl, rfl⟩
  · unfold step; rw [if_neg hx]
    cases e with
    | signal stage =>
      refine Or.inr (Or.inl ⟨stage, ?_⟩)
      dsimp only [onShutdownWaits, if_true]
      split <;> exact ⟨rfl, rfl⟩
    | exit =>
      dsimp only
      split
      · exact Or.inr (Or.inr ⟨‹_›, rfl⟩)
      · exact Or.inl ⟨rfl, rfl, rfl⟩
    | _ =>
      dsimp only
      repeat' split
      all_goals exact Or.inl ⟨rfl, rfl, rfl⟩

/-- only the signal touches the listener, and it never leaves it running -/
theorem step_lis_not_running (s : Sys) (e : Ev) (h : s.lis.state ≠ ListenerRunning) :
    (step s e).lis.state ≠ ListenerRunning := by
  rcases step_frame s e with ⟨hl, _⟩ | ⟨stage, hl, _⟩ | ⟨_, hs⟩
  · rw [hl]; exact h
  · rw [hl]; exact lisShutdown_not_running s.lis stage
  · rw [hs]; exact h

/-- invariant: once the graceful stop began the listener is not running -/
def stopInv (s : Sys) : Prop := s.stopBegan = true → s.lis.state ≠ ListenerRunning

theorem step_stopInv (s : Sys) (e : Ev) (h : stopInv s) : stopInv (step s e) := by
  intro hb
  rcases step_frame s e with ⟨hl, hs, _⟩ | ⟨stage, hl, _⟩ | ⟨_, hs⟩
  · rw [hl]; exact h (hs ▸ hb)
  · rw [hl]; exact lisShutdown_not_running s.lis stage
  · rw [hs] at hb ⊢; exact h hb

theorem run_eq_foldl (s : Sys) (es : List Ev) : run s es = es.foldl step s := by
  induction es generalizing s with
  | nil => rfl
  | cons e r ih => exact ih _

theorem run_stopInv (s : Sys) (es : List Ev) (h : stopInv s) : stopInv (run s es) :=
  run_eq_foldl s es ▸ Lemmas.Fold.foldl_inv step_stopInv es s h

/-- while the listener is not running no event adds a connection -/
theorem step_conns_length (s : Sys) (e : Ev) (h : s.lis.state ≠ ListenerRunning) :
    (step s e).conns.length = s.conns.length := by
  by_cases hx : s.exited = true
  · rw [step_of_exited s e hx]
  · unfold step; rw [if_neg hx]
    cases e with
    | connect => simp only [accepting_false_of_state s.lis h, Bool.false_eq_true, if_false]
    | signal stage =>
      dsimp only [onShutdownWaits, onShutdownBroadcasts, if_true]
      split
      · exact List.length_map _
      · rfl
    | _ =>
      dsimp only
      repeat' split
      all_goals first | rfl | exact modifyAt_length ..

theorem run_conns_length (s : Sys) (es : List Ev) (h : s.lis.state ≠ ListenerRunning) :
    (run s es).conns.length = s.conns.length := by
  induction es generalizing s with
  | nil => rfl
  | cons e r ih =>
    simp only [run]
    rw [ih _ (step_lis_not_running s e h), step_conns_length s e h]


/-- the regenerated loop condition is false exactly when nothing is active or the drain time is exceeded -/
theorem drainContinue_false (g w m : Int) (h : drainContinue g w m = false) : g ≤ 0 ∨ w > m := by
  unfold drainContinue at h
  simp only [Bool.and_eq_false_iff, decide_eq_false_iff_not] at h
  omega

theorem drainContinue_true (g w m : Int) (h : drainContinue g w m = true) : g > 0 ∧ w ≤ m := by
  unfold drainContinue at h
  simpa using h

/-- invariant: if the drain loop has returned, then at that moment nothing was active or the drain time had elapsed
(after the exit nothing changes any more) -/
def exitInv (s : Sys) : Prop := s.exited = true → s.gauge ≤ 0 ∨ s.waited > s.maxWait

theorem step_exitInv (s : Sys) (e : Ev) (h : exitInv s) : exitInv (step s e) := by
  intro hb
  by_cases hx : s.exited = true
  · rw [step_of_exited s e hx]; exact h hx
  · rcases step_frame s e with ⟨_, _, he⟩ | ⟨_, _, he⟩ | ⟨hen, hs⟩
    · exact absurd (he ▸ hb) hx
    · exact absurd (he ▸ hb) hx
    · rw [hs]
      simp only [exitEnabled, Bool.and_eq_true, Bool.not_eq_eq_eq_not, Bool.not_true] at hen
      exact drainContinue_false _ _ _ hen.2

theorem run_exitInv (s : Sys) (es : List Ev) (h : exitInv s) : exitInv (run s es) :=
  run_eq_foldl s es ▸ Lemmas.Fold.foldl_inv step_exitInv es s h

/-- the gauge follows a connection that moves from phase `p` to phase `q` -/
theorem wf_modifyAt {s : Sys} (h : s.wf) (i : Nat) (f : Conn → Conn) (p q : Phase)
    (hp : phaseAt s.conns i = some p) (hf : ∀ c, (f c).phase = q) (g : Int)
    (hg : g = s.gauge - (if p == .active then 1 else 0) + (if q == .active then 1 else 0)) :
    g = (countActive (modifyAt s.conns i f) : Int) := by
  rw [countActive_modifyAt s.conns i f p hp q hf, ← h, hg]

theorem step_wf (s : Sys) (e : Ev) (h : s.wf) : (step s e).wf := by
  by_cases hx : s.exited = true
  · rw [step_of_exited s e hx]; exact h
  · unfold step; rw [if_neg hx]
    cases e with
    | connect =>
      dsimp only
      split
      · exact h.trans (congrArg _ (countActive_append_idle s.conns).symm)
      · exact h
    | bytes i =>
      dsimp only
      split
      · exact wf_modifyAt h i _ .idle .incomplete ‹_› (fun _ => rfl) _ (by simp)
      · exact h
    | decoded i =>
      dsimp only
      split
      · split
        · exact wf_modifyAt h i _ .idle .idle ‹_› (fun _ => rfl) _ (by simp)
        · exact wf_modifyAt h i _ .idle .active ‹_› (fun _ => rfl) _ (by simp)
      · split
        · exact wf_modifyAt h i _ .incomplete .idle ‹_› (fun _ => rfl) _ (by simp)
        · exact wf_modifyAt h i _ .incomplete .active ‹_› (fun _ => rfl) _ (by simp)
      · exact h
    | respDone i =>
      dsimp only
      split
      · exact wf_modifyAt h i _ .active .idle ‹_› (fun _ => rfl) _ (by simp)
      · exact h
    | signal stage =>
      dsimp only [onShutdownWaits, onShutdownBroadcasts, if_true]
      split
      · exact h.trans (congrArg _ (countActive_map_goAway s.conns _).symm)
      · exact h
    | tick d => exact h
    | exit => dsimp only; split <;> exact h

theorem run_wf (s : Sys) (es : List Ev) (h : s.wf) : (run s es).wf :=
  run_eq_foldl s es ▸ Lemmas.Fold.foldl_inv step_wf es s h


/-- `waitConnectionsClose` leaves at the first sample that fails its condition, having slept once for every sample before it -/
theorem drainLoop_eq (maxWait : Int) (samples : List (Int × Int)) :
    drainLoop maxWait samples =
      (samples.findIdx (fun p => !drainContinue p.1 p.2 maxWait),
       samples[samples.findIdx (fun p => !drainContinue p.1 p.2 maxWait)]?) := by
  induction samples with
  | nil => rfl
  | cons p rest ih =>
    rw [drainLoop, ih, List.findIdx_cons]
    cases drainContinue p.1 p.2 maxWait <;> rfl

end MosnVerif.Model.Shutdown
