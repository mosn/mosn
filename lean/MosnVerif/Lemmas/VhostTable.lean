import MosnVerif.Model.VhostTable
import MosnVerif.Lemmas.Fold
/-!
The invariant of every schedule of `Model/VhostTable.lean` (property C12): under the lock discipline `safe` every lookup made
under the read lock (or through a valid header copy) answers from ONE published view of the table, and the published views are
those of the writer calls run one after the other.
-/
namespace MosnVerif.Model.VhostTable
open MosnVerif.Gen.VhostLocks

variable {α K : Type}

theorem setAt_same {β : Type} (m : Nat → β) (k : Nat) (v : β) : setAt m k v k = v := by simp [setAt]
theorem setAt_other {β : Type} (m : Nat → β) (k j : Nat) (v : β) (h : j ≠ k) : setAt m k v j = m j := by simp [setAt, h]

theorem take_set_succ (a : List α) (n : Nat) (r : α) (h : n < a.length) : (a.set n r).take (n + 1) = a.take n ++ [r] := by
  rw [List.take_add_one, List.take_set_of_le (Nat.le_refl n), List.getElem?_set_self h]
  rfl

theorem take_cells_succ (cells pad : List α) (r : α) : (cells ++ r :: pad).take (cells.length + 1) = cells ++ [r] := by
  rw [List.take_append, List.take_of_length_le (Nat.le_succ _)]
  simp

theorem tableOf_appendRoute (s : Shared α K) (r : α) : tableOf (appendRoute s r) = tableOf s ++ [r] := by
  by_cases h : s.hdr.len < (s.heap s.hdr.ptr).length
  · simp only [appendRoute, tableOf, h, if_true, setAt_same]
    exact take_set_succ _ _ _ h
  · simp only [appendRoute, tableOf, h, if_false, setAt_same]
    exact take_cells_succ _ _ _

theorem view_appendRoute (s : Shared α K) (r : α) : view (appendRoute s r) = ((view s).1 ++ [r], (view s).2) := by
  have h1 := tableOf_appendRoute s r
  have h2 : (appendRoute s r).maps = s.maps ∧ (appendRoute s r).idx = s.idx := by
    by_cases h : s.hdr.len < (s.heap s.hdr.ptr).length <;> simp [appendRoute, h]
  simp only [view, h1, h2.1, h2.2]

theorem view_resetRoutes (s : Shared α K) : view (resetRoutes s) = ([], (view s).2) := by
  simp [view, resetRoutes, tableOf]

theorem view_freshRoutes (s : Shared α K) : view (freshRoutes s) = ([], (view s).2) := by
  simp [view, freshRoutes, tableOf]

theorem view_freshIndex (s : Shared α K) : view (freshIndex s) = ((view s).1, []) := by
  simp [view, freshIndex, tableOf, setAt]

theorem view_putAt [DecidableEq K] (s : Shared α K) (k : K) (r : α) :
    view (putAt s s.idx k r) = ((view s).1, upsert k r (view s).2) := by
  simp [view, putAt, tableOf, setAt]

/-- a header `(p, n)` some thread may still walk: its array is not the next one to be allocated, and while it is the current one
the current length is not below `n` -/
def Frozen (s : Shared α K) (h : Hdr) : Prop := h.ptr < s.fresh ∧ (h.ptr = s.hdr.ptr → h.len ≤ s.hdr.len)

theorem frozen_appendRoute (s : Shared α K) (r : α) (h : Hdr) (hz : Frozen s h) :
    Frozen (appendRoute s r) h ∧ ((appendRoute s r).heap h.ptr).take h.len = (s.heap h.ptr).take h.len := by
  by_cases hc : s.hdr.len < (s.heap s.hdr.ptr).length
  · simp only [appendRoute, Frozen, hc, if_true]
    refine ⟨⟨hz.1, fun e => Nat.le_succ_of_le (hz.2 e)⟩, ?_⟩
    by_cases e : h.ptr = s.hdr.ptr
    · rw [e, setAt_same, List.take_set_of_le (hz.2 e)]
    · rw [setAt_other _ _ _ _ e]
  · simp only [appendRoute, Frozen, hc, if_false]
    have hne : h.ptr ≠ s.fresh := Nat.ne_of_lt hz.1
    refine ⟨⟨Nat.lt_succ_of_lt hz.1, fun e => absurd e hne⟩, ?_⟩
    rw [setAt_other _ _ _ _ hne]

theorem frozen_freshRoutes (s : Shared α K) (h : Hdr) (hz : Frozen s h) :
    Frozen (freshRoutes s) h ∧ ((freshRoutes s).heap h.ptr).take h.len = (s.heap h.ptr).take h.len := by
  unfold freshRoutes Frozen
  have hne : h.ptr ≠ s.fresh := Nat.ne_of_lt hz.1
  exact ⟨⟨Nat.lt_succ_of_lt hz.1, fun e => absurd e hne⟩, by simp [setAt_other _ _ _ _ hne]⟩

theorem fresh_appendRoute (s : Shared α K) (r : α) (hf : s.hdr.ptr < s.fresh) :
    (appendRoute s r).hdr.ptr < (appendRoute s r).fresh := by
  by_cases hc : s.hdr.len < (s.heap s.hdr.ptr).length <;> simp [appendRoute, hc, hf]

theorem lim_nil (b : Bool) : lim b ([] : List α) = [] := by cases b <;> rfl

/-- `lim` reads a concatenation up to the first match of the first part, if it is to stop there -/
theorem lim_append (first : Bool) (a b : List α) :
    lim first (a ++ b) = if (first && !(lim first a).isEmpty) = true then lim first a else lim first a ++ lim first b := by
  cases first
  · rfl
  · cases a <;> simp [lim]

/-- one more cell of a walk -/
theorem lim_filter_step (first : Bool) (mt : α → Bool) (l : List α) (i : Nat) (x : α) (hx : l[i]? = some x)
    (hgo : (first && !(lim first ((l.take i).filter mt)).isEmpty) = false) :
    lim first ((l.take (i + 1)).filter mt) =
      if mt x then lim first ((l.take i).filter mt) ++ [x] else lim first ((l.take i).filter mt) := by
  rw [List.take_add_one, hx, List.filter_append, lim_append, hgo]
  by_cases hm : mt x <;> simp [hm, lim]

/-- a walk that stops — past the end, or at the first match — has the answer of the whole table -/
theorem lim_filter_done (first : Bool) (mt : α → Bool) (l : List α) (i : Nat)
    (hstop : l.length ≤ i ∨ (first && !(lim first ((l.take i).filter mt)).isEmpty) = true) :
    lim first ((l.take i).filter mt) = lim first (l.filter mt) := by
  rcases hstop with h | h
  · rw [List.take_of_length_le h]
  · have := lim_append first ((l.take i).filter mt) ((l.drop i).filter mt)
    rw [← List.filter_append, List.take_append_drop, if_pos h] at this
    exact this.symm

theorem serialPubs_eq_scanl (eff : Nat → View α K → View α K) (o : List Nat) (v : View α K) :
    serialPubs eff o v = o.scanl (fun v t => eff t v) v := by
  induction o generalizing v with
  | nil => rfl
  | cons t r ih => simp [serialPubs, ih]

theorem getLast?_serialPubs (eff : Nat → View α K → View α K) (o : List Nat) (v : View α K) :
    (serialPubs eff o v).getLast? = some (o.foldl (fun v t => eff t v) v) := by
  rw [serialPubs_eq_scanl, List.getLast?_scanl]

theorem serialPubs_concat (eff : Nat → View α K → View α K) (o : List Nat) (t : Nat) (v : View α K) :
    serialPubs eff (o ++ [t]) v = serialPubs eff o v ++ [eff t (o.foldl (fun v t => eff t v) v)] := by
  simp [serialPubs_eq_scanl, List.scanl_append]

theorem serialPubs_all (P : View α K → Prop) (eff : Nat → View α K → View α K) (hP : ∀ t v, P v → P (eff t v))
    (o : List Nat) (v : View α K) (hv : P v) : ∀ x ∈ serialPubs eff o v, P x := by
  induction o generalizing v with
  | nil => exact List.forall_mem_singleton.2 hv
  | cons t r ih => exact List.forall_mem_cons.2 ⟨hv, ih _ (hP t v hv)⟩

section eff
variable [DecidableEq K]

theorem upsert_idem (k : K) (r : α) (m : List (K × α)) : upsert k r (upsert k r m) = upsert k r m := by
  simp [upsert, List.filter_filter]

/-- once a call has been through its write section (or never takes it again) the rest of its program changes nothing -/
theorem effect_id_of_safe (esc : Bool) (arg : Arg α K) (p : List Step) (m : Mode) (av iav : Bool) (hm : m ≠ .w)
    (h : safe esc m true av iav p = true) (v : View α K) : effect p arg v = v := by
  induction p generalizing m av iav v with
  | nil => rfl
  | cons a r ih =>
    cases a <;> simp only [safe, Bool.and_eq_true, Bool.not_true, Bool.false_eq_true, and_false, false_and, beq_iff_eq, bne_iff_ne] at h <;>
      simp only [effect, stepEffect]
    case rlock | runlock => exact ih _ _ _ (by decide) h.2 v
    case unlock | appendRoutes | freshRoutes | putIndex | freshIndex => exact absurd h.1 hm
    case resetRoutes | putAlias => exact absurd h.1.1 hm
    case other => exact ih _ _ _ hm h v
    all_goals exact ih _ _ _ hm h.2 v

end eff

set_option linter.unusedSectionVars false

section inv
variable [DecidableEq K]

def modeOf (g : Glob α K) (t : Nat) : Mode :=
  if g.writer = some t then .w else if t ∈ g.readers then .r else .n

/-- header `h` held by thread `t` (as its copy, or as the header of its walk) denotes the route list of the view that was
current when `t` took the read lock: the cells below its length still hold that list -/
def AliasOk (esc : Bool) (g : Glob α K) (t : Nat) (lin : Nat) (h : Hdr) : Prop :=
  ∃ v, g.pubs[lin]? = some v ∧ (g.sh.heap h.ptr).take h.len = v.1 ∧ modeOf g t ≠ .w ∧
    (esc = false → t ∈ g.readers) ∧ (esc = true → Frozen g.sh h)

structure TInv (esc : Bool) (args : Nat → Arg α K) (progs : Nat → List Step) (g : Glob α K) (t : Nat) (th : Thread α) : Prop where
  suffix : ∃ pre, progs t = pre ++ th.todo
  safe_ : safe esc (modeOf g t) th.wrote th.av th.iav th.todo = true
  wr : g.writer = some t → th.wrote = true
  wlock : th.wrote = true → Step.lock ∈ progs t
  dw : t ∈ g.done → th.wrote = true
  rd : t ∈ g.readers → th.lin + 1 = g.pubs.length
  iav_ : th.iav = true → modeOf g t ≠ .n ∧ th.iali = g.sh.idx
  av_ : th.av = true → AliasOk esc g t th.lin th.ali
  walkHead : ∀ w, th.walk = some w → ∃ r, th.todo = .walkRoutes :: r ∨ th.todo = .walkAlias :: r
  walk_ : ∀ w, th.walk = some w → w.ok = true → AliasOk esc g t th.lin w.h ∧
    ∀ v, g.pubs[th.lin]? = some v → w.acc = lim (args t).first ((v.1.take w.i).filter (args t).mt)
  walkOk : th.wrote = false → ∀ w, th.walk = some w → w.ok = true
  obs_ : ∀ o ∈ th.obs, o.ok = true → ∃ v, g.pubs[o.at_]? = some v ∧ o.res = answer (args t) o.kv v
  obsOk : th.wrote = false → ∀ o ∈ th.obs, o.ok = true
  obsKv : ∀ o ∈ th.obs, o.kv = true → Step.readIndex ∈ progs t ∨ Step.readAlias ∈ progs t
  eff_ : th.wrote = false → ∀ v, effect th.todo (args t) v = effect (progs t) (args t) v
  crit : g.writer = some t → t ∉ g.done ∧
    ∀ last, g.pubs.getLast? = some last → effect th.todo (args t) (view g.sh) = effect (progs t) (args t) last

structure GInv (esc : Bool) (args : Nat → Arg α K) (progs : Nat → List Step) (v0 : View α K) (g : Glob α K) : Prop where
  idle : g.writer = none → g.pubs.getLast? = some (view g.sh)
  excl : ∀ w, g.writer = some w → g.readers = []
  nodupR : g.readers.Nodup
  freshOk : esc = true → g.sh.hdr.ptr < g.sh.fresh
  nodupD : g.done.Nodup
  ser : g.pubs = serialPubs (fun t => effect (progs t) (args t)) g.done v0

structure Inv (esc : Bool) (args : Nat → Arg α K) (progs : Nat → List Step) (v0 : View α K) (c : Conf α K) : Prop where
  glob : GInv esc args progs v0 c.g
  thr : ∀ t, TInv esc args progs c.g t (c.th t)

theorem setThread_same (th : Nat → Thread α) (t : Nat) (v : Thread α) : setThread th t v t = v := by simp [setThread]
theorem setThread_other (th : Nat → Thread α) (t u : Nat) (v : Thread α) (h : u ≠ t) : setThread th t v u = th u := by
  simp [setThread, h]

variable {esc : Bool} {args : Nat → Arg α K} {progs : Nat → List Step} {v0 : View α K}

theorem modeOf_w {g : Glob α K} {t : Nat} : modeOf g t = .w ↔ g.writer = some t := by
  unfold modeOf
  by_cases h : g.writer = some t
  · simp [h]
  · by_cases h2 : t ∈ g.readers <;> simp [h, h2]

theorem modeOf_eq {g g' : Glob α K} {u : Nat} (hw : g'.writer = some u ↔ g.writer = some u) (hr : u ∈ g'.readers ↔ u ∈ g.readers) :
    modeOf g' u = modeOf g u := by
  simp only [modeOf, hw, hr]

theorem inv_mk {c : Conf α K} (hI : Inv esc args progs v0 c) (t : Nat) (g' : Glob α K) (th' : Thread α)
    (hg : GInv esc args progs v0 g') (ht : TInv esc args progs g' t th')
    (hframe : ∀ u, u ≠ t → TInv esc args progs c.g u (c.th u) → TInv esc args progs g' u (c.th u)) :
    Inv esc args progs v0 ⟨g', setThread c.th t th'⟩ := by
  refine ⟨hg, fun u => ?_⟩
  by_cases e : u = t
  · subst e; simp only [setThread_same]; exact ht
  · simp only [setThread_other _ _ _ _ e]; exact hframe u e (hI.thr u)

theorem inv_upd {c : Conf α K} (hI : Inv esc args progs v0 c) (t : Nat) (th' : Thread α)
    (h : TInv esc args progs c.g t th') : Inv esc args progs v0 (upd c t th') :=
  inv_mk hI t c.g th' hI.glob h (fun _ _ h => h)

theorem suffix_tail {p : List Step} {todo : List Step} {a : Step} {r : List Step} (h : ∃ pre, p = pre ++ todo) (e : todo = a :: r) :
    (∃ pre, p = pre ++ r) ∧ a ∈ p := by
  obtain ⟨pre, hp⟩ := h
  subst e
  exact ⟨⟨pre ++ [a], by simp [hp]⟩, by simp [hp]⟩

/-- a reader excludes every writer -/
theorem GInv.reader_idle {g : Glob α K} (hg : GInv esc args progs v0 g) {t : Nat} (h : t ∈ g.readers) : g.writer = none := by
  cases hw : g.writer with
  | none => rfl
  | some w => have := hg.excl w hw; rw [this] at h; simp at h

theorem modeOf_r {g : Glob α K} (hg : GInv esc args progs v0 g) {t : Nat} : modeOf g t = .r ↔ t ∈ g.readers := by
  unfold modeOf
  by_cases h : t ∈ g.readers
  · simp [h, hg.reader_idle h]
  · by_cases h1 : g.writer = some t <;> simp [h, h1]

theorem modeOf_n {g : Glob α K} {t : Nat} : modeOf g t = .n ↔ g.writer ≠ some t ∧ t ∉ g.readers := by
  unfold modeOf
  by_cases h1 : g.writer = some t
  · simp [h1]
  · by_cases h2 : t ∈ g.readers <;> simp [h1, h2]

/-- under the read lock the current view is the published view the reader is linearised at -/
theorem cur_pub {g : Glob α K} (hg : GInv esc args progs v0 g) {t : Nat} {th : Thread α} (ht : TInv esc args progs g t th)
    (h : t ∈ g.readers) : g.pubs[th.lin]? = some (view g.sh) := by
  rw [← hg.idle (hg.reader_idle h), List.getLast?_eq_getElem?, ← ht.rd h]
  rfl

theorem aliasOk_cur {g : Glob α K} (hg : GInv esc args progs v0 g) {t : Nat} {th : Thread α} (ht : TInv esc args progs g t th)
    (h : t ∈ g.readers) : AliasOk esc g t th.lin g.sh.hdr := by
  refine ⟨view g.sh, cur_pub hg ht h, rfl, ?_, fun _ => h, fun e => ⟨hg.freshOk e, fun _ => Nat.le_refl _⟩⟩
  rw [(modeOf_r hg).2 h]; decide

/-- the head step is done and changed nothing shared: the thread has no walk in progress, the copies it holds are justified, and
so is every observation it has recorded on the way -/
theorem TInv.next {g : Glob α K} {t : Nat} {th : Thread α} (h : TInv esc args progs g t th)
    {a : Step} {r : List Step} (htodo : th.todo = a :: r) {ali : Hdr} {iali : Nat} {walk : Option (Walk α)} {obs : List (Obs α)}
    {av iav : Bool} (hwalk : walk = none)
    (hsafe : safe esc (modeOf g t) th.wrote av iav r = true) (heff : ∀ v, stepEffect a (args t) v = v)
    (hav : av = true → AliasOk esc g t th.lin ali) (hiav : iav = true → modeOf g t ≠ .n ∧ iali = g.sh.idx)
    (hobs : ∀ o ∈ obs, o ∈ th.obs ∨ ((th.wrote = false → o.ok = true) ∧
      (o.ok = true → ∃ v, g.pubs[o.at_]? = some v ∧ o.res = answer (args t) o.kv v) ∧
      (o.kv = true → a = .readIndex ∨ a = .readAlias))) :
    TInv esc args progs g t { th with todo := r, ali := ali, iali := iali, walk := walk, obs := obs, av := av, iav := iav } := by
  have hsuf := suffix_tail h.suffix htodo
  have heff' : ∀ v, effect th.todo (args t) v = effect r (args t) v := fun v => by rw [htodo]; simp only [effect, heff]
  subst hwalk
  refine
    { h with
      suffix := hsuf.1, safe_ := hsafe, iav_ := hiav, av_ := hav, walkHead := nofun, walk_ := nofun, walkOk := fun _ => nofun,
      obs_ := fun o ho hok => ?_, obsOk := fun hw o ho => ?_, obsKv := fun o ho hkv => ?_,
      eff_ := fun hw v => (heff' v).symm.trans (h.eff_ hw v), crit := fun e => ?_ }
  · rcases hobs o ho with ho | ⟨_, h2, _⟩
    · exact h.obs_ o ho hok
    · exact h2 hok
  · rcases hobs o ho with ho | ⟨h1, _⟩
    · exact h.obsOk hw o ho
    · exact h1 hw
  · rcases hobs o ho with ho | ⟨_, _, h3⟩
    · exact h.obsKv o ho hkv
    · exact (h3 hkv).imp (fun e => by rw [← e]; exact hsuf.2) (fun e => by rw [← e]; exact hsuf.2)
  · obtain ⟨h1, h2⟩ := h.crit e
    exact ⟨h1, fun last hl => by rw [← heff']; exact h2 last hl⟩

/-- a thread that has not been through its write section holds the read lock whenever it holds the mutex at all -/
theorem TInv.reader_of_not_wrote {g : Glob α K} {t : Nat} {th : Thread α} (h : TInv esc args progs g t th)
    (hw : th.wrote = false) (hm : modeOf g t ≠ .n) : t ∈ g.readers := by
  by_cases hr : t ∈ g.readers
  · exact hr
  · exact absurd (modeOf_n.2 ⟨fun e => Bool.noConfusion ((h.wr e).symm.trans hw), hr⟩) hm

theorem walk_none_of_head {g : Glob α K} {t : Nat} {th : Thread α} (h : TInv esc args progs g t th) {a : Step} {r : List Step}
    (htodo : th.todo = a :: r) (h1 : a ≠ .walkRoutes) (h2 : a ≠ .walkAlias) : th.walk = none := by
  cases hw : th.walk with
  | none => rfl
  | some w =>
    obtain ⟨r', hr⟩ := h.walkHead w hw
    rw [htodo] at hr
    rcases hr with hr | hr <;> (simp only [List.cons.injEq] at hr; first | exact absurd hr.1 h1 | exact absurd hr.1 h2)

/-- with no walk in progress the clauses about the walk say nothing -/
theorem no_walk {th : Thread α} (h : th.walk = none) {P : Walk α → Prop} (w : Walk α) (hw : th.walk = some w) : P w :=
  nomatch h.symm.trans hw

section steps
variable {c : Conf α K} {t : Nat} {r : List Step}

/-- a step that does nothing but move the thread on -/
theorem inv_skip (hI : Inv esc args progs v0 c) {a : Step} (htodo : (c.th t).todo = a :: r) (h1 : a ≠ .walkRoutes)
    (h2 : a ≠ .walkAlias) (hsafe : safe esc (modeOf c.g t) (c.th t).wrote (c.th t).av (c.th t).iav r = true)
    (heff : ∀ v, stepEffect a (args t) v = v) : Inv esc args progs v0 (upd c t { c.th t with todo := r }) :=
  have ht := hI.thr t
  have hwalk : (c.th t).walk = none := walk_none_of_head ht htodo h1 h2
  inv_upd hI t _ (ht.next htodo hwalk hsafe heff ht.av_ ht.iav_ (fun _ ho => Or.inl ho))

/-- an index lookup under the mutex, through the map pointer `p` the thread knows to be the current one, is recorded -/
theorem step_read (hI : Inv esc args progs v0 c) {a : Step} (htodo : (c.th t).todo = a :: r) (ha : a = .readIndex ∨ a = .readAlias)
    (hm : modeOf c.g t ≠ .n) (hsafe : safe esc (modeOf c.g t) (c.th t).wrote (c.th t).av (c.th t).iav r = true) (p : Nat)
    (hp : p = c.g.sh.idx) (ok : Bool) (hok : ok = true → t ∈ c.g.readers) (hok' : t ∈ c.g.readers → ok = true) :
    Inv esc args progs v0
      (upd c t { c.th t with todo := r, obs := (c.th t).obs ++ [⟨lookupK (args t).key (c.g.sh.maps p), true, ok, (c.th t).lin⟩] }) := by
  have ht := hI.thr t
  have hwalk : (c.th t).walk = none :=
    walk_none_of_head ht htodo (by rcases ha with e | e <;> subst e <;> decide) (by rcases ha with e | e <;> subst e <;> decide)
  refine inv_upd hI t _ (ht.next htodo hwalk hsafe (fun _ => by rcases ha with e | e <;> subst e <;> rfl)
    ht.av_ ht.iav_ (fun o ho => ?_))
  refine (List.mem_append.1 ho).imp_right (fun ho => ?_)
  rw [List.mem_singleton] at ho
  subst ho
  exact ⟨fun hw => hok' (ht.reader_of_not_wrote hw hm),
    fun h => ⟨view c.g.sh, cur_pub hI.glob ht (hok h), by simp [answer, view, hp]⟩, fun _ => ha⟩

theorem step_aliasRoutes (hI : Inv esc args progs v0 c) (htodo : (c.th t).todo = .aliasRoutes :: r) :
    Inv esc args progs v0 (stepHead esc args c t .aliasRoutes r) := by
  have ht := hI.thr t
  have hs := ht.safe_
  rw [htodo] at hs
  simp only [safe, Bool.and_eq_true, beq_iff_eq] at hs
  have hr : t ∈ c.g.readers := (modeOf_r hI.glob).1 hs.1
  have hwalk : (c.th t).walk = none := walk_none_of_head ht htodo (by decide) (by decide)
  exact inv_upd hI t _ (ht.next htodo hwalk (by simpa [hr] using hs.2) (fun _ => rfl) (fun _ => aliasOk_cur hI.glob ht hr) ht.iav_ (fun _ ho => Or.inl ho))

theorem step_aliasIndex (hI : Inv esc args progs v0 c) (htodo : (c.th t).todo = .aliasIndex :: r) :
    Inv esc args progs v0 (stepHead esc args c t .aliasIndex r) := by
  have ht := hI.thr t
  have hs := ht.safe_
  rw [htodo] at hs
  simp only [safe, Bool.and_eq_true, bne_iff_ne, ne_eq] at hs
  have hd : (decide (t ∈ c.g.readers) || decide (c.g.writer = some t)) = true := by
    by_cases h1 : c.g.writer = some t
    · simp [h1]
    · by_cases h2 : t ∈ c.g.readers
      · simp [h2]
      · exact absurd (modeOf_n.2 ⟨h1, h2⟩) hs.1
  have hwalk : (c.th t).walk = none := walk_none_of_head ht htodo (by decide) (by decide)
  exact inv_upd hI t _ (ht.next htodo hwalk (by rw [hd]; exact hs.2) (fun _ => rfl) ht.av_ (fun _ => ⟨hs.1, rfl⟩) (fun _ ho => Or.inl ho))

/-- one step of a walk (start, one cell, finish) over a header that — when claimed valid — denotes the reader's view -/
theorem step_walk (hI : Inv esc args progs v0 c) {a : Step} (htodo : (c.th t).todo = a :: r)
    (ha : a = .walkRoutes ∨ a = .walkAlias) (src : Hdr) (valid : Bool)
    (hsafe : safe esc (modeOf c.g t) (c.th t).wrote (c.th t).av (c.th t).iav r = true)
    (hstart : valid = true → AliasOk esc c.g t (c.th t).lin src) (hvalid : (c.th t).wrote = false → valid = true) :
    Inv esc args progs v0 (walkStep args c t r src valid) := by
  have ht := hI.thr t
  have heff : ∀ v, stepEffect a (args t) v = v := by rcases ha with e | e <;> subst e <;> intro v <;> rfl
  cases hw : (c.th t).walk with
  | none =>
    simp only [walkStep, hw]
    refine inv_upd hI t _ ?_
    refine
      { ht with
        walkHead := fun w _ => ⟨r, by rcases ha with e | e <;> subst e <;> simp [htodo]⟩, walk_ := ?_, walkOk := ?_ }
    · intro w hw' hok
      simp only [Option.some.injEq] at hw'
      subst hw'
      exact ⟨hstart hok, fun v _ => by simp [lim_nil]⟩
    · intro hwr w hw'
      simp only [Option.some.injEq] at hw'
      subst hw'
      exact hvalid hwr
  | some w =>
    simp only [walkStep, hw]
    -- the walk finishes: it is past the end of the cells it walks, or stops at its first match
    have hfin : ((c.g.sh.heap w.h.ptr).take w.h.len).length ≤ w.i ∨ ((args t).first && !w.acc.isEmpty) = true →
        Inv esc args progs v0
          (upd c t { c.th t with todo := r, walk := none, obs := (c.th t).obs ++ [⟨w.acc, false, w.ok, (c.th t).lin⟩] }) := by
      intro hstop
      refine inv_upd hI t _ (ht.next htodo rfl hsafe heff ht.av_ ht.iav_ (fun o ho => ?_))
      refine (List.mem_append.1 ho).imp_right (fun ho => ?_)
      rw [List.mem_singleton] at ho
      subst ho
      refine ⟨fun hwr => ht.walkOk hwr w hw, fun hok => ?_, fun hkv => Bool.noConfusion hkv⟩
      obtain ⟨⟨v, hv, htk, _⟩, hacc⟩ := ht.walk_ w hw hok
      refine ⟨v, hv, ?_⟩
      rw [htk, hacc v hv] at hstop
      simp only [answer, Bool.false_eq_true, if_false]
      rw [hacc v hv]
      exact lim_filter_done _ _ _ _ hstop
    by_cases hc : (decide (w.i < w.h.len) && !((args t).first && !w.acc.isEmpty)) = true
    · rw [if_pos hc]
      simp only [Bool.and_eq_true, decide_eq_true_eq, Bool.not_eq_true'] at hc
      cases hx : (c.g.sh.heap w.h.ptr)[w.i]? with
      | some x =>
        simp only
        refine inv_upd hI t _ ?_
        refine
          { ht with
            walkHead := fun _ _ => ht.walkHead w hw, walk_ := ?_, walkOk := ?_ }
        · intro w' hw' hok
          simp only [Option.some.injEq] at hw'
          subst hw'
          simp only at hok
          obtain ⟨hal, hacc⟩ := ht.walk_ w hw hok
          refine ⟨hal, fun v hv => ?_⟩
          obtain ⟨v1, hv1, htk, _⟩ := hal
          rw [hv] at hv1
          cases hv1
          have hcell : v.1[w.i]? = some x := by
            rw [← htk, List.getElem?_take, if_pos hc.1]; exact hx
          have hgo : ((args t).first && !(lim (args t).first ((v.1.take w.i).filter (args t).mt)).isEmpty) = false := by
            rw [← hacc v hv]; exact hc.2
          simp only
          rw [lim_filter_step _ _ _ _ _ hcell hgo, ← hacc v hv]
        · intro hwr w' hw'
          simp only [Option.some.injEq] at hw'
          subst hw'
          exact ht.walkOk hwr w hw
      | none =>
        simp only
        exact hfin (Or.inl (Nat.le_trans (List.length_take_le' _ _) (List.getElem?_eq_none_iff.1 hx)))
    · rw [if_neg hc]
      simp only [Bool.and_eq_true, decide_eq_true_eq, Bool.not_eq_true', not_and, Bool.not_eq_false] at hc
      by_cases hlt : w.i < w.h.len
      · exact hfin (Or.inr (by simpa using hc hlt))
      · exact hfin (Or.inl (Nat.le_trans (List.length_take_le _ _) (Nat.le_of_not_lt hlt)))

/-- a write by the holder of the write lock -/
theorem step_write (hI : Inv esc args progs v0 c) {a : Step} (htodo : (c.th t).todo = a :: r)
    (ha1 : a ≠ .walkRoutes) (ha2 : a ≠ .walkAlias) (hw : c.g.writer = some t) (sh' : Shared α K) (iav' : Bool)
    (hview : view sh' = stepEffect a (args t) (view c.g.sh))
    (hsafe : safe esc .w (c.th t).wrote (c.th t).av iav' r = true)
    (hiav : iav' = true → (c.th t).iav = true ∧ sh'.idx = c.g.sh.idx)
    (hfro : esc = true → sh'.hdr.ptr < sh'.fresh ∧
      ∀ h, Frozen c.g.sh h → Frozen sh' h ∧ (sh'.heap h.ptr).take h.len = (c.g.sh.heap h.ptr).take h.len) :
    Inv esc args progs v0 ⟨{ c.g with sh := sh' }, setThread c.th t { c.th t with todo := r, iav := iav' }⟩ := by
  have ht := hI.thr t
  have hg := hI.glob
  have hrd : c.g.readers = [] := hg.excl t hw
  have hmw : modeOf c.g t = .w := modeOf_w.2 hw
  refine inv_mk hI t _ _ ?_ ?_ ?_
  · exact { hg with idle := fun e => by simp [hw] at e, freshOk := fun e => (hfro e).1 }
  · have hsuf := suffix_tail ht.suffix htodo
    have hwalk := walk_none_of_head ht htodo ha1 ha2
    have hm' : modeOf ({ c.g with sh := sh' } : Glob α K) t = .w := modeOf_w.2 hw
    refine
      { ht with
        suffix := hsuf.1, safe_ := by rw [hm']; exact hsafe,
        iav_ := fun e => ⟨by rw [hm']; decide, by rw [(ht.iav_ (hiav e).1).2]; exact (hiav e).2.symm⟩,
        av_ := fun e => by obtain ⟨_, _, _, h3, _⟩ := ht.av_ e; exact absurd hmw h3,
        walkHead := no_walk hwalk, walk_ := no_walk hwalk,
        eff_ := fun e => (by have := ht.wr hw; rw [e] at this; cases this), crit := ?_ }
    intro _
    obtain ⟨h1, h2⟩ := ht.crit hw
    refine ⟨h1, fun last hl => ?_⟩
    have := h2 last hl
    rw [htodo] at this
    simp only [effect] at this
    show effect r (args t) (view sh') = _
    rw [hview]; exact this
  · -- the other threads hold the mutex in neither mode: of the shared state they only see the cells under a header copy (`esc`)
    intro u hu hu'
    have hnu : c.g.writer ≠ some u := by rw [hw]; intro e; cases e; exact hu rfl
    have hmu : modeOf c.g u = .n := modeOf_n.2 ⟨hnu, by rw [hrd]; simp⟩
    have halias : ∀ lin hh, AliasOk esc c.g u lin hh → AliasOk esc { c.g with sh := sh' } u lin hh := by
      intro lin hh ⟨v, hv, htk, hm, h1, h2⟩
      cases hesc : esc with
      | false => have := h1 hesc; rw [hrd] at this; simp at this
      | true =>
        obtain ⟨_, hf⟩ := hfro hesc
        obtain ⟨hf1, hf2⟩ := hf hh (h2 hesc)
        exact ⟨v, hv, (by show (sh'.heap hh.ptr).take hh.len = v.1; rw [hf2]; exact htk), hm, fun e => (by cases e), fun _ => hf1⟩
    exact
      { hu' with
        iav_ := fun e => absurd hmu (hu'.iav_ e).1, av_ := fun e => halias _ _ (hu'.av_ e),
        walk_ := fun w hw' hok => ⟨halias _ _ (hu'.walk_ w hw' hok).1, (hu'.walk_ w hw' hok).2⟩, crit := fun e => absurd e hnu }

theorem step_appendRoutes (hI : Inv esc args progs v0 c) (htodo : (c.th t).todo = .appendRoutes :: r) :
    Inv esc args progs v0 (stepHead esc args c t .appendRoutes r) := by
  have ht := hI.thr t
  have hs := ht.safe_
  rw [htodo] at hs
  simp only [safe, Bool.and_eq_true, beq_iff_eq] at hs
  have hm : modeOf c.g t = .w := hs.1
  cases hx : (args t).route with
  | none =>
    simp only [stepHead, hx]
    exact inv_skip hI htodo (by decide) (by decide) hs.2 (fun v => by simp [stepEffect, hx])
  | some x =>
    simp only [stepHead, hx]
    rw [hm] at hs
    exact step_write hI htodo (by decide) (by decide) (modeOf_w.1 hm) (appendRoute c.g.sh x) (c.th t).iav
      (by rw [view_appendRoute]; simp [stepEffect, hx]) hs.2
      (fun e => ⟨e, by by_cases hc : c.g.sh.hdr.len < (c.g.sh.heap c.g.sh.hdr.ptr).length <;> simp [appendRoute, hc]⟩)
      (fun e => ⟨fresh_appendRoute _ _ (hI.glob.freshOk e), fun h hz => frozen_appendRoute _ _ h hz⟩)

/-- `m[k] = r` on the current map object, reached through the pointer `p` (nothing happens without a route and a key) -/
theorem step_put (hI : Inv esc args progs v0 c) {a : Step} (htodo : (c.th t).todo = a :: r) (ha : a = .putIndex ∨ a = .putAlias)
    (hm : modeOf c.g t = .w) (hsafe : safe esc (modeOf c.g t) (c.th t).wrote (c.th t).av (c.th t).iav r = true) (p : Nat)
    (hp : p = c.g.sh.idx) :
    Inv esc args progs v0
      (match (args t).route, (args t).key with
       | some x, some k => ⟨{ c.g with sh := putAt c.g.sh p k x }, setThread c.th t { c.th t with todo := r }⟩
       | _, _ => upd c t { c.th t with todo := r }) := by
  have h1 : a ≠ .walkRoutes := by rcases ha with e | e <;> subst e <;> decide
  have h2 : a ≠ .walkAlias := by rcases ha with e | e <;> subst e <;> decide
  subst hp
  cases hx : (args t).route with
  | none => exact inv_skip hI htodo h1 h2 hsafe (fun v => by rcases ha with e | e <;> subst e <;> simp [stepEffect, hx])
  | some x =>
    cases hk : (args t).key with
    | none => exact inv_skip hI htodo h1 h2 hsafe (fun v => by rcases ha with e | e <;> subst e <;> simp [stepEffect, hx, hk])
    | some k =>
      rw [hm] at hsafe
      refine step_write hI htodo h1 h2 (modeOf_w.1 hm) (putAt c.g.sh c.g.sh.idx k x) (c.th t).iav ?_ hsafe (fun e => ⟨e, rfl⟩)
        (fun e => ⟨hI.glob.freshOk e, fun h hz => ⟨hz, rfl⟩⟩)
      rw [view_putAt]
      rcases ha with e | e <;> subst e <;> simp [stepEffect, hx, hk]

/-- thread `u` does not notice another thread taking or releasing the mutex: the shared state stays, published views are only
added (none while `u` reads or writes) -/
theorem TInv.frame_locks {g g' : Glob α K} {u : Nat} {th : Thread α} (h : TInv esc args progs g u th) (hsh : g'.sh = g.sh)
    (hw : g'.writer = some u ↔ g.writer = some u) (hr : u ∈ g'.readers ↔ u ∈ g.readers) (hd : u ∈ g'.done ↔ u ∈ g.done)
    (hpub : ∀ (i : Nat) v, g.pubs[i]? = some v → g'.pubs[i]? = some v)
    (hlen : u ∈ g.readers → g'.pubs.length = g.pubs.length) (hcrit : g.writer = some u → g'.pubs = g.pubs) :
    TInv esc args progs g' u th := by
  have hm := modeOf_eq hw hr
  have halias : ∀ lin hh, AliasOk esc g u lin hh → AliasOk esc g' u lin hh := fun lin hh ⟨v, hv, htk, hn, h1, h2⟩ =>
    ⟨v, hpub _ _ hv, by rw [hsh]; exact htk, by rw [hm]; exact hn, fun e => hr.2 (h1 e), fun e => by rw [hsh]; exact h2 e⟩
  refine
    { h with
      safe_ := by rw [hm]; exact h.safe_, wr := fun e => h.wr (hw.1 e),
      dw := fun e => h.dw (hd.1 e), rd := fun e => by rw [hlen (hr.1 e)]; exact h.rd (hr.1 e),
      iav_ := fun e => by rw [hm, hsh]; exact h.iav_ e,
      av_ := fun e => halias _ _ (h.av_ e), walk_ := ?_, obs_ := ?_, crit := ?_ }
  · intro w hw' hok
    obtain ⟨ha, hacc⟩ := h.walk_ w hw' hok
    refine ⟨halias _ _ ha, fun v hv => ?_⟩
    obtain ⟨v1, hv1, _⟩ := ha
    have := hpub _ _ hv1
    rw [hv] at this
    cases this
    exact hacc _ hv1
  · intro o ho hok
    obtain ⟨v, hv, hres⟩ := h.obs_ o ho hok
    exact ⟨v, hpub _ _ hv, hres⟩
  · intro e
    obtain ⟨h1, h2⟩ := h.crit (hw.1 e)
    exact ⟨fun x => h1 (hd.1 x), by rw [hsh, hcrit (hw.1 e)]; exact h2⟩

theorem pubs_mono (l : List (View α K)) (x : View α K) (i : Nat) (v : View α K) (h : l[i]? = some v) : (l ++ [x])[i]? = some v := by
  rw [List.getElem?_append_left (List.getElem?_eq_some_iff.1 h).1]; exact h

theorem step_lock (hI : Inv esc args progs v0 c) (htodo : (c.th t).todo = .lock :: r) :
    Inv esc args progs v0 (stepHead esc args c t .lock r) := by
  have ht := hI.thr t
  have hg := hI.glob
  have hs := ht.safe_
  rw [htodo] at hs
  simp only [safe, Bool.and_eq_true, beq_iff_eq, Bool.not_eq_true'] at hs
  by_cases hc : c.g.writer = none ∧ c.g.readers = []
  · simp only [stepHead]
    rw [if_pos hc]
    have hsuf := suffix_tail ht.suffix htodo
    have hwalk := walk_none_of_head ht htodo (by decide) (by decide)
    refine inv_mk hI t _ _ ?_ ?_ ?_
    · exact { hg with idle := nofun, excl := fun _ _ => hc.2 }
    · have hm' : modeOf ({ c.g with writer := some t } : Glob α K) t = .w := modeOf_w.2 rfl
      refine
        { ht with
          suffix := hsuf.1, safe_ := by rw [hm']; exact hs.2, wr := fun _ => rfl, wlock := fun _ => hsuf.2, dw := fun _ => rfl,
          rd := fun e => by rw [hc.2] at e; simp at e, iav_ := nofun, av_ := nofun,
          walkHead := no_walk hwalk, walk_ := no_walk hwalk,
          walkOk := fun _ => no_walk hwalk, obsOk := nofun, eff_ := nofun, crit := ?_ }
      intro _
      refine ⟨fun e => (by have := ht.dw e; rw [hs.1.2] at this; cases this), fun last hl => ?_⟩
      have hid := hg.idle hc.1
      rw [hid] at hl
      cases hl
      rw [← ht.eff_ hs.1.2 (view c.g.sh), htodo]
      rfl
    · intro u hu hu'
      have hwu : (some t = some u) ↔ c.g.writer = some u := by simp [hc.1, Ne.symm hu]
      exact hu'.frame_locks rfl hwu Iff.rfl Iff.rfl (fun _ _ e => e) (fun _ => rfl) (fun _ => rfl)
  · simp only [stepHead]
    rw [if_neg hc]
    exact hI

theorem step_unlock (hI : Inv esc args progs v0 c) (htodo : (c.th t).todo = .unlock :: r) :
    Inv esc args progs v0 (stepHead esc args c t .unlock r) := by
  have ht := hI.thr t
  have hg := hI.glob
  have hs := ht.safe_
  rw [htodo] at hs
  simp only [safe, Bool.and_eq_true, beq_iff_eq] at hs
  have hw : c.g.writer = some t := modeOf_w.1 hs.1
  have hrd : c.g.readers = [] := hg.excl t hw
  simp only [stepHead]
  rw [if_pos hw]
  have hsuf := suffix_tail ht.suffix htodo
  have hwalk := walk_none_of_head ht htodo (by decide) (by decide)
  have hwr := ht.wr hw
  obtain ⟨hnd, hcr⟩ := ht.crit hw
  refine inv_mk hI t _ _ ?_ ?_ ?_
  · refine { hg with idle := fun _ => List.getLast?_concat, excl := fun w e => by simp at e, nodupD := ?_, ser := ?_ }
    · exact (List.perm_append_singleton t c.g.done).nodup_iff.2 (List.nodup_cons.2 ⟨hnd, hg.nodupD⟩)
    · show c.g.pubs ++ [view c.g.sh] = _
      rw [serialPubs_concat, ← hg.ser]
      congr 2
      have := hcr _ (by rw [hg.ser]; exact getLast?_serialPubs _ _ _)
      rw [htodo] at this
      simp only [effect, stepEffect] at this
      rw [effect_id_of_safe esc (args t) r .n false false (by decide) (hwr ▸ hs.2)] at this
      exact this
  · have hm' : modeOf ({ c.g with writer := none, pubs := c.g.pubs ++ [view c.g.sh], done := c.g.done ++ [t] } : Glob α K) t = .n :=
      modeOf_n.2 ⟨by simp, by simp [hrd]⟩
    refine
      { ht with
        suffix := hsuf.1, safe_ := by rw [hm']; exact hs.2, wr := nofun, dw := fun _ => hwr,
        rd := fun e => by simp [hrd] at e, iav_ := nofun, av_ := nofun,
        walkHead := no_walk hwalk, walk_ := no_walk hwalk,
        obs_ := ?_, obsOk := fun e => by simp [hwr] at e, eff_ := fun e => by simp [hwr] at e, crit := nofun }
    intro o ho hok
    obtain ⟨v, hv, hres⟩ := ht.obs_ o ho hok
    exact ⟨v, pubs_mono _ _ _ _ hv, hres⟩
  · intro u hu hu'
    have hwu : (none = some u) ↔ c.g.writer = some u := by simp [hw, Ne.symm hu]
    exact hu'.frame_locks rfl hwu Iff.rfl (by simp [hu]) (pubs_mono _ _) (fun e => by rw [hrd] at e; simp at e)
      (fun e => by rw [hw] at e; cases e; exact absurd rfl hu)

theorem step_rlock (hI : Inv esc args progs v0 c) (htodo : (c.th t).todo = .rlock :: r) :
    Inv esc args progs v0 (stepHead esc args c t .rlock r) := by
  have ht := hI.thr t
  have hg := hI.glob
  have hs := ht.safe_
  rw [htodo] at hs
  simp only [safe, Bool.and_eq_true, beq_iff_eq] at hs
  have hmn := modeOf_n.1 hs.1
  by_cases hc : c.g.writer = none
  · simp only [stepHead]
    rw [if_pos hc]
    have hsuf := suffix_tail ht.suffix htodo
    have hwalk := walk_none_of_head ht htodo (by decide) (by decide)
    have hg' : GInv esc args progs v0 ({ c.g with readers := t :: c.g.readers } : Glob α K) :=
      { hg with excl := fun w e => (by rw [hc] at e; cases e), nodupR := List.nodup_cons.2 ⟨hmn.2, hg.nodupR⟩ }
    refine inv_mk hI t _ _ hg' ?_ ?_
    · have hm' : modeOf ({ c.g with readers := t :: c.g.readers } : Glob α K) t = .r := (modeOf_r hg').2 (by simp)
      refine
        { ht with
          suffix := hsuf.1, safe_ := by rw [hm']; exact hs.2, rd := fun _ => ?_, iav_ := nofun, av_ := nofun,
          walkHead := no_walk hwalk, walk_ := no_walk hwalk,
          eff_ := fun hw v => by rw [← ht.eff_ hw v, htodo]; rfl, crit := fun e => absurd e hmn.1 }
      obtain ⟨l, e⟩ := List.getLast?_eq_some_iff.1 (hg.idle hc)
      show c.g.pubs.length - 1 + 1 = c.g.pubs.length
      simp [e]
    · intro u hu hu'
      have hru : u ∈ t :: c.g.readers ↔ u ∈ c.g.readers := by simp [hu]
      exact hu'.frame_locks rfl Iff.rfl hru Iff.rfl (fun _ _ e => e) (fun _ => rfl) (fun _ => rfl)
  · simp only [stepHead]
    rw [if_neg hc]
    exact hI

theorem step_runlock (hI : Inv esc args progs v0 c) (htodo : (c.th t).todo = .runlock :: r) :
    Inv esc args progs v0 (stepHead esc args c t .runlock r) := by
  have ht := hI.thr t
  have hg := hI.glob
  have hs := ht.safe_
  rw [htodo] at hs
  simp only [safe, Bool.and_eq_true, beq_iff_eq] at hs
  have hr : t ∈ c.g.readers := (modeOf_r hg).1 hs.1
  have hwn : c.g.writer = none := hg.reader_idle hr
  simp only [stepHead]
  have hsuf := suffix_tail ht.suffix htodo
  have hwalk := walk_none_of_head ht htodo (by decide) (by decide)
  have hnot : t ∉ c.g.readers.erase t := hg.nodupR.not_mem_erase
  have hm' : modeOf ({ c.g with readers := c.g.readers.erase t } : Glob α K) t = .n :=
    modeOf_n.2 ⟨by rw [hwn]; simp, hnot⟩
  refine inv_mk hI t _ _ ?_ ?_ ?_
  · exact { hg with excl := fun w e => (by rw [hwn] at e; cases e), nodupR := hg.nodupR.erase t }
  · refine
      { ht with
        suffix := hsuf.1, safe_ := by rw [hm']; exact hs.2, rd := fun e => absurd e hnot, iav_ := nofun, av_ := ?_,
        walkHead := no_walk hwalk, walk_ := no_walk hwalk,
        eff_ := fun hw v => by rw [← ht.eff_ hw v, htodo]; rfl, crit := fun e => by rw [hwn] at e; cases e }
    intro e
    simp only [Bool.and_eq_true] at e
    obtain ⟨v, hv, htk, _, _, h2⟩ := ht.av_ e.2
    exact ⟨v, hv, htk, by rw [hm']; decide, fun e' => (by rw [e.1] at e'; cases e'), h2⟩
  · intro u hu hu'
    have hru : u ∈ c.g.readers.erase t ↔ u ∈ c.g.readers := List.mem_erase_of_ne hu
    exact hu'.frame_locks rfl Iff.rfl hru Iff.rfl (fun _ _ e => e) (fun _ => rfl) (fun _ => rfl)

end steps

theorem inv_step (c : Conf α K) (t : Nat) (hI : Inv esc args progs v0 c) : Inv esc args progs v0 (stepThread esc args c t) := by
  unfold stepThread
  cases htodo : (c.th t).todo with
  | nil => exact hI
  | cons a r =>
    have ht := hI.thr t
    have hs := ht.safe_
    rw [htodo] at hs
    simp only
    cases a <;> simp only [safe, Bool.and_eq_true, beq_iff_eq, bne_iff_ne, ne_eq, Bool.not_eq_true', Bool.false_eq_true] at hs
    case lock => exact step_lock hI htodo
    case unlock => exact step_unlock hI htodo
    case rlock => exact step_rlock hI htodo
    case runlock => exact step_runlock hI htodo
    case aliasRoutes => exact step_aliasRoutes hI htodo
    case aliasIndex => exact step_aliasIndex hI htodo
    case appendRoutes => exact step_appendRoutes hI htodo
    case other => exact inv_skip hI htodo (by decide) (by decide) hs (fun _ => rfl)
    case walkRoutes =>
      exact step_walk hI htodo (Or.inl rfl) _ _ hs.2 (fun hv => aliasOk_cur hI.glob ht (by simpa using hv))
        (fun hwr => by simpa using ht.reader_of_not_wrote hwr hs.1)
    case walkAlias => exact step_walk hI htodo (Or.inr rfl) _ _ hs.2 ht.av_ (fun _ => hs.1)
    case readIndex => exact step_read hI htodo (Or.inl rfl) hs.1 hs.2 _ rfl _ (by simp) (by simp)
    case readAlias =>
      exact step_read hI htodo (Or.inr rfl) hs.1.1 hs.2 _ (ht.iav_ hs.1.2).2 _ (by simp) (by simp [hs.1.2])
    case putIndex => exact step_put hI htodo (Or.inl rfl) hs.1 hs.2 _ rfl
    case putAlias => exact step_put hI htodo (Or.inr rfl) hs.1.1 hs.2 _ (ht.iav_ hs.1.2).2
    case resetRoutes =>
      have hm := hs.1.1
      rw [hm] at hs
      exact step_write hI htodo (by decide) (by decide) (modeOf_w.1 hm) (resetRoutes c.g.sh) (c.th t).iav
        (view_resetRoutes _) hs.2 (fun e => ⟨e, rfl⟩) (fun e => by rw [hs.1.2] at e; cases e)
    case freshRoutes =>
      have hm := hs.1
      rw [hm] at hs
      exact step_write hI htodo (by decide) (by decide) (modeOf_w.1 hm) (freshRoutes c.g.sh) (c.th t).iav
        (view_freshRoutes _) hs.2 (fun e => ⟨e, rfl⟩)
        (fun _ => ⟨by simp [freshRoutes], fun h hz => frozen_freshRoutes _ h hz⟩)
    case freshIndex =>
      have hm := hs.1
      rw [hm] at hs
      exact step_write hI htodo (by decide) (by decide) (modeOf_w.1 hm) (freshIndex c.g.sh) false
        (view_freshIndex _) hs.2 (fun e => by cases e)
        (fun e => ⟨hI.glob.freshOk e, fun h hz => ⟨hz, rfl⟩⟩)

theorem inv_run {c : Conf α K} (hI : Inv esc args progs v0 c) (sched : List Nat) :
    Inv esc args progs v0 (runSched esc args c sched) :=
  Lemmas.Fold.foldl_inv inv_step sched c hI

/-- the start: every program has the discipline -/
theorem inv_init (s0 : Shared α K) (hsafe : ∀ t, safe esc .n false false false (progs t) = true)
    (hfresh : esc = true → s0.hdr.ptr < s0.fresh) : Inv esc args progs (view s0) (initConf progs s0) := by
  refine ⟨?_, fun t => ?_⟩
  · exact { idle := fun _ => rfl, excl := nofun, nodupR := by simp [initConf],
            freshOk := hfresh, nodupD := by simp [initConf], ser := rfl }
  · have hm : modeOf (initConf (α := α) (K := K) progs s0).g t = .n := modeOf_n.2 ⟨by simp [initConf], by simp [initConf]⟩
    exact
      { suffix := ⟨[], rfl⟩, safe_ := by rw [hm]; exact hsafe t, wr := nofun, wlock := nofun, dw := nofun, rd := nofun,
        iav_ := nofun, av_ := nofun, walkHead := nofun, walk_ := nofun, walkOk := nofun, obs_ := nofun, obsOk := nofun,
        obsKv := nofun, eff_ := fun _ _ => rfl, crit := nofun }

/-- what a lookup that never takes the write lock observes, and how the published views arise -/
theorem schedule_facts (esc : Bool) (args : Nat → Arg α K) (progs : Nat → List Step) (s0 : Shared α K)
    (hsafe : ∀ t, safe esc .n false false false (progs t) = true) (hfresh : esc = true → s0.hdr.ptr < s0.fresh)
    (sched : List Nat) :
    let c := runSched esc args (initConf progs s0) sched
    c.g.done.Nodup ∧ c.g.pubs = serialPubs (fun t => effect (progs t) (args t)) c.g.done (view s0) ∧
    (c.g.writer = none → c.g.pubs.getLast? = some (view c.g.sh)) ∧
    (∀ t, Step.lock ∉ progs t → ∀ o ∈ (c.th t).obs, ∃ v, c.g.pubs[o.at_]? = some v ∧ o.res = answer (args t) o.kv v) ∧
    (∀ t, Step.readIndex ∉ progs t → Step.readAlias ∉ progs t → ∀ o ∈ (c.th t).obs, o.kv = false) := by
  intro c
  have hI : Inv esc args progs (view s0) c := inv_run (inv_init s0 hsafe hfresh) sched
  refine ⟨hI.glob.nodupD, hI.glob.ser, hI.glob.idle, fun t hl o ho => ?_, fun t h1 h2 o ho => ?_⟩
  · have ht := hI.thr t
    have hw : (c.th t).wrote = false := by
      cases h : (c.th t).wrote with
      | false => rfl
      | true => exact absurd (ht.wlock h) hl
    exact ht.obs_ o ho (ht.obsOk hw o ho)
  · cases hk : o.kv with
    | false => rfl
    | true =>
      rcases (hI.thr t).obsKv o ho hk with h | h
      · exact absurd h h1
      · exact absurd h h2

/-- the regenerated programs do to the view what the declarative reference says -/
theorem effect_progOf (cl : Call α K) (v : View α K) : effect (progOf cl) (argOf cl) v = specOf cl v := by
  cases cl with
  | entries mt => rfl
  | all mt => rfl
  | kv k => rfl
  | removeAll => rfl
  | add r key =>
    cases key with
    | none => rfl
    | some k => simp [progOf, argOf, specOf, addRoute, effect, stepEffect, addRouteSpec, upsert_idem]

theorem disciplined_progOf (cl : Call α K) : disciplined (progOf cl) = true := by
  cases cl <;> simp only [progOf] <;> decide

theorem lock_notMem_progOf (cl : Call α K) (h : isLookup cl = true) : Step.lock ∉ progOf cl := by
  cases cl <;> simp only [progOf] <;> first | (simp [isLookup] at h; done) | decide

end inv

end MosnVerif.Model.VhostTable
