/-!
A loop given by its turn: `turn c` is the state behind one turn and whether the loop goes round again.  The dispatch-loop
models (Model/DispatchLoop, Model/H2ReadLoop) each give such a loop twice — as a function with fuel (`run`) and as a
derivation without (`Returns`).  What every one of them is asked for — the fuelled run derives `Returns`; a measure that
every "again" turn decreases bounds the fuel — is shown here once, from the equation of `run` and the two rules of
`Returns`.  Core Lean only.
-/
namespace MosnVerif.Lemmas.TurnLoop
variable {C : Type} {turn : C → C × Bool} {run : Nat → C → Option C}

theorem sound {Ret : C → C → Prop} (h0 : ∀ c, run 0 c = none)
    (hrun : ∀ n c, run (n + 1) c = if (turn c).2 then run n (turn c).1 else some (turn c).1)
    (done : ∀ c, (turn c).2 = false → Ret c (turn c).1) (more : ∀ c c', (turn c).2 = true → Ret (turn c).1 c' → Ret c c') :
    ∀ (n : Nat) (c c' : C), run n c = some c' → Ret c c' := by
  intro n
  induction n with
  | zero => intro c c' h; rw [h0] at h; cases h
  | succ n ih =>
    intro c c' h
    rw [hrun] at h
    by_cases ht : (turn c).2 = true
    · rw [if_pos ht] at h
      exact more c c' ht (ih _ _ h)
    · rw [if_neg ht] at h
      cases h
      exact done c (by simpa using ht)

/-- total correctness: `μ` falls with every turn that goes round again, `Q` holds across a last turn and is carried back
over an earlier one; then fuel `μ c + 1` suffices and `Q` holds between the first and the last state -/
theorem total (hrun : ∀ n c, run (n + 1) c = if (turn c).2 then run n (turn c).1 else some (turn c).1)
    (μ : C → Nat) (Q : C → C → Prop) (hμ : ∀ c, (turn c).2 = true → μ (turn c).1 < μ c)
    (hd : ∀ c, (turn c).2 = false → Q c (turn c).1) (hm : ∀ c c', (turn c).2 = true → Q (turn c).1 c' → Q c c') :
    ∀ (n : Nat) (c : C), μ c ≤ n → ∃ c', run (n + 1) c = some c' ∧ Q c c' := by
  intro n
  induction n with
  | zero =>
    intro c hc
    have hf : (turn c).2 = false := by
      cases ht : (turn c).2 with
      | false => rfl
      | true => have := hμ c ht; omega
    exact ⟨_, by rw [hrun, if_neg (by simp [hf])], hd c hf⟩
  | succ n ih =>
    intro c hc
    by_cases ht : (turn c).2 = true
    · obtain ⟨c', hr, hq⟩ := ih (turn c).1 (by have := hμ c ht; omega)
      exact ⟨c', by rw [hrun, if_pos ht]; exact hr, hm c c' ht hq⟩
    · exact ⟨_, by rw [hrun, if_neg ht], hd c (by simpa using ht)⟩

end MosnVerif.Lemmas.TurnLoop
