import MosnVerif.Lemmas.Bolt
/-! generic theorems about `decodeKind` / `encodeKind` for any kind satisfying `KindOK` (core only) -/
namespace MosnVerif.Model.Bolt
open MosnVerif.Model MosnVerif.Model.Bytes

theorem decodeKind_frame {K : Kind} {ow : Bool} {b : Bytes} {f : Frame} {n : Nat}
    (h : decodeKind K ow b = .frame f n) :
    K.hdrLen ≤ b.length ∧
    n = K.frameLen (getBE b K.cls.1 K.cls.2) (getBE b K.hdr.1 K.hdr.2) (getBE b K.cnt.1 K.cnt.2) ∧
    n ≤ b.length ∧ f.raw = some (b.take n) ∧ f.hdrChanged = false ∧ f.contentChanged = false ∧
    f.kind = K.id ∧ f.fx = K.decodeMeta b ow ∧
    f.classLen = getBE b K.cls.1 K.cls.2 ∧ f.headerLen = getBE b K.hdr.1 K.hdr.2 ∧ f.contentLen = getBE b K.cnt.1 K.cnt.2 := by
  revert h
  -- the leaves of `decodeKind`: two short buffers, then the header block decoded / in error / out of range, or no header block
  fun_cases decodeKind K ow b with
  | case1 | case2 | case4 | case5 => nofun
  | case3 | case6 =>
    intro h
    injection h with hf hn
    subst hf hn
    exact ⟨by omega, rfl, by omega, rfl, rfl, rfl, rfl, rfl, rfl, rfl, rfl⟩

/-- **fast path**: an unmodified decoded frame re-encodes to the received bytes with the id window overwritten -/
theorem encodeKind_fast {K : Kind} (hK : KindOK K) {ow : Bool} {b : Bytes} {f : Frame} {n : Nat}
    (h : decodeKind K ow b = .frame f n) (i : Nat) :
    encodeKind K (setId f i) = some (patch (b.take n) K.idIdx (be 4 i)) := by
  obtain ⟨_, _, _, hraw, hc1, hc2, _⟩ := decodeKind_frame h
  unfold encodeKind setId
  simp only [hraw, hc1, hc2, encodeFast, hK.idWidth_eq]
  simp [be_mod 4 i]

theorem ite_length_pos_eq_self {α : Type} (l : List α) : (if l.length > 0 then l else []) = l := by
  cases l <;> rfl

theorem encodeLen_eq_zero (kvs : List BoltHeader.KV) (h : BoltHeader.encodeLen kvs = 0) : kvs = [] :=
  List.eq_nil_of_length_eq_zero (by have := BoltHeader.encodeLen_ge kvs; omega)

theorem lengthsFit_iff (c h n : Nat) :
    Gen.C01Bolt.lengthsFit (c : Int) (h : Int) (n : Int) = true ↔ c ≤ 65535 ∧ h ≤ 65535 ∧ n ≤ 4294967295 := by
  simp only [Gen.C01Bolt.lengthsFit, Bool.and_eq_true, decide_eq_true_eq]
  omega

theorem encodeSlow_some (K : Kind) (f : Frame) (hrep : Ref.representable f = true) :
    encodeSlow K f = some (K.encodeMeta f.fx f.cls.length (BoltHeader.encodeLen f.kvs) f.content.length
      ++ (f.cls ++ (BoltHeader.encode f.kvs ++ f.content))) := by
  simp only [Ref.representable, Bool.and_eq_true, decide_eq_true_eq] at hrep
  have hfit := (lengthsFit_iff f.cls.length (BoltHeader.encodeLen f.kvs) f.content.length).mpr ⟨hrep.1.1, hrep.1.2, hrep.2⟩
  unfold encodeSlow
  simp only [hfit, if_true]
  have h1 : (if f.kvs.isEmpty then 0 else BoltHeader.encodeLen f.kvs) = BoltHeader.encodeLen f.kvs := by
    cases f.kvs <;> rfl
  -- each section is written when its length is positive, the header block when its encoded length is
  rw [h1, ← BoltHeader.encode_length, ite_length_pos_eq_self, ite_length_pos_eq_self, ite_length_pos_eq_self,
    List.append_assoc, List.append_assoc]

/-- **refusal**: a message whose class / header block / content does not fit the length fields is not encoded -/
theorem encodeSlow_none (K : Kind) (f : Frame) (hrep : Ref.representable f = false) : encodeSlow K f = none := by
  have hnot : ¬ (Gen.C01Bolt.lengthsFit (f.cls.length : Int) (BoltHeader.encodeLen f.kvs : Int) (f.content.length : Int) = true) := by
    intro hfit
    have := (lengthsFit_iff _ _ _).mp hfit
    simp [Ref.representable, this.1, this.2.1, this.2.2] at hrep
  unfold encodeSlow
  simp only [hnot]
  rfl

/-- **slow path round trip**: the re-encoded frame decodes to exactly the fields, class, pairs and body it was built
from, the three length fields are the section lengths, and the decoder consumes the whole output -/
theorem slow_roundtrip_kind {K : Kind} (hK : KindOK K) (f : Frame) (ow : Bool) (hw : metaWF K.id f.fx ow)
    (hrep : Ref.representable f = true) :
    ∃ out, encodeSlow K f = some out ∧
      decodeKind K ow out = .frame
        { kind := K.id, fx := f.fx, classLen := f.cls.length, headerLen := BoltHeader.encodeLen f.kvs,
          contentLen := f.content.length, cls := f.cls, kvs := f.kvs, content := f.content,
          raw := some out, hdrChanged := false, contentChanged := false } out.length := by
  refine ⟨_, encodeSlow_some K f hrep, ?_⟩
  simp only [Ref.representable, Bool.and_eq_true, decide_eq_true_eq] at hrep
  obtain ⟨⟨hc, hh⟩, hn⟩ := hrep
  obtain ⟨rc, rh, rn, rm⟩ := hK.read_back f.fx f.cls.length (BoltHeader.encodeLen f.kvs) f.content.length
    (f.cls ++ (BoltHeader.encode f.kvs ++ f.content)) ow hw (by omega) (by omega) (by omega)
  have hMl := hK.meta_len f.fx f.cls.length (BoltHeader.encodeLen f.kvs) f.content.length
  generalize K.encodeMeta f.fx f.cls.length (BoltHeader.encodeLen f.kvs) f.content.length = M at rc rh rn rm hMl ⊢
  have hHl := BoltHeader.encode_length f.kvs
  -- behind the header: the class, the header block, the content
  have d0 : (M ++ (f.cls ++ (BoltHeader.encode f.kvs ++ f.content))).drop K.hdrLen = _ := List.drop_left' hMl
  have d1 := drop_of_drop d0 (lo' := K.hdrLen + f.cls.length) rfl
  have d2 := drop_of_drop d1 (lo' := K.hdrLen + f.cls.length + BoltHeader.encodeLen f.kvs) (by rw [hHl])
  have hlen : (M ++ (f.cls ++ (BoltHeader.encode f.kvs ++ f.content))).length
      = K.hdrLen + f.cls.length + BoltHeader.encodeLen f.kvs + f.content.length := by
    simp only [List.length_append, hMl, hHl, Nat.add_assoc]
  generalize M ++ (f.cls ++ (BoltHeader.encode f.kvs ++ f.content)) = out at rc rh rn rm d0 d1 d2 hlen ⊢
  have n1 : ¬ (out.length < K.hdrLen) := by omega
  unfold decodeKind
  simp only [rc, rh, rn, rm, hK.frameLen_eq, hK.headerIndex_eq, hK.contentIndex_eq, ← hlen, n1, Nat.lt_irrefl, if_false,
    List.take_length, slice_of_drop d0 rfl, slice_of_drop d1 (by rw [hHl]), d2, ite_length_pos_eq_self]
  by_cases hz : BoltHeader.encodeLen f.kvs > 0
  · simp only [hz, if_true]
    rw [BoltHeader.decode_encode f.kvs (BoltHeader.wf_of_encodeLen f.kvs hh)]
  · have hk : f.kvs = [] := encodeLen_eq_zero _ (by omega)
    simp only [hz, if_false]
    rw [hk]

def isV2 : Codec → Bool | .bolt => false | .boltv2 => true

/-- the dispatch on the command-type byte that `Ref.classify` and both `decodeCore`s make: 1 request, 2 one-way, 0 response -/
def byType (req resp : Kind) (t : Nat) : Option (Kind × Bool) :=
  if t = 1 then some (req, false) else if t = 2 then some (req, true) else if t = 0 then some (resp, false) else none

/-- the family the first byte selects, seen from the bolt (`false`) or the boltv2 (`true`) codec -/
def v2Family (boltv2Codec : Bool) (b : Bytes) : Bool :=
  if boltv2Codec then !(decide (b.length > 0 ∧ byteAt b 0 = 1)) else decide (b.length > 0 ∧ byteAt b 0 = 2)

theorem classify_eq (v2c : Bool) (b : Bytes) :
    Ref.classify v2c b =
      if v2Family v2c b then (if b.length ≥ 22 then byType Ref.v2req Ref.v2resp (byteAt b 2) else none)
      else (if b.length ≥ 20 then byType Ref.v1req Ref.v1resp (byteAt b 1) else none) := rfl

theorem byType_some {req resp K : Kind} {t : Nat} {ow : Bool} (h : byType req resp t = some (K, ow)) :
    K = req ∨ (K = resp ∧ ow = false) := by
  unfold byType at h
  repeat' split at h
  all_goals cases h
  · exact Or.inl rfl
  · exact Or.inl rfl
  · exact Or.inr ⟨rfl, rfl⟩

def viaKind (b : Bytes) : Option (Kind × Bool) → Step Frame
  | some (K, ow) => decodeKind K ow b
  | none => .error

theorem viaKind_byType (req resp : Kind) (t : Nat) (b : Bytes) :
    viaKind b (byType req resp t) =
      if t = 1 then decodeKind req false b else if t = 2 then decodeKind req true b
      else if t = 0 then decodeKind resp false b else .error := by
  unfold byType
  repeat' split
  all_goals rfl

theorem V1.decodeCore_eq (b : Bytes) :
    V1.decodeCore b = if b.length ≥ 20 then viaKind b (byType Ref.v1req Ref.v1resp (byteAt b 1)) else .needMore := by
  rw [viaKind_byType]; rfl

theorem V2.decodeCore_eq (b : Bytes) :
    V2.decodeCore b = if b.length ≥ 22 then viaKind b (byType Ref.v2req Ref.v2resp (byteAt b 2)) else .needMore := by
  rw [viaKind_byType]; rfl

theorem decode_eq (c : Codec) (b : Bytes) :
    decode c b = if v2Family (isV2 c) b then V2.decodeCore b else V1.decodeCore b := by
  cases c
  · simp [decode, v2Family, isV2, Gen.C01BoltV2.ProtocolCode]
  · by_cases h : b.length > 0 ∧ byteAt b 0 = 1 <;> simp [decode, v2Family, isV2, Gen.C01Bolt.ProtocolCode, h]

theorem decode_eq_viaKind (c : Codec) (b : Bytes) :
    decode c b = viaKind b (Ref.classify (isV2 c) b) ∨
      (Ref.classify (isV2 c) b = none ∧ decode c b = .needMore) := by
  rw [decode_eq, classify_eq, V1.decodeCore_eq, V2.decodeCore_eq]
  cases v2Family (isV2 c) b
  · by_cases hl : b.length ≥ 20
    · exact Or.inl (by simp only [Bool.false_eq_true, if_false, hl, if_true])
    · exact Or.inr (by simp only [Bool.false_eq_true, if_false, hl, and_self])
  · by_cases hl : b.length ≥ 22
    · exact Or.inl (by simp only [if_true, hl])
    · exact Or.inr (by simp only [if_true, hl, if_false, and_self])

theorem decode_of_classify (c : Codec) (b : Bytes) (K : Kind) (ow : Bool)
    (h : Ref.classify (isV2 c) b = some (K, ow)) : decode c b = decodeKind K ow b := by
  rcases decode_eq_viaKind c b with hd | ⟨hn, _⟩
  · rw [hd, h]; rfl
  · rw [hn] at h; cases h

theorem decode_not_frame_of_classify_none (c : Codec) (b : Bytes) (h : Ref.classify (isV2 c) b = none) (f : Frame) (n : Nat) :
    decode c b ≠ .frame f n := by
  rcases decode_eq_viaKind c b with hd | ⟨_, hd⟩
  · rw [hd, h]; intro hh; cases hh
  · rw [hd]; intro hh; cases hh

/-- the model's protocol-level decode accepts exactly what the reference parser accepts, with the same result -/
theorem decode_frame_iff_parse (c : Codec) (b : Bytes) (f : Frame) (n : Nat) :
    decode c b = .frame f n ↔ Ref.parse (isV2 c) b = some (f, n) := by
  unfold Ref.parse
  cases hcl : Ref.classify (isV2 c) b with
  | none =>
    simp only [reduceCtorEq, iff_false]
    exact decode_not_frame_of_classify_none c b hcl f n
  | some p =>
    obtain ⟨K, ow⟩ := p
    rw [decode_of_classify c b K ow hcl]
    simp only
    cases hd : decodeKind K ow b <;> simp

end MosnVerif.Model.Bolt
