import MosnVerif.Model.H2Trailers
/-! Invariant: a registered stream that is still open has its trailer object -/
namespace MosnVerif.Lemmas.H2Trailers
open MosnVerif.Model.H2Trailers

/-- the configuration facts the proof needs -/
structure Cfg.Safe (c : Cfg) : Prop where
  check : c.stateCheck = true
  obj : c.objWhenOpen = true

def Inv (s : St) : Prop := s.panicked = false ∧ (s.reg = true → s.ms = .open → s.tobj = true)

theorem streamErr_inv (s : St) (h : Inv s) : Inv (streamErr s) := by
  unfold streamErr
  split
  · exact ⟨h.1, by simp⟩
  · exact h

theorem connErr_inv (s : St) (h : Inv s) : Inv (connErr s) := ⟨h.1, h.2⟩
theorem gotT_inv (s : St) (h : Inv s) : Inv { s with gotT := true } := ⟨h.1, h.2⟩

theorem deliver_inv (s : St) (w : String) (h : Inv s) : Inv (deliver s w) := ⟨h.1, h.2⟩

/-- a stream that leaves `open` has nothing left to show -/
theorem inv_of_not_open {s : St} (hp : s.panicked = false) (hm : s.ms ≠ .open) : Inv s := ⟨hp, fun _ h => absurd h hm⟩

theorem step_inv (c : Cfg) (hc : Cfg.Safe c) (s : St) (e : Ev) (h : Inv s) : Inv (step c s e) := by
  obtain ⟨hp, ht⟩ := h
  cases e with
  | headers b decl es =>
    cases hms : s.ms <;> simp only [step, hms]
    · -- idle: the trailer object is allocated unless the HEADERS end the stream
      cases es
      · exact ⟨hp, fun _ _ => hc.obj⟩
      · exact deliver_inv _ _ (inv_of_not_open hp nofun)
    · simp only [hc.check, Bool.true_and, show (MS.open == MS.hcr) = false from rfl, Bool.false_eq_true, if_false]
      have hs : Inv { s with ms := .open, gotT := true } := ⟨hp, fun hr _ => ht hr hms⟩
      refine iteInduction (fun _ => connErr_inv _ ⟨hp, ht⟩) fun _ => iteInduction (fun _ => streamErr_inv _ hs) fun _ =>
        iteInduction (fun _ => streamErr_inv _ hs) fun _ => iteInduction (fun _ => streamErr_inv _ hs) fun _ =>
        iteInduction (fun _ => inv_of_not_open hp nofun) fun hreg => ?_
      -- registered and open: the trailer object is there, so the assignment through it does not panic
      have hto : s.tobj = true := ht (by simpa using hreg) hms
      rw [if_neg (by simp [hto])]
      exact deliver_inv _ _ (inv_of_not_open hp nofun)
    · -- half-closed (remote): refused before any trailer processing
      simp only [hc.check, Bool.true_and, show (MS.hcr == MS.hcr) = true from rfl, if_true]
      exact streamErr_inv _ ⟨hp, ht⟩
    · exact connErr_inv _ ⟨hp, ht⟩
  | data es =>
    cases hms : s.ms <;> simp only [step, hms]
    · exact connErr_inv _ ⟨hp, ht⟩
    · refine iteInduction (fun _ => streamErr_inv _ ⟨hp, ht⟩) fun _ => iteInduction (fun hreg => ?_) fun hreg => ?_
      · exact ⟨hp, fun hr => absurd hr (by simpa using hreg)⟩
      · have hto : s.tobj = true := ht (by simpa using hreg) hms
        cases es
        · exact ⟨hp, fun _ _ => hto⟩
        · exact deliver_inv _ _ (inv_of_not_open hp nofun)
    · exact streamErr_inv _ ⟨hp, ht⟩
    · exact streamErr_inv _ ⟨hp, ht⟩

theorem run_inv (c : Cfg) (hc : Cfg.Safe c) (evs : List Ev) (s : St) (h : Inv s) : Inv (run c s evs) := by
  fun_induction run c s evs with
  | case1 => exact h
  | case2 s e r s' _ => exact step_inv c hc s e h
  | case3 s e r s' _ ih => exact ih (step_inv c hc s e h)

end MosnVerif.Lemmas.H2Trailers
