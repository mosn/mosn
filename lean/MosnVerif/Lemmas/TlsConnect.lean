import MosnVerif.Lemmas.TlsSelect
import MosnVerif.Model.TlsConnect
/-! What `connect` and `accepted` of `Model/TlsConnect.lean` compute, without the regenerated control flow. -/
namespace MosnVerif.Lemmas.TlsConnect
open MosnVerif.Model.TlsConnect MosnVerif.Model.TlsSelect MosnVerif.Gen.TlsConnect MosnVerif.Gen.TlsPolicy

/-- the five ends of `tryConnect` over the regenerated manager. The handshake outcome enters only through `hs == .ok`:
`tryConnect` never reads the predicates of the error. -/
theorem connect_eq (c : Cfg) (hs : Hs) (d1 d2 : Bool) :
    connect c hs d1 d2 =
      if !d1 then ⟨.dialError, true, .none, 1⟩
      else if !c.tls then ⟨.connected, false, .plain, 1⟩
      else if hs == .ok then ⟨.connected, false, .tls, 1⟩
      else if !c.fallback then ⟨.connectFailed, true, .none, 1⟩
      else ⟨dialEvent d2, !d2, dialConn d2, 2⟩ := by
  obtain ⟨hm, en, fb⟩ := c
  unfold connect
  generalize (hs == Hs.ok) = ok
  cases d1
  · rfl
  cases hm
  · rfl
  cases en
  · rfl
  cases ok
  · cases fb <;> rfl
  · rfl

theorem reached_connect (c : Cfg) (hs : Hs) (d1 d2 : Bool) :
    reached (connect c hs d1 d2) = specReached c hs d1 d2 := by
  rw [connect_eq]
  unfold specReached
  cases d1
  · rfl
  cases c.tls
  · rfl
  cases hs == Hs.ok
  · cases c.fallback <;> cases d2 <;> rfl
  · rfl

theorem dials_connect (c : Cfg) (hs : Hs) (d1 d2 : Bool) :
    (connect c hs d1 d2).dials = specDials c hs d1 := by
  rw [connect_eq]
  rw [specDials, bne]
  cases d1
  · rfl
  cases c.tls
  · rfl
  cases hs == Hs.ok
  · cases c.fallback <;> rfl
  · rfl

theorem connPlain_eq (r : ConnResult) : connPlain r = servesPlain r := by cases r <;> rfl

/-- `OnAccept` with its TLS block spelled out over the manager's answer -/
theorem accepted_eq (hasMng tr tcp en ins pf : Bool) (b : Nat) :
    accepted hasMng tr tcp en ins pf b =
      if hasMng && !tr then
        (if connDecision tcp en ins pf b == .peekError then .closed
         else if servesPlain (connDecision tcp en ins pf b) then .plain else .tls)
      else .plain := by
  simp only [accepted, acceptDecision, connPlain_eq]
  cases hasMng && !tr
  · rfl
  · cases connDecision tcp en ins pf b == .peekError <;> rfl

theorem accepted_plain (hasMng tr tcp en ins pf : Bool) (b : Nat) :
    accepted hasMng tr tcp en ins pf b = .plain ↔
      hasMng = false ∨ tr = true ∨ servesPlain (connDecision tcp en ins pf b) = true := by
  rw [accepted_eq]
  cases hasMng
  · simp
  cases tr
  · cases connDecision tcp en ins pf b <;> simp [servesPlain]
  · simp

theorem accepted_closed (hasMng tr tcp en ins pf : Bool) (b : Nat) :
    accepted hasMng tr tcp en ins pf b = .closed ↔
      hasMng = true ∧ tr = false ∧ tcp = true ∧ en = true ∧ ins = true ∧ pf = true := by
  rw [accepted_eq, ← connDecision_peekError tcp en ins pf b]
  cases hasMng
  · simp
  cases tr
  · cases connDecision tcp en ins pf b <;> simp [servesPlain]
  · simp

end MosnVerif.Lemmas.TlsConnect
