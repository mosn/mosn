import MosnVerif.Model.H2Lock
import MosnVerif.Lemmas.Fold
/-! Goroutines that each follow a disciplined path never wedge on the connection mutex. -/
namespace MosnVerif.Lemmas.H2Lock
open MosnVerif.Gen.H2Lock MosnVerif.Model.H2Lock

/-- every goroutine is somewhere on a disciplined path: what it still has to do checks out from what it holds -/
def Good (s : Sys) : Prop := ∀ (j : Nat) (t : Thread), s.threads[j]? = some t → checkOps t.holds t.ops = none

/-- goroutines started on operation lists `f p` that check out (`f` = the flattening of a path under the table of acquiring
calls) are on disciplined paths -/
theorem good_start {α : Type} (f : α → List Op) (ps : List α) (h : ∀ p ∈ ps, checkOps none (f p) = none) :
    Good (Sys.start (ps.map f)) := by
  intro j t ht
  simp only [Sys.start, List.getElem?_map, Option.map_eq_some_iff] at ht
  obtain ⟨_, ⟨p, hp, rfl⟩, rfl⟩ := ht
  exact h p (List.mem_of_getElem? hp)

theorem thread_step_good (t : Thread) (h : checkOps t.holds t.ops = none) : checkOps t.step.holds t.step.ops = none := by
  obtain ⟨ops, holds⟩ := t
  revert h
  -- where `checkOps` goes on, it goes on with what the step leaves
  fun_cases checkOps holds ops with
  | case1 | case3 | case5 => exact id
  | _ => nofun

theorem step_good (s : Sys) (i : Nat) (h : Good s) : Good (s.step i) := by
  unfold Sys.step
  split
  · intro j t ht
    rw [List.getElem?_modify] at ht
    obtain ⟨u, hu, rfl⟩ := Option.map_eq_some_iff.1 ht
    by_cases hij : i = j
    · rw [if_pos hij]; exact thread_step_good u (h j u hu)
    · rw [if_neg hij]; exact h j u hu
  · exact h

theorem run_good (sched : List Nat) : ∀ (s : Sys), Good s → Good (s.run sched) :=
  Lemmas.Fold.foldl_inv step_good sched

/-- a goroutine that holds the mutex (in either mode) can always perform its next operation: it is a release -/
theorem holder_enabled (s : Sys) (h : Good s) (j : Nat) (t : Thread) (ht : s.threads[j]? = some t) (x : Bool)
    (hh : t.holds = some x) : s.enabled j = true := by
  have hg := h j t ht
  simp only [Sys.enabled, ht]
  obtain ⟨ops, holds⟩ := t
  simp only at hh
  subst hh
  cases ops with
  | nil => simp [checkOps] at hg
  | cons o r =>
    cases o with
    | acq w => simp [checkOps] at hg
    | rel w => rfl

/-- **progress**: in a system of goroutines on disciplined paths, as long as one of them is not finished one of them can
move — no state is stuck. -/
theorem progress (s : Sys) (h : Good s) (hnd : s.allDone = false) : ∃ j, j < s.threads.length ∧ s.enabled j = true := by
  -- it is enough to name a goroutine that can move wherever it stands in the list
  suffices ∃ t ∈ s.threads, ∀ j, s.threads[j]? = some t → s.enabled j = true by
    obtain ⟨t, ht, he⟩ := this
    obtain ⟨j, hj, hjt⟩ := List.getElem_of_mem ht
    exact ⟨j, hj, he j (by rw [List.getElem?_eq_getElem hj, hjt])⟩
  have holder (x : Bool) (hx : s.threads.any (fun t => t.holds == some x) = true) :
      ∃ t ∈ s.threads, ∀ j, s.threads[j]? = some t → s.enabled j = true := by
    obtain ⟨t, ht, hx⟩ := List.any_eq_true.1 hx
    exact ⟨t, ht, fun j hj => holder_enabled s h j t hj x (by simpa using hx)⟩
  cases hw : s.writer with
  | true => exact holder true hw
  | false =>
    cases hr : s.readers with
    | true => exact holder false hr
    | false =>
      -- nobody holds the mutex: whoever is not finished may acquire or release
      obtain ⟨t, ht, hd⟩ := List.all_eq_false.1 hnd
      refine ⟨t, ht, fun j hj => ?_⟩
      simp only [Sys.enabled, hj]
      obtain ⟨ops, holds⟩ := t
      cases ops with
      | nil => simp [Thread.done] at hd
      | cons o r =>
        cases o with
        | acq w => cases w <;> simp [opEnabled, hw, hr]
        | rel w => rfl

theorem not_stuck (s : Sys) (h : Good s) : s.stuck = false := by
  cases hd : s.allDone with
  | true => simp [Sys.stuck, hd]
  | false =>
    obtain ⟨j, hj, he⟩ := progress s h hd
    simp only [Sys.stuck, hd, Bool.not_false, Bool.true_and]
    apply Bool.eq_false_iff.2
    intro hall
    have := List.all_eq_true.1 hall j (List.mem_range.2 hj)
    simp [he] at this

theorem modify_sum (l : List Thread) (i : Nat) (t : Thread) (h : l[i]? = some t) (hne : t.ops ≠ []) :
    ((l.modify i Thread.step).map (fun t => t.ops.length)).sum + 1 = (l.map (fun t => t.ops.length)).sum := by
  have e : l.modify i Thread.step = l.set i t.step := by
    haveI : Inhabited Thread := ⟨t⟩
    rw [List.modify_eq_set, h]; rfl
  have hs : t.step.ops.length + 1 = t.ops.length := by
    obtain ⟨_ | ⟨o, r⟩, holds⟩ := t
    · exact absurd rfl hne
    · cases o <;> rfl
  have := Lemmas.Fold.sum_map_set (·.ops.length) l i t t.step h
  rw [e]; omega

theorem step_measure (s : Sys) (i : Nat) (he : s.enabled i = true) : (s.step i).remaining + 1 = s.remaining := by
  simp only [Sys.step, he, if_true, Sys.remaining]
  simp only [Sys.enabled] at he
  cases ht : s.threads[i]? with
  | none => simp [ht] at he
  | some t =>
    simp only [ht] at he
    have hne : t.ops ≠ [] := by
      intro h0; simp [h0] at he
    exact modify_sum s.threads i t ht hne

theorem allDone_iff_remaining (s : Sys) : s.allDone = true ↔ s.remaining = 0 := by
  simp only [Sys.allDone, Sys.remaining, List.all_eq_true, Thread.done, List.isEmpty_iff,
    List.sum_eq_zero_iff_forall_eq_nat, List.mem_map, forall_exists_index, and_imp, forall_apply_eq_imp_iff₂,
    List.length_eq_zero_iff]

/-- all goroutines finish: from every state of goroutines on disciplined paths there is a completion of exactly
`remaining` operations, and it is found by always picking a goroutine that can move -/
theorem completes : ∀ (n : Nat) (s : Sys), Good s → s.remaining = n → ∃ sched, sched.length = n ∧ (s.run sched).allDone = true := by
  intro n
  induction n with
  | zero => intro s _ hr; exact ⟨[], rfl, (allDone_iff_remaining s).2 hr⟩
  | succ n ih =>
    intro s hg hr
    cases hd : s.allDone with
    | true =>
      have := (allDone_iff_remaining s).1 hd
      omega
    | false =>
      obtain ⟨j, _, he⟩ := progress s hg hd
      have hm := step_measure s j he
      obtain ⟨sched, hl, hdone⟩ := ih (s.step j) (step_good s j hg) (by omega)
      exact ⟨j :: sched, by simp [hl], by simpa [Sys.run] using hdone⟩

end MosnVerif.Lemmas.H2Lock
