import MosnVerif.Model.Redact
import MosnVerif.Lemmas.Fold
import MosnVerif.Lemmas.KeyedList
/-! Lemmas behind C20: JSON hole redaction, soundness of the coverage check, frame, state invariant. -/
namespace MosnVerif.Model.Redact
open MosnVerif.Model MosnVerif.Model.GoTypes

theorem keyOk_placeholder : keyOk placeholder = true := by simp [keyOk]

mutual
theorem redJ_clean (key : Bool) : (j : Json) → cleanJ key (redJ key j) = true
  | .null | .bool _ | .num _ => by simp [redJ, cleanJ]
  | .str s => by
    cases key <;> simp [redJ, cleanJ]
    by_cases h : s = "" <;> simp [h, cleanJ, keyOk]
  | .arr xs => by simp [redJ, cleanJ, redJL_clean xs]
  | .obj kvs => by simp [redJ, cleanJ, redJO_clean kvs]
theorem redJL_clean : (xs : List Json) → cleanJL (redJL xs) = true
  | [] => by simp [redJL, cleanJL]
  | x :: r => by simp [redJL, cleanJL, redJ_clean false x, redJL_clean r]
theorem redJO_clean : (kvs : List (String × Json)) → cleanJO (redJO kvs) = true
  | [] => by simp [redJO, cleanJO]
  | (k, v) :: r => by simp [redJO, cleanJO, redJ_clean (isPK k) v, redJO_clean r]
end

mutual
/-- a clean hole is returned unchanged (the Go code then keeps the original map / raw bytes) -/
theorem redJ_of_clean (key : Bool) : (j : Json) → cleanJ key j = true → redJ key j = j
  | .null, _ | .bool _, _ | .num _, _ => by simp [redJ]
  | .str s, h => by
    cases key
    · simp [redJ]
    · simp only [cleanJ, Bool.not_true, Bool.false_or, keyOk, Bool.or_eq_true, beq_iff_eq] at h
      rcases h with h | h
      · simp [redJ, h]
      · by_cases h2 : s = ""
        · simp [redJ, h2]
        · simp [redJ, h]
  | .arr xs, h => by simp only [cleanJ] at h; simp [redJ, redJL_of_clean xs h]
  | .obj kvs, h => by simp only [cleanJ] at h; simp [redJ, redJO_of_clean kvs h]
theorem redJL_of_clean : (xs : List Json) → cleanJL xs = true → redJL xs = xs
  | [], _ => by simp [redJL]
  | x :: r, h => by
    simp only [cleanJL, Bool.and_eq_true] at h
    simp [redJL, redJ_of_clean false x h.1, redJL_of_clean r h.2]
theorem redJO_of_clean : (kvs : List (String × Json)) → cleanJO kvs = true → redJO kvs = kvs
  | [], _ => by simp [redJO]
  | (k, v) :: r, h => by
    simp only [cleanJO, Bool.and_eq_true] at h
    simp [redJO, redJ_of_clean (isPK k) v h.1, redJO_of_clean r h.2]
end

theorem redJ_idem (key : Bool) (j : Json) : redJ key (redJ key j) = redJ key j :=
  redJ_of_clean key _ (redJ_clean key j)

theorem fieldTy_field {g : Graph} {s k : String} {t : GoTy} {d : StructDecl} (hd : g.find s = some d)
    (ht : g.fieldTy s k = some t) : ∃ f ∈ d.fields, f.name = k ∧ f.ty = t := by
  simp only [Graph.fieldTy, hd, Option.map_eq_some_iff] at ht
  obtain ⟨f, hf, rfl⟩ := ht
  exact ⟨f, List.mem_of_find?_eq_some hf, by simpa using List.find?_some hf, rfl⟩

theorem getF_mem {fs : List (String × Val)} {k : String} {v : Val} (h : getF fs k = some v) : (k, v) ∈ fs :=
  Lemmas.KeyedList.mem_of_find? h

theorem mem_setF {fs : List (String × Val)} {k : String} {v : Val} {kv : String × Val} (h : kv ∈ setF fs k v) :
    kv ∈ fs ∨ kv = (k, v) := by
  unfold setF at h
  split at h
  · obtain ⟨kv', hm, rfl⟩ := List.mem_map.1 h
    split
    · exact Or.inr rfl
    · exact Or.inl hm
  · simpa using h

/-! `wtF`, `wtM`, `respectsF`, `cleanM` say that every entry of the list satisfies a predicate; the lemmas about
`getF`, `setF`, `delF`, `++` below follow from membership. -/

theorem wtF_iff {g : Graph} {s : String} : {fs : List (String × Val)} →
    (wtF g s fs = true ↔ ∀ kv ∈ fs, ∃ t, g.fieldTy s kv.1 = some t ∧ wt g t kv.2 = true)
  | [] => by simp [wtF]
  | (k, v) :: r => by
    rw [wtF, Bool.and_eq_true, wtF_iff (fs := r), List.forall_mem_cons]
    cases g.fieldTy s k <;> simp

theorem wtM_iff {g : Graph} {e : GoTy} : {kvs : List (String × Val)} →
    (wtM g e kvs = true ↔ ∀ kv ∈ kvs, wt g e kv.2 = true)
  | [] => by simp [wtM]
  | (k, v) :: r => by rw [wtM, Bool.and_eq_true, wtM_iff (kvs := r), List.forall_mem_cons]

theorem respectsF_iff {vf : List (String × Visit)} : {fs : List (String × Val)} →
    (respectsF vf fs = true ↔ ∀ kv ∈ fs, respects (lookupV vf kv.1) kv.2 = true)
  | [] => by simp [respectsF]
  | (k, c) :: r => by rw [respectsF, Bool.and_eq_true, respectsF_iff (fs := r), List.forall_mem_cons]

theorem cleanM_iff {g : Graph} {ck ch : Bool} {fi : FInfo} : {kvs : List (String × Val)} →
    (cleanM g ck ch fi kvs = true ↔ ∀ kv ∈ kvs, clean g ck ch fi kv.2 = true)
  | [] => by simp [cleanM]
  | (k, v) :: r => by rw [cleanM, Bool.and_eq_true, cleanM_iff (kvs := r), List.forall_mem_cons]

theorem wtF_cons {g : Graph} {s k : String} {v : Val} {r : List (String × Val)} :
    wtF g s ((k, v) :: r) = true ↔ (∃ t, g.fieldTy s k = some t ∧ wt g t v = true) ∧ wtF g s r = true := by
  rw [wtF_iff, List.forall_mem_cons, wtF_iff]

theorem wtF_getF (g : Graph) (s k : String) (v : Val) (fs : List (String × Val)) (hw : wtF g s fs = true)
    (hg : getF fs k = some v) : ∃ t, g.fieldTy s k = some t ∧ wt g t v = true :=
  wtF_iff.1 hw (k, v) (getF_mem hg)

/-! ### a type without secrets has only clean values -/

theorem noSecret_succ_named {g : Graph} {n : Nat} {fi : FInfo} {s : String} (h : noSecret g (n + 1) fi (.named s) = true) :
    ∃ d, g.find s = some d ∧ (d.fields.all (fun f => noSecret g n (finfo g s f.name) f.ty)) = true := by
  simp only [noSecret] at h
  cases hd : g.find s with
  | none => simp [hd] at h
  | some d => exact ⟨d, rfl, by simpa [hd] using h⟩

mutual
theorem ns_clean (g : Graph) (ck ch : Bool) (v : Val) (n : Nat) (fi : FInfo) (T : GoTy)
    (hn : noSecret g n fi T = true) (hw : wt g T v = true) : clean g ck ch fi v = true := by
  -- by the type: `wt` says which shape the value has
  cases n with
  | zero => simp [noSecret] at hn
  | succ n =>
    cases T with
    | str | hole _ =>
      cases v <;> simp [wt] at hw
      simp [noSecret] at hn; simp [clean, hn]
    | named s =>
      cases v <;> simp [wt] at hw
      obtain ⟨rfl, hw⟩ := hw
      obtain ⟨d, hd, hall⟩ := noSecret_succ_named hn
      exact ns_cleanF g ck ch _ n _ d hd hall hw
    | slice e =>
      cases v <;> simp [wt] at hw
      exact ns_cleanL g ck ch _ n fi e (by simpa only [noSecret] using hn) hw
    | ptr e =>
      cases v <;> simp [wt] at hw
      exact ns_cleanL g ck ch _ n fi e (by simpa only [noSecret] using hn) hw.2
    | map e =>
      cases v <;> simp [wt] at hw
      exact ns_cleanM g ck ch _ n fi e (by simpa only [noSecret] using hn) hw
    | _ => cases v <;> simp [wt] at hw; simp [clean]
theorem ns_cleanF (g : Graph) (ck ch : Bool) : (fs : List (String × Val)) → (n : Nat) → (s : String) → (d : StructDecl) →
    g.find s = some d → (d.fields.all (fun f => noSecret g n (finfo g s f.name) f.ty)) = true →
    wtF g s fs = true → cleanF g ck ch s fs = true
  | [], _, _, _, _, _, _ => by simp [cleanF]
  | (k, v) :: r, n, s, d, hd, hall, hw => by
    obtain ⟨⟨t, ht, hw1⟩, hw2⟩ := wtF_cons.1 hw
    obtain ⟨f, hmem, rfl, rfl⟩ := fieldTy_field hd ht
    simp only [cleanF, Bool.and_eq_true]
    exact ⟨ns_clean g ck ch v n _ _ (List.all_eq_true.mp hall f hmem) hw1, ns_cleanF g ck ch r n s d hd hall hw2⟩
theorem ns_cleanL (g : Graph) (ck ch : Bool) : (vs : List Val) → (n : Nat) → (fi : FInfo) → (e : GoTy) →
    noSecret g n fi e = true → wtL g e vs = true → cleanL g ck ch fi vs = true
  | [], _, _, _, _, _ => by simp [cleanL]
  | v :: r, n, fi, e, hn, hw => by
    simp only [wtL, Bool.and_eq_true] at hw
    simp only [cleanL, Bool.and_eq_true]
    exact ⟨ns_clean g ck ch v n fi e hn hw.1, ns_cleanL g ck ch r n fi e hn hw.2⟩
theorem ns_cleanM (g : Graph) (ck ch : Bool) : (kvs : List (String × Val)) → (n : Nat) → (fi : FInfo) → (e : GoTy) →
    noSecret g n fi e = true → wtM g e kvs = true → cleanM g ck ch fi kvs = true
  | [], _, _, _, _, _ => by simp [cleanM]
  | (k, v) :: r, n, fi, e, hn, hw => by
    simp only [wtM, Bool.and_eq_true] at hw
    simp only [cleanM, Bool.and_eq_true]
    exact ⟨ns_clean g ck ch v n fi e hn hw.1, ns_cleanM g ck ch r n fi e hn hw.2⟩
end

@[simp] theorem apply_skip (v : Val) : apply .skip v = v := by cases v <;> simp [apply]
@[simp] theorem apply_empty (v : Val) : apply .empty v = v := by cases v <;> simp [apply]

theorem lookupV_skip : (vf : List (String × Visit)) → (k : String) → hasKeyV vf k = false → lookupV vf k = .skip
  | [], _, _ => by simp [lookupV]
  | (k', v) :: r, k, h => by
    simp only [hasKeyV, Bool.or_eq_false_iff] at h
    simp [lookupV, h.1, lookupV_skip r k h.2]

/-- a visit table printed from rows `(field, name)`: the lookup of `k` is `.skip` or the visit of a row of `k` -/
theorem lookupV_map {α : Type} (f : α → Visit) (k : String) : (tbl : List (String × α)) →
    lookupV (tbl.map fun x => (x.1, f x.2)) k = .skip ∨
    ∃ a, (k, a) ∈ tbl ∧ lookupV (tbl.map fun x => (x.1, f x.2)) k = f a
  | [] => .inl rfl
  | (k', a) :: r => by
    simp only [List.map, lookupV]
    by_cases e : (k' == k) = true
    · rw [if_pos e]
      exact .inr ⟨a, by simp [(beq_iff_eq.mp e).symm], rfl⟩
    · rw [if_neg e]
      rcases lookupV_map f k r with h | ⟨a', hm, h⟩
      · exact .inl h
      · exact .inr ⟨a', List.mem_cons_of_mem _ hm, h⟩

theorem lookupV_covers (g : Graph) (n : Nat) (s : String) : (vf : List (String × Visit)) → (k : String) → (t : GoTy) →
    coversF g n s vf = true → hasKeyV vf k = true → g.fieldTy s k = some t →
    covers g n (finfo g s k) t (lookupV vf k) = true
  | [], _, _, _, h, _ => by simp [hasKeyV] at h
  | (k', v) :: r, k, t, hc, hk, ht => by
    simp only [coversF, Bool.and_eq_true] at hc
    by_cases e : (k' == k) = true
    · have e' : k' = k := by simpa using e
      subst e'
      simp only [lookupV, BEq.rfl, if_true]
      have := hc.1
      simpa [ht] using this
    · simp only [lookupV, e]
      simp only [hasKeyV, e, Bool.false_or] at hk
      exact lookupV_covers g n s r k t hc.2 hk ht

theorem redactKeyF_clean (g : Graph) (ck ch : Bool) (n : Nat) (s : String) (d : StructDecl) (hd : g.find s = some d)
    (hall : (d.fields.all (fun f => if f.name == "PrivateKey" then f.ty == .str else noSecret g n (finfo g s f.name) f.ty)) = true) :
    (fs : List (String × Val)) → wtF g s fs = true → cleanF g ck ch s (redactKeyF fs) = true
  | [], _ => by simp [redactKeyF, cleanF]
  | (k, v) :: r, hw => by
    obtain ⟨⟨t, ht, hw1⟩, hw2⟩ := wtF_cons.1 hw
    obtain ⟨f, hmem, rfl, rfl⟩ := fieldTy_field hd ht
    simp only [redactKeyF, cleanF, Bool.and_eq_true]
    refine ⟨?_, redactKeyF_clean g ck ch n s d hd hall r hw2⟩
    have hf := List.all_eq_true.mp hall f hmem
    by_cases hk : (f.name == "PrivateKey") = true
    · simp only [hk, if_true, beq_iff_eq] at hf ⊢
      rw [hf] at hw1
      cases v <;> simp [wt] at hw1
      rename_i s'
      by_cases hs : s' = ""
      · simp [hs, clean, keyOk]
      · simp [hs, clean, keyOk_placeholder]
    · simp only [hk] at hf ⊢
      exact ns_clean g ck ch v n _ _ (by simpa using hf) hw1

mutual
theorem cs (g : Graph) (ck ch : Bool) (n : Nat) (v : Val) (vis : Visit) (fi : FInfo) (T : GoTy)
    (hc : covers g n fi T vis = true) (hw : wt g T v = true) (hr : respects vis v = true) :
    clean g ck ch fi (apply vis v) = true := by
  -- by the kind of visit: `covers` says which type it is for, `wt` then which shape the value has
  cases vis with
  | skip => rw [apply_skip]; exact ns_clean g ck ch v n fi T (by simpa only [covers] using hc) hw
  | empty =>
    cases v <;> simp [respects] at hr
    all_goals subst hr; simp [apply, clean, cleanL, cleanM]
  | hole =>
    cases T <;> simp [covers] at hc
    cases v <;> simp [wt] at hw
    simp [apply, clean, redJ_clean]
  | tls =>
    cases T with
    | named s =>
      cases v <;> simp [wt] at hw
      obtain ⟨rfl, hw⟩ := hw
      simp only [covers] at hc
      cases hd : g.find s with
      | none => simp [hd] at hc
      | some d => rw [hd] at hc; exact redactKeyF_clean g ck ch n s d hd hc _ hw
    | _ => simp [covers] at hc
  | fields vf =>
    cases T with
    | named s =>
      cases v <;> simp [wt] at hw
      obtain ⟨rfl, hw⟩ := hw
      simp only [covers] at hc
      cases hd : g.find s with
      | none => simp [hd] at hc
      | some d =>
        simp only [hd, Bool.and_eq_true] at hc
        exact csF g ck ch n s d hd vf hc.1 hc.2 _ hw hr
    | _ => simp [covers] at hc
  | copyElems v' | inPlaceElems v' =>
    cases T <;> simp [covers] at hc
    all_goals cases v <;> simp [wt] at hw
    · exact csL g ck ch n v' fi _ hc _ hw hr
    · exact csM g ck ch n v' fi _ hc _ hw hr
    · exact csL g ck ch n v' fi _ hc _ hw.2 hr
theorem csF (g : Graph) (ck ch : Bool) (n : Nat) (s : String) (d : StructDecl) (hd : g.find s = some d)
    (vf : List (String × Visit)) (hcF : coversF g n s vf = true)
    (hrest : (d.fields.all (fun f => hasKeyV vf f.name || noSecret g n (finfo g s f.name) f.ty)) = true) :
    (fs : List (String × Val)) → wtF g s fs = true → respectsF vf fs = true → cleanF g ck ch s (applyF vf fs) = true
  | [], _, _ => by simp [applyF, cleanF]
  | (k, c) :: r, hw, hr => by
    obtain ⟨⟨t, ht, hw1⟩, hw2⟩ := wtF_cons.1 hw
    simp only [respectsF, Bool.and_eq_true] at hr
    simp only [applyF, cleanF, Bool.and_eq_true]
    refine ⟨?_, csF g ck ch n s d hd vf hcF hrest r hw2 hr.2⟩
    cases hk : hasKeyV vf k with
    | true => exact cs g ck ch n c (lookupV vf k) (finfo g s k) t (lookupV_covers g n s vf k t hcF hk ht) hw1 hr.1
    | false =>
      obtain ⟨f, hmem, rfl, rfl⟩ := fieldTy_field hd ht
      have hf := List.all_eq_true.mp hrest f hmem
      rw [hk, Bool.false_or] at hf
      rw [lookupV_skip vf _ hk, apply_skip]
      exact ns_clean g ck ch c n _ _ hf hw1
theorem csL (g : Graph) (ck ch : Bool) (n : Nat) (v' : Visit) (fi : FInfo) (e : GoTy) (hc : covers g n fi e v' = true) :
    (vs : List Val) → wtL g e vs = true → respectsL v' vs = true → cleanL g ck ch fi (applyL v' vs) = true
  | [], _, _ => by simp [applyL, cleanL]
  | c :: r, hw, hr => by
    simp only [wtL, Bool.and_eq_true] at hw
    simp only [respectsL, Bool.and_eq_true] at hr
    simp only [applyL, cleanL, Bool.and_eq_true]
    exact ⟨cs g ck ch n c v' fi e hc hw.1 hr.1, csL g ck ch n v' fi e hc r hw.2 hr.2⟩
theorem csM (g : Graph) (ck ch : Bool) (n : Nat) (v' : Visit) (fi : FInfo) (e : GoTy) (hc : covers g n fi e v' = true) :
    (kvs : List (String × Val)) → wtM g e kvs = true → respectsM v' kvs = true → cleanM g ck ch fi (applyM v' kvs) = true
  | [], _, _ => by simp [applyM, cleanM]
  | (k, c) :: r, hw, hr => by
    simp only [wtM, Bool.and_eq_true] at hw
    simp only [respectsM, Bool.and_eq_true] at hr
    simp only [applyM, cleanM, Bool.and_eq_true]
    exact ⟨cs g ck ch n c v' fi e hc hw.1 hr.1, csM g ck ch n v' fi e hc r hw.2 hr.2⟩
end

/-! ### frame: a visit without in-place iteration writes no shared cell -/

theorem lookupV_noInPlace : (vf : List (String × Visit)) → (k : String) → noInPlaceF vf = true → noInPlace (lookupV vf k) = true
  | [], _, _ => by simp [lookupV, noInPlace]
  | (k', v) :: r, k, h => by
    simp only [noInPlaceF, Bool.and_eq_true] at h
    simp only [lookupV]
    split
    · exact h.1
    · exact lookupV_noInPlace r k h.2

mutual
theorem fr (v : Val) (vis : Visit) (h : noInPlace vis = true) : sharedWrites true vis v = 0 := by
  cases vis with
  | fields vf => cases v <;> simp only [sharedWrites]; exact frF vf h _
  | copyElems v' =>
    cases v <;> simp [sharedWrites]
    · exact frL v' h _
    · exact frM v' h _
  | inPlaceElems v' => simp [noInPlace] at h
  | _ => cases v <;> simp [sharedWrites]
theorem frF (vf : List (String × Visit)) (h : noInPlaceF vf = true) : (fs : List (String × Val)) → sharedWritesF true vf fs = 0
  | [] => by simp [sharedWritesF]
  | (k, c) :: r => by simp [sharedWritesF, fr c (lookupV vf k) (lookupV_noInPlace vf k h), frF vf h r]
theorem frL (v' : Visit) (h : noInPlace v' = true) : (vs : List Val) → sharedWritesL true v' vs = 0
  | [] => by simp [sharedWritesL]
  | c :: r => by simp [sharedWritesL, fr c v' h, frL v' h r]
theorem frM (v' : Visit) (h : noInPlace v' = true) : (kvs : List (String × Val)) → sharedWritesM true v' kvs = 0
  | [] => by simp [sharedWritesM]
  | (k, c) :: r => by simp [sharedWritesM, fr c v' h, frM v' h r]
end

/-! ### the state invariant: the `empty` positions of `redactedMosnConfig` stay empty under every update -/

theorem lookupV_noEmpty : (vf : List (String × Visit)) → (k : String) → noEmptyVF vf = true → noEmptyV (lookupV vf k) = true
  | [], _, _ => by simp [lookupV, noEmptyV]
  | (k', v) :: r, k, h => by
    simp only [noEmptyVF, Bool.and_eq_true] at h
    simp only [lookupV]
    split
    · exact h.1
    · exact lookupV_noEmpty r k h.2

mutual
theorem respects_noEmpty (v : Val) (vis : Visit) (h : noEmptyV vis = true) : respects vis v = true := by
  cases vis with
  | empty => simp [noEmptyV] at h
  | fields vf => cases v <;> simp only [respects]; exact respectsF_noEmpty vf h _
  | copyElems v' | inPlaceElems v' =>
    cases v <;> simp only [respects]
    · exact respectsL_noEmpty v' h _
    · exact respectsM_noEmpty v' h _
  | _ => cases v <;> rfl
theorem respectsF_noEmpty (vf : List (String × Visit)) (h : noEmptyVF vf = true) : (fs : List (String × Val)) → respectsF vf fs = true
  | [] => by simp [respectsF]
  | (k, c) :: r => by simp [respectsF, respects_noEmpty c (lookupV vf k) (lookupV_noEmpty vf k h), respectsF_noEmpty vf h r]
theorem respectsL_noEmpty (v' : Visit) (h : noEmptyV v' = true) : (vs : List Val) → respectsL v' vs = true
  | [] => by simp [respectsL]
  | c :: r => by simp [respectsL, respects_noEmpty c v' h, respectsL_noEmpty v' h r]
theorem respectsM_noEmpty (v' : Visit) (h : noEmptyV v' = true) : (kvs : List (String × Val)) → respectsM v' kvs = true
  | [] => by simp [respectsM]
  | (k, c) :: r => by simp [respectsM, respects_noEmpty c v' h, respectsM_noEmpty v' h r]
end

def cjVf : List (String × Visit) := [("TLSContext", .tls), ("ClustersJson", .empty)]
def cmVf : List (String × Visit) := [("ClusterManagerConfigJson", .fields cjVf), ("Clusters", .empty)]
def mosnVf : List (String × Visit) :=
  [("ClusterManager", .fields cmVf), ("Metrics", .fields [("SinkConfigs", filtersV)]), ("Extends", extendsV),
   ("Servers", .copyElems (.fields [("Listeners", .copyElems redactListenerV)]))]

theorem mosnV_eq : redactedMosnConfigV = .fields mosnVf := rfl

theorem respectsF_fieldsOf (vf : List (String × Visit)) (v : Val) (h : respects (.fields vf) v = true) :
    respectsF vf v.fieldsOf = true := by
  cases v <;> simp [Val.fieldsOf, respectsF] <;> simpa [respects] using h

theorem respectsF_append {vf : List (String × Visit)} {a b : List (String × Val)}
    (ha : respectsF vf a = true) (hb : respectsF vf b = true) : respectsF vf (a ++ b) = true :=
  respectsF_iff.2 fun kv hm => (List.mem_append.1 hm).elim (respectsF_iff.1 ha kv) (respectsF_iff.1 hb kv)

theorem respectsF_setF (vf : List (String × Visit)) (fs : List (String × Val)) (k : String) (v : Val)
    (h : respectsF vf fs = true) (hv : respects (lookupV vf k) v = true) : respectsF vf (setF fs k v) = true :=
  respectsF_iff.2 fun kv hm => (mem_setF hm).elim (respectsF_iff.1 h kv) (fun e => by rw [e]; exact hv)

theorem respectsF_filter (vf : List (String × Visit)) (p : String × Val → Bool) : (fs : List (String × Val)) →
    respectsF vf fs = true → respectsF vf (fs.filter p) = true
  | _, h => respectsF_iff.2 fun kv hm => respectsF_iff.1 h kv (List.mem_filter.1 hm).1

/-- the fields of the struct stored under `k`; none when there is no such field -/
theorem respectsF_sub {vf vf' : List (String × Visit)} {fs : List (String × Val)} {k : String} (dflt : Val)
    (hd : dflt.fieldsOf = []) (h : respectsF vf fs = true) (hl : lookupV vf k = .fields vf') :
    respectsF vf' ((getF fs k).getD dflt).fieldsOf = true := by
  cases hg : getF fs k with
  | none => rw [Option.getD_none, hd]; rfl
  | some c => exact respectsF_fieldsOf vf' c (hl ▸ respectsF_iff.1 h (k, c) (getF_mem hg))

/-- only the `ClusterManager` entry of `redactedMosnConfig` relies on emptiness -/
theorem lookup_mosn_noEmpty (k : String) (h : (k == "ClusterManager") = false) : noEmptyV (lookupV mosnVf k) = true := by
  rw [mosnVf, lookupV, BEq.comm, h, if_neg Bool.false_ne_true]
  exact lookupV_noEmpty _ k rfl

theorem respectsF_optField (vf : List (String × Visit)) (fs : List (String × Val)) (k : String)
    (h : noEmptyV (lookupV vf k) = true) : respectsF vf (optField fs k) = true := by
  unfold optField
  cases getF fs k <;> simp [respectsF, respects_noEmpty _ _ h]

theorem respects_cmOnlyTLS (c : Val) : respects (.fields cmVf) (cmOnlyTLS c) = true := by
  unfold cmOnlyTLS
  -- neither of the two fields kept is one whose redaction relies on emptiness
  have := respectsF_append (respectsF_optField cjVf ((getF c.fieldsOf "ClusterManagerConfigJson").getD .leaf).fieldsOf "TLSContext" rfl)
    (respectsF_optField cjVf ((getF c.fieldsOf "ClusterManagerConfigJson").getD .leaf).fieldsOf "ClusterPoolEnable" rfl)
  simp [respects, respectsF, lookupV, cmVf, this]

/-- `SetMosnConfig` field by field: `Extends` is dropped, of the cluster manager only its TLS context is kept, of the
servers only the first without its listeners and routers; every other field is stored as given -/
theorem setMosnFields_eq : (l : List (String × Val)) → setMosnFields l =
    (l.filter (fun kv => kv.1 != "Extends")).map (fun kv =>
      (kv.1, if kv.1 == "ClusterManager" then cmOnlyTLS kv.2 else if kv.1 == "Servers" then firstServer kv.2 else kv.2))
  | [] => rfl
  | (k, c) :: r => by
    rw [setMosnFields, setMosnFields_eq r, List.filter_cons]
    by_cases h1 : k = "Extends"
    · simp [h1]
    · by_cases h2 : k = "ClusterManager" <;> by_cases h3 : k = "Servers" <;> simp [h1, h2, h3]

theorem respectsF_setMosnFields (l : List (String × Val)) : respectsF mosnVf (setMosnFields l) = true := by
  rw [setMosnFields_eq]
  refine respectsF_iff.2 fun kv hm => ?_
  obtain ⟨⟨k, c⟩, _, rfl⟩ := List.mem_map.1 hm
  dsimp only
  split
  · rename_i hk
    rw [eq_of_beq hk]
    exact respects_cmOnlyTLS c
  · rename_i hk
    exact respects_noEmpty _ _ (lookup_mosn_noEmpty k (by simpa using hk))

theorem respects_setMosn (cfg : Val) : respects redactedMosnConfigV (setMosn cfg) = true := by
  rw [mosnV_eq]; simp only [setMosn, respects]; exact respectsF_setMosnFields _

theorem respects_setCMTLS (m tls : Val) (h : respects redactedMosnConfigV m = true) :
    respects redactedMosnConfigV (setCMTLS m tls) = true := by
  rw [mosnV_eq] at h ⊢
  have hl : lookupV mosnVf "ClusterManager" = .fields cmVf := by simp [mosnVf, lookupV]
  have hl2 : lookupV cmVf "ClusterManagerConfigJson" = .fields cjVf := by simp [cmVf, lookupV]
  have hfs := respectsF_fieldsOf mosnVf m h
  have hcmf := respectsF_sub (.struct "ClusterManagerConfig" []) rfl hfs hl
  have hcjf := respectsF_sub (.struct "ClusterManagerConfigJson" []) rfl hcmf hl2
  simp only [setCMTLS, respects]
  apply respectsF_setF mosnVf _ _ _ hfs
  rw [hl]; simp only [respects]
  apply respectsF_setF cmVf _ _ _ hcmf
  rw [hl2]; simp only [respects]
  exact respectsF_setF cjVf _ _ _ hcjf (respects_noEmpty tls _ rfl)

theorem respects_init : respects redactedMosnConfigV ({} : State).mosn = true := by
  rw [mosnV_eq]; simp [respects, respectsF]

theorem respects_step (s : State) (op : Op) (h : respects redactedMosnConfigV s.mosn = true) :
    respects redactedMosnConfigV (step s op).mosn = true := by
  cases op <;> simp only [step] <;> try exact h
  · exact respects_setMosn _
  · split <;> exact h
  · exact respects_setCMTLS _ _ h
  · exact respects_init

theorem respects_run (ops : List Op) : respects redactedMosnConfigV (run ops).mosn = true :=
  Lemmas.Fold.foldl_inv respects_step ops {} respects_init

theorem noEmptyV_of_visitOfFn_ne (fn : String) (vis : Visit) (h : visitOfFn fn = some vis)
    (hne : (fn == "redactedMosnConfig") = false) : noEmptyV vis = true := by
  -- every other branch of `visitOfFn` is a closed visit without `empty`
  have hall : (visitOfFn fn).all noEmptyV = true := by
    simp only [visitOfFn, hne, Bool.false_eq_true, if_false]
    repeat' split
    all_goals rfl
  rwa [h] at hall

/-- a field of the effective config satisfies what its redaction relies on: emptiness is relied on only by
`redactedMosnConfig(conf.MosnConfig)`, whose invariant is the hypothesis -/
theorem respects_row (s : State) (hinv : respects redactedMosnConfigV s.mosn = true) (fn fld : String) (vis : Visit) (v : Val)
    (hv : visitOfFn fn = some vis) (hm : (fld, v) ∈ s.toVal.fieldsOf)
    (hok : (noEmptyV vis || (fn == "redactedMosnConfig" && fld == "MosnConfig")) = true) : respects vis v = true := by
  simp only [Bool.or_eq_true, Bool.and_eq_true, beq_iff_eq] at hok
  rcases hok with h | ⟨rfl, rfl⟩
  · exact respects_noEmpty v vis h
  · have e : vis = redactedMosnConfigV := by simpa [visitOfFn] using hv.symm
    have : v = s.mosn := by simpa [State.toVal, Val.fieldsOf] using hm
    rw [e, this]; exact hinv

/-! ### every update keeps the effective config a value of the regenerated graph -/

structure SWt (s : State) : Prop where
  mosn : wt G (.named "MOSNConfig") s.mosn = true
  lis : wtM G (.named "Listener") s.listeners = true
  clu : wtM G (.named "Cluster") s.clusters = true
  rou : wtM G (.named "RouterConfiguration") s.routers = true
  ext : wtL G (.named "ExtendConfig") s.exts = true

theorem wtF_append {g : Graph} {s : String} {a b : List (String × Val)} (ha : wtF g s a = true) (hb : wtF g s b = true) :
    wtF g s (a ++ b) = true :=
  wtF_iff.2 fun kv hm => (List.mem_append.1 hm).elim (wtF_iff.1 ha kv) (wtF_iff.1 hb kv)

theorem wtF_filter (g : Graph) (s : String) (p : String × Val → Bool) (fs : List (String × Val)) (h : wtF g s fs = true) :
    wtF g s (fs.filter p) = true :=
  wtF_iff.2 fun kv hm => wtF_iff.1 h kv (List.mem_filter.1 hm).1

theorem wtF_setF (g : Graph) (s k : String) (v : Val) (t : GoTy) (ht : g.fieldTy s k = some t) (hv : wt g t v = true)
    (fs : List (String × Val)) (h : wtF g s fs = true) : wtF g s (setF fs k v) = true :=
  wtF_iff.2 fun kv hm => (mem_setF hm).elim (wtF_iff.1 h kv) (fun e => by rw [e]; exact ⟨t, ht, hv⟩)

theorem wtM_filter (g : Graph) (e : GoTy) (p : String × Val → Bool) (kvs : List (String × Val)) (h : wtM g e kvs = true) :
    wtM g e (kvs.filter p) = true :=
  wtM_iff.2 fun kv hm => wtM_iff.1 h kv (List.mem_filter.1 hm).1

theorem wtM_setF (g : Graph) (e : GoTy) (k : String) (v : Val) (hv : wt g e v = true)
    (kvs : List (String × Val)) (h : wtM g e kvs = true) : wtM g e (setF kvs k v) = true :=
  wtM_iff.2 fun kv hm => (mem_setF hm).elim (wtM_iff.1 h kv) (fun e' => by rw [e']; exact hv)

theorem wtM_getF (g : Graph) (e : GoTy) (k : String) (v : Val) (kvs : List (String × Val)) (hw : wtM g e kvs = true)
    (h : getF kvs k = some v) : wt g e v = true :=
  wtM_iff.1 hw (k, v) (getF_mem h)

theorem wt_struct_inv {g : Graph} {n : String} {v : Val} (h : wt g (.named n) v = true) :
    ∃ fs, v = .struct n fs ∧ wtF g n fs = true := by
  cases v <;> simp [wt] at h
  rename_i s fs
  obtain ⟨rfl, h⟩ := h
  exact ⟨fs, rfl, h⟩

theorem wtF_fieldsOf {g : Graph} {n : String} {v : Val} (h : wt g (.named n) v = true) : wtF g n v.fieldsOf = true := by
  obtain ⟨fs, rfl, hf⟩ := wt_struct_inv h
  exact hf

/-- the fields of the struct stored under `k`; none when there is no such field -/
theorem wtF_sub {g : Graph} {s k n : String} {fs : List (String × Val)} (dflt : Val) (hd : dflt.fieldsOf = [])
    (hfs : wtF g s fs = true) (ht : g.fieldTy s k = some (.named n)) :
    wtF g n ((getF fs k).getD dflt).fieldsOf = true := by
  cases hg : getF fs k with
  | none => rw [Option.getD_none, hd]; rfl
  | some v =>
    obtain ⟨t', ht', hv⟩ := wtF_getF g s k v fs hfs hg
    rw [ht] at ht'; cases ht'; exact wtF_fieldsOf hv

theorem wt_mk {g : Graph} {n : String} {fs : List (String × Val)} (h : wtF g n fs = true) : wt g (.named n) (.struct n fs) = true := by
  simp [wt, h]

/-- the field types of the regenerated graph that the update operations rely on -/
theorem graph_fields :
    G.fieldTy "effectiveConfig" "MosnConfig" = some (.named "MOSNConfig") ∧
    G.fieldTy "effectiveConfig" "Listener" = some (.map (.named "Listener")) ∧
    G.fieldTy "effectiveConfig" "Cluster" = some (.map (.named "Cluster")) ∧
    G.fieldTy "effectiveConfig" "Routers" = some (.map (.named "RouterConfiguration")) ∧
    G.fieldTy "effectiveConfig" "ExtendConfigs" = some (.slice (.named "ExtendConfig")) ∧
    G.fieldTy "MOSNConfig" "ClusterManager" = some (.named "ClusterManagerConfig") ∧
    G.fieldTy "MOSNConfig" "Servers" = some (.slice (.named "ServerConfig")) ∧
    G.fieldTy "ClusterManagerConfig" "ClusterManagerConfigJson" = some (.named "ClusterManagerConfigJson") ∧
    G.fieldTy "ClusterManagerConfigJson" "TLSContext" = some (.named "TLSConfig") ∧
    G.fieldTy "Cluster" "Hosts" = some (.slice (.named "Host")) ∧
    G.fieldTy "RouterConfiguration" "RouterConfigurationConfig" = some (.named "RouterConfigurationConfig") ∧
    G.fieldTy "ExtendConfig" "Type" = some .str ∧
    G.fieldTy "ExtendConfig" "Config" = some (.hole "json.RawMessage") := by decide +kernel

theorem toVal_wt (s : State) (h : SWt s) : wt G (.named "effectiveConfig") s.toVal = true := by
  obtain ⟨f1, f2, f3, f4, f5, _⟩ := graph_fields
  exact wt_mk (wtF_cons.2 ⟨⟨_, f1, h.mosn⟩, wtF_cons.2 ⟨⟨_, f2, h.lis⟩, wtF_cons.2 ⟨⟨_, f3, h.clu⟩,
    wtF_cons.2 ⟨⟨_, f4, h.rou⟩, wtF_cons.2 ⟨⟨_, f5, h.ext⟩, rfl⟩⟩⟩⟩⟩)

theorem wt_optField (g : Graph) (s k : String) (fs : List (String × Val)) (hfs : wtF g s fs = true) :
    wtF g s (optField fs k) = true := by
  unfold optField
  cases hg : getF fs k with
  | none => simp [wtF]
  | some v =>
    obtain ⟨t', ht', hv⟩ := wtF_getF g s k v fs hfs hg
    simp [wtF, ht', hv]

theorem wt_cmOnlyTLS (c : Val) (h : wt G (.named "ClusterManagerConfig") c = true) :
    wt G (.named "ClusterManagerConfig") (cmOnlyTLS c) = true := by
  obtain ⟨_, _, _, _, _, _, _, f8, _⟩ := graph_fields
  have hcj := wtF_sub .leaf rfl (wtF_fieldsOf h) f8
  exact wt_mk (wtF_cons.2 ⟨⟨_, f8, wt_mk (wtF_append (wt_optField G _ _ _ hcj) (wt_optField G _ _ _ hcj))⟩, rfl⟩)

theorem wt_firstServer (c : Val) (h : wt G (.slice (.named "ServerConfig")) c = true) :
    wt G (.slice (.named "ServerConfig")) (firstServer c) = true := by
  unfold firstServer
  split
  · rename_i s fs r
    simp only [wt, wtL, Bool.and_eq_true, beq_iff_eq] at h
    obtain ⟨⟨he, hf⟩, _⟩ := h
    subst he
    simp only [wt, wtL, Bool.and_true, BEq.rfl, Bool.true_and]
    exact wtF_filter G _ _ _ (wtF_filter G _ _ _ hf)
  · simp [wt, wtL, wtF]

theorem wtF_setMosnFields (fs : List (String × Val)) (h : wtF G "MOSNConfig" fs = true) :
    wtF G "MOSNConfig" (setMosnFields fs) = true := by
  obtain ⟨_, _, _, _, _, f6, f7, _⟩ := graph_fields
  rw [setMosnFields_eq]
  refine wtF_iff.2 fun kv hm => ?_
  obtain ⟨⟨k, c⟩, hkc, rfl⟩ := List.mem_map.1 hm
  obtain ⟨t, ht, hc⟩ := wtF_iff.1 h (k, c) (List.mem_filter.1 hkc).1
  refine ⟨t, ht, ?_⟩
  dsimp only at ht hc ⊢
  split
  · rename_i hk
    rw [eq_of_beq hk, f6] at ht
    cases ht
    exact wt_cmOnlyTLS c hc
  · split
    · rename_i hk
      rw [eq_of_beq hk, f7] at ht
      cases ht
      exact wt_firstServer c hc
    · exact hc

theorem wt_setMosn (cfg : Val) (h : wt G (.named "MOSNConfig") cfg = true) : wt G (.named "MOSNConfig") (setMosn cfg) = true := by
  unfold setMosn
  exact wt_mk (wtF_setMosnFields _ (wtF_fieldsOf h))

theorem wt_setCMTLS (m tls : Val) (hm : wt G (.named "MOSNConfig") m = true) (ht : wt G (.named "TLSConfig") tls = true) :
    wt G (.named "MOSNConfig") (setCMTLS m tls) = true := by
  obtain ⟨_, _, _, _, _, f6, _, f8, f9, _⟩ := graph_fields
  have hfs := wtF_fieldsOf hm
  have hcmf := wtF_sub (.struct "ClusterManagerConfig" []) rfl hfs f6
  have hcjf := wtF_sub (.struct "ClusterManagerConfigJson" []) rfl hcmf f8
  unfold setCMTLS
  apply wt_mk
  apply wtF_setF G _ _ _ _ f6 _ _ hfs
  apply wt_mk
  apply wtF_setF G _ _ _ _ f8 _ _ hcmf
  apply wt_mk
  exact wtF_setF G _ _ _ _ f9 ht _ hcjf

theorem wtL_setExtendL (typ : String) (cfg : Json) (es : List Val) (h : wtL G (.named "ExtendConfig") es = true) :
    wtL G (.named "ExtendConfig") (setExtendL typ cfg es) = true := by
  obtain ⟨_, _, _, _, _, _, _, _, _, _, _, f13, f14⟩ := graph_fields
  induction es with
  | nil =>
    simp only [setExtendL, wtL, Bool.and_true]
    exact wt_mk (wtF_cons.2 ⟨⟨_, f13, rfl⟩, wtF_cons.2 ⟨⟨_, f14, rfl⟩, rfl⟩⟩)
  | cons e r ih =>
    simp only [wtL, Bool.and_eq_true] at h
    simp only [setExtendL]
    split
    · simp only [wtL, Bool.and_eq_true]
      exact ⟨wt_mk (wtF_setF G _ _ _ _ f14 (by simp [wt]) _ (wtF_fieldsOf h.1)), h.2⟩
    · simp only [wtL, Bool.and_eq_true]
      exact ⟨h.1, ih h.2⟩

theorem wt_clearRouterPath (r : Val) (h : wt G (.named "RouterConfiguration") r = true) :
    wt G (.named "RouterConfiguration") (clearRouterPath r) = true := by
  obtain ⟨_, _, _, _, _, _, _, _, _, _, f12, _⟩ := graph_fields
  obtain ⟨fs, rfl, hf⟩ := wt_struct_inv h
  simp only [clearRouterPath]
  split
  · rename_i s2 fs2 hg
    obtain ⟨t, ht, hv⟩ := wtF_getF G _ _ _ _ hf hg
    rw [f12] at ht; cases ht
    obtain ⟨fs2', he, hf2⟩ := wt_struct_inv hv
    cases he
    apply wt_mk
    apply wtF_setF G _ _ _ _ f12 _ _ hf
    apply wt_mk
    exact wtF_filter G _ _ _ hf2
  · exact wt_mk hf

theorem SWt_init : SWt {} := ⟨by simp [wt, wtF], by simp [wtM], by simp [wtM], by simp [wtM], by simp [wtL]⟩

theorem SWt_step (s : State) (op : Op) (hs : SWt s) (ho : op.wtArg = true) : SWt (step s op) := by
  obtain ⟨_, _, _, _, _, _, _, _, _, f11, _⟩ := graph_fields
  cases op with
  | setMosn cfg => exact { hs with mosn := wt_setMosn cfg ho }
  | setListener l => exact { hs with lis := wtM_setF G _ _ _ ho _ hs.lis }
  | setCluster c => exact { hs with clu := wtM_setF G _ _ _ ho _ hs.clu }
  | removeCluster n => exact { hs with clu := wtM_filter G _ _ _ hs.clu }
  | setHosts n hosts =>
    simp only [step]
    split
    · rename_i t fs hg
      have hv := wtM_getF G _ n _ _ hs.clu hg
      obtain ⟨fs', he, hf⟩ := wt_struct_inv hv
      cases he
      refine { hs with clu := wtM_setF G _ _ _ ?_ _ hs.clu }
      apply wt_mk
      exact wtF_setF G _ _ _ _ f11 ho _ hf
    · exact hs
  | setRouter r => exact { hs with rou := wtM_setF G _ _ _ (wt_clearRouterPath r ho) _ hs.rou }
  | setExtend typ cfg => exact { hs with ext := wtL_setExtendL typ cfg _ hs.ext }
  | setCMTLS tls => exact { hs with mosn := wt_setCMTLS _ tls hs.mosn ho }
  | persist => exact hs
  | reset => exact SWt_init

/-- after any history whose arguments are values of the API's Go types, the effective config is a value of the graph -/
theorem run_wt (ops : List Op) (ho : ∀ op ∈ ops, op.wtArg = true) : wt G (.named "effectiveConfig") (run ops).toVal = true :=
  toVal_wt _ (Lemmas.Fold.foldl_inv_mem (P := SWt) ops (fun s op hm h => SWt_step s op h (ho op hm)) {} SWt_init)

end MosnVerif.Model.Redact
