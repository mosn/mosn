import MosnVerif.Model.EdfConc
import MosnVerif.Lemmas.EdfHeap
import MosnVerif.Lemmas.Threads
/-! Serializability of lock-disciplined step programs (generic), and the steps of `NextAndPush` on the heap scheduler. -/
namespace MosnVerif.Model.EdfConc
open MosnVerif.Gen MosnVerif.Gen.EdfLock

variable {S L : Type}

theorem lockHeld_shape {p : List Step} (h : lockHeld p = true) :
    p = .lock :: (middle p ++ [.unlock]) ∧ lockFree (middle p) = true := by
  unfold lockHeld at h
  simp only [Bool.and_eq_true, beq_iff_eq, decide_eq_true_eq] at h
  obtain ⟨⟨⟨h1, h2⟩, h3⟩, h4⟩ := h
  refine ⟨?_, h4⟩
  cases p with
  | nil => simp at h1
  | cons a r =>
    simp only [List.head?_cons, Option.some.injEq] at h1
    subst h1
    have hr : r ≠ [] := by
      intro e; subst e; simp at h3
    rw [List.getLast?_cons_of_ne_nil hr] at h2
    obtain ⟨ys, rfl⟩ := List.getLast?_eq_some_iff.mp h2
    simp [middle]

theorem serial_append (exec : Exec S L) (calls : Nat → Call L) (o : List Nat) (t : Nat) (s : S) :
    serial exec calls (o ++ [t]) s =
      ((runBody exec (middle (calls t).prog) (serial exec calls o s).1 (calls t).l0).1,
       (serial exec calls o s).2 ++ [(t, (runBody exec (middle (calls t).prog) (serial exec calls o s).1 (calls t).l0).2)]) := by
  induction o generalizing s with
  | nil => simp [serial]
  | cons u r ih => simp only [List.cons_append, serial, ih, List.cons_append]

theorem serial_fst (exec : Exec S L) (calls : Nat → Call L) (o : List Nat) (s : S) :
    (serial exec calls o s).2.map (·.1) = o := by
  induction o generalizing s with
  | nil => rfl
  | cons u r ih => simp only [serial, List.map_cons, ih]

structure SerInv (exec : Exec S L) (calls : Nat → Call L) (s0 : S) (c : Conf S L) : Prop where
  nodup : c.done.Nodup
  /-- a call that neither finished nor holds the mutex has not started -/
  fresh : ∀ t, t ∉ c.done → c.holder ≠ some t → c.threads t = ⟨(calls t).prog, (calls t).l0⟩
  /-- a call that released the mutex has finished, with the local state of its place in the sequential order -/
  fin : ∀ p ∈ (serial exec calls c.done s0).2, c.threads p.1 = ⟨[], p.2⟩
  /-- while nobody holds the mutex the shared state is the sequential one -/
  idle : c.holder = none → c.shared = (serial exec calls c.done s0).1
  /-- the holder is inside its critical section: finishing it alone yields the next sequential state -/
  crit : ∀ h, c.holder = some h → h ∉ c.done ∧ ∃ rest, (c.threads h).todo = rest ++ [.unlock] ∧ lockFree rest = true ∧
    runBody exec rest c.shared (c.threads h).loc =
      runBody exec (middle (calls h).prog) (serial exec calls c.done s0).1 (calls h).l0

theorem setThread_same (th : Nat → Thread L) (t : Nat) (v : Thread L) : setThread th t v t = v := by
  simp [setThread]

theorem setThread_other (th : Nat → Thread L) (t u : Nat) (v : Thread L) (h : u ≠ t) : setThread th t v u = th u := by
  simp [setThread, h]

theorem mem_done_of_fin {exec : Exec S L} {calls : Nat → Call L} {s0 : S} {o : List Nat} {p : Nat × L}
    (hp : p ∈ (serial exec calls o s0).2) : p.1 ∈ o := by
  have := List.mem_map_of_mem (f := (·.1)) hp
  rwa [serial_fst] at this

theorem exists_fin_of_mem_done {exec : Exec S L} {calls : Nat → Call L} {s0 : S} {o : List Nat} {t : Nat}
    (ht : t ∈ o) : ∃ l, (t, l) ∈ (serial exec calls o s0).2 := by
  rw [← serial_fst exec calls o s0] at ht
  obtain ⟨p, hp, rfl⟩ := List.mem_map.mp ht
  exact ⟨p.2, hp⟩

theorem inv_init (exec : Exec S L) (calls : Nat → Call L) (s0 : S) : SerInv exec calls s0 (initConf calls s0) :=
  ⟨by simp [initConf], fun t _ _ => rfl, by simp [initConf, serial], fun _ => rfl, by simp [initConf]⟩

theorem inv_step (exec : Exec S L) (calls : Nat → Call L) (s0 : S) (hl : ∀ t, lockHeld (calls t).prog = true)
    (c : Conf S L) (t : Nat) (I : SerInv exec calls s0 c) : SerInv exec calls s0 (stepThread exec c t) := by
  by_cases hdone : t ∈ c.done
  · -- finished: stutter
    obtain ⟨l, hm⟩ := exists_fin_of_mem_done (exec := exec) (calls := calls) (s0 := s0) hdone
    have := I.fin _ hm
    simp only at this
    have e : stepThread exec c t = c := by simp [stepThread, this]
    rw [e]; exact I
  · -- a step of a call that has not finished leaves the finished calls as they are
    have hfin (v : Thread L) : ∀ p ∈ (serial exec calls c.done s0).2, setThread c.threads t v p.1 = ⟨[], p.2⟩ := by
      intro p hp
      rw [setThread_other _ _ _ _ fun h : p.1 = t => hdone (h ▸ mem_done_of_fin hp)]
      exact I.fin p hp
    by_cases hh : c.holder = some t
    · obtain ⟨_, rest, htodo, hfree, hrun⟩ := I.crit t hh
      cases rest with
      | nil =>
        -- releases the mutex: the call is finished
        have e : stepThread exec c t =
            { c with holder := none, threads := setThread c.threads t ⟨[], (c.threads t).loc⟩, done := c.done ++ [t] } := by
          unfold stepThread
          simp only [htodo, List.nil_append, hh]
          simp
        rw [e]
        simp only [runBody] at hrun
        refine ⟨?_, ?_, ?_, ?_, by simp⟩
        · exact (List.perm_append_singleton t c.done).nodup_iff.mpr (List.nodup_cons.mpr ⟨hdone, I.nodup⟩)
        · intro u hu _
          simp only [List.mem_append, List.mem_singleton, not_or] at hu
          simp only
          rw [setThread_other _ _ _ _ hu.2]
          exact I.fresh u hu.1 (by rw [hh]; simp; exact fun h => hu.2 h.symm)
        · intro p hp
          simp only at hp
          rw [serial_append] at hp
          simp only [List.mem_append, List.mem_singleton] at hp
          simp only
          rcases hp with hp | rfl
          · exact hfin _ p hp
          · simp only [setThread_same]
            rw [← hrun]
        · intro _
          simp only
          rw [serial_append]
          simp only
          rw [← hrun]
      | cons a r =>
        -- one step inside the critical section
        simp only [lockFree, List.all_cons, Bool.and_eq_true, bne_iff_ne, ne_eq] at hfree
        obtain ⟨⟨ha1, ha2⟩, hfr⟩ := hfree
        rcases ho : exec a c.shared (c.threads t).loc with ⟨sh, l, ret⟩
        have e : stepThread exec c t =
            { c with shared := sh, threads := setThread c.threads t ⟨if ret then [.unlock] else r ++ [.unlock], l⟩ } := by
          unfold stepThread
          simp only [htodo, List.cons_append, ha1, ha2, if_false, hh, if_true, ho]
        rw [e]
        refine ⟨I.nodup, ?_, hfin _, by simp [hh], ?_⟩
        · intro u hu hne
          have : u ≠ t := fun h => hne (by simp [h, hh])
          simp only
          rw [setThread_other _ _ _ _ this]
          exact I.fresh u hu hne
        · intro h' hh'
          simp only [hh, Option.some.injEq] at hh'
          subst hh'
          refine ⟨hdone, ?_⟩
          simp only [setThread_same]
          rw [← hrun]
          cases ret
          · exact ⟨r, by simp, by simpa [lockFree] using hfr, by simp [runBody, ho]⟩
          · exact ⟨[], by simp, by simp [lockFree], by simp [runBody, ho]⟩
    · -- not started: at its `lock`, which it takes if the mutex is free
      have hth := I.fresh t hdone hh
      obtain ⟨hshape, hfree⟩ := lockHeld_shape (hl t)
      generalize hm : middle (calls t).prog = m at hshape hfree
      have e : stepThread exec c t = if c.holder.isNone then
          { c with holder := some t, threads := setThread c.threads t ⟨m ++ [.unlock], (calls t).l0⟩ } else c := by
        unfold stepThread
        rw [hth]
        simp only
        rw [hshape]
        rfl
      rw [e]
      cases hn : c.holder with
      | some h => exact I
      | none =>
        rw [if_pos Option.isNone_none]
        refine ⟨I.nodup, ?_, hfin _, by simp, ?_⟩
        · intro u hu hne
          have : u ≠ t := fun h => hne (by simp [h])
          simp only
          rw [setThread_other _ _ _ _ this]
          exact I.fresh u hu (by simp [hn])
        · intro h hh'
          simp only [Option.some.injEq] at hh'
          subst hh'
          refine ⟨hdone, m, by simp [setThread_same], hfree, ?_⟩
          simp only [setThread_same]
          rw [I.idle hn, hm]

theorem inv_run (exec : Exec S L) (calls : Nat → Call L) (s0 : S) (hl : ∀ t, lockHeld (calls t).prog = true)
    (sched : List Nat) (c : Conf S L) (I : SerInv exec calls s0 c) : SerInv exec calls s0 (runSched exec c sched) :=
  Lemmas.Fold.foldl_inv (inv_step exec calls s0 hl) sched c I

/-- a call has finished exactly when it has released the mutex. -/
theorem finished_iff {exec : Exec S L} {calls : Nat → Call L} {s0 : S} {c : Conf S L}
    (hl : ∀ t, lockHeld (calls t).prog = true) (I : SerInv exec calls s0 c) (t : Nat) :
    (c.threads t).todo = [] ↔ t ∈ c.done := by
  constructor
  · intro h
    apply Classical.byContradiction
    intro hnd
    by_cases hh : c.holder = some t
    · obtain ⟨_, rest, htodo, _⟩ := I.crit t hh
      rw [htodo] at h
      simp at h
    · have := I.fresh t hnd hh
      rw [this] at h
      simp only at h
      have := (lockHeld_shape (hl t)).1
      rw [h] at this
      simp at this
  · intro h
    obtain ⟨l, hm⟩ := exists_fin_of_mem_done (exec := exec) (calls := calls) (s0 := s0) h
    have := I.fin _ hm
    simp only at this
    rw [this]

/-- the local results of the finished calls, in release order, are those of the sequential execution in that order. -/
theorem results_eq {β : Type} {exec : Exec S L} {calls : Nat → Call L} {s0 : S} {c : Conf S L}
    (I : SerInv exec calls s0 c) (f : L → β) :
    c.done.map (fun t => f (c.threads t).loc) = (serial exec calls c.done s0).2.map (fun p => f p.2) := by
  conv => lhs; rw [← serial_fst exec calls c.done s0]
  rw [List.map_map]
  apply List.map_congr_left
  intro p hp
  simp only [Function.comp]
  rw [I.fin p hp]

/-! ### the steps of `NextAndPush`, run without interruption, are `HSched.nextAndPush` -/

section Concrete
open MosnVerif.Model.EDF MosnVerif.Model.EdfHeap

theorem posOf_zero (h : Heap Entry) (it : Nat) (hs : 0 < h.size) (hit : (h.elements 0).item = it) : posOf h it = 0 := by
  unfold posOf
  obtain ⟨n, hn⟩ : ∃ n, h.size = n + 1 := ⟨h.size - 1, by omega⟩
  rw [hn, List.range_succ_eq_map, List.find?_cons]
  simp [hit]

/-- the regenerated step program holds the lock from before the peek until after the fix. -/
theorem nextAndPush_lockHeld : lockHeld EdfLock.nextAndPush = true := by decide

theorem add_lockHeld : lockHeld EdfLock.add = true := by decide

/-- **critical section = sequential `NextAndPush`**: the regenerated steps between `lock` and `unlock`, executed by one
caller alone, produce exactly the successor state and the return value of `HSched.nextAndPush`. -/
theorem body_eq_seqCall (wf : Nat → Rat) (s : HSched) :
    (runBody (exec wf) (middle EdfLock.nextAndPush) s {}).1 = (seqCall s wf).2 ∧
    (runBody (exec wf) (middle EdfLock.nextAndPush) s {}).2.result = some (seqCall s wf).1 := by
  have hm : middle EdfLock.nextAndPush =
      [.checkEmpty, .peek, .setTime, .callback, .setDeadline, .setWeight, .setQueued, .fix, .ret] := by decide
  rw [hm]
  unfold seqCall HSched.nextAndPush
  by_cases hz : s.items.size = 0
  · simp [runBody, exec, hz]
  · have hpos : 0 < s.items.size := by omega
    have pz : ∀ (h : Heap Entry) (it : Nat), 0 < h.size → (h.elements 0).item = it → posOf h it = 0 := posOf_zero
    simp only [runBody, exec, hz, if_false, Bool.false_eq_true, peek]
    simp [updEntry, pz, hpos, upd_eq, upd_upd, repush]

/-- the regenerated steps of `Add` between `lock` and `unlock`, executed by one caller alone, are `HSched.add`. -/
theorem add_body_eq (wf : Nat → Rat) (s : HSched) (item : Nat) (w : Rat) :
    (runBody (exec wf) (middle EdfLock.add) s { arg := (item, w) }).1 = s.add item w := by
  have hm : middle EdfLock.add = [.newEntry, .push] := by decide
  rw [hm]
  simp [runBody, exec, HSched.add]

/-- any order of `NextAndPush` calls, one after the other, is `seqCalls`. -/
theorem serial_eq_seqCalls (wf : Nat → Rat) (order : List Nat) (s : HSched) :
    (serial (exec wf) (napCalls EdfLock.nextAndPush) order s).1 = (seqCalls s wf order.length).2 ∧
    (serial (exec wf) (napCalls EdfLock.nextAndPush) order s).2.map (·.2.result) =
      (seqCalls s wf order.length).1.map some := by
  induction order generalizing s with
  | nil => exact ⟨rfl, rfl⟩
  | cons t r ih =>
    obtain ⟨b1, b2⟩ := body_eq_seqCall wf s
    simp only [serial, napCalls, List.length_cons, seqCalls, List.map_cons]
    rw [b1, b2]
    obtain ⟨i1, i2⟩ := ih (seqCall s wf).2
    exact ⟨i1, by rw [← i2]⟩

/-- `n` sequential calls serve the picks of `HSched.run` and leave its state (calls on an empty queue return `nil`). -/
theorem seqCalls_run (wf : Nat → Rat) (n : Nat) (s : HSched) :
    (seqCalls s wf n).1.filterMap id = (s.run wf n).1 ∧ (seqCalls s wf n).2 = (s.run wf n).2 := by
  induction n generalizing s with
  | zero => exact ⟨rfl, rfl⟩
  | succ n ih =>
    simp only [seqCalls, seqCall, HSched.run]
    cases hn : s.nextAndPush wf with
    | none =>
      simp only [List.filterMap_cons, id]
      rw [(ih s).1, (ih s).2]
      cases n with
      | zero => exact ⟨rfl, rfl⟩
      | succ k => simp [HSched.run, hn]
    | some p =>
      obtain ⟨i, s'⟩ := p
      simp only [List.filterMap_cons, id, (ih s').1, (ih s').2, and_self]

theorem hrun_add (wf : Nat → Rat) (a b : Nat) (s : HSched) :
    (s.run wf (a + b)).1 = (s.run wf a).1 ++ ((s.run wf a).2.run wf b).1 := by
  induction a generalizing s with
  | zero => simp [HSched.run]
  | succ a ih =>
    rw [Nat.succ_add]
    simp only [HSched.run]
    cases hn : s.nextAndPush wf with
    | none =>
      simp only [List.nil_append]
      cases b with
      | zero => rfl
      | succ k => simp [HSched.run, hn]
    | some p =>
      obtain ⟨i, s'⟩ := p
      simp only [ih s', List.cons_append]

end Concrete

end MosnVerif.Model.EdfConc
