import MosnVerif.Lemmas.Fold
/-! Thread LISTS scheduled by index (a schedule entry out of range does nothing): what holds of every thread after one entry is
replaced, and the completion argument — serve the threads one after the other. Core Lean and `Lemmas/Fold` only. -/
namespace MosnVerif.Lemmas.Schedule

theorem forall_mem_set {α : Type} {P : α → Prop} {l : List α} (h : ∀ t ∈ l, P t) (i : Nat) {t' : α} (ht' : P t') :
    ∀ t ∈ l.set i t', P t :=
  fun t ht => (List.mem_or_eq_of_mem_set ht).elim (h t) (· ▸ ht')

/-- If from every state satisfying `I` each thread that still costs something has a schedule after which it costs less, every
other thread is as it was and `I` holds again, then some schedule brings every thread to cost zero. -/
theorem exists_run_cost_zero {σ τ : Type} (threads : σ → List τ) (run : σ → List Nat → σ) (cost : τ → Nat) (I : σ → Prop)
    (hnil : ∀ w, run w [] = w) (happ : ∀ w a b, run w (a ++ b) = run (run w a) b)
    (hsolo : ∀ w i t, I w → (threads w)[i]? = some t → 0 < cost t →
      ∃ s t', threads (run w s) = (threads w).set i t' ∧ cost t' < cost t ∧ I (run w s)) (n : Nat) :
    ∀ w, I w → ((threads w).map cost).sum = n → ∃ s, ∀ t ∈ threads (run w s), cost t = 0 := by
  induction n using Nat.strongRecOn with
  | ind n ih =>
    intro w hw hn
    rcases Nat.eq_zero_or_pos n with h0 | hpos
    · exact ⟨[], by rw [hnil]; exact Fold.eq_zero_of_sum_map_eq_zero _ _ (hn.trans h0)⟩
    · obtain ⟨i, t, hi, ht⟩ := Fold.exists_pos_of_sum_map_pos cost (threads w) (hn ▸ hpos)
      obtain ⟨s, t', hs, hlt, hw'⟩ := hsolo w i t hw hi ht
      have hsum := Fold.sum_map_set cost (threads w) i t t' hi
      obtain ⟨s', h'⟩ := ih _ (by rw [hs]; omega) (run w s) hw' rfl
      exact ⟨s ++ s', by rw [happ]; exact h'⟩

end MosnVerif.Lemmas.Schedule
