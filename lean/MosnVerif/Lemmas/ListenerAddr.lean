import MosnVerif.Model.ListenerAddr
/-! The listener address model (C19): what the `switch` over the network answers from, and that a host part other than a name is
printed back as it was written. -/
namespace MosnVerif.Model.ListenerAddr

/-- the `switch` over the network answers only from a row of the table whose label and network argument are both `n` -/
theorem netKind_some {table : List (String × String × String)} {n : String} {k : Kind} (h : netKind table n = some k) :
    ∃ fn, (n, fn, n) ∈ table ∧ kindOfFn fn = some k := by
  revert h
  fun_cases netKind table n with
  | case1 r hf h2 =>
    obtain ⟨a, fn, b⟩ := r
    have h1 := List.find?_some hf
    simp only [beq_iff_eq] at h1 h2
    subst h1 h2
    exact fun h => ⟨fn, List.mem_of_find?_eq_some hf, h⟩
  | _ => nofun

/-- a host part that is not a name is printed back as it was written -/
theorem print_parse {res : String → Option IP} {hh : HostTxt} {ip : IP} (h : parseHost res hh = some ip)
    (hn : ∀ s, hh ≠ .name s) : printIP ip = hh := by
  cases hh <;> simp only [parseHost] at h
  case quad => split at h <;> cases h; rfl
  case name s => exact absurd rfl (hn s)
  all_goals (cases h; rfl)

end MosnVerif.Model.ListenerAddr
