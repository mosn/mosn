import MosnVerif.Lemmas.ResourceShare
import MosnVerif.Model.ResourceShareHist
/-! The object graph under the regenerated programs refines the ledger by name (C10): `objMach Code.gen` and
`refMach` are bisimilar on histories without a threshold moved through zero under a held unit. -/
namespace MosnVerif.Model.ResourceShare
open MosnVerif.Gen.ResourceShare

def key (hd : Holder) : Nat × Res := (hd.id, hd.res)

theorem countK_map (r : Res) (l : List Holder) : countK r (l.map key) = count r l := by
  induction l with
  | nil => rfl
  | cons a l ih => simp [countK, count, key, ih]

theorem hasK_map (id : Nat) (l : List Holder) : hasK id (l.map key) = (findId id l).isSome := by
  induction l with
  | nil => rfl
  | cons a l ih =>
    by_cases ha : a.id = id <;> simp [hasK, findId, key, ha, ih]

theorem removeK_map (id : Nat) (l : List Holder) : removeK id (l.map key) = (removeId id l).map key := by
  induction l with
  | nil => rfl
  | cons a l ih =>
    by_cases ha : a.id = id <;> simp [removeK, removeId, key, ha]
    simpa [key] using ih

theorem admit_frame {s : State} (hi : Inv s) (id : Nat) (r : Res) (t p : Path) :
    (acquire s id r t p).1.nHost = s.nHost ∧ (acquire s id r t p).1.nInfo = s.nInfo := by
  rcases acquire_cases hi id r t p with e | ⟨_, e⟩ <;> rw [e] <;> exact ⟨rfl, rfl⟩

theorem release_frame (s : State) (id : Nat) :
    (release s id).nHost = s.nHost ∧ (release s id).nInfo = s.nInfo ∧ (release s id).hosts = s.hosts := by
  unfold release
  cases findId id s.live <;> simp

theorem release_max {s : State} (hi : Inv s) (id : Nat) : ((release s id).mgr 0).max = (s.mgr 0).max := by
  cases hf : findId id s.live with
  | none => rw [release_none hf]
  | some h => rw [release_eq hi hf]; simp [upd_same, decr_max]

theorem removeId_none {id : Nat} {l : List Holder} (hf : findId id l = none) : removeId id l = l := by
  induction l with
  | nil => rfl
  | cons a l ih =>
    simp only [findId] at hf
    by_cases ha : a.id = id
    · simp [ha] at hf
    · simp only [ha, if_false] at hf
      simp [removeId, ha, ih hf]

theorem release_live {s : State} (hi : Inv s) (id : Nat) : (release s id).live.map key = removeK id (s.live.map key) := by
  cases hf : findId id s.live with
  | none => rw [release_none hf, removeK_map, removeId_none hf]
  | some h => rw [release_eq hi hf, removeK_map]

/-- the refusal condition of `admit_refused_iff` is that of the ledger by name -/
theorem admit_ref {s : State} (hi : Inv s) (hl : Ledger s) (id : Nat) (r : Res) {t p : Path}
    (ht : validPath s t = true) (hp : validPath s p = true) :
    (acquire s id r t p).2 = refAdmits (s.mgr 0).max r (s.live.map key) := by
  rw [Bool.eq_iff_iff, ← Decidable.not_iff_not, Bool.not_eq_true, admit_refused_iff hi hl id r ht hp]
  simp only [refAdmits, countK_map, Bool.or_eq_true, beq_iff_eq, decide_eq_true_eq]
  omega

/-! ## one cluster against its part of the ledger by name -/

structure Side (s : State) (thr : Thr) (lv : List (Nat × Res)) : Prop where
  inv : Inv s
  led : Ledger s
  gau : Gauges s
  max : (s.mgr 0).max = thr
  key : s.live.map key = lv
  hosts : s.hosts ≠ []

theorem side_init (thr : Thr) : Side (init thr 1) thr [] :=
  ⟨inv_init thr 1, ledger_init thr 1, gauges_init thr 1, rfl, rfl, by show List.range 1 ≠ []; decide⟩

/-- what the harness reads of a cluster -/
theorem side_obs {s : State} {thr : Thr} {lv : List (Nat × Res)} (hs : Side s thr lv) (r : Res) :
    (curMgr s).cur.get r = refCur thr r lv ∧ (curMgr s).max = thr ∧ s.gauge.get r = (countK r lv : Int) := by
  rw [curMgr_eq hs.inv, hs.led r, hs.gau r, hs.max, ← hs.key]
  simp only [refCur, countK_map, and_self]

/-- an admission through valid paths is refused exactly by name, and the cluster follows the ledger by name -/
theorem side_admit {s : State} {thr : Thr} {lv : List (Nat × Res)} (hs : Side s thr lv) (id : Nat) (r : Res) {t p : Path}
    (ht : validPath s t = true) (hp : validPath s p = true) :
    (acquire s id r t p).2 = refAdmits thr r lv ∧
    Side (acquire s id r t p).1 thr (if refAdmits thr r lv then lv ++ [(id, r)] else lv) := by
  have ho := admit_ref hs.inv hs.led id r ht hp
  rw [hs.max, hs.key] at ho
  refine ⟨ho, ?_⟩
  rw [← ho]
  obtain ⟨hi, hg, hl⟩ := admit_keeps hs.inv id r t p
  rcases acquire_cases hs.inv id r t p with e | ⟨_, e⟩ <;> rw [e] at hi hl hg ⊢
  · exact hs
  · exact ⟨hi, hl hs.led, hg hs.gau, hs.max, by simp [key, hs.key], hs.hosts⟩

theorem side_release {s : State} {thr : Thr} {lv : List (Nat × Res)} (hs : Side s thr lv) (id : Nat) :
    Side (release s id) thr (removeK id lv) :=
  have ⟨hi, hg, hl⟩ := release_keeps hs.inv id
  ⟨hi, hl hs.led, hg hs.gau, (release_max hs.inv id).trans hs.max,
    by rw [release_live hs.inv, hs.key], by rw [(release_frame s id).2.2]; exact hs.hosts⟩

/-- an update that is zero-stable by name -/
theorem side_update {s : State} {thr : Thr} {lv : List (Nat × Res)} (hs : Side s thr lv) (p : Bool) (thr' : Thr) (st : Bool)
    (hz : ∀ r ∈ allRes, countK r lv = 0 ∨ (thr.get r == 0) = (thr'.get r == 0)) :
    Side (update Code.gen s p thr' st 1) thr' lv := by
  have z : zeroStableOp s (.update p thr' st 1) = true := by
    simpa only [zeroStableOp, curMgr_eq hs.inv, hs.max, ← hs.key, countK_map, List.all_eq_true, Bool.or_eq_true, beq_iff_eq] using hz
  obtain ⟨hi, hg, hl⟩ := update_keeps _ p thr' st 1 hs.inv
  refine ⟨hi, hl hs.led z, hg hs.gau, ?_, ?_, ?_⟩ <;> rw [update_gen_eq _ _ _ _ _ hs.inv]
  · rfl
  · exact hs.key
  · cases p
    · exact List.cons_ne_nil _ _
    · exact hs.hosts

structure Rel (h : Hist) (ρ : Ref) : Prop where
  c : Side h.c ρ.thr ρ.lv
  t : Side h.t ρ.thr ρ.lvT
  pool : ∀ p, h.pool = some p → p < h.c.nHost
  cap : ∀ k, h.cap k < h.c.nInfo

theorem rel_init (thr : Thr) : Rel (Hist.init thr) (Ref.init thr) :=
  ⟨side_init thr, side_init thr, by simp [Hist.init], by simp [Hist.init, init]⟩

theorem headD_lt {s : State} (hi : Inv s) (hne : s.hosts ≠ []) : s.hosts.headD 0 < s.nHost := by
  cases hh : s.hosts with
  | nil => exact absurd hh hne
  | cons a l => simp; exact hi.hs a (by simp [hh])

theorem poolHost_lt {h : Hist} {ρ : Ref} (hr : Rel h ρ) : poolHost h < h.c.nHost := by
  unfold poolHost
  cases hp : h.pool with
  | none => exact headD_lt hr.c.inv hr.c.hosts
  | some p => exact hr.pool p hp

theorem rel_obs {h : Hist} {ρ : Ref} (hr : Rel h ρ) (out : Out) : h.obs out = ρ.obs out := by
  obtain ⟨c1, m1, g1⟩ := side_obs hr.t .conn
  obtain ⟨c2, m2, _⟩ := side_obs hr.c .pend
  obtain ⟨c3, _, g3⟩ := side_obs hr.c .req
  obtain ⟨c4, _, _⟩ := side_obs hr.c .retr
  simp only [V4.get] at c1 c2 c3 c4 g1 g3
  simp only [Hist.obs, Ref.obs, c1, c2, c3, c4, g1, g3, m1, m2]

theorem rel_rel {h : Hist} {ρ : Ref} (hr : Rel h ρ) (id : Nat) : Rel ((objMach Code.gen).rel h id) (refMach.rel ρ id) :=
  ⟨side_release hr.c id, hr.t, fun p hp => (release_frame h.c id).1 ▸ hr.pool p hp, fun k => (release_frame h.c id).2.1 ▸ hr.cap k⟩

theorem rel_relT {h : Hist} {ρ : Ref} (hr : Rel h ρ) (id : Nat) : Rel ((objMach Code.gen).relT h id) (refMach.relT ρ id) :=
  ⟨hr.c, side_release hr.t id, hr.pool, hr.cap⟩

theorem rel_route {h : Hist} {ρ : Ref} (hr : Rel h ρ) (k : Nat) : Rel ((objMach Code.gen).route h k) (refMach.route ρ k) := by
  refine ⟨hr.c, hr.t, hr.pool, fun k' => ?_⟩
  simp only [objMach, upd]
  split
  · exact hr.c.inv.cur
  · exact hr.cap k'

/-- one admission on cluster c1 through valid paths, in the shape of `refMach`'s admissions -/
theorem rel_admitC {h : Hist} {ρ : Ref} (hr : Rel h ρ) (id : Nat) (r : Res) {t p : Path}
    (ht : validPath h.c t = true) (hp : validPath h.c p = true) (pool' : Option Nat) (hpool : ∀ q, pool' = some q → q < h.c.nHost) :
    (acquire h.c id r t p).2 = (if refAdmits ρ.thr r ρ.lv then ({ ρ with lv := ρ.lv ++ [(id, r)] }, true) else (ρ, false)).2 ∧
    Rel { h with c := (acquire h.c id r t p).1, pool := pool' }
        (if refAdmits ρ.thr r ρ.lv then ({ ρ with lv := ρ.lv ++ [(id, r)] }, true) else (ρ, false)).1 := by
  obtain ⟨ho, hs⟩ := side_admit hr.c id r ht hp
  obtain ⟨f1, f2⟩ := admit_frame hr.c.inv id r t p
  have hp' : ∀ q, pool' = some q → q < (acquire h.c id r t p).1.nHost := fun q hq => f1 ▸ hpool q hq
  have hc' : ∀ k, h.cap k < (acquire h.c id r t p).1.nInfo := fun k => f2 ▸ hr.cap k
  cases ha : refAdmits ρ.thr r ρ.lv <;> rw [ha] at ho hs <;> exact ⟨ho, hs, hr.t, hp', hc'⟩

theorem rel_admitReq {h : Hist} {ρ : Ref} (hr : Rel h ρ) (k : Nat) :
    ((objMach Code.gen).admitReq h k).2 = (refMach.admitReq ρ k).2 ∧
    Rel ((objMach Code.gen).admitReq h k).1 (refMach.admitReq ρ k).1 := by
  have hv : validPath h.c (.host (poolHost h)) = true := by simp [validPath, poolHost_lt hr]
  exact rel_admitC hr (2 * k) .req hv hv (some (poolHost h)) (fun q hq => by cases hq; exact poolHost_lt hr)

theorem rel_admitRetr {h : Hist} {ρ : Ref} (hr : Rel h ρ) (k : Nat) :
    ((objMach Code.gen).admitRetr h k).2 = (refMach.admitRetr ρ k).2 ∧
    Rel ((objMach Code.gen).admitRetr h k).1 (refMach.admitRetr ρ k).1 := by
  have hv : validPath h.c (.info (h.cap k)) = true := by simp [validPath, hr.cap k]
  exact rel_admitC hr (2 * k + 1) .retr hv hv h.pool hr.pool

theorem rel_admitConn {h : Hist} {ρ : Ref} (hr : Rel h ρ) (j : Nat) :
    ((objMach Code.gen).admitConn h j).2 = (refMach.admitConn ρ j).2 ∧
    Rel ((objMach Code.gen).admitConn h j).1 (refMach.admitConn ρ j).1 := by
  have hv1 : validPath h.t (.info h.t.cur) = true := by simp [validPath, hr.t.inv.cur]
  have hv2 : validPath h.t (.host (h.t.hosts.headD 0)) = true := decide_eq_true (headD_lt hr.t.inv hr.t.hosts)
  obtain ⟨ho, hs⟩ := side_admit hr.t j .conn hv1 hv2
  simp only [objMach, refMach]
  cases ha : refAdmits ρ.thr .conn ρ.lvT <;> rw [ha] at ho hs <;> exact ⟨ho, hr.c, hs, hr.pool, hr.cap⟩

theorem rel_update {h : Hist} {ρ : Ref} (hr : Rel h ρ) (p : Bool) (ty : Nat) (thr : Thr)
    (hz : ρ.zeroStableOp (.update p ty thr) = true) :
    Rel ((objMach Code.gen).update h p ty thr) (refMach.update ρ p ty thr) := by
  -- by name, a threshold may cross zero only when neither cluster holds a unit
  simp only [Ref.zeroStableOp, List.all_eq_true, Bool.or_eq_true, Bool.and_eq_true, beq_iff_eq] at hz
  refine ⟨side_update hr.c p thr _ fun r hr' => (hz r hr').imp_left And.left,
    side_update hr.t p thr _ fun r hr' => (hz r hr').imp_left And.right, fun q hq => ?_, fun k => ?_⟩ <;>
    simp only [objMach] <;> rw [update_gen_eq _ _ _ _ _ hr.c.inv] <;> dsimp only
  · have := hr.pool q hq
    split <;> omega
  · exact Nat.lt_succ_of_lt (hr.cap k)

theorem rel_has {h : Hist} {ρ : Ref} (hr : Rel h ρ) (id : Nat) :
    (objMach Code.gen).has h id = refMach.has ρ id ∧ (objMach Code.gen).hasT h id = refMach.hasT ρ id := by
  simp [objMach, refMach, ← hr.c.key, ← hr.t.key, hasK_map]

/-- one operation of a history: the same outcome on both machines, and they stay related -/
theorem rel_step {h : Hist} {ρ : Ref} (hr : Rel h ρ) (op : SOp) (hz : ρ.zeroStableOp op = true) :
    (stepS (objMach Code.gen) h op).2 = (stepS refMach ρ op).2 ∧ Rel (stepS (objMach Code.gen) h op).1 (stepS refMach ρ op).1 := by
  cases op with
  | start k =>
    simp only [stepS, (rel_has hr _).1]
    split
    · exact ⟨rfl, hr⟩
    · have := rel_admitReq (rel_route hr k) k
      simp [this.1, this.2]
  | retry k =>
    simp only [stepS, (rel_has hr _).1]
    split
    · have r1 := rel_admitRetr (rel_rel (rel_rel hr (2 * k)) (2 * k + 1)) k
      simp only [r1.1]
      split
      · have r2 := rel_admitReq r1.2 k
        simp only [r2.1]
        split
        · exact ⟨rfl, r2.2⟩
        · exact ⟨rfl, rel_rel r2.2 (2 * k + 1)⟩
      · exact ⟨rfl, r1.2⟩
    · exact ⟨rfl, hr⟩
  | fin k =>
    simp only [stepS, (rel_has hr _).1]
    split
    · exact ⟨rfl, rel_rel (rel_rel hr (2 * k)) (2 * k + 1)⟩
    · exact ⟨rfl, hr⟩
  | open_ j =>
    simp only [stepS, (rel_has hr _).2]
    split
    · exact ⟨rfl, hr⟩
    · have := rel_admitConn hr j
      simp [this.1, this.2]
  | close j =>
    simp only [stepS, (rel_has hr _).2]
    split
    · exact ⟨rfl, rel_relT hr j⟩
    · exact ⟨rfl, hr⟩
  | update p ty thr => exact ⟨rfl, rel_update hr p ty thr hz⟩

theorem trace_eq (h : Hist) (ρ : Ref) (ops : List SOp) (hr : Rel h ρ) (hz : ρ.zeroStable ops = true) :
    objTrace Code.gen h ops = refTrace ρ ops := by
  induction ops generalizing h ρ with
  | nil => rfl
  | cons op r ih =>
    simp only [Ref.zeroStable, Bool.and_eq_true] at hz
    obtain ⟨e, hr'⟩ := rel_step hr op hz.1
    simp only [objTrace, refTrace]
    rw [e, rel_obs hr' _, ih _ _ hr' hz.2]

end MosnVerif.Model.ResourceShare
