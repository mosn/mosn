import MosnVerif.Model.HttpUri
/-! lemmas about the request-URI pass-through decision (core only) -/
namespace MosnVerif.Model.HttpUri
open Gen.C01HttpUri

theorem query_inject (q : String) : (if queryInjected (q.length : Int) then q else "") = q := by
  -- the test fails only for a string of length 0, and that string is the `else` branch
  simp [queryInjected]

/-- `buildUrlFromCtxVar` in closed form: the path chosen (the original one, `*`, or the escaped path variable), `/` in place
of an empty one, then `?query` for a non-empty query -/
theorem buildUrl_eq (O : Oracles) (v : Vars) :
    buildUrl O v =
      (let r := if passOriginal O.fhPath v.path v.pathOriginal ((O.unescape v.pathOriginal).getD "")
            (O.unescape v.pathOriginal).isNone then v.pathOriginal
          else if v.path = "*" then "*" else O.requestURI v.path
       (if r = "" then "/" else r) ++ (if v.query = "" then "" else "?" ++ v.query)) := by
  unfold buildUrl
  cases O.unescape v.pathOriginal <;> by_cases h2 : v.query = "" <;>
    simp [isStar, isEmptyRes, hasQuery, h2, String.append_assoc]

/-- **passthrough**: when nothing replaced the path variable, the rebuilt target is the original path (or `/` when it is
empty) followed by `?query` when the query is not empty — whatever the normaliser, unescaper and escaper do. -/
theorem passthrough (O : Oracles) (po q : String) :
    buildUrl O (inject O po q) = (if po = "" then "/" else po) ++ (if q = "" then "" else "?" ++ q) := by
  rw [buildUrl_eq]
  simp [inject, query_inject, passOriginal]

/-- a replaced path that is not an alias of the original one is escaped with `RequestURI` (or stays `*`) -/
theorem rewritten (O : Oracles) (v : Vars) (hne : ∀ u e, passOriginal O.fhPath v.path v.pathOriginal u e = false) :
    buildUrl O v =
      (let r := if v.path = "*" then "*" else O.requestURI v.path
       (if r = "" then "/" else r) ++ (if v.query = "" then "" else "?" ++ v.query)) := by
  rw [buildUrl_eq, hne]
  rfl

end MosnVerif.Model.HttpUri
