import MosnVerif.Model.HealthDispatch
import MosnVerif.Lemmas.Fold
/-! Under EVERY schedule of timer firings, answers, handler durations and Stop, the loop of
`sessionChecker.Start` hands every check to the result handlers at most once, only checks actually performed, and every
check whose turn is over exactly once. -/
namespace MosnVerif.Model.HealthDispatch
open MosnVerif.Model.HealthCheck (Result)
open MosnVerif.Gen.HealthDispatch (Act)

/-- the regenerated program is the one the proofs are about (stops compiling when an action of the loop is moved, added
or dropped) -/
theorem genProg_real : genProg = realProg := by decide

/-- OnCheck / OnTimeout / the channels have the shape `step` hard-codes -/
theorem callbacks_shape :
    Gen.HealthDispatch.onCheck = [.readID, .stopTimeout, .armTimeout, .checkAndSend] ∧
    Gen.HealthDispatch.onTimeoutFn = [.sendTimeout] ∧
    Gen.HealthDispatch.timeoutChanCap = 0 ∧ Gen.HealthDispatch.respChanCap = 0 ∧
    Gen.HealthDispatch.timeoutCarriesID = true := by decide

abbrev R0 : List Act := [.stopTimeout, .handle, .advance, .armCheck]
abbrev R1 : List Act := [.handle, .advance, .armCheck]
abbrev R2 : List Act := [.advance, .armCheck]
abbrev R3 : List Act := [.armCheck]
abbrev T0 : List Act := [.stopCheck, .sessionOnTimeout, .handleNet, .advance, .armCheck]
abbrev T1 : List Act := [.sessionOnTimeout, .handleNet, .advance, .armCheck]
abbrev T2 : List Act := [.handleNet, .advance, .armCheck]

structure Inv (s : D) : Prop where
  phase : s.todo = [] ∨ s.todo = R0 ∨ s.todo = R1 ∨ s.todo = R2 ∨ s.todo = R3 ∨ s.todo = T0 ∨ s.todo = T1 ∨ s.todo = T2
  cur_id : s.todo = [] → s.exited = false → s.currentID = s.checkID
  busy : s.todo ≠ [] → s.armed = false
  /-- only between the receive of an answer and the Stop that follows it can the timeout timer run while the loop is busy -/
  busy_tmo : s.todo ≠ [] → s.todo ≠ R0 → s.tmo = none
  /-- fired timers waiting on c.timeout: of performed checks, never of a future one, and not of the check whose timer runs -/
  parked_ok : ∀ k ∈ s.parked, k ∈ s.issued ∧ k ≤ s.checkID ∧ (k = s.checkID → s.tmo = none)
  tmo_cur : ∀ k, s.tmo = some k → k = s.checkID ∧ s.armed = false
  tmo_issued : ∀ k, s.tmo = some k → k ∈ s.issued
  log_lt : ∀ e ∈ s.log, e.1 < s.checkID ∨ (s.todo = R2 ∧ e.1 = s.checkID)
  log_sorted : (ids s).Pairwise (· > ·)
  issued_le : ∀ i ∈ s.issued, i < s.checkID ∨ (i = s.checkID ∧ s.armed = false)
  issued_sorted : s.issued.Pairwise (· > ·)
  complete : ∀ i ∈ s.issued, i < s.checkID → i ∈ ids s
  logged : s.todo = R2 → s.checkID ∈ ids s
  cur_ok : s.todo = R0 ∨ s.todo = R1 ∨ s.todo = T0 ∨ s.todo = T1 ∨ s.todo = T2 →
    s.cur.1 = s.checkID ∧ s.cur ∈ s.outcomes ∧ s.cur.1 ∈ s.issued
  cur_tmo : s.todo = T0 ∨ s.todo = T1 ∨ s.todo = T2 → s.cur.2 = .timeout
  log_out : ∀ e ∈ s.log, e ∈ s.outcomes
  log_issued : ∀ e ∈ s.log, e.1 ∈ s.issued
  inflight_issued : ∀ i ∈ s.inflight, i ∈ s.issued
  exit_todo : s.exited = true → s.todo = []
  issued_r3 : s.todo = R3 → ∀ i ∈ s.issued, i < s.checkID
  /-- the loop waits in its select for a performed check: that check's timeout is still to come (timer running, or its
  expiry parked on the channel) - the id comparison never drops the timeout of the awaited check -/
  pending : s.todo = [] → s.exited = false → s.checkID ∈ s.issued → s.tmo = some s.checkID ∨ s.checkID ∈ s.parked

theorem step_exited (p : Prog) (s : D) (ev : Ev) (hx : s.exited = true) : step p s ev = s := by
  simp only [step, hx, if_true]

theorem finish_idle (p : Prog) (s : D) (ht : s.todo = []) :
    finish p s =
      if s.stopReq then p.onExit.foldl perform { s with exited := true } else { s with currentID := s.checkID } := by
  simp only [finish, ht]

theorem actStep_cons {p : Prog} {s : D} {a : Act} {rest : List Act} (ht : s.todo = a :: rest) :
    actStep p s = finish p { perform s a with todo := rest } := by
  simp only [actStep, ht]

theorem step_fireCheck (p : Prog) (s : D) (hx : s.exited = false) (ha : s.armed = true) :
    step p s .fireCheck =
      { s with armed := false, issued := s.checkID :: s.issued, tmo := some s.checkID,
               inflight := s.checkID :: s.inflight } := by
  simp only [step, hx, ha, if_true, Bool.false_eq_true, if_false]

theorem step_fireTimeout (p : Prog) (s : D) (k : Nat) (hx : s.exited = false) (hk : s.tmo = some k) :
    step p s .fireTimeout = { s with tmo := none, parked := s.parked ++ [k] } := by
  simp only [step, hx, hk, Bool.false_eq_true, if_false]

theorem step_recvTimeout (p : Prog) (s : D) (k : Nat) (rest : List Nat) (hx : s.exited = false) (ht : s.todo = [])
    (hp : s.parked = k :: rest) :
    step p s .recvTimeout =
      if !p.guard || k = s.currentID then
        enter p { s with parked := rest, outcomes := (k, .timeout) :: s.outcomes } p.onTimeout (k, .timeout)
      else enter p { s with parked := rest } p.onStale (k, .timeout) := by
  simp only [step, hx, hp, idle, ht, List.isEmpty_nil, if_true, Bool.false_eq_true, if_false]

theorem step_answer (p : Prog) (s : D) (id : Nat) (hv : Bool) (hx : s.exited = false) (ht : s.todo = [])
    (hm : id ∈ s.inflight) :
    step p s (.answer id hv) =
      if id = s.currentID then
        enter p { s with inflight := s.inflight.erase id, outcomes := (id, resultOf hv) :: s.outcomes } p.onResp
          (id, resultOf hv)
      else enter p { s with inflight := s.inflight.erase id } p.onExpired (id, resultOf hv) := by
  simp only [step, hx, idle, ht, List.isEmpty_nil, List.contains_iff_mem.mpr hm, Bool.and_self, if_true,
    Bool.false_eq_true, if_false]

theorem step_stop (p : Prog) (s : D) (hx : s.exited = false) :
    step p s .stop =
      if idle s then p.onExit.foldl perform { s with stopReq := true, exited := true } else { s with stopReq := true } := by
  simp only [step, hx, Bool.false_eq_true, if_false]

/-! Preservation of `Inv`: each case gives the successor explicitly and lists the fields of `Inv` that need an argument;
the others are those of `h` (their statements read the same fields of the successor as of `s`). -/

theorem inv_init : Inv (D.init realProg) := by
  constructor <;> simp [D.init, realProg, D.zero, perform, ids]

namespace Inv
variable {s : D} (h : Inv s)
include h

theorem log_lt_of_ne (ht : s.todo ≠ R2) : ∀ e ∈ s.log, e.1 < s.checkID :=
  fun e he => (h.log_lt e he).resolve_right fun hr => ht hr.1

theorem idle_of_armed (ha : s.armed = true) : s.todo = [] :=
  Decidable.byContradiction fun ht => Bool.noConfusion ((h.busy ht).symm.trans ha)

theorem issued_lt_of_armed (ha : s.armed = true) : ∀ i ∈ s.issued, i < s.checkID :=
  fun i hi => (h.issued_le i hi).resolve_right fun hr => Bool.noConfusion (hr.2.symm.trans ha)

/-- the deferred exit block (`stopCheck`, `stopTimeout`) run from the select -/
theorem exit (ht : s.todo = []) (c : Nat) (b : Bool) :
    Inv { s with armed := false, tmo := none, exited := true, currentID := c, stopReq := b } :=
  { h with
    cur_id := nofun
    busy := fun _ => rfl
    busy_tmo := fun _ _ => rfl
    parked_ok := fun k hk => ⟨(h.parked_ok k hk).1, (h.parked_ok k hk).2.1, fun _ => rfl⟩
    tmo_cur := nofun
    tmo_issued := nofun
    issued_le := fun i hi => (h.issued_le i hi).imp_right fun hr => ⟨hr.1, rfl⟩
    exit_todo := fun _ => ht
    pending := nofun }

end Inv

/-- top of the next iteration: `currentID` is the one field `Inv` constrains that `finish` sets, so it is enough to have
the invariant with `currentID` already loaded -/
theorem inv_finish (s : D) (h : Inv { s with currentID := s.checkID }) (ht : s.todo = []) : Inv (finish realProg s) := by
  rw [finish_idle realProg s ht]
  split
  · exact h.exit ht s.currentID s.stopReq
  · exact h

/-- the select hands over an event the loop drops (an expired answer, a stale expiry): empty branch -/
theorem inv_drop (s : D) (h : Inv s) (ht : s.todo = []) (c : Nat × Result) : Inv (enter realProg s [] c) := by
  have h1 : Inv { s with todo := [] } := by cases s; cases ht; exact h
  exact inv_finish _ { h1 with cur_id := fun _ _ => rfl, cur_ok := nofun, cur_tmo := nofun } rfl

/-- the select hands over the event `c` of the awaited check, accepted into the branch `b` (`onResp` or `onTimeout`) -/
theorem inv_accept (s : D) (h : Inv s) (ht : s.todo = []) (hx : s.exited = false) (c : Nat × Result) (b : List Act)
    (hb : b = R0 ∨ b = T0) (htm : b ≠ R0 → s.tmo = none) (hc2 : b = T0 ∨ b = T1 ∨ b = T2 → c.2 = .timeout)
    (hc : c.1 = s.checkID) (hi : c.1 ∈ s.issued) :
    Inv { s with outcomes := c :: s.outcomes, todo := b, cur := c } := by
  have ha : s.armed = false := ((h.issued_le c.1 hi).resolve_left (Nat.lt_irrefl _ <| hc ▸ ·)).2
  have hl := h.log_lt_of_ne (ht ▸ nofun)
  rcases hb with rfl | rfl <;> exact { h with
    phase := by simp
    cur_id := nofun
    busy := fun _ => ha
    busy_tmo := fun _ => htm
    log_lt := fun e he => .inl (hl e he)
    logged := nofun
    cur_ok := fun _ => ⟨hc, .head _, hi⟩
    cur_tmo := hc2
    log_out := fun e he => .tail _ (h.log_out e he)
    exit_todo := fun he => nomatch hx.symm.trans he
    issued_r3 := nofun
    pending := nofun }

theorem inv_recvTimeout (s : D) (h : Inv s) (hx : s.exited = false) : Inv (step realProg s .recvTimeout) := by
  by_cases ht : s.todo = []
  · cases hp : s.parked with
    | nil => simpa [step, hx, hp] using h
    | cons k rest =>
      have hsub : ∀ j ∈ rest, j ∈ s.parked := fun j hj => hp ▸ List.mem_cons_of_mem k hj
      have hk := h.parked_ok k (hp ▸ .head _)
      have hcur := h.cur_id ht hx
      rw [step_recvTimeout realProg s k rest hx ht hp]
      split
      next hid =>
        have hkc : k = s.checkID := by simpa [realProg, hcur] using hid
        have h1 := inv_accept s h ht hx (k, .timeout) T0 (.inr rfl) (fun _ => hk.2.2 hkc) (fun _ => rfl) hkc hk.1
        exact { h1 with parked_ok := fun j hj => h.parked_ok j (hsub j hj), pending := nofun }
      next hid =>
        have hkc : k ≠ s.checkID := by simpa [realProg, hcur] using hid
        exact inv_drop { s with parked := rest } { h with
          parked_ok := fun j hj => h.parked_ok j (hsub j hj)
          pending := fun _ _ hi => (h.pending ht hx hi).imp_right fun hm =>
            (List.mem_cons.mp (hp ▸ hm : s.checkID ∈ k :: rest)).resolve_left (Ne.symm hkc) } ht _
  · have : s.todo.isEmpty = false := by simpa using ht
    cases hp : s.parked <;> simpa [step, hx, hp, idle, this] using h

theorem inv_answer (s : D) (id : Nat) (hv : Bool) (h : Inv s) (hx : s.exited = false) :
    Inv (step realProg s (.answer id hv)) := by
  by_cases hc : (idle s && s.inflight.contains id) = true
  · have ht : s.todo = [] := List.isEmpty_iff.mp (Bool.and_eq_true_iff.mp hc).1
    have hm : id ∈ s.inflight := List.contains_iff_mem.mp (Bool.and_eq_true_iff.mp hc).2
    have h1 : Inv { s with inflight := s.inflight.erase id } :=
      { h with inflight_issued := fun i hi => h.inflight_issued i (List.mem_of_mem_erase hi) }
    rw [step_answer realProg s id hv hx ht hm]
    split
    next hid =>
      exact inv_accept _ h1 ht hx (id, resultOf hv) R0 (.inl rfl) (absurd rfl) nofun (hid.trans (h.cur_id ht hx))
        (h.inflight_issued id hm)
    next => exact inv_drop _ h1 ht _
  · simp only [step, hx, hc, Bool.false_eq_true, if_false]
    exact h

theorem inv_fireCheck (s : D) (h : Inv s) (hx : s.exited = false) : Inv (step realProg s .fireCheck) := by
  by_cases ha : s.armed = true
  · have ht := h.idle_of_armed ha
    have hlt := h.issued_lt_of_armed ha
    rw [step_fireCheck realProg s hx ha]
    exact { h with
      busy := fun _ => rfl
      busy_tmo := fun hne => absurd ht hne
      parked_ok := fun k hk =>
        have ⟨hi, hle, _⟩ := h.parked_ok k hk
        ⟨.tail _ hi, hle, fun e => absurd (hlt k hi) (e ▸ Nat.lt_irrefl _)⟩
      tmo_cur := fun k hk => ⟨(Option.some.inj hk).symm, rfl⟩
      tmo_issued := fun k hk => Option.some.inj hk ▸ .head _
      issued_le := fun i hi => (List.mem_cons.mp hi).elim (fun e => .inr ⟨e, rfl⟩) (fun hi => .inl (hlt i hi))
      issued_sorted := List.pairwise_cons.mpr ⟨hlt, h.issued_sorted⟩
      complete := fun i hi hl => h.complete i ((List.mem_cons.mp hi).resolve_left (Nat.ne_of_lt hl)) hl
      cur_ok := fun hp => have ⟨a, b, c⟩ := h.cur_ok hp; ⟨a, b, .tail _ c⟩
      log_issued := fun e he => .tail _ (h.log_issued e he)
      inflight_issued := fun _ hi => List.cons_subset_cons _ h.inflight_issued hi
      issued_r3 := fun hp => nomatch ht.symm.trans hp
      pending := fun _ _ _ => .inl rfl }
  · simpa [step, hx, ha] using h

theorem inv_fireTimeout (s : D) (h : Inv s) (hx : s.exited = false) : Inv (step realProg s .fireTimeout) := by
  cases hk : s.tmo with
  | none => simpa [step, hx, hk] using h
  | some k =>
    have hkc := (h.tmo_cur k hk).1
    rw [step_fireTimeout realProg s k hx hk]
    exact { h with
      busy_tmo := fun _ _ => rfl
      parked_ok := fun j hj => (List.mem_append.mp hj).elim
        (fun hj => ⟨(h.parked_ok j hj).1, (h.parked_ok j hj).2.1, fun _ => rfl⟩)
        (fun hj => by cases List.mem_singleton.mp hj; exact ⟨h.tmo_issued k hk, Nat.le_of_eq hkc, fun _ => rfl⟩)
      tmo_cur := nofun
      tmo_issued := nofun
      pending := fun ht hx hi => .inr <| List.mem_append.mpr <| (h.pending ht hx hi).symm.imp_right fun _ =>
        hkc ▸ List.mem_singleton_self k }

theorem inv_stop (s : D) (h : Inv s) (hx : s.exited = false) : Inv (step realProg s .stop) := by
  rw [step_stop realProg s hx]
  split
  next ht => exact h.exit (List.isEmpty_iff.mp ht) s.currentID true
  next => exact { h with }

theorem inv_stopTimeout (s : D) (h : Inv s) (ht : s.todo = R0) : Inv { s with tmo := none, todo := R1 } :=
  have hne : s.todo ≠ [] := ht ▸ nofun
  { h with
    phase := by simp
    cur_id := nofun
    busy := fun _ => h.busy hne
    busy_tmo := fun _ _ => rfl
    parked_ok := fun k hk => ⟨(h.parked_ok k hk).1, (h.parked_ok k hk).2.1, fun _ => rfl⟩
    tmo_cur := nofun
    tmo_issued := nofun
    log_lt := fun e he => .inl (h.log_lt_of_ne (ht ▸ nofun) e he)
    logged := nofun
    cur_ok := fun _ => h.cur_ok (.inl ht)
    cur_tmo := nofun
    exit_todo := fun he => absurd (h.exit_todo he) hne
    issued_r3 := nofun
    pending := nofun }

/-- `stopCheck` and `sessionOnTimeout` of the timeout branch: the interval timer is not armed while the loop is busy, so
neither changes anything `Inv` reads -/
theorem inv_timeout_next (s : D) (h : Inv s) (ht : s.todo = T0 ∨ s.todo = T1) (t : List Act) (ht' : t = T1 ∨ t = T2) :
    Inv { s with todo := t } := by
  have hn : s.todo ≠ [] ∧ s.todo ≠ R0 ∧ s.todo ≠ R2 := by rcases ht with ht | ht <;> simp [ht]
  have hp : s.todo = T0 ∨ s.todo = T1 ∨ s.todo = T2 := ht.elim .inl (.inr ∘ .inl)
  rcases ht' with rfl | rfl <;> exact { h with
    phase := by simp
    cur_id := nofun
    busy := fun _ => h.busy hn.1
    busy_tmo := fun _ _ => h.busy_tmo hn.1 hn.2.1
    log_lt := fun e he => .inl (h.log_lt_of_ne hn.2.2 e he)
    logged := nofun
    cur_ok := fun _ => h.cur_ok (.inr (.inr hp))
    cur_tmo := fun _ => h.cur_tmo hp
    exit_todo := fun he => absurd (h.exit_todo he) hn.1
    issued_r3 := nofun
    pending := nofun }

/-- `handle` / `handleNet`: the event the branch was entered for is logged; it is the first entry for the current check -/
theorem inv_handle (s : D) (h : Inv s) (ht : s.todo = R1 ∨ s.todo = T2) :
    Inv { s with log := s.cur :: s.log, todo := R2 } :=
  have hn : s.todo ≠ [] ∧ s.todo ≠ R0 ∧ s.todo ≠ R2 := by rcases ht with ht | ht <;> simp [ht]
  have hc := h.cur_ok (ht.elim (.inr ∘ .inl) (.inr ∘ .inr ∘ .inr ∘ .inr))
  have hl := h.log_lt_of_ne hn.2.2
  { h with
    phase := by simp
    cur_id := nofun
    busy := fun _ => h.busy hn.1
    busy_tmo := fun _ _ => h.busy_tmo hn.1 hn.2.1
    log_lt := fun e he => (List.mem_cons.mp he).elim (fun e' => .inr ⟨rfl, e' ▸ hc.1⟩) (fun he => .inl (hl e he))
    log_sorted := List.pairwise_cons.mpr
      ⟨fun i hi => by obtain ⟨e, he, rfl⟩ := List.mem_map.mp hi; exact hc.1 ▸ hl e he, h.log_sorted⟩
    complete := fun i hi hl => .tail _ (h.complete i hi hl)
    logged := fun _ => hc.1 ▸ .head _
    cur_ok := nofun
    cur_tmo := nofun
    log_out := List.forall_mem_cons.mpr ⟨hc.2.1, h.log_out⟩
    log_issued := List.forall_mem_cons.mpr ⟨hc.2.2, h.log_issued⟩
    exit_todo := fun he => absurd (h.exit_todo he) hn.1
    issued_r3 := nofun
    pending := nofun }

/-- `advance`: the current check has its result, so its turn may end -/
theorem inv_advance (s : D) (h : Inv s) (ht : s.todo = R2) : Inv { s with checkID := s.checkID + 1, todo := R3 } :=
  have hne : s.todo ≠ [] := ht ▸ nofun
  have htm := h.busy_tmo hne (ht ▸ nofun)
  have hle : ∀ i ∈ s.issued, i < s.checkID + 1 := fun i hi =>
    (h.issued_le i hi).elim Nat.lt_succ_of_lt (fun hr => hr.1 ▸ Nat.lt_succ_self _)
  { h with
    phase := by simp
    cur_id := nofun
    busy := fun _ => h.busy hne
    busy_tmo := fun _ _ => htm
    parked_ok := fun k hk => ⟨(h.parked_ok k hk).1, Nat.le_succ_of_le (h.parked_ok k hk).2.1, fun _ => htm⟩
    tmo_cur := fun _ hk => nomatch htm.symm.trans hk
    log_lt := fun e he => .inl ((h.log_lt e he).elim Nat.lt_succ_of_lt (fun hr => hr.2 ▸ Nat.lt_succ_self _))
    issued_le := fun i hi => .inl (hle i hi)
    complete := fun i hi hl => (Nat.lt_succ_iff_lt_or_eq.mp hl).elim (h.complete i hi) (fun e => e ▸ h.logged ht)
    logged := nofun
    cur_ok := nofun
    cur_tmo := nofun
    exit_todo := fun he => absurd (h.exit_todo he) hne
    issued_r3 := fun _ => hle
    pending := nofun }

/-- `armCheck` ends the branch: every issued check has had its turn, the next one is not issued yet -/
theorem inv_armCheck (s : D) (h : Inv s) (ht : s.todo = R3) : Inv (finish realProg { s with armed := true, todo := [] }) :=
  have htm := h.busy_tmo (ht ▸ nofun) (ht ▸ nofun)
  have hlt := h.issued_r3 ht
  inv_finish _ { h with
    phase := by simp
    cur_id := fun _ _ => rfl
    busy := fun hne => absurd rfl hne
    busy_tmo := fun hne => absurd rfl hne
    tmo_cur := fun _ hk => nomatch htm.symm.trans hk
    log_lt := fun e he => .inl (h.log_lt_of_ne (ht ▸ nofun) e he)
    issued_le := fun i hi => .inl (hlt i hi)
    logged := nofun
    cur_ok := nofun
    cur_tmo := nofun
    exit_todo := fun _ => rfl
    issued_r3 := nofun
    pending := fun _ _ hi => absurd (hlt _ hi) (Nat.lt_irrefl _) } rfl

theorem inv_act (s : D) (h : Inv s) (hx : s.exited = false) : Inv (step realProg s .act) := by
  have hs : step realProg s .act = actStep realProg s := by simp only [step, hx, Bool.false_eq_true, if_false]
  rw [hs]
  rcases h.phase with ht | ht | ht | ht | ht | ht | ht | ht
  · simpa [actStep, ht] using h
  · rw [actStep_cons ht]; exact inv_stopTimeout s h ht
  · rw [actStep_cons ht]; exact inv_handle s h (.inl ht)
  · rw [actStep_cons ht]; exact inv_advance s h ht
  · rw [actStep_cons ht]; exact inv_armCheck s h ht
  · have hb : perform s .stopCheck = s := by
      have := h.busy (ht ▸ nofun)
      cases s; cases this; rfl
    rw [actStep_cons ht, hb]; exact inv_timeout_next s h (.inl ht) T1 (.inl rfl)
  · rw [actStep_cons ht]; exact inv_timeout_next s h (.inr ht) T2 (.inr rfl)
  · have hc : (s.cur.1, Result.timeout) = s.cur := Prod.ext rfl (h.cur_tmo (.inr (.inr ht))).symm
    rw [actStep_cons ht, perform, hc]; exact inv_handle s h (.inr ht)

theorem inv_step (s : D) (ev : Ev) (h : Inv s) : Inv (step realProg s ev) := by
  cases hx : s.exited with
  | true => rw [step_exited _ _ _ hx]; exact h
  | false =>
    cases ev with
    | fireCheck => exact inv_fireCheck s h hx
    | fireTimeout => exact inv_fireTimeout s h hx
    | answer id hv => exact inv_answer s id hv h hx
    | recvTimeout => exact inv_recvTimeout s h hx
    | act => exact inv_act s h hx
    | stop => exact inv_stop s h hx

theorem inv_run (s : D) (evs : List Ev) (h : Inv s) : Inv (run realProg s evs) :=
  Lemmas.Fold.foldl_inv inv_step evs s h

end MosnVerif.Model.HealthDispatch
