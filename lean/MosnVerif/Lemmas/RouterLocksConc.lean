import MosnVerif.Lemmas.RouterLocks
import MosnVerif.Lemmas.Updates
/-! The steps of `routers_manager.go` on one existing router: the regenerated programs run alone are `Model/Updates.step`. -/
namespace MosnVerif.Model.RouterLocks
open MosnVerif MosnVerif.Gen.RouterLocks MosnVerif.Model.Updates

/-- the map lookup of an existing router and `NewRouters` of the call's own argument touch nothing shared -/
theorem exec_local (o : Oracle) : ∀ a, localStep a = true → LocalStep (exec o) a := by
  intro a ha s s' l
  simp only [localStep, Bool.or_eq_true, beq_iff_eq] at ha
  rcases ha with (rfl | rfl) | rfl
  · exact ⟨rfl, rfl⟩
  · simp only [exec]
    split
    · split <;> exact ⟨rfl, rfl⟩
    · exact ⟨rfl, rfl⟩
  · simp only [exec]
    split <;> exact ⟨rfl, rfl⟩

@[simp] theorem recordRouter_wrappers (b : Bool) (s : State) (c : RouterCfg) : (recordRouter b s c).wrappers = s.wrappers := by
  unfold recordRouter; split <;> rfl

theorem recordRouter_rpath (s : State) (c : RouterCfg) (n : String) (h : c.name = n) :
    (recordRouter true s c).rpath n = rememberedPath (s.rpath n) c := by
  subst h; simp [recordRouter]

@[simp] theorem setAt_same {α : Type} (m : Nat → α) (k : Nat) (v : α) : setAt m k v k = v := by simp [setAt]

theorem modifyAt_congr_at {α : Type} (f g : α → α) (l : List α) (i : Nat) (h : ∀ x, l[i]? = some x → f x = g x) :
    modifyAt f l i = modifyAt g l i := by
  fun_induction modifyAt f l i with
  | case1 => rfl
  | case2 a r => rw [modifyAt, h a rfl]
  | case3 a r j ih => rw [modifyAt, ih h]

theorem modifyAt_snap (c : RouterCfg) (i : Nat) (r : Route) :
    modifyAt (fun vh : VHost => { vh with routes := routesAt c i ++ [r] }) c.vhosts i =
    modifyAt (fun vh : VHost => { vh with routes := vh.routes ++ [r] }) c.vhosts i := by
  apply modifyAt_congr_at
  intro x hx
  simp [routesAt, hx]

/-- `AddOrUpdateRouters` (router found) run alone -/
theorem body_update (o : Oracle) (S : Shared) (cfg : RouterCfg) (me : Nat) :
    view (runBody (exec o) addOrUpdateRouters_found S { op := .update cfg, me := me }).1 = stepView o (view S) (.update cfg) := by
  cases hb : build o cfg <;> simp [addOrUpdateRouters_found, runBody, isLockOp, kind, exec, hb, stepView, view]

/-- `AddRoute` (router found) run alone -/
theorem body_addRoute (o : Oracle) (S : Shared) (d : String) (r : Route) (me : Nat) :
    view (runBody (exec o) addRoute_found S { op := .addRoute d r, me := me }).1 = stepView o (view S) (.addRoute d r) := by
  cases ht : S.tables S.wtab with
  | none => simp [addRoute_found, runBody, isLockOp, kind, exec, ht, stepView, view]
  | some t =>
    cases ha : t.addRoute o d r with
    | none => simp [addRoute_found, runBody, isLockOp, kind, exec, ht, ha, stepView, view]
    | some p => simp [addRoute_found, runBody, isLockOp, kind, exec, ht, ha, stepView, view, modifyAt_snap]

/-- `RemoveAllRoutes` (router found) run alone -/
theorem body_removeAll (o : Oracle) (S : Shared) (d : String) (me : Nat) :
    view (runBody (exec o) removeAllRoutes_found S { op := .removeAll d, me := me }).1 = stepView o (view S) (.removeAll d) := by
  cases ht : S.tables S.wtab with
  | none => simp [removeAllRoutes_found, runBody, isLockOp, kind, exec, ht, stepView, view]
  | some t => cases ha : t.removeAll o d <;> simp [removeAllRoutes_found, runBody, isLockOp, kind, exec, ht, ha, stepView, view]

theorem body_view (o : Oracle) (ops : Nat → MOp) (t : Nat) (S : Shared) :
    view (runBody (exec o) (callOf ops t).prog S (callOf ops t).l0).1 = stepView o (view S) (ops t) := by
  unfold callOf
  cases h : ops t with
  | update cfg => exact body_update o S cfg _
  | addRoute d r => exact body_addRoute o S d r _
  | removeAll d => exact body_removeAll o S d _

/-- one call on views is `Model/Updates.step` on the router -/
theorem stepView_step (o : Oracle) (st : State) (hI : Inv o st) (n : String) (w : Wrapper) (hw : st.wrappers n = some w)
    (op : MOp) (hn : named n op) :
    ((step o st (toOp n op)).1.wrappers n).map (viewOf (step o st (toOp n op)).1 n) = some (stepView o (viewOf st n w) op) := by
  obtain ⟨hname, _, _⟩ := hI.r_some n w hw
  cases op with
  | update cfg =>
    simp only [named] at hn
    subst hn
    cases hb : build o cfg <;>
      simp only [toOp, step, hw, hb, stepView, viewOf, gen_recordsAddOrUpdate, recordRouter_wrappers, recordRouter_rpath,
        FMap.set_same, Option.map_some]
  | addRoute d r =>
    cases ht : w.routers with
    | none => simp only [toOp, step, hw, ht, stepView, viewOf, Option.map_some]
    | some t =>
      cases ha : t.addRoute o d r <;>
        simp only [toOp, step, hw, ht, ha, stepView, viewOf, gen_addRoute, recordRouter_wrappers, recordRouter_rpath, hname,
          FMap.set_same, Option.map_some]
  | removeAll d =>
    cases ht : w.routers with
    | none => simp only [toOp, step, hw, ht, stepView, viewOf, Option.map_some]
    | some t =>
      cases ha : t.removeAll o d <;>
        simp only [toOp, step, hw, ht, ha, stepView, viewOf, gen_removeAll, recordRouter_wrappers, recordRouter_rpath, hname,
          FMap.set_same, Option.map_some]

/-- the calls of `order` run one after the other on the shared state = the corresponding history of `Model/Updates` -/
theorem serial_view (o : Oracle) (n : String) (ops : Nat → MOp) (hn : ∀ t, named n (ops t)) (order : List Nat)
    (st : State) (hI : Inv o st) (w : Wrapper) (hw : st.wrappers n = some w) (S : Shared) (hS : view S = viewOf st n w) :
    ∃ w', (runFrom o st (order.map (fun t => toOp n (ops t)))).wrappers n = some w' ∧
      view (serialS (exec o) (callOf ops) order S) = viewOf (runFrom o st (order.map (fun t => toOp n (ops t)))) n w' := by
  induction order generalizing st w S with
  | nil => exact ⟨w, hw, hS⟩
  | cons t r ih =>
    obtain ⟨w1, hw1, hv1⟩ := Option.map_eq_some_iff.1 (stepView_step o st hI n w hw (ops t) (hn t))
    exact ih (step o st (toOp n (ops t))).1 (Updates.inv_step hI _) w1 hw1 _ (by rw [body_view, hS, hv1])

theorem view_sharedOf (st : State) (n : String) (w : Wrapper) : view (sharedOf st n w) = viewOf st n w := rfl

theorem coherent_viewOf (o : Oracle) (st : State) (hI : Inv o st) (n : String) (w : Wrapper) (hw : st.wrappers n = some w) :
    coherentView o (viewOf st n w) = true := by
  obtain ⟨_, _, hb⟩ := hI.r_some n w hw
  simp [coherentView, viewOf, hb]

end MosnVerif.Model.RouterLocks
