import MosnVerif.Model.FrameHpack
/-! bounds of the HPACK primitives -/
namespace MosnVerif.Model.FrameHpack
open MosnVerif.Model.Framing

theorem varLoop_suffix (p : Bytes) (i m v : Nat) (r : Bytes) (h : varLoop p i m = .ok v r) :
    ∃ k, 0 < k ∧ k ≤ p.length ∧ r = p.drop k := by
  fun_induction varLoop p i m with
  | case2 x xs i m _ _ =>
    obtain ⟨_, rfl⟩ := VarRes.ok.inj h
    exact ⟨1, Nat.one_pos, by simp, rfl⟩
  | case4 x xs i m _ _ _ ih =>
    obtain ⟨k, hk0, hkl, hr⟩ := ih h
    exact ⟨k + 1, by omega, by simp; omega, hr⟩
  | _ => cases h

/-- a decoded integer consumed at least one byte and only bytes of the input: what remains is a proper suffix -/
theorem readVarInt_suffix (n : Nat) (p : Bytes) (v : Nat) (r : Bytes) (h : readVarInt n p = .ok v r) :
    ∃ k, 0 < k ∧ k ≤ p.length ∧ r = p.drop k := by
  revert h
  fun_cases readVarInt n p with
  | case1 => nofun
  | case2 x xs _ _ =>
    intro h
    obtain ⟨_, rfl⟩ := VarRes.ok.inj h
    exact ⟨1, Nat.one_pos, by simp, rfl⟩
  | case3 x xs _ _ =>
    intro h
    obtain ⟨k, hk0, hkl, hr⟩ := varLoop_suffix _ _ _ v r h
    exact ⟨k + 1, by omega, by simp; omega, hr⟩

end MosnVerif.Model.FrameHpack
