import MosnVerif.Model.StreamGen
import MosnVerif.Lemmas.Fold
/-! Invariant of the stream-generation model for the destroy-before-deliver order, for every schedule. -/
namespace MosnVerif.Lemmas.StreamGen
open MosnVerif.Model.StreamGen MosnVerif.Gen.RecvOrder

/-- the order the theorems are about; `Props.C02` shows the regenerated list IS this one -/
def goodProg : List Act := [.destroy, .deliver]

structure Inv (s : St) : Prop where
  slotOk : ∀ c k, s.slot c = some k → (s.ex k).pc = none ∧ (s.ex k).taken = true ∧ (s.ex k).conn = c
  pcOk : ∀ k p, (s.ex k).pc = some p → (p = [.destroy, .deliver] ∨ p = [.deliver] ∨ p = []) ∧ (s.ex k).taken = true
  gotOk : ∀ k, (s.ex k).got ≠ [] → (s.ex k).pc = some [] ∧ (s.ex k).got = [(s.ex k).rtok]
  doneOk : ∀ k, (s.ex k).done = true → (s.ex k).got ≠ []
  own : ∀ k, (s.ex k).taken = true → (s.ex k).done = false →
      (s.obj (s.ex k).obj).gen = (s.ex k).gen ∧ (s.obj (s.ex k).obj).owner = some k ∧
      (s.obj (s.ex k).obj).lis = (s.ex k).conn ∧ (s.obj (s.ex k).obj).cur = k
  logOk : ∀ r ∈ s.log, r.genHit = r.genMade ∧ (∀ c, r.gave = some c → c = r.own)

theorem inv_init : Inv ({} : St) := by
  constructor <;> simp

@[simp] theorem upd_apply {α : Type} (f : Nat → α) (i : Nat) (v : α) (j : Nat) : upd f i v j = if j = i then v else f j := rfl

/-- What holds of the new entry at `k` and of every other entry as it was holds of every entry of the updated table; `P`
may mention the index (whose slot, whose object). With `elab_as_elim` Lean reads `P` off the goal (`f' j`, then `j`,
abstracted); from `hk` it cannot find it. -/
@[elab_as_elim]
theorem forall_upd {α : Type} {P : Nat → α → Prop} {f f' : Nat → α} {k : Nat} {v : α} (hex : f' = upd f k v) (j : Nat)
    (hk : P k v) (ho : ∀ i, i ≠ k → P i (f i)) : P j (f' j) := by
  rw [hex, upd_apply]
  by_cases e : j = k
  · rw [if_pos e, e]; exact hk
  · rw [if_neg e]; exact ho j e

theorem upd_upd {α : Type} (f : Nat → α) (i : Nat) (v v' : α) : upd (upd f i v) i v' = upd f i v' := by
  funext j; simp only [upd_apply]; split <;> rfl

theorem Inv.got_nil {s : St} (h : Inv s) (k : Nat) (hp : (s.ex k).pc ≠ some []) :
    (s.ex k).got = [] ∧ (s.ex k).done = false := by
  have hgot : (s.ex k).got = [] := Decidable.byContradiction fun hg => hp (h.gotOk k hg).1
  exact ⟨hgot, Bool.eq_false_iff.mpr fun hd => h.doneOk k hd hgot⟩

theorem Inv.pc_none {s : St} (h : Inv s) (k : Nat) (hk : (s.ex k).taken = false) : (s.ex k).pc = none := by
  cases hp : (s.ex k).pc with
  | none => rfl
  | some p => exact nomatch hk.symm.trans (h.pcOk k p hp).2

/-- Exchange `k` is rewritten to `v`, and the clauses about `k` hold of `v`; no other exchange gains a slot entry, the
object of another unfinished exchange changes at most in `live`, what the log gains is a destroy of its own generation:
the invariant stays. -/
theorem inv_of_ex (s s' : St) (k : Nat) (v : Ex) (h : Inv s) (hex : s'.ex = upd s.ex k v)
    (hslot : ∀ c, s'.slot c = some k → v.pc = none ∧ v.taken = true ∧ v.conn = c)
    (hpc : ∀ p, v.pc = some p → (p = [.destroy, .deliver] ∨ p = [.deliver] ∨ p = []) ∧ v.taken = true)
    (hgot : v.got ≠ [] → v.pc = some [] ∧ v.got = [v.rtok]) (hdone : v.done = true → v.got ≠ [])
    (hown : v.taken = true → v.done = false → (s'.obj v.obj).gen = v.gen ∧ (s'.obj v.obj).owner = some k ∧
      (s'.obj v.obj).lis = v.conn ∧ (s'.obj v.obj).cur = k)
    (hsl : ∀ c j, j ≠ k → s'.slot c = some j → s.slot c = some j)
    (hobj : ∀ j o, j ≠ k → (s.ex j).taken = true → (s.ex j).done = false → (s.ex j).obj = o →
      ∃ l, s'.obj o = { s.obj o with live := l })
    (hlog : ∀ r ∈ s'.log, (r.genHit = r.genMade ∧ ∀ c, r.gave = some c → c = r.own) ∨ r ∈ s.log) : Inv s' := by
  refine ⟨fun c j => forall_upd hex j (hslot c) fun i e hs => h.slotOk c i (hsl c i e hs),
    fun j => forall_upd hex j hpc fun i _ => h.pcOk i, fun j => forall_upd hex j hgot fun i _ => h.gotOk i,
    fun j => forall_upd hex j hdone fun i _ => h.doneOk i, fun j => forall_upd hex j hown fun i e hti hdi => ?_,
    fun r hr => (hlog r hr).elim id (h.logOk r)⟩
  obtain ⟨l, hl⟩ := hobj i _ e hti hdi rfl
  rw [hl]
  exact h.own i hti hdi

theorem inv_take (s : St) (h : Inv s) (k o : Nat) : Inv (step goodProg s (.take k o)) := by
  simp only [step]
  split
  · exact h
  · rename_i hc
    simp only [Bool.or_eq_true, not_or, Bool.not_eq_true, Option.isSome_eq_false_iff, Option.isNone_iff_eq_none] at hc
    obtain ⟨hk, ho⟩ := hc
    -- `k` is not taken, so its wrapper has not started, it has got nothing and is in no slot
    have hpc := h.pc_none k hk
    obtain ⟨hgot, hdone⟩ := h.got_nil k (by rw [hpc]; simp)
    have hns : ∀ c, s.slot c ≠ some k := fun c hs => nomatch hk.symm.trans (h.slotOk c k hs).2.1
    refine inv_of_ex s _ k _ h rfl (fun c hs => ?_) (fun p hp => nomatch hpc.symm.trans hp) (fun hg => absurd hgot hg)
      (fun hd => nomatch hdone.symm.trans hd) (fun _ _ => by simp) (fun c j e hs => ?_) (fun j o' e htj hdj ho' => ?_)
      (fun _ => Or.inr)
    · simp only [upd_apply] at hs
      split at hs
      · rename_i e; exact ⟨hpc, rfl, e.symm⟩
      · exact absurd hs (hns c)
    · simp only [upd_apply] at hs
      split at hs
      · exact absurd (Option.some.inj hs).symm e
      · exact hs
    · -- `o` came from the pool, the object of an unfinished exchange has an owner
      have hne : o' ≠ o := fun hoo => by
        have := (h.own j htj hdj).2.1
        rw [ho', hoo, ho] at this
        cases this
      exact ⟨_, if_neg hne⟩

theorem inv_send (s : St) (h : Inv s) (k : Nat) : Inv (step goodProg s (.send k)) := by
  simp only [step]
  split
  · exact h
  · exact inv_of_ex s _ k _ h rfl (fun c => h.slotOk c k) (h.pcOk k) (h.gotOk k) (h.doneOk k) (h.own k)
      (fun _ _ _ => id) (fun _ _ _ _ _ _ => ⟨_, rfl⟩) (fun _ => Or.inr)

theorem inv_read (s : St) (h : Inv s) (c : Nat) : Inv (step goodProg s (.read c)) := by
  simp only [step]
  split
  · exact h
  · split
    · exact { h with }
    · rename_i k hsl
      obtain ⟨hpc, ht, hc⟩ := h.slotOk c k hsl
      have hgot := (h.got_nil k (by rw [hpc]; simp)).1
      refine inv_of_ex s _ k _ h rfl (fun c' hs => ?_) (fun p hp => ?_) (fun hg => absurd hgot hg) (h.doneOk k) (h.own k)
        (fun c' j _ hs => ?_) (fun _ _ _ _ _ _ => ⟨_, rfl⟩) (fun _ => Or.inr)
      · -- the slot of `c` is cleared, and `k`, leased `c`, is in no other slot
        simp only [upd_apply] at hs
        split at hs
        · cases hs
        · rename_i hne; exact absurd ((h.slotOk c' k hs).2.2.symm.trans hc) hne
      · cases hp; exact ⟨Or.inl rfl, ht⟩
      · simp only [upd_apply] at hs
        split at hs
        · cases hs
        · exact hs

theorem inv_finish (s : St) (h : Inv s) (k : Nat) : Inv (step goodProg s (.finish k)) := by
  simp only [step]
  split
  · exact h
  · rename_i hc
    simp only [Bool.or_eq_true, not_or, Bool.not_eq_true, Bool.not_eq_eq_eq_not, Bool.not_true,
      List.isEmpty_eq_false_iff] at hc
    obtain ⟨⟨ht, hd⟩, hg⟩ := hc
    have hown := h.own k (by simpa using ht) hd
    refine inv_of_ex s _ k _ h rfl (fun c => h.slotOk c k) (h.pcOk k) (h.gotOk k) (fun _ => hg) (fun _ hd' => nomatch hd')
      (fun _ _ _ => id) (fun j o e htj hdj ho => ?_) (fun _ => Or.inr)
    -- only `k`'s object changes, and `k` owned it, so an unfinished `j` has another one
    have hne : o ≠ (s.ex k).obj := fun hoo => by
      have := (h.own j htj hdj).2.1
      rw [ho, hoo, hown.2.1] at this
      exact e (Option.some.inj this).symm
    exact ⟨_, if_neg hne⟩

theorem inv_io (s : St) (h : Inv s) (k : Nat) : Inv (step goodProg s (.io k)) := by
  simp only [step]
  split
  · rename_i a p hp
    obtain ⟨hgot, hdone⟩ := h.got_nil k (by rw [hp]; simp)
    obtain ⟨hshape, htaken⟩ := h.pcOk k _ hp
    have hown := h.own k htaken hdone
    have hns : ∀ c, s.slot c ≠ some k := fun c hs => nomatch hp.symm.trans (h.slotOk c k hs).1
    rcases hshape with hs | hs | hs
    · obtain ⟨rfl, rfl⟩ := List.cons.inj hs
      simp only [doDestroy, upd_apply, if_true, hown.2.2.2, upd_upd]
      split
      · -- the generation is live, and `k`'s own (`hown`): the record is good; the object only loses `live`
        refine inv_of_ex s _ k _ h rfl (fun c hs => absurd hs (hns c)) (fun p hp => ?_) (fun hg => absurd hgot hg)
          (h.doneOk k) (fun _ _ => ?_) (fun _ _ _ => id) (fun _ o _ _ _ _ => ?_) (fun r hr => ?_)
        · cases hp; exact ⟨Or.inr (Or.inl rfl), htaken⟩
        · simpa using ⟨hown.1, hown.2.1, hown.2.2.1⟩
        · simp only [upd_apply]
          split
          · rename_i e; exact ⟨false, by rw [e, hown.2.2.2]⟩
          · exact ⟨_, rfl⟩
        · refine (List.mem_cons.mp hr).imp_left fun e => ?_
          subst e
          exact ⟨hown.1, fun c hc => (Option.some.inj hc).symm.trans hown.2.2.1⟩
      · refine inv_of_ex s _ k _ h rfl (fun c hs => absurd hs (hns c)) (fun p hp => ?_) (fun hg => absurd hgot hg)
          (h.doneOk k) (fun _ _ => hown) (fun _ _ _ => id) (fun _ _ _ _ _ _ => ⟨_, rfl⟩) (fun r hr => ?_)
        · cases hp; exact ⟨Or.inr (Or.inl rfl), htaken⟩
        · refine (List.mem_cons.mp hr).imp_left fun e => ?_
          subst e
          exact ⟨hown.1, fun c hc => nomatch hc⟩
    · obtain ⟨rfl, rfl⟩ := List.cons.inj hs
      refine inv_of_ex s _ k _ h rfl (fun c hs => absurd hs (hns c)) (fun p hp => ?_) (fun _ => ?_) (fun _ => by simp)
        (fun _ _ => hown) (fun _ _ _ => id) (fun _ _ _ _ _ _ => ⟨_, rfl⟩) (fun _ => Or.inr)
      · cases hp; exact ⟨Or.inr (Or.inr rfl), htaken⟩
      · simp [hgot]
    · cases hs
  · exact h

theorem inv_step (s : St) (h : Inv s) (e : Ev) : Inv (step goodProg s e) := by
  cases e with
  | take k o => exact inv_take s h k o
  | send k => exact inv_send s h k
  | read c => exact inv_read s h c
  | io k => exact inv_io s h k
  | finish k => exact inv_finish s h k

theorem inv_run (evs : List Ev) (s : St) (h : Inv s) : Inv (run goodProg s evs) :=
  Lemmas.Fold.foldl_inv (P := Inv) (fun s e h => inv_step s h e) evs s h

end MosnVerif.Lemmas.StreamGen
