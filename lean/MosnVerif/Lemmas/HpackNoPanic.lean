import MosnVerif.Lemmas.HpackEmit
/-!
The HPACK header-block decoder (Model/HpackEmit: `Decoder.Write` + `Close` with the emit flag, table lookups
through the regenerated, checked `Decoder.at`) never indexes the static or the dynamic table out of range, on EVERY block,
for every emit callback, from every decoder state whose table is consistent and within 32 bits: the indices come out of
`readVarInt` (< 2^64: the loop stops at shift 63), `lookup` is safe for every uint64 (Lemmas/HpackAt), and every
representation keeps the table bounded.
-/
namespace MosnVerif.Lemmas.HpackNoPanic
open MosnVerif.Model.HpackTable MosnVerif.Model.HpackInt MosnVerif.Model.HpackAt MosnVerif.Model.HpackEmit
open MosnVerif.Lemmas.HpackTable MosnVerif.Lemmas.HpackAt MosnVerif.Lemmas.HpackEmit

/-- one continuation byte adds less than `2^(m+7)` -/
theorem acc_lt (b : UInt8) {i m : Nat} (hi : i < 256 + 2 ^ m - 1) :
    i + (b.toNat % 128) * 2 ^ m < 256 + 2 ^ (m + 7) - 1 := by
  have hmul : (b.toNat % 128) * 2 ^ m ≤ 127 * 2 ^ m := Nat.mul_le_mul_right _ (by omega)
  rw [Nat.pow_add]
  omega

/-- the continuation loop keeps the value below `256 + 2^63`: the loop stops at `m = 63` -/
theorem readCont_lt (p : Bytes) (i m v : Nat) (r : Bytes) (hm : m % 7 = 0) (hm56 : m ≤ 56) (hi : i < 256 + 2 ^ m - 1)
    (h : readCont p i m = .ok (v, r)) : v < 256 + 2 ^ 63 := by
  fun_induction readCont p i m with
  | case1 | case3 => cases h
  | case2 b t i m i' hlt =>
    obtain ⟨rfl, _⟩ := Prod.mk.inj (Except.ok.inj h)
    have hpow : 2 ^ (m + 7) ≤ 2 ^ 63 := Nat.pow_le_pow_right (by decide) (by omega)
    exact Nat.lt_of_lt_of_le (acc_lt b hi) (by omega)
  | case4 b t i m i' hlt m' hlim ih =>
    have hlim : m + 7 < 63 := Nat.not_le.1 hlim
    exact ih (by omega) (by omega) (acc_lt b hi) h
theorem readVarInt_lt (n : Nat) (p : Bytes) (v : Nat) (r : Bytes) (h : readVarInt n p = .ok (v, r)) :
    v < uint64Bound := by
  unfold uint64Bound
  cases p with
  | nil => simp [readVarInt] at h
  | cons b t =>
    simp only [readVarInt] at h
    have hb : b.toNat < 256 := b.toNat_lt
    generalize hi0 : (if n < 8 then b.toNat % 2 ^ n else b.toNat) = i0 at h
    have hi : i0 < 256 := by
      rw [← hi0]; split
      · have := Nat.mod_le b.toNat (2 ^ n); omega
      · omega
    split at h
    · injection h with h; injection h with h1 _; subst h1; omega
    · have := readCont_lt t i0 0 v r (by decide) (by decide) (by omega) h
      omega

/-- the table indices of a representation fit a uint64 (they come out of `readVarInt`) -/
def RepOk : Rep → Prop
  | .indexed i => i < uint64Bound
  | .literal _ ni _ _ => ni < uint64Bound
  | .sizeUpdate _ => True

theorem parseLiteralW_ok (mx : Nat) (w : Bool) (k : LitKind) (buf : Bytes) (a : Rep × Bytes)
    (h : parseLiteralW mx w k buf = .ok a) : RepOk a.1 := by
  revert h
  fun_cases parseLiteralW mx w k buf with
  | case4 ni b2 hv => rintro ⟨⟩; exact readVarInt_lt _ _ _ _ hv
  | _ => nofun

theorem parseOneW_ok (pol : Policy) (emit : Bool) (mx : Nat) (buf : Bytes) (r : Rep) (rest : Bytes)
    (h : parseOneW pol emit mx buf = .ok (r, rest)) : RepOk r := by
  revert h
  fun_cases parseOneW pol emit mx buf with
  | case3 _ _ _ _ idx _ hv => rw [hv]; rintro ⟨⟩; exact readVarInt_lt _ _ _ _ hv
  | case4 | case5 | case6 => exact parseLiteralW_ok _ _ _ _ (r, rest)
  | case8 _ _ _ _ _ _ _ _ size _ hv => rw [hv]; rintro ⟨⟩; trivial
  | _ => simp [*]

/-- what one representation may answer: never the panic of a table access out of range, and a decoder whose table is
still bounded -/
def StepOk : Except XErr (DecE × Option Field) → Prop
  | .ok (d', _) => Bounded d'.base
  | .error e => e ≠ .panic

theorem emitStep_safe (pol : Policy) (d : DecE) (b' : Dec) (f : Field) (hb : Bounded b') : StepOk (emitStep pol d b' f) := by
  unfold emitStep
  cases callEmit d.base f with
  | error e => exact nofun
  | ok u => exact hb.of_eq rfl rfl

/-- one representation: no table access out of range, and the table stays bounded -/
theorem applyP_safe (pol : Policy) (d : DecE) (r : Rep) (hb : Bounded d.base) (hr : RepOk r) : StepOk (d.applyP pol r) := by
  have hlen := bounded_len d.base hb
  cases r with
  | indexed idx =>
    have hno := lookup_no_oob d.base idx hr hlen
    simp only [DecE.applyP]
    cases hl : lookup d.base idx with
    | oob => exact absurd hl hno
    | none => exact nofun
    | some e => exact emitStep_safe pol d d.base _ hb
  | sizeUpdate size =>
    simp only [DecE.applyP]
    split
    · exact nofun
    · split
      · exact nofun
      · rename_i h2
        exact hb.setMaxSize (Nat.le_of_not_lt h2)
  | literal k nameIdx name value =>
    have hno := lookup_no_oob d.base nameIdx hr hlen
    simp only [DecE.applyP]
    have key : ∀ nm : Bytes, ∀ v : Bytes,
        Bounded (if pol.addGuard d.emit (isIndexed k) then { d.base with tab := d.base.tab.add (nm, v) } else d.base) := by
      intro nm v
      split
      · exact hb.add _
      · exact hb
    by_cases hpos : nameIdx > 0
    · simp only [hpos, if_true]
      cases hl : lookup d.base nameIdx with
      | oob => exact absurd hl hno
      | none => exact nofun
      | some e => exact emitStep_safe pol d _ _ (key _ _)
    · simp only [hpos, if_false]
      exact emitStep_safe pol d _ _ (key _ _)

/-- **the header-block decoder never indexes a table out of range**: `Decoder.Write` + `Close` on EVERY block, for every
emit callback (whatever it keeps, whenever it switches emitting off), from every decoder state whose table is consistent
and within 32 bits -/
theorem decodeLoopE_no_panic {σ : Type} (pol : Policy) (cb : Callback σ) (fuel : Nat) (d : DecE) (st : σ) (buf : Bytes)
    (acc : List Field) (hb : Bounded d.base) : decodeLoopE pol cb fuel d st buf acc ≠ .error .panic := by
  fun_induction decodeLoopE pol cb fuel d st buf acc with
  | case1 | case2 | case3 => nofun
  | case4 fuel d st buf acc _ r rest hp e ha =>
    have hs := applyP_safe pol d r hb (parseOneW_ok _ _ _ _ _ _ hp)
    rw [ha] at hs
    rintro ⟨⟩
    exact hs rfl
  | case5 fuel d st buf acc _ r rest hp d' ha ih =>
    have hs := applyP_safe pol d r hb (parseOneW_ok _ _ _ _ _ _ hp)
    rw [ha] at hs
    exact ih hs
  | case6 fuel d st buf acc _ r rest hp d' f st' off _ ha ih =>
    have hs := applyP_safe pol d r hb (parseOneW_ok _ _ _ _ _ _ hp)
    rw [ha] at hs
    exact ih (by split; exact hs.of_eq rfl rfl; exact hs)

theorem decodeFullP_no_panic {σ : Type} (pol : Policy) (cb : Callback σ) (d : DecE) (st : σ) (block : Bytes)
    (hb : Bounded d.base) : d.decodeFullP pol cb st block ≠ .error .panic :=
  decodeLoopE_no_panic pol cb _ d st block [] hb

end MosnVerif.Lemmas.HpackNoPanic
