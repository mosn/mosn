import MosnVerif.Model.FilterInst
import MosnVerif.Lemmas.Fold
/-! Invariants of the many-stream model (filter instances, manager): helper lemmas of C14. -/
namespace MosnVerif.Lemmas.FilterInst
open MosnVerif.Model.FilterInst

theorem setAt_same {β : Type} (f : Nat → β) (a : Nat) (b : β) : setAt f a b a = b := by simp [setAt]
theorem setAt_other {β : Type} (f : Nat → β) (a x : Nat) (b : β) (h : x ≠ a) : setAt f a b x = f x := by simp [setAt, h]

def lc (l : Nat) (acc : Option (List Nat)) (e : Ev) : Option (List Nat) :=
  match e with
  | .upd l' cfg => if l' = l then some cfg else acc
  | _ => acc

theorem lastCfg_eq (l : Nat) (evs : List Ev) : lastCfg l evs = evs.foldl (lc l) none := rfl

theorem step_pub (p : P) (hupd : ∀ o n, p.upd o n = n) (w : W) (e : Ev) (l : Nat) (acc : Option (List Nat))
    (h : w.pub l = acc.map (fun c => c.filter p.known)) :
    (step p w e).pub l = (lc l acc e).map (fun c => c.filter p.known) := by
  cases e with
  | upd l' cfg =>
    simp only [step, stepPub, lc]
    by_cases hl : l' = l
    · subst hl
      cases hp : w.pub l' <;> simp [setAt, hupd]
    · have hl' : l ≠ l' := fun h => hl h.symm
      cases hp : w.pub l' <;> simp [setAt, hl, hl', h]
  | create s l' => simpa [step, stepPub, lc] using h
  | run s => simpa [step, stepPub, lc] using h

theorem foldl_pub (p : P) (hupd : ∀ o n, p.upd o n = n) (l : Nat) :
    ∀ (evs : List Ev) (w : W) (acc : Option (List Nat)), w.pub l = acc.map (fun c => c.filter p.known) →
      (evs.foldl (step p) w).pub l = (evs.foldl (lc l) acc).map (fun c => c.filter p.known) :=
  fun _ _ _ h => List.foldl_rel (r := fun w acc => w.pub l = acc.map fun c => c.filter p.known) h
    fun e _ w acc h => step_pub p hupd w e l acc h

theorem filter_map_fst (f : Nat → Bool) (ch : List (Nat × Nat)) :
    (ch.filter (fun ko => f ko.1)).map (·.1) = (ch.map (·.1)).filter f :=
  List.filter_map.symm

/-- with allocating factories: the chain is the configuration, every object of it is new (index in [n, n')), holds the
handler of `s`, and no older object is touched -/
theorem inst_fresh (p : P) (hf : ∀ k, p.fresh k = true) (s : Nat) :
    ∀ (ks : List Nat) (n : Nat) (h : Nat → Nat),
      (inst p s ks n h).1.map (·.1) = ks ∧ n ≤ (inst p s ks n h).2.1 ∧
      (∀ ko ∈ (inst p s ks n h).1, (inst p s ks n h).2.2 ko.2 = s ∧ ∃ m, ko.2 = 2 * m + 1 ∧ n ≤ m ∧ m < (inst p s ks n h).2.1) ∧
      (∀ m, m < n → (inst p s ks n h).2.2 (2 * m + 1) = h (2 * m + 1)) := by
  intro ks
  induction ks with
  | nil => intro n h; simp [inst]
  | cons k r ih =>
    intro n h
    have ih' := ih (n + 1) (setAt h (2 * n + 1) s)
    obtain ⟨i1, i2, i3, i4⟩ := ih'
    simp only [inst, hf, if_true]
    refine ⟨by simp [i1], by omega, ?_, ?_⟩
    · intro ko hko
      simp only [List.mem_cons] at hko
      rcases hko with rfl | hko
      · refine ⟨?_, n, rfl, Nat.le_refl _, by omega⟩
        rw [i4 n (by omega)]
        exact setAt_same _ _ _
      · obtain ⟨a, m, b, c, d⟩ := i3 ko hko
        exact ⟨a, m, b, by omega, d⟩
    · intro m hm
      rw [i4 m (by omega)]
      apply setAt_other
      omega

theorem runPhase_fresh (p : P) (s : Nat) (handler : Nat → Nat) :
    ∀ (g : List (Nat × Nat)) (log : List Nat), (∀ ko ∈ g, handler ko.2 = s) →
      runPhase p s handler g log =
        (match expPhase (p.deny s) (g.map (·.1)) log with
         | (l', some c) => (some (s, c), l')
         | (l', none) => (none, l')) := by
  intro g
  induction g with
  | nil => intro log _; simp [runPhase, expPhase]
  | cons ko r ih =>
    intro log hh
    have h1 : handler ko.2 = s := hh ko (by simp)
    have h2 : ∀ x ∈ r, handler x.2 = s := fun x hx => hh x (by simp [hx])
    simp only [runPhase, List.map_cons, expPhase]
    cases hd : p.deny s ko.1 with
    | some c => simp [h1]
    | none => simpa using ih (log ++ [ko.1]) h2

/-- a stream whose objects all hold its own handler: the outcome is the reference outcome, and only its own pending slot
is written -/
theorem runFrom_fresh (p : P) (s : Nat) (handler : Nat → Nat) (ch : List (Nat × Nat))
    (hh : ∀ ko ∈ ch, handler ko.2 = s) :
    ∀ (phs : List Nat) (pend : Nat → Option Nat) (log : List Nat), pend s = none →
      (runFrom p s handler ch phs pend log).2 = expFrom p (p.deny s) (ch.map (·.1)) phs log ∧
      ∀ t, t ≠ s → (runFrom p s handler ch phs pend log).1 t = pend t := by
  intro phs
  induction phs with
  | nil => intro pend log _; simp [runFrom, expFrom]
  | cons ph r ih =>
    intro pend log hp
    have hg : ∀ ko ∈ ch.filter (fun ko => p.phase ko.1 == ph), handler ko.2 = s :=
      fun ko hko => hh ko (List.mem_filter.mp hko).1
    have hfm := filter_map_fst (fun k => p.phase k == ph) ch
    simp only [runFrom, expFrom]
    rw [runPhase_fresh p s handler _ log hg, hfm]
    cases he : expPhase (p.deny s) (List.filter (fun k => p.phase k == ph) (ch.map (·.1))) log with
    | mk l' oc =>
      cases oc with
      | some c =>
        simp only [setAt_same]
        exact ⟨by first | rfl | trivial, fun t ht => setAt_other _ _ _ _ ht⟩
      | none =>
        simp only [hp]
        exact ih pend l' hp

/-- the invariant of the stream part under allocating factories -/
structure Inv (p : P) (st : S) : Prop where
  own : ∀ s ch ko, st.chain s = some ch → ko ∈ ch → st.handler ko.2 = s ∧ ∃ m, ko.2 = 2 * m + 1 ∧ m < st.next
  pend : ∀ s, st.out s = none → st.pending s = none
  outc : ∀ s r, st.out s = some r → ∃ ch, st.chain s = some ch ∧ r = expect p s (ch.map (·.1))

theorem inv_init (p : P) : Inv p {} := ⟨by intro s ch ko h; simp at h, by intro s _; rfl, by intro s r h; simp at h⟩

theorem inv_step (p : P) (hf : ∀ k, p.fresh k = true) (pub : Nat → Option (List Nat)) (st : S) (e : Ev)
    (hi : Inv p st) : Inv p (stepS p pub st e) := by
  cases e with
  | upd l cfg => exact hi
  | create s l =>
    simp only [stepS]
    cases hc : st.chain s with
    | some ch => simpa [hc] using hi
    | none =>
      simp only
      obtain ⟨j1, j2, j3, j4⟩ := inst_fresh p hf s ((pub l).getD []) st.next st.handler
      refine ⟨?_, hi.pend, ?_⟩
      · intro s' ch ko hch hko
        dsimp only at hch ⊢
        by_cases hs : s' = s
        · subst hs
          simp only [setAt_same, Option.some.injEq] at hch
          subst hch
          obtain ⟨a, m, b, _, d⟩ := j3 ko hko
          exact ⟨a, m, b, d⟩
        · simp only [setAt_other _ _ _ _ hs] at hch
          obtain ⟨a, m, b, c⟩ := hi.own s' ch ko hch hko
          refine ⟨?_, m, b, by omega⟩
          rw [b, j4 m c, ← b]
          exact a
      · intro s' r hr
        obtain ⟨ch, h1, h2⟩ := hi.outc s' r hr
        have hs : s' ≠ s := by
          intro h; subst h; rw [hc] at h1; cases h1
        exact ⟨ch, by simp only [setAt_other _ _ _ _ hs]; exact h1, h2⟩
  | run s =>
    simp only [stepS]
    cases hc : st.chain s with
    | none => simpa [hc] using hi
    | some ch =>
      cases ho : st.out s with
      | some r => simpa [hc, ho] using hi
      | none =>
        simp only
        have hh : ∀ ko ∈ ch, st.handler ko.2 = s := fun ko hko => (hi.own s ch ko hc hko).1
        obtain ⟨r1, r2⟩ := runFrom_fresh p s st.handler ch hh phases st.pending [] (hi.pend s ho)
        refine ⟨hi.own, ?_, ?_⟩
        · intro s' hs'
          have hne : s' ≠ s := by
            intro h; subst h; simp [setAt_same] at hs'
          simp only [setAt_other _ _ _ _ hne] at hs'
          simp only
          rw [r2 s' hne]
          exact hi.pend s' hs'
        · intro s' r hr
          by_cases hs : s' = s
          · subst hs
            simp only [setAt_same, Option.some.injEq] at hr
            exact ⟨ch, hc, by rw [← hr, r1]; rfl⟩
          · simp only [setAt_other _ _ _ _ hs] at hr
            exact hi.outc s' r hr

theorem inv_foldl (p : P) (hf : ∀ k, p.fresh k = true) :
    ∀ (evs : List Ev) (w : W), Inv p w.st → Inv p (evs.foldl (step p) w).st :=
  Fold.foldl_inv fun w e h => inv_step p hf w.pub w.st e h

/-- the reply of a phase is the first one a filter of it gives -/
theorem expPhase_reply (d : Nat → Option Nat) (g log : List Nat) : (expPhase d g log).2 = g.findSome? d := by
  induction g generalizing log with
  | nil => rfl
  | cons k r ih =>
    simp only [expPhase, List.findSome?_cons]
    cases d k with
    | some c => rfl
    | none => exact ih _

/-- the reply of a request is that of the first phase that gives one -/
theorem expFrom_reply (p : P) (d : Nat → Option Nat) (ids phs log : List Nat) :
    (expFrom p d ids phs log).2 = phs.findSome? fun ph => (ids.filter (fun k => p.phase k == ph)).findSome? d := by
  induction phs generalizing log with
  | nil => rfl
  | cons ph r ih =>
    simp only [expFrom, List.findSome?_cons]
    rw [← expPhase_reply d _ log]
    cases expPhase d (ids.filter (fun k => p.phase k == ph)) log with
    | mk l' oc =>
      cases oc with
      | some c => rfl
      | none => exact ih _

theorem expFrom_deny (p : P) (d : Nat → Option Nat) (ids : List Nat) :
    ∀ (phs log : List Nat) (c : Nat), (expFrom p d ids phs log).2 = some c → ∃ k ∈ ids, d k = some c := by
  intro phs log c h
  rw [expFrom_reply] at h
  obtain ⟨ph, _, h⟩ := List.exists_of_findSome?_eq_some h
  obtain ⟨k, hk, h⟩ := List.exists_of_findSome?_eq_some h
  exact ⟨k, (List.mem_filter.mp hk).1, h⟩

theorem expFrom_none (p : P) (d : Nat → Option Nat) (ids : List Nat) :
    ∀ (phs log : List Nat), (expFrom p d ids phs log).2 = none →
      ∀ k ∈ ids, p.phase k ∈ phs → d k = none := by
  intro phs log h k hk hph
  rw [expFrom_reply, List.findSome?_eq_none_iff] at h
  exact List.findSome?_eq_none_iff.mp (h _ hph) k (List.mem_filter.mpr ⟨hk, beq_self_eq_true _⟩)

theorem chain_persist (p : P) (pub : Nat → Option (List Nat)) (st : S) (e : Ev) (s : Nat) (ch : List (Nat × Nat))
    (h : st.chain s = some ch) : (stepS p pub st e).chain s = some ch := by
  cases e with
  | upd l cfg => exact h
  | create s' l =>
    simp only [stepS]
    cases hc : st.chain s' with
    | some ch' => simpa [hc] using h
    | none =>
      have hs : s ≠ s' := by intro hh; subst hh; rw [hc] at h; cases h
      dsimp only
      rw [setAt_other _ _ _ _ hs]; exact h
  | run s' =>
    simp only [stepS]
    cases hc : st.chain s' with
    | none => simpa [hc] using h
    | some ch' =>
      cases ho : st.out s' with
      | some r => simpa [hc, ho] using h
      | none => simpa [hc, ho] using h

theorem chain_persist_foldl (p : P) (s : Nat) (ch : List (Nat × Nat)) :
    ∀ (evs : List Ev) (w : W), w.st.chain s = some ch → (evs.foldl (step p) w).st.chain s = some ch :=
  Fold.foldl_inv fun w e h => chain_persist p w.pub w.st e s ch h

/-- a stream created on listener `l` after the history `h` has, whatever follows, a chain of the filters published for `l`
after `h` -/
theorem created_chain (p : P) (hf : ∀ k, p.fresh k = true) (h h2 : List Ev) (s l : Nat) (hnew : (exec p h).st.chain s = none) :
    ∃ ch, (exec p (h ++ .create s l :: h2)).st.chain s = some ch ∧ ch.map (·.1) = ((exec p h).pub l).getD [] := by
  refine ⟨_, ?_, (inst_fresh p hf s _ (exec p h).st.next (exec p h).st.handler).1⟩
  have hex : exec p (h ++ .create s l :: h2) = h2.foldl (step p) (step p (exec p h) (.create s l)) := by
    simp [exec, List.foldl_append]
  rw [hex]
  exact chain_persist_foldl p s _ h2 _ (by simp [step, stepS, hnew, setAt_same])

theorem phase_mem (n : Nat) (h : n < 3) : n ∈ phases := by
  have : n = 0 ∨ n = 1 ∨ n = 2 := by omega
  rcases this with rfl | rfl | rfl <;> simp [phases]

end MosnVerif.Lemmas.FilterInst
