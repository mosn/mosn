import MosnVerif.Lemmas.HuffSpec
/-!
`huffmanDecode` (the tree walker `Model.HuffTree.walk`, every expression regenerated) computes the declarative decoder, for
every byte string and every `maxLen`: its feeding loop (`feed_ok`) and its trailing loop (`tail_ok`).
-/
namespace MosnVerif.Lemmas.HuffWalk
open MosnVerif.Gen.Hpack MosnVerif.Gen.HpackHuff MosnVerif.Model.Huffman MosnVerif.Model.HuffTree
open MosnVerif.Lemmas.HuffBits MosnVerif.Lemmas.HuffCode MosnVerif.Lemmas.HuffSpec
open MosnVerif.Lemmas.HuffTreeCheck (nodePaths node_ok root_mem entOk)

/-! ### the regenerated expressions, on the values the walker reaches -/

theorem innerIdx_eq (cur c : Nat) (h8 : 8 ≤ c) (h : c < 256) : decInnerIdx cur c = cur / 2 ^ (c - 8) % 256 := by
  unfold decInnerIdx
  rw [Nat.shiftRight_eq_div_pow]
  have : (c + 256 - 8) % 256 = c - 8 := by omega
  rw [this]

theorem leafBits_eq (c r : Nat) (h : r ≤ c) (hc : c < 256) : decLeafBits c r = c - r := by
  unfold decLeafBits; omega

theorem descBits_eq (c : Nat) (h : 8 ≤ c) (hc : c < 256) : decDescBits c = c - 8 := by
  unfold decDescBits; omega

theorem feedBits_eq (c : Nat) (h : c + 8 < 256) : decFeedBits c = c + 8 := by
  unfold decFeedBits; omega

theorem feedSbits_eq (c : Nat) (h : c + 8 < 256) : decFeedSbits c = c + 8 := by
  unfold decFeedSbits; omega

theorem feed_eq (cur b : Nat) (hb : b < 256) : decFeed cur b = (cur * 256 + b) % 2 ^ 64 := by
  unfold decFeed
  rw [Nat.shiftLeft_eq]
  have e1 : cur * 2 ^ 8 % 18446744073709551616 = 2 ^ 8 * (cur % 2 ^ 56) := by
    rw [show (18446744073709551616 : Nat) = 2 ^ 8 * 2 ^ 56 by decide, Nat.mul_comm cur, Nat.mul_mod_mul_left]
  rw [e1, ← Nat.two_pow_add_eq_or_of_lt (by simpa using hb)]
  have : (cur * 256 + b) % 2 ^ 64 = 2 ^ 8 * (cur % 2 ^ 56) + b := by
    have h1 := Nat.div_add_mod cur (2 ^ 56)
    have h2 := Nat.mod_lt cur (show 0 < 2 ^ 56 by decide)
    have : cur * 256 + b = (2 ^ 8 * (cur % 2 ^ 56) + b) + 2 ^ 64 * (cur / 2 ^ 56) := by omega
    rw [this, Nat.add_mul_mod_self_left, Nat.mod_eq_of_lt]
    omega
  rw [this]

theorem tailIdx_eq (cur c : Nat) (hc : c ≤ 8) : decTailIdx cur c = cur * 2 ^ (8 - c) % 256 := by
  unfold decTailIdx
  have : (8 + 256 - c) % 256 = 8 - c := by omega
  rw [this, Nat.shiftLeft_eq, Nat.mod_mod_of_dvd _ (by decide : 256 ∣ 18446744073709551616)]

theorem mask_eq (c : Nat) (hc : c < 64) : decMask c = 2 ^ c - 1 := by
  unfold decMask
  rw [Nat.shiftLeft_eq, Nat.one_mul]
  have h1 : 2 ^ c < 18446744073709551616 := by
    rw [show (18446744073709551616 : Nat) = 2 ^ 64 by decide]
    exact Nat.pow_lt_pow_right (by decide) hc
  have h2 := Nat.two_pow_pos c
  rw [Nat.mod_eq_of_lt h1]
  have : 2 ^ c + 18446744073709551616 - 1 = (2 ^ c - 1) + 18446744073709551616 := by omega
  rw [this, Nat.add_mod_right, Nat.mod_eq_of_lt (by omega)]

theorem maskBad_eq (cur c : Nat) : decMaskBad cur (2 ^ c - 1) = decide (cur % 2 ^ c ≠ 2 ^ c - 1) := by
  unfold decMaskBad
  rw [Nat.and_two_pow_sub_one_eq_mod]

theorem maxLenHit_iff (maxLen n : Nat) : decMaxLenHit maxLen n = true ↔ (maxLen ≠ 0 ∧ n = maxLen) := by
  unfold decMaxLenHit; simp

/-! ### the bits the walker has read but not yet turned into a symbol -/

/-- the `8d` bits that lead to the current node, then the `cbits` unread bits of `cur` -/
def pend (d pv cur cbits : Nat) : List Bool := bitsOf pv (8 * d) ++ bitsOf cur cbits

theorem pend_root (pv cur c : Nat) : pend 0 pv cur c = bitsOf cur c := by simp [pend, bitsOf_zero]

@[simp] theorem length_pend (d pv cur c : Nat) : (pend d pv cur c).length = 8 * d + c := by simp [pend]

structure Rel (st : WSt) (d pv : Nat) : Prop where
  mem : (st.n, d, pv) ∈ nodePaths
  sb : st.sbits = 8 * d + st.cbits

theorem rel_root (cur c : Nat) (out : Bytes) : Rel { n := 0, cur := cur, cbits := c, sbits := c, out := out } 0 0 :=
  ⟨root_mem, by simp⟩

/-- a byte enters the bit buffer -/
theorem pend_feed (d pv cur c b : Nat) (hb : b < 256) (hc : c + 8 ≤ 64) :
    pend d pv (decFeed cur b) (c + 8) = pend d pv cur c ++ bitsOf b 8 := by
  unfold pend
  rw [List.append_assoc]
  congr 1
  rw [feed_eq cur b hb, bitsOf_mod _ _ _ hc, show (256 : Nat) = 2 ^ 8 by decide, bitsOf_mul_add _ _ _ _ hb]

/-- the lookup index of the main loop is the first eight pending bits -/
theorem innerIdx_bits (cur c : Nat) (h8 : 8 ≤ c) : bitsOf (cur / 2 ^ (c - 8) % 256) 8 = (bitsOf cur c).take 8 := by
  have := take_bitsOf cur 8 (c - 8)
  rw [show 8 + (c - 8) = c by omega] at this
  rw [this, show (256 : Nat) = 2 ^ 8 by decide, bitsOf_mod _ _ _ (Nat.le_refl 8)]

theorem path_child (d pv idx : Nat) (hi : idx < 256) :
    bitsOf (pv * 256 + idx) (8 * (d + 1)) = bitsOf pv (8 * d) ++ bitsOf idx 8 := by
  rw [show 8 * (d + 1) = 8 * d + 8 by omega, show (256 : Nat) = 2 ^ 8 by decide, bitsOf_mul_add _ _ _ _ (by simpa using hi)]

/-- an internal child: one level down, eight bits fewer -/
theorem pend_ptr (d pv cur c : Nat) (h8 : 8 ≤ c) :
    pend (d + 1) (pv * 256 + cur / 2 ^ (c - 8) % 256) cur (c - 8) = pend d pv cur c := by
  have hd := drop_bitsOf cur 8 (c - 8)
  rw [show 8 + (c - 8) = c by omega] at hd
  unfold pend
  rw [path_child _ _ _ (Nat.mod_lt _ (by decide)), innerIdx_bits _ _ h8, ← hd, List.append_assoc, List.take_append_drop]

/-! ### what the kernel-checked tree says about a child -/

/-- a leaf `(sym, r)`: the code of `sym` is the path of the node followed by the first `r` bits of the index -/
theorem child_leaf (n d pv idx sym r : Nat) (hn : (n, d, pv) ∈ nodePaths) (hi : idx < 256)
    (h : huffTree.child n idx = .leaf sym r) :
    sym < 256 ∧ 1 ≤ r ∧ r ≤ 8 ∧ lenOf sym = 8 * d + r ∧ codeBits sym = bitsOf pv (8 * d) ++ (bitsOf idx 8).take r := by
  have := (node_ok n d pv hn).2.2.2 idx hi
  rw [h] at this
  simp only [entOk, Bool.and_eq_true, decide_eq_true_eq, beq_iff_eq] at this
  obtain ⟨⟨⟨⟨hr1, hr8⟩, hs⟩, hlen⟩, hcode⟩ := this
  refine ⟨hs, hr1, hr8, hlen, ?_⟩
  have hlt : idx / 2 ^ (8 - r) < 2 ^ r := by
    rw [Nat.div_lt_iff_lt_mul (Nat.two_pow_pos _), ← Nat.pow_add, show r + (8 - r) = 8 by omega]; exact hi
  have ht := take_bitsOf idx r (8 - r)
  rw [show r + (8 - r) = 8 by omega] at ht
  unfold codeBits
  rw [hlen, hcode, bitsOf_mul_add _ _ _ _ hlt, ht]

theorem ent_ptr (n d pv idx id : Nat) (hn : (n, d, pv) ∈ nodePaths) (hi : idx < 256)
    (h : huffTree.child n idx = .ptr id) : (id, d + 1, pv * 256 + idx) ∈ nodePaths := by
  have := (node_ok n d pv hn).2.2.2 idx hi
  rw [h] at this
  simpa [entOk] using this

theorem ent_none (n d pv idx : Nat) (hn : (n, d, pv) ∈ nodePaths) (hi : idx < 256)
    (h : huffTree.child n idx = .none) : eosBits <+: bitsOf pv (8 * d) ++ bitsOf idx 8 := by
  have := (node_ok n d pv hn).2.2.2 idx hi
  rw [h] at this
  rw [← path_child _ _ _ hi]
  exact prefix_of_isPrefixCode _ _ _ _ this

/-- a leaf whose `r` bits are all pending: both decoders make the same length test and take the same symbol; the walker
goes on (`X`) at the root with `r` bits fewer -/
theorem leaf_step (maxLen : Nat) (st : WSt) (d pv sym r : Nat) (R : List Bool) (hs : sym < 256)
    (hcode : codeBits sym = bitsOf pv (8 * d) ++ (bitsOf st.cur st.cbits).take r) (hrc : r ≤ st.cbits) (h256 : st.cbits < 256)
    (X : WSt → Except HErr WSt) (K : WSt → Except HErr Bytes)
    (hX : ∀ st' : WSt, st'.cbits = st.cbits - r → Rel st' 0 0 →
      (X st').bind K = specRun maxLen (pend 0 0 st'.cur st'.cbits ++ R) st'.out) :
    (if decMaxLenHit maxLen st.out.length then .error .strLen
      else X { st with out := UInt8.ofNat sym :: st.out, cbits := decLeafBits st.cbits r, n := 0,
                       sbits := decLeafSbits (decLeafBits st.cbits r) }).bind K =
      specRun maxLen (pend d pv st.cur st.cbits ++ R) st.out := by
  have hd := drop_bitsOf st.cur r (st.cbits - r)
  rw [show r + (st.cbits - r) = st.cbits by omega] at hd
  have hp : pend d pv st.cur st.cbits = codeBits sym ++ bitsOf st.cur (st.cbits - r) := by
    rw [hcode, List.append_assoc, ← hd, List.take_append_drop]; rfl
  rw [hp, List.append_assoc, specRun_match _ _ _ _ _ (matchSym_code sym hs _), leafBits_eq _ _ hrc h256]
  by_cases hx : decMaxLenHit maxLen st.out.length = true
  · rw [if_pos hx, if_pos ((maxLenHit_iff _ _).1 hx)]; rfl
  · rw [if_neg hx, if_neg (fun h => hx ((maxLenHit_iff _ _).2 h))]
    exact (hX _ rfl ⟨root_mem, by simp [decLeafSbits]⟩).trans (by rw [pend_root])

/-- the `for cbits >= 8` loop followed by `K` computes the declarative decoder on what is pending, if `K` does so on the
states the loop can end in -/
theorem inner_ok (maxLen : Nat) (R : List Bool) (K : WSt → Except HErr Bytes)
    (hK : ∀ st d pv, Rel st d pv → st.cbits < 8 → K st = specRun maxLen (pend d pv st.cur st.cbits ++ R) st.out)
    (fuel : Nat) (st : WSt) (d pv : Nat) (hrel : Rel st d pv) (h16 : st.cbits < 16) (hf : st.cbits < fuel + 8) :
    (inner huffTree maxLen fuel st).bind K = specRun maxLen (pend d pv st.cur st.cbits ++ R) st.out := by
  induction fuel generalizing st d pv with
  | zero => exact hK st d pv hrel (by omega)
  | succ fuel ih =>
    rw [inner]
    by_cases hg : 8 ≤ st.cbits
    · have hgd : decInnerGuard st.cbits = true := by simp [decInnerGuard, hg]
      rw [if_pos hgd, innerIdx_eq _ _ hg (by omega)]
      have hidx : st.cur / 2 ^ (st.cbits - 8) % 256 < 256 := Nat.mod_lt _ (by decide)
      cases hc : huffTree.child st.n (st.cur / 2 ^ (st.cbits - 8) % 256) with
      | none =>
        refine (specRun_eos _ _ _ ?_).symm
        have h1 := ent_none _ _ _ _ hrel.mem hidx hc
        rw [innerIdx_bits _ _ hg] at h1
        exact (h1.trans ((List.prefix_append_right_inj _).2 (List.take_prefix 8 _))).trans (List.prefix_append _ R)
      | leaf sym r =>
        obtain ⟨hs, _, hr8, _, hcode⟩ := child_leaf _ _ _ _ _ _ hrel.mem hidx hc
        rw [innerIdx_bits _ _ hg, List.take_take, Nat.min_eq_left hr8] at hcode
        exact leaf_step maxLen st d pv sym r R hs hcode (by omega) (by omega) _ K
          (fun st' he hr => ih st' 0 0 hr (by omega) (by omega))
      | ptr id =>
        simp only
        rw [descBits_eq _ hg (by omega), ← pend_ptr d pv st.cur st.cbits hg]
        exact ih _ _ _ ⟨ent_ptr _ _ _ _ _ hrel.mem hidx hc, by simp only; rw [hrel.sb]; omega⟩ (by simp only; omega)
          (by simp only; omega)
    · have hgd : ¬ decInnerGuard st.cbits = true := by simp [decInnerGuard]; omega
      rw [if_neg hgd]
      exact hK st d pv hrel (by omega)

theorem feed_cons (maxLen : Nat) (b : UInt8) (r : Bytes) (st : WSt) (K : WSt → Except HErr Bytes) :
    (feed huffTree maxLen (b :: r) st).bind K =
      (inner huffTree maxLen 16 { st with cur := decFeed st.cur b.toNat, cbits := decFeedBits st.cbits,
                                          sbits := decFeedSbits st.sbits }).bind
        fun st' => (feed huffTree maxLen r st').bind K := by
  rw [feed]
  cases inner huffTree maxLen 16 _ <;> rfl

/-- the `for _, b := range v` loop followed by `K`, likewise -/
theorem feed_ok (maxLen : Nat) (K : WSt → Except HErr Bytes)
    (hK : ∀ st d pv, Rel st d pv → st.cbits < 8 → K st = specRun maxLen (pend d pv st.cur st.cbits) st.out)
    (v : Bytes) (st : WSt) (d pv : Nat) (hrel : Rel st d pv) (h8 : st.cbits < 8) :
    (feed huffTree maxLen v st).bind K = specRun maxLen (pend d pv st.cur st.cbits ++ bytesToBits v) st.out := by
  induction v generalizing st d pv with
  | nil =>
    simp only [bytesToBits, List.flatMap_nil, List.append_nil]
    exact hK st d pv hrel h8
  | cons b r ih =>
    have hd := (node_ok _ _ _ hrel.mem).2.1
    have hsb := hrel.sb
    rw [feed_cons, feedBits_eq _ (by omega), feedSbits_eq _ (by omega), bytesToBits_cons, ← List.append_assoc,
      ← pend_feed d pv st.cur st.cbits b.toNat (UInt8.toNat_lt b) (by omega)]
    exact inner_ok maxLen (bytesToBits r) _ (fun st' d' pv' => ih st' d' pv') 16 _ d pv ⟨hrel.mem, by simp only; omega⟩
      (by simp only; omega) (by simp only; omega)

/-! ### the trailing loop and the two padding tests -/

/-- the two final tests of `huffmanDecode` -/
def finish (st : WSt) : Except HErr Bytes :=
  if decSbitsBad st.sbits then .error .invalid
  else if decMaskBad st.cur (decMask st.cbits) then .error .invalid
  else .ok st.out.reverse

theorem finish_spec (maxLen : Nat) (st : WSt) (d pv : Nat) (hrel : Rel st d pv) (h8 : st.cbits < 8)
    (hm : matchSym (pend d pv st.cur st.cbits) = none) :
    finish st = specRun maxLen (pend d pv st.cur st.cbits) st.out := by
  rw [specRun_none _ _ _ hm, length_pend]
  unfold finish decSbitsBad
  have hsb := hrel.sb
  by_cases h7 : st.sbits > 7
  · rw [if_pos (by simpa using h7), if_neg (by omega)]
  · rw [if_neg (by simpa using h7)]
    have hd0 : d = 0 := by omega
    subst hd0
    rw [mask_eq _ (by omega), maskBad_eq, pend_root]
    by_cases hall : st.cur % 2 ^ st.cbits = 2 ^ st.cbits - 1
    · rw [if_neg (by simpa using hall), if_pos ⟨by omega, (bitsOf_all_true _ _).2 hall⟩]
    · rw [if_pos (by simpa using hall), if_neg (fun h => hall ((bitsOf_all_true _ _).1 h.2))]

/-- no code is a prefix of the bits that lead to an internal node -/
theorem nomatch_path (n d pv : Nat) (hn : (n, d, pv) ∈ nodePaths) : matchSym (bitsOf pv (8 * d)) = none := by
  refine matchSym_none _ fun s hs h => ?_
  have hk := node_ok n d pv hn
  have := isPrefixCode_of_prefix _ _ _ _ (wf_sym s hs).2.2 hk.1 h
  rw [hk.2.2.1 s hs] at this
  exact Bool.noConfusion this

/-- the zero-filled lookup index of the trailing loop starts with the unread bits -/
theorem tail_bits (cur c : Nat) (hc : c ≤ 8) : bitsOf (cur * 2 ^ (8 - c) % 256) 8 = bitsOf cur c ++ List.replicate (8 - c) false := by
  rw [show (256 : Nat) = 2 ^ 8 by decide, bitsOf_mod _ _ _ (Nat.le_refl 8)]
  have := bitsOf_mul_add cur 0 c (8 - c) (Nat.two_pow_pos _)
  rw [Nat.add_zero, show c + (8 - c) = 8 by omega, bitsOf_replicate_false] at this
  exact this

/-- what is pending is a prefix of (path, zero-filled lookup index) -/
theorem pend_prefix (d pv cur c : Nat) (hc : c ≤ 8) :
    pend d pv cur c <+: bitsOf pv (8 * d) ++ bitsOf (cur * 2 ^ (8 - c) % 256) 8 := by
  rw [tail_bits _ _ hc]
  exact ⟨List.replicate (8 - c) false, List.append_assoc _ _ _⟩

theorem nomatch_zero (st : WSt) (d pv : Nat) (hrel : Rel st d pv) (h0 : st.cbits = 0) :
    matchSym (pend d pv st.cur st.cbits) = none := by
  rw [h0, pend, bitsOf_zero, List.append_nil]
  exact nomatch_path _ _ _ hrel.mem

theorem nomatch_ptr (st : WSt) (d pv id : Nat) (hrel : Rel st d pv) (h8 : st.cbits ≤ 8)
    (hc : huffTree.child st.n (st.cur * 2 ^ (8 - st.cbits) % 256) = .ptr id) :
    matchSym (pend d pv st.cur st.cbits) = none :=
  matchSym_none_of_prefix (path_child _ _ _ (Nat.mod_lt _ (by decide)) ▸ pend_prefix d pv st.cur st.cbits h8)
    (nomatch_path _ _ _ (ent_ptr _ _ _ _ _ hrel.mem (Nat.mod_lt _ (by decide)) hc))

theorem nomatch_leaf (st : WSt) (d pv sym r : Nat) (hrel : Rel st d pv) (h8 : st.cbits ≤ 8)
    (hc : huffTree.child st.n (st.cur * 2 ^ (8 - st.cbits) % 256) = .leaf sym r) (hr : r > st.cbits) :
    matchSym (pend d pv st.cur st.cbits) = none := by
  apply matchSym_none
  intro s hs hp
  obtain ⟨hs', _, _, hlen, hcode⟩ := child_leaf _ _ _ _ _ _ hrel.mem (Nat.mod_lt _ (by decide)) hc
  -- what is pending is a proper prefix of the leaf's code
  have hpre : pend d pv st.cur st.cbits <+: codeBits sym := by
    rw [hcode, tail_bits _ _ h8, List.take_append, List.take_of_length_le (by rw [length_bitsOf]; omega)]
    exact ⟨_, List.append_assoc _ _ _⟩
  have := code_unique s sym (by omega) (by omega) _ (by rw [bitsAt_sym s hs]; exact hp.trans hpre)
    (by rw [bitsAt_sym sym hs']; exact List.prefix_rfl)
  subst this
  have := hp.length_le
  rw [length_codeBits, length_pend, hlen] at this
  omega

theorem tail_ok (maxLen : Nat) (fuel : Nat) (st : WSt) (d pv : Nat) (hrel : Rel st d pv) (h8 : st.cbits < 8)
    (hf : st.cbits ≤ fuel) :
    (tail huffTree maxLen fuel st).bind finish = specRun maxLen (pend d pv st.cur st.cbits) st.out := by
  induction fuel generalizing st d pv with
  | zero =>
    simp only [tail, Except.bind]
    exact finish_spec maxLen st d pv hrel h8 (nomatch_zero st d pv hrel (by omega))
  | succ fuel ih =>
    rw [tail]
    by_cases hc0 : st.cbits = 0
    · have : ¬ decTailGuard st.cbits = true := by simp [decTailGuard, hc0]
      rw [if_neg this]
      simp only [Except.bind]
      exact finish_spec maxLen st d pv hrel h8 (nomatch_zero st d pv hrel hc0)
    · have : decTailGuard st.cbits = true := by simp [decTailGuard]; omega
      rw [if_pos this, tailIdx_eq _ _ (by omega)]
      have hidx : st.cur * 2 ^ (8 - st.cbits) % 256 < 256 := Nat.mod_lt _ (by decide)
      cases hc : huffTree.child st.n (st.cur * 2 ^ (8 - st.cbits) % 256) with
      | none =>
        simp only [Except.bind]
        have he := ent_none _ _ _ _ hrel.mem hidx hc
        rw [specRun_none _ _ _ (matchSym_none_of_prefix (pend_prefix d pv st.cur st.cbits (by omega)) (matchSym_eos _ he)), if_neg]
        have hl := he.length_le
        rw [length_eosBits, List.length_append, length_bitsOf, length_bitsOf] at hl
        rw [length_pend]
        omega
      | ptr id =>
        simp only [decTailBreak, Bool.true_or, if_true, Except.bind]
        exact finish_spec maxLen st d pv hrel h8 (nomatch_ptr st d pv id hrel (by omega) hc)
      | leaf sym r =>
        simp only
        by_cases hr : r > st.cbits
        · have : decTailBreak false r st.cbits = true := by simp [decTailBreak, hr]
          rw [if_pos this]
          simp only [Except.bind]
          exact finish_spec maxLen st d pv hrel h8 (nomatch_leaf st d pv sym r hrel (by omega) hc hr)
        · have : ¬ decTailBreak false r st.cbits = true := by simp [decTailBreak]; omega
          rw [if_neg this]
          obtain ⟨hs, _, _, _, hcode⟩ := child_leaf _ _ _ _ _ _ hrel.mem hidx hc
          rw [tail_bits _ _ (by omega), List.take_append_of_le_length (by rw [length_bitsOf]; omega)] at hcode
          have := leaf_step maxLen st d pv sym r [] hs hcode (by omega) (by omega) _ finish
            (fun st' he hr => by
              rw [List.append_nil]
              exact ih st' 0 0 hr (by omega) (by omega))
          rw [List.append_nil] at this
          exact this

theorem walk_unfold (maxLen : Nat) (v : Bytes) :
    walk maxLen v = (feed huffTree maxLen v WSt.init).bind (fun st => (tail huffTree maxLen 9 st).bind finish) := by
  unfold walk
  cases feed huffTree maxLen v WSt.init with
  | error e => rfl
  | ok st =>
    simp only [Except.bind]
    cases tail huffTree maxLen 9 st with
    | error e => rfl
    | ok st' => rfl

/-! ### HuffmanEncodeLength -/

theorem lenSum_le (s : Bytes) : (s.map (fun c => lenOf c.toNat)).sum ≤ 30 * s.length := by
  induction s with
  | nil => simp
  | cons c s ih =>
    have := (wf_sym c.toNat (UInt8.toNat_lt c)).2.1
    simp only [List.map_cons, List.sum_cons, List.length_cons]
    omega

theorem encLen_fold (s : Bytes) (n : Nat) (h : n + 30 * s.length < 2 ^ 64) :
    s.foldl (fun n c => encLenTerm n (lenOf c.toNat)) n = n + (s.map (fun c => lenOf c.toNat)).sum := by
  induction s generalizing n with
  | nil => simp
  | cons c s ih =>
    have hl := (wf_sym c.toNat (UInt8.toNat_lt c)).2.1
    simp only [List.foldl_cons, List.map_cons, List.sum_cons, List.length_cons] at h ⊢
    have e : encLenTerm n (lenOf c.toNat) = n + lenOf c.toNat := by
      unfold encLenTerm
      exact Nat.mod_eq_of_lt (by omega)
    rw [e, ih _ (by omega)]
    omega

/-- `HuffmanEncodeLength` is `⌈Σ codeLen / 8⌉` (no uint64 wrap-around below 2^58 bytes) -/
theorem goEncodeLen_eq (s : Bytes) (h : s.length < 2 ^ 58) : goEncodeLen s = encodeLen s := by
  unfold goEncodeLen encodeLen
  rw [encLen_fold s 0 (by omega), Nat.zero_add]
  unfold encLenRound
  have := lenSum_le s
  rw [Nat.mod_eq_of_lt (by omega)]

end MosnVerif.Lemmas.HuffWalk
