import MosnVerif.Lemmas.HealthFlags
import MosnVerif.Model.HealthRegistry
import MosnVerif.Lemmas.Fold
/-! Allocation of the shared word: the registry invariant `WInv`, the per-address view as a configuration of
`Model.HealthFlags` (`view_run`), and the executable predicate on the model's observation (`holds_observe`). -/
namespace MosnVerif.Model.HealthRegistry
open MosnVerif.Gen.HealthFlags (Atom Prog PtrAtom)
open MosnVerif.Model.HealthFlags

/-- the registry invariant: every registered pointer is allocated, two addresses never share a word, and a host object
that has its pointer holds the REGISTERED word of its address -/
structure WInv (w : World) : Prop where
  bound : ∀ a id, w.reg.lookup a = some id → id < w.heap.length
  inj : ∀ a b id, w.reg.lookup a = some id → w.reg.lookup b = some id → a = b
  ptr : ∀ t ∈ w.threads, ∀ id, t.ptr = some id → w.reg.lookup t.addr = some id

theorem safe_no_store (PP : List PtrAtom) (hs : SafePP PP = true) (k : Nat) : PP[k]? ≠ some .storeRet := by
  intro h
  have hm : PtrAtom.storeRet ∈ PP := List.mem_of_getElem? h
  have := (List.all_eq_true.mp hs) _ hm
  simp at this

/-- the three things one scheduler step of a thread can be, for a pointer program without a blind `Store`:
quiet (nothing shared changes; a pointer the thread receives is the REGISTERED one of its address), the registration of
a fresh word for an address that had none, or one atomic access of the thread's word. -/
theorem hthread_step_cases (PP : List PtrAtom) (P : Op → Prog) (hs : SafePP PP = true) (reg : Reg) (heap : List Word)
    (t : HThread) :
    (t.ptr = none ∧ ∃ t', t.step PP P reg heap = (reg, heap, t') ∧ t'.addr = t.addr ∧ t'.th = t.th ∧
      ∀ id, t'.ptr = some id → reg.lookup t.addr = some id) ∨
    (t.ptr = none ∧ reg.lookup t.addr = none ∧ t.step PP P reg heap =
      ((t.addr, heap.length) :: reg, heap ++ [Gen.HealthFlags.ptrFresh], { t with ptr := some heap.length })) ∨
    (∃ id, t.ptr = some id ∧ t.step PP P reg heap =
      (reg, heap.set id (t.th.step P (heap[id]?.getD 0)).1, { t with th := (t.th.step P (heap[id]?.getD 0)).2.1 })) := by
  -- the branches of `HThread.step` in the order of its definition
  fun_cases HThread.step PP P reg heap t with
  | case1 hp => exact .inl ⟨hp, _, rfl, rfl, rfl, fun _ h => nomatch hp.symm.trans h⟩
  | case2 hp _ id hl => exact .inl ⟨hp, _, rfl, rfl, rfl, fun _ h => Option.some.inj h ▸ hl⟩
  | case3 hp => exact .inl ⟨hp, _, rfl, rfl, rfl, fun _ h => nomatch hp.symm.trans h⟩
  | case4 _ hpp => exact absurd hpp (safe_no_store PP hs _)
  | case5 hp _ id hl => exact .inl ⟨hp, _, rfl, rfl, rfl, fun _ h => Option.some.inj h ▸ hl⟩
  | case6 hp _ hl => exact .inr (.inl ⟨hp, hl, rfl⟩)
  | case7 id hp => exact .inr (.inr ⟨id, hp, rfl⟩)

theorem lookup_cons_ne (a b : Addr) (id : Nat) (reg : Reg) (h : b ≠ a) :
    List.lookup b ((a, id) :: reg) = List.lookup b reg := by
  have : (b == a) = false := by simp [h]
  simp [List.lookup, this]

theorem threads_step_length (PP : List PtrAtom) (P : Op → Prog) (w : World) (i : Nat) :
    (w.step PP P i).threads.length = w.threads.length := by
  unfold World.step
  cases w.threads[i]? <;> simp

theorem winv_step (PP : List PtrAtom) (P : Op → Prog) (hs : SafePP PP = true) (w : World) (i : Nat) (hw : WInv w) :
    WInv (w.step PP P i) := by
  unfold World.step
  cases hti : w.threads[i]? with
  | none => exact hw
  | some t =>
    rcases hthread_step_cases PP P hs w.reg w.heap t with ⟨_, t', e, h3, _, h6⟩ | ⟨_, h2, e⟩ | ⟨id, _, e⟩ <;> simp only [e]
    · exact ⟨hw.bound, hw.inj, Lemmas.Schedule.forall_mem_set hw.ptr i (h3 ▸ h6)⟩
    · -- registration of a fresh word: an entry of the new registry is the new one or an old one
      have hreg : ∀ b id, List.lookup b ((t.addr, w.heap.length) :: w.reg) = some id →
          (b = t.addr ∧ id = w.heap.length) ∨ (w.reg.lookup b = some id ∧ id < w.heap.length) := by
        intro b id
        by_cases hb : b = t.addr
        · subst hb; rw [List.lookup_cons_self]; intro h; cases h; exact .inl ⟨rfl, rfl⟩
        · rw [lookup_cons_ne _ _ _ _ hb]; exact fun h => .inr ⟨h, hw.bound b id h⟩
      refine ⟨fun a id h => ?_, fun a b id ha hb => ?_, Lemmas.Schedule.forall_mem_set (fun t' hm id hid => ?_) i fun _ h => ?_⟩
      · rw [List.length_append, List.length_singleton]
        rcases hreg a id h with ⟨_, rfl⟩ | ⟨_, h⟩ <;> omega
      · rcases hreg a id ha with ⟨rfl, rfl⟩ | ⟨ha, hlt⟩ <;> rcases hreg b _ hb with ⟨rfl, hid⟩ | ⟨hb, hlt'⟩
        · rfl
        · omega
        · omega
        · exact hw.inj a b id ha hb
      · have hold := hw.ptr t' hm id hid
        rw [lookup_cons_ne _ _ _ _ fun he => nomatch (he ▸ hold).symm.trans h2]; exact hold
      · cases h; exact List.lookup_cons_self
    · exact ⟨by simpa using hw.bound, hw.inj, Lemmas.Schedule.forall_mem_set hw.ptr i (hw.ptr t (List.mem_of_getElem? hti))⟩

theorem run_eq_foldl (PP : List PtrAtom) (P : Op → Prog) (w : World) (s : List Nat) :
    w.run PP P s = s.foldl (World.step PP P) w := by
  induction s generalizing w <;> simp [World.run, *]

theorem winv_run (PP : List PtrAtom) (P : Op → Prog) (hs : SafePP PP = true) (w : World) (hw : WInv w) (s : List Nat) :
    WInv (w.run PP P s) :=
  run_eq_foldl .. ▸ Lemmas.Fold.foldl_inv (winv_step PP P hs) s w hw

/-- a registry the initial world may start from: allocated, injective -/
structure RegOK (reg : Reg) (heap : List Word) : Prop where
  bound : ∀ a id, reg.lookup a = some id → id < heap.length
  inj : ∀ a b id, reg.lookup a = some id → reg.lookup b = some id → a = b

theorem regOK_nil : RegOK [] [] := ⟨by simp [List.lookup], by simp [List.lookup]⟩

theorem winv_init (reg : Reg) (heap : List Word) (h : RegOK reg heap) (specs : List (Addr × List Op)) :
    WInv (World.init reg heap specs) :=
  ⟨h.bound, h.inj, List.forall_mem_map.mpr fun _ _ _ hid => nomatch hid⟩

/-! ### the view of one address is a configuration of `Model.HealthFlags`, and the world steps it -/

/-- replacing thread `i` by one with the same address and the same Set/Clear state does not change any view -/
theorem view_threads_same (a : Addr) (l : List HThread) (i : Nat) (t t' : HThread) (h : l[i]? = some t)
    (haddr : t'.addr = t.addr) (hth : t'.th = t.th ∨ t.addr ≠ a) :
    (l.set i t').map (fun t => if t.addr = a then t.th else idle) = l.map (fun t => if t.addr = a then t.th else idle) := by
  rw [List.map_set]
  apply set_same
  rw [List.getElem?_map, h]
  rcases hth with hth | hne
  · simp [haddr, hth]
  · simp [haddr, hne]

theorem view_step (PP : List PtrAtom) (P : Op → Prog) (hs : SafePP PP = true) (w : World) (hw : WInv w) (a : Addr) (i : Nat) :
    (w.step PP P i).view a = if w.flagStep a i = true then ((w.view a).step P i).1 else w.view a := by
  unfold World.step World.flagStep
  cases hti : w.threads[i]? with
  | none => simp
  | some t =>
    rcases hthread_step_cases PP P hs w.reg w.heap t with ⟨h1, t', e, h3, h4, _⟩ | ⟨h1, h2, e⟩ | ⟨id, h1, e⟩ <;>
      simp only [e, h1, Option.isSome_none, Bool.and_false, Bool.false_eq_true, if_false, World.view, World.wordOf]
    · -- quiet
      rw [view_threads_same a w.threads i t _ hti h3 (Or.inl h4)]
    · -- registration of a fresh word: the word of every address is what it was
      rw [view_threads_same a w.threads i t _ hti (by rfl) (Or.inl (by rfl))]
      congr 1
      by_cases ha : a = t.addr
      · subst ha
        rw [List.lookup_cons_self, h2]
        simp
      · rw [lookup_cons_ne _ _ _ _ ha]
        cases hl : List.lookup a w.reg with
        | none => rfl
        | some id' =>
          have := hw.bound a id' hl
          simp [List.getElem?_append_left this]
    · -- an atomic access of the thread's word
      have hreg : w.reg.lookup t.addr = some id := hw.ptr t (List.mem_of_getElem? hti) id h1
      have hid : id < w.heap.length := hw.bound _ _ hreg
      by_cases ha : t.addr = a
      · subst ha
        simp [Config.step, List.getElem?_map, hti, hreg, List.map_set, hid]
      · have hne : (t.addr == a) = false := by simp [ha]
        simp only [hne, Bool.false_and, Bool.false_eq_true, if_false]
        rw [view_threads_same a w.threads i t _ hti (by rfl) (Or.inr ha)]
        congr 1
        cases hl : List.lookup a w.reg with
        | none => rfl
        | some id' =>
          have hne' : id ≠ id' := fun he => ha (hw.inj _ _ _ hreg (he ▸ hl))
          simp [List.getElem?_set_ne hne']

/-- **simulation**: under every schedule, what the host objects of address `a` do to the word of `a` is a run of the
one-word model `Model.HealthFlags` on the view of `a`, under the sub-schedule of the accesses of that word -/
theorem view_run (PP : List PtrAtom) (P : Op → Prog) (hs : SafePP PP = true) (w : World) (hw : WInv w) (a : Addr)
    (s : List Nat) :
    (w.run PP P s).view a = (w.view a).run P (w.flagSched PP P a s) := by
  induction s generalizing w with
  | nil => rfl
  | cons i s ih =>
    simp only [World.run, World.flagSched]
    rw [ih _ (winv_step PP P hs w i hw), view_step PP P hs w hw a i, run_append]
    by_cases hf : w.flagStep a i = true
    · simp [hf, Config.run]
    · simp [hf, Config.run]

theorem run_threads_length (PP : List PtrAtom) (P : Op → Prog) (w : World) (s : List Nat) :
    (w.run PP P s).threads.length = w.threads.length :=
  run_eq_foldl .. ▸ Lemmas.Fold.foldl_frame (·.threads.length) _ s (fun i _ w => threads_step_length PP P w i) w

theorem step_addr (PP : List PtrAtom) (P : Op → Prog) (w : World) (i : Nat) :
    (w.step PP P i).threads.map (·.addr) = w.threads.map (·.addr) := by
  unfold World.step
  cases hti : w.threads[i]? with
  | none => rfl
  | some t =>
    simp only [List.map_set]
    apply set_same
    rw [List.getElem?_map, hti]
    -- no branch of a thread's step writes its address
    fun_cases HThread.step PP P w.reg w.heap t <;> rfl

theorem run_addr (PP : List PtrAtom) (P : Op → Prog) (w : World) (s : List Nat) :
    (w.run PP P s).threads.map (·.addr) = w.threads.map (·.addr) :=
  run_eq_foldl .. ▸ Lemmas.Fold.foldl_frame (·.threads.map (·.addr)) _ s (fun i _ w => step_addr PP P w i) w

theorem init_addr (reg : Reg) (heap : List Word) (specs : List (Addr × List Op)) :
    (World.init reg heap specs).threads.map (·.addr) = specs.map (·.1) := by
  simp [World.init, HThread.init, Function.comp_def]

/-! ### the declarative sequential check accepts every linearization -/

theorem totalOps_eq_sum (pend : List (List Op)) : totalOps pend = (pend.map List.length).sum := by
  induction pend with
  | nil => rfl
  | cons l r ih => simp only [totalOps, ih, List.map_cons, List.sum_cons]

theorem totalOps_set (pend : List (List Op)) (t : Nat) (op : Op) (r : List Op) (h : pend[t]? = some (op :: r)) :
    totalOps pend = totalOps (pend.set t r) + 1 := by
  have := Lemmas.Fold.sum_map_set List.length pend t _ r h
  rw [totalOps_eq_sum, totalOps_eq_sum]
  simp only [List.length_cons] at this
  omega

theorem seqCheck_of_log (log : List (Nat × Op)) (pend : List (List Op)) (w : Word)
    (hp : ∀ j, proj j log = pend[j]?.getD []) :
    seqCheck (totalOps pend + 1) pend w (applyAll w log) = true := by
  induction log generalizing pend w with
  | nil =>
    simp only [seqCheck, Bool.or_eq_true, Bool.and_eq_true]
    left
    refine ⟨?_, by simp [applyAll]⟩
    rw [List.all_eq_true]
    intro l hl
    obtain ⟨j, hj, rfl⟩ := List.getElem_of_mem hl
    have := hp j
    rw [List.getElem?_eq_getElem hj] at this
    simp only [proj_nil, Option.getD_some] at this
    simp [← this]
  | cons e rest ih =>
    obtain ⟨t, op⟩ := e
    have ht := hp t
    rw [proj_cons] at ht
    simp only [if_true] at ht
    have hpt : pend[t]? = some (op :: proj t rest) := by
      cases hq : pend[t]? with
      | none => rw [hq] at ht; simp at ht
      | some l => rw [hq] at ht; simp only [Option.getD_some] at ht; rw [ht]
    have hlt : t < pend.length := (List.getElem?_eq_some_iff.mp hpt).1
    simp only [seqCheck, Bool.or_eq_true]
    right
    rw [List.any_eq_true]
    refine ⟨t, by simp [hlt], ?_⟩
    simp only [hpt]
    have hfin : applyAll w ((t, op) :: rest) = applyAll (op.ref w) rest := by
      show applyAll (op.apply w) rest = _
      rw [apply_eq_ref]
    rw [hfin, totalOps_set pend t op _ hpt]
    apply ih
    intro j
    by_cases hj : t = j
    · subst hj; simp [hlt]
    · have := hp j
      rw [proj_cons] at this
      simp only [hj, if_false] at this
      rw [this]; simp [hj]

/-! ### the observation of a completed world satisfies the executable predicate -/

theorem ptrFresh_zero : Gen.HealthFlags.ptrFresh = 0 := rfl

theorem health_eq (x : Word) : health x = (x == 0) := by
  simp only [health, Gen.HealthFlags.health]
  cases h : (x == 0#64) <;> simp_all

theorem or_and_self (x p : Word) : (x ||| p) &&& p = p := by
  apply BitVec.eq_of_getLsbD_eq
  intro i _
  simp only [BitVec.getLsbD_and, BitVec.getLsbD_or]
  cases x.getLsbD i <;> cases p.getLsbD i <;> rfl

theorem contain_probe_set (x : Word) : Gen.HealthFlags.containFlag (x ||| probeFlag) probeFlag = true := by
  simp only [Gen.HealthFlags.containFlag, or_and_self]
  decide

theorem health_probe_set (x : Word) : health (x ||| probeFlag) = false := by
  simp only [health, Gen.HealthFlags.health, decide_eq_false_iff_not]
  intro h
  have := or_and_self x probeFlag
  rw [h] at this
  exact absurd this (by decide)

theorem contain_probe_clear (x : Word) (h : x &&& probeFlag = 0) : Gen.HealthFlags.containFlag x probeFlag = false := by
  simp only [Gen.HealthFlags.containFlag, h]
  decide

theorem set_probe_apply (x : Word) : Op.apply (.set probeFlag) x = x ||| probeFlag := rfl

/-- in a completed world every host object holds the registered word of its address -/
theorem done_ptr (w : World) (hw : WInv w) (hd : w.done = true) (t : HThread) (ht : t ∈ w.threads) :
    ∃ id, t.ptr = some id ∧ w.reg.lookup t.addr = some id ∧ id < w.heap.length ∧ w.hostWord t = w.wordOf t.addr := by
  have := (List.all_eq_true.mp hd) t ht
  simp only [Bool.and_eq_true] at this
  cases hp : t.ptr with
  | none => rw [hp] at this; simp at this
  | some id =>
    have hl := hw.ptr t ht id hp
    exact ⟨id, rfl, hl, hw.bound _ _ hl, by simp [World.hostWord, World.wordOf, hp, hl]⟩

/-- one cell of the probe: after a condition was set THROUGH host object `ti`, host object `tj` sees it exactly when
it is of the same address -/
theorem probe_cell (w : World) (hw : WInv w) (hd : w.done = true) (ti tj : HThread) (hti : ti ∈ w.threads)
    (htj : tj ∈ w.threads) (idi : Nat) (hi : ti.ptr = some idi) :
    ({ w with heap := w.heap.set idi (Op.apply (.set probeFlag) (w.heap[idi]?.getD 0)) } : World).hostWord tj =
      if ti.addr = tj.addr then w.hostWord tj ||| probeFlag else w.hostWord tj := by
  obtain ⟨idi', hi', hli, hbi, _⟩ := done_ptr w hw hd ti hti
  rw [hi] at hi'; cases hi'
  obtain ⟨idj, hj, hlj, hbj, _⟩ := done_ptr w hw hd tj htj
  simp only [World.hostWord, hj, set_probe_apply]
  by_cases ha : ti.addr = tj.addr
  · have : idi = idj := by rw [ha, hlj] at hli; cases hli; rfl
    subst this
    simp [ha, hbi]
  · have hne : idi ≠ idj := by
      intro he; subst he
      exact ha (hw.inj _ _ _ hli hlj)
    simp [ha, List.getElem?_set_ne hne]

/-- the observation of a completed world in which the word of every address is explained by the calls made through all
host objects of the address satisfies the executable predicate -/
theorem holds_observe (specs : List (Addr × List Op)) (w0 : Addr → Word) (w : World) (hw : WInv w) (hd : w.done = true)
    (haddr : w.threads.map (·.addr) = specs.map (·.1))
    (hlin : ∀ a, seqCheck (totalOps (callsOf specs a) + 1) (callsOf specs a) (w0 a) (w.wordOf a) = true) :
    holds specs w0 w.observe = true := by
  have hlen : w.threads.length = specs.length := by simpa using congrArg List.length haddr
  have addr_at : ∀ (k : Nat) (t : HThread) (sp : Addr × List Op), w.threads[k]? = some t → specs[k]? = some sp → t.addr = sp.1 := by
    intro k t sp h1 h2
    have := congrArg (·[k]?) haddr
    simpa [h1, h2] using this
  have get {α : Type} (l : List α) (k : Nat) (h : k < l.length) : ∃ x, l[k]? = some x := ⟨l[k], List.getElem?_eq_getElem h⟩
  simp only [holds, World.observe, List.length_map, hlen, beq_self_eq_true, Bool.true_and, List.all_eq_true,
    List.mem_range]
  intro i hi
  obtain ⟨si, hsi⟩ := get specs i hi
  obtain ⟨ti, hti⟩ := get w.threads i (hlen ▸ hi)
  have hai := addr_at i ti si hti hsi
  have hmi : ti ∈ w.threads := List.mem_of_getElem? hti
  obtain ⟨idi, hpi, _, _, hwi⟩ := done_ptr w hw hd ti hmi
  simp only [hsi, List.getElem?_map, hti, Option.map_some, List.length_map, hlen, beq_self_eq_true, Bool.and_true,
    Bool.and_eq_true, List.all_eq_true, List.mem_range]
  refine ⟨⟨?_, ?_⟩, ?_⟩
  · rw [health_eq]; simp
  · rw [hwi, hai]; exact hlin si.1
  · intro j hj
    obtain ⟨sj, hsj⟩ := get specs j hj
    obtain ⟨tj, htj⟩ := get w.threads j (hlen ▸ hj)
    have haj := addr_at j tj sj htj hsj
    have hmj : tj ∈ w.threads := List.mem_of_getElem? htj
    obtain ⟨idj, _, _, _, hwj⟩ := done_ptr w hw hd tj hmj
    simp only [hsj, htj, Option.map_some, hpi]
    rw [probe_cell w hw hd ti tj hmi hmj idi hpi, hai, haj]
    by_cases ha : si.1 = sj.1
    · have hww : w.hostWord ti = w.hostWord tj := by rw [hwi, hwj, hai, haj, ha]
      simp [ha, hww, contain_probe_set, health_probe_set]
    · simp only [ha, if_false, Bool.and_eq_true, Bool.or_eq_true]
      refine ⟨Or.inl (by simp [ha]), ?_⟩
      by_cases hg : w.hostWord tj &&& probeFlag = 0
      · right
        rw [contain_probe_clear _ hg, health_eq]
        simp [ha]
      · left; simp only [bne_iff_ne, ne_eq]; exact hg

/-- The pointer program of the current source never overwrites an entry of `healthStore`.  This is the lemma that stops
compiling when the regenerated step program of `GetHealthFlagPointer` contains a blind `Store` (e.g. "Load, and on a miss
allocate + Store"). -/
theorem genPP_safe : SafePP genPP = true := by decide

/-- the view of the initial world IS the initial configuration of the one-word model: the calls of the host objects of
the address over the address' word, host objects of other addresses idle -/
theorem init_view (reg : Reg) (heap : List Word) (specs : List (Addr × List Op)) (a : Addr) :
    (World.init reg heap specs).view a = Config.init ((World.init reg heap specs).wordOf a) (callsOf specs a) := by
  simp only [World.view, World.init, Config.init, callsOf, List.map_map]
  congr 1
  apply List.map_congr_left
  intro sp _
  by_cases h : sp.1 = a <;> simp [h, HThread.init, Thread.init, idle]

theorem init_wordOf (reg : Reg) (heap : List Word) (specs : List (Addr × List Op)) (a : Addr) :
    (World.init reg heap specs).wordOf a = match reg.lookup a with
      | some id => heap[id]?.getD 0
      | none => 0 := by
  simp only [World.wordOf, World.init, ptrFresh_zero]
  cases List.lookup a reg <;> rfl

theorem done_view (w : World) (h : w.done = true) (a : Addr) : (w.view a).done = true := by
  simp only [Config.done, World.view, List.all_map, List.all_eq_true]
  intro t ht
  have := (List.all_eq_true.mp h) t ht
  simp only [Bool.and_eq_true] at this
  by_cases ha : t.addr = a <;> simp [ha, this.2, idle]

/-- an entry of `healthStore` is never replaced: later lookups of the address see the same word -/
theorem reg_stable_step (PP : List PtrAtom) (P : Op → Prog) (hs : SafePP PP = true) (a : Addr) (id : Nat) (w : World)
    (i : Nat) (h : w.reg.lookup a = some id) : (w.step PP P i).reg.lookup a = some id := by
  unfold World.step
  cases hti : w.threads[i]? with
  | none => exact h
  | some t =>
    rcases hthread_step_cases PP P hs w.reg w.heap t with ⟨_, _, e, _⟩ | ⟨_, h2, e⟩ | ⟨_, _, e⟩ <;> simp only [e]
    · exact h
    · rw [lookup_cons_ne _ _ _ _ fun he => nomatch (he ▸ h).symm.trans h2]; exact h
    · exact h

theorem reg_stable_run (PP : List PtrAtom) (P : Op → Prog) (hs : SafePP PP = true) (w : World) (s : List Nat) (a : Addr)
    (id : Nat) (h : w.reg.lookup a = some id) : (w.run PP P s).reg.lookup a = some id :=
  run_eq_foldl .. ▸ Lemmas.Fold.foldl_inv (reg_stable_step PP P hs a id) s w h

/-! ### a completing schedule exists from every initial world (non-vacuity of "runs to completion"): a thread without a
word costs the map operations its pointer program has left, a thread with its word its remaining calls, and a thread scheduled
alone lowers its cost: by one map operation, or by one call within three steps -/

/-- a pointer program that always returns a word: its last operation is `LoadOrStore` -/
def TermPP (PP : List PtrAtom) : Bool := PP.getLast? == some .loadOrStoreRet

def HThread.cost (PP : List PtrAtom) (t : HThread) : Nat :=
  (if t.ptr.isSome then 0 else 1 + (PP.length - t.ppc)) + t.th.ops.length

theorem world_run_append (PP : List PtrAtom) (P : Op → Prog) (w : World) (a b : List Nat) :
    w.run PP P (a ++ b) = (w.run PP P a).run PP P b := by
  simp only [run_eq_foldl, List.foldl_append]

theorem world_step_at (PP : List PtrAtom) (P : Op → Prog) (w : World) (i : Nat) (t : HThread) (h : w.threads[i]? = some t) :
    w.step PP P i = ⟨(t.step PP P w.reg w.heap).1, (t.step PP P w.reg w.heap).2.1,
      w.threads.set i (t.step PP P w.reg w.heap).2.2⟩ := by
  simp [World.step, h]

/-- one map operation of a thread that has no pointer yet lowers its cost, and the thread stays inside the pointer program:
it has a pointer afterwards, or a `Load` missed and another operation follows, because the program ends with `LoadOrStore` -/
theorem ptr_step (PP : List PtrAtom) (P : Op → Prog) (hs : SafePP PP = true) (ht : TermPP PP = true) (reg : Reg)
    (heap : List Word) (t : HThread) (hp : t.ptr = none) (hlt : t.ppc < PP.length) :
    (t.step PP P reg heap).2.2.th = t.th ∧ HThread.cost PP (t.step PP P reg heap).2.2 < HThread.cost PP t ∧
    ((t.step PP P reg heap).2.2.ptr = none → (t.step PP P reg heap).2.2.ppc < PP.length) := by
  fun_cases HThread.step PP P reg heap t with
  | case1 _ hpp => exact absurd hlt (Nat.not_lt.mpr (List.getElem?_eq_none_iff.mp hpp))
  | case2 => exact ⟨rfl, by simp [HThread.cost, hp]; omega, nofun⟩
  | case3 _ hpp =>
    -- a missed `Load` is not the last operation
    have hlt' : t.ppc + 1 < PP.length := by
      simp only [TermPP, beq_iff_eq, List.getLast?_eq_getElem?] at ht
      rcases Nat.lt_or_ge (t.ppc + 1) PP.length with h | h
      · exact h
      · rw [show PP.length - 1 = t.ppc by omega, hpp] at ht
        cases ht
    exact ⟨rfl, by simp [HThread.cost, hp]; omega, fun _ => hlt'⟩
  | case4 _ hpp => exact absurd hpp (safe_no_store PP hs _)
  | case5 => exact ⟨rfl, by simp [HThread.cost, hp]; omega, nofun⟩
  | case6 => exact ⟨rfl, by simp [HThread.cost, hp]; omega, nofun⟩
  | case7 id hp' => exact nomatch hp.symm.trans hp'

/-- a host object that has its word, scheduled alone: its thread runs alone against that word -/
theorem world_run_replicate (PP : List PtrAtom) (P : Op → Prog) (n i : Nat) (w : World) (t : HThread) (id : Nat)
    (hi : w.threads[i]? = some t) (hp : t.ptr = some id) (hid : id < w.heap.length) :
    w.run PP P (List.replicate n i) =
      ⟨w.reg, w.heap.set id (t.th.solo P n (w.heap[id]?.getD 0)).1,
       w.threads.set i { t with th := (t.th.solo P n (w.heap[id]?.getD 0)).2 }⟩ := by
  induction n generalizing w t with
  | zero =>
    rw [Thread.solo, set_same _ _ _ hi, set_same _ _ _ (by rw [List.getElem?_eq_getElem hid]; rfl)]; rfl
  | succ n ih =>
    have hs : w.step PP P i = ⟨w.reg, w.heap.set id (t.th.step P (w.heap[id]?.getD 0)).1,
        w.threads.set i { t with th := (t.th.step P (w.heap[id]?.getD 0)).2.1 }⟩ := by
      rw [world_step_at PP P w i t hi]; simp only [HThread.step, hp]
    rw [List.replicate_succ, World.run, hs,
      ih _ { t with th := (t.th.step P (w.heap[id]?.getD 0)).2.1 } (getElem?_set_of_some _ _ _ _ hi) hp (by simpa using hid)]
    simp only [List.set_set, List.getElem?_set_self hid, Option.getD_some, Thread.solo]

/-- reachable worlds: the registry invariant, every Set/Clear thread in a control state of the CAS loop, every host object
without a word still inside the pointer program -/
structure Ready (PP : List PtrAtom) (w : World) : Prop where
  inv : WInv w
  pc : ∀ t ∈ w.threads, t.th.pc ≤ 1
  ppc : ∀ t ∈ w.threads, t.ptr = none → t.ppc < PP.length

/-- **from every reachable world some schedule runs every thread to completion** (pointer program without a blind
`Store` that ends with `LoadOrStore`; CAS-loop shape of Set/Clear): a thread without its word performs its next map
operation (`ptr_step`), a thread with its word completes its next call (`solo_call`) -/
theorem exists_complete_world (PP : List PtrAtom) (hs : SafePP PP = true) (ht : TermPP PP = true) (w : World)
    (hw : Ready PP w) : ∃ s, (w.run PP casLoopP s).done = true := by
  obtain ⟨s, h⟩ := Lemmas.Schedule.exists_run_cost_zero World.threads (World.run PP casLoopP) (HThread.cost PP) (Ready PP)
    (fun _ => rfl) (world_run_append PP casLoopP) (fun w i t hw hi hpos => by
      have hmem : t ∈ w.threads := List.mem_of_getElem? hi
      have ready : ∀ (s : List Nat) (t' : HThread), (w.run PP casLoopP s).threads = w.threads.set i t' → t'.th.pc ≤ 1 →
          (t'.ptr = none → t'.ppc < PP.length) → Ready PP (w.run PP casLoopP s) := fun s t' e h1 h2 =>
        ⟨winv_run PP casLoopP hs w hw.inv s, e ▸ Lemmas.Schedule.forall_mem_set hw.pc i h1,
          e ▸ Lemmas.Schedule.forall_mem_set hw.ppc i h2⟩
      cases hp : t.ptr with
      | none =>
        have hlt := hw.ppc _ hmem hp
        have e : (w.run PP casLoopP [i]).threads = w.threads.set i (t.step PP casLoopP w.reg w.heap).2.2 := by
          simp [World.run, world_step_at PP casLoopP w i t hi]
        obtain ⟨hth, hcost, hin⟩ := ptr_step PP casLoopP hs ht w.reg w.heap t hp hlt
        exact ⟨_, _, e, hcost, ready _ _ e (hth ▸ hw.pc _ hmem) hin⟩
      | some id =>
        obtain ⟨addr, _, ppc, ⟨_ | ⟨op, rest⟩, pc, r0⟩⟩ := t <;> cases hp
        · simp [HThread.cost] at hpos
        · obtain ⟨n, r', hn⟩ := solo_call (w.heap[id]?.getD 0) op rest pc r0 (hw.pc _ hmem)
          have e := world_run_replicate PP casLoopP n i w _ id hi rfl (hw.inv.bound _ _ (hw.inv.ptr _ hmem id rfl))
          rw [hn] at e
          exact ⟨_, ⟨addr, some id, ppc, ⟨rest, 0, r'⟩⟩, by rw [e], by simp [HThread.cost],
            ready _ _ (by rw [e]) (Nat.zero_le 1) fun h => nomatch (h : some id = none)⟩) _ w hw rfl
  refine ⟨s, List.all_eq_true.mpr fun t ht => ?_⟩
  have := h t ht
  simp only [HThread.cost] at this
  cases hp : t.ptr.isSome
  · simp [hp] at this
  · simpa [hp] using this

theorem genPP_term : TermPP genPP = true := by decide

theorem ready_init (reg : Reg) (heap : List Word) (hreg : RegOK reg heap) (specs : List (Addr × List Op)) :
    Ready genPP (World.init reg heap specs) :=
  ⟨winv_init reg heap hreg specs, List.forall_mem_map.mpr fun _ _ => Nat.zero_le 1,
    List.forall_mem_map.mpr fun _ _ _ => (by decide : 0 < genPP.length)⟩

end MosnVerif.Model.HealthRegistry
