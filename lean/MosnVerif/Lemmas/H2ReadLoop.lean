import MosnVerif.Model.H2ReadLoop
import MosnVerif.Lemmas.TurnLoop
/-! A top-level ReadFrame stays inside the buffered bytes, and the HTTP/2 dispatch loop returns: a turn that goes round
again drained at least the 9 bytes of a frame header. -/
namespace MosnVerif.Lemmas.H2ReadLoop
open MosnVerif.Model.H2ReadLoop MosnVerif.Gen.FrameLen MosnVerif.Gen.FrameConsts MosnVerif.Gen.C08H2Loop

theorem hdrOf_ok (buf : Bytes) (h : 9 ≤ buf.length) : ∃ fh, hdrOf buf = .ok fh := by
  unfold hdrOf
  have hall : (h2c_hdrIdx.all (fun k => decide (k < buf.length)) &&
      h2c_hdrU32.all (fun k => decide (k + 4 ≤ buf.length))) = true := by
    simp [h2c_hdrIdx, h2c_hdrU32]; omega
  rw [if_pos hall]
  exact ⟨_, rfl⟩

/-- the header read never leaves the buffered bytes; a header that was read lies inside them -/
theorem readHdr_spec (b : Bytes) (off : Nat) :
    readHdr b off ≠ .oob ∧ ∀ h, readHdr b off = .ok h → off + 9 ≤ b.length := by
  unfold readHdr
  simp only [h2_hdrShort, h2c_hdrSliceLo]
  by_cases h1 : b.length < off + 9
  · simp [h1]
  · have h2 : ¬ b.length < off := by omega
    simp only [h1, decide_false, h2, if_false, Bool.false_eq_true]
    obtain ⟨fh, hf⟩ := hdrOf_ok (b.drop off) (by rw [List.length_drop]; omega)
    rw [hf]
    refine ⟨by simp, ?_⟩
    intro h _
    omega

theorem one_spec (mx : Nat) (o : Orc) (b : Bytes) (off : Nat) :
    one mx o b off ≠ .oob ∧
    (∀ h, (one mx o b off = .ok h ∨ one mx o b off = .stream h) → off + h2_size h.len ≤ b.length) := by
  have hs := readHdr_spec b off
  -- behind the completeness test the frame is buffered: the payload slice is in range
  have hin (h : FH) (hr : readHdr b off = .ok h) (hi : ¬h2_incomplete h.len b.length off = true) :
      off + h2_size h.len ≤ b.length := by
    have := hs.2 h hr
    simp only [h2_incomplete, h2_size, decide_eq_true_eq] at hi ⊢
    omega
  fun_cases one mx o b off with
  | case2 hr => exact absurd hr hs.1
  | case5 h hr _ hi hoob =>
    have := hin h hr hi
    rw [Bool.or_eq_true, decide_eq_true_eq, decide_eq_true_eq] at hoob
    simp only [h2c_payHi, h2c_payLo, h2_size] at hoob this
    omega
  | case8 h hr _ hi | case9 h hr _ hi => exact ⟨nofun, fun h' hh => by rcases hh with hh | hh <;> cases hh; exact hin h hr hi⟩
  | _ => exact ⟨nofun, fun _ hh => hh.elim nofun nofun⟩

theorem contLoop_spec (mx : Nat) (o : Orc) (b : Bytes) (off0 sid : Nat) (fuel ms : Nat) :
    contLoop mx o b off0 sid fuel ms ≠ .oob ∧
      (∀ ms', contLoop mx o b off0 sid fuel ms = .ok ms' → ms ≤ ms' ∧ off0 + ms' ≤ b.length) ∧
      (∀ ms', contLoop mx o b off0 sid fuel ms = .stream ms' → ms' = 0) := by
  fun_induction contLoop mx o b off0 sid fuel ms with
  | case3 fuel ms ho => exact absurd ho (one_spec mx o b _).1
  | case5 => exact ⟨nofun, nofun, by rintro _ ⟨⟩; rfl⟩
  | case7 fuel ms h ho _ _ =>
    have hb := (one_spec mx o b _).2 h (Or.inl ho)
    simp only [h2c_contOff] at hb
    exact ⟨nofun, by rintro _ ⟨⟩; omega, nofun⟩
  | case8 fuel ms h ho _ _ ih =>
    have hb := (one_spec mx o b _).2 h (Or.inl ho)
    simp only [h2c_contOff] at hb
    exact ⟨ih.1, fun ms' hm => by have := ih.2.1 ms' hm; omega, ih.2.2⟩
  | _ => exact ⟨nofun, nofun, nofun⟩

theorem size_ge (n : Nat) : 9 ≤ h2_size n := by simp [h2_size]

/-- what is shown of every answer of a top-level ReadFrame on `len` buffered bytes -/
def RFOk (len : Nat) : RF → Prop
  | .oob => False
  | .frame k | .stream k => 9 ≤ k ∧ k ≤ len
  | _ => True

theorem RFOk.spec {len : Nat} {r : RF} (h : RFOk len r) :
    r ≠ .oob ∧ ∀ k, (r = .frame k ∨ r = .stream k) → 9 ≤ k ∧ k ≤ len := by
  cases r <;> exact ⟨by rintro ⟨⟩ <;> exact h, fun k hk => by rcases hk with hk | hk <;> cases hk <;> exact h⟩

/-- a top-level ReadFrame never reads out of range; a frame and a stream error consumed ≥ 9 buffered bytes -/
theorem readFrame_spec (mx : Nat) (o : Orc) (b : Bytes) :
    readFrame mx o b ≠ .oob ∧
    (∀ k, (readFrame mx o b = .frame k ∨ readFrame mx o b = .stream k) → 9 ≤ k ∧ k ≤ b.length) := by
  refine RFOk.spec ?_
  unfold readFrame
  have hs := one_spec mx o b 0
  have hsd : ∀ n, streamDrain n = n := by intro n; simp [streamDrain, h2_streamErrDrains]
  cases ho : one mx o b 0 with
  | again => trivial
  | oob => exact absurd ho hs.1
  | conn => trivial
  | stream h =>
    have hb := hs.2 h (Or.inr ho)
    simp only [hsd]
    exact ⟨size_ge h.len, by omega⟩
  | ok h =>
    have hb := hs.2 h (Or.inl ho)
    have h9 := size_ge h.len
    simp only
    by_cases h1 : h.ty = http2_FrameContinuation
    · rw [if_pos h1]; trivial
    · rw [if_neg h1]
      by_cases h2 : h.ty = http2_FrameHeaders
      · rw [if_pos h2]
        -- a header block whose CONTINUATION frames (`ms` bytes behind the HEADERS frame) are all buffered
        have hgroup : ∀ ms, h2_size h.len + ms ≤ b.length →
            RFOk b.length (match o.group (b.take (h2_size h.len + ms)) with
              | .conn => .conn
              | .stream => .stream (streamDrain (h2_drain (h2_size h.len) ms))
              | .ok => .frame (h2_drain (h2_size h.len) ms)) := by
          intro ms hle
          simp only [hsd, h2_drain]
          cases o.group _ with
          | conn => trivial
          | stream => exact ⟨by omega, hle⟩
          | ok => exact ⟨by omega, hle⟩
        by_cases he : endHeaders h = true
        · rw [if_pos he]
          exact hgroup 0 (by omega)
        · rw [if_neg he]
          obtain ⟨c1, c2, c3⟩ := contLoop_spec mx o b (h2c_metaOff 0 (h2_size h.len)) h.sid b.length 0
          cases hc : contLoop mx o b (h2c_metaOff 0 (h2_size h.len)) h.sid b.length 0 with
          | again => trivial
          | oob => exact absurd hc c1
          | conn => trivial
          | stream ms =>
            cases c3 ms hc
            simp only [hsd, h2_drain]
            exact ⟨by omega, by omega⟩
          | ok ms =>
            have := (c2 ms hc).2
            simp only [h2c_metaOff] at this
            exact hgroup ms (by omega)
      · rw [if_neg h2]
        have hd : h2_drains h.ty = true := by
          simp only [h2_drains, decide_eq_true_eq]
          simpa [http2_FrameContinuation] using h1
        rw [if_pos hd]
        exact ⟨by simp only [h2_drain]; omega, by simp only [h2_drain]; omega⟩

theorem run_sound (p : Policy) (dec : Nat → Bytes → DStep) :
    ∀ (fuel : Nat) (c c' : Cfg), run p dec fuel c = some c' → Returns p dec c c' :=
  TurnLoop.sound (fun _ => rfl) (fun _ _ => rfl) (fun _ => .done) (fun _ _ => .more)

/-- the variant: a turn that goes round again drained ≥ 9 bytes that were buffered -/
theorem turn_measure (p : Policy) (dec : Nat → Bytes → DStep) (hp : p.Safe) (hd : Progress dec) (c : Cfg)
    (ha : (turn p dec c).2 = true) :
    (turn p dec c).1.buf.length + 9 ≤ c.buf.length ∧ 9 ≤ (dec c.calls c.buf).drained := by
  obtain ⟨h1, h2⟩ := hp
  have hpr := hd c.calls c.buf _ rfl
  unfold turn at ha ⊢
  simp only at ha ⊢
  cases hs : dec c.calls c.buf with
  | again k => simp [hs, Policy.again, h1] at ha
  | conn k => simp [hs, Policy.again, h2] at ha
  | stream k =>
    have := hpr k (Or.inr hs)
    simp [DStep.drained, List.length_drop]
    omega
  | frame k =>
    have := hpr k (Or.inl hs)
    simp [DStep.drained, List.length_drop]
    omega

theorem turn_calls (p : Policy) (dec : Nat → Bytes → DStep) (c : Cfg) :
    (turn p dec c).1.calls = c.calls + 1 ∧ (turn p dec c).1.buf.length ≤ c.buf.length := by
  simp [turn, List.length_drop]

/-- Dispatch returns within `|buf|/9 + 1` turns (= Decode calls) and never enlarges the buffer -/
theorem run_terminates (p : Policy) (dec : Nat → Bytes → DStep) (hp : p.Safe) (hd : Progress dec) :
    ∀ (n : Nat) (c : Cfg), c.buf.length / 9 ≤ n →
      ∃ c', run p dec (n + 1) c = some c' ∧ c'.calls ≤ c.calls + c.buf.length / 9 + 1 ∧ c'.buf.length ≤ c.buf.length := by
  refine TurnLoop.total (turn := turn p dec) (fun _ _ => rfl) _ _
    (fun c ht => ?_) (fun c _ => ?_) (fun c c' ht hq => ?_)
  · have := (turn_measure p dec hp hd c ht).1
    omega
  · have := turn_calls p dec c
    exact ⟨by omega, this.2⟩
  · have := (turn_measure p dec hp hd c ht).1
    have := (turn_calls p dec c).1
    exact ⟨by omega, by omega⟩

/-- a configuration that a turn reproduces (apart from the call counter) with "again" is never left -/
theorem fixed_point_diverges (p : Policy) (dec : Nat → Bytes → DStep) (buf : Bytes)
    (hfix : ∀ k, (turn p dec ⟨buf, k⟩) = (⟨buf, k + 1⟩, true)) :
    ∀ c0 c', Returns p dec c0 c' → c0.buf = buf → False := by
  intro c0 c' h
  induction h with
  | @done c1 hf =>
    rintro rfl
    rw [hfix c1.calls] at hf
    cases hf
  | @more c1 c2 _ _ ih =>
    rintro rfl
    exact ih (by rw [hfix c1.calls])

theorem ofRF_frame {r : RF} {k : Nat} (h : ofRF r = .frame k) : r = .frame k := by
  cases r <;> cases h <;> rfl

theorem ofRF_stream {r : RF} {k : Nat} (h : ofRF r = .stream k) : r = .stream k := by
  cases r <;> cases h <;> rfl

/-- the frame decoder (every read limit, every behaviour of the parsers / header validation) makes progress -/
theorem frameDec_progress (mx : Nat) (o : Orc) : Progress (frameDec mx o) := by
  intro i b s hs k hk
  subst hs
  exact (readFrame_spec mx o b).2 k (hk.imp ofRF_frame ofRF_stream)

end MosnVerif.Lemmas.H2ReadLoop
