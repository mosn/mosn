import MosnVerif.Lemmas.CheckedGo
import MosnVerif.Gen.C08HpackRead
/-! HPACK `readVarInt` REGENERATED as a checked-access program (Gen/C08HpackRead; the continuation loop is a
`whileLoop` over the state (p, i, m)): for every prefix size 1..8 and EVERY byte string it makes no access outside the
bytes it was given (its `panic("bad n")` and the loop's fuel bound are unreachable), consumes at least one byte when it
succeeds, never more than it was given, and nothing when it fails. -/
namespace MosnVerif.Lemmas.HpackRead
open MosnVerif.Model.CheckedGo MosnVerif.Gen.C08HpackRead

/-- what `readVarInt` answers: without error at least one byte was consumed and never more than were given; with an
error nothing is consumed (`remain = p`) -/
def VarIntSpec (p : Bytes) (r : Int × Bytes × Err) : Prop :=
  (r.2.2 = Err.nil → len r.2.1 < len p) ∧ (r.2.2 ≠ Err.nil → r.2.1 = p)

theorem varInt_error {p : Bytes} {v : Int} {e : Err} (he : e ≠ Err.nil) : VarIntSpec p (v, p, e) :=
  ⟨fun h => absurd h he, fun _ => rfl⟩

theorem varInt_value {p r : Bytes} {v : Int} (h : len r < len p) : VarIntSpec p (v, r, Err.nil) :=
  ⟨fun _ => h, fun h => absurd rfl h⟩

theorem readVarInt_spec (n : Int) (p : Bytes) (h1 : 1 ≤ n) (h8 : n ≤ 8) : (hpk_readVarInt n p).Safe (VarIntSpec p) := by
  unfold hpk_readVarInt
  refine Safe.ite (fun h => ?_) (fun _ => Safe.ite (fun _ => Safe.ok (varInt_error nofun)) (fun h => ?_))
  · simp only [Bool.or_eq_true, decide_eq_true_eq] at h
    omega
  have hp : 1 ≤ len p := by have := len_nonneg p; simp at h; omega
  refine Safe.bind (Safe.idx (Int.le_refl 0) (by omega)) (fun _ _ => ?_)
  extract_lets _ _ _ continued
  suffices h : ∀ i, (continued i).Safe (VarIntSpec p) from Safe.ite (fun _ => h _) (fun _ => h _)
  intro i
  -- both ways the first byte is taken off: `len q = len p - 1`
  refine Safe.ite (fun _ => Safe.bind (Safe.slc (by omega) hp (Int.le_refl _)) (fun _ hq => Safe.ok (varInt_value (by omega))))
    (fun _ => Safe.bind (Safe.slc (by omega) hp (Int.le_refl _)) (fun q hq => ?_))
  -- the continuation loop: what is left stays shorter than `p`, and each round takes one byte off it
  refine Safe.whileLoop (fun cs : Bytes × Int × Int => len cs.1 < len p) (fun cs => cs.1.length)
    (fun s next hI hc hnext => ?_) (fun _ _ _ => ?_) _ _ (by dsimp only; omega) (by simp only [len]; omega)
  case refine_2 => exact Safe.ok (varInt_error nofun)
  have hs : 1 ≤ len s.1 := by simp at hc; omega
  refine Safe.bind (Safe.idx (Int.le_refl 0) (by omega)) (fun _ _ => ?_)
  refine Safe.bind (Safe.slc (by omega) hs (Int.le_refl _)) (fun r hr => ?_)
  refine Safe.ite (fun _ => Safe.ok (varInt_value (by omega)))
    (fun _ => Safe.ite (fun _ => Safe.ok (varInt_error nofun)) (fun _ => hnext _ (by dsimp only; omega) ?_))
  have := hr.2
  simp only [len] at this ⊢
  omega

end MosnVerif.Lemmas.HpackRead
