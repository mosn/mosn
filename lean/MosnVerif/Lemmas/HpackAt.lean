import MosnVerif.Model.HpackAt
/-! `Decoder.at` with checked access never leaves its tables: the regenerated comparison structure, for EVERY uint64. -/
namespace MosnVerif.Lemmas.HpackAt
open MosnVerif.Gen.HpackAt MosnVerif.Model.HpackTable MosnVerif.Model.HpackAt

theorem wrapU64_of_range {x : Int} (h0 : 0 ≤ x) (h1 : x < 18446744073709551616) : wrapU64 x = x :=
  Int.emod_eq_of_lt h0 h1

theorem wrapS64_of_range {x : Int} (h0 : -9223372036854775808 ≤ x) (h1 : x < 9223372036854775808) : wrapS64 x = x := by
  unfold wrapS64
  omega

/-- the regenerated `at` on table lengths `sl` (static) and `dl` (dynamic), for every uint64 argument: no entry for 0
and beyond the last index, `staticTable.ents[i-1]` up to `sl`, `dt.ents[dl-(i-sl)]` above — every index in range.
(`sl + dl < 2^63`: Go slice lengths are ints.)  Every conversion of the Go text is applied to a value inside the range of
its type — `int64(i)` only behind `i ≤ maxTableIndex` — so none of them wraps. -/
theorem tableAt_spec (sl dl i : Int) (hs : 0 ≤ sl) (hd : 0 ≤ dl) (hsum : sl + dl < 9223372036854775808)
    (hi0 : 0 ≤ i) (hi : i < 18446744073709551616) :
    tableAt sl dl i =
      if i = 0 ∨ sl + dl < i then .none
      else if i ≤ sl then .entry .static (i - 1).toNat else .entry .dyn (dl - (i - sl)).toNat := by
  unfold tableAt maxTableIndex
  rw [wrapU64_of_range hs (by omega), wrapS64_of_range (x := dl + sl) (by omega) (by omega),
    wrapU64_of_range (x := dl + sl) (by omega) (by omega)]
  simp only [decide_eq_true_eq]
  by_cases h0 : i = 0
  · rw [if_pos h0, if_pos (.inl h0)]
  rw [if_neg h0, wrapU64_of_range (x := i - 1) (by omega) (by omega)]
  by_cases h1 : i ≤ sl
  · rw [if_pos h1, if_neg (by omega), if_pos h1, chkIdx, if_pos (by omega)]
  rw [if_neg h1]
  by_cases h2 : i > dl + sl
  · rw [if_pos h2, if_pos (by omega)]
  · rw [if_neg h2, if_neg (by omega), if_neg h1, wrapS64_of_range (x := i) (by omega) (by omega),
      wrapS64_of_range (x := i - sl) (by omega) (by omega), wrapS64_of_range (x := dl - (i - sl)) (by omega) (by omega),
      chkIdx, if_pos (by omega)]

/-- the regenerated, checked `at` IS the table lookup of `Model/HpackTable` (`Dec.at`, which the table-synchronisation
theorems of C18 are about), for every uint64 index: in particular it never reads out of range. -/
theorem lookup_eq (d : Dec) (i : Nat) (hi : i < uint64Bound) (hlen : d.tab.ents.length + staticLen < 9223372036854775808) :
    lookup d i = Look.ofOption (d.at i) := by
  unfold lookup Dec.at
  rw [tableAt_spec (staticLen : Nat) (d.tab.ents.length : Nat) (i : Nat) (by omega) (by omega) (by omega) (by omega)
    (by unfold uint64Bound at hi; omega)]
  clear hi hlen
  simp only [Int.natCast_eq_zero, ← Int.natCast_add, Int.ofNat_lt, Int.ofNat_le]
  by_cases h0 : i = 0
  · rw [if_pos (.inl h0), if_pos h0]; rfl
  rw [if_neg h0]
  by_cases h1 : i ≤ staticLen
  · have hlt : i - 1 < staticEntries.length := by unfold staticLen at h1; omega
    rw [if_neg (by omega), if_pos h1, if_pos h1, show ((i : Int) - 1).toNat = i - 1 by omega]
    simp only [List.getElem?_eq_getElem hlt, Look.ofOption]
  by_cases h2 : i > d.tab.ents.length + staticLen
  · rw [if_pos (.inr (by omega)), if_neg h1, if_pos h2]; rfl
  · have hlt : d.tab.ents.length - (i - staticLen) < d.tab.ents.length := by omega
    rw [if_neg (by omega), if_neg h1, if_neg h1, if_neg h2,
      show ((d.tab.ents.length : Int) - ((i : Int) - (staticLen : Int))).toNat = d.tab.ents.length - (i - staticLen) by omega]
    simp only [List.getElem?_eq_getElem hlt, Look.ofOption]

/-- **no out-of-range access**, for every uint64 index and every table -/
theorem lookup_no_oob (d : Dec) (i : Nat) (hi : i < uint64Bound) (hlen : d.tab.ents.length + staticLen < 9223372036854775808) :
    lookup d i ≠ .oob := by
  rw [lookup_eq d i hi hlen]
  cases d.at i <;> nofun

/-- `Decoder.at` finds no entry exactly for 0 and beyond the last table entry -/
theorem at_none_iff (d : Dec) (i : Nat) : d.at i = none ↔ (i = 0 ∨ d.tab.ents.length + staticLen < i) := by
  unfold Dec.at
  by_cases h0 : i = 0
  · simp [h0]
  by_cases h1 : i ≤ staticLen
  · have hlt : i - 1 < staticEntries.length := by unfold staticLen at h1; omega
    simp only [h0, h1, if_false, if_true, List.getElem?_eq_getElem hlt, false_or, reduceCtorEq, false_iff]
    omega
  by_cases h2 : i > d.tab.ents.length + staticLen
  · simp [h0, h1, h2]
  · have hlt : d.tab.ents.length - (i - staticLen) < d.tab.ents.length := by omega
    simp [h0, h1, h2, List.getElem?_eq_getElem hlt]

/-- an index is refused (`InvalidIndexError`) exactly when it is 0 or beyond the last table entry -/
theorem lookup_none_iff (d : Dec) (i : Nat) (hi : i < uint64Bound) (hlen : d.tab.ents.length + staticLen < 9223372036854775808) :
    lookup d i = .none ↔ (i = 0 ∨ d.tab.ents.length + staticLen < i) := by
  rw [lookup_eq d i hi hlen, ← at_none_iff]
  cases d.at i <;> simp [Look.ofOption]

end MosnVerif.Lemmas.HpackAt
