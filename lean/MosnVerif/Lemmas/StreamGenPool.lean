import MosnVerif.Lemmas.StreamGen
/-! The pool half of the stream-generation invariant: the pool hypothesis `PoolHyp` and the wire facts `WireInv` hold
along every schedule of the pool as Model/StreamGen has it (LIFO idle list, lease at `take`, give-back by the
DestroyStream of the generation the pool client listens on). -/
namespace MosnVerif.Lemmas.StreamGen
open MosnVerif.Model.StreamGen MosnVerif.Gen.RecvOrder

/-- exchange `e` holds its connection: leased at `take`, its wrapper has not run DestroyStream yet -/
def holds (e : Ex) : Prop := e.taken = true ∧ (e.pc = none ∨ e.pc = some [.destroy, .deliver])

/-- the pool hypothesis: what C09 proves of the real pools, in this model's vocabulary.
`idleFree`: an idle connection is leased to nobody (C09 `partition`); `excl`: a connection is leased to one exchange at a
time (C09 `exclusive`); `idleClean`: an idle or not yet dialled connection has no request in flight on it (C09
`idle_clean_always`, `lease_never_dirty`). -/
structure PoolHyp (s : St) : Prop where
  availNodup : s.avail.Nodup
  availLt : ∀ c ∈ s.avail, c < s.nconn
  connLt : ∀ k, (s.ex k).taken = true → (s.ex k).conn < s.nconn
  idleFree : ∀ c ∈ s.avail, ∀ k, holds (s.ex k) → (s.ex k).conn ≠ c
  excl : ∀ k k', holds (s.ex k) → holds (s.ex k') → (s.ex k).conn = (s.ex k').conn → k = k'
  idleClean : ∀ c, (c ∈ s.avail ∨ s.nconn ≤ c) → s.wire c = []

/-- the requests written on a connection and not answered yet are at most the one of its lease holder, and
`conn.stream` (`slot`) points at that holder -/
structure WireInv (s : St) : Prop where
  sentTaken : ∀ k, (s.ex k).sent = true → (s.ex k).taken = true
  wireOk : ∀ c j, j ∈ s.wire c → s.wire c = [j] ∧ s.slot c = some j
  unsent : ∀ k, (s.ex k).taken = true → (s.ex k).sent = false → s.wire (s.ex k).conn = [] ∧ s.slot (s.ex k).conn = some k
  running : ∀ k, (s.ex k).pc = some [.destroy, .deliver] → s.wire (s.ex k).conn = []
  rtokOk : ∀ k p, (s.ex k).pc = some p → (s.ex k).rtok = k

structure Full (s : St) : Prop where
  inv : Inv s
  pool : PoolHyp s
  wire : WireInv s

theorem full_init : Full ({} : St) := by
  refine ⟨inv_init, ?_, ?_⟩ <;> constructor <;> simp [holds]

theorem pool_of_ex (s s' : St) (k : Nat) (v : Ex) (p : PoolHyp s)
    (ha : s'.avail = s.avail) (hn : s'.nconn = s.nconn)
    (hw : ∀ c, (c ∈ s.avail ∨ s.nconn ≤ c) → s.wire c = [] → s'.wire c = [])
    (hex : s'.ex = upd s.ex k v) (ht : v.taken = (s.ex k).taken) (hc : v.conn = (s.ex k).conn)
    (hh : holds v → holds (s.ex k)) : PoolHyp s' := by
  have taken : ∀ j, (s'.ex j).taken = (s.ex j).taken := fun j => forall_upd hex j ht fun _ _ => rfl
  have conn : ∀ j, (s'.ex j).conn = (s.ex j).conn := fun j => forall_upd hex j hc fun _ _ => rfl
  have hold : ∀ j, holds (s'.ex j) → holds (s.ex j) := fun j => forall_upd hex j hh fun _ _ => id
  refine ⟨ha ▸ p.availNodup, ha ▸ hn ▸ p.availLt, ?_, ?_, ?_, fun c hc => hw c (ha ▸ hn ▸ hc) (p.idleClean c (ha ▸ hn ▸ hc))⟩
  · intro j; rw [taken, conn, hn]; exact p.connLt j
  · intro c hc j hj; rw [conn]; exact p.idleFree c (ha ▸ hc) j (hold j hj)
  · intro j j' hj hj'; rw [conn, conn]; exact p.excl j j' (hold j hj) (hold j' hj')

theorem Full.conn_ne {s : St} (h : Full s) {j k : Nat} (hj : holds (s.ex j)) (hk : holds (s.ex k)) (ne : j ≠ k) :
    (s.ex j).conn ≠ (s.ex k).conn := fun e => ne (h.pool.excl j k hj hk e)

theorem Full.holds_of_unsent {s : St} (h : Full s) {j : Nat} (ht : (s.ex j).taken = true) (hs : (s.ex j).sent = false) :
    holds (s.ex j) := ⟨ht, Or.inl (h.inv.slotOk _ j (h.wire.unsent j ht hs).2).1⟩

/-- `hoff`: the wire or the slot of a connection changes only if nobody but `k` holds it, and what is then on its wire
belongs to its slot. -/
theorem wire_of_ex (s s' : St) (k : Nat) (v : Ex) (h : Full s) (hex : s'.ex = upd s.ex k v)
    (hoff : ∀ c, s'.wire c = s.wire c ∧ s'.slot c = s.slot c ∨
      (∀ j, j ≠ k → holds (s.ex j) → (s.ex j).conn ≠ c) ∧ ∀ j ∈ s'.wire c, s'.wire c = [j] ∧ s'.slot c = some j)
    (hst : v.sent = true → v.taken = true)
    (hun : v.taken = true → v.sent = false → s'.wire v.conn = [] ∧ s'.slot v.conn = some k)
    (hrun : v.pc = some [.destroy, .deliver] → s'.wire v.conn = [])
    (hr : ∀ q, v.pc = some q → v.rtok = k) : WireInv s' := by
  have keep : ∀ j, j ≠ k → holds (s.ex j) →
      s'.wire (s.ex j).conn = s.wire (s.ex j).conn ∧ s'.slot (s.ex j).conn = s.slot (s.ex j).conn :=
    fun j e hj => (hoff _).resolve_right fun hf => hf.1 j e hj rfl
  refine ⟨fun j => forall_upd hex j hst fun i _ => h.wire.sentTaken i,
    fun c => (hoff c).elim (fun e => e.1 ▸ e.2 ▸ h.wire.wireOk c) (·.2),
    fun j => forall_upd hex j hun fun i e ht hs => ?_, fun j => forall_upd hex j hrun fun i e hi => ?_,
    fun j => forall_upd hex j hr fun i _ => h.wire.rtokOk i⟩
  · obtain ⟨hw, hsl⟩ := keep i e (h.holds_of_unsent ht hs)
    rw [hw, hsl]
    exact h.wire.unsent i ht hs
  · rw [(keep i e ⟨(h.inv.pcOk i _ hi).2, Or.inr hi⟩).1]
    exact h.wire.running i hi

theorem pool_wire_give_back (s : St) (c : Nat) (r : List Nat) (ha : s.avail = c :: r)
    (pw : PoolHyp { s with avail := r } ∧ WireInv { s with avail := r }) (hc : c < s.nconn) (hr : c ∉ r)
    (hw : s.wire c = []) (free : ∀ j, holds (s.ex j) → (s.ex j).conn ≠ c) : PoolHyp s ∧ WireInv s := by
  obtain ⟨p, w⟩ := pw
  refine ⟨⟨ha ▸ List.nodup_cons.mpr ⟨hr, p.availNodup⟩, ?_, p.connLt, ?_, p.excl, ?_⟩, { w with }⟩
  · intro c' hc'
    rcases List.mem_cons.mp (ha ▸ hc') with rfl | hc'
    · exact hc
    · exact p.availLt c' hc'
  · intro c' hc' j hj
    rcases List.mem_cons.mp (ha ▸ hc') with rfl | hc'
    · exact free j hj
    · exact p.idleFree c' hc' j hj
  · intro c' hc'
    rcases hc' with hc' | hc'
    · rcases List.mem_cons.mp (ha ▸ hc') with rfl | hc'
      · exact hw
      · exact p.idleClean c' (Or.inl hc')
    · exact p.idleClean c' (Or.inr hc')

theorem lease_spec (s : St) (h : Full s) :
    (lease s).2.1.Nodup ∧ (∀ c ∈ (lease s).2.1, c ∈ s.avail) ∧ (lease s).1 ∉ (lease s).2.1 ∧
    (∀ j, holds (s.ex j) → (s.ex j).conn ≠ (lease s).1) ∧ s.wire (lease s).1 = [] ∧
    (lease s).1 < (lease s).2.2 ∧ s.nconn ≤ (lease s).2.2 := by
  have p := h.pool
  unfold lease
  cases ha : s.avail with
  | nil =>
    refine ⟨List.nodup_nil, fun c hc => hc, List.not_mem_nil, fun j hj e => ?_, p.idleClean _ (Or.inr (Nat.le_refl _)),
      Nat.lt_succ_self _, Nat.le_succ _⟩
    exact Nat.lt_irrefl _ (e ▸ p.connLt j hj.1)
  | cons c r =>
    have hn := List.nodup_cons.mp (ha ▸ p.availNodup)
    have hc : c ∈ s.avail := ha ▸ List.mem_cons_self
    refine ⟨hn.2, fun c' hc' => List.mem_cons_of_mem _ hc', hn.1, fun j hj => p.idleFree c hc j hj, p.idleClean c (Or.inl hc),
      p.availLt c hc, Nat.le_refl _⟩

theorem full_take (s : St) (h : Full s) (k o : Nat) : Full (step goodProg s (.take k o)) := by
  have hinv := inv_take s h.inv k o
  simp only [step] at hinv ⊢
  split
  · exact h
  · rename_i hc
    rw [if_neg hc] at hinv
    simp only [Bool.or_eq_true, not_or, Bool.not_eq_true, Option.isSome_eq_false_iff, Option.isNone_iff_eq_none] at hc
    have hpc := h.inv.pc_none k hc.1
    obtain ⟨an, asub, anot, free, lw, llt, nle⟩ := lease_spec s h
    generalize lease s = l at *
    have p := h.pool
    refine ⟨hinv, ⟨an, fun c hc => Nat.lt_of_lt_of_le (p.availLt c (asub c hc)) nle, ?_, ?_, ?_, ?_⟩,
      wire_of_ex s _ k _ h rfl (fun c => ?_) (fun _ => rfl) (fun _ _ => ?_)
        (fun hv => nomatch hpc.symm.trans hv) (fun _ hv => nomatch hpc.symm.trans hv)⟩
    · intro j
      by_cases e : j = k
      · subst e; simpa using llt
      · simp only [upd_apply, if_neg e]; exact fun hj => Nat.lt_of_lt_of_le (p.connLt j hj) nle
    · intro c hc j hj
      by_cases e : j = k
      · subst e; simp only [upd_apply, if_true]; rintro rfl; exact anot hc
      · simp only [upd_apply, if_neg e] at hj ⊢; exact p.idleFree c (asub c hc) j hj
    · intro j j' hj hj' hc
      by_cases e : j = k <;> by_cases e' : j' = k <;> simp only [upd_apply, e, e', if_true, if_false] at hj hj' hc
      · rw [e, e']
      · exact absurd hc.symm (free j' hj')
      · exact absurd hc (free j hj)
      · exact p.excl j j' hj hj' hc
    · intro c hc
      rcases hc with hc | hc
      · exact p.idleClean c (Or.inl (asub c hc))
      · exact p.idleClean c (Or.inr (Nat.le_trans nle hc))
    · -- only the slot of the leased connection changes, and nobody holds that one
      by_cases e : c = l.1
      · subst e
        exact Or.inr ⟨fun j _ hj => free j hj, fun j (hj : j ∈ s.wire l.1) => by rw [lw] at hj; cases hj⟩
      · exact Or.inl ⟨rfl, by simp only [upd_apply, if_neg e]⟩
    · simp [lw]

theorem full_send (s : St) (h : Full s) (k : Nat) : Full (step goodProg s (.send k)) := by
  have hinv := inv_send s h.inv k
  simp only [step] at hinv ⊢
  split
  · exact h
  · rename_i hc
    rw [if_neg hc] at hinv
    simp only [Bool.or_eq_true, not_or, Bool.not_eq_true, Bool.not_eq_eq_eq_not, Bool.not_true,
      Bool.not_eq_false] at hc
    obtain ⟨⟨ht, hsent⟩, _⟩ := hc
    obtain ⟨hw, hsl⟩ := h.wire.unsent k ht hsent
    have hk := h.holds_of_unsent ht hsent
    have p := h.pool
    refine ⟨hinv, pool_of_ex s _ k _ p rfl rfl (fun c hc hwc => ?_) rfl rfl rfl id,
      wire_of_ex s _ k _ h rfl (fun c => ?_) (fun _ => ht) (fun _ hs => nomatch hs)
        (fun hv => nomatch (h.inv.slotOk _ k hsl).1.symm.trans hv) (h.wire.rtokOk k)⟩
    · -- `k`'s connection is neither idle nor undialled
      have hne : c ≠ (s.ex k).conn := by
        rintro rfl
        rcases hc with hc | hc
        · exact p.idleFree _ hc k hk rfl
        · exact absurd (p.connLt k ht) (Nat.not_lt.mpr hc)
      simpa [hne] using hwc
    · by_cases e : c = (s.ex k).conn
      · subst e
        refine Or.inr ⟨fun j ne hj => h.conn_ne hj hk ne, fun j => ?_⟩
        simp only [upd_apply, if_true, hw, hsl, List.nil_append, List.mem_singleton]
        rintro rfl
        exact ⟨rfl, rfl⟩
      · exact Or.inl ⟨by simp only [upd_apply, if_neg e], rfl⟩

theorem full_read (s : St) (h : Full s) (c : Nat) : Full (step goodProg s (.read c)) := by
  have hinv := inv_read s h.inv c
  simp only [step] at hinv ⊢
  split
  · exact h
  · rename_i j r hw
    -- the one request on the wire is that of the exchange in the slot, which has sent it and holds the connection
    obtain ⟨hr, hsl⟩ := h.wire.wireOk c j (hw ▸ List.mem_cons_self)
    obtain rfl : r = [] := (List.cons.inj (hw.symm.trans hr)).2
    obtain ⟨hpc, ht, hcj⟩ := h.inv.slotOk c j hsl
    have hsent : (s.ex j).sent = true := by
      cases hs : (s.ex j).sent with
      | true => rfl
      | false => have := (h.wire.unsent j ht hs).1; rw [hcj, hw] at this; cases this
    simp only [hw, hsl] at hinv ⊢
    refine ⟨hinv, pool_of_ex s _ j _ h.pool rfl rfl (fun c' _ hc' => ?_) rfl rfl rfl (fun _ => ⟨ht, Or.inl hpc⟩),
      wire_of_ex s _ j _ h rfl (fun c' => ?_) (h.wire.sentTaken j) (fun _ hs => nomatch hsent.symm.trans hs)
        (fun _ => ?_) (fun _ _ => rfl)⟩
    · simp only [upd_apply]; split <;> simp [*]
    · by_cases e : c' = c
      · subst e
        exact Or.inr ⟨fun i ne hi hc => ne (h.pool.excl i j hi ⟨ht, Or.inl hpc⟩ (hc.trans hcj.symm)), by simp⟩
      · exact Or.inl ⟨by simp only [upd_apply, if_neg e], by simp only [upd_apply, if_neg e]⟩
    · simp [hcj]

theorem full_finish (s : St) (h : Full s) (k : Nat) : Full (step goodProg s (.finish k)) := by
  have hpw : PoolHyp (step goodProg s (.finish k)) ∧ WireInv (step goodProg s (.finish k)) := by
    simp only [step]
    split
    · exact ⟨h.pool, h.wire⟩
    · exact ⟨pool_of_ex s _ k _ h.pool rfl rfl (fun _ _ hw => hw) rfl rfl rfl id,
        wire_of_ex s _ k _ h rfl (fun _ => Or.inl ⟨rfl, rfl⟩) (h.wire.sentTaken k) (h.wire.unsent k)
          (h.wire.running k) (h.wire.rtokOk k)⟩
  exact ⟨inv_finish s h.inv k, hpw.1, hpw.2⟩

theorem full_io (s : St) (h : Full s) (k : Nat) : Full (step goodProg s (.io k)) := by
  have hpw : PoolHyp (step goodProg s (.io k)) ∧ WireInv (step goodProg s (.io k)) := by
    simp only [step]
    split
    · rename_i a p hp
      obtain ⟨hshape, htaken⟩ := h.inv.pcOk k _ hp
      have hown := h.inv.own k htaken (h.inv.got_nil k (by rw [hp]; simp)).2
      -- a wrapper past its DestroyStream step does not hold the connection; objects and log are not looked at
      have frame : ∀ (v : Ex) (o : Nat → Obj) (l : List Rec) (q : List Act), v.pc = some q → q ≠ [.destroy, .deliver] →
          v.taken = (s.ex k).taken → v.conn = (s.ex k).conn → v.sent = (s.ex k).sent → v.rtok = (s.ex k).rtok →
          PoolHyp { s with ex := upd s.ex k v, obj := o, log := l } ∧
            WireInv { s with ex := upd s.ex k v, obj := o, log := l } := by
        intro v o l q hv hq vt vc vs vr
        have hnr : v.pc ≠ some [.destroy, .deliver] := fun e => hq (Option.some.inj (hv.symm.trans e))
        exact ⟨pool_of_ex s _ k v h.pool rfl rfl (fun _ _ hw => hw) rfl vt vc
            (fun hh => (hh.2.elim (fun e => nomatch hv.symm.trans e) hnr).elim),
          wire_of_ex s _ k v h rfl (fun _ => Or.inl ⟨rfl, rfl⟩) (vt ▸ vs ▸ h.wire.sentTaken k)
            (vt ▸ vs ▸ vc ▸ h.wire.unsent k) (fun e => (hnr e).elim) (fun _ _ => vr ▸ h.wire.rtokOk k _ hp)⟩
      rcases hshape with hh | hh | hh
      · obtain ⟨rfl, rfl⟩ := List.cons.inj hh
        simp only [doDestroy, upd_apply, if_true, hown.2.2.2, hown.2.2.1, upd_upd]
        have hk : holds (s.ex k) := ⟨htaken, Or.inr hp⟩
        split
        · -- the generation is live: the pool takes `k`'s connection back; `k` held it alone and its answer was read
          apply pool_wire_give_back _ (s.ex k).conn s.avail rfl
          · exact frame _ _ _ _ rfl (by simp) rfl rfl rfl rfl
          · exact h.pool.connLt k htaken
          · exact fun hm => h.pool.idleFree _ hm k hk rfl
          · exact h.wire.running k hp
          · intro j hj
            simp only [upd_apply] at hj ⊢
            split at hj
            · simp [holds] at hj
            · rename_i e; rw [if_neg e]; exact h.conn_ne hj hk e
        · exact frame _ _ _ _ rfl (by simp) rfl rfl rfl rfl
      · obtain ⟨rfl, rfl⟩ := List.cons.inj hh
        exact frame _ _ _ _ rfl (by simp) rfl rfl rfl rfl
      · cases hh
    · exact ⟨h.pool, h.wire⟩
  exact ⟨inv_io s h.inv k, hpw.1, hpw.2⟩

theorem full_step (s : St) (h : Full s) (e : Ev) : Full (step goodProg s e) := by
  cases e with
  | take k o => exact full_take s h k o
  | send k => exact full_send s h k
  | read c => exact full_read s h c
  | io k => exact full_io s h k
  | finish k => exact full_finish s h k

theorem full_run (evs : List Ev) (s : St) (h : Full s) : Full (run goodProg s evs) :=
  Lemmas.Fold.foldl_inv (P := Full) (fun s e h => full_step s h e) evs s h

/-- whatever an exchange is handed is the answer to ITS OWN request -/
theorem got_own (s : St) (h : Full s) (k j : Nat) (hg : (s.ex k).got = [j]) : j = k := by
  have hne : (s.ex k).got ≠ [] := by rw [hg]; simp
  have h1 := h.inv.gotOk k hne
  have h2 := h.wire.rtokOk k [] h1.1
  rw [h1.2, h2] at hg
  simpa using hg.symm

end MosnVerif.Lemmas.StreamGen
