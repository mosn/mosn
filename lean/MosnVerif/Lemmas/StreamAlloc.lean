import MosnVerif.Model.StreamAlloc
/-! The capacity of the buffer that collects an HTTP/2 body is bounded by the bytes that ARRIVED. -/
namespace MosnVerif.Lemmas.StreamAlloc
open MosnVerif.Model.StreamAlloc MosnVerif.Gen.C08StreamAlloc

theorem slotGo_le (f c size : Nat) (h : c = 64 ∨ c < 2 * size) : slotGo f c size ≤ 2 * size + 64 := by
  fun_induction slotGo f c size with
  | case1 => omega
  | case2 => omega
  | case3 _ _ _ _ ih => exact ih (by omega)

theorem slotGo_ge_of (f c size : Nat) (h : size ≤ c * 2 ^ f) : size ≤ slotGo f c size := by
  fun_induction slotGo f c size with
  | case1 => simpa using h
  | case2 => assumption
  | case3 f c _ _ ih =>
    have : c * 2 ^ f.succ = 2 * c * 2 ^ f := by rw [Nat.pow_succ]; ac_rfl
    exact ih (by omega)
theorem poolCap_le (size : Nat) : poolCap size ≤ 2 * size + 64 := by
  unfold poolCap
  split
  · omega
  · exact slotGo_le 21 64 size (Or.inl rfl)

theorem poolCap_ge (size : Nat) : size ≤ poolCap size := by
  unfold poolCap
  split
  · exact Nat.le_refl _
  · apply slotGo_ge_of
    have : 64 * 2 ^ 21 = 134217728 := by decide
    omega

theorem growCap_le (cap n : Nat) : growCap cap n ≤ 4 * cap + 2 * n + 2112 := by
  unfold growCap
  refine Nat.le_trans (poolCap_le _) ?_
  split
  · omega
  · split <;> omega

theorem newCap_bounds (n : Nat) : n ≤ newCap n ∧ newCap n ≤ 2 * n + 96 := by
  unfold newCap
  have hn : n ≤ (if (n : Int) ≤ 0 then 16 else (n : Int).toNat) ∧ (if (n : Int) ≤ 0 then 16 else (n : Int).toNat) ≤ n + 16 := by
    split <;> omega
  exact ⟨Nat.le_trans hn.1 (poolCap_ge _), Nat.le_trans (poolCap_le _) (by omega)⟩

/-- invariant of the collecting buffer: it holds what was received, in a capacity bounded by what was received -/
def Inv (b : Buf) (t : Nat) : Prop := b.len = t ∧ b.cap ≤ capBound t

theorem write_inv (b : Buf) (t n : Nat) (h : Inv b t) : Inv (b.write n) (t + n) := by
  obtain ⟨hl, hc⟩ := h
  unfold capBound at *
  unfold Buf.write
  split
  · exact ⟨by simp [hl], by show b.cap ≤ 8 * (t + n) + 4096; omega⟩
  · have := growCap_le b.cap n
    exact ⟨by simp [hl], by show growCap b.cap n ≤ 8 * (t + n) + 4096; omega⟩

theorem foldl_inv (l : List Nat) : ∀ (b : Buf) (t : Nat), Inv b t → Inv (l.foldl Buf.write b) (t + total l) := by
  induction l with
  | nil => intro b t h; simpa [total] using h
  | cons n r ih =>
    intro b t h
    have := ih (b.write n) (t + n) (write_inv b t n h)
    simp only [List.foldl_cons, total]
    rw [← Nat.add_assoc]; exact this

/-- a collecting buffer whose first allocation is sized by the RECEIVED payload: bounded by the received bytes, whatever
was announced -/
theorem collect_bounded (first : Int → Int → Int) (hf : ∀ recv ann, first recv ann = recv) (ann : Int) (chunks : List Nat)
    (b : Buf) (h : collect first ann chunks = some b) : b.len = total chunks ∧ b.cap ≤ capBound (total chunks) := by
  cases chunks with
  | nil => simp [collect] at h
  | cons n rest =>
    simp only [collect, Option.some.injEq] at h
    subst h
    have h0 : Inv ((⟨newCap (first n ann), 0⟩ : Buf).write n) n := by
      rw [hf]
      have ⟨hge, hle⟩ := newCap_bounds n
      unfold Buf.write
      rw [if_pos (by simpa using hge)]
      exact ⟨Nat.zero_add n, by show newCap n ≤ capBound n; unfold capBound; omega⟩
    have := foldl_inv rest _ n h0
    simpa [total, Inv] using this
end MosnVerif.Lemmas.StreamAlloc
