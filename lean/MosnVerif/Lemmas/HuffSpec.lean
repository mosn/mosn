import MosnVerif.Lemmas.HuffCode
/-!
The declarative Huffman decoder on the regenerated table: fuel independence, round trip with the encoder, exact encoded
length, soundness (what is accepted is an encoding), the rejected paddings.
-/
namespace MosnVerif.Lemmas.HuffSpec
open MosnVerif.Gen.Hpack MosnVerif.Model.Huffman MosnVerif.Model.HuffTree MosnVerif.Lemmas.HuffBits MosnVerif.Lemmas.HuffCode

/-- `decodeBitsMax` with enough fuel -/
def specRun (maxLen : Nat) (bits : List Bool) (acc : Bytes) : Except HErr Bytes :=
  decodeBitsMax maxLen (bits.length + 1) bits acc

theorem fuel_irrel (maxLen : Nat) (f1 f2 : Nat) (bits : List Bool) (acc : Bytes) (h1 : bits.length < f1) (h2 : bits.length < f2) :
    decodeBitsMax maxLen f1 bits acc = decodeBitsMax maxLen f2 bits acc := by
  induction f1 generalizing f2 bits acc with
  | zero => omega
  | succ f1 ih =>
    cases f2 with
    | zero => omega
    | succ f2 =>
      rw [decodeBitsMax, decodeBitsMax]
      cases hm : matchSym bits with
      | none => rfl
      | some p =>
        obtain ⟨sym, rest⟩ := p
        simp only [decodeStepMax]
        split
        · rfl
        · have := matchSym_lt bits sym rest hm
          exact ih f2 rest _ (by omega) (by omega)

theorem specRun_match (maxLen : Nat) (bits : List Bool) (acc : Bytes) (sym : Nat) (rest : List Bool)
    (hm : matchSym bits = some (sym, rest)) :
    specRun maxLen bits acc =
      if maxLen ≠ 0 ∧ acc.length = maxLen then .error .strLen else specRun maxLen rest (UInt8.ofNat sym :: acc) := by
  unfold specRun
  rw [decodeBitsMax, hm]
  simp only [decodeStepMax]
  split
  · rfl
  · have := matchSym_lt bits sym rest hm
    exact fuel_irrel maxLen _ _ rest _ (by omega) (by omega)

theorem specRun_none (maxLen : Nat) (bits : List Bool) (acc : Bytes) (hm : matchSym bits = none) :
    specRun maxLen bits acc = if bits.length < 8 ∧ bits.all id then .ok acc.reverse else .error .invalid := by
  unfold specRun
  rw [decodeBitsMax, hm]
  rfl

theorem length_bytesToBits (v : Bytes) : (bytesToBits v).length = 8 * v.length := by
  simp only [bytesToBits, List.length_flatMap, length_bitsOf, List.map_const', List.sum_replicate_nat]
  exact Nat.mul_comm _ _

theorem decodeSpecMax_eq (maxLen : Nat) (v : Bytes) : decodeSpecMax maxLen v = specRun maxLen (bytesToBits v) [] := by
  unfold decodeSpecMax specRun
  rw [length_bytesToBits]

/-- without a length limit the `Except` decoder is the `Option` decoder of `Model.Huffman` -/
def ofOpt : Option Bytes → Except HErr Bytes
  | some s => .ok s
  | none => .error .invalid

theorem decodeBitsMax_zero (f : Nat) (bits : List Bool) (acc : Bytes) :
    decodeBitsMax 0 f bits acc = ofOpt (decodeBits f bits acc) := by
  induction f generalizing bits acc with
  | zero => rfl
  | succ f ih =>
    rw [decodeBitsMax, decodeBits]
    cases hm : matchSym bits with
    | none => simp only [decodeStepMax, decodeStep]; split <;> rfl
    | some p =>
      obtain ⟨sym, rest⟩ := p
      simp only [decodeStepMax, decodeStep, ne_eq, not_true_eq_false, false_and, if_false]
      exact ih rest _

theorem decodeSpecMax_zero (v : Bytes) : decodeSpecMax 0 v = ofOpt (decodeSpec v) := decodeBitsMax_zero _ _ _

theorem encodeBits_cons (c : UInt8) (s : Bytes) : encodeBits (c :: s) = codeBits c.toNat ++ encodeBits s := by
  simp [encodeBits, codeBits]

theorem ofNat_toNat (c : UInt8) : UInt8.ofNat c.toNat = c := by simp

theorem specRun_encode_append (maxLen : Nat) (s : Bytes) (rest : List Bool) (acc : Bytes)
    (hm : maxLen = 0 ∨ acc.length + s.length ≤ maxLen) :
    specRun maxLen (encodeBits s ++ rest) acc = specRun maxLen rest (s.reverse ++ acc) := by
  induction s generalizing acc with
  | nil => rfl
  | cons c s ih =>
    rw [encodeBits_cons, List.append_assoc,
      specRun_match _ _ _ _ _ (matchSym_code c.toNat (UInt8.toNat_lt c) _)]
    rw [if_neg, ofNat_toNat, ih]
    · simp
    · rcases hm with h | h
      · exact Or.inl h
      · right; simp only [List.length_cons] at h ⊢; omega
    · rintro ⟨h0, h1⟩
      rcases hm with h | h
      · exact h0 h
      · simp only [List.length_cons] at h; omega

theorem specRun_encode (maxLen : Nat) (s : Bytes) (k : Nat) (hk : k < 8) (acc : Bytes)
    (hm : maxLen = 0 ∨ acc.length + s.length ≤ maxLen) :
    specRun maxLen (encodeBits s ++ List.replicate k true) acc = .ok (acc.reverse ++ s) := by
  rw [specRun_encode_append _ _ _ _ hm, specRun_none _ _ _ (matchSym_ones k)]
  simp [hk]

/-- one symbol more than `maxLen`: ErrStringLength -/
theorem specRun_encode_too_long (maxLen : Nat) (s : Bytes) (rest : List Bool) (acc : Bytes) (h0 : maxLen ≠ 0)
    (hle : acc.length ≤ maxLen) (hlen : maxLen < acc.length + s.length) :
    specRun maxLen (encodeBits s ++ rest) acc = .error .strLen := by
  induction s generalizing acc with
  | nil => simp at hlen; omega
  | cons c s ih =>
    rw [encodeBits_cons, List.append_assoc, specRun_match _ _ _ _ _ (matchSym_code c.toNat (UInt8.toNat_lt c) _)]
    by_cases hq : acc.length = maxLen
    · rw [if_pos ⟨h0, hq⟩]
    · rw [if_neg (fun h => hq h.2)]
      apply ih
      · simp only [List.length_cons]; omega
      · simp only [List.length_cons] at hlen ⊢; omega

theorem bytesToBits_cons (b : UInt8) (v : Bytes) : bytesToBits (b :: v) = bitsOf b.toNat 8 ++ bytesToBits v := by
  simp [bytesToBits]

theorem packByte_bits (l : List Bool) (h : l.length = 8) : bitsOf (packByte l).toNat 8 = l := by
  have hv : val l < 256 := by have := val_lt l; rw [h] at this; exact this
  have : (packByte l).toNat = val l := UInt8.toNat_ofNat_of_lt' hv
  rw [this, ← h, bitsOf_val]

theorem bytesToBits_packBits (bits : List Bool) :
    bytesToBits (packBits bits) = bits ++ List.replicate ((8 - bits.length % 8) % 8) true := by
  fun_induction packBits bits with
  | case1 => rfl
  | case2 b0 r chunk rest ih =>
    rw [bytesToBits_cons, ih]
    have hc : chunk = (b0 :: r).take 8 := rfl
    have hr : rest = (b0 :: r).drop 8 := rfl
    have hlen : (chunk ++ List.replicate (8 - chunk.length) true).length = 8 := by
      rw [List.length_append, List.length_replicate, hc, List.length_take]; omega
    rw [packByte_bits _ hlen]
    by_cases h8 : 8 ≤ (b0 :: r).length
    · have : chunk.length = 8 := by rw [hc, List.length_take]; omega
      rw [this, Nat.sub_self, List.replicate_zero, List.append_nil]
      have hrl : rest.length = (b0 :: r).length - 8 := by rw [hr, List.length_drop]
      rw [hrl, ← List.append_assoc, hc, hr, List.take_append_drop]
      congr 2
      omega
    · have hcl : chunk = b0 :: r := by rw [hc, List.take_of_length_le (by omega)]
      have hre : rest = [] := by rw [hr, List.drop_of_length_le (by omega)]
      rw [hcl, hre]
      simp only [List.length_nil, Nat.zero_mod]
      have : (b0 :: r).length % 8 = (b0 :: r).length := Nat.mod_eq_of_lt (by omega)
      rw [this]
      have h1 : 1 ≤ (b0 :: r).length := by simp
      have : (8 - (b0 :: r).length) % 8 = 8 - (b0 :: r).length := Nat.mod_eq_of_lt (by omega)
      rw [this]
      simp

theorem length_packBits (bits : List Bool) : (packBits bits).length = (bits.length + 7) / 8 := by
  have h := congrArg List.length (bytesToBits_packBits bits)
  rw [length_bytesToBits, List.length_append, List.length_replicate] at h
  omega

theorem length_encodeBits (s : Bytes) : (encodeBits s).length = (s.map (fun c => lenOf c.toNat)).sum := by
  simp only [encodeBits, List.length_flatMap, length_bitsOf]

/-- the encoder emits exactly `⌈Σ codeLen / 8⌉` bytes -/
theorem length_encode (s : Bytes) : (encode s).length = encodeLen s := by
  unfold encode encodeLen
  rw [length_packBits, length_encodeBits]

theorem bytesToBits_encode (s : Bytes) :
    bytesToBits (encode s) = encodeBits s ++ List.replicate ((8 - (encodeBits s).length % 8) % 8) true :=
  bytesToBits_packBits _

theorem decodeSpecMax_encode (maxLen : Nat) (s : Bytes) (hm : maxLen = 0 ∨ s.length ≤ maxLen) :
    decodeSpecMax maxLen (encode s) = .ok s := by
  rw [decodeSpecMax_eq, bytesToBits_encode, specRun_encode maxLen s _ (by omega) [] (by simpa using hm)]
  rfl

theorem decodeSpec_encode (s : Bytes) : decodeSpec (encode s) = some s := by
  have h := decodeSpecMax_encode 0 s (Or.inl rfl)
  rw [decodeSpecMax_zero] at h
  cases hd : decodeSpec (encode s) with
  | none => rw [hd] at h; cases h
  | some x => rw [hd] at h; simp only [ofOpt, Except.ok.injEq] at h; rw [h]

/-! ### soundness: what the decoder accepts is an encoding -/

theorem specRun_sound (maxLen : Nat) (bits : List Bool) (acc out : Bytes) (h : specRun maxLen bits acc = .ok out) :
    ∃ s k, out = acc.reverse ++ s ∧ bits = encodeBits s ++ List.replicate k true ∧ k < 8 := by
  induction hn : bits.length using Nat.strongRecOn generalizing bits acc with
  | _ n ih =>
    cases hm : matchSym bits with
    | none =>
      rw [specRun_none _ _ _ hm] at h
      split at h
      · rename_i hc
        simp only [Except.ok.injEq] at h
        refine ⟨[], bits.length, by simp [h], ?_, hc.1⟩
        simp only [encodeBits, List.flatMap_nil, List.nil_append]
        apply List.eq_replicate_iff.2
        refine ⟨rfl, fun b hb => ?_⟩
        have := List.all_eq_true.1 hc.2 b hb
        simpa using this
      · cases h
    | some p =>
      obtain ⟨sym, rest⟩ := p
      obtain ⟨hs, hb⟩ := matchSym_some bits sym rest hm
      rw [specRun_match _ _ _ _ _ hm] at h
      split at h
      · cases h
      · obtain ⟨s, k, h1, h2, h3⟩ := ih _ (hn ▸ matchSym_lt bits sym rest hm) rest _ h rfl
        refine ⟨UInt8.ofNat sym :: s, k, by simp [h1], ?_, h3⟩
        rw [encodeBits_cons, List.append_assoc, ← h2, UInt8.toNat_ofNat_of_lt' hs]
        exact hb

theorem bitsOf8_inj (a b : UInt8) (h : bitsOf a.toNat 8 = bitsOf b.toNat 8) : a = b := by
  have := bitsOf_inj _ _ _ h
  have ha := UInt8.toNat_lt a
  have hb := UInt8.toNat_lt b
  rw [Nat.mod_eq_of_lt (by omega), Nat.mod_eq_of_lt (by omega)] at this
  exact UInt8.toNat_inj.1 this

theorem bytesToBits_inj (v w : Bytes) (h : bytesToBits v = bytesToBits w) : v = w := by
  induction v generalizing w with
  | nil =>
    cases w with
    | nil => rfl
    | cons b r => have := congrArg List.length h; rw [length_bytesToBits, length_bytesToBits] at this; simp at this
  | cons a v ih =>
    cases w with
    | nil => have := congrArg List.length h; rw [length_bytesToBits, length_bytesToBits] at this; simp at this
    | cons b w =>
      rw [bytesToBits_cons, bytesToBits_cons] at h
      have := List.append_inj h (by simp)
      rw [bitsOf8_inj a b this.1, ih w this.2]

/-- **the decoder accepts exactly the encodings**: `v` decodes to `s` iff `v` is the encoding of `s` -/
theorem decodeSpecMax_ok_iff (v s : Bytes) : decodeSpecMax 0 v = .ok s ↔ v = encode s := by
  constructor
  · intro h
    rw [decodeSpecMax_eq] at h
    obtain ⟨s', k, h1, h2, h3⟩ := specRun_sound 0 _ _ _ h
    simp only [List.reverse_nil, List.nil_append] at h1
    subst h1
    apply bytesToBits_inj
    have hl := congrArg List.length h2
    rw [length_bytesToBits, List.length_append, List.length_replicate] at hl
    have hk : k = (8 - (encodeBits s).length % 8) % 8 := by omega
    rw [h2, bytesToBits_encode, ← hk]
  · intro h
    rw [h]
    exact decodeSpecMax_encode 0 s (Or.inl rfl)

/-! ### the three rejected paddings (RFC 7541 §5.2) -/

/-- more than 7 bits of padding after the last symbol -/
theorem reject_long_padding (maxLen : Nat) (s : Bytes) (k : Nat) (hk : 8 ≤ k) (acc : Bytes)
    (hm : maxLen = 0 ∨ acc.length + s.length ≤ maxLen) :
    specRun maxLen (encodeBits s ++ List.replicate k true) acc = .error .invalid := by
  rw [specRun_encode_append _ _ _ _ hm, specRun_none _ _ _ (matchSym_ones k), if_neg]
  simp only [List.length_replicate]; omega

/-- trailing bits that are no complete code and not all ones -/
theorem reject_bad_padding (maxLen : Nat) (s : Bytes) (p : List Bool) (hp : matchSym p = none) (hz : p.all id = false) (acc : Bytes)
    (hm : maxLen = 0 ∨ acc.length + s.length ≤ maxLen) :
    specRun maxLen (encodeBits s ++ p) acc = .error .invalid := by
  rw [specRun_encode_append _ _ _ _ hm, specRun_none _ _ _ hp, if_neg]
  rw [hz]; simp

theorem specRun_eos (maxLen : Nat) (bits : List Bool) (acc : Bytes) (h : eosBits <+: bits) :
    specRun maxLen bits acc = .error .invalid := by
  rw [specRun_none _ _ _ (matchSym_eos _ h), if_neg]
  have := h.length_le
  rw [length_eosBits] at this
  omega

/-- EOS inside the string -/
theorem reject_eos (maxLen : Nat) (s : Bytes) (rest : List Bool) (acc : Bytes)
    (hm : maxLen = 0 ∨ acc.length + s.length ≤ maxLen) :
    specRun maxLen (encodeBits s ++ (eosBits ++ rest)) acc = .error .invalid := by
  rw [specRun_encode_append _ _ _ _ hm]
  exact specRun_eos _ _ _ (List.prefix_append _ _)

end MosnVerif.Lemmas.HuffSpec
