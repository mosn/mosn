import MosnVerif.Model.HpackInt
import Mathlib.Tactic.Ring
/-! Lemmas for the HPACK prefix-integer / string-literal model. -/
namespace MosnVerif.Lemmas.HpackInt
open MosnVerif.Model.HpackInt MosnVerif.Gen.Hpack

theorem ofNat_toNat (x : Nat) (h : x < 256) : (UInt8.ofNat x).toNat = x :=
  UInt8.toNat_ofNat_of_lt' h

/-! the Go bit operations the model writes arithmetically -/
theorem and127 (x : Nat) : x &&& 127 = x % 128 := Nat.and_two_pow_sub_one_eq_mod x 7
theorem shr7 (x : Nat) : x >>> 7 = x / 128 := by simp [Nat.shiftRight_eq_div_pow]
theorem shl (x m : Nat) : x <<< m = x * 2 ^ m := Nat.shiftLeft_eq x m
theorem or128 (x : Nat) : 128 ||| (x &&& 127) = 128 + x % 128 := by
  rw [and127]
  have := Nat.two_pow_add_eq_or_of_lt (i := 7) (b := x % 128) (by omega) 1
  simpa using this.symm
theorem byte_and128 : ∀ b : Nat, b < 256 → ((b &&& 128 = 0) ↔ b < 128) := by decide +kernel
theorem mask (b n : Nat) : b &&& ((1 <<< n) - 1) = b % 2 ^ n := by
  rw [Nat.shiftLeft_eq, Nat.one_mul]; exact Nat.and_two_pow_sub_one_eq_mod b n
/-- `dst[first] |= flags` when the flag bits lie above an `n`-bit prefix value -/
theorem or_flags (b n h : Nat) (hb : b < 2 ^ n) : b ||| (2 ^ n * h) = b + 2 ^ n * h := by
  rw [Nat.or_comm, Nat.add_comm]; exact (Nat.two_pow_add_eq_or_of_lt hb h).symm

theorem pow_split (e : Nat) (h : 7 ≤ e) : 2 ^ e = 2 ^ (e - 7) * 128 := by
  have : e = (e - 7) + 7 := by omega
  conv => lhs; rw [this, Nat.pow_add]

/-- one continuation byte (`0x80 | r`) read back -/
theorem readCont_step (r acc m : Nat) (tl : Bytes) (h : r < 128) :
    readCont (UInt8.ofNat (128 + r) :: tl) acc m =
      if varintShiftLimit ≤ m + 7 then .error .overflow else readCont tl (acc + r * 2 ^ m) (m + 7) := by
  have h1 : ¬ (128 + r < 128) := by omega
  have hmod : (128 + r) % 128 = r := by omega
  simp only [readCont, ofNat_toNat _ (show 128 + r < 256 by omega), h1, if_false, hmod]

/-- the continuation bytes of `v` read back at shift `m` (a multiple of 7, as `readVarInt` reaches it): `v` itself while it
fits below bit 63, otherwise the overflow error -/
theorem readCont_closed (v : Nat) : ∀ (acc m : Nat) (rest : Bytes), m % 7 = 0 → m ≤ 56 →
    readCont (contBytes v ++ rest) acc m =
      if v < 2 ^ (63 - m) then .ok (acc + v * 2 ^ m, rest) else .error .overflow := by
  fun_induction contBytes v with
  | case1 v h ih =>
    intro acc m rest hm7 hm
    rw [List.cons_append, readCont_step _ acc m _ (Nat.mod_lt v (by decide))]
    by_cases hlim : varintShiftLimit ≤ m + 7
    · have : m = 56 := by simp only [varintShiftLimit] at hlim; omega
      subst this
      rw [if_pos hlim, if_neg (by omega)]
    · simp only [varintShiftLimit] at hlim
      rw [if_neg (by simp only [varintShiftLimit]; omega), ih _ (m + 7) rest (by omega) (by omega),
        show 63 - (m + 7) = 63 - m - 7 by omega, pow_split (63 - m) (by omega)]
      refine if_congr (Nat.div_lt_iff_lt_mul (by omega)) (congrArg (fun x => Except.ok (x, rest)) ?_) rfl
      rw [Nat.pow_add]
      have hv' : v = 128 * (v / 128) + v % 128 := (Nat.div_add_mod v 128).symm
      generalize 2 ^ m = P
      generalize v / 128 = q at hv' ⊢
      generalize v % 128 = r at hv' ⊢
      subst hv'
      ring
  | case2 v h =>
    intro acc m rest hm7 hm
    have hlt : v < 128 := by omega
    have : 128 ≤ 2 ^ (63 - m) := by rw [pow_split (63 - m) (by omega)]; exact Nat.le_mul_of_pos_left _ Nat.one_le_two_pow
    rw [if_pos (by omega)]
    simp only [List.cons_append, List.nil_append, readCont, ofNat_toNat _ (show v < 256 by omega), hlt, if_true,
      Nat.mod_eq_of_lt hlt]

theorem pow_le_256 (n : Nat) (hn : n ≤ 8) : 2 ^ n ≤ 256 := by
  have h8 : (2:Nat) ^ n ≤ 2 ^ 8 := Nat.pow_le_pow_right (by norm_num) hn
  have h256 : (2:Nat) ^ 8 = 256 := by norm_num
  omega

theorem first_byte (n p flags : Nat) (hn : n ≤ 8) (hp : p < 2 ^ n) (hf : flags % 2 ^ n = 0) (hfl : flags < 256) :
    p + flags < 256 ∧ (p + flags) % 2 ^ n = p := by
  have hpow := pow_le_256 n hn
  obtain ⟨c, hc⟩ := Nat.dvd_of_mod_eq_zero hf
  -- a multiple of `2^n` below 256 = `2^8` is at least `2^n` below it
  have := Nat.le_of_lt_add_of_dvd (a := flags) (b := 256 - 2 ^ n) (by omega) ⟨c, hc⟩
    (Nat.dvd_sub (Nat.pow_dvd_pow 2 hn) (Nat.dvd_refl _))
  exact ⟨by omega, by rw [hc, Nat.add_mul_mod_self_left, Nat.mod_eq_of_lt hp]⟩

theorem orFirst_zero (b : Bytes) : orFirst 0 b = b := by
  cases b with
  | nil => rfl
  | cons x r => simp [orFirst]

/-- the prefix value `readVarInt` takes from a first byte `p + flags` (`n = 8` leaves no room for flags) -/
theorem prefix_read (n p flags : Nat) (hn : n ≤ 8) (hp : p < 2 ^ n) (hf : flags % 2 ^ n = 0) (hfl : flags < 256) :
    (if n < 8 then (UInt8.ofNat (p + flags)).toNat % 2 ^ n else (UInt8.ofNat (p + flags)).toNat) = p := by
  obtain ⟨f1, f2⟩ := first_byte n p flags hn hp hf hfl
  rw [ofNat_toNat _ f1]
  by_cases h8 : n < 8
  · rw [if_pos h8, f2]
  · have : n = 8 := by omega
    subst this
    rw [if_neg h8]
    omega

/-- a prefix integer on the wire, with arbitrary flag bits OR-ed above the prefix: its first byte carries the flags and a
prefix value, and `readVarInt` gives the integer back -/
theorem flagged_int (n i flags : Nat) (rest : Bytes) (hn8 : n ≤ 8) (hf : flags % 2 ^ n = 0) (hfl : flags < 256)
    (hi : i < 2 ^ 63 + (2 ^ n - 1)) :
    ∃ b tl, orFirst flags (appendVarInt n i) ++ rest = b :: tl ∧ flags ≤ b.toNat ∧ b.toNat < flags + 2 ^ n ∧
      readVarInt n (b :: tl) = .ok (i, rest) := by
  have hpow := pow_le_256 n hn8
  have hpos : 1 ≤ 2 ^ n := Nat.one_le_two_pow
  unfold appendVarInt
  simp only []
  by_cases hik : i < 2 ^ n - 1
  · refine ⟨UInt8.ofNat (i + flags), rest, ?_, ?_⟩
    · simp only [hik, if_true, orFirst, ofNat_toNat i (by omega), List.cons_append, List.nil_append]
    · rw [ofNat_toNat _ (first_byte n i flags hn8 (by omega) hf hfl).1]
      refine ⟨by omega, by omega, ?_⟩
      simp only [readVarInt, prefix_read n i flags hn8 (by omega) hf hfl, hik, if_true]
  · refine ⟨UInt8.ofNat (2 ^ n - 1 + flags), contBytes (i - (2 ^ n - 1)) ++ rest, ?_, ?_⟩
    · simp only [hik, if_false, orFirst, ofNat_toNat (2 ^ n - 1) (by omega), List.cons_append]
    · rw [ofNat_toNat _ (first_byte n (2 ^ n - 1) flags hn8 (by omega) hf hfl).1]
      refine ⟨by omega, by omega, ?_⟩
      simp only [readVarInt, prefix_read n (2 ^ n - 1) flags hn8 (by omega) hf hfl, Nat.lt_irrefl, if_false]
      rw [readCont_closed _ _ 0 rest rfl (by omega), if_pos (by omega), Nat.pow_zero, Nat.mul_one, Nat.add_sub_cancel' (by omega)]

theorem int_roundtrip' (n i flags : Nat) (rest : Bytes) (hn8 : n ≤ 8)
    (hf : flags % 2 ^ n = 0) (hfl : flags < 256) (hi : i < 2 ^ 63 + (2 ^ n - 1)) :
    readVarInt n (orFirst flags (appendVarInt n i) ++ rest) = .ok (i, rest) := by
  obtain ⟨b, tl, hb, _, _, hrt⟩ := flagged_int n i flags rest hn8 hf hfl hi
  rw [hb, hrt]

theorem string_roundtrip' (s rest : Bytes) (maxLen : Nat) (hl : s.length < 2 ^ 63 + 127)
    (hm : maxLen = 0 ∨ s.length ≤ maxLen) :
    readStringRaw maxLen (appendStringPlain s ++ rest) = .ok (false, s, rest) := by
  unfold appendStringPlain
  obtain ⟨b, tl, hb, _, h128, hrt⟩ := flagged_int 7 s.length 0 (s ++ rest) (by omega) (by simp) (by omega) (by simpa using hl)
  rw [orFirst_zero] at hb
  rw [List.append_assoc, hb]
  simp only [readStringRaw, hrt]
  have h128 : ¬ (128 ≤ b.toNat) := by omega
  have h1 : ¬ (maxLen ≠ 0 ∧ maxLen < s.length) := by omega
  have h2 : ¬ ((s ++ rest).length < s.length) := by simp
  simp only [h1, h2, if_false, h128, decide_false, List.take_left', List.drop_left']

end MosnVerif.Lemmas.HpackInt
