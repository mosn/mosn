import MosnVerif.Model.HandoverQueue
import MosnVerif.Lemmas.Fold
namespace MosnVerif.Model.HandoverQueue
open MosnVerif.Gen.HandoverQueue

/-- nothing is lost, nothing reordered: what was forwarded, what is queued and what the writer still has to write is
the writer's sequence -/
def Inv {α} (ws : List α) (s : Q α) : Prop := s.forwarded ++ s.queue ++ s.pending = ws ∧ s.dropped = []

theorem step_inv {α} (mode : EnqueueMode) (hm : mode ≠ .dropWhenFull) (cap : Nat) (ws : List α) (s : Q α) (e : Ev)
    (h : Inv ws s) : Inv ws (step mode cap s e) := by
  obtain ⟨h1, h2⟩ := h
  -- a step that changes nothing keeps the invariant; the two that move a buffer move it across one `++`
  cases e with
  | w =>
    unfold step
    cases hp : s.pending with
    | nil => exact ⟨h1, h2⟩
    | cons x rest =>
      simp only []
      split
      · exact ⟨by rw [← h1, hp]; simp, h2⟩
      · cases mode with
        | dropWhenFull => exact absurd rfl hm
        | _ => exact ⟨h1, h2⟩
  | d =>
    unfold step
    cases hq : s.queue with
    | nil => exact ⟨h1, h2⟩
    | cons x q => exact ⟨by rw [← h1, hq]; simp, h2⟩

theorem run_inv {α} (mode : EnqueueMode) (hm : mode ≠ .dropWhenFull) (cap : Nat) (ws : List α) (sched : List Ev)
    (s : Q α) (h : Inv ws s) : Inv ws (run mode cap s sched) :=
  Lemmas.Fold.foldl_inv (step_inv mode hm cap ws) sched s h

end MosnVerif.Model.HandoverQueue
