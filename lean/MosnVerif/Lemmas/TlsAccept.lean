import MosnVerif.Model.TlsAccept
/-!
Lemmas about `Model/TlsAccept.lean`: an accept path has one of two shapes, and neither comes near the fuel.
-/
namespace MosnVerif.Lemmas.TlsAccept
open MosnVerif.Model.TlsAccept MosnVerif.Gen.TlsAccept MosnVerif.Gen.TlsConnect

/-- without use_original_dst the listener runs its TLS block and serves the connection itself -/
theorem accept_direct (e : Env) (n : Nat) (cur : Target) :
    accept e (n + 1) cur false =
      if e.mng cur && !e.transferred then (if e.mngErr cur then [.closed cur] else [.wrap cur, .serve cur])
      else [.serve cur] := by
  rw [accept]
  simp only [acceptWrapGuard, acceptAddsOrigDst, acceptDecision, chainEnd]
  cases e.mng cur
  · rfl
  cases e.transferred
  · cases e.mngErr cur <;> rfl
  · rfl

/-- with use_original_dst the accepting listener skips its TLS block and the original-dst filter hands a TCP connection
to the owner, which accepts it again without the flag -/
theorem accept_origDst (e : Env) (n : Nat) (htcp : e.isTCP = true) :
    accept e (n + 1) .self true = accept e n (specOwner true e.lookupOk e.matched e.localMatched) false := by
  rw [accept]
  simp only [acceptWrapGuard, acceptAddsOrigDst, origDstFilter, useOriginalDstNext, specOwner, htcp]
  cases e.lookupOk
  · rfl
  cases e.matched
  · cases e.localMatched <;> rfl
  · rfl

theorem accept_eq_owner (e : Env) (n : Nat) (useOrig : Bool) (htcp : e.isTCP = true) :
    accept e (n + 2) .self useOrig = accept e (n + 1) (specOwner useOrig e.lookupOk e.matched e.localMatched) false := by
  cases useOrig
  · rw [accept_direct, accept_direct]; rfl
  · exact accept_origDst e (n + 1) htcp

end MosnVerif.Lemmas.TlsAccept
