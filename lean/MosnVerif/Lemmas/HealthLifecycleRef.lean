import MosnVerif.Lemmas.HealthLifecycle
/-! The life-cycle model refines the hand-written reference `Ref`, and what it shows after every operation satisfies the
property predicate `holdsStep`. -/
namespace MosnVerif.Model.HealthLifecycle
open MosnVerif.Gen.HealthLifecycle MosnVerif.Gen.HealthCheck
open MosnVerif.Model.HealthCheck (Result Out trail ok_true_iff)

theorem effThr_eq (cu ch : Nat) : effThr cu ch = (if cu = 0 then 1 else cu, if ch = 0 then 1 else ch) := by
  simp only [effThr, HealthCheck.effUnhealthyThreshold_eq, HealthCheck.effHealthyThreshold_eq, Int.toNat_natCast]

theorem result_hosts (k : Cid) (a : Addr) (r : Result) (w : World) : (result k a r w).1.hosts = w.hosts := by
  fun_cases result k a r w <;> rfl

theorem result_thr (k : Cid) (a : Addr) (r : Result) (w : World) : (result k a r w).1.thr = w.thr := by
  fun_cases result k a r w <;> rfl

/-- address `a` is checked by cluster `k` alone: no other cluster has a session checker for it, and the
session checker of `k` satisfies the single-writer invariant `HealthCheck.Inv` against the address's flag -/
def SoleInv (w : World) (k : Cid) (a : Addr) : Prop :=
  (∀ k', k' ≠ k → w.chk k' a = none) ∧
  (∀ c, w.chk k a = some c → HealthCheck.Inv (w.thr k).1 (w.thr k).2 ⟨c.un, c.hc, (w.words a).active⟩ c.rev)

structure Sim (all : List Op) (w : World) (s : Ref) : Prop where
  thr : s.thr = w.thr
  hosts : s.hosts = w.hosts
  live : ∀ k a, s.live k a = (w.chk k a).map (·.rev)
  good : Good w
  pos : ∀ k, 1 ≤ (w.thr k).1 ∧ 1 ≤ (w.thr k).2
  sole : ∀ k a, soleOwner all k a = true → SoleInv w k a

theorem soleOwner_setHosts (all : List Op) (k0 : Cid) (a0 : Addr) (h : soleOwner all k0 a0 = true) (k : Cid) (hs : List Addr)
    (hm : Op.setHosts k hs ∈ all) : k = k0 ∨ a0 ∉ hs := by
  simp only [soleOwner, List.all_eq_true] at h
  have := h _ hm
  simp only [Bool.or_eq_true, beq_iff_eq, Bool.not_eq_true', List.contains_eq_mem, decide_eq_false_iff_not] at this
  exact this

theorem effThr_pos (cu ch : Nat) : 1 ≤ (effThr cu ch).1 ∧ 1 ≤ (effThr cu ch).2 := by
  rw [effThr_eq]
  constructor <;> dsimp only <;> split <;> omega

theorem sim_init (all : List Op) (cfg : Cid → Nat × Nat) (words0 : Addr → Word) :
    Sim all (World.init cfg words0) (Ref.init cfg) where
  thr := funext fun _ => (effThr_eq _ _).symm
  hosts := rfl
  live := by intro k a; rfl
  good := good_init cfg words0
  pos := fun k => effThr_pos _ _
  sole := by
    intro k a _
    constructor
    · intro k' _; rfl
    · intro c hc; simp [World.init] at hc

theorem step_thr (w : World) (op : Op) :
    (step w op).1.thr = match op with
      | .recreate k cu ch => upd w.thr k (effThr cu ch)
      | _ => w.thr := by
  cases op with
  | setHosts k hs => exact setHosts_thr k hs w
  | stopAll k => exact stopAll_thr k w
  | recreate k cu ch => exact congrArg (upd · k _) (stopAll_thr k w)
  | result k a r => exact result_thr k a r w
  | outlier a on => rfl

theorem step_hosts (w : World) (op : Op) :
    (step w op).1.hosts = match op with
      | .setHosts k hs => upd w.hosts k hs
      | .recreate k _ _ => upd w.hosts k []
      | _ => w.hosts := by
  cases op with
  | setHosts k hs => exact setHosts_hosts k hs w
  | stopAll k => exact stopAll_hosts k w
  | recreate k cu ch => exact congrArg (upd · k _) (stopAll_hosts k w)
  | result k a r => exact result_hosts k a r w
  | outlier a on => rfl

theorem sim_step_thr (all : List Op) (w : World) (s : Ref) (hs : Sim all w s) (op : Op) :
    (s.step op).thr = (step w op).1.thr := by
  rw [step_thr]
  cases op with
  | recreate k cu ch => show upd s.thr k _ = upd w.thr k (effThr cu ch); rw [hs.thr, effThr_eq]
  | _ => exact hs.thr

theorem sim_step_hosts (all : List Op) (w : World) (s : Ref) (hs : Sim all w s) (op : Op) :
    (s.step op).hosts = (step w op).1.hosts := by
  rw [step_hosts]
  cases op with
  | recreate k cu ch => exact congrArg (upd · k _) hs.hosts
  | setHosts k l => exact congrArg (upd · k _) hs.hosts
  | _ => exact hs.hosts

theorem sim_step_pos (all : List Op) (w : World) (s : Ref) (hs : Sim all w s) (op : Op) (k' : Cid) :
    1 ≤ ((step w op).1.thr k').1 ∧ 1 ≤ ((step w op).1.thr k').2 := by
  rw [step_thr]
  cases op with
  | recreate k cu ch =>
    dsimp only
    rw [upd_apply]
    split
    · exact effThr_pos cu ch
    · exact hs.pos k'
  | _ => exact hs.pos k'

theorem freshOr_map_rev (o : Option Checker) :
    (freshOr o).map (·.rev) = if o.isNone then some [] else o.map (·.rev) := by
  cases o <;> simp [freshOr, fresh]

theorem sim_step_live (all : List Op) (w : World) (s : Ref) (hs : Sim all w s) (op : Op) (k' : Cid) (a' : Addr) :
    (s.step op).live k' a' = ((step w op).1.chk k' a').map (·.rev) := by
  cases op with
  | setHosts k l =>
    -- both sides as case trees over the same conditions: the reference asks "listed anew AND no checker yet" at once
    simp only [Ref.step, step, setHosts_chk, hs.hosts, hs.live, List.contains_eq_mem, Bool.and_eq_true, Bool.not_eq_true',
      decide_eq_true_eq, decide_eq_false_iff_not, Option.isNone_map, apply_ite (Option.map _), freshOr_map_rev, Option.map_none]
    by_cases hk : k' = k
    · subst hk
      by_cases h2 : a' ∈ l ∧ ¬a' ∈ w.hosts k' <;> simp [h2]
    · simp [hk]
  | stopAll k =>
    simp only [Ref.step, step, stopAll_chk, hs.hosts, hs.live, List.contains_eq_mem, decide_eq_true_eq]
    split <;> simp
  | recreate k cu ch =>
    simp only [Ref.step, step, hs.live]
    by_cases hk : k' = k
    · simp [hk]
    · simp [hk, stopAll_chk]
  | outlier a on => exact hs.live k' a'
  | result k a r =>
    simp only [Ref.step, step, upd2_apply, hs.live]
    cases hc : w.chk k a with
    | none =>
      rw [result_none _ _ _ _ hc]
      split
      · rename_i e; rw [e.1, e.2, hc]; rfl
      · rfl
    | some c =>
      obtain ⟨hrun, _, _⟩ := hs.good _ _ _ hc
      obtain ⟨_, _, hchk⟩ := result_live k a r w c hc hrun
      rw [hchk, upd2_apply]
      split <;> simp

theorem result_chk_other (k : Cid) (a : Addr) (r : Result) (w : World) (k' : Cid) (a' : Addr) (h : w.chk k' a' = none) :
    (result k a r w).1.chk k' a' = none := by
  fun_cases result k a r w with
  | case1 => exact h
  | case2 => exact h
  | case3 c hc =>
    show upd2 w.chk k a _ k' a' = none
    rw [upd2_apply]
    split
    · rename_i e; rw [e.1, e.2, hc] at h; cases h
    · exact h

/-- a cluster that has no session checker for an address has none after every operation but its own host update listing
the address -/
theorem step_absent (w : World) (op : Op) (k : Cid) (a : Addr) (h2 : w.chk k a = none)
    (hn : ∀ l, op = .setHosts k l → a ∉ l) : (step w op).1.chk k a = none := by
  by_cases hl : op.isLifecycle = true
  · rcases step_lifecycle_chk w op hl k a with e | ⟨e, _⟩ | ⟨l, e, hl, _⟩
    · exact e
    · exact e.trans h2
    · exact absurd hl (hn l e)
  · cases op with
    | result k0 a0 r => exact result_chk_other k0 a0 r w k a h2
    | outlier a0 on => exact h2
    | _ => exact absurd rfl hl

theorem sim_step_sole (all : List Op) (w : World) (s : Ref) (hs : Sim all w s) (op : Op) (hm : op ∈ all)
    (k0 : Cid) (a0 : Addr) (hso : soleOwner all k0 a0 = true) : SoleInv (step w op).1 k0 a0 := by
  obtain ⟨hA, hB⟩ := hs.sole k0 a0 hso
  refine ⟨fun k' hk' => step_absent w op k' a0 (hA k' hk') fun l e =>
    (soleOwner_setHosts all k0 a0 hso k' l (e ▸ hm)).resolve_left hk', fun c hc => ?_⟩
  by_cases hl : op.isLifecycle = true
  · rw [step_lifecycle_words w op hl]
    rcases step_lifecycle_chk w op hl k0 a0 with e | ⟨e, et⟩ | ⟨_, _, _, e, et⟩
    · rw [e] at hc; cases hc
    · rw [et]; exact hB c (e ▸ hc)
    · rw [e] at hc; cases hc
      rw [et]; exact HealthCheck.inv_init _ _ (hs.pos k0).1 (hs.pos k0).2 _
  cases op with
  | outlier a on =>
    simp only [step] at hc ⊢
    have : (upd w.words a { w.words a with outlier := on } a0).active = (w.words a0).active := by
      rw [upd_apply]; split
      · rename_i e; rw [e]
      · rfl
    rw [this]; exact hB c hc
  | result k a r =>
    simp only [step] at hc ⊢
    cases hk : w.chk k a with
    | none => rw [result_none _ _ _ _ hk] at hc ⊢; exact hB c hc
    | some c0 =>
      obtain ⟨hrun, _, _⟩ := hs.good _ _ _ hk
      obtain ⟨_, hw, hchk⟩ := result_live k a r w c0 hk hrun
      rw [result_thr, hw, upd_apply]
      rw [hchk, upd2_apply] at hc
      by_cases ha : a0 = a
      · subst ha
        -- a live checker for address a0 belongs to cluster k0
        have hk0 : k = k0 := Classical.byContradiction fun hne => by rw [hA k hne] at hk; cases hk
        subst hk0
        rw [if_pos ⟨rfl, rfl⟩] at hc
        cases hc
        rw [if_pos rfl]
        exact (HealthCheck.step_spec _ _ (hs.pos k).1 (hs.pos k).2 _ _ r (hB c0 hk)).2.2
      · rw [if_neg (fun e => ha e.2)] at hc
        rw [if_neg ha]
        exact hB c hc
  | _ => exact absurd rfl hl

theorem sim_step (all : List Op) (w : World) (s : Ref) (hs : Sim all w s) (op : Op) (hm : op ∈ all) :
    Sim all (step w op).1 (s.step op) where
  thr := sim_step_thr all w s hs op
  hosts := sim_step_hosts all w s hs op
  live := sim_step_live all w s hs op
  good := good_step w op hs.good
  pos := sim_step_pos all w s hs op
  sole := sim_step_sole all w s hs op hm

/-- a result handed to a running session checker whose counters are the run lengths of its own history (the single-writer
invariant against the address's flag): flag and callback are those of the run-length reference -/
theorem result_exact (w : World) (k : Cid) (a : Addr) (r : Result) (c : Checker) (hc : w.chk k a = some c)
    (hrun : c.running = true) (hpos : 1 ≤ (w.thr k).1 ∧ 1 ≤ (w.thr k).2)
    (hi : HealthCheck.Inv (w.thr k).1 (w.thr k).2 ⟨c.un, c.hc, (w.words a).active⟩ c.rev) :
    let before := (w.words a).active
    let changed := (!before && r.bad && trail Result.bad (r :: c.rev) == (w.thr k).1) ||
                   (before && r.ok && trail Result.ok (r :: c.rev) == (w.thr k).2)
    (step w (.result k a r)).2 = some ⟨changed, r.ok, if changed then !before else before⟩ ∧
    ((step w (.result k a r)).1.words a).active = (if changed then !before else before) := by
  obtain ⟨hcb, hw, _⟩ := result_live k a r w c hc hrun
  obtain ⟨ho, hfl, _⟩ := HealthCheck.step_spec _ _ hpos.1 hpos.2 _ _ r hi
  simp only [] at ho hfl
  simp only [step]
  rw [hcb, hw, upd_apply, if_pos rfl]
  simp only [handled]
  exact ⟨by rw [ho], hfl⟩

theorem all_range (n : Nat) (f : Nat → Bool) (h : ∀ x, f x = true) : (List.range n).all f = true := by
  simp only [List.all_eq_true]; intro x _; exact h x

/-- a life-cycle operation that shows the words it found and no callback is accepted -/
theorem holdsStep_lifecycle_id (n : Nat) (all : List Op) (r : Ref) (wds : Addr → Word) (o : Op) (h : o.isLifecycle = true) :
    holdsStep n all r wds wds none o = true := by
  have t : (Option.isNone (none : Option Out) && (List.range n).all (fun x => wds x == wds x)) = true := by
    simp only [Option.isNone_none, Bool.true_and]
    exact all_range _ _ (fun x => by simp)
  cases o with
  | result k a r' => simp [Op.isLifecycle] at h
  | outlier a on => simp [Op.isLifecycle] at h
  | _ => exact t

/-- what the model shows after one operation satisfies the property predicate -/
theorem holds_step (n : Nat) (all : List Op) (w : World) (s : Ref) (hs : Sim all w s) (op : Op) :
    holdsStep n all s w.words (step w op).1.words (step w op).2 op = true := by
  cases op with
  | outlier a on =>
    simp only [holdsStep, step, Option.isNone_none, Bool.true_and]
    exact all_range _ _ (fun x => by
      simp only [upd_apply, beq_iff_eq]
      split
      · rename_i e; subst e; rfl
      · rfl)
  | result k a r =>
    simp only [holdsStep, step]
    rw [hs.live]
    cases hc : w.chk k a with
    | none =>
      rw [result_none _ _ _ _ hc]
      simp only [Option.map_none]
      exact all_range _ _ (fun x => by simp)
    | some c =>
      obtain ⟨hrun, hh, hu⟩ := hs.good _ _ _ hc
      obtain ⟨hcb, hw, _⟩ := result_live k a r w c hc hrun
      have hf : ((result k a r w).1.words a).active = (handled w k a c r).1.flag := by rw [hw, upd_apply, if_pos rfl]
      -- the callback reports the transition, which needs a threshold-completing result of this checker
      obtain ⟨hout, _, _, hclr, hset⟩ :=
        HealthCheck.step_of_le (w.thr k).1 (w.thr k).2 ⟨c.un, c.hc, (w.words a).active⟩ c.rev r hh hu
      rw [← show _ = (HealthCheck.step _ _ _ r).1.flag from hf] at hout hclr hset
      rw [hcb.trans (congrArg some hout)]
      simp only [Option.map_some, beq_self_eq_true, Bool.and_true, Bool.and_eq_true, hs.thr]
      refine ⟨⟨⟨?_, ?_⟩, ?_⟩, ?_⟩
      · -- only the active-health-check condition of address a may change
        exact all_range _ _ fun x => by
          rw [hf, hw, upd_apply]
          split
          · rename_i e; subst e; simp
          · simp
      · -- cleared only by a success that completes a threshold-long run, set only by such a failure
        cases hb : (w.words a).active <;> cases ha : ((result k a r w).1.words a).active <;> simp
        simpa [ok_true_iff] using hclr hb ha
      · cases hb : (w.words a).active <;> cases ha : ((result k a r w).1.words a).active <;> simp
        simpa using hset hb ha
      · -- exactness when cluster k is the only one checking the address
        cases hso : soleOwner all k a with
        | false => rfl
        | true =>
          rw [show ((result k a r w).1.words a).active = _ from (result_exact w k a r c hc hrun (hs.pos k) ((hs.sole k a hso).2 c hc)).2]
          exact (by decide : ∀ b ch : Bool, (!true || ((b != if ch then !b else b) == ch)) = true) _ _
  | _ =>
    rw [step_lifecycle_words w _ rfl, step_lifecycle_out w _ rfl]
    exact holdsStep_lifecycle_id n all s w.words _ rfl

theorem holdsFrom_trace (n : Nat) (all : List Op) (ops : List Op) (w : World) (s : Ref) (hs : Sim all w s)
    (hsub : ∀ op ∈ ops, op ∈ all) : holdsFrom n all s w.words ops (trace w ops) = true := by
  induction ops generalizing w s with
  | nil => rfl
  | cons op ops ih =>
    obtain ⟨hop, hsub⟩ := List.forall_mem_cons.mp hsub
    simp only [trace, holdsFrom, Bool.and_eq_true]
    exact ⟨holds_step n all w s hs op, ih _ _ (sim_step all w s hs op hop) hsub⟩

def Ref.run (s : Ref) (ops : List Op) : Ref := ops.foldl Ref.step s

theorem sim_runOps (all : List Op) (ops : List Op) (w : World) (s : Ref) (hs : Sim all w s)
    (hsub : ∀ op ∈ ops, op ∈ all) : Sim all (runOps w ops) (s.run ops) :=
  List.foldl_rel (r := Sim all) hs fun op hm w s h => sim_step all w s h op (hsub op hm)

end MosnVerif.Model.HealthLifecycle
