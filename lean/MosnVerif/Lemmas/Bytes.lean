import MosnVerif.Model.Bytes
/-! lemmas about the big-endian helpers (core only) -/
namespace MosnVerif.Model.Bytes

@[simp] theorem be_length (w n : Nat) : (be w n).length = w := by
  induction w with
  | zero => rfl
  | succ w ih => simp [be, ih]

theorem toNat_foldl (b : Bytes) (a : Nat) :
    b.foldl (fun acc x => acc * 256 + x.toNat) a = a * 256 ^ b.length + toNat b := by
  induction b generalizing a with
  | nil => simp [toNat]
  | cons x r ih =>
    simp only [List.foldl_cons, toNat, List.length_cons]
    rw [ih, ih (0 * 256 + x.toNat)]
    rw [Nat.pow_succ, Nat.add_mul, Nat.zero_mul, Nat.zero_add, Nat.mul_assoc, Nat.mul_comm 256, Nat.add_assoc]

@[simp] theorem toNat_nil : toNat [] = 0 := rfl

theorem toNat_cons (x : UInt8) (r : Bytes) : toNat (x :: r) = x.toNat * 256 ^ r.length + toNat r := by
  simp only [toNat, List.foldl_cons]
  rw [toNat_foldl]; simp [toNat]

theorem toNat_append (a b : Bytes) : toNat (a ++ b) = toNat a * 256 ^ b.length + toNat b := by
  simp only [toNat, List.foldl_append]
  rw [toNat_foldl]; rfl

theorem toNat_lt (b : Bytes) : toNat b < 256 ^ b.length := by
  induction b with
  | nil => simp
  | cons x r ih =>
    rw [toNat_cons, List.length_cons, Nat.pow_succ]
    have hx : x.toNat < 256 := x.toNat_lt
    have : x.toNat * 256 ^ r.length + 256 ^ r.length ≤ 256 * 256 ^ r.length := by
      rw [← Nat.succ_mul]; exact Nat.mul_le_mul_right _ hx
    rw [Nat.mul_comm (256 ^ r.length)]; omega

theorem toNat_be (w n : Nat) : toNat (be w n) = n % 256 ^ w := by
  induction w with
  | zero => simp [be, Nat.mod_one]
  | succ w ih =>
    rw [be, toNat_cons, ih, be_length, UInt8.toNat_ofNat']
    have h1 : n % (256 ^ w * 256) = n % 256 ^ w + 256 ^ w * (n / 256 ^ w % 256) := Nat.mod_mul
    have e : (2 : Nat) ^ 8 = 256 := rfl
    rw [e, Nat.pow_succ 256, h1, Nat.mul_comm, Nat.add_comm]

theorem toNat_be_of_lt {w n : Nat} (h : n < 256 ^ w) : toNat (be w n) = n := by
  rw [toNat_be, Nat.mod_eq_of_lt h]

/-- a number below 2^32 is the sum of its four base-256 digits: for the codecs that write and read a word byte by byte -/
theorem digits32 (v : Nat) (h : v < 2 ^ 32) :
    v / 2 ^ 24 % 2 ^ 8 * 2 ^ 24 + v / 2 ^ 16 % 2 ^ 8 * 2 ^ 16 + v / 2 ^ 8 % 2 ^ 8 * 2 ^ 8 + v % 2 ^ 8 = v := by
  have h1 : v / 256 / 256 = v / 2 ^ 16 := Nat.div_div_eq_div_mul ..
  have h2 : v / 2 ^ 16 / 256 = v / 2 ^ 24 := Nat.div_div_eq_div_mul ..
  rw [Nat.mod_eq_of_lt (Nat.div_lt_of_lt_mul h : v / 2 ^ 24 < 2 ^ 8)]
  omega

/-- `be w` only looks at the value modulo `256 ^ w` -/
theorem be_congr {w a c : Nat} (h : a % 256 ^ w = c % 256 ^ w) : be w a = be w c := by
  induction w with
  | zero => rfl
  | succ w ih =>
    rw [Nat.pow_succ] at h
    rw [be, be, ih (by rw [← Nat.mod_mul_right_mod a, h, Nat.mod_mul_right_mod])]
    congr 1
    apply UInt8.toNat_inj.mp
    rw [UInt8.toNat_ofNat', UInt8.toNat_ofNat']
    exact (Nat.mod_mul_right_div_self a _ 256).symm.trans (h ▸ Nat.mod_mul_right_div_self c _ 256)

theorem be_mod (w n : Nat) : be w (n % 256 ^ w) = be w n := be_congr (Nat.mod_mod _ _)

theorem be_toNat (b : Bytes) : be b.length (toNat b) = b := by
  induction b with
  | nil => rfl
  | cons x r ih =>
    rw [List.length_cons, be]
    have hr := toNat_lt r
    have hp : 0 < 256 ^ r.length := Nat.pow_pos (by decide)
    congr 1
    · rw [toNat_cons]
      have : (x.toNat * 256 ^ r.length + toNat r) / 256 ^ r.length = x.toNat := by
        rw [Nat.add_comm, Nat.add_mul_div_right _ _ hp, Nat.div_eq_of_lt hr, Nat.zero_add]
      rw [this]; exact UInt8.ofNat_toNat
    · rw [toNat_cons, be_congr (Nat.mul_add_mod_self_right _ _ _), ih]

theorem be_eight_mod (n : Nat) : be 8 (n % 2 ^ 64) = be 8 n := be_mod 8 n

@[simp] theorem slice_length (b : Bytes) (lo hi : Nat) : (slice b lo hi).length = min hi b.length - lo := by
  simp [slice]

theorem slice_append_left (a b : Bytes) (lo hi : Nat) (h : hi ≤ a.length) : slice (a ++ b) lo hi = slice a lo hi := by
  simp [slice, List.take_append_of_le_length h]

theorem getBE_append_left (a b : Bytes) (lo hi : Nat) (h : hi ≤ a.length) : getBE (a ++ b) lo hi = getBE a lo hi := by
  simp [getBE, slice_append_left a b lo hi h]

theorem slice_take (b : Bytes) (lo hi n : Nat) (h : hi ≤ n) : slice (b.take n) lo hi = slice b lo hi := by
  simp [slice, List.take_take, Nat.min_eq_left h]

theorem getBE_lt (b : Bytes) (lo hi : Nat) : getBE b lo hi < 256 ^ (hi - lo) := by
  have h := toNat_lt (slice b lo hi)
  have hl : (slice b lo hi).length ≤ hi - lo := by simp; omega
  exact Nat.lt_of_lt_of_le h (Nat.pow_le_pow_right (by decide) hl)

theorem getBE_one_lt (b : Bytes) (i : Nat) : getBE b i (i + 1) < 256 := by
  have := getBE_lt b i (i + 1); simpa using this

theorem slice_drop (b : Bytes) (k lo hi : Nat) : slice (b.drop k) lo hi = slice b (k + lo) (k + hi) := by
  unfold slice
  rw [← List.drop_drop]
  congr 1
  rw [List.drop_take, Nat.add_sub_cancel_left]

theorem getBE_drop (b : Bytes) (k lo hi : Nat) : getBE (b.drop k) lo hi = getBE b (k + lo) (k + hi) := by
  unfold getBE; rw [slice_drop]

theorem getBE_take (b : Bytes) (lo hi n : Nat) (h : hi ≤ n) : getBE (b.take n) lo hi = getBE b lo hi := by
  unfold getBE; rw [slice_take b lo hi n h]

theorem slice_append_right (a r : Bytes) (lo hi : Nat) : slice (a ++ r) (a.length + lo) (a.length + hi) = slice r lo hi := by
  rw [← slice_drop, List.drop_left]

theorem slice_prefix (a r : Bytes) : slice (a ++ r) 0 a.length = a := by
  simp [slice]

theorem slice_mid (a b c : Bytes) : slice (a ++ b ++ c) a.length (a.length + b.length) = b := by
  have := slice_append_right a (b ++ c) 0 b.length
  rwa [slice_prefix, ← List.append_assoc] at this

theorem slice_append_skip (a r : Bytes) (lo hi : Nat) (h : a.length ≤ lo) :
    slice (a ++ r) lo hi = slice r (lo - a.length) (hi - a.length) := by
  unfold slice
  rw [List.take_append, List.drop_append, List.drop_eq_nil_of_le (Nat.le_trans (List.length_take_le' _ _) h), List.length_take,
    List.nil_append]
  by_cases hh : a.length ≤ hi
  · rw [Nat.min_eq_right hh]
  · rw [Nat.sub_eq_zero_of_le (Nat.le_of_not_le hh), List.take_zero, List.drop_nil, List.drop_nil]

theorem getBE_append_right (a r : Bytes) (lo hi : Nat) : getBE (a ++ r) (a.length + lo) (a.length + hi) = getBE r lo hi := by
  unfold getBE; rw [slice_append_right]

theorem getBE_prefix (a r : Bytes) : getBE (a ++ r) 0 a.length = toNat a := by
  unfold getBE; rw [slice_prefix]

/-- a one-byte read is `byteAt` (both are 0 past the end) -/
theorem getBE_one (b : Bytes) (i : Nat) : getBE b i (i + 1) = byteAt b i := by
  unfold getBE slice byteAt
  rw [List.drop_take, Nat.add_sub_cancel_left]
  by_cases h : i < b.length
  · have : (b.drop i).take 1 = [b[i]] := by rw [List.drop_eq_getElem_cons h]; rfl
    simp [this, toNat, List.getElem?_eq_getElem h]
  · simp [List.drop_eq_nil_of_le (Nat.le_of_not_lt h), toNat, List.getElem?_eq_none (Nat.le_of_not_lt h)]

/-! A buffer is read front to back by its cut points: what is left at a cut point starts with the next section (the sections
behind a written header, the window of a patched buffer, the fields of a tars packet). -/

theorem slice_of_drop {b s post : Bytes} {lo hi : Nat} (h : b.drop lo = s ++ post) (hhi : hi = lo + s.length) :
    slice b lo hi = s := by
  subst hhi
  unfold slice
  rw [List.drop_take, Nat.add_sub_cancel_left, h, List.take_left]

theorem drop_of_drop {b s post : Bytes} {lo lo' : Nat} (h : b.drop lo = s ++ post) (hlo : lo' = lo + s.length) :
    b.drop lo' = post := by
  subst hlo
  rw [← List.drop_drop, h, List.drop_left]

/-- a patched buffer read front to back: behind the untouched front come the new bytes, then the untouched rest -/
theorem patch_drop (b v : Bytes) (off : Nat) (h : off ≤ b.length) :
    (patch b off v).drop off = v ++ b.drop (off + v.length) := by
  unfold patch
  rw [List.append_assoc, List.drop_left' (List.length_take_of_le h)]

theorem patch_length (b v : Bytes) (off : Nat) (h : off + v.length ≤ b.length) : (patch b off v).length = b.length := by
  simp [patch]; omega

theorem patch_getElem?_outside (b v : Bytes) (off j : Nat) (h : off + v.length ≤ b.length)
    (hj : j < off ∨ off + v.length ≤ j) : (patch b off v)[j]? = b[j]? := by
  rcases hj with hj | hj
  · unfold patch
    rw [List.append_assoc, List.getElem?_append_left (by rwa [List.length_take_of_le (by omega)]), List.getElem?_take_of_lt hj]
  · obtain ⟨k, rfl⟩ := Nat.exists_eq_add_of_le hj
    rw [← List.getElem?_drop, ← List.getElem?_drop, drop_of_drop (patch_drop b v off (by omega)) rfl]

theorem patch_getElem?_inside (b v : Bytes) (off j : Nat) (h : off + v.length ≤ b.length)
    (hj : j < v.length) : (patch b off v)[off + j]? = v[j]? := by
  rw [← List.getElem?_drop, patch_drop b v off (by omega), List.getElem?_append_left hj]

theorem slice_patch_window (b v : Bytes) (off : Nat) (h : off + v.length ≤ b.length) :
    slice (patch b off v) off (off + v.length) = v :=
  slice_of_drop (patch_drop b v off (by omega)) rfl

theorem patch_self (b : Bytes) (off w : Nat) (h : off + w ≤ b.length) : patch b off (slice b off (off + w)) = b := by
  have hl : (slice b off (off + w)).length = w := by simp; omega
  unfold patch
  rw [hl, slice, List.drop_take, Nat.add_sub_cancel_left, List.append_assoc, ← List.drop_drop, List.take_append_drop,
    List.take_append_drop]

/-! ### guard ladders

A decoder is a nest of `if guard then <failure> else …`.  When its result is known not to be that failure, the guard was
passed: one step down the ladder per use. -/

theorem if_neg_of_ne {α : Type} {c : Prop} [Decidable c] {e x y : α} (h : (if c then e else x) = y) (he : e ≠ y) :
    ¬ c ∧ x = y := by
  by_cases hc : c
  · rw [if_pos hc] at h; exact absurd h he
  · rw [if_neg hc] at h; exact ⟨hc, h⟩

theorem if_pos_of_ne {α : Type} {c : Prop} [Decidable c] {e x y : α} (h : (if c then x else e) = y) (he : e ≠ y) :
    c ∧ x = y := by
  by_cases hc : c
  · rw [if_pos hc] at h; exact ⟨hc, h⟩
  · rw [if_neg hc] at h; exact absurd h he

/-- a length computed in uint32 from a 4-byte field and a constant either is the true sum or wrapped below the constant -/
theorem add_mod_wrap (k d : Nat) (hd : d < 4294967296) :
    (k + d) % 2 ^ 32 = k + d ∧ k + d < 4294967296 ∨ (k + d) % 2 ^ 32 < k := by
  omega

/-- consecutive big-endian fields of widths `ws` holding the values `vs`, as a header writer emits them.  Widths and values
are kept apart so that the widths of a literal layout are numerals and the offsets of its fields evaluate. -/
def fields : List Nat → List Nat → Bytes
  | [], _ => []
  | w :: ws, vs => be w (vs.headD 0) ++ fields ws vs.tail

theorem fields_length (ws vs : List Nat) : (fields ws vs).length = ws.sum := by
  induction ws generalizing vs with
  | nil => rfl
  | cons w ws ih => simp [fields, ih]

/-! Reads of a written header are evaluated by two rules: a read at offset 0 of the width of the first field returns its
value, a read behind the first field is a read behind the remaining fields.  With a literal layout `simp only` with both
(and `Nat.reduceLeDiff`, `Nat.reduceSub`) rewrites every read of a decoder at once. -/

theorem getBE_fields_hit (w v : Nat) (ws vs : List Nat) (rest : Bytes) :
    getBE (fields (w :: ws) (v :: vs) ++ rest) 0 w = v % 256 ^ w := by
  have := getBE_prefix (be w v) (fields ws vs ++ rest)
  rwa [be_length, toNat_be, ← List.append_assoc] at this

theorem getBE_fields_skip (w v : Nat) (ws vs : List Nat) (rest : Bytes) (lo hi : Nat) (h : w ≤ lo) :
    getBE (fields (w :: ws) (v :: vs) ++ rest) lo hi = getBE (fields ws vs ++ rest) (lo - w) (hi - w) := by
  have := slice_append_skip (be w v) (fields ws vs ++ rest) lo hi (by rwa [be_length])
  rw [be_length, ← List.append_assoc] at this
  exact congrArg toNat this

/-- the closed form of the two rules: field `i` reads back at the summed widths before it (with a literal layout the offset,
the width and the value are found by evaluation, so a call is `getBE_field ws vs i rest`) -/
theorem getBE_field (ws vs : List Nat) (i : Nat) (rest : Bytes) :
    getBE (fields ws vs ++ rest) (ws.take i).sum ((ws.take i).sum + ws.getD i 0) = vs.getD i 0 % 256 ^ ws.getD i 0 := by
  induction ws generalizing vs i with
  | nil => simp [fields, getBE, slice, Nat.mod_one]
  | cons w ws ih =>
    show getBE (fields (w :: ws) (vs.headD 0 :: vs.tail) ++ rest) _ _ = _
    cases i with
    | zero =>
      rw [List.take_zero, List.sum_nil, Nat.zero_add]
      cases vs <;> exact getBE_fields_hit w _ ws _ rest
    | succ i =>
      rw [List.take_succ_cons, List.sum_cons, getBE_fields_skip w _ ws _ rest _ _ (Nat.le_add_right w _), Nat.add_assoc,
        Nat.add_sub_cancel_left, Nat.add_sub_cancel_left]
      cases vs <;> exact ih _ i

theorem getBE_field_of_lt (ws vs : List Nat) (i : Nat) (rest : Bytes) (h : vs.getD i 0 < 256 ^ ws.getD i 0) :
    getBE (fields ws vs ++ rest) (ws.take i).sum ((ws.take i).sum + ws.getD i 0) = vs.getD i 0 :=
  (getBE_field ws vs i rest).trans (Nat.mod_eq_of_lt h)

end MosnVerif.Model.Bytes
