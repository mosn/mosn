import MosnVerif.Model.Shutdown
import MosnVerif.Lemmas.Fold
/-! stage-manager lemmas: the stored states never go down in rank -/
namespace MosnVerif.Model.Shutdown
open MosnVerif.Gen.Shutdown

/-- history is rank-monotone and its head is the current state -/
structure Good (m : SM) : Prop where
  mono : monoRev m.hist
  head : m.state = m.hist.headD Nil

theorem Good.set {m : SM} (g : Good m) (s : Int) (h : rank m.state ≤ rank s) : Good (m.set s) := by
  refine ⟨?_, rfl⟩
  have hm := g.mono
  rw [g.head] at h
  -- the new history is `s :: m.hist`; only the head of `m.hist` matters
  show monoRev (s :: m.hist)
  generalize m.hist = l at h hm
  cases l with
  | nil => trivial
  | cons a r => exact ⟨h, hm⟩

/-- ranks ascend from `a` through the list -/
def ascFrom (a : Int) : List Int → Prop
  | [] => True
  | x :: r => rank a ≤ rank x ∧ ascFrom x r

theorem Good.setAll {m : SM} (g : Good m) (l : List Int) (h : ascFrom m.state l) :
    Good (m.setAll l) ∧ (m.setAll l).state = l.getLastD m.state := by
  induction l generalizing m with
  | nil => exact ⟨g, rfl⟩
  | cons x r ih =>
    -- `(m.setAll (x :: r))` is `(m.set x).setAll r`, and `(m.set x).state` is `x`
    obtain ⟨g', e⟩ := ih (g.set x h.1) h.2
    exact ⟨g', e.trans (by cases r <;> rfl)⟩

theorem setAll_exit (m : SM) (l : List Int) : (m.setAll l).exit = m.exit ∧ (m.setAll l).bootIdx = m.bootIdx
    ∧ (m.setAll l).released = m.released ∧ (m.setAll l).stopAction = m.stopAction := by
  -- `SM.set` writes none of the four
  simpa only [SM.setAll, Prod.mk.injEq] using Lemmas.Fold.foldl_frame
    (fun m : SM => (m.exit, m.bootIdx, m.released, m.stopAction)) SM.set l (fun _ _ _ => rfl) m

theorem rank_lit (s : Int) (h : s ≠ 12 ∧ s ≠ 13) : rank s = s := by
  unfold rank
  simp [StartingNewServer, Upgrading, h.1, h.2]

theorem Good.call {m : SM} (g : Good m) (c : String) : Good (m.call c) := ⟨g.mono, g.head⟩

/-- the part of `Stop` common to both stop actions: Stopping, the close call, AfterStop, Stopped, the exit code -/
theorem Good.stopTail {m : SM} (g : Good m) (h : rank m.state ≤ rank Stopping) (c : String) (e : Option Int) :
    Good { ((m.setAll (stopSeqDirect.take 1)).call c).setAll (stopSeqDirect.drop 1) with exit := e } := by
  obtain ⟨g1, s1⟩ := g.setAll [Stopping] ⟨h, trivial⟩
  have s1' : ((m.setAll [Stopping]).call c).state = Stopping := s1
  have g3 := ((g1.call c).setAll [AfterStop, Stopped] ⟨by rw [s1']; decide, by decide, trivial⟩).1
  exact ⟨g3.mono, g3.head⟩

/-- `Stop` from a state at or before Running in rank: the history stays monotone, the process exits or `Stop` was ignored -/
theorem smStop_good (m : SM) (f : Bool) (g : Good m) (h : rank m.state ≤ 6) :
    Good (smStop m f) ∧ ((smStop m f).exit.isSome = true ∨ smStop m f = m) := by
  by_cases h1 : m.exit.isSome = true
  · rw [smStop, if_pos h1]; exact ⟨g, Or.inr rfl⟩
  by_cases h2 : stopIgnored m.state = true
  · rw [smStop, if_neg h1, if_pos h2]; exact ⟨g, Or.inr rfl⟩
  rw [smStop, if_neg h1, if_neg h2]
  refine ⟨?_, Or.inl rfl⟩
  cases stopRunsGraceful m.stopAction
  · exact g.stopTail (Int.le_trans h (by decide)) _ _
  · obtain ⟨g1, s1⟩ := g.setAll gracefulPrefix ⟨Int.le_trans h (by decide), trivial⟩
    have s1' : rank (m.setAll gracefulPrefix).state ≤ rank Stopping := by
      rw [s1]; exact (by decide : rank GracefulStopping ≤ rank Stopping)
    have g2 := g1.call s!"shutdown@{(m.setAll gracefulPrefix).state}"
    cases f
    · exact g2.stopTail s1' _ _
    · exact Good.stopTail ⟨g2.mono, g2.head⟩ s1' _ _
        (m := { (m.setAll gracefulPrefix).call s!"shutdown@{(m.setAll gracefulPrefix).state}" with exitCode := 4 })

def bootState (k : Nat) : Int := (Nil :: runSeq).getD k Nil

theorem boot_facts : ∀ k, k < 6 →
    rank (bootState k) ≤ rank (runSeq.getD k 0) ∧ bootState (k + 1) = runSeq.getD k 0 ∧
    (¬ (k + 1 < 6) → rank (runSeq.getD k 0) = 6) ∧ bootState k < 6 ∧ rank (bootState k) ≤ 6 := by decide

structure Inv (m : SM) : Prop where
  good : Good m
  phase : m.exit = none → (if m.bootIdx < 6 then m.state = bootState m.bootIdx else rank m.state = 6)

theorem Inv.rank_le {m : SM} (i : Inv m) (he : m.exit = none) : rank m.state ≤ 6 := by
  have := i.phase he
  split at this
  · rename_i hk; rw [this]; exact (boot_facts _ hk).2.2.2.2
  · omega

theorem Inv.call {m : SM} (i : Inv m) (c : String) : Inv (m.call c) := ⟨i.good.call c, i.phase⟩

theorem smStop_inv (m : SM) (f : Bool) (i : Inv m) (he : m.exit = none) : Inv (smStop m f) := by
  obtain ⟨g, h⟩ := smStop_good m f i.good (i.rank_le he)
  refine ⟨g, fun he' => ?_⟩
  rcases h with h | h
  · rw [he'] at h; cases h
  · rw [h]; exact i.phase he

/-- the event is one the environment can produce: Reload / Upgrade notices only once `Run` has returned, and an
init-stage callback only gives a stop notice -/
def evOk (m : SM) : SMEv → Bool
  | .boot early _ _ => match early with
    | some a => noticeKind a == 3 || noticeKind a == 0
    | none => true
  | .notice a _ _ => noticeKind a == 3 || noticeKind a == 0 || m.runDone
  | _ => true

def guarded (m : SM) : List SMEv → Prop
  | [] => True
  | e :: r => evOk m e = true ∧ guarded (smStep m e) r

instance monoRevDec : (l : List Int) → Decidable (monoRev l)
  | [] => isTrue trivial
  | [_] => isTrue trivial
  | a :: b :: r => by
    unfold monoRev
    exact @instDecidableAnd _ _ _ (monoRevDec (b :: r))

instance guardedDec : (m : SM) → (es : List SMEv) → Decidable (guarded m es)
  | _, [] => isTrue trivial
  | m, e :: r => by
    unfold guarded
    exact @instDecidableAnd _ _ _ (guardedDec (smStep m e) r)

theorem runDone_iff (m : SM) : m.runDone = true ↔ ¬ (m.bootIdx < 6) := by
  simp [SM.runDone, runSeq]

/-- once `Run` has returned, storing a state of Running's rank keeps the invariant -/
theorem Inv.setRunning {m : SM} (i : Inv m) (he : m.exit = none) (hrun : ¬ m.bootIdx < 6) (s : Int) (hs : rank s = 6) :
    Inv (m.setAll [s]) ∧ (m.setAll [s]).exit = none ∧ ¬ (m.setAll [s]).bootIdx < 6 := by
  have hr : rank m.state = 6 := by simpa [hrun] using i.phase he
  obtain ⟨g, st⟩ := i.good.setAll [s] ⟨by omega, trivial⟩
  obtain ⟨hx, hb, _⟩ := setAll_exit m [s]
  refine ⟨⟨g, fun _ => ?_⟩, hx ▸ he, hb ▸ hrun⟩
  rw [hb, if_neg hrun, st]
  exact hs

theorem smNotice_inv (m : SM) (a : Int) (hd : Option Bool) (f : Bool) (i : Inv m)
    (hk : (noticeKind a == 3 || noticeKind a == 0 || m.runDone) = true) : Inv (smNotice m a hd f) := by
  by_cases hex : m.exit.isSome = true
  · unfold smNotice; rw [if_pos hex]; exact i
  · have hex' : m.exit = none := by simpa using hex
    unfold smNotice; rw [if_neg hex]
    simp only [beforeStopOnCopy, ↓reduceIte, beforeStopSeq, reloadSeq, upgradeSeq, resumeSeq]
    -- the record with stopAction / notes replaced has the same history, state, boot index and exit
    generalize hm' : ({ m with stopAction := a, notes := [BeforeStop].reverse ++ m.notes } : SM) = m'
    have i' : Inv m' := by
      subst hm'
      exact ⟨⟨i.good.mono, i.good.head⟩, i.phase⟩
    have hex'' : m'.exit = none := by subst hm'; exact hex'
    -- a Reload or Upgrade notice only arrives once `Run` has returned
    have hrun : noticeKind a = 1 ∨ noticeKind a = 2 → ¬ (m'.bootIdx < 6) := by
      intro h12
      subst hm'
      apply (runDone_iff m).1
      rcases h12 with h | h <;> simpa [h] using hk
    match hkind : noticeKind a with
    | 1 =>
      simp only
      split
      · exact i'
      · exact (i'.setRunning hex'' (hrun (Or.inl hkind)) StartingNewServer (by decide)).1
    | 2 =>
      simp only
      obtain ⟨i1, e1, b1⟩ := i'.setRunning hex'' (hrun (Or.inr hkind)) Upgrading (by decide)
      cases hd with
      | none => exact (i1.setRunning e1 b1 Running (by decide)).1
      | some ok =>
        cases ok with
        | true => exact ⟨⟨i1.good.mono, i1.good.head⟩, i1.phase⟩
        | false => exact ((i1.call _).setRunning e1 b1 Running (by decide)).1
    | 3 =>
      simp only
      split
      · exact smStop_inv m' f i' hex''
      · subst hm'; exact ⟨⟨i.good.mono, i.good.head⟩, i.phase⟩
    | 0 => exact i'
    | n + 4 => exact i'

theorem runSeq_get (k : Nat) (s : Int) (h : runSeq[k]? = some s) : k < 6 ∧ runSeq.getD k 0 = s := by
  obtain ⟨hk, _⟩ := List.getElem?_eq_some_iff.1 h
  exact ⟨hk, by simp [List.getD, h]⟩

theorem smStep_inv (m : SM) (e : SMEv) (i : Inv m) (hk : evOk m e = true) : Inv (smStep m e) := by
  by_cases hex : m.exit.isSome = true
  · unfold smStep; rw [if_pos hex]; exact i
  have hex' : m.exit = none := by simpa using hex
  unfold smStep; rw [if_neg hex]
  cases e with
  | boot early initFails inheritFails =>
    dsimp only
    cases hs : runSeq[m.bootIdx]? with
    | none => exact i
    | some s =>
      dsimp only
      obtain ⟨hk6, hget⟩ := runSeq_get _ _ hs
      obtain ⟨f1, f2, f3, _, _⟩ := boot_facts _ hk6
      rw [hget] at f1 f2 f3
      have hst : m.state = bootState m.bootIdx := by have := i.phase hex'; simpa [hk6] using this
      -- after SetState(s) and advancing the stage counter
      generalize hm1 : ({ m.set s with bootIdx := m.bootIdx + 1 } : SM) = m1
      have i1 : Inv m1 := by
        have g := i.good.set s (by rw [hst]; exact f1)
        subst hm1
        refine ⟨⟨g.mono, g.head⟩, fun _ => ?_⟩
        show (if m.bootIdx + 1 < 6 then s = bootState (m.bootIdx + 1) else rank s = 6)
        split
        · exact f2.symm
        · exact f3 ‹_›
      have e1 : m1.exit = none := by subst hm1; exact hex'
      by_cases hI : (s == Initing) = true
      · -- Initing: init-stage callbacks (possibly an early stop notice), then app.Init
        rw [if_pos hI]
        have fin : ∀ m2 : SM, Inv m2 →
            Inv (if m2.exit.isSome = true then m2 else if initFails = true then smStop (m2.call "init") false else m2.call "init") := by
          intro m2 i2
          split
          · exact i2
          · split
            · exact smStop_inv _ _ (i2.call _) (show m2.exit = none by simpa using ‹¬ m2.exit.isSome = true›)
            · exact i2.call _
        cases early with
        | none => exact fin m1 i1
        | some a =>
          have hk' : (noticeKind a == 3 || noticeKind a == 0) = true := hk
          exact fin _ (smNotice_inv m1 a none false i1 (by rw [hk']; rfl))
      · rw [if_neg hI]
        split
        · -- Starting: app.Start, app.InheritConnections
          split
          · exact smStop_inv _ _ ⟨⟨i1.good.mono, i1.good.head⟩, i1.phase⟩ e1
          · exact (i1.call _).call _
        · exact i1
  | notice a handler f => exact smNotice_inv m a handler f i (by simpa [evOk] using hk)
  | reloadTimeout =>
    dsimp only
    split
    · have h12 : m.state = StartingNewServer := by simpa using ‹(m.state == StartingNewServer) = true›
      have hrun : ¬ (m.bootIdx < 6) := fun hk6 => by
        have hb := (boot_facts _ hk6).2.2.2.1
        rw [← (by simpa [hk6] using i.phase hex' : m.state = bootState m.bootIdx), h12] at hb
        exact absurd hb (by decide)
      exact (i.setRunning hex' hrun Running (by decide)).1
    · exact i
  | mainStop f =>
    dsimp only
    split
    · exact smStop_inv m f i hex'
    · exact i

theorem smInit_inv (f : Bool) : Inv (smInit f) :=
  ⟨⟨trivial, rfl⟩, fun _ => by simp only [smInit]; exact (by decide : (if 0 < 6 then Nil = bootState 0 else rank Nil = 6))⟩

theorem smRun_inv (m : SM) (es : List SMEv) (i : Inv m) (h : guarded m es) : Inv (smRun m es) := by
  induction es generalizing m with
  | nil => exact i
  | cons e r ih => exact ih _ (smStep_inv m e i h.1) h.2

end MosnVerif.Model.Shutdown
