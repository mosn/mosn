import MosnVerif.Model.HpackEmit
import MosnVerif.Lemmas.HpackAt
import MosnVerif.Lemmas.HpackTable
/-! The decoder with `emitEnabled`: whatever the emit callback does, its dynamic table evolves exactly like the table of
the always-emitting decoder of `Model/HpackTable` — hence like the encoder's (`Lemmas/HpackTable.block_sync`). -/
namespace MosnVerif.Lemmas.HpackEmit
open MosnVerif.Model.HpackTable MosnVerif.Model.HpackInt MosnVerif.Model.HpackAt MosnVerif.Model.HpackEmit
open MosnVerif.Lemmas.HpackTable MosnVerif.Lemmas.HpackAt

/-- sizes are consistent and within 32 bits: what bounds the length of the dynamic table -/
structure Bounded (d : Dec) : Prop where
  cons : Consistent d.tab
  le : d.tab.size ≤ d.tab.maxSize
  max32 : d.tab.maxSize ≤ uint32Max
  allowed32 : d.allowedMax ≤ uint32Max

theorem sizeOf'_ge (l : List Entry) : 32 * l.length ≤ Consistent.sizeOf' l := by
  induction l with
  | nil => simp [Consistent.sizeOf']
  | cons e r ih =>
    simp only [Consistent.sizeOf', List.map_cons, List.sum_cons, List.length_cons] at ih ⊢
    have : entrySize e = e.1.length + e.2.length + 32 := rfl
    omega

theorem bounded_len (d : Dec) (h : Bounded d) : d.tab.ents.length + staticLen < 9223372036854775808 := by
  have h1 := sizeOf'_ge d.tab.ents
  have h2 : d.tab.size = Consistent.sizeOf' d.tab.ents := h.cons
  have h3 := h.le
  have h4 := h.max32
  have hs : staticLen = 61 := by decide
  unfold uint32Max at h4
  omega

theorem bounded_new (m : Nat) (hm : m ≤ uint32Max) : Bounded (Dec.new m) :=
  ⟨rfl, Nat.zero_le _, hm, hm⟩

/-- `Bounded` reads only the table and `allowedMax` -/
theorem Bounded.of_eq {d d' : Dec} (hb : Bounded d) (ht : d'.tab = d.tab) (ha : d'.allowedMax = d.allowedMax) : Bounded d' :=
  ⟨ht ▸ hb.cons, ht ▸ hb.le, ht ▸ hb.max32, ha ▸ hb.allowed32⟩

theorem Bounded.add {d : Dec} (hb : Bounded d) (e : Entry) : Bounded { d with tab := d.tab.add e } := by
  obtain ⟨c, l, m⟩ := add_consistent d.tab e hb.cons
  exact ⟨c, l, by show (d.tab.add e).maxSize ≤ uint32Max; rw [m]; exact hb.max32, hb.allowed32⟩

theorem Bounded.setMaxSize {d : Dec} (hb : Bounded d) {v : Nat} (hv : v ≤ d.allowedMax) :
    Bounded { d with tab := d.tab.setMaxSize v } := by
  obtain ⟨c, l, m⟩ := setMaxSize_consistent d.tab v hb.cons
  have h32 := Nat.le_trans hv hb.allowed32
  exact ⟨c, by show (d.tab.setMaxSize v).size ≤ (d.tab.setMaxSize v).maxSize; rw [m]; exact l,
    by show (d.tab.setMaxSize v).maxSize ≤ uint32Max; rw [m]; exact h32, hb.allowed32⟩

theorem at_some_bound (d : Dec) (i : Nat) (e : Entry) (h : d.at i = some e) : i ≤ d.tab.ents.length + staticLen :=
  Nat.le_of_not_lt fun hlt => nomatch h.symm.trans ((at_none_iff d i).2 (.inr hlt))

theorem lookup_of_at (d : Dec) (i : Nat) (hb : Bounded d) :
    (∀ e, d.at i = some e → lookup d i = .some e) := by
  intro e h
  have hlen := bounded_len d hb
  have hi : i < uint64Bound := by have := at_some_bound d i e h; unfold uint64Bound; omega
  rw [lookup_eq d i hi hlen, h]; rfl

theorem lookup_of_at_none (d : Dec) (i : Nat) (hb : Bounded d) (hi : i < uint64Bound) (h : d.at i = none) :
    lookup d i = .none := by
  rw [lookup_eq d i hi (bounded_len d hb), h]; rfl

theorem isIndexed_iff (k : LitKind) : isIndexed k = decide (k = .incremental) := by cases k <;> decide
theorem isSensitive_iff (k : LitKind) : isSensitive k = decide (k = .never) := by cases k <;> decide


/-- **one representation**: whenever the always-emitting decoder of `Model/HpackTable` accepts the representation the
encoder wrote, the decoder with the emit flag — enabled or not — accepts it with the SAME table-side state, and hands the
same field to the callback iff emitting is enabled. -/
theorem apply_refines (d : DecE) (r : Rep) (b' : Dec) (f : Option Field)
    (hb : Bounded d.base) (hm : d.base.maxStrLen = 0) (h : d.base.apply r = .ok (b', f)) :
    d.apply r = .ok ({ base := b', emit := d.emit }, if d.emit then f else none) := by
  have hE : ∀ g : Field, callEmit d.base g = .ok () := callEmit_ok d.base hm
  obtain ⟨b, em⟩ := d
  simp only at hb hm hE h ⊢
  revert h
  -- the three accepting branches of `Dec.apply`
  fun_cases Dec.apply b r <;> intro h <;> cases h
  case case3 idx e hat _ _ _ =>
    simp only [DecE.apply, DecE.applyP, lookup_of_at b idx hb e hat, emitStep, hE, codePolicy,
      MosnVerif.Gen.HpackEmit.emitGuard]
    rfl
  case case6 k nameIdx name value nm hres d' g _ _ =>
    simp only [DecE.apply, DecE.applyP, codePolicy, MosnVerif.Gen.HpackEmit.wantStr, MosnVerif.Gen.HpackEmit.addGuard,
      isIndexed_iff, isSensitive_iff]
    revert hres
    fun_cases Dec.resolveName b nameIdx name <;> intro hres <;> cases hres
    case case2 _ hidx e hat _ =>
      simp only [hidx, if_true, lookup_of_at b nameIdx hb e hat, emitStep, hE, MosnVerif.Gen.HpackEmit.emitGuard]
      cases em <;> cases k <;> simp [d', g]
    case case3 _ hidx _ =>
      simp only [hidx, if_false, emitStep, hE, MosnVerif.Gen.HpackEmit.emitGuard]
      cases em <;> cases k <;> simp [d', g]
  case case9 size h1 h2 =>
    simp only [DecE.apply, DecE.applyP]
    rw [if_neg h1, if_neg h2]
    cases em <;> rfl

theorem apply_ok (d d' : Dec) (r : Rep) (f : Option Field) (h : d.apply r = .ok (d', f)) :
    d'.maxStrLen = d.maxStrLen ∧ d'.allowedMax = d.allowedMax ∧
      (d'.tab = d.tab ∨ (∃ e, d'.tab = d.tab.add e) ∨ ∃ v, v ≤ d.allowedMax ∧ d'.tab = d.tab.setMaxSize v) := by
  revert h
  fun_cases Dec.apply d r <;> intro h <;> cases h
  case case3 => exact ⟨rfl, rfl, .inl rfl⟩
  case case6 k _ _ _ _ _ d1 _ _ _ =>
    by_cases hk : k = .incremental
    · have e : d1 = _ := if_pos hk
      rw [e]; exact ⟨rfl, rfl, .inr (.inl ⟨_, rfl⟩)⟩
    · have e : d1 = _ := if_neg hk
      rw [e]; exact ⟨rfl, rfl, .inl rfl⟩
  case case9 size _ h2 => exact ⟨rfl, rfl, .inr (.inr ⟨size, Nat.le_of_not_lt h2, rfl⟩)⟩

theorem apply_bounded (d d' : Dec) (r : Rep) (f : Option Field) (hb : Bounded d) (h : d.apply r = .ok (d', f)) :
    Bounded d' := by
  obtain ⟨_, ha, ht | ⟨e, ht⟩ | ⟨v, hv, ht⟩⟩ := apply_ok d d' r f h
  · exact hb.of_eq ht ha
  · exact (hb.add e).of_eq ht ha
  · exact (hb.setMaxSize hv).of_eq ht ha

/-- what the callback is handed of a block whose fields are `fs` when it switches emitting off at its `k`-th call -/
def emittedPrefix (emit : Bool) (cut : Option Nat) (fs : List Field) : List Field :=
  if !emit then [] else
  match cut with
  | none => fs
  | some k => fs.take (k + 1)

theorem emittedPrefix_off (cut : Option Nat) (fs : List Field) : emittedPrefix false cut fs = [] := rfl

theorem afterEmit_spec (d d2 : DecE) (f : Option Field) (cut c2 : Option Nat) (fs : List Field)
    (h : afterEmit d (if d.emit then f else none) cut = (d2, c2)) :
    d2.base = d.base ∧
      emittedPrefix d.emit cut (consOpt f fs) = consOpt (if d.emit then f else none) (emittedPrefix d2.emit c2 fs) := by
  obtain ⟨b, em⟩ := d
  cases em
  · cases h; exact ⟨rfl, rfl⟩
  · cases f with
    | none => cases h; exact ⟨rfl, rfl⟩
    | some f0 =>
      cases cut with
      | none => cases h; exact ⟨rfl, rfl⟩
      | some k =>
        cases k with
        | zero => cases h; exact ⟨rfl, rfl⟩
        | succ k => cases h; exact ⟨rfl, rfl⟩

/-- **one block**: whatever the point at which the callback switches emitting off, the decoder with the emit flag ends
the block with the same table-side state as the always-emitting decoder, having handed over a prefix of the fields. -/
theorem applyAll_refines : ∀ (reps : List Rep) (d : DecE) (cut : Option Nat) (b' : Dec) (fs : List Field),
    Bounded d.base → d.base.maxStrLen = 0 → d.base.applyAll reps = .ok (b', fs) →
    ∃ em, d.applyAllP codePolicy cut reps = .ok ({ base := b', emit := em }, emittedPrefix d.emit cut fs) ∧ Bounded b' ∧
      b'.maxStrLen = 0 := by
  intro reps d
  obtain ⟨b, em⟩ := d
  simp only
  fun_induction Dec.applyAll b reps generalizing em with
  | case1 d =>
    intro cut b' fs hb hm h
    cases h
    refine ⟨em, ?_, hb.of_eq rfl rfl, hm⟩
    simp only [DecE.applyAllP, emittedPrefix]
    cases em <;> cases cut <;> simp
  | case2 => exact fun _ _ _ _ _ h => nomatch h
  | case3 => exact fun _ _ _ _ _ h => nomatch h
  | case4 d r rs d1 f h1 b2 fs1 h2 ih =>
    intro cut b' fs hb hm h
    cases h
    have hm1 : d1.maxStrLen = 0 := by rw [(apply_ok d d1 r f h1).1]; exact hm
    have hr : DecE.applyP codePolicy { base := d, emit := em } r = .ok ({ base := d1, emit := em }, if em then f else none) :=
      apply_refines { base := d, emit := em } r d1 f hb hm h1
    cases hae : afterEmit { base := d1, emit := em } (if em then f else none) cut with
    | mk d2 c2 =>
      obtain ⟨hbase, hpre⟩ := afterEmit_spec { base := d1, emit := em } d2 f cut c2 fs1 hae
      obtain ⟨b3, em2⟩ := d2
      cases hbase
      obtain ⟨em3, ha, hbb, hmm⟩ := ih em2 c2 b2 fs1 (apply_bounded d d1 r f hb h1) hm1 h2
      refine ⟨em3, ?_, hbb, hmm⟩
      simp only [DecE.applyAllP, hr, hae, ha]
      exact congrArg _ (congrArg _ hpre.symm)
/-- a connection's header blocks as the decoder's side sees them: the peer's SETTINGS_HEADER_TABLE_SIZE between blocks,
and header blocks during which the emit callback (`readMetaFrame`: invalid field, header list too large) switches
emitting off at its `cut`-th call (`none`: never) -/
inductive OpE
  | setSize (v : Nat)
  | block (fs : List Field) (cut : Option Nat)

def emittedOf : List OpE → List (List Field)
  | [] => []
  | .setSize _ :: r => emittedOf r
  | .block fs cut :: r => emittedPrefix true cut fs :: emittedOf r

/-- run the operations under decoder policy `pol`: each block is planned by the encoder and decoded with emitting
enabled at its start (`readMetaFrame`) and switched off by the callback at the given point -/
def runOpsE (pol : Policy) (e : Enc) (d : DecE) : List OpE → Except XErr (Enc × DecE × List (List Field))
  | [] => .ok (e, d, [])
  | .setSize v :: r => runOpsE pol (e.setMaxDynamicTableSize v) d r
  | .block fs cut :: r =>
    match d.startBlock.applyAllP pol cut (planBlock e fs).2 with
    | .error x => .error x
    | .ok (d', out) =>
      match runOpsE pol (planBlock e fs).1 d' r with
      | .error x => .error x
      | .ok (e'', d'', outs) => .ok (e'', d'', out :: outs)

theorem runOpsE_sync (ops : List OpE) : ∀ (e : Enc) (d : DecE), Rel e d.base → Bounded d.base →
    ∃ e' d', runOpsE codePolicy e d ops = .ok (e', d', emittedOf ops) ∧ Rel e' d'.base ∧ Bounded d'.base := by
  induction ops with
  | nil => intro e d h hb; exact ⟨e, d, rfl, h, hb⟩
  | cons op r ih =>
    intro e d h hb
    cases op with
    | setSize v =>
      obtain ⟨e', d', h1, h2⟩ := ih _ d (rel_setSize e d.base v h) hb
      exact ⟨e', d', by simp only [runOpsE, emittedOf]; exact h1, h2⟩
    | block fs cut =>
      obtain ⟨b1, ha, hrel, _⟩ := block_sync e d.base fs h
      have hstart : d.startBlock = { base := d.base, emit := true } := by
        simp [DecE.startBlock, MosnVerif.Gen.HpackEmit.blockStartsEnabled]
      obtain ⟨em, hE, hb1, _⟩ := applyAll_refines (planBlock e fs).2 { base := d.base, emit := true } cut b1 fs hb h.maxStr ha
      obtain ⟨e', d', h1, h2⟩ := ih (planBlock e fs).1 { base := b1, emit := em } hrel hb1
      refine ⟨e', d', ?_, h2⟩
      simp only [runOpsE, emittedOf, hstart, hE, h1]

/-- the seeded class: `wantStr` without `it.indexed()` — strings are dropped whenever emitting is off -/
def dropIndexedPolicy : Policy := { codePolicy with wantStr := fun emit _ => emit }

/-- block 1: the callback switches emitting off at the first field, a NEW literal with incremental indexing follows;
block 2 references it -/
def cutDemoOps : List OpE :=
  [.block [⟨[120, 45, 97], [49], false⟩, ⟨[120, 45, 98], [50, 50], false⟩] (some 0),
   .block [⟨[120, 45, 98], [50, 50], false⟩] none]

end MosnVerif.Lemmas.HpackEmit
