import MosnVerif.Model.SubsetRequest
import MosnVerif.Lemmas.Subset
/-!
The request path of `Model/SubsetRequest.lean`: the router's sort is `mkCriteria`, what `NewMetadataMatchCriteriaImpl` /
`downStream.MetadataMatchCriteria` compute, the content of the per-request map after the route's pairs were copied
into it, and the `HostNum == 0` gate of the cluster manager, which never changes the outcome.
-/
namespace MosnVerif.Model.SubsetRequest
open MosnVerif MosnVerif.Model.Subset

theorem insertBy_eq (kv : KV) (l : Path) : insertBy kv l = insertKV kv l := by
  induction l with
  | nil => rfl
  | cons x r ih =>
    -- `x.1 < kv.1` is the negation of `insertKV`'s test
    simp only [insertBy, insertKV, Gen.SubsetRequest.critLess, ih, decide_eq_true_eq, ← String.not_le, ite_not]

theorem sortCrit_eq (l : Path) : sortCrit l = mkCriteria l :=
  congrArg (l.foldr · []) (funext fun kv => funext (insertBy_eq kv))

theorem mergeArr_none (m : Meta) : mergeArr none m = mkCriteria m := by
  unfold mergeArr
  simp only [Option.isSome_none, Gen.SubsetRequest.mergeTakesParent, Bool.false_eq_true, if_false, List.lookup_nil,
    Gen.SubsetRequest.mergeUpdates, List.foldl_append_eq_append, ← List.flatMap_def, List.flatMap_singleton', List.nil_append,
    sortCrit_eq]

/-- `NewMetadataMatchCriteriaImpl(m)` is a new object holding the map's pairs sorted by key -/
theorem newImpl_eq (m : Meta) : newImpl m = some (mkCriteria m) := by
  have h0 : objVal none Gen.SubsetRequest.newImplParent = none := by decide
  have h1 : Gen.SubsetRequest.newImplRet = 2 := by decide
  have h2 : Gen.SubsetRequest.newImplRecv = 2 := by decide
  simp [newImpl, objCall, h0, h1, h2, mergeArr_none]

theorem routeObject_eq (md : Meta) : routeObject md = if md = [] then none else some (mkCriteria md) := by
  unfold routeObject Gen.SubsetRequest.routeOwnsCriteria
  rw [newImpl_eq]
  cases md with
  | nil => simp
  | cons a b => simp

theorem weightedObject_eq (md : Meta) : weightedObject md = some (mkCriteria md) := newImpl_eq md

/-- the request's map after the route's pairs were copied into it -/
def effList (route : Option Path) (m : Meta) : Meta := (copyRoute (fun ok => !ok) ⟨route, m⟩).var

theorem mapSet_absent (kv : KV) (m : Meta) (h : kv.1 ∉ m.map (·.1)) : mapSet kv m = m ++ [kv] := by
  induction m with
  | nil => rfl
  | cons x r ih =>
    rw [List.map_cons, List.mem_cons, not_or] at h
    simp [mapSet, Ne.symm h.1, ih h.2]

theorem effStep_eq (vm : Meta) (kv : KV) :
    (if (!(List.lookup kv.1 vm).isSome) = true then mapSet kv vm else vm) =
      if kv.1 ∈ vm.map (·.1) then vm else vm ++ [kv] := by
  by_cases h : kv.1 ∈ vm.map (·.1)
  · rw [if_pos h, (lookup_isSome_iff_mem_keys _ _).mpr h]; rfl
  · rw [if_neg h, Bool.eq_false_iff.mpr (mt (lookup_isSome_iff_mem_keys _ _).mp h), mapSet_absent kv vm h]; rfl

/-- the copy in closed form: the route's pairs whose key the request's map lacks are appended, in order -/
theorem effList_eq (route : Option Path) (m : Meta) (hr : ((route.getD []).map (·.1)).Nodup) :
    effList route m = m ++ (route.getD []).filter (fun kv => kv.1 ∉ m.map (·.1)) := by
  unfold effList copyRoute
  show List.foldl _ m (route.getD []) = _
  generalize route.getD [] = r at hr
  induction r generalizing m with
  | nil => exact (List.append_nil m).symm
  | cons x r ih =>
    obtain ⟨hxr, hr'⟩ := List.nodup_cons.mp hr
    rw [List.foldl_cons, effStep_eq, List.filter_cons]
    by_cases hx : x.1 ∈ m.map (·.1)
    · rw [if_pos hx, ih m hr', if_neg fun h => absurd hx (of_decide_eq_true h)]
    · rw [if_neg hx, ih _ hr', if_pos (decide_eq_true hx), List.append_assoc]
      -- no later pair has the key just entered
      refine congrArg (m ++ x :: ·) (List.filter_congr fun kv hkv => ?_)
      have : ¬ kv.1 = x.1 := fun e => hxr (List.mem_map.mpr ⟨kv, hkv, e⟩)
      simp only [List.map_append, List.mem_append, List.map_cons, List.map_nil, List.mem_singleton, this, or_false]

/-- content of the request's map after the copy, for a route object built from the configured map `rc` -/
theorem effList_spec (rc : Option Meta) (m : Meta) (hrc : ∀ r, rc = some r → (r.map (·.1)).Nodup)
    (hm : (m.map (·.1)).Nodup) :
    ((effList (rc.map mkCriteria) m).map (·.1)).Nodup ∧
    ∀ kv, kv ∈ effList (rc.map mkCriteria) m ↔ kv ∈ m ∨ (kv ∈ rc.getD [] ∧ kv.1 ∉ m.map (·.1)) := by
  have hs : (((rc.map mkCriteria).getD []).map (·.1)).Nodup ∧ ∀ kv, kv ∈ (rc.map mkCriteria).getD [] ↔ kv ∈ rc.getD [] := by
    cases rc with
    | none => exact ⟨.nil, fun _ => .rfl⟩
    | some r => exact ⟨((strictSorted_iff _).mp (mkCriteria_sorted r (hrc r rfl))).nodup, mem_mkCriteria r⟩
  rw [effList_eq _ m hs.1]
  constructor
  · rw [List.map_append, List.nodup_append]
    refine ⟨hm, hs.1.sublist (List.filter_sublist.map _), fun a ha b hb e => ?_⟩
    obtain ⟨kv, hkv, rfl⟩ := List.mem_map.mp hb
    exact of_decide_eq_true (List.mem_filter.mp hkv).2 (e ▸ ha)
  · intro kv
    rw [List.mem_append, List.mem_filter, hs.2, decide_eq_true_eq]

theorem assemble_none (route : Option Path) : assemble route none = ⟨route, route⟩ := by
  simp [assemble, Gen.SubsetRequest.assemble, retRoute]

theorem assemble_some (route : Option Path) (m : Meta) :
    assemble route (some m) = ⟨some (mkCriteria (effList route m)), route⟩ := by
  cases route with
  | none => simp [assemble, Gen.SubsetRequest.assemble, retNew, newImpl_eq, effList, copyRoute]
  | some r => simp [assemble, Gen.SubsetRequest.assemble, retNew, newImpl_eq, effList, copyRoute]

/-- no request changes the route's shared criteria object -/
theorem assemble_route (route : Option Path) (var : Option Meta) : (assemble route var).route = route := by
  cases var with
  | none => rw [assemble_none]
  | some m => rw [assemble_some]

theorem runSeq_eq (route : Option Path) (reqs : List (Option Meta)) :
    runSeq route reqs = reqs.map (assemble route) := by
  induction reqs with
  | nil => rfl
  | cons r rs ih =>
    show assemble route r :: runSeq (assemble route r).route rs = _
    rw [assemble_route, ih]; rfl

theorem proxyChoose_congr (inner : Inner) (a b : LB) (used : Option Path) (d1 d2 : Nat)
    (hch : ∀ q d1 d2, chooseHost inner a q d1 d2 = chooseHost inner b q d1 d2) (hnum : ∀ c, hostNum a c = hostNum b c) :
    proxyChoose inner a used d1 d2 = proxyChoose inner b used d1 d2 := by
  rw [proxyChoose, proxyChoose, hch, hnum]

/-- when `HostNum = 0` leaves nothing to choose from, a choice by `ChooseHost` is a choice by the proxy -/
theorem proxyChoose_choice {inner : Inner} {lb : LB} {used : Option Path} {d1 d2 : Nat} {T : List Host}
    (hc : ChoiceAmong (chooseHost inner lb (queryOf used) d1 d2) T) (hz : hostNum lb used = 0 → T = []) :
    ChoiceAmong (proxyChoose inner lb used d1 d2) T := by
  unfold proxyChoose Gen.SubsetRequest.noHostWhen
  by_cases h : hostNum lb used = 0
  · simp only [h, decide_true, if_true]
    exact ⟨nofun, fun hne => absurd (hz h) hne⟩
  · simp only [h, decide_false, Bool.false_eq_true, if_false]
    exact hc

theorem specTargets_nil_of_pool_nil (hosts : List Host) (raw : List (List Key)) (policy : Nat) (dflt c : Path)
    (h : specPool hosts raw policy dflt c = []) : specTargets hosts raw policy dflt c = [] := by
  rw [specPool_eq] at h
  rw [specTargets_eq]
  by_cases hc : selectorExists raw c = true ∧ hosts.filter (contains · c) ≠ []
  · rw [if_pos hc] at h; exact absurd h hc.2
  · rw [if_neg hc] at h
    have hn : ¬ (selectorExists raw c = true ∧ (hosts.filter (contains · c)).filter (·.healthy) ≠ []) := by
      rintro ⟨h1, h2⟩
      apply hc
      refine ⟨h1, fun e => h2 ?_⟩
      rw [e]; rfl
    rw [if_neg hn, h]; rfl

end MosnVerif.Model.SubsetRequest
