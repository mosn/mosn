import MosnVerif.Model.PerTryArm
import MosnVerif.Lemmas.Retry
/-! the regenerated arming condition is exactly `TryTimeout > 0`, both call sites arm, every attempt is logged -/
namespace MosnVerif.Model.PerTryArm
open MosnVerif.Model.Retry MosnVerif.Gen.RetryState MosnVerif.Gen.PerTryArm

theorem armCond_exact (a : ArmState) : armCond a = decide (a.tryTimeout > 0) := by
  simp [armCond]

theorem requestSentArms_two_way : requestSentArms true false = true := by decide

theorem doRetryCall_arms (g : Bool) : doRetryCall g ≠ .none := by cases g <;> decide

theorem firstArmed_pos (p : Policy) (tryT : Int) (s : St) (h : tryT > 0) : firstArmed armCond (armState p tryT s) = true := by
  simp [firstArmed, armState, armCond_exact, requestSentArms_two_way, h]

theorem retryArmed_pos (p : Policy) (tryT : Int) (s : St) (g : Bool) (h : tryT > 0) : retryArmed armCond g (armState p tryT s) = true := by
  unfold retryArmed
  have hn := doRetryCall_arms g
  cases hc : doRetryCall g with
  | none => exact absurd hc hn
  | direct => simp [armState, armCond_exact, h]
  | viaRequestSent => simp [armState, armCond_exact, requestSentArms_two_way, h]

theorem hijack_attempts (s : St) (c : Int) : (hijack s c).attempts = s.attempts := by
  unfold hijack; split <;> rfl

theorem doRetry_attempts (s : St) (h : Option Nat) : (doRetry s h).attempts = s.attempts ∨ (doRetry s h).attempts = s.attempts + 1 := by
  unfold doRetry
  split
  · exact Or.inl rfl
  · cases h with
    | none => left; simp only; rw [hijack_attempts]
    | some x => right; rfl

theorem step_attempts (p : Policy) (s : St) (l : Label) :
    (step p s l).attempts = s.attempts ∨ (step p s l).attempts = s.attempts + 1 := by
  by_cases hlive : s.live = false
  · rw [step_not_live p s l hlive]; exact Or.inl rfl
  by_cases hpt : l.o = .perTry ∧ p.tryTimeout = false
  · unfold step
    rw [if_neg hlive, if_pos hpt]; exact Or.inl rfl
  obtain ⟨st, ⟨_, he⟩ | ⟨_, r, _, _, he⟩⟩ := step_live p s l (by simpa using hlive) (fun h => by simpa [h] using hpt)
  · rw [he]; exact doRetry_attempts _ _
  · obtain ⟨_, _, _, _, ha, _⟩ := finish_ends { s with trace := s.trace ++ [.outcome l.o], lastStatus := st, remaining := r } l.o
    rw [he]; exact Or.inl ha

theorem start_attempts (p : Policy) (host0 : Option Nat) : (start p host0).attempts = 0 ∨ (start p host0).attempts = 1 := by
  unfold start
  cases host0 with
  | none => left; simp only; rw [hijack_attempts]
  | some h => right; rfl

/-- the state component of the log's walk is the run of the attempt machine -/
theorem armLogWith_fst (arm : ArmState → Bool) (p : Policy) (tryT : Int) (g : Nat → Bool) (host0 : Option Nat) (ls : List Label) :
    (armLogWith arm p tryT g host0 ls).1 = run p host0 ls :=
  (List.foldl_hom Prod.fst (fun _ _ => rfl)).symm

/-- with a per-try timeout > 0 the log has one entry per attempt of the run, every entry `true` -/
theorem armLog_armed (p : Policy) (tryT : Int) (g : Nat → Bool) (host0 : Option Nat) (ls : List Label) (h : tryT > 0) :
    (armLog p tryT g host0 ls).length = (run p host0 ls).attempts ∧ ∀ b ∈ armLog p tryT g host0 ls, b = true := by
  rw [← armLogWith_fst armCond p tryT g host0 ls]
  refine Lemmas.Fold.foldl_inv (P := fun acc : St × List Bool => acc.2.length = acc.1.attempts ∧ ∀ b ∈ acc.2, b = true) ?_ ls _ ⟨?_, ?_⟩
  · intro acc l ⟨h1, h2⟩
    unfold armLogStep
    simp only
    constructor
    · rcases step_attempts p acc.1 l with he | he <;> simp [he, h1]
    · split
      · intro b hb
        rcases List.mem_append.mp hb with hb | hb
        · exact h2 b hb
        · rw [List.mem_singleton.mp hb]; exact retryArmed_pos p tryT _ _ h
      · exact h2
  · rcases start_attempts p host0 with h0 | h0 <;> simp [h0]
  · intro b hb
    split at hb
    · rw [List.mem_singleton.mp hb]; exact firstArmed_pos p tryT _ h
    · cases hb

end MosnVerif.Model.PerTryArm
