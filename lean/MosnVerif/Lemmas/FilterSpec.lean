import MosnVerif.Model.FilterSpec
import MosnVerif.Lemmas.FilterReply
/-! the executable predicate `spec` holds of every model trace -/
set_option linter.unusedSimpArgs false
namespace MosnVerif.Model.FilterSpec
open MosnVerif.Gen.FilterPhase MosnVerif.Model.FilterChain MosnVerif.Model.FilterMachine

theorem flat_snoc (t : List Ev) (e : Ev) : flat (t ++ [e]) = flat t ++ flatEv e := by
  simp [flat, List.flatMap_append]

theorem flat_cons (e : Ev) (t : List Ev) : flat (e :: t) = flatEv e ++ flat t := List.flatMap_cons

theorem flat_append (t u : List Ev) : flat (t ++ u) = flat t ++ flat u := by
  simp [flat, List.flatMap_append]

theorem recvObs_append (l l' : List Obs) : recvObs (l ++ l') = recvObs l ++ recvObs l' := by
  induction l with
  | nil => rfl
  | cons o r ih => cases o <;> simp [recvObs, ih]

theorem sendObs_append (l l' : List Obs) : sendObs (l ++ l') = sendObs l ++ sendObs l' := by
  induction l with
  | nil => rfl
  | cons o r ih => cases o <;> simp [sendObs, ih]

/-- the invocations of a receiver pass as (index, phase, verdict) triples -/
def triples (p : RPhase) (invs : List Inv) : List (Nat × RPhase × Verdict) := invs.map (fun iv => (iv.1, p, iv.2))

theorem recvObs_map_f (p : RPhase) (invs : List Inv) :
    recvObs (invs.map (fun iv => Obs.f iv.1 p iv.2)) = triples p invs := by
  induction invs with
  | nil => rfl
  | cons a r ih => simp [recvObs, triples] at *; exact ih

/-- a function of the observations that skips sender-filter invocations skips a whole sender pass in front -/
theorem fs_prefix {β : Type} (F : List Obs → β) (hF : ∀ i st r, F (.fs i st :: r) = F r) (invs : List SInv) (rest : List Obs) :
    F (invs.map (fun iv => Obs.fs iv.1 iv.2) ++ rest) = F rest := by
  induction invs with
  | nil => rfl
  | cons a r ih => exact (hF _ _ _).trans ih

theorem recvObs_flatEv (e : Ev) :
    recvObs (flatEv e) = match e with | .rpass p _ invs => triples p invs | _ => [] := by
  cases e with
  | rpass p st invs => exact recvObs_map_f p invs
  | spass st invs => simpa [flatEv, recvObs] using fs_prefix recvObs (fun _ _ _ => rfl) invs []
  | up r => cases r <;> rfl
  | dh s e => rfl
  | dd e => rfl
  | dt => rfl
  | unmodelled p => rfl

theorem recvObs_flatEv_other (e : Ev) (h : isRpass e = false) : recvObs (flatEv e) = [] := by
  rw [recvObs_flatEv]; cases e <;> simp [isRpass] at h <;> rfl

theorem recvObs_flat_noPass (evs : List Ev) (h : ∀ e ∈ evs, isRpass e = false) : recvObs (flat evs) = [] := by
  induction evs with
  | nil => rfl
  | cons e r ih =>
    rw [flat_cons, recvObs_append, ih (fun x hx => h x (by simp [hx])), recvObs_flatEv_other e (h e (by simp))]; rfl

theorem recvObs_noPass {s r : St} (h : NoPass s r) : recvObs (flat r.trace) = recvObs (flat s.trace) := by
  obtain ⟨⟨evs, ht, hev⟩, _⟩ := h
  rw [ht, flat_append, recvObs_append, recvObs_flat_noPass evs (fun e he => (hev e he).1), List.append_nil]

def pairOK (a b : Nat × RPhase × Verdict) : Bool :=
  (a.2.2.status != .termination) &&
  (if a.2.1 == b.2.1 then (if accepted a.2.1 a.2.2.status then b.1 == a.1 else continues a.2.2.status && a.1 < b.1)
   else RPhase.ord a.2.1 < RPhase.ord b.2.1)

theorem orderOK_cons2 (a b : Nat × RPhase × Verdict) (r : List (Nat × RPhase × Verdict)) :
    orderOK (a :: b :: r) = (pairOK a b && orderOK (b :: r)) := by
  obtain ⟨i, p, v⟩ := a
  obtain ⟨j, q, w⟩ := b
  rfl

/-- a check of all adjacent pairs holds of an append if it holds of both parts and of the pair at the seam -/
theorem adjacent_join {α : Type} {f : List α → Bool} {P : α → α → Bool} (h2 : ∀ a b r, f (a :: b :: r) = (P a b && f (b :: r)))
    {l l' : List α} (hl : f l = true) (hl' : f l' = true)
    (hs : ∀ a b, l.getLast? = some a → l'.head? = some b → P a b = true) : f (l ++ l') = true := by
  induction l with
  | nil => exact hl'
  | cons a r ih =>
    cases r with
    | nil =>
      cases l' with
      | nil => exact hl
      | cons b r' => rw [List.singleton_append, h2, hs a b rfl rfl, hl']; rfl
    | cons b r' =>
      rw [h2, Bool.and_eq_true] at hl
      show f (a :: b :: (r' ++ l')) = true
      rw [h2, hl.1]
      exact ih hl.2 fun x y hx => hs x y (by rw [List.getLast?_cons_cons]; exact hx)

/-- inside one pass: consecutive invocations have increasing indices, and every one but the last continued -/
theorem orderOK_triples (p : RPhase) (l : List Inv) (lb : Nat) (hasc : ascFrom lb l)
    (hinit : ∀ iv ∈ l.dropLast, continues iv.2.status = true) : orderOK (triples p l) = true := by
  induction l generalizing lb with
  | nil => rfl
  | cons a r ih =>
    cases r with
    | nil => rfl
    | cons b r' =>
      have hc := hinit a (by simp)
      have hlt : a.1 < b.1 := hasc.2.1
      simp only [triples, List.map_cons] at ih ⊢
      rw [orderOK_cons2, ih _ hasc.2 (fun iv hiv => hinit iv (by simp [hiv])), Bool.and_true]
      have hst : a.2.status = .Continue ∨ a.2.status = .unknown := by
        revert hc; cases a.2.status <;> simp [continues]
      rcases hst with h | h <;> simp [pairOK, h, accepted, continues, hlt]

theorem recvLoop_orderOK (p : RPhase) (fs : List RFilter) (idx : Nat) (s : FState) :
    orderOK (triples p (recvLoop p fs idx s).2) = true :=
  orderOK_triples p _ idx (recvLoop_asc p fs idx s) (recvLoop_init_next p fs idx s)

/-- a pass started at a filter of its own phase invokes that filter first -/
theorem runRecv_first (chain : List RFilter) (p : RPhase) (s : FState) (f : RFilter)
    (hf : chain[startOf s p]? = some f) (hp : f.phase = p) :
    ∃ v rest, (runRecv chain p s).2 = (startOf s p, v) :: rest := by
  unfold runRecv
  obtain ⟨hlt, rfl⟩ := List.getElem?_eq_some_iff.mp hf
  rw [List.drop_eq_getElem_cons hlt]
  exact recvLoop_first p _ _ _ s hp

/-- a kept cursor together with its phase makes the next pass of that phase start there -/
theorem startOf_resume (s : FState) (p : RPhase) (h : s.cursor ≠ 0 → s.cphase = p) : startOf s p = s.cursor := by
  rw [startOf_eq]
  by_cases h0 : s.cursor = 0
  · simp [h0]
  · rw [if_neg]; intro ⟨_, hne⟩; exact hne (h h0).symm

theorem pn_lt_ord {p q : RPhase} (h : pn p < pn q) : RPhase.ord p < RPhase.ord q := by
  cases p <;> cases q <;> simp [pn, RPhase.ord, DownFilter, DownFilterAfterRoute, DownFilterAfterChooseHost] at h ⊢

theorem pn_inj {p q : RPhase} (h : pn p = pn q) : p = q := by
  cases p <;> cases q <;> simp [pn, DownFilter, DownFilterAfterRoute, DownFilterAfterChooseHost] at h ⊢

theorem pn_odd (p q : RPhase) (h1 : pn q ≤ pn p) (h2 : pn p ≤ pn q + 1) : pn p = pn q := by
  cases p <;> cases q <;> simp [pn, DownFilter, DownFilterAfterRoute, DownFilterAfterChooseHost] at h1 h2 ⊢

/-- how the last receiver invocation so far constrains where the worker is -/
def Link (s : St) (a : Nat × RPhase × Verdict) : Prop :=
  s.halted = true ∨ (a.2.2.status ≠ .termination ∧
    (pn a.2.1 < s.phase ∨
     (accepted a.2.1 a.2.2.status = true ∧ s.cursor = a.1 ∧ (s.cursor ≠ 0 → s.cphase = a.2.1) ∧
       pn a.2.1 ≤ s.phase + 1 ∧ s.phase ≤ pn a.2.1)))

structure Oinv (c : Cfg) (s : St) : Prop where
  ord : orderOK (recvObs (flat s.trace)) = true
  link : ∀ a, (recvObs (flat s.trace)).getLast? = some a → Link s a
  reg : ∀ a ∈ recvObs (flat s.trace), ∃ f, c.recv[a.1]? = some f ∧ f.phase = a.2.1

theorem triples_getLast (p : RPhase) (l : List Inv) :
    (triples p l).getLast? = l.getLast?.map (fun iv => (iv.1, p, iv.2)) := by
  simp [triples, List.getLast?_map]

theorem getLast_append_triples (T : List (Nat × RPhase × Verdict)) (p : RPhase) (l : List Inv) :
    (T ++ triples p l).getLast? = match l.getLast? with | some iv => some (iv.1, p, iv.2) | none => T.getLast? := by
  rw [List.getLast?_append, triples_getLast]; cases l.getLast? <;> rfl

/-- a step of the running task that runs no receiver filters: the cursor stays, and the worker stays (the step after the
exhausted task loop), goes on to the next `case`, leaves the receive phases, or returns -/
structure QuietStep (s r : St) : Prop where
  noPass : NoPass s r
  next : r.halted = true ∨ r.phase = s.phase ∨ (r.phase = s.phase + 1 ∧ recvPhaseOf s.phase = none) ∨ Oneway ≤ r.phase

/-- a step that runs the receiver filters of phase `q` from the kept cursor: afterwards the worker returns (always after a
`termination`), leaves the receive phases, goes on to the next `case`, or goes back to the phase in front of the last invoked
filter, which asked for it, with the cursor at that filter -/
structure PassStep (c : Cfg) (s : St) (q : RPhase) (r : St) : Prop where
  phase : s.phase = pn q
  trace : r.trace = s.trace ++ [.rpass q (startOf s.toFState q) (runRecv c.recv q s.toFState).2]
  cursor : r.cursor = cursorAfter (runRecv c.recv q s.toFState).2
  cphase : r.cursor ≠ 0 → r.cphase = q
  term : ∀ iv, (runRecv c.recv q s.toFState).2.getLast? = some iv → iv.2.status = .termination → r.halted = true
  next : r.halted = true ∨ Oneway ≤ r.phase ∨ r.phase = s.phase + 1 ∨
    ∃ iv, (runRecv c.recv q s.toFState).2.getLast? = some iv ∧ accepted q iv.2.status = true ∧ r.phase + 1 = pn q

/-- one step of the running task, as the invariants over the receiver invocations see it -/
theorem step_passes (c : Cfg) (s : St) (hg : Ginv c s) (hnh : s.halted = false) :
    QuietStep s (step c s) ∨ ∃ q, PassStep c s q (step c s) := by
  have ha : s.again = InitPhase := (hg.live hnh).1.1.again
  have hs := step_case c s
  generalize step c s = r at hs ⊢
  cases hs with
  | idle h => rw [hnh] at h; cases h
  | finish _ ho =>
    refine .inl ⟨(finishStart_case c s).frame.noPass, ?_⟩
    rcases ((finishStart_case c s).form ha (Nat.le_of_eq ho)).2 with h | ⟨_, ⟨h, _⟩ | ⟨h, _⟩ | ⟨h, _⟩⟩
    · exact .inl h
    · exact .inr (.inl h)
    · exact .inr (.inr (.inr (Nat.le_of_eq h.symm)))
    · exact .inr (.inr (.inr (by rw [h]; decide)))
  | overrun => exact .inl ⟨((Frame.refl s).ret End).noPass, .inl (ret_End_halted s)⟩
  | case =>
    cases hrp : recvPhaseOf s.phase with
    | none =>
      have hc := phaseCase_case c { s with inner := s.inner + 1 }
      refine .inl ⟨hc.shape.noPass hrp, ?_⟩
      rcases hc.phase ha hrp with h | h | h
      · exact .inl h
      · exact .inr (.inr (.inl ⟨h, hrp⟩))
      · exact .inr (.inr (.inr h))
    | some q =>
      rw [phaseCase_filter c { s with inner := s.inner + 1 } q hrp]
      have hpe := afterPE_perr c (filterPass c q { s with inner := s.inner + 1 })
      have hf := hpe.frame
      obtain ⟨hlast, hterm⟩ :=
        recvLoop_last q (c.recv.drop (startOf s.toFState q)) (startOf s.toFState q) s.toFState ha
      refine .inr ⟨q, recvPhaseOf_eq hrp, hf.1, hf.2.1.trans (recvLoop_cursor _ _ _ _),
        fun hne => hf.2.2.2.1.trans (recvLoop_cphase _ _ _ _ (hf.2.1 ▸ hne)),
        fun iv hl ht => by rw [afterPE_cleaned c _ (hterm iv hl ht)]; exact ret_End_halted _, ?_⟩
      rcases hpe.phase with h | h | h | h | ⟨hne, h⟩
      · exact .inl h
      · exact .inr (.inr (.inl h))
      · exact .inr (.inl (Nat.le_of_eq h.symm))
      · exact .inr (.inl (by rw [h]; decide))
      · obtain ⟨iv, hl, hacc, hag⟩ := hlast hne
        exact .inr (.inr (.inr ⟨iv, hl, hacc, by rw [h]; exact hag⟩))

/-- a pass of phase `q` and the last invocation before it: that one was of an earlier phase, or it asked for this re-run, and
the pass starts at its filter and invokes it first -/
theorem Oinv.seam {c : Cfg} {s : St} (ho : Oinv c s) (hnh : s.halted = false) {a : Nat × RPhase × Verdict} {q : RPhase}
    (ha : (recvObs (flat s.trace)).getLast? = some a) (hq : s.phase = pn q) :
    a.2.2.status ≠ .termination ∧ (pn a.2.1 < pn q ∨
      (a.2.1 = q ∧ accepted q a.2.2.status = true ∧ ∃ v rest, (runRecv c.recv q s.toFState).2 = (a.1, v) :: rest)) := by
  obtain ⟨hnt, h | ⟨hacc, hcu, hcp, h1, h2⟩⟩ := (ho.link a ha).resolve_left (by rw [hnh]; exact Bool.noConfusion)
  · exact ⟨hnt, .inl (hq ▸ h)⟩
  · have hpq : a.2.1 = q := pn_inj (pn_odd a.2.1 q (by rw [← hq]; exact h2) (by rw [← hq]; exact h1))
    obtain ⟨f, hf, hfp⟩ := ho.reg a (List.mem_of_getLast? ha)
    have hst : startOf s.toFState q = a.1 := by rw [startOf_resume s.toFState q (by rw [← hpq]; exact hcp)]; exact hcu
    obtain ⟨v, rest, e⟩ := runRecv_first c.recv q s.toFState f (by rw [hst]; exact hf) (hfp.trans hpq)
    exact ⟨hnt, .inr ⟨hpq, hpq ▸ hacc, v, rest, by rw [e, hst]⟩⟩

theorem step_Oinv (c : Cfg) (s : St) (hg : Ginv c s) (ho : Oinv c s) : Oinv c (step c s) := by
  cases hnh : s.halted with
  | true => rw [step_halted c s hnh]; exact ho
  | false =>
  rcases step_passes c s hg hnh with hq | ⟨q, hp⟩
  · have hT := recvObs_noPass hq.noPass
    obtain ⟨_, hcur, _, hcph⟩ := hq.noPass
    refine ⟨by rw [hT]; exact ho.ord, fun a ha => ?_, by rw [hT]; exact ho.reg⟩
    rw [hT] at ha
    obtain ⟨hnt, h⟩ := (ho.link a ha).resolve_left (by rw [hnh]; exact Bool.noConfusion)
    rcases hq.next with h' | h' | ⟨h', hrp⟩ | h'
    · exact .inl h'
    · exact .inr ⟨hnt, by rw [h', hcur, hcph]; exact h⟩
    · refine .inr ⟨hnt, ?_⟩
      rcases h with h | ⟨hacc, hcu, hcp, h1, h2⟩
      · exact .inl (by rw [h']; omega)
      · -- on the way back to the phase of the requesting filter
        have hne : s.phase ≠ pn a.2.1 := fun he => by rw [he, recvPhaseOf_pn] at hrp; cases hrp
        exact .inr ⟨hacc, hcur.trans hcu, by rw [hcur, hcph]; exact hcp, by rw [h']; omega, by rw [h']; omega⟩
    · exact .inr ⟨hnt, .inl (Nat.lt_of_lt_of_le (Nat.lt_of_le_of_lt (pn_le5 a.2.1) (by decide)) h')⟩
  · obtain ⟨hphq, rT, rcur, rcph, hterm, hnext⟩ := hp
    have hmem := runRecv_mem c.recv q s.toFState
    have hord_l : orderOK (triples q (runRecv c.recv q s.toFState).2) = true := recvLoop_orderOK q _ _ _
    generalize hl : (runRecv c.recv q s.toFState).2 = l at rT rcur hterm hnext hmem hord_l
    generalize step c s = r at rT rcur rcph hterm hnext ⊢
    have hT : recvObs (flat r.trace) = recvObs (flat s.trace) ++ triples q l := by
      rw [rT, flat_snoc, recvObs_append, recvObs_flatEv]
    have hreg : ∀ a ∈ recvObs (flat r.trace), ∃ f, c.recv[a.1]? = some f ∧ f.phase = a.2.1 := by
      intro a ha
      rw [hT] at ha
      rcases List.mem_append.mp ha with ha | ha
      · exact ho.reg a ha
      · simp only [triples, List.mem_map] at ha
        obtain ⟨iv, hiv, rfl⟩ := ha
        obtain ⟨f, hf, hp, _⟩ := hmem iv hiv
        exact ⟨f, hf, hp⟩
    -- the link between the previous last invocation and the first of this pass
    have hord : orderOK (recvObs (flat r.trace)) = true := by
      rw [hT]
      refine adjacent_join orderOK_cons2 ho.ord hord_l fun a b' h1 hb => ?_
      obtain ⟨hnt, h⟩ := ho.seam hnh h1 hphq
      cases l with
      | nil => cases hb
      | cons b l' =>
        cases hb
        show pairOK a (b.1, q, b.2) = true
        rcases h with hlt | ⟨hpq, hacc, v, rest, hvr⟩
        · -- the previous pass was of an earlier phase
          have hne : (a.2.1 == q) = false := by
            cases hx : a.2.1 == q
            · rfl
            · rw [show a.2.1 = q by simpa using hx] at hlt; omega
          simp [pairOK, hne, hnt, pn_lt_ord hlt]
        · -- re-run of the same phase: this pass starts at the requesting filter
          rw [hl] at hvr; cases hvr
          simp [pairOK, hpq, hacc, hnt]
    refine ⟨hord, fun a ha => ?_, hreg⟩
    rw [hT, getLast_append_triples] at ha
    cases hlv : l.getLast? with
    | none =>
      -- an empty pass: the previous last invocation stays the last
      simp only [hlv] at ha
      obtain ⟨hnt, h⟩ := ho.seam hnh ha hphq
      rcases hnext with h' | h' | h' | ⟨iv, hiv, _⟩
      · exact .inl h'
      · exact .inr ⟨hnt, .inl (Nat.lt_of_lt_of_le (Nat.lt_of_le_of_lt (pn_le5 a.2.1) (by decide)) h')⟩
      · rcases h with h | ⟨_, _, v, rest, hvr⟩
        · exact .inr ⟨hnt, .inl (by rw [h', hphq]; omega)⟩
        · -- impossible: the pass would have invoked the requesting filter
          rw [hl] at hvr
          simp [hvr] at hlv
      · rw [hlv] at hiv; cases hiv
    | some iv =>
      simp only [hlv] at ha
      cases ha
      by_cases htm : iv.2.status = .termination
      · exact .inl (hterm iv hlv htm)
      · rcases hnext with h' | h' | h' | ⟨iv', hiv', hacc, hph⟩
        · exact .inl h'
        · exact .inr ⟨htm, .inl (Nat.lt_of_lt_of_le (Nat.lt_of_le_of_lt (pn_le5 q) (by decide)) h')⟩
        · exact .inr ⟨htm, .inl (by show pn q < r.phase; rw [h', hphq]; omega)⟩
        · rw [hlv] at hiv'; cases hiv'
          exact .inr ⟨htm, .inr ⟨hacc, rcur.trans (by rw [cursorAfter, hlv]; exact if_pos (accepted_spec hacc).1), rcph, by show pn q ≤ r.phase + 1; omega, by show r.phase ≤ pn q; omega⟩⟩

theorem init_Oinv (c : Cfg) : Oinv c init :=
  ⟨rfl, (fun a h => by cases h), (fun a h => by cases h)⟩

theorem recvObs_flat_verdicts (t : List Ev) : (recvObs (flat t)).map (fun x => x.2.2) = recvVerdicts t := by
  induction t with
  | nil => rfl
  | cons e r ih =>
    rw [flat_cons, recvObs_append, List.map_append, ih, recvObs_flatEv]
    cases e <;> simp [recvVerdicts, triples]

theorem denied_flat {t : List Ev} (h : denied (flat t) = true) : DenyIn t := by
  simp only [denied, List.any_eq_true] at h
  obtain ⟨a, ha, hd⟩ := h
  have : a.2.2 ∈ recvVerdicts t := by
    rw [← recvObs_flat_verdicts]; exact List.mem_map_of_mem ha
  exact deny_of_verdict this hd

theorem forwarded_flat {t : List Ev} (h : forwarded (flat t) = true) : ¬ NoUp t := by
  have hev : ∀ e, (flatEv e).any (fun o => o == .un || o == .uf) = isUp e := fun e => by
    cases e with
    | up r => cases r <;> rfl
    | _ => simp [flatEv, isUp]
  simp only [forwarded, flat, List.any_flatMap, hev, List.any_eq_true] at h
  obtain ⟨e, he, hu⟩ := h
  exact fun hn => by rw [hn e he] at hu; cases hu

theorem answered_flat {t : List Ev} (h : answered (flat t) = true) : answeredIn t := by
  simp only [answered, List.any_eq_true] at h
  obtain ⟨a, ha, hd⟩ := h
  exact ⟨a.2.2, by rw [← recvObs_flat_verdicts]; exact List.mem_map_of_mem ha, hd⟩

theorem mem_sendObs {l : List Obs} {iv : SInv} : iv ∈ sendObs l ↔ Obs.fs iv.1 iv.2 ∈ l := by
  induction l with
  | nil => simp [sendObs]
  | cons o r ih => cases o <;> simp [sendObs, ih, Prod.ext_iff]

theorem not_terminated_flat {t : List Ev} (h : terminated (flat t) = false) : ¬ terminatedIn t := by
  simp only [terminated, Bool.or_eq_false_iff, List.any_eq_false] at h
  rintro (⟨v, hv, ht⟩ | ⟨st, invs, hm, iv, hiv, ht⟩)
  · rw [← recvObs_flat_verdicts] at hv
    obtain ⟨a, ha, rfl⟩ := List.mem_map.mp hv
    exact h.1 a ha (by simp [ht])
  · exact h.2 iv (mem_sendObs.mpr (List.mem_flatMap.mpr ⟨_, hm, List.mem_map.mpr ⟨iv, hiv, rfl⟩⟩)) (by simp [ht])

/-- the observations of the response side: sender-filter invocations and downstream sender calls -/
def backObs : Obs → Bool
  | .fs _ _ => true
  | .dh _ _ => true
  | .dd _ => true
  | .dt => true
  | _ => false

/-- the response-side events of a trace yield exactly its response-side observations -/
theorem flat_backPart (t : List Ev) : flat (backPart t) = (flat t).filter backObs := by
  induction t with
  | nil => rfl
  | cons e r ih =>
    have he : (flatEv e).filter backObs = if isBack e then flatEv e else [] := by
      cases e with
      | rpass p st invs => exact List.filter_eq_nil_iff.mpr fun o ho => by obtain ⟨_, _, rfl⟩ := List.mem_map.mp ho; simp [backObs]
      | spass st invs => exact List.filter_eq_self.mpr fun o ho => by obtain ⟨_, _, rfl⟩ := List.mem_map.mp ho; rfl
      | up rf => cases rf <;> rfl
      | _ => rfl
    rw [flat_cons, List.filter_append, he, ← ih]
    cases hb : isBack e <;> simp [backPart, List.filter_cons, hb, flat]

theorem sendObs_filter (l : List Obs) : sendObs (l.filter backObs) = sendObs l := by
  induction l with
  | nil => rfl
  | cons o r ih => cases o <;> simp [List.filter_cons, backObs, sendObs, ih]

theorem replyObs_filter (l : List Obs) : replyObs (l.filter backObs) = replyObs l := by
  induction l with
  | nil => rfl
  | cons o r ih => cases o <;> simp [List.filter_cons, backObs, replyObs, ih]

theorem sendBeforeReply_filter (l : List Obs) : sendBeforeReply (l.filter backObs) = sendBeforeReply l := by
  induction l with
  | nil => rfl
  | cons o r ih => cases o <;> simp [List.filter_cons, backObs, sendBeforeReply, ih, sendObs_filter]

theorem count_filter (p : Obs → Bool) (hp : ∀ o, p o = true → backObs o = true) (l : List Obs) :
    count p (l.filter backObs) = count p l := by
  unfold count
  rw [List.filter_filter]
  exact congrArg List.length (List.filter_congr fun o _ => by cases h : p o <;> simp [hp o, h])

/-- the response-side projections of the flat list only see the response-side events -/
theorem back_proj (t : List Ev) :
    sendObs (flat t) = sendObs (flat (backPart t)) ∧ replyObs (flat t) = replyObs (flat (backPart t)) ∧
    sendBeforeReply (flat t) = sendBeforeReply (flat (backPart t)) ∧
    count isDh (flat t) = count isDh (flat (backPart t)) ∧ count isDd (flat t) = count isDd (flat (backPart t)) ∧
    count isDt (flat t) = count isDt (flat (backPart t)) := by
  rw [flat_backPart, sendObs_filter, replyObs_filter, sendBeforeReply_filter,
    count_filter isDh (fun o h => by cases o <;> first | rfl | cases h),
    count_filter isDd (fun o h => by cases o <;> first | rfl | cases h),
    count_filter isDt (fun o h => by cases o <;> first | rfl | cases h)]
  exact ⟨rfl, rfl, rfl, rfl, rfl, rfl⟩

/-- the trace is a part without response-side events followed by a part without receiver passes: no receiver filter runs
once the response side started -/
def RecvFirst (t : List Ev) : Prop := ∃ pre post, t = pre ++ post ∧ backPart pre = [] ∧ ∀ e ∈ post, isRpass e = false

theorem step_recvFirst (c : Cfg) (s : St) (hg : Ginv c s) (h : RecvFirst s.trace) : RecvFirst (step c s).trace := by
  rcases (step_shape c s).pass with ⟨⟨evs, ht, hev⟩, _, _⟩ | ⟨p, hp, ht, _, _⟩
  · obtain ⟨pre, post, e, h1, h2⟩ := h
    exact ⟨pre, post ++ evs, by rw [ht, e, List.append_assoc], h1,
      fun x hx => (List.mem_append.mp hx).elim (h2 x) fun hx => (hev x hx).1⟩
  · cases hh : s.halted
    · have hfront : FrontOK s.view := (hg.live hh).1.front (Nat.le_trans (recvPhaseOf_le hp) (by decide))
      exact ⟨_, [], (List.append_nil _).symm, by rw [ht, backPart_snoc, show backPart s.trace = [] from hfront.noback]; rfl, nofun⟩
    · -- a halted machine makes no pass
      rw [step_halted c s hh] at ht
      have := congrArg List.length ht
      simp at this

theorem noRecvAfterSend_front (l rest : List Obs) (h : ∀ o ∈ l, backObs o = false) :
    noRecvAfterSend (l ++ rest) = noRecvAfterSend rest := by
  induction l with
  | nil => rfl
  | cons o r ih =>
    have := h o (.head _)
    cases o <;> first | exact ih fun x hx => h x (.tail _ hx) | cases this

theorem noRecvAfterSend_noRecv (l : List Obs) (h : recvObs l = []) : noRecvAfterSend l = true := by
  induction l with
  | nil => rfl
  | cons o r ih => cases o <;> first | cases h | simp [noRecvAfterSend, ih h, show recvObs r = [] from h]

theorem noRecvAfterSend_of_recvFirst (t : List Ev) (h : RecvFirst t) : noRecvAfterSend (flat t) = true := by
  obtain ⟨pre, post, rfl, h1, h2⟩ := h
  have hpre : (flat pre).filter backObs = [] := by rw [← flat_backPart, h1]; rfl
  rw [flat_append, noRecvAfterSend_front _ _ fun o ho => Bool.eq_false_iff.mpr (List.filter_eq_nil_iff.mp hpre o ho)]
  exact noRecvAfterSend_noRecv _ (recvObs_flat_noPass post h2)

theorem replyShape_cases (rest : List Ev) (h : replyShape rest = true) :
    rest = [] ∨ (∃ a b, rest = [.dh a b]) ∨ (∃ a b d, rest = [.dh a b, .dd d]) ∨ (∃ a b, rest = [.dh a b, .dt]) ∨
      (∃ a b d, rest = [.dh a b, .dd d, .dt]) := by
  unfold replyShape at h
  split at h
  · exact Or.inl rfl
  · exact Or.inr (Or.inl ⟨_, _, rfl⟩)
  · exact Or.inr (Or.inr (Or.inl ⟨_, _, _, rfl⟩))
  · exact Or.inr (Or.inr (Or.inr (Or.inl ⟨_, _, rfl⟩)))
  · exact Or.inr (Or.inr (Or.inr (Or.inr ⟨_, _, _, rfl⟩)))
  · cases h

theorem sendObs_fs_map (invs : List SInv) (rest : List Obs) :
    sendObs (invs.map (fun iv => Obs.fs iv.1 iv.2) ++ rest) = invs ++ sendObs rest := by
  induction invs with
  | nil => rfl
  | cons a r ih => simp [sendObs, ih]

theorem sendOK_of_SpOK (c : Cfg) (t : List Ev) (h : SpOK c t) : sendOK c (flat t) = true := by
  obtain ⟨p1, _, p3, p4, p5, p6⟩ := back_proj t
  unfold sendOK
  rw [p1, p3, p4, p5, p6]
  rcases h with h | ⟨rest, h, hs⟩
  · rw [h]; rfl
  · rw [h]
    rw [flat_cons, flatEv, sendObs_fs_map, fs_prefix sendBeforeReply fun _ _ _ => rfl, fs_prefix (count isDh) fun _ _ _ => rfl,
      fs_prefix (count isDd) fun _ _ _ => rfl, fs_prefix (count isDt) fun _ _ _ => rfl]
    rcases replyShape_cases rest hs with rfl | ⟨a, b, rfl⟩ | ⟨a, b, d, rfl⟩ | ⟨a, b, rfl⟩ | ⟨a, b, d, rfl⟩ <;>
      simp [flat, flatEv, sendObs, sendBeforeReply, count, isDh, isDd, isDt, List.filter_cons]

theorem phasesOK_of_reg (c : Cfg) (l : List (Nat × RPhase × Verdict))
    (h : ∀ a ∈ l, ∃ f, c.recv[a.1]? = some f ∧ f.phase = a.2.1) : phasesOK c l = true := by
  simp only [phasesOK, List.all_eq_true]
  intro a ha
  obtain ⟨f, hf, hp⟩ := h a ha
  obtain ⟨i, p, v⟩ := a
  simp only at hf hp ⊢
  rw [hf]; simp [hp]

theorem replyOf_trailers (l : List Verdict) (acc : Option Resp × Option Nat)
    (h : ∀ r, acc.1 = some r → r.trailers = false) : ∀ r, (replyOf l acc).1 = some r → r.trailers = false := by
  induction l generalizing acc with
  | nil => exact h
  | cons v rest ih =>
    obtain ⟨resp, code⟩ := acc
    simp only [replyOf]
    apply ih
    cases v.act with
    | none => exact h
    | hijack k b => intro r hr; simp at hr; rw [← hr]
    | direct => intro r hr; simp at hr; rw [← hr]
    | terminate k =>
      simp only
      split
      · exact h
      · intro r hr; simp at hr; rw [← hr]

theorem singleReplyOK_of (c : Cfg) (t : List Ev)
    (h : answeredIn t → ¬ terminatedIn t → c.env.oneway = false →
      ∃ r code, replyOf (recvVerdicts t) (none, none) = (some r, code) ∧
        backPart t = .spass 0 (sendRun c.send 0) :: replyEvs r code) :
    singleReplyOK c (flat t) = true := by
  unfold singleReplyOK
  split
  · rename_i hc
    simp only [Bool.and_eq_true, Bool.not_eq_true', Bool.not_eq_eq_eq_not, Bool.not_true] at hc
    obtain ⟨⟨ha, hnt⟩, hno⟩ := hc
    obtain ⟨r, code, hr, hb⟩ := h (answered_flat ha) (not_terminated_flat hnt) (by simpa using hno)
    rw [recvObs_flat_verdicts, hr]
    simp only
    obtain ⟨p1, p2, _⟩ := back_proj t
    rw [p1, p2, hb]
    have htr : r.trailers = false := replyOf_trailers (recvVerdicts t) (none, none) (fun _ h => by cases h) r (by rw [hr])
    rw [flat_cons, flatEv, sendObs_fs_map, fs_prefix replyObs fun _ _ _ => rfl]
    obtain ⟨d, tr⟩ := r
    simp only at htr
    subst htr
    cases d <;> simp [replyEvs, flat, flatEv, replyObs, sendObs]
  · rfl

end MosnVerif.Model.FilterSpec
