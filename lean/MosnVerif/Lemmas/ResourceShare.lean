import MosnVerif.Model.ResourceShare
import MosnVerif.Lemmas.Fold
import MosnVerif.Lemmas.Resource
/-! Lemmas for `Model/ResourceShare.lean` (C10): the object graph under the REGENERATED programs `Code.gen`. -/
namespace MosnVerif.Model.ResourceShare
open MosnVerif.Gen.ResourceShare

theorem V4.get_set {α : Type} (v : V4 α) (r r' : Res) (a : α) : (v.set r a).get r' = if r' = r then a else v.get r' := by
  cases r <;> cases r' <;> simp [V4.set, V4.get]

theorem V4.get_const {α : Type} (a : α) (r : Res) : (V4.const a).get r = a := by
  cases r <;> rfl

theorem upd_same {α : Type} (f : Nat → α) (k : Nat) (v : α) : upd f k v k = v := by simp [upd]
theorem upd_ne {α : Type} (f : Nat → α) (k x : Nat) (v : α) (h : x ≠ k) : upd f k v x = f x := by simp [upd, h]
theorem upd_upd {α : Type} (f : Nat → α) (k : Nat) (a b : α) : upd (upd f k a) k b = upd f k b := by
  funext x; simp only [upd]; split <;> rfl

theorem incr_max (m : Mgr) (r : Res) : (incr m r).max = m.max := rfl
theorem decr_max (m : Mgr) (r : Res) : (decr m r).max = m.max := rfl

theorem incr_cur (m : Mgr) (r r' : Res) :
    (incr m r).cur.get r' = if r' = r then (if m.max.get r = 0 then m.cur.get r else m.cur.get r + 1) else m.cur.get r' := by
  simp only [incr, V4.get_set, Lemmas.Resource.increase_eq]

theorem decr_cur (m : Mgr) (r r' : Res) :
    (decr m r).cur.get r' = if r' = r then (if m.max.get r = 0 then m.cur.get r else m.cur.get r - 1) else m.cur.get r' := by
  simp only [decr, V4.get_set, Lemmas.Resource.decrease_eq]

theorem count_append (r : Res) (l : List Holder) (h : Holder) :
    count r (l ++ [h]) = count r l + (if h.res = r then 1 else 0) := by
  induction l with
  | nil => simp [count]
  | cons a l ih => simp [count, ih]; omega

theorem findId_mem {id : Nat} {l : List Holder} {h : Holder} (hf : findId id l = some h) : h ∈ l := by
  induction l with
  | nil => simp [findId] at hf
  | cons a l ih =>
    simp only [findId] at hf
    by_cases ha : a.id = id
    · simp [ha] at hf; simp [hf]
    · simp [ha] at hf; exact List.mem_cons_of_mem _ (ih hf)

theorem count_removeId (r : Res) {id : Nat} {l : List Holder} {h : Holder} (hf : findId id l = some h) :
    count r (removeId id l) + (if h.res = r then 1 else 0) = count r l := by
  induction l with
  | nil => simp [findId] at hf
  | cons a l ih =>
    simp only [findId] at hf
    by_cases ha : a.id = id
    · simp [ha] at hf
      subst hf
      simp [removeId, ha, count]; omega
    · simp [ha] at hf
      have := ih hf
      simp [removeId, ha, count]; omega

theorem mem_removeId {id : Nat} {l : List Holder} {x : Holder} (hx : x ∈ removeId id l) : x ∈ l := by
  induction l with
  | nil => simp [removeId] at hx
  | cons a l ih =>
    simp only [removeId] at hx
    by_cases ha : a.id = id
    · simp [ha] at hx; exact List.mem_cons_of_mem _ hx
    · simp [ha] at hx
      rcases hx with hx | hx
      · simp [hx]
      · exact List.mem_cons_of_mem _ (ih hx)

/-! ## the invariant of the regenerated programs: ONE manager object for the life of the cluster -/

structure Inv (s : State) : Prop where
  nm : 0 < s.nMgr
  im : ∀ i, i < s.nInfo → s.infoMgr i = 0
  cur : s.cur < s.nInfo
  hi : ∀ h, h < s.nHost → s.hostInfo h < s.nInfo
  hs : ∀ h, h ∈ s.hosts → h < s.nHost
  lv : ∀ hd, hd ∈ s.live → validPath s hd.rel = true

/-- the ledger: on the one manager, a limited resource counts exactly the live holders, an unlimited one is not counted -/
def Ledger (s : State) : Prop :=
  ∀ r, (s.mgr 0).cur.get r = if (s.mgr 0).max.get r = 0 then 0 else (count r s.live : Int)

/-- the gauges count the live holders, limited or not -/
def Gauges (s : State) : Prop := ∀ r, s.gauge.get r = (count r s.live : Int)

theorem inv_init (thr : Thr) (n : Nat) : Inv (init thr n) :=
  ⟨by simp [init], by simp [init], by simp [init], by simp [init], by simp [init], by simp [init]⟩

theorem ledger_init (thr : Thr) (n : Nat) : Ledger (init thr n) := by
  intro r; simp [init, count, V4.get_const]

theorem gauges_init (thr : Thr) (n : Nat) : Gauges (init thr n) := by
  intro r; simp [init, count, V4.get_const]

theorem mgrOf_valid {s : State} (hi : Inv s) {p : Path} (hv : validPath s p = true) : mgrOf s p = 0 := by
  cases p with
  | info i => simp [validPath] at hv; simp [mgrOf, hi.im i hv]
  | host h => simp [validPath] at hv; simp [mgrOf, hi.im _ (hi.hi h hv)]

theorem curMgr_eq {s : State} (hi : Inv s) : curMgr s = s.mgr 0 := by
  simp [curMgr, hi.im _ hi.cur]

/-- an admission changes nothing, or it is granted by the one manager and adds the holder there -/
theorem acquire_cases {s : State} (hi : Inv s) (id : Nat) (r : Res) (t p : Path) :
    acquire s id r t p = (s, false) ∨
    (validPath s p = true ∧ acquire s id r t p =
      ({ s with mgr := upd s.mgr 0 (incr (s.mgr 0) r), live := s.live ++ [⟨id, r, p⟩],
                gauge := s.gauge.set r (s.gauge.get r + 1) }, true)) := by
  unfold acquire
  by_cases hv : (validPath s t && validPath s p) = true
  · have hv' := hv
    rw [Bool.and_eq_true] at hv'
    simp only [hv, if_true, mgrOf_valid hi hv'.1]
    by_cases hc : canCreate (s.mgr 0) r = true
    · exact Or.inr ⟨hv'.2, if_pos hc⟩
    · exact Or.inl (if_neg hc)
  · exact Or.inl (if_neg hv)

/-- an admission is refused exactly when `CanCreate()` of the one manager says so (valid paths) -/
theorem admit_outcome {s : State} (hi : Inv s) (id : Nat) (r : Res) {t p : Path} (ht : validPath s t = true) (hp : validPath s p = true) :
    (acquire s id r t p).2 = canCreate (s.mgr 0) r := by
  unfold acquire
  simp [ht, hp, mgrOf_valid hi ht]
  by_cases hc : canCreate (s.mgr 0) r = true <;> simp [hc]

/-- the limit trips exactly at the threshold, against the live holders -/
theorem admit_refused_iff {s : State} (hi : Inv s) (hl : Ledger s) (id : Nat) (r : Res) {t p : Path}
    (ht : validPath s t = true) (hp : validPath s p = true) :
    (acquire s id r t p).2 = false ↔ (0 < (s.mgr 0).max.get r ∧ (s.mgr 0).max.get r ≤ count r s.live) := by
  have hc := hl r
  -- the counter is a count, so the breaker's escape for a negative counter is dead
  rw [admit_outcome hi id r ht hp, ← Bool.not_eq_true, canCreate, Lemmas.Resource.canCreate_iff _ _ (by rw [hc]; split <;> omega), hc]
  split <;> omega

/-- an admission keeps the object graph, the gauges and the ledger -/
theorem admit_keeps {s : State} (hi : Inv s) (id : Nat) (r : Res) (t p : Path) :
    Inv (acquire s id r t p).1 ∧ (Gauges s → Gauges (acquire s id r t p).1) ∧ (Ledger s → Ledger (acquire s id r t p).1) := by
  rcases acquire_cases hi id r t p with e | ⟨hv, e⟩ <;> rw [e]
  · exact ⟨hi, fun h => h, fun h => h⟩
  · refine ⟨{ hi with lv := fun hd hm => ?_ }, fun hg r' => ?_, fun hl r' => ?_⟩
    · rcases List.mem_append.1 hm with hm | hm
      · exact hi.lv hd hm
      · rw [List.mem_singleton.1 hm]; cases p <;> simpa [validPath] using hv
    · have := hg r'
      simp only [V4.get_set, count_append]
      by_cases hr : r' = r
      · subst hr; simp; omega
      · simpa [hr, Ne.symm hr] using this
    · simp only [upd_same, incr_max, incr_cur, count_append]
      have := hl r'
      by_cases hr : r' = r
      · subst hr
        by_cases h0 : (s.mgr 0).max.get r' = 0
        · simp [h0] at this ⊢; exact this
        · simp [h0] at this ⊢; omega
      · have hr' : ¬ r = r' := fun h => hr h.symm
        simp [hr, hr']; exact this

theorem release_eq {s : State} (hi : Inv s) {id : Nat} {h : Holder} (hf : findId id s.live = some h) :
    release s id = { s with mgr := upd s.mgr 0 (decr (s.mgr 0) h.res), live := removeId id s.live,
                            gauge := s.gauge.set h.res (s.gauge.get h.res - 1) } := by
  have hm := mgrOf_valid hi (hi.lv h (findId_mem hf))
  simp [release, hf, hm]

theorem release_none {s : State} {id : Nat} (hf : findId id s.live = none) : release s id = s := by
  simp [release, hf]

/-- with no live holder every release is a no-op, whatever the programs -/
theorem run_release_idle (code : Code) {s : State} (hs : s.live = []) (ids : List Nat) : run code s (ids.map .release) = s := by
  induction ids with
  | nil => rfl
  | cons a l ih =>
    rw [List.map_cons, run, List.foldl_cons, show step code s (.release a) = s from release_none (by rw [hs]; rfl)]
    exact ih

/-- a release keeps the object graph, the gauges and the ledger -/
theorem release_keeps {s : State} (hi : Inv s) (id : Nat) :
    Inv (release s id) ∧ (Gauges s → Gauges (release s id)) ∧ (Ledger s → Ledger (release s id)) := by
  cases hf : findId id s.live with
  | none => rw [release_none hf]; exact ⟨hi, fun h => h, fun h => h⟩
  | some h =>
    rw [release_eq hi hf]
    refine ⟨{ hi with lv := fun hd hm => hi.lv hd (mem_removeId hm) }, fun hg r' => ?_, fun hl r' => ?_⟩ <;>
      have hc := count_removeId r' hf
    · have := hg r'
      simp only [V4.get_set]
      by_cases hr : r' = h.res
      · subst hr; simp at hc ⊢; omega
      · simp only [hr, Ne.symm hr, if_false, Nat.add_zero] at hc ⊢
        rw [hc]; exact this
    · simp only [upd_same, decr_max, decr_cur]
      have := hl r'
      by_cases hr : r' = h.res
      · subst hr
        by_cases h0 : (s.mgr 0).max.get h.res = 0
        · simp [h0] at this ⊢; exact this
        · simp [h0] at this hc ⊢; omega
      · have hr' : ¬ h.res = r' := fun e => hr e.symm
        simp [hr, hr'] at hc ⊢; rw [hc]; exact this

/-! ### update: the regenerated handler chain, evaluated on a symbolic state -/

section update
variable (s : State) (p : Bool) (thr : Thr) (st : Bool) (n : Nat)

/-- the regenerated update, run on a symbolic state with one manager: the new info is pointed at manager 0, which takes the new
thresholds and keeps its counters; the fresh manager object is left behind unused -/
theorem update_gen_eq (hi : Inv s) : update Code.gen s p thr st n =
    { s with
      mgr := upd (upd s.mgr s.nMgr ⟨thr, V4.const 0⟩) 0 ⟨thr, (s.mgr 0).cur⟩, nMgr := s.nMgr + 1,
      infoMgr := upd s.infoMgr s.nInfo 0, nInfo := s.nInfo + 1, cur := s.nInfo,
      hostInfo := fun h => if (if p then s.hosts.contains h else decide (s.nHost ≤ h ∧ h < s.nHost + n)) then s.nInfo else s.hostInfo h,
      nHost := if p then s.nHost else s.nHost + n,
      hosts := if p then s.hosts else List.range' s.nHost n } := by
  have hc := hi.im _ hi.cur
  have h1 : s.cur ≠ s.nInfo := Nat.ne_of_lt hi.cur
  have h2 : s.nMgr ≠ 0 := Nat.ne_of_gt hi.nm
  have h3 : (0 : Nat) ≠ s.nMgr := Nat.ne_of_lt hi.nm
  cases thr
  cases p <;>
  simp [update, Code.gen, handler, stores, primaryChain, andHostChain, runStep, runActs, HV.set, HV.get, sideInfo, runStores, runStore,
    formalObj, fldGet, fldSet, List.foldl, upd, upd_upd, h1, h2, h3, hc, V4.set, V4.get]

/-- whatever the cluster types: the current cluster stays on the one manager object, which takes the thresholds of the update
and keeps its counters -/
theorem update_cur (hi : Inv s) :
    (update Code.gen s p thr st n).infoMgr (update Code.gen s p thr st n).cur = s.infoMgr s.cur ∧
    curMgr (update Code.gen s p thr st n) = ⟨thr, (curMgr s).cur⟩ := by
  rw [curMgr_eq hi, curMgr, update_gen_eq s p thr st n hi, hi.im _ hi.cur]
  dsimp only
  rw [upd_same, upd_same]
  exact ⟨rfl, rfl⟩

/-- an update keeps the object graph and the gauges, and the ledger unless it moves a held threshold through zero -/
theorem update_keeps (hi : Inv s) : Inv (update Code.gen s p thr st n) ∧ (Gauges s → Gauges (update Code.gen s p thr st n)) ∧
    (Ledger s → zeroStableOp s (.update p thr st n) = true → Ledger (update Code.gen s p thr st n)) := by
  rw [update_gen_eq s p thr st n hi]
  refine ⟨⟨Nat.succ_pos _, fun i hlt => ?_, Nat.lt_succ_self _, fun h hlt => ?_, fun h hm => ?_, fun hd hm => ?_⟩, id, fun hl hz r => ?_⟩ <;>
    dsimp only at *
  · unfold upd
    split
    · rfl
    · exact hi.im i (by omega)
  · -- a host of the new cluster's host set points at the new info, every other host where it pointed
    cases p
    · simp only [Bool.false_eq_true, if_false, decide_eq_true_eq] at hlt ⊢
      split
      · omega
      · exact Nat.lt_succ_of_lt (hi.hi h (by omega))
    · simp only [if_true] at hlt ⊢
      split
      · omega
      · exact Nat.lt_succ_of_lt (hi.hi h hlt)
  · cases p
    · exact (List.mem_range'_1.mp hm).2
    · exact hi.hs h hm
  · have hv := hi.lv hd hm
    cases hr : hd.rel <;> rw [hr] at hv <;> simp only [validPath, decide_eq_true_eq] at hv ⊢
    · omega
    · split <;> omega
  · simp only [zeroStableOp, List.all_eq_true, Bool.or_eq_true, beq_iff_eq, curMgr_eq hi] at hz
    show (s.mgr 0).cur.get r = if thr.get r = 0 then 0 else (count r s.live : Int)
    rw [hl r]
    rcases hz r (by cases r <;> simp [allRes]) with h0 | heq
    · rw [h0]; simp
    · -- the threshold is zero before the update exactly when it is after
      have := Bool.eq_iff_iff.1 heq
      simp only [beq_iff_eq] at this
      simp only [this]

end update

theorem step_keeps {s : State} (hi : Inv s) (op : Op) : Inv (step Code.gen s op) ∧ (Gauges s → Gauges (step Code.gen s op)) ∧
    (Ledger s → zeroStableOp s op = true → Ledger (step Code.gen s op)) := by
  cases op with
  | acquire id r t p => exact (admit_keeps hi id r t p).imp_right (.imp_right fun h hl _ => h hl)
  | release id => exact (release_keeps hi id).imp_right (.imp_right fun h hl _ => h hl)
  | update p thr st n => exact update_keeps s p thr st n hi

theorem reach (s : State) (ops : List Op) (hi : Inv s) (hl : Ledger s) (hg : Gauges s) (hz : zeroStable Code.gen s ops = true) :
    Inv (run Code.gen s ops) ∧ Ledger (run Code.gen s ops) ∧ Gauges (run Code.gen s ops) := by
  induction ops generalizing s with
  | nil => exact ⟨hi, hl, hg⟩
  | cons op r ih =>
    simp only [zeroStable, Bool.and_eq_true] at hz
    obtain ⟨hi', hg', hl'⟩ := step_keeps hi op
    exact ih (step Code.gen s op) hi' (hl' hl hz.1) (hg' hg) hz.2

/-- without the zero-stability hypothesis: the object graph and the gauges (not the breaker ledger) -/
theorem reach_inv (s : State) (ops : List Op) (hi : Inv s) (hg : Gauges s) :
    Inv (run Code.gen s ops) ∧ Gauges (run Code.gen s ops) :=
  Lemmas.Fold.foldl_inv (P := fun s => Inv s ∧ Gauges s) (fun _ op h => ⟨(step_keeps h.1 op).1, (step_keeps h.1 op).2.1 h.2⟩) ops s ⟨hi, hg⟩

end MosnVerif.Model.ResourceShare
