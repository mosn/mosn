import MosnVerif.Lemmas.FilterReply
/-! the repaired task loop of `OnReceive` never leaves a stream behind: when the re-entry budget is used up, what
follows the loop (`finishStart`) and the finishing pass end the request — every return of `receive` in that pass is `End`.

Two facts are carried along the run (`Linv`): (a) what a return of `receive` into the task loop hands back — a re-entry
phase, `Oneway` only for a one-way request, `UpFilter` only with the retry state dropped (the regenerated `processError`
takes a local reply that way) —, which is what the step after the loop finds when the budget runs out right there;
(b) in the finishing pass the worker is at `Oneway` of a one-way request or in the response phases with no retry state. -/
set_option linter.unusedSimpArgs false
namespace MosnVerif.Model.FilterMachine
open MosnVerif.Gen.FilterPhase MosnVerif.Model.FilterChain

def AgainVals (s : St) : Prop := s.again = InitPhase ∨ s.again = MatchRoute ∨ s.again = ChooseHost

/-- what `receive` hands back to the task loop -/
def PhOK (c : Cfg) (x : St) (p : Nat) : Prop :=
  p = End ∨ p = Retry ∨ (p = UpFilter ∧ x.rs = none ∧ c.env.oneway = false) ∨ (p = Oneway ∧ c.env.oneway = true) ∨
    p = MatchRoute ∨ p = ChooseHost

/-- `PhOK` as seen on the state the next call of `receive` (or the step after the loop) starts from -/
def RetOK (c : Cfg) (r : St) : Prop :=
  (r.phase = UpFilter ∧ r.rs = none ∧ c.env.oneway = false) ∨ (r.phase = Oneway ∧ c.env.oneway = true) ∨
    r.phase = MatchRoute ∨ r.phase = ChooseHost

/-- one iteration outside the finishing pass: nothing is abandoned; the counters stay or `receive` returned -/
def LOK (c : Cfg) (s r : St) : Prop :=
  r.exhausted = s.exhausted ∧ (r.halted = false → r.outer = s.outer ∨ (r.outer = s.outer + 1 ∧ RetOK c r))

theorem L_ret {c : Cfg} {s g x : St} {p : Nat} (k : Taken c g x) (ho : g.outer = s.outer) (he : g.exhausted = s.exhausted)
    (hlt : s.outer ≤ taskLoopBound) (hp : PhOK c x p) : LOK c s (ret x p) := by
  have he : x.exhausted = s.exhausted := k.ctl.2.2.1.trans he
  have ho : x.outer = s.outer := k.ctl.1.trans ho
  rcases ret_cases x p with ⟨_, e⟩ | ⟨h, _⟩ | ⟨_, e⟩ | ⟨hE, hR, _, e⟩
  · rw [e]; exact ⟨he, fun h => by cases h⟩
  · exact absurd (ho ▸ hlt) (Nat.not_le_of_gt h)
  · rw [e]; exact ⟨he, fun h => by cases h⟩
  · rw [e]
    exact ⟨he, fun _ => .inr ⟨congrArg (· + 1) ho, (hp.resolve_left hE).resolve_left hR⟩⟩

theorem L_next (c : Cfg) (s x : St) (ho : x.outer = s.outer) (he : x.exhausted = s.exhausted) (n : Nat) :
    LOK c s { x with phase := n } := ⟨he, fun _ => Or.inl ho⟩

theorem PErr.lok {c : Cfg} {s g r : St} (h : PErr c g r) (ho : g.outer = s.outer) (he : g.exhausted = s.exhausted)
    (hlt : s.outer ≤ taskLoopBound) (ha : AgainVals g) : LOK c s r := by
  cases h with
  | done k => exact L_ret k ho he hlt (.inl rfl)
  | oneway k hw => exact L_ret k ho he hlt (.inr (.inr (.inr (.inl ⟨rfl, hw⟩))))
  | reply k hrs hw => exact L_ret k ho he hlt (.inr (.inr (.inl ⟨rfl, hrs, hw⟩)))
  | retry k => exact L_ret k ho he hlt (.inr (.inl rfl))
  | again k _ hne => exact L_ret k ho he hlt (.inr (.inr (.inr (.inr (ha.resolve_left hne)))))
  | next k => exact ⟨k.ctl.2.2.1.trans he, fun _ => .inl (k.ctl.1.trans ho)⟩

theorem againVals_of_init {g : St} (h : g.again = InitPhase) : AgainVals g := Or.inl h

/-- only a receiver pass sets the again-phase, and only to MatchRoute / ChooseHost -/
theorem Body.againVals {c : Cfg} {s g : St} (hb : Body c s g) (ha : s.again = InitPhase) : AgainVals g := by
  cases hn : recvPhaseOf s.phase with
  | none => exact .inl ((hb.eff.again hn).trans ha)
  | some p =>
    cases hb with
    | filter => exact recvLoop_again_vals _ _ _ _ (.inl ha)
    | _ => rw [‹s.phase = _›] at hn; cases hn

/-- one `case` of `receive` outside the finishing pass -/
theorem Case.lok {c : Cfg} {s r : St} (h : Case c s r) (hlt : s.outer ≤ taskLoopBound) (ha : s.again = InitPhase) :
    LOK c s r := by
  cases h with
  | body hb => exact (afterPE_perr c _).lok hb.eff.ctl.2.2.1 hb.eff.ctl.2.2.2.1 hlt (hb.againVals ha)
  | retry _ _ _ _ hq => exact (retry_perr c s hq).lok rfl rfl hlt (.inl ha)
  | skip => exact L_next c s s rfl rfl _
  | toWait => exact L_next c s s rfl rfl _
  | escape => exact ⟨rfl, fun h => by cases h⟩
  | blocked _ hh => exact ⟨(deliver_frame c s).2.2.2, fun h' => by rw [hh] at h'; cases h'⟩
  | last => exact L_ret .same rfl rfl hlt (.inl rfl)

/-- where the worker is in the finishing pass -/
def FinOK (c : Cfg) (s : St) : Prop := (s.phase = Oneway ∧ c.env.oneway = true) ∨ (12 ≤ s.phase ∧ s.rs = none)

/-- one iteration of the finishing pass: `receive` goes on inside the response phases or returns `End` -/
def FOK (s r : St) : Prop :=
  r.exhausted = s.exhausted ∧ (r.halted = false → r.outer = s.outer ∧ 12 ≤ r.phase ∧ r.rs = none)

theorem F_ret_End (s x : St) (he : x.exhausted = s.exhausted) : FOK s (ret x End) :=
  ⟨by simp [ret, he], fun h => by simp [ret] at h⟩

/-- `processError` in the finishing pass, from a response phase of a two-way request with no retry state and no pending local
reply (a reset only at the sender-filter `case`, where it is handled in place): End or the next `case` -/
theorem F_after (c : Cfg) (s g : St) (ho : g.outer = s.outer) (he : g.exhausted = s.exhausted) (hd : g.direct = false)
    (hr : g.upstreamReset = true → g.phase = UpFilter) (ha : g.again = InitPhase) (hp : 12 ≤ g.phase) (hrs : g.rs = none)
    (hw : c.env.oneway = false) : FOK s (afterPE c g) := by
  have h := afterPE_perr c g
  generalize afterPE c g = r at h ⊢
  cases h with
  | done k => exact F_ret_End s _ (k.ctl.2.2.1.trans he)
  | oneway _ how => rw [hw] at how; cases how
  | reply _ _ _ hne hc => exact absurd (hr (hc.resolve_left (by rw [hd]; exact Bool.noConfusion))) hne
  | retry _ hne => exact absurd hrs hne
  | again _ _ hne => exact absurd ha hne
  | next k => exact ⟨k.ctl.2.2.1.trans he, fun _ => ⟨k.ctl.1.trans ho, Nat.le_succ_of_le hp, k.rs_none hrs⟩⟩

theorem Case.fok {c : Cfg} {s r : St} (h : Case c s r) (hd : PhaseData c s.view s.phase) (hnh : s.halted = false)
    (hf : FinOK c s) : FOK s r := by
  have hcom := hd.1
  have hag : s.again = InitPhase := hcom.again
  have stay : 12 ≤ s.phase → FOK s { s with phase := s.phase + 1 } :=
    fun h12 => ⟨rfl, fun _ => ⟨rfl, Nat.le_succ_of_le h12, by rcases hf with ⟨h9, _⟩ | ⟨_, hrs⟩ <;> first | exact hrs | phase_omega⟩⟩
  cases h with
  | body hb =>
    rcases hf with ⟨h9, how⟩ | ⟨h12, hrs⟩
    · -- Oneway of a one-way request: cleanStream, then `processError` finds the stream cleaned
      cases hb with
      | oneway => rw [afterPE_cleaned c (clean s) rfl]; exact F_ret_End s _ rfl
      | filter hp => have := recvPhaseOf_le hp; phase_omega
      | _ => phase_omega
    · have hn : recvPhaseOf s.phase = none := by
        cases h : recvPhaseOf s.phase with
        | none => rfl
        | some p => have := recvPhaseOf_le h; omega
      obtain ⟨gP, _, gO, gX, _, _⟩ := hb.eff.ctl
      obtain ⟨hr, hw⟩ := hd.back h12
      -- an upstream reset can only have been raised during the sender pass
      exact F_after c s _ gO gX ((hb.quiet h12).1.trans hcom.direct)
        (fun hu => gP.trans (Decidable.by_contra fun hne => by
          rw [(hb.quiet h12).2 hne, show s.upstreamReset = false from hr] at hu; cases hu))
        ((hb.eff.again hn).trans hag) (gP ▸ h12) ((hb.eff.rs (by phase_omega)).trans hrs) hw
  | retry _ _ _ _ hq =>
    -- no retry state in the finishing pass: nothing is retried
    rcases hf with ⟨h9, _⟩ | ⟨_, hrs⟩
    · phase_omega
    · rw [headersRetry_none c s hrs] at hq; cases hq
  | skip hs =>
    rcases hf with ⟨h9, _⟩ | ⟨h12, _⟩
    · unfold Skips at hs; phase_omega
    · exact stay h12
  | toWait h ho =>
    rcases hf with ⟨_, how⟩ | ⟨h12, _⟩
    · rw [how] at ho; cases ho
    · phase_omega
  | escape he => exact absurd he hd.not_escapes
  | blocked h hh => rw [hd.not_blocked hnh h] at hh; cases hh
  | last h => have := hd.lt16; phase_omega

/-- nothing has been abandoned, and the running task is in the task loop, or behind its last call of `receive` with what that
call handed back, or in the finishing pass -/
structure Linv (c : Cfg) (s : St) : Prop where
  ex : s.exhausted = false
  task : s.halted = false → s.outer < taskLoopBound ∨ (s.outer = taskLoopBound ∧ RetOK c s) ∨
    (s.outer = taskLoopBound + 1 ∧ FinOK c s)

theorem init_Linv (c : Cfg) : Linv c init := ⟨rfl, fun _ => .inl (by decide)⟩

theorem step_Linv (c : Cfg) (s : St) (hg : Ginv c s) (hfix : exhaustFinishes = true) (h : Linv c s) : Linv c (step c s) := by
  have hs := step_case c s
  generalize step c s = r at hs ⊢
  cases hs with
  | idle => exact h
  | finish hnh h10 =>
    -- the budget is used up: the finishing pass starts where the last call of `receive` left the worker, or where
    -- `processError` hands the 500 reply back
    obtain ⟨hx, hfo⟩ := (finishStart_case c s).form (hg.live hnh).1.1.again (Nat.le_of_eq h10)
    generalize finishStart c s = r at hx hfo ⊢
    refine ⟨(hx hfix).trans h.ex, fun hh => .inr (.inr ?_)⟩
    rcases hfo with hh' | ⟨ho', hp⟩
    · rw [hh'] at hh; cases hh
    · refine ⟨by rw [ho', h10], ?_⟩
      rcases hp with ⟨hph, hrs, hhj⟩ | ⟨hph, hw⟩ | ⟨hph, hrs⟩
      · have hp : s.phase ≠ 2 ∧ s.phase ≠ 4 := by
          simpa [exhaustHijacks, MatchRoute, ChooseHost] using hhj
        rcases h.task hnh with hlt | ⟨_, hret⟩ | ⟨h11, _⟩
        · exact absurd h10 (Nat.ne_of_lt hlt)
        · rcases hret with ⟨h1, h2, _⟩ | ⟨h1, h2⟩ | h1 | h1
          · exact .inr ⟨by rw [hph, h1]; decide, hrs.trans h2⟩
          · exact .inl ⟨hph.trans h1, h2⟩
          · exact absurd h1 hp.1
          · exact absurd h1 hp.2
        · exact absurd (h10.symm.trans h11) (Nat.succ_ne_self _).symm
      · exact .inl ⟨hph, hw⟩
      · exact .inr ⟨by rw [hph]; decide, hrs⟩
  | overrun hnh hi => exact absurd (Ginv_inner_le c s hg hnh) (Nat.not_le_of_gt hi)
  | case hnh h10 =>
    obtain ⟨hd, _⟩ := hg.live hnh
    have hc := phaseCase_case c { s with inner := s.inner + 1 }
    generalize phaseCase c { s with inner := s.inner + 1 } = r at hc ⊢
    show Linv c r
    rcases h.task hnh with hlt | ⟨h', _⟩ | ⟨h11, hfin⟩
    · -- inside the task loop
      obtain ⟨l1, l2⟩ := hc.lok (Nat.le_of_lt hlt) hd.1.again
      refine ⟨l1.trans h.ex, fun hh => ?_⟩
      rcases l2 hh with h1 | ⟨h1, h2⟩
      · exact .inl (h1 ▸ hlt)
      · rcases Nat.lt_or_ge r.outer taskLoopBound with h' | h'
        · exact .inl h'
        · exact .inr (.inl ⟨Nat.le_antisymm (h1 ▸ hlt) h', h2⟩)
    · exact absurd h' h10
    · -- the finishing pass
      obtain ⟨f1, f2⟩ := hc.fok hd hnh hfin
      exact ⟨f1.trans h.ex, fun hh => .inr (.inr ⟨(f2 hh).1.trans h11, .inr (f2 hh).2⟩)⟩

/-- at no point of any run has the worker left with the stream unfinished -/
theorem never_exhausted (c : Cfg) (n : Nat) : (run c n init).exhausted = false :=
  (run_Ginv_and (fun s hg => step_Linv c s hg rfl) n init (init_Ginv c) (init_Linv c)).ex

end MosnVerif.Model.FilterMachine
