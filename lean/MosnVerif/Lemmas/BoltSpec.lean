import MosnVerif.Lemmas.BoltCodec
/-! the model's outputs satisfy the C01 reference predicate `Ref.holds` (core only) -/
namespace MosnVerif.Model.Bolt
open MosnVerif.Model MosnVerif.Model.Bytes

theorem classify_v1 (v2c : Bool) (b : Bytes) (hl : 20 ≤ b.length) (h0 : byteAt b 0 = 1) :
    Ref.classify v2c b = byType Ref.v1req Ref.v1resp (byteAt b 1) := by
  have : 0 < b.length := by omega
  cases v2c <;> simp [classify_eq, v2Family, h0, hl, this]

theorem classify_v2 (v2c : Bool) (b : Bytes) (hl : 22 ≤ b.length) (h0 : byteAt b 0 = 2) :
    Ref.classify v2c b = byType Ref.v2req Ref.v2resp (byteAt b 2) := by
  have : 0 < b.length := by omega
  cases v2c <;> simp [classify_eq, v2Family, h0, hl, this]

theorem encodeMeta_head (id : KindId) (m : Meta) (c h n : Nat) (rest : Bytes) :
    byteAt ((Ref.kindOf id).encodeMeta m c h n ++ rest) 0 = m.proto % 256 ∧
    byteAt ((Ref.kindOf id).encodeMeta m c h n ++ rest) (match id with | .v1req | .v1resp => 1 | .v2req | .v2resp => 2)
      = m.cmdType % 256 := by
  rw [encodeMeta_eq]
  cases id <;>
    simp only [layout, ← getBE_one, getBE_fields_hit, getBE_fields_skip, Nat.reduceLeDiff, Nat.reduceSub, Nat.reduceAdd,
      Nat.pow_one, and_self]

theorem classify_encoded (v2c : Bool) (id : KindId) (m : Meta) (ow : Bool) (hw : metaWF id m ow) (c h n : Nat) (rest : Bytes) :
    Ref.classify v2c ((kindOf id).encodeMeta m c h n ++ rest) = some (kindOf id, ow) := by
  rw [kindOf_eq]
  obtain ⟨ho, _, _, _, _, hk⟩ := hw
  obtain ⟨b0, bt⟩ := encodeMeta_head id m c h n rest
  have hlen : (Ref.kindOf id).hdrLen ≤ ((Ref.kindOf id).encodeMeta m c h n ++ rest).length := by
    rw [List.length_append, ← kindOf_eq, (kindOf_ok id).meta_len]; exact Nat.le_add_right _ _
  cases id <;> obtain ⟨hp, ht, _⟩ := hk <;> rw [hp] at b0 <;> rw [ht] at bt
  · rw [classify_v1 v2c _ (Nat.le_trans (by decide) hlen) b0, bt]; cases ow <;> rfl
  · rw [classify_v1 v2c _ hlen b0, bt, ho]; rfl
  · rw [classify_v2 v2c _ (Nat.le_trans (by decide) hlen) b0, bt]; cases ow <;> rfl
  · rw [classify_v2 v2c _ hlen b0, bt, ho]; rfl

theorem classify_kind (v2c : Bool) (b : Bytes) (K : Kind) (ow : Bool) (h : Ref.classify v2c b = some (K, ow)) :
    K = Ref.kindOf K.id ∧ owOK K.id ow := by
  rw [classify_eq] at h
  repeat' split at h
  all_goals first | (cases h; done) | skip
  all_goals rcases byType_some h with rfl | ⟨rfl, rfl⟩
  all_goals first | exact ⟨rfl, trivial⟩ | exact ⟨rfl, rfl⟩

theorem applyOp_kind (f : Frame) (o : Op) : (applyOp f o).kind = f.kind ∧ (applyOp f o).fx = f.fx ∧ (applyOp f o).raw = f.raw := by
  cases o <;> simp [applyOp, setHeader, delHeader, setData]

theorem modify_kind (ops : List Op) (f : Frame) :
    (modify ops f).kind = f.kind ∧ (modify ops f).fx = f.fx ∧ (modify ops f).raw = f.raw := by
  unfold modify
  induction ops generalizing f with
  | nil => simp
  | cons o r ih =>
    simp only [List.foldl_cons]
    obtain ⟨h1, h2, h3⟩ := ih (applyOp f o)
    obtain ⟨g1, g2, g3⟩ := applyOp_kind f o
    exact ⟨h1.trans g1, h2.trans g2, h3.trans g3⟩

theorem metaWF_setId (id : KindId) (m : Meta) (ow : Bool) (i : Nat) (h : metaWF id m ow) :
    metaWF id { m with reqId := i % 2 ^ 32 } ow := by
  obtain ⟨h0, h1, h2, _, h4, h5⟩ := h
  refine ⟨h0, h1, h2, ?_, h4, ?_⟩
  · exact Nat.mod_lt _ (by decide)
  · cases id <;> exact h5

/-- a frame `Decode` returns was produced by `decodeKind` of its own kind, entered the way the protocol switch allows, so
its fixed fields are ones a decoder can produce (and it can go through the slow path) -/
theorem decode_frame_kind {c : Codec} {b : Bytes} {f : Frame} {n : Nat} (h : decode c b = .frame f n) :
    ∃ ow, metaWF f.kind f.fx ow ∧ Ref.classify (isV2 c) b = some (kindOf f.kind, ow) ∧
      decodeKind (kindOf f.kind) ow b = .frame f n := by
  cases hcl : Ref.classify (isV2 c) b with
  | none => exact absurd h (decode_not_frame_of_classify_none c b hcl f n)
  | some p =>
    obtain ⟨K, ow⟩ := p
    rw [decode_of_classify c b K ow hcl] at h
    obtain ⟨hKref, hoo⟩ := classify_kind _ _ _ _ hcl
    obtain ⟨_, _, _, _, _, _, hkind, hfx, _⟩ := decodeKind_frame h
    have hKeq : kindOf f.kind = K := by rw [hkind, kindOf_eq]; exact hKref.symm
    have hwf := (kindOf_ok f.kind).meta_wf b ow (by rw [hKeq]; exact hoo)
    rw [hKeq, ← hfx, ← hkind] at hwf
    rw [hKeq]
    exact ⟨ow, hwf, rfl, h⟩

theorem classify_encodeSlow (v2c : Bool) (m : Frame) (ow : Bool) (hw : metaWF m.kind m.fx ow) {out : Bytes}
    (ho : encodeSlow (kindOf m.kind) m = some out) (hrep : Ref.representable m = true) :
    Ref.classify v2c out = some (kindOf m.kind, ow) := by
  rw [encodeSlow_some _ m hrep] at ho
  injection ho with ho
  rw [← ho]
  exact classify_encoded v2c m.kind m.fx ow hw _ _ _ _

/-- when `Encode` takes the slow path: no raw frame (built locally) or a dirty flag -/
def slowPath (m : Frame) : Prop := m.raw = none ∨ m.hdrChanged = true ∨ m.contentChanged = true

theorem encode_slow (m : Frame) (h : slowPath m) : encode m = encodeSlow (kindOf m.kind) m := by
  unfold encode encodeKind
  cases hr : m.raw with
  | none => rfl
  | some raw =>
    rcases h with h | h | h
    · rw [hr] at h; cases h
    · simp [h]
    · simp [h]

theorem slow_roundtrip_proto (c : Codec) (m : Frame) (ow : Bool) (hs : slowPath m) (hw : metaWF m.kind m.fx ow)
    (hrep : Ref.representable m = true) :
    ∃ out, encode m = some out ∧
      decode c out = .frame
        { kind := m.kind, fx := m.fx, classLen := m.cls.length, headerLen := BoltHeader.encodeLen m.kvs,
          contentLen := m.content.length, cls := m.cls, kvs := m.kvs, content := m.content,
          raw := some out, hdrChanged := false, contentChanged := false } out.length := by
  have hid := kindOf_id m.kind
  obtain ⟨out, ho, hdec⟩ := slow_roundtrip_kind (kindOf_ok m.kind) m ow (hid.symm ▸ hw) hrep
  refine ⟨out, (encode_slow m hs).trans ho, ?_⟩
  rw [decode_of_classify c out _ ow (classify_encodeSlow (isV2 c) m ow hw ho hrep), hdec, hid]

/-- a frame MOSN builds itself (no raw frame, empty class / header block / body) with fixed fields a decoder can produce
is written by the slow path and decodes, through either codec, to itself -/
theorem localFrame_roundtrip (c : Codec) (k : KindId) (fx : Meta) (ow : Bool) (hw : metaWF k fx ow) :
    ∃ out, encode (localFrame k fx) = some out ∧
      decode c out = .frame { localFrame k fx with raw := some out } out.length :=
  slow_roundtrip_proto c (localFrame k fx) ow (Or.inl rfl) hw rfl

theorem fast_identity_proto (c : Codec) (b : Bytes) (f : Frame) (n : Nat) (h : decode c b = .frame f n) (i : Nat) :
    encode (setId f i) = some (patch (b.take n) (kindOf f.kind).idIdx (be 4 i)) ∧
    (kindOf f.kind).idIdx + 4 ≤ n ∧ n ≤ b.length ∧
    n = (kindOf f.kind).hdrLen + f.classLen + f.headerLen + f.contentLen := by
  obtain ⟨ow, _, _, hd⟩ := decode_frame_kind h
  have hK := kindOf_ok f.kind
  obtain ⟨_, hn, hle, _, _, _, _, _, hcl, hhl, hnl⟩ := decodeKind_frame hd
  have hn' : n = (kindOf f.kind).hdrLen + f.classLen + f.headerLen + f.contentLen := by
    rw [hn, hK.frameLen_eq, hcl, hhl, hnl]
  have := hK.id_in_hdr
  rw [hK.idWidth_eq] at this
  exact ⟨encodeKind_fast hK hd i, by omega, hle, hn'⟩

/-- a decoded frame after any modifications and `SetRequestId`: kind and raw frame are the decoded ones, the fixed fields
differ in the id only and are still ones a decoder can produce -/
theorem modified_frame {c : Codec} {b : Bytes} {f : Frame} {n : Nat} (h : decode c b = .frame f n) (ops : List Op) (i : Nat) :
    (setId (modify ops f) i).kind = f.kind ∧ (setId (modify ops f) i).fx = { f.fx with reqId := i % 2 ^ 32 } ∧
    (setId (modify ops f) i).raw = some (b.take n) ∧
    ∃ ow, metaWF (setId (modify ops f) i).kind (setId (modify ops f) i).fx ow := by
  obtain ⟨ow, hw, _, hd⟩ := decode_frame_kind h
  obtain ⟨_, _, _, hraw, _⟩ := decodeKind_frame hd
  obtain ⟨mk, mfx, mraw⟩ := modify_kind ops f
  have hfx : (setId (modify ops f) i).fx = { f.fx with reqId := i % 2 ^ 32 } := by simp [setId, mfx]
  exact ⟨mk, hfx, mraw.trans hraw, ow, by rw [hfx]; exact mk ▸ metaWF_setId _ _ _ _ hw⟩

/-- **the model satisfies the C01 predicate** on every input it accepts, for every list of modifications and every id -/
theorem holds_frame (c : Codec) (inp : Bytes) (ops : List Op) (id : Nat) (f : Frame) (n : Nat)
    (h : decode c inp = .frame f n) :
    Ref.holds (isV2 c) inp (modify ops) id true n (encode (setId (modify ops f) id)) = true := by
  have hp := (decode_frame_iff_parse c inp f n).mp h
  obtain ⟨m_kind, m_fx, m_raw, ow, m_wf⟩ := modified_frame h ops id
  generalize hm : setId (modify ops f) id = m at m_kind m_fx m_raw m_wf
  unfold Ref.holds
  rw [hp]
  simp only [hm, Bool.true_and, beq_self_eq_true]
  by_cases hclean : (!m.hdrChanged && !m.contentChanged) = true
  · -- untouched: the fast path
    simp only [hclean, if_true]
    unfold encode encodeKind
    rw [m_raw, m_kind]
    simp only [hclean, if_true, encodeFast, (kindOf_ok f.kind).idWidth_eq, m_fx, ← kindOf_eq, be_mod 4 id]
    simp
  · simp only [hclean, Bool.false_eq_true, if_false]
    have hs : slowPath m := by
      cases h1 : m.hdrChanged
      · cases h2 : m.contentChanged
        · simp [h1, h2] at hclean
        · exact Or.inr (Or.inr h2)
      · exact Or.inr (Or.inl h1)
    cases hrep : Ref.representable m with
    | true =>
      obtain ⟨out, ho, hd⟩ := slow_roundtrip_proto c m ow hs m_wf hrep
      simp only [if_true, ho, (decode_frame_iff_parse c out _ _).mp hd]
      simp [Ref.sameContent, Ref.lengthsConsistent]
    | false => simp [encode_slow m hs, encodeSlow_none _ m hrep]

/-- when the model does not produce a frame the reference parser does not either, so the predicate demands nothing -/
theorem holds_noframe (c : Codec) (inp : Bytes) (g : Frame → Frame) (id : Nat)
    (h : ∀ f n, decode c inp ≠ .frame f n) (acc : Bool) (k : Nat) (out : Option Bytes) :
    Ref.holds (isV2 c) inp g id acc k out = true := by
  unfold Ref.holds
  cases hp : Ref.parse (isV2 c) inp with
  | none => rfl
  | some p =>
    obtain ⟨f, n⟩ := p
    exact absurd ((decode_frame_iff_parse c inp f n).mpr hp) (h f n)

end MosnVerif.Model.Bolt
