import MosnVerif.Model.ReadLoop
import MosnVerif.Lemmas.Framing
import MosnVerif.Lemmas.Fold
/-! One iteration of the connection read loop loses and duplicates nothing, and is one `Framing.feed` of the chunk that was read (core Lean only). -/
namespace MosnVerif.Model.ReadLoop
open MosnVerif.Model.Framing
open MosnVerif.Gen.ReadLoopConn

/-! ### what the regenerated `doRead` / `onRead` do with the four labels -/

theorem doReadAfter_read (c : Bytes) :
    doReadAfter 0 ErrKind.none (c.length : Int) = (true, if c = [] then ErrKind.eof else ErrKind.none) := by
  cases c with
  | nil => simp [doReadAfter]
  | cons x xs =>
    simp [doReadAfter]; omega

theorem doReadAfter_timeout : doReadAfter 0 ErrKind.timeout ((([] : Bytes).length : Nat) : Int) = (false, ErrKind.timeout) := by
  simp [doReadAfter]

theorem doReadAfter_eof (c : Bytes) : doReadAfter 0 ErrKind.eof (c.length : Int) = (true, ErrKind.eof) := by
  simp [doReadAfter]

theorem doReadAfter_error : doReadAfter 0 ErrKind.other ((([] : Bytes).length : Nat) : Int) = (false, ErrKind.other) := by
  simp [doReadAfter]

theorem onReadDispatches_len (n : Nat) : onReadDispatches true (n : Int) = decide (n ≠ 0) := by
  by_cases h : n = 0
  · subst h; simp [onReadDispatches]
  · simp [onReadDispatches, h]

theorem closes_read (c : Bytes) : closes (.read c) = c.isEmpty := by
  simp only [closes, Ev.kind, Ev.chunk, doReadAfter_read]
  cases c <;> simp

theorem closes_timeout : closes .timeout = false := by
  simp only [closes, Ev.kind, Ev.chunk, doReadAfter_timeout]

theorem closes_eof (c : Bytes) : closes (.eof c) = true := by
  simp only [closes, Ev.kind, Ev.chunk, doReadAfter_eof]

theorem closes_error : closes .error = true := by
  simp only [closes, Ev.kind, Ev.chunk, doReadAfter_error]

variable {κ : Type}

/-- `ReadOnce` appends what was read; everything else it touches is the geometry of the buffer -/
theorem readOnce_eq (s : St κ) (c : Bytes) :
    readOnce s c = { s with buf := s.buf ++ c, off := (readOnce s c).off, cap := (readOnce s c).cap } := by
  simp [readOnce]

theorem pre_eq (P : Params) (s : St κ) (e : Ev) : pre P s e =
    { s with buf := s.buf ++ e.chunk, allocated := (pre P s e).allocated, off := (pre P s e).off, cap := (pre P s e).cap } := by
  unfold pre
  split <;> exact readOnce_eq _ _

theorem take_drop_residue (b : Bytes) (n : Nat) : b.take (b.length - (b.drop n).length) ++ b.drop n = b := by
  rw [List.length_drop, Nat.sub_sub_eq_min, Nat.min_comm, ← List.take_eq_take_min, List.take_append_drop]

theorem handoff_stream (c : Consumer κ) (hd : c.Drains) (s : St κ) :
    (handoff c s).consumed ++ (handoff c s).buf = s.consumed ++ s.buf := by
  obtain ⟨n, hn⟩ := hd s.k s.buf
  simp only [handoff, hn, List.append_assoc, take_drop_residue]

/-- `t` is `s` apart from the geometry of the buffer -/
abbrev Same (s t : St κ) : Prop := t.buf = s.buf ∧ t.k = s.k ∧ t.consumed = s.consumed ∧ t.closed = s.closed

/-- a re-allocation that fires only on an empty buffer changes nothing but the geometry -/
theorem applyShrink_keeps (P : Params) (hP : SafeShrinks P) (sh : Shrink) (hsh : sh ∈ P.shrinks) (s : St κ) :
    Same s (applyShrink P s sh) := by
  unfold applyShrink
  split
  · rename_i hc
    have := hP sh hsh s.allocated s.buf.length s.cap hc
    have hb : s.buf = [] := List.eq_nil_of_length_eq_zero (by omega)
    simp [Same, hb]
  · simp [Same]

/-- … so the timeout branch as a whole does -/
theorem shrinks_preserve (P : Params) (hP : SafeShrinks P) (s : St κ) : Same s (P.shrinks.foldl (applyShrink P) s) :=
  Lemmas.Fold.foldl_inv_mem (P := Same s) P.shrinks (fun t sh hsh ht => by
      obtain ⟨a, b, c, d⟩ := applyShrink_keeps P hP sh hsh t
      exact ⟨a.trans ht.1, b.trans ht.2.1, c.trans ht.2.2.1, d.trans ht.2.2.2⟩) s ⟨rfl, rfl, rfl, rfl⟩

/-- the state of an iteration behind `ReadOnce` and the hand-off to the consumer (if this `doRead` reaches it) -/
def handed (P : Params) (c : Consumer κ) (s : St κ) (e : Ev) : St κ :=
  if dispatches (pre P s e) e then handoff c (pre P s e) else pre P s e

/-- what follows the hand-off changes only the geometry and the close mark: the re-allocations of the timeout branch fire
on an empty buffer, an error leaves the loop -/
theorem step_open (P : Params) (hP : SafeShrinks P) (c : Consumer κ) (s : St κ) (e : Ev) (hc : s.closed = none) :
    (step P c s e).buf = (handed P c s e).buf ∧ (step P c s e).k = (handed P c s e).k ∧
    (step P c s e).consumed = (handed P c s e).consumed ∧ (step P c s e).closed.isSome = closes e := by
  have h2 : (handed P c s e).closed = none := by unfold handed; rw [pre_eq]; split <;> exact hc
  unfold step closes
  simp only [hc, Option.isSome_none, Bool.false_eq_true, ↓reduceIte]
  rw [← handed.eq_1 P c s e]
  cases (doReadAfter 0 e.kind e.chunk.length).2 with
  | none => simp [h2]
  | timeout => simp [shrinks_preserve P hP (handed P c s e), h2]
  | eof => simp
  | other => simp

/-- one iteration: nothing is lost, nothing is duplicated -/
theorem step_stream (P : Params) (hP : SafeShrinks P) (c : Consumer κ) (hd : c.Drains) (s : St κ) (e : Ev) :
    (step P c s e).consumed ++ (step P c s e).buf =
      s.consumed ++ s.buf ++ (if s.closed.isSome then [] else e.chunk) ∧
    (step P c s e).closed.isSome = (s.closed.isSome || closes e) := by
  by_cases hc : s.closed.isSome
  · simp [step, hc]
  · obtain ⟨hb, _, hcons, hcl⟩ := step_open P hP c s e (by simpa using hc)
    rw [hb, hcons, hcl]
    simp only [hc, Bool.false_eq_true, ↓reduceIte, Bool.false_or, and_true]
    unfold handed
    split
    · rw [handoff_stream c hd (pre P s e), pre_eq, List.append_assoc]
    · rw [pre_eq, List.append_assoc]

def appendedFrom (closed : Bool) (evs : List Ev) : List Bytes := if closed then [] else appended evs

theorem foldl_stream (P : Params) (hP : SafeShrinks P) (c : Consumer κ) (hd : c.Drains) :
    ∀ (evs : List Ev) (s : St κ),
      (evs.foldl (step P c) s).consumed ++ (evs.foldl (step P c) s).buf =
        s.consumed ++ s.buf ++ (appendedFrom s.closed.isSome evs).flatten := by
  intro evs
  induction evs with
  | nil => intro s; simp [appendedFrom, appended]
  | cons e es ih =>
    intro s
    have ⟨h1, h2⟩ := step_stream P hP c hd s e
    simp only [List.foldl_cons]
    rw [ih, h1, h2]
    by_cases hc : s.closed.isSome
    · simp [hc, appendedFrom]
    · simp only [hc, Bool.false_eq_true, ↓reduceIte, Bool.false_or, appendedFrom, appended]
      by_cases hcl : closes e <;> simp [hcl]

variable {F : Type}

theorem drain_suffix (d : Bytes → Step F) (fuel : Nat) (b : Bytes) : ∃ n, (drain d fuel b).2.1 = b.drop n := by
  fun_induction drain d fuel b
  case case5 _ n _ _ ih =>  -- a frame of `n` bytes, then the rest of the loop
    obtain ⟨m, hm⟩ := ih
    exact ⟨n + m, by rw [← List.drop_drop]; exact hm⟩
  all_goals exact ⟨0, rfl⟩

theorem dispatchConsumer_drains (d : Bytes → Step F) : (dispatchConsumer d).Drains := by
  intro k b
  simp only [dispatchConsumer, feed, List.append_nil]
  by_cases hf : k.2
  · exact ⟨0, by simp [hf]⟩
  · obtain ⟨n, hn⟩ := drain_suffix d (b.length + 1) b
    exact ⟨n, by simp only [hf, Bool.false_eq_true, ↓reduceIte, hn]⟩

theorem handoff_dispatch (d : Bytes → Step F) (P : Params) (s : St (List F × Bool)) (e : Ev) :
    toConn (handoff (dispatchConsumer d) (pre P s e)) = feed d (toConn s) e.chunk := by
  rw [pre_eq]
  simp only [toConn, handoff, dispatchConsumer, feed, List.append_nil]
  by_cases hf : s.k.2 <;> simp [hf]

/-- one iteration of the read loop = one `Framing.feed` of the chunk that was read; `hfix`: the connection has been
dispatched, so dispatching it again with nothing new changes nothing (an iteration that reads nothing does not dispatch) -/
theorem step_feed (P : Params) (hP : SafeShrinks P) (d : Bytes → Step F) (s : St (List F × Bool)) (e : Ev)
    (hc : s.closed = none) (hfix : feed d (toConn s) [] = toConn s) :
    toConn (step P (dispatchConsumer d) s e) = feed d (toConn s) e.chunk ∧
    (step P (dispatchConsumer d) s e).closed.isSome = closes e := by
  obtain ⟨hb, hk, _, hcl⟩ := step_open P hP (dispatchConsumer d) s e hc
  refine ⟨?_, hcl⟩
  rw [show toConn (step P (dispatchConsumer d) s e) = toConn (handed P (dispatchConsumer d) s e) by
    simp only [toConn, hb, hk]]
  unfold handed
  by_cases hdis : dispatches (pre P s e) e
  · simpa only [hdis, ↓reduceIte] using handoff_dispatch d P s e
  · simp only [hdis, Bool.false_eq_true, ↓reduceIte]
    rw [pre_eq] at hdis ⊢
    -- not dispatched: nothing was read and (for a read / EOF) the buffer is empty
    have hnil : e.chunk = [] := by
      cases e with
      | read c =>
        simp only [dispatches, Ev.kind, Ev.chunk, doReadAfter_read, onReadDispatches_len, Bool.true_and] at hdis
        cases c <;> simp_all [Ev.chunk]
      | eof c =>
        simp only [dispatches, Ev.kind, Ev.chunk, doReadAfter_eof, onReadDispatches_len, Bool.true_and] at hdis
        cases c <;> simp_all [Ev.chunk]
      | timeout => rfl
      | error => rfl
    rw [hnil, hfix]
    simp [toConn]

theorem foldl_feed_loop (P : Params) (hP : SafeShrinks P) (d : Bytes → Step F) (hs : Stable d) :
    ∀ (evs : List Ev) (s : St (List F × Bool)), s.closed = none → feed d (toConn s) [] = toConn s →
      toConn (evs.foldl (step P (dispatchConsumer d)) s) = (appended evs).foldl (feed d) (toConn s) := by
  intro evs
  induction evs with
  | nil => intro s _ _; simp [appended]
  | cons e es ih =>
    intro s hc hfix
    have ⟨h1, h2⟩ := step_feed P hP d s e hc hfix
    simp only [List.foldl_cons, appended]
    by_cases hcl : closes e
    · -- the loop has left: the remaining labels change nothing
      simp only [hcl, ↓reduceIte, List.foldl_nil]
      rw [hcl] at h2
      have : ∀ (l : List Ev) (t : St (List F × Bool)), t.closed.isSome = true →
          l.foldl (step P (dispatchConsumer d)) t = t := by
        intro l
        induction l with
        | nil => intro t _; rfl
        | cons x xs ihx => intro t ht; simp only [List.foldl_cons]; rw [show step P (dispatchConsumer d) t x = t by simp [step, ht]]; exact ihx t ht
      rw [this es _ h2, h1]
    · simp only [hcl, Bool.false_eq_true, ↓reduceIte]
      have hcl' : closes e = false := by simpa using hcl
      rw [hcl'] at h2
      have hcn : (step P (dispatchConsumer d) s e).closed = none := by
        cases h : (step P (dispatchConsumer d) s e).closed <;> simp_all
      rw [ih _ hcn (by rw [h1, feed_feed d hs, List.append_nil]), h1]

theorem appended_plain : ∀ (evs : List Ev), (∀ e ∈ evs, e.plain = true) → (appended evs).flatten = (readsOf evs).flatten := by
  intro evs
  induction evs with
  | nil => intro _; simp [appended, readsOf]
  | cons e es ih =>
    intro h
    have he := h e (List.mem_cons_self ..)
    have hes := ih (fun x hx => h x (List.mem_cons_of_mem _ hx))
    cases e with
    | read c =>
      have : closes (.read c) = false := by rw [closes_read]; simpa [Ev.plain] using he
      simp only [appended, this, Bool.false_eq_true, ↓reduceIte, List.flatten_cons, Ev.chunk, hes, readsOf,
        List.filterMap_cons]
    | timeout =>
      simp only [appended, closes_timeout, Bool.false_eq_true, ↓reduceIte, List.flatten_cons, Ev.chunk, hes, readsOf,
        List.filterMap_cons, List.nil_append]
    | eof c => simp [Ev.plain] at he
    | error => simp [Ev.plain] at he

end MosnVerif.Model.ReadLoop
