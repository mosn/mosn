import MosnVerif.Model.FilterRegs
import MosnVerif.Lemmas.FilterMachine
/-! lemmas about the registration side of the stream-filter chain (Model/FilterRegs.lean) -/
namespace MosnVerif.Model.FilterRegs
open MosnVerif.Gen.FilterPhase MosnVerif.Model.FilterChain MosnVerif.Model.FilterMachine
open MosnVerif.Gen.FilterRegs (Chain addStreamReceiverFilter addStreamSenderFilter onDestroy)

theorem foldl_recv (regs : List Reg) (d : Chain) :
    regs.foldl (fun d r => addStreamReceiverFilter d r.obj (phaseNum r.phase)) d =
      { d with receiverFilters := d.receiverFilters ++ regs.map (·.obj),
               receiverFiltersPhase := d.receiverFiltersPhase ++ regs.map (fun r => phaseNum r.phase) } := by
  induction regs generalizing d with
  | nil => simp
  | cons r rest ih => rw [List.foldl_cons, ih]; simp [addStreamReceiverFilter, List.append_assoc]

theorem foldl_send (sobjs : List Nat) (d : Chain) :
    sobjs.foldl (fun d o => addStreamSenderFilter d o Gen.FilterRegs.BeforeSend) d =
      { d with senderFilters := d.senderFilters ++ sobjs,
               senderFiltersPhase := d.senderFiltersPhase ++ sobjs.map (fun _ => Gen.FilterRegs.BeforeSend) } := by
  induction sobjs generalizing d with
  | nil => simp
  | cons r rest ih => rw [List.foldl_cons, ih]; simp [addStreamSenderFilter, List.append_assoc]

theorem build_eq (regs : List Reg) (sobjs : List Nat) :
    build regs sobjs =
      { receiverFilters := regs.map (·.obj), receiverFiltersPhase := regs.map (fun r => phaseNum r.phase),
        senderFilters := sobjs, senderFiltersPhase := sobjs.map (fun _ => Gen.FilterRegs.BeforeSend) } := by
  simp [build, foldl_recv, foldl_send]

theorem regsOf_build (regs : List Reg) (sobjs : List Nat) :
    regsOf (build regs sobjs) = regs.map (fun r => (r.obj, phaseNum r.phase)) := by
  rw [build_eq]
  exact List.zip_map'

theorem phaseNum_inj (a b : RPhase) (h : phaseNum a = phaseNum b) : a = b := by
  cases a <;> cases b <;> first | rfl | (exact absurd h (by decide))

theorem toChain_length (regs : List Reg) (sc : Nat → List Verdict) : (toChain regs sc).length = regs.length := by
  simp [toChain]

theorem toChain_getElem? (regs : List Reg) (sc : Nat → List Verdict) (i : Nat) :
    (toChain regs sc)[i]? = (regs[i]?).map (fun r => (⟨r.phase, sc i⟩ : RFilter)) := by
  simp only [toChain, List.getElem?_map, List.getElem?_zipIdx]
  cases regs[i]? <;> simp

theorem runRecv_invs (chain : List RFilter) (p : RPhase) (s : FState) :
    (runRecv chain p s).2 = cutAfter s.rcalls (ofPhase p (chain.drop (startOf s p)) (startOf s p)) := by
  unfold runRecv; exact recvLoop_invs _ _ _ _

/-- every receiver pass of the trace is the exact run of the registrations of its phase from its start cursor -/
def PassesExact (c : Cfg) (t : List Ev) : Prop :=
  ∀ p st invs, Ev.rpass p st invs ∈ t → ∃ calls, invs = cutAfter calls (ofPhase p (c.recv.drop st) st)

theorem step_PassesExact (c : Cfg) (s : St) (h : PassesExact c s.trace) : PassesExact c (step c s).trace := by
  rcases (step_shape c s).pass with ⟨⟨evs, ht, hev⟩, _⟩ | ⟨p, _, ht, _⟩
  · intro q st invs hm
    rw [ht] at hm
    rcases List.mem_append.mp hm with hm | hm
    · exact h q st invs hm
    · have := (hev _ hm).1; simp [isRpass] at this
  · intro q st invs hm
    rw [ht] at hm
    rcases List.mem_append.mp hm with hm | hm
    · exact h q st invs hm
    · simp at hm
      obtain ⟨rfl, rfl, rfl⟩ := hm
      exact ⟨s.toFState.rcalls, runRecv_invs _ _ _⟩

theorem run_PassesExact (c : Cfg) (n : Nat) (s : St) (h : PassesExact c s.trace) : PassesExact c (run c n s).trace :=
  run_preserves (step_PassesExact c) n s h

theorem init_PassesExact (c : Cfg) : PassesExact c init.trace := by
  intro p st invs hm; simp [init] at hm

end MosnVerif.Model.FilterRegs
