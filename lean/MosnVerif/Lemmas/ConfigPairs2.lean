import MosnVerif.Model.ConfigPairs2
import MosnVerif.Lemmas.ConfigPairs
/-! Fixpoint laws of further custom (Un)MarshalJSON pairs (C19): the metadata wrappers for any field table and
position, CircuitBreakers, Listener. -/
namespace MosnVerif.Model.ConfigCodec
open MosnVerif.Model MosnVerif.Model.GoDuration

/-- **metadata wrappers** (ClusterWeight, RouteAction, Router, Host): for every field table with case-distinct keys whose
member `i` is an `omitempty` `*MetadataConfig`, what `MarshalJSON` writes after one `UnmarshalJSON` is a fixpoint -/
theorem meta_fixpoint (fs : Fields) (i : Nat) (hk : keysOKF fs = true) (hm : metaAt fs i = true)
    (w : Json) (x : MetaV) (hU : metaU fs i w = some x) :
    ∃ y, metaU fs i (metaM fs i x) = some y ∧ metaM fs i y = metaM fs i x := by
  -- the pair is the generic codec of the shape `.metaS i fs`, the metadata being read off the decoded config
  have hks : keysOK (.metaS i fs) = true := by simp [keysOK, hk, hm]
  have hdec : ∀ j, decode (.struct fs) j = decode (.metaS i fs) j := fun j => by cases j <;> rfl
  have hM : ∀ vs, metaM fs i ⟨.struct vs, mdOf vs[i]?⟩ = encode (.metaS i fs) (.struct vs) := fun vs => by
    simp [metaM, encode, metaFix]
  unfold metaU at hU
  split at hU
  · next vs hvs =>
    cases hU
    rw [hdec] at hvs
    have hw := dw _ hks w _ hvs
    refine ⟨⟨.struct (normF fs (metaFix i vs)), mdOf (normF fs (metaFix i vs))[i]?⟩, ?_, ?_⟩
    · simp only [metaU, hM, hdec, rt _ hks _ hw, norm]
    · rw [hM, hM]
      exact en _ _ hw
  · cases hU

theorem cb_fixpoint (th : Shape) (hk : keysOK th = true) (w : Json) (x : CVal) (hU : cbU th w = some x) :
    ∃ y, cbU th (cbM th x) = some y ∧ cbM th y = cbM th x := by
  have hks : keysOK (.slice th) = true := by simpa [keysOK] using hk
  have hw := dw _ hks w x hU
  exact ⟨norm (.slice th) x, rt _ hks x hw, en _ x hw⟩

/-- the resolver: an answer is never empty and is its own answer (`net.Resolve*Addr(a.String())` gives `a` again) -/
def ResolverOK (R : String → String → Option String) : Prop :=
  ∀ n a r, R n a = some r → r ≠ "" ∧ R n r = some r

theorem strAt_get (fs : Fields) (i : Nat) (key : String) (h : strAt fs i key = true) : fs.get? i = some (key, true, .str) := by
  unfold strAt at h
  split at h
  · rename_i k o sh hg
    simp only [Bool.and_eq_true, beq_iff_eq] at h
    obtain ⟨⟨hk, ho⟩, hs⟩ := h
    rw [hg, hk, ho, Shape.eq_of_beq sh .str hs]
  · simp at h

theorem netOK_fold (n : String) (h : netOK n = true) : n ≠ "" ∧ foldNet n = n := by
  have : n = "udp" ∨ n = "unix" ∨ n = "tcp" := by
    simp only [netOK, Bool.or_eq_true, beq_iff_eq] at h
    rcases h with (h | h) | h
    · exact Or.inl h
    · exact Or.inr (Or.inl h)
    · exact Or.inr (Or.inr h)
  rcases this with rfl | rfl | rfl <;> exact ⟨by decide, by decide⟩

theorem ln_fixpoint (fs : Fields) (ia inw : Nat) (hk : keysOKF fs = true) (ha : strAt fs ia "address" = true)
    (hn : strAt fs inw "network" = true) (R : String → String → Option String) (hR : ResolverOK R)
    (w : Json) (x : LnV) (hU : lnU fs ia inw R w = some x) :
    ∃ y, lnU fs ia inw R (lnM fs ia x) = some y ∧ lnM fs ia y = lnM fs ia x := by
  have hks : keysOK (.struct fs) = true := by simpa [keysOK] using hk
  have hga := strAt_get fs ia _ ha
  have hgn := strAt_get fs inw _ hn
  have hne : ia ≠ inw := by
    intro h; subst h
    rw [hga] at hgn
    simp at hgn
  revert hU
  fun_cases lnU fs ia inw R w with
  | case4 vs hdec a n hvn hva hane hnet r hres =>
    intro hU
    have hw : wtF fs vs = true := by simpa [wt] using dw _ hks w _ hdec
    generalize foldNet n = n' at hU hnet hres
    have hx := (Option.some.inj hU).symm
    have hnet' : netOK n' = true := by simpa using hnet
    obtain ⟨hn'ne, hn'low⟩ := netOK_fold n' hnet'
    obtain ⟨hrne, hrr⟩ := hR n' a r hres
    have hcfg : x.cfg = .struct (vs.set inw (.str n')) := by rw [hx]
    have haddr : x.addr = r := by rw [hx]
    have hia := (List.getElem?_eq_some_iff.mp hva).1
    have hin := (List.getElem?_eq_some_iff.mp hvn).1
    generalize hvs2 : (vs.set inw (.str n')).set ia (.str r) = vs2
    have hM : lnM fs ia x = encode (.struct fs) (.struct vs2) := by simp [lnM, hcfg, haddr, hvs2]
    have hw1 : wtF fs (vs.set inw (.str n')) = true := wtF_set fs vs inw _ true .str _ hw hgn (by simp [wt])
    have hw2 : wtF fs vs2 = true := by rw [← hvs2]; exact wtF_set fs _ ia _ true .str _ hw1 hga (by simp [wt])
    have hrt := rt (.struct fs) hks (.struct vs2) (by simpa [wt] using hw2)
    have hen := en (.struct fs) (.struct vs2) (by simpa [wt] using hw2)
    simp only [norm] at hrt hen
    have hget_a : vs2[ia]? = some (.str r) := by rw [← hvs2]; simp [hia]
    have hget_n : vs2[inw]? = some (.str n') := by
      rw [← hvs2, List.getElem?_set_ne hne]
      simp [hin]
    have hna := normF_get fs vs2 ia _ true .str _ hga hget_a
    have hnn := normF_get fs vs2 inw _ true .str _ hgn hget_n
    have e1 : isEmpty (.str r) = false := by simp [isEmpty, hrne]
    have e2 : isEmpty (.str n') = false := by simp [isEmpty, hn'ne]
    simp only [e1, e2, Bool.and_false, Bool.false_eq_true, if_false, norm] at hna hnn
    refine ⟨⟨.struct (normF fs vs2), r⟩, ?_, ?_⟩
    · rw [hM]
      unfold lnU
      rw [hrt]
      simp only [hna, hnn]
      have hre : (r == "") = false := by simpa using hrne
      simp only [hre, Bool.false_eq_true, if_false, hn'low, hnet', Bool.not_true, hrr]
      rw [set_self _ inw _ hnn]
    · rw [hM, ← hen]
      simp only [lnM]
      rw [set_self _ ia _ hna]
  | _ => nofun

end MosnVerif.Model.ConfigCodec
