import MosnVerif.Model.RelayStart
import MosnVerif.Lemmas.Relay
/-! invariant of the connection set-up model (core only) -/
namespace MosnVerif.Model.RelayStart
open MosnVerif.Model

theorem flat_append (a b : List Bytes) : flat (a ++ b) = flat a ++ flat b := by
  induction a with
  | nil => rfl
  | cons x r ih => simp [flat, ih, List.append_assoc]

structure Inv (reg start : String) (s : St) : Prop where
  /-- the calls still to come register the filter before they start the loop, or it is registered already -/
  order : safeOrder reg start s.todo s.filterOn = true
  loop_filter : s.loopOn = true → s.filterOn = true
  /-- nothing ever waits in the read buffer -/
  buf_empty : s.buf = []
  /-- every byte the peer has sent is delivered, in order, or still in the socket -/
  all : flat s.delivered ++ s.wire = s.peerSent
  eof_done : s.eof = true → s.wire = [] ∧ s.peerClosed = true

theorem inv_init (reg start : String) (todo : List String) (h : safeOrder reg start todo false = true) :
    Inv reg start { todo := todo } :=
  ⟨h, (by intro h; cases h), rfl, rfl, (by intro h; cases h)⟩

theorem step_inv (reg start : String) (s : St) (e : Ev) (h : Inv reg start s) : Inv reg start (step reg start s e) := by
  have ho := h.order
  -- the leaves of `step` in its order: set-up (no call left; the registering call; the starting call; any other), peerSend
  -- (closed; open), peerClose, loop (not running or at EOF; EOF found; nothing to read; delivered; kept in the buffer)
  fun_cases step reg start s e with
  | case1 | case5 | case8 | case10 => exact h
  | case2 c r hq _ h1 =>
    rw [hq, safeOrder, if_pos h1] at ho
    exact { h with order := ho, loop_filter := fun _ => rfl }
  | case3 c r hq _ h1 h2 =>
    rw [hq, safeOrder, if_neg h1, if_pos h2, Bool.and_eq_true] at ho
    exact { h with order := ho.2, loop_filter := fun _ => ho.1 }
  | case4 c r hq _ h1 h2 =>
    rw [hq, safeOrder, if_neg h1, if_neg h2] at ho
    exact { h with order := ho }
  | case6 b hp =>
    exact { h with
      all := by simp only; rw [← List.append_assoc, h.all]
      eof_done := fun he => absurd (h.eof_done he).2 hp }
  | case7 => exact { h with eof_done := fun he => ⟨(h.eof_done he).1, rfl⟩ }
  | case9 hc hw hp => exact { h with buf_empty := rfl, eof_done := fun _ => ⟨by simpa using hw, hp⟩ }
  | case11 hc hw buf hf =>
    have hne : s.eof = false := (by simpa using hc : _ ∧ _).2
    exact { h with
      buf_empty := rfl
      all := by
        simp only [buf]
        rw [flat_append, h.buf_empty]
        simp only [flat, List.nil_append, List.append_nil]
        exact h.all
      eof_done := fun he => by simp only at he; rw [hne] at he; cases he }
  | case12 hc hw buf hf => exact absurd (h.loop_filter (by simpa using hc : _ ∧ _).1) hf

theorem run_inv (reg start : String) (evs : List Ev) (s : St) (h : Inv reg start s) : Inv reg start (run reg start s evs) :=
  Lemmas.Fold.foldl_inv (P := Inv reg start) (step_inv reg start) evs s h

/-- one read from side `d` of the relay model, `d` open: `d` stays open and receives the bytes, and the other connection's peer
is not reported closed -/
theorem relay_read (d : Relay.Side) (b : Bytes) (t : Relay.State) (hc : (t.get d).closed = false) (he : (t.get d).eofSeen = false) :
    ((Relay.step t (.read d b)).get d).closed = false ∧ ((Relay.step t (.read d b)).get d).eofSeen = false ∧
    ((Relay.step t (.read d b)).get d).received = (t.get d).received ++ b ∧
    ((Relay.step t (.read d b)).get d.other).eofSeen = (t.get d.other).eofSeen := by
  simp only [Relay.step, hc, he, Bool.or_self, Bool.false_eq_true, if_false, Relay.get_set_other', Relay.get_set_same,
    Relay.get_set_other, (Relay.write_frame _ _).2, and_self]

/-- a list of reads from side `d` of the relay model: `d` receives their concatenation, nothing else about `d`'s own
connection changes, and the other connection's peer is not reported closed -/
theorem relay_reads (d : Relay.Side) (l : List Bytes) (t : Relay.State)
    (hc : (t.get d).closed = false) (he : (t.get d).eofSeen = false) :
    ((Relay.run t (l.map (fun b => Relay.Ev.read d b))).get d).received = (t.get d).received ++ flat l ∧
    ((Relay.run t (l.map (fun b => Relay.Ev.read d b))).get d.other).eofSeen = (t.get d.other).eofSeen := by
  induction l generalizing t with
  | nil => simp [Relay.run, flat]
  | cons b r ih =>
    obtain ⟨c1, e1, r1, o1⟩ := relay_read d b t hc he
    obtain ⟨h1, h2⟩ := ih _ c1 e1
    simp only [List.map_cons, Relay.run, List.foldl_cons] at h1 h2 ⊢
    exact ⟨by rw [h1, r1, flat, List.append_assoc], h2.trans o1⟩

end MosnVerif.Model.RelayStart
