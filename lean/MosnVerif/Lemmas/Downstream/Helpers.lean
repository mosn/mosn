import MosnVerif.Lemmas.Downstream.P3Base
/-! what the helpers of the machine do to the clause groups of the invariant -/
namespace MosnVerif.Model.Downstream
open MosnVerif.Gen.ProxyPhase MosnVerif.Gen.ProxyReason MosnVerif.Gen.ProxyRetry

theorem snd_append (t : List Ev) (e : Ev) : snd (t ++ [e]) = sndStep (snd t) e := by
  simp [snd, List.foldl_append]

theorem nLog_append (t : List Ev) (e : Ev) : nLog (t ++ [e]) = nLog t + (if isLog e then 1 else 0) := by
  simp only [nLog, List.filter_append, List.length_append]
  cases h : isLog e <;> simp [h]

/-- an upstream attempt (admitted or refused) leaves the client-visible protocol state alone as long as no response
headers went downstream -/
theorem sndStep_un (g : Snd) (k : Nat) (h : g.hdr = false) : sndStep g (.un k) = g := by
  cases g; simp_all [sndStep]

theorem sndStep_uf (g : Snd) (k : Nat) (f : PoolFail) (h : g.hdr = false) : sndStep g (.uf k f) = g := by
  cases g; simp_all [sndStep]

@[simp] theorem snd_resetUpstream (c : Cfg) (s : S) : snd (resetUpstream c s).trace = snd s.trace := by
  unfold resetUpstream
  split
  · simp only [destroyStream]
    split
    · simp [snd_append, sndStep]
    · rfl
  · rfl

@[simp] theorem nLog_resetUpstream (c : Cfg) (s : S) : nLog (resetUpstream c s).trace = nLog s.trace := by
  unfold resetUpstream
  split
  · simp only [destroyStream]
    split
    · simp [nLog_append, isLog]
    · rfl
  · rfl

theorem snd_dataTrace (s : S) (e : Nat → Ev) (he : ∀ k g, sndStep g (e k) = g) : snd (dataTrace s e) = snd s.trace := by
  unfold dataTrace
  split
  · simp [snd_append, he]
  · rfl

theorem nLog_dataTrace (s : S) (e : Nat → Ev) (he : ∀ k, isLog (e k) = false) : nLog (dataTrace s e) = nLog s.trace := by
  unfold dataTrace
  split
  · simp [nLog_append, he]
  · rfl

/-- `onUpstreamRequestSent` when this part completes the request, as one update -/
theorem requestSentIf_eq (c : Cfg) (z : S) (eos : Bool) :
    (if eos then onUpstreamRequestSent c z else z) =
      { z with reqSent := z.reqSent || eos, perTry := z.perTry || (eos && (z.up.isSome && !c.oneway && c.tryTimeout)),
               global := z.global || (eos && (z.up.isSome && !c.oneway)),
               gtGen := if (eos && (z.up.isSome && !c.oneway)) = true then z.gtGen + 1 else z.gtGen,
               gtObj := z.gtObj || (eos && (z.up.isSome && !c.oneway)) } := by
  cases eos
  · simp
  · simp [onUpstreamRequestSent]

theorem heldRetry_eq (c : Cfg) (s : S) (r : RetryState) (h : s.rs = some r) : heldRetry c s = heldUnits c r := by
  simp [heldRetry, heldUnits, rsHeld, h]

theorem heldRetry_none (c : Cfg) (s : S) (h : s.rs = none) : heldRetry c s = 0 := by
  simp [heldRetry, rsHeld, h]

theorem rsReset_facts (c : Cfg) (s : S) :
    (rsReset c s).rs.isSome = s.rs.isSome ∧ rsHeld (rsReset c s) = false ∧
    (rsReset c s).retries - heldRetry c (rsReset c s) = s.retries - heldRetry c s := by
  unfold rsReset
  cases h : s.rs with
  | none => simp [rsHeld, h, heldRetry]
  | some r => simp [reset_eq, rsHeld, heldRetry, heldUnits, h]

/-- `reset()` gives back exactly what the retry state holds -/
theorem rsReset_retries (c : Cfg) (s : S) : (rsReset c s).retries = s.retries - heldRetry c s := by
  have h := rsReset_facts c s
  have h0 : heldRetry c (rsReset c s) = 0 := by simp [heldRetry, h.2.1]
  have := h.2.2
  omega

/-- after `reset()` the retries resource holds the ambient load only -/
theorem rsReset_released {c : Cfg} {ar : Nat} {s : S} (h : K9 c ar s) : (rsReset c s).retries = (ar : Int) := by
  rw [rsReset_retries]
  simp only [K9] at h
  omega

theorem rsReset_retries_of_not_held (c : Cfg) (s : S) (h : rsHeld s = false) : (rsReset c s).retries = s.retries := by
  rw [rsReset_retries]; simp [heldRetry, h]

theorem rsRetry_facts (c : Cfg) (s : S) (reason : Option Reason) :
    ((rsRetry c s reason).2 = ShouldRetry ∨ (rsRetry c s reason).2 = NoRetry ∨ (rsRetry c s reason).2 = RetryOverflow) ∧
    (rsRetry c s reason).1.rs.isSome = s.rs.isSome ∧
    (rsHeld (rsRetry c s reason).1 = decide ((rsRetry c s reason).2 = ShouldRetry)) ∧
    (rsRetry c s reason).1.retries - heldRetry c (rsRetry c s reason).1 = s.retries - heldRetry c s := by
  unfold rsRetry retryRes
  cases h : s.rs with
  | none => simp [rsHeld, h, heldRetry, ShouldRetry, NoRetry]
  | some r =>
    have := retry_spec c (retryCheck c s reason) r s.retries
    simp only at this
    simp only [Option.map_some, Option.isSome_some, rsHeld, heldRetry]
    refine ⟨this.1, trivial, this.2.1, ?_⟩
    have h2 := this.2.2.2.2
    simpa [heldUnits, h] using h2

theorem streamsOk_iff (s : S) : streamsOk s = true ↔
    allDead s.streams.dropLast = true ∧
    (∀ st, s.streams.getLast? = some st → st.live = true → s.up = some (some (s.streams.length - 1)) ∧ st.real = true) ∧
    (∀ k, s.up = some (some k) → k < s.streams.length) := by
  unfold streamsOk
  simp only [Bool.and_eq_true]
  constructor
  · rintro ⟨⟨h1, h2⟩, h3⟩
    refine ⟨h1, ?_, ?_⟩
    · intro st hst hl
      simp [hst, hl] at h2
      exact h2
    · intro k hk
      simp [hk] at h3
      exact h3
  · rintro ⟨h1, h2, h3⟩
    refine ⟨⟨h1, ?_⟩, ?_⟩
    · cases hl : s.streams.getLast? with
      | none => rfl
      | some st =>
        cases hlive : st.live with
        | false => simp [hlive]
        | true =>
          have := h2 st hl hlive
          simp [this.1, this.2]
    · cases hu : s.up with
      | none => rfl
      | some o =>
        cases o with
        | none => rfl
        | some k => simpa using h3 k hu

/-- under K14 a live stream is the newest one and the current upstream request owns it -/
theorem live_owned (s : S) (h : streamsOk s = true) (k : Nat) (hl : streamLive s k = true) :
    k + 1 = s.streams.length ∧ curStream s = some k := by
  rw [streamsOk_iff] at h
  obtain ⟨h1, h2, _⟩ := h
  unfold streamLive at hl
  cases hk : s.streams[k]? with
  | none => simp [hk] at hl
  | some st =>
    simp [hk] at hl
    have hlast := live_is_last h1 hk hl
    have hg : s.streams.getLast? = some st := by
      rw [List.getLast?_eq_getElem?]
      have : s.streams.length - 1 = k := by omega
      rw [this]; exact hk
    have := (h2 st hg hl).1
    refine ⟨hlast, ?_⟩
    unfold curStream
    have hk2 : s.streams.length - 1 = k := by omega
    simp [this, hk2]

/-- under K14 the only client stream that can be live is the one the current upstream request owns: when that one is not live
(or the request owns none), no stream is -/
theorem dead_of_not_open (s : S) (h : streamsOk s = true) (hno : bodyOpen s = false) : allDead s.streams = true := by
  simp only [allDead, List.all_eq_true, Bool.not_eq_true']
  intro st hst
  obtain ⟨k, hk⟩ := List.getElem?_of_mem hst
  cases hl : st.live with
  | false => rfl
  | true =>
    have hk1 : streamLive s k = true := by simp [streamLive, hk, hl]
    simp [bodyOpen, (live_owned s h k hk1).2, hk1] at hno

/-- the ledger/streams group of the invariant -/
def LedgerOk (c : Cfg) (aq : Nat) (s : S) : Prop := K10 c aq s ∧ K11 s ∧ K14 s

theorem streamLiveCounted_le (s : S) (k : Nat) (h : streamLiveCounted s k = true) : streamLive s k = true := by
  unfold streamLiveCounted at h
  unfold streamLive
  cases hk : s.streams[k]? with
  | none => simp [hk] at h
  | some st => simp [hk] at h ⊢; exact h.1

/-- destroying a client stream that is not live (any more) changes nothing -/
theorem destroyStream_dead (c : Cfg) (s : S) (k : Nat) (hl : streamLive s k = false) : destroyStream c s k = s := by
  have hlc : streamLiveCounted s k = false :=
    eq_false_of_ne_true fun hc => Bool.noConfusion (hl.symm.trans (streamLiveCounted_le s k hc))
  simp only [destroyStream, hl, hlc, Bool.false_eq_true, if_false]

theorem destroyStream_ledger (c : Cfg) (aq : Nat) (s : S) (k : Nat) (h : LedgerOk c aq s) :
    LedgerOk c aq (destroyStream c s k) ∧ (streamLive s k = true → allDead (destroyStream c s k).streams = true) := by
  cases hl : streamLive s k with
  | false => rw [destroyStream_dead c s k hl]; exact ⟨h, nofun⟩
  | true =>
    obtain ⟨h10, h11, h14⟩ := h
    obtain ⟨hlast, hcur⟩ := live_owned s h14 k hl
    have h14' := (streamsOk_iff s).mp h14
    obtain ⟨st, hk⟩ : ∃ st, s.streams[k]? = some st := by
      unfold streamLive at hl
      cases hk : s.streams[k]? with
      | none => simp [hk] at hl
      | some st => exact ⟨st, rfl⟩
    have hstl : st.live = true := by simpa [streamLive, hk] using hl
    have hlc : streamLiveCounted s k = st.counted := by simp [streamLiveCounted, hk, hstl]
    have hcount := liveCount_setStream_kill s.streams k st hk
    have hk' : s.streams.length - 1 = k := by omega
    have hdead : allDead (setStream s.streams k kill) = true := by
      rw [← hk']; exact allDead_setStream_kill_last h14'.1
    refine ⟨⟨?_, ?_, ?_⟩, fun _ => by simpa [destroyStream, hl] using hdead⟩
    · simp only [K10, heldRequests, destroyStream, hl, hlc, if_true, Lemmas.Resource.decrease_eq] at h10 ⊢
      cases hc : st.counted <;> by_cases hm : c.maxRequests = 0 <;> simp [hc, hm, hstl] at hcount h10 ⊢ <;> omega
    · simp only [K11, destroyStream, hl, hlc, if_true] at h11 ⊢
      cases hc : st.counted <;> simp [hc, hstl] at hcount h11 ⊢ <;> omega
    · rw [K14, streamsOk_iff]
      simp only [destroyStream, hl, if_true, setStream_length]
      refine ⟨?_, ?_, h14'.2.2⟩
      · rw [setStream_dropLast]
        exact allDead_setStream h14'.1 k kill (fun _ _ => rfl)
      · intro st' hst' hlive'
        have := allDead_get hdead (k := k) (st := st') (by
          rw [List.getLast?_eq_getElem?, setStream_length, hk'] at hst'; exact hst')
        rw [this] at hlive'; cases hlive'

theorem resetUpstream_ledger (c : Cfg) (aq : Nat) (s : S) (h : LedgerOk c aq s) :
    LedgerOk c aq (resetUpstream c s) ∧ allDead (resetUpstream c s).streams = true := by
  unfold resetUpstream
  cases hc : curStream s with
  | none => exact ⟨h, dead_of_not_open s h.2.2 (by simp [bodyOpen, hc])⟩
  | some k =>
    simp only
    -- the intermediate state: listener removed, `ur` recorded
    let s1 : S := { s with streams := setStream s.streams k unlisten,
                           trace := if streamLive s k then s.trace ++ [Ev.ur k] else s.trace }
    have h1 : LedgerOk c aq s1 := by
      obtain ⟨h10, h11, h14⟩ := h
      refine ⟨?_, ?_, ?_⟩
      · simpa [K10, heldRequests, s1, liveCount_setStream_unlisten] using h10
      · simpa [K11, s1, liveCount_setStream_unlisten] using h11
      · rw [K14, streamsOk_iff] at h14 ⊢
        simp only [s1, setStream_length]
        refine ⟨?_, ?_, h14.2.2⟩
        · rw [setStream_dropLast, allDead_setStream_unlisten]; exact h14.1
        · intro st hst hl
          rw [getLast?_setStream] at hst
          split at hst
          · cases hg : s.streams.getLast? with
            | none => simp [hg] at hst
            | some st0 =>
              simp [hg] at hst; subst hst
              exact h14.2.1 st0 hg (by simpa [unlisten] using hl)
          · exact h14.2.1 st hst hl
    have hres := destroyStream_ledger c aq s1 k h1
    refine ⟨hres.1, ?_⟩
    cases hl : streamLive s1 k with
    | true => exact hres.2 hl
    | false =>
      rw [destroyStream_dead c s1 k hl]
      exact dead_of_not_open s1 h1.2.2 (by rw [bodyOpen, show curStream s1 = some k from hc]; exact hl)

/-- a new client stream is appended for the current upstream request while every older one is dead -/
theorem ledger_append (c : Cfg) (aq : Nat) (s : S) (st : Stream) (upv : Option (Option Nat)) (rq ua : Int)
    (hled : LedgerOk c aq s) (hdead : allDead s.streams = true)
    (hst : st.live = true → upv = some (some s.streams.length) ∧ st.real = true)
    (hup : ∀ k, upv = some (some k) → k < s.streams.length + 1)
    (hrq : rq = s.requests + (if c.maxRequests != 0 && st.live && st.counted then 1 else 0))
    (hua : ua = s.upActive + (if st.live && st.counted then 1 else 0)) :
    LedgerOk c aq { s with streams := s.streams ++ [st], up := upv, requests := rq, upActive := ua } := by
  obtain ⟨h10, h11, _⟩ := hled
  have hl0 := allDead_liveCount hdead
  refine ⟨?_, ?_, ?_⟩
  · simp only [K10, heldRequests, liveCount_append, hl0] at h10 ⊢
    rw [hrq, h10]
    cases hl : st.live <;> cases hc : st.counted <;> by_cases hm : c.maxRequests = 0 <;> simp [hm]
  · simp only [K11, liveCount_append, hl0] at h11 ⊢
    rw [hua, h11]
    cases hl : st.live <;> cases hc : st.counted <;> simp
  · rw [K14, streamsOk_iff]
    refine ⟨?_, ?_, ?_⟩
    · simpa using hdead
    · intro st' hst' hl
      simp at hst'; subst hst'
      have := hst hl
      simp [this.1, this.2]
    · intro k hk; simpa using hup k hk

theorem K22_destroyStream (c : Cfg) (s : S) (k : Nat) (h : K22 c s) : K22 c (destroyStream c s k) := by
  intro ho
  have := h ho
  simp only [destroyStream]
  split
  · exact all_setStream this _ kill (fun _ _ _ => by simp [kill])
  · exact this

theorem K22_resetUpstream (c : Cfg) (s : S) (h : K22 c s) : K22 c (resetUpstream c s) := by
  unfold resetUpstream
  split
  · apply K22_destroyStream
    intro ho
    exact all_setStream (h ho) _ unlisten (fun st _ hst => by simpa [unlisten] using hst)
  · exact h

theorem upOnResetStream_unmarked (z : S) (r : Reason) (h : z.setupRetry = false) :
    upOnResetStream z r =
      { z with upReset := true, resetReason := if z.upReset then z.resetReason else r, notify := z.notify || !z.upReset } := by
  cases hu : z.upReset <;> simp [upOnResetStream, h, hu]

theorem upOnResetStream_fire (z : S) (r : Reason) (h1 : z.setupRetry = false) (h2 : z.upReset = false) :
    upOnResetStream z r = { z with upReset := true, resetReason := r, notify := true } := by
  simp [upOnResetStream, h1, h2]

/-- all the invariant needs to know about `resetUpstream`: it writes the client streams, their ledger and the trace; afterwards
no client stream is live, the ledger is in balance, and the client-visible protocol state and the log count are as before -/
theorem resetUpstream_spec (c : Cfg) (aq : Nat) (s : S) (hled : LedgerOk c aq s) (h22 : K22 c s) :
    ∃ sts rq ua t, resetUpstream c s = { s with streams := sts, requests := rq, upActive := ua, trace := t } ∧
      LedgerOk c aq { s with streams := sts, requests := rq, upActive := ua } ∧ allDead sts = true ∧
      K22 c { s with streams := sts } ∧ snd t = snd s.trace ∧ nLog t = nLog s.trace := by
  have e := resetUpstream_frame c s
  have hl := resetUpstream_ledger c aq s hled
  have h22' := K22_resetUpstream c s h22
  rw [e] at hl h22'
  exact ⟨_, _, _, _, e, hl.1, hl.2, h22', snd_resetUpstream c s, nLog_resetUpstream c s⟩

/-- a callback behind a test that makes it a no-op -/
theorem of_unless {P : S → Prop} {s t : S} {g : Prop} [Decidable g] (h0 : P s) (h : ¬g → P t) : P (if g then s else t) := by
  by_cases hg : g
  · rw [if_pos hg]; exact h0
  · rw [if_neg hg]; exact h hg

theorem or3_nd {a b : Prop} {d : Bool} (h : a ∨ b ∨ d = true) (hd : d = false) : a ∨ b := by
  rcases h with h | h | h
  · exact Or.inl h
  · exact Or.inr h
  · rw [hd] at h; cases h

/-! a clause of the invariant says nothing where its guard fails: of a stream that is not cleaned (K13, K33), outside the response
pass (K15) or inside it (K16, K18, K27), once a host exists (K17), after the first attempt (K30), outside the back-off (K26), of a
two-way request (K20, K21, K32) -/
theorem K13.vac {s : S} (h : s.cleaned = false) : K13 s := fun hh => nomatch h.symm.trans hh
theorem K33.vac {c : Cfg} {s : S} (h : s.cleaned = false) : K33 c s := fun hh => nomatch h.symm.trans hh
theorem K15.vac {s : S} (h : upPhase s.phase = false) : K15 s := fun _ hh => nomatch h.symm.trans hh
theorem K16.vac {s : S} (h : upPhase s.phase = true) : K16 s := fun _ hh => nomatch h.symm.trans hh
theorem K17.vac {s : S} (h : prePhase s.phase = false) : K17 s := fun _ hh => nomatch h.symm.trans hh
theorem K18.vac {c : Cfg} {s : S} (h : fwdPhase s.phase = false) : K18 c s := fun _ hh => nomatch h.symm.trans hh
theorem K27.vac {s : S} (h : fwdPhase s.phase = false) : K27 s := fun _ hh => nomatch h.symm.trans hh
theorem K20.vac {c : Cfg} {s : S} (h : c.oneway = false) : K20 c s := fun hh => nomatch h.symm.trans hh
theorem K21.vac {c : Cfg} {s : S} (h : c.oneway = false) : K21 c s := fun hh => nomatch h.symm.trans hh
theorem K32.vac {c : Cfg} {s : S} (h : c.oneway = false) : K32 c s := fun _ hh => nomatch h.symm.trans hh
theorem K26.vac {s : S} (h : s.phase ≠ .Retry) : K26 s := fun _ hh => absurd hh h
theorem K30.vac {s : S} (h : ¬ (s.phase = .DownFilterAfterChooseHost ∨ s.phase = .DownRecvHeader)) : K30 s :=
  fun _ hh => absurd hh h

/-- K9 says that the retries resource holds the ambient load besides what this request holds: it carries over to a state with the same
difference -/
theorem K9.of_eq {c : Cfg} {ar : Nat} {s s' : S} (h : K9 c ar s) (e : s'.retries - heldRetry c s' = s.retries - heldRetry c s) :
    K9 c ar s' := by
  simp only [K9] at h ⊢
  omega

theorem k7_intro {s' : S} (hsr : s'.setupRetry = false) (hd : s'.direct = false) : K7 s' :=
  fun _ => ⟨hsr, fun h => by rw [hd] at h; cases h⟩

/-- a local reply is only pending in the state `Term` describes (K7): what contradicts that state rules the reply out -/
theorem not_direct {s : S} (h7 : K7 s) (hcl : s.cleaned = false) (hn : Term s → False) : s.direct = false :=
  eq_false_of_ne_true fun hd => hn ((h7 hcl).2 hd)

theorem not_direct_of_phase {s : S} (h7 : K7 s) (hcl : s.cleaned = false) (hp : ¬ (s.phase = .WaitNotify ∨ s.phase = .Retry)) :
    s.direct = false :=
  not_direct h7 hcl fun t => hp t.1

/-- away from `WaitNotify` and the back-off no local reply is pending: K7 carries over to any state with the same two flags -/
theorem k7_frame {s s' : S} (h7 : K7 s) (hcl : s.cleaned = false) (hnw : ¬ (s.phase = .WaitNotify ∨ s.phase = .Retry))
    (hsr : s'.setupRetry = s.setupRetry) (hd : s'.direct = s.direct) : K7 s' :=
  k7_intro (by rw [hsr]; exact (h7 hcl).1) (by rw [hd]; exact not_direct_of_phase h7 hcl hnw)

theorem not_direct_of_timer {s : S} (h7 : K7 s) (hcl : s.cleaned = false) (ht : s.perTry = true ∨ s.global = true) :
    s.direct = false :=
  not_direct h7 hcl fun t => ht.elim (fun x => Bool.noConfusion (t.2.2.2.2.2.2.1.symm.trans x))
    (fun x => Bool.noConfusion (t.2.2.2.2.2.2.2.symm.trans x))

theorem inv_not_cleaned {c : Cfg} {ar aq : Nat} {s : S} (h : Inv c ar aq s) (hrun : s.running = true) : s.cleaned = false := by
  have := h.k0
  rw [K0, hrun] at this
  simpa using this.symm

theorem inv_not_procDone {c : Cfg} {ar aq : Nat} {s : S} (h : Inv c ar aq s) (hcl : s.cleaned = false) : s.procDone = false :=
  eq_false_of_ne_true fun hp => Bool.noConfusion (hcl.symm.trans (h.k5 hp))

/-- a one-way request never waits, retries or runs the response pass (K32): where the worker does, the request is two-way -/
theorem two_way {c : Cfg} {ar aq : Nat} {s : S} (h : Inv c ar aq s) (hcl : s.cleaned = false)
    (hp : upPhase s.phase = true ∨ s.phase = .WaitNotify ∨ s.phase = .Retry) : c.oneway = false :=
  eq_false_of_ne_true fun ho => by
    obtain ⟨a, b, d⟩ := h.k32 hcl ho
    rcases hp with hp | hp | hp
    · rw [a] at hp; cases hp
    · exact b hp
    · exact d hp

/-- while a request is forwarded an upstream request and a retry state exist (K18), unless it is a one-way request at `Oneway` -/
theorem fwd_main {c : Cfg} {ar aq : Nat} {s : S} (h : Inv c ar aq s) (hcl : s.cleaned = false) (hf : fwdPhase s.phase = true)
    (hno : c.oneway = true → s.phase ≠ .Oneway) : s.up.isSome = true ∧ s.rs.isSome = true :=
  (h.k18 hcl hf).elim (fun x => absurd x.2.1 (hno x.1)) (fun x => ⟨x.1, x.2.1⟩)

/-- the clauses of the invariant that hold at every function boundary inside a worker step -/
structure Base (c : Cfg) (ar aq : Nat) (s : S) : Prop where
  k1 : K1 s
  k2 : K2 s
  k4 : K4 s
  k9 : K9 c ar s
  k10 : K10 c aq s
  k11 : K11 s
  k12 : K12 s
  k13 : K13 s
  k14 : K14 s
  k20 : K20 c s
  k21 : K21 c s
  k22 : K22 c s
  k31 : K31 s

theorem Inv.base {c : Cfg} {ar aq : Nat} {s : S} (h : Inv c ar aq s) : Base c ar aq s :=
  { h with }

/-- what holds of the state at every function boundary inside a step of a worker that has not cleaned the stream: `Base` (its K13
speaks of a cleaned stream only and is left out) and nothing final went to the client yet -/
structure Live (c : Cfg) (ar aq : Nat) (s : S) : Prop where
  k1 : K1 s
  k2 : K2 s
  k4 : K4 s
  k9 : K9 c ar s
  k10 : K10 c aq s
  k11 : K11 s
  k12 : K12 s
  k14 : K14 s
  k20 : K20 c s
  k21 : K21 c s
  k22 : K22 c s
  k31 : K31 s
  run : s.running = true
  cl : s.cleaned = false
  k3 : K3 s
  k6 : K6 s
  pd : s.procDone = false

theorem Live.toBase {c : Cfg} {ar aq : Nat} {s : S} (l : Live c ar aq s) : Base c ar aq s :=
  { l with k13 := .vac l.cl }

theorem Inv.live {c : Cfg} {ar aq : Nat} {s : S} (h : Inv c ar aq s) (hrun : s.running = true) : Live c ar aq s :=
  { h with run := hrun, cl := inv_not_cleaned h hrun, pd := inv_not_procDone h (inv_not_cleaned h hrun) }

/-- the client streams die (their ledger in balance, the client-visible protocol state and the log count of the trace as before) -/
theorem Live.dead {c : Cfg} {ar aq : Nat} {s : S} (l : Live c ar aq s) (sts : List Stream) (rq ua : Int) (t : List Ev)
    (hled : LedgerOk c aq { s with streams := sts, requests := rq, upActive := ua }) (hl0 : liveCount sts = 0)
    (h22 : K22 c { s with streams := sts }) (ht1 : snd t = snd s.trace) (ht2 : nLog t = nLog s.trace) :
    Live c ar aq { s with streams := sts, requests := rq, upActive := ua, trace := t } :=
  { l with
    k1 := by simpa [K1, ht1] using l.k1
    k2 := by simpa [K2, ht1] using l.k2
    k3 := by simpa [K3, ht1] using l.k3
    k4 := by show nLog t = _; rw [ht2]; exact l.k4
    k10 := hled.1, k11 := hled.2.1, k14 := hled.2.2, k22 := h22
    k20 := fun _ => hl0 }

end MosnVerif.Model.Downstream
