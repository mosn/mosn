import MosnVerif.Lemmas.Downstream.UpfWork
/-! the worker label `work`: the response pass -/
namespace MosnVerif.Model.Downstream
open MosnVerif.Gen.ProxyPhase MosnVerif.Gen.ProxyReason MosnVerif.Gen.ProxyRetry

/-- phase `UpFilter` (no stream filters in this model): `processError`, the fake upstream request, next phase -/
theorem inv_work_upfilter (c : Cfg) (ar aq : Nat) (s : S) (h : Inv c ar aq s) (hrun : s.running = true)
    (hp : s.phase = .UpFilter) :
    Inv c ar aq (match processError c s with
      | (s, some p) => reenter s p
      | (s, none) => { s with up := (if s.up.isNone then some none else s.up), phase := s.phase.next }) := by
  have hupp : upPhase s.phase = true := by rw [hp]; rfl
  obtain ⟨hcl, _, hsr, hdir⟩ := upCtx h hrun hupp
  obtain ⟨hlc, hresp, _, htm, hrst, _, _⟩ := h.k15 hcl hupp
  -- the end of the phase — also for the label `reset during UpFilter`: this `processError` handles an upstream reset raised while the
  -- sender filters ran, retried or answered with the error reply (repair 6ae8f7427 of /repo) —, with `UpRecvHeader` as the next phase
  have hfin : Inv c ar aq (finishPhase c s) :=
    finish_inv c ar aq s h hrun (by rw [hp]; decide) (by rw [hp]; decide) fun hur _ =>
      inv_up_state c ar aq _ .UpRecvHeader { h.live hrun with } hsr hdir (h.k8 hcl).1 hur hlc htm
        ⟨by simp [hp, Phase.next], rfl, hresp, by rw [hrst, hp]; decide, nofun, nofun⟩ h.k24 h.k25 h.k28
        (two_way h hcl (Or.inl hupp))
  rw [finishPhase_eq] at hfin
  -- when the pass goes on, the fake upstream request is installed on the way
  cases hpe : processError c s with
  | mk s' o =>
    rw [hpe] at hfin
    cases o with
    | some p => exact hfin
    | none =>
      simp only [finishOf] at hfin ⊢
      exact inv_fake_up c ar aq _ hfin (by simp [finishOf_pe_none_phase c s s' hpe, hp, Phase.next, upPhase])

end MosnVerif.Model.Downstream
