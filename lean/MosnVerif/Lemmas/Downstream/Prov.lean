import MosnVerif.Lemmas.Downstream
import MosnVerif.Lemmas.Downstream.AsyncFrame
import MosnVerif.Lemmas.Downstream.Parked
import MosnVerif.Lemmas.Downstream.Backoff9
/-!
# Body provenance of the downstream machine

`store s` is the response the stream holds (`downstreamRespHeaders / DataBuf / Trailers` presence) with the token of the
answer each part belongs to.  Two facts, for every reachable state:

* `okS`: the stored response is ONE answer — held data and held trailers belong to the answer of the stored headers.  Every
  path that stores a response stores a complete answer: an accepted upstream response stores its three parts together, a
  local reply stores its headers and — as the REGENERATED effects of `sendHijackReply` / `sendHijackReplyWithBody` say — clears
  the held data / trailers or replaces them by its own (`okS_sendHijack`; this is the lemma a local-reply path that keeps a
  foreign body breaks).
* once response headers went downstream (`respStarted`), no label changes the stored response any more (`Step`): what the
  data / trailers phases write is what was stored when the headers were written.
-/
namespace MosnVerif.Model.Downstream
open MosnVerif.Gen.ProxyPhase MosnVerif.Gen.ProxyReason MosnVerif.Gen.ProxyRetry

/-- the stored response with the tokens of its parts -/
def store (s : S) : Option Resp × Tok × Tok × Tok := (s.resp, s.hTok, s.dTok, s.tTok)

/-- one answer: held data / trailers belong to the answer of the headers -/
def okV (v : Option Resp × Tok × Tok × Tok) : Prop :=
  ∀ r, v.1 = some r → (r.hasData = true → v.2.2.1 = v.2.1) ∧ (r.hasTrailers = true → v.2.2.2 = v.2.1)

/-- the stored response of `s` is one answer -/
def okS (s : S) : Prop := okV (store s)

/-- no global timer is armed along a transition: `reqSent` and the count of armed timers are untouched -/
def NA (s t : S) : Prop := t.reqSent = s.reqSent ∧ t.gtGen = s.gtGen

/-- an allowed transition from `s` to `t` that arms nothing: `respStarted` never goes back; either nothing stored is touched
or — only while no response headers went downstream — one complete answer is stored -/
def Step (s t : S) : Prop :=
  (t.respStarted = false → s.respStarted = false) ∧ (store t = store s ∨ (s.respStarted = false ∧ okS t)) ∧ NA s t

theorem Step.refl (s : S) : Step s s := ⟨id, Or.inl rfl, rfl, rfl⟩

/-- the clause about the stored response, common to `Step` and `LStep`, composes -/
theorem stored_trans {s t u : S} (h0 : t.respStarted = false → s.respStarted = false)
    (h1 : store t = store s ∨ (s.respStarted = false ∧ okS t)) (h2 : store u = store t ∨ (t.respStarted = false ∧ okS u)) :
    store u = store s ∨ (s.respStarted = false ∧ okS u) := by
  rcases h2 with e2 | ⟨r2, o2⟩
  · rcases h1 with e1 | ⟨r1, o1⟩
    · exact Or.inl (e2.trans e1)
    · exact Or.inr ⟨r1, by unfold okS at o1 ⊢; rw [e2]; exact o1⟩
  · exact Or.inr ⟨h0 r2, o2⟩

theorem Step.trans {s t u : S} (h1 : Step s t) (h2 : Step t u) : Step s u :=
  ⟨fun h => h1.1 (h2.1 h), stored_trans h1.1 h1.2.1 h2.2.1, h2.2.2.1.trans h1.2.2.1, h2.2.2.2.trans h1.2.2.2⟩

/-- the phases in which the worker sends the request upstream for the first time -/
def sendingPhase (p : Phase) : Bool := p == .DownRecvHeader || p == .DownRecvData || p == .DownRecvTrailer

/-- a transition of a whole label: like `Step`, but the request may become completely sent, arming at most one global timer —
and when the request had been sent before, only inside a sending phase (never in the retry phase, never by another goroutine) -/
def LStep (s t : S) : Prop :=
  (t.respStarted = false → s.respStarted = false) ∧ (store t = store s ∨ (s.respStarted = false ∧ okS t)) ∧
  (NA s t ∨ (t.reqSent = true ∧ t.gtGen ≤ s.gtGen + 1 ∧ (s.reqSent = true → sendingPhase s.phase = true)))

theorem Step.l {s t : S} (h : Step s t) : LStep s t := ⟨h.1, h.2.1, Or.inl h.2.2⟩

/-- a label transition followed by a transition that arms nothing -/
theorem LStep.then {s t u : S} (h1 : LStep s t) (h2 : Step t u) : LStep s u := by
  refine ⟨fun h => h1.1 (h2.1 h), stored_trans h1.1 h1.2.1 h2.2.1, ?_⟩
  rcases h1.2.2 with ⟨a1, a2⟩ | ⟨b1, b2, b3⟩
  · exact Or.inl ⟨h2.2.2.1.trans a1, h2.2.2.2.trans a2⟩
  · exact Or.inr ⟨by rw [h2.2.2.1]; exact b1, by rw [h2.2.2.2]; exact b2, b3⟩

/-- a transition that arms nothing and keeps the phase, followed by a label transition -/
theorem Step.thenL {s t u : S} (h1 : Step s t) (hp : t.phase = s.phase) (h2 : LStep t u) : LStep s u := by
  refine ⟨fun h => h1.1 (h2.1 h), stored_trans h1.1 h1.2.1 h2.2.1, ?_⟩
  rcases h2.2.2 with ⟨a1, a2⟩ | ⟨b1, b2, b3⟩
  · exact Or.inl ⟨a1.trans h1.2.2.1, a2.trans h1.2.2.2⟩
  · exact Or.inr ⟨b1, by rw [← h1.2.2.2]; exact b2, fun hs => by rw [← hp]; exact b3 (by rw [h1.2.2.1]; exact hs)⟩

/-- a function that touches neither the stored response, `respStarted`, `reqSent` nor the timer count -/
theorem Step.frame {s t : S} (h1 : store t = store s) (h2 : t.respStarted = s.respStarted)
    (h3 : t.reqSent = s.reqSent := by first | rfl | simp) (h4 : t.gtGen = s.gtGen := by first | rfl | simp) : Step s t :=
  ⟨fun h => by rw [← h2]; exact h, Or.inl h1, h3, h4⟩

/-- **a local reply stores one answer**: its own headers, and data / trailers that are its own or absent — by the
regenerated effects of `sendHijackReply[WithBody]` on the held parts -/
theorem okS_sendHijack (s : S) (code : Nat) (body : Bool) : okS (sendHijack s code body) := by
  rw [sendHijack_eq]
  intro r hr
  simp only [store] at hr
  cases hr
  cases body <;> simp [store]

theorem step_sendHijack (s : S) (code : Nat) (body : Bool) (h : s.respStarted = false) : Step s (sendHijack s code body) :=
  ⟨fun _ => h, Or.inr ⟨h, okS_sendHijack s code body⟩, rfl, rfl⟩

theorem step_cleanUp (c : Cfg) (s : S) : Step s (cleanUp c s) := Step.frame (by simp [store]) (by simp)

theorem step_resetUpstream (c : Cfg) (s : S) : Step s (resetUpstream c s) := Step.frame (by simp [store]) (by simp)

/-- the kinds across which `Step` holds: nothing is armed, a reply stored only behind its test -/
abbrev Kinds.step : List Kind := [.quiet, .mark, .reply, .move, .attempt, .respond]

theorem step_upd {c : Cfg} {k : Kind} {s t : S} (hk : k ∈ Kinds.step) (u : Upd c k s t) : Step s t := by
  cases u with
  | frame h => exact Step.frame (by simp only [store, h.resp, h.hTok, h.dTok, h.tTok]) h.respStarted h.reqSent h.gtGen
  | resetUpstream => exact step_resetUpstream c s
  | cleanUp => exact step_cleanUp c s
  | started => exact ⟨nofun, Or.inl rfl, rfl, rfl⟩
  | hijack _ code body h => exact step_sendHijack s code body h
  | emit | mark | move | newStream => exact Step.frame rfl rfl
  | answer | sent | sentMark | newRetryState => simp at hk

theorem Path.step {c : Cfg} {K : List Kind} {s t : S} (p : Path c K s t) (hk : K ⊆ Kinds.step := by decide) : Step s t :=
  (p.mono hk).rel Step.refl Step.trans step_upd

/-- the end of every phase body: `processError`, then the next phase or the re-entry -/
theorem step_finishPhase (c : Cfg) (s : S) : Step s (finishPhase c s) := (path_finishPhase c s).step

/-- `chooseHost` answers itself (no route / no host / direct response) only before anything went downstream -/
theorem step_chooseHost (c : Cfg) (s : S) (h : s.respStarted = false) : Step s (chooseHost c s) := by
  rcases chooseHost_cases c s with ⟨fl, code, b, e⟩ | e <;> rw [e]
  · exact Step.trans (Step.frame rfl rfl) (step_sendHijack _ code b h)
  · exact Step.frame rfl rfl

theorem upAppendHeaders_phase (c : Cfg) (s : S) (eos : Bool) : (upAppendHeaders c s eos).phase = s.phase :=
  (path_upAppendHeaders c s eos).phase

theorem step_upAppendHeaders (c : Cfg) (s : S) (eos : Bool) : Step s (upAppendHeaders c s eos) :=
  (path_upAppendHeaders c s eos).step

/-- `onUpstreamRequestSent`: the request is completely sent; at most one global timer is armed -/
theorem lstep_sent (c : Cfg) (s : S) (h : s.reqSent = true → sendingPhase s.phase = true) :
    LStep s (onUpstreamRequestSent c s) := by
  refine ⟨fun hh => hh, Or.inl rfl, Or.inr ⟨rfl, ?_, h⟩⟩
  simp only [onUpstreamRequestSent]
  split <;> omega

theorem lstep_receiveHeaders (c : Cfg) (s : S) (eos : Bool) (hp : s.phase = .DownRecvHeader) :
    LStep s (receiveHeaders c s eos) := by
  unfold receiveHeaders
  simp only
  have h1 := step_upAppendHeaders c s eos
  have hph := upAppendHeaders_phase c s eos
  split
  · exact Step.thenL h1 hph (lstep_sent c _ (fun _ => by rw [hph, hp]; rfl))
  · exact h1.l

/-- a part of the request after its headers: the last one marks the request completely sent -/
theorem lstep_sendPart (c : Cfg) (s : S) (e : Nat → Ev) (eos : Bool) (hp : sendingPhase s.phase = true) :
    LStep s (sendPart c s e eos) := by
  refine ⟨id, Or.inl rfl, ?_⟩
  cases eos
  · exact Or.inl ⟨Bool.or_false _, rfl⟩
  · refine Or.inr ⟨Bool.or_true _, ?_, fun _ => hp⟩
    simp only [sendPart]
    split <;> omega

/-- the send calls of the upstream request touch neither the global timer nor its object -/
theorem upAppendHeaders_timer (c : Cfg) (s : S) (eos : Bool) :
    (upAppendHeaders c s eos).global = s.global ∧ (upAppendHeaders c s eos).gtObj = s.gtObj := by
  unfold upAppendHeaders
  split
  · exact ⟨rfl, rfl⟩
  · simp only; split <;> exact ⟨rfl, rfl⟩

/-- the timers at the end of `doRetry`: the global timer is armed only when no timer object exists — not when the request was
completely sent before and its timer is still armed -/
theorem lstep_armTimers (c : Cfg) (d : S) (h : d.reqSent = true → d.global = true) : LStep d (armTimers c d) := by
  unfold armTimers
  cases hq : d.reqSent with
  | true =>
    have htm : hasTimerObj d = true := by simp [hasTimerObj, h hq, hq]
    simp only [htm, Bool.not_true, Bool.false_eq_true, if_false]
    exact Step.l (Step.frame rfl rfl (by show true = d.reqSent; rw [hq]) rfl)
  | false =>
    have htm : hasTimerObj d = false := by simp [hasTimerObj, hq]
    simp only [htm, Bool.not_false, if_true]
    refine ⟨id, Or.inl rfl, Or.inr ⟨rfl, ?_, fun hh => by rw [hq] at hh; cases hh⟩⟩
    show (onUpstreamRequestSent c d).gtGen ≤ d.gtGen + 1
    simp only [onUpstreamRequestSent]
    split <;> omega

/-- `doRetry` answers itself (no healthy host any more, the global timeout) only before anything went downstream; it arms
the global timer only when no timer object exists — never once the request was completely sent and its timer armed
(`h24`: while a retry is possible the timer of a sent request is armed, unless it fired or a local reply is pending) -/
theorem lstep_doRetry (c : Cfg) (s : S) (h : s.respStarted = false)
    (h24 : s.reqSent = true → s.direct = false → (s.globalExpired && s.up.isSome) = false → s.global = true) :
    LStep s (doRetry c s) := by
  rw [doRetry_eq]
  split
  · exact (Step.refl s).l
  rename_i hdt
  split
  · exact (Step.frame rfl rfl rfl rfl : Step s _).l
  rename_i hex
  by_cases hg : s.hostsGone = true
  · unfold doRetryBody
    rw [if_pos hg]
    have e : Step s (if s.up.isSome = true then { s with setupRetry := false } else s) := by
      split
      · exact Step.frame rfl rfl
      · exact Step.refl s
    have hrs : (if s.up.isSome = true then ({ s with setupRetry := false } : S) else s).respStarted = false := by
      split <;> exact h
    exact (Step.trans (Step.trans e (step_sendHijack _ NoHealthUpstreamCode false hrs)) (step_cleanUp c _)).l
  · -- the send calls touch neither the global timer nor what the transitions talk about
    rw [doRetryBody_send c s (by simpa using hg), sendRest_frame]
    have f := Step.trans (Step.frame rfl rfl rfl rfl : Step s { s with up := some none, setupRetry := false })
      (step_upAppendHeaders c _ (!c.hasData && !c.hasTrailers))
    have hgl := (upAppendHeaders_timer c { s with up := some none, setupRetry := false } (!c.hasData && !c.hasTrailers)).1
    have hph := upAppendHeaders_phase c { s with up := some none, setupRetry := false } (!c.hasData && !c.hasTrailers)
    generalize upAppendHeaders c { s with up := some none, setupRetry := false } (!c.hasData && !c.hasTrailers) = a at f hgl hph ⊢
    exact Step.thenL (f.trans (Step.frame rfl rfl rfl rfl)) hph
      (lstep_armTimers c _ fun hq => hgl.trans (h24 (f.2.2.1 ▸ hq) (by simpa using hdt) (by simpa using hex)))

/-- the phase bodies: a reply is stored only by `chooseHost` and `doRetry`, both before the response pass -/
theorem lstep_body {c : Cfg} {ar aq : Nat} {s x : S} (b : Body c s x) (h : Inv c ar aq s) (hcl : s.cleaned = false) :
    LStep s x := by
  cases b with
  | none => exact (Step.refl s).l
  | chooseHost hp => exact (step_chooseHost c s (h.k16 hcl (by rw [hp]; rfl))).l
  | headers hp => exact lstep_receiveHeaders c s _ hp
  | part hp e eos =>
    split
    · exact (Step.refl s).l
    · exact lstep_sendPart c s e eos (by rcases hp with hp | hp <;> rw [hp] <;> rfl)
  | retry hp =>
    have hrun : s.running = true := by rw [h.k0, hcl]; rfl
    obtain ⟨_, _, hup, _, _, _, how, _, hrs, _, hrst, _⟩ := backoff_facts c ar aq s h (by simp [backoff, hrun, hp])
    refine lstep_doRetry c s hrst (fun hq hdt hex => ?_)
    have hge : s.globalExpired = false := by simpa [hup] using hex
    rcases h.k24 hcl how hq hrs with h1 | h1 | h1
    · exact h1
    · rw [hge] at h1; cases h1
    · rw [hdt] at h1; cases h1
  | woken => exact (Step.frame rfl rfl : Step s _).l
  | upHeaders => exact (path_onUpstreamHeaders c s _).step.l
  | upData => exact (path_onUpstreamData c s _).step.l
  | upTrailers => exact (path_onUpstreamTrailers c s).step.l

/-- the worker label: besides the phase bodies a reply is stored only by the answer to an upstream reset that arrives before
response headers went downstream -/
theorem lstep_work (c : Cfg) (ar aq : Nat) (s : S) (h : Inv c ar aq s) (hcl : s.cleaned = false) : LStep s (work c s) := by
  rcases (work_cases c s).split with ⟨x, b, e⟩ | p
  · rw [e]; exact (lstep_body b h hcl).then (step_finishPhase c x)
  · exact p.step.l

/-- a live, counted client stream whose response can still be accepted: nothing went downstream yet -/
theorem not_started_of_answerable (c : Cfg) (ar aq : Nat) (s : S) (k : Nat) (h : Inv c ar aq s)
    (hlive : streamLiveCounted s k = true) (hurr : s.urr = false) : s.respStarted = false := by
  have hpos := liveCounted_pos s k hlive
  cases hr : s.respStarted with
  | false => rfl
  | true =>
    exfalso
    cases hcl : s.cleaned with
    | true => have := (h.k13 hcl).2.1; omega
    | false =>
      cases hup : upPhase s.phase with
      | false => have := h.k16 hcl hup; rw [hr] at this; cases this
      | true =>
        rcases (h.k15 hcl hup).1 with h0 | h1
        · omega
        · rw [hurr] at h1; cases h1.1

/-- an accepted upstream response is stored whole: headers, data and trailers carry the token of its attempt -/
theorem okV_att (k : Nat) (d t : Bool) :
    okV (some ⟨d, t⟩, .att k, if d = true then Tok.att k else .none, if t = true then Tok.att k else .none) := by
  intro r hr
  cases hr
  cases d <;> cases t <;> simp

/-- the labels of other goroutines store at most an accepted upstream response / a terminate reply — both only before
anything went downstream — and arm nothing -/
theorem Async.step {c : Cfg} {ar aq : Nat} {s t : S} (a : Async c s t) (h : Inv c ar aq s) : Step s t := by
  have f := a.frame
  have same : store t = store s → Step s t := fun hs => Step.frame hs f.respStarted f.reqSent f.gtGen
  have stored : s.respStarted = false → okS t → Step s t := fun hrs ho => ⟨fun _ => hrs, Or.inr ⟨hrs, ho⟩, f.reqSent, f.gtGen⟩
  cases a with
  | same => exact Step.refl s
  | timers => exact same rfl
  | response k code d t st x acc hk hst hurr hx hacc =>
    cases acc
    · exact same (by rcases hx with rfl | rfl <;> rfl)
    · -- the client stream is live and counted, the response slot free: nothing went downstream yet
      have hlive : streamLiveCounted s k = true := by
        simp only [streamLiveCounted, hk]
        revert hst
        cases st.real <;> cases st.live <;> cases st.counted <;> simp
      exact stored (not_started_of_answerable c ar aq s k h hlive hurr) (okV_att k d t)
  | ended k hurr => exact same rfl
  | reset k r st hk hlive => exact same (by cases st.listening <;> rfl)
  | timedOut p g e hgl y hy r =>
    refine same ?_
    rcases hy with rfl | rfl <;>
      simp only [store, upOnResetStream, orFlag, resetUpstream_resp, resetUpstream_hTok, resetUpstream_dTok, resetUpstream_tTok]
  | clientGone dl r => exact same rfl
  | terminated code hz hcl hurr =>
    -- the worker is parked or in the back-off: before the response pass
    have hrs : s.respStarted = false := by
      simp only [asleep, parked, backoff, Bool.and_eq_true, Bool.or_eq_true, beq_iff_eq] at hz
      rcases hz with hz | hz
      · exact h.k16 hcl (by rw [hz.1.2]; rfl)
      · exact h.k16 hcl (by rw [hz.2]; rfl)
    exact stored hrs (by intro r hr; cases hr; exact ⟨nofun, nofun⟩)

/-- **every label is an allowed transition** -/
theorem lstep_label (c : Cfg) (ar aq : Nat) (s : S) (l : Label) (h : Inv c ar aq s) : LStep s (step c s l) :=
  step_split h l (Step.refl s).l (fun _ => lstep_work c ar aq s h) fun _ a => (a.step h).l

theorem okS_of_step {s t : S} (h : LStep s t) (ho : okS s) : okS t := by
  rcases h.2.1 with e | ⟨_, o⟩
  · unfold okS at ho ⊢; rw [e]; exact ho
  · exact o

theorem frozen_of_step {s t : S} (h : LStep s t) (hr : s.respStarted = true) : store t = store s ∧ t.respStarted = true := by
  refine ⟨?_, ?_⟩
  · rcases h.2.1 with e | ⟨f, _⟩
    · exact e
    · rw [hr] at f; cases f
  · cases ht : t.respStarted with
    | true => rfl
    | false => have := h.1 ht; rw [hr] at this; cases this

theorem okS_init (ar aq : Nat) : okS (init ar aq) := by
  intro r hr
  simp [store, init] at hr

/-- the stored response is one answer in every reachable state -/
theorem okS_run (c : Cfg) (ar aq : Nat) (l : List Label) : okS (run c (init ar aq) l) :=
  run_inv c ar aq (fun s a h => okS_of_step (lstep_label c ar aq s a h)) (inv_init c ar aq) (okS_init ar aq) l

/-- once response headers went downstream, no schedule changes the stored response any more -/
theorem store_frozen (c : Cfg) (ar aq : Nat) (s : S) (l : List Label) (hi : Inv c ar aq s) (hr : s.respStarted = true) :
    store (l.foldl (step c) s) = store s ∧ (l.foldl (step c) s).respStarted = true :=
  run_inv c ar aq (X := fun x => store x = store s ∧ x.respStarted = true)
    (fun x a h hx => have f := frozen_of_step (lstep_label c ar aq x a h) hx.2; ⟨f.1.trans hx.1, f.2⟩) hi ⟨rfl, hr⟩ l

/-- once the request has been completely sent and the worker is past the sending phases, no label arms a global timer again
(no retry pass, no callback of another goroutine): the count of armed timers stays, `reqSent` stays -/
theorem no_rearm (c : Cfg) (ar aq : Nat) (s : S) (l : Label) (h : Inv c ar aq s) (hq : s.reqSent = true)
    (hp : sendingPhase s.phase = false) : (step c s l).gtGen = s.gtGen ∧ (step c s l).reqSent = true := by
  rcases (lstep_label c ar aq s l h).2.2 with ⟨a1, a2⟩ | ⟨_, _, b3⟩
  · exact ⟨a2, by rw [a1]; exact hq⟩
  · rw [b3 hq] at hp; cases hp

/-- accepting a retry stops the per-try timer only: the global timer and the count of armed timers are left alone
(the regenerated `Gen.ProxyTimers.setupRetryStopsGlobal = false`) -/
theorem setupRetry_global (c : Cfg) (s : S) (eos : Bool) :
    (setupRetry c s eos).1.global = s.global ∧ (setupRetry c s eos).1.gtGen = s.gtGen ∧
    ((setupRetry c s eos).2 = true → (setupRetry c s eos).1.perTry = false) := by
  rw [setupRetry_eq]
  split
  · exact ⟨rfl, rfl, fun h => by cases h⟩
  · simp only
    split <;> simp

end MosnVerif.Model.Downstream
