import MosnVerif.Lemmas.Downstream.Tails
/-! `processError` takes a local reply while the worker is already in the response pass (phase `UpFilter`): it does
not re-enter, the pass goes on at `UpRecvHeader` with the reply (repair 6ae8f7427 of /repo: also when the reply was generated by
the `onUpstreamReset` of this very call — the label `reset during UpFilter`) -/
namespace MosnVerif.Model.Downstream
open MosnVerif.Gen.ProxyPhase MosnVerif.Gen.ProxyReason MosnVerif.Gen.ProxyRetry

/-- a local reply of a two-way request is taken: the retry state is dropped after its slot was given back and the response pass
starts at `UpFilter` with nothing but the reply (`ps = 1`, the wake-up consumed) — or goes on at `UpRecvHeader` -/
theorem tail_direct (c : Cfg) (ar aq : Nat) (s : S) (l : Live c ar aq s) (how : c.oneway = false) (hsr : s.setupRetry = false)
    (q : Phase) (ps : Nat) (nt : Bool) (hq : q = .UpFilter ∨ q = .UpRecvHeader) (hps : ps ≤ 1) (hnt : nt = true → s.urr = true)
    (hlc : liveCount s.streams = 0) (hresp : s.resp.isSome = true) (hur : s.upReset = false) (hpt : s.perTry = false)
    (hgt : s.global = false) (hrs : s.respStarted = false) :
    Inv c ar aq { s with direct := false, rs := none, retries := (rsReset c s).retries, pass := ps, phase := q, notify := nt } := by
  have hat : UpAt { s with direct := false, rs := none, retries := (rsReset c s).retries, pass := ps, phase := q, notify := nt } q := by
    rcases hq with rfl | rfl <;> exact ⟨rfl, rfl, hresp, hrs, nofun, nofun⟩
  refine inv_up_state c ar aq _ q { l with k9 := ?_, k31 := nofun }
    hsr rfl hps hur (Or.inl hlc) (Or.inl ⟨hpt, hgt⟩) hat (fun _ _ _ => nofun) (fun _ _ => nofun) (fun _ hn => Or.inl (hnt hn)) how
  simpa [K9, heldRetry, rsHeld] using rsReset_released l.k9

end MosnVerif.Model.Downstream
