import MosnVerif.Lemmas.Downstream.P3Base
/-!
The hand-written pieces of the machine that take part in the retry set-up and in the arming of the global timer are
the REGENERATED step programs of `Gen.ProxyBackoff` (each proved equal, so a change of the Go statements or of their order
changes what the theorems talk about), and the label `gtInSetup` is what the regenerated programs compute when the global timer
callback runs at one of the worker's two yield sites inside `setupRetry`.
-/
namespace MosnVerif.Model.Downstream
open MosnVerif.Gen.ProxyPhase MosnVerif.Gen.ProxyReason

/-- `upstreamRequest.OnResetStream(reason)` on the machine state -/
def rsOps (r : Reason) : Gen.ProxyBackoff.RSOps S where
  marked := fun s => s.setupRetry
  upstreamReset := fun s => s.upReset
  raiseReset := fun s => { s with upReset := true }
  storeReason := fun s => { s with resetReason := r }
  notify := sendNotify

/-- the machine's `upOnResetStream` is the regenerated `OnResetStream`: dropped when the request is marked `setupRetry`, else a
compare-and-swap on `upstreamReset`, the reason, the wake-up -/
theorem upOnResetStream_regenerated (s : S) (r : Reason) :
    upOnResetStream s r = Gen.ProxyBackoff.onResetStream (rsOps r) s := by
  unfold upOnResetStream Gen.ProxyBackoff.onResetStream
  cases h1 : s.setupRetry <;> cases h2 : s.upReset <;> simp [rsOps, sendNotify, h1, h2] <;> (cases s; simp_all)

/-- the global timer callback on the machine state -/
def gcOps (c : Cfg) : Gen.ProxyBackoff.GCOps S where
  cleaned := fun s => s.cleaned
  idMatches := fun _ => true
  responseReceived := fun s => s.urr
  hasUpstreamRequest := fun s => s.up.isSome
  marked := fun s => s.setupRetry
  recordExpiry := fun s => { s with globalExpired := true }
  takeSlot := fun s => { s with urr := true }
  resetUpstream := resetUpstream c
  onResetStream := fun s => upOnResetStream s .UpstreamGlobalTimeout

/-- the machine's `globalFire` is the regenerated callback (the timer fires once: `global := false` first) -/
theorem globalFire_regenerated (c : Cfg) (s : S) :
    globalFire c s = if !s.global then s else Gen.ProxyBackoff.globalCallback (gcOps c) { s with global := false } := by
  rfl

/-- `setupRetry` on the machine state -/
def srOps (c : Cfg) : Gen.ProxyBackoff.SROps S where
  globalExpired := fun s => s.globalExpired
  hasPerTryTimer := fun s => s.perTry
  hasGlobalTimer := fun s => s.gtObj
  mark := fun s => { s with setupRetry := true }
  resetUpstream := resetUpstream c
  stopPerTry := fun s => { s with perTry := false }
  stopGlobal := fun s => { s with global := false }
  forgetGlobal := fun s => { s with gtObj := false }
  freeSlot := fun s => { s with urr := false }

/-- the machine's `setupRetry` is the regenerated program with nothing interleaved at the two yield sites -/
theorem setupRetry_regenerated (c : Cfg) (s : S) (eos : Bool) :
    setupRetry c s eos = Gen.ProxyBackoff.setupRetry (srOps c) id id eos s := by
  rw [setupRetry_eq]
  have hck : setupRetryChecksExpiry = true := by decide
  cases hge : s.globalExpired <;> cases eos <;>
    simp [Gen.ProxyBackoff.setupRetry, srOps, hck, hge]

/-- `onUpstreamRequestSent` on the machine state -/
def sentOps (c : Cfg) : Gen.ProxyBackoff.SentOps S where
  hasUpstreamRequest := fun s => s.up.isSome
  oneway := fun _ => c.oneway
  globalPositive := fun _ => true
  hasGlobalTimer := fun s => s.gtObj
  setRequestSent := fun s => { s with reqSent := true }
  setupPerReqTimeout := setupPerReqTimeout c
  stopGlobal := fun s => { s with global := false }
  armGlobal := fun s => { s with global := true, gtGen := s.gtGen + 1, gtObj := true }

/-- the machine's `onUpstreamRequestSent` is the regenerated one: it is the ONLY function that creates the global timer
(`armSites`), and it does so exactly when an upstream request exists and the request is two-way -/
theorem onUpstreamRequestSent_regenerated (c : Cfg) (s : S) :
    onUpstreamRequestSent c s = Gen.ProxyBackoff.onUpstreamRequestSent (sentOps c) s := by
  unfold onUpstreamRequestSent Gen.ProxyBackoff.onUpstreamRequestSent
  cases hu : s.up.isSome <;> cases ho : c.oneway <;> cases hg : s.gtObj <;>
    simp [sentOps, setupPerReqTimeout, hu, ho, hg]

/-- where the global timer is created, forgotten, and who calls `onUpstreamRequestSent` (regenerated from pkg/proxy) -/
theorem global_timer_sites :
    Gen.ProxyBackoff.armSites = ["onUpstreamRequestSent"] ∧ Gen.ProxyBackoff.forgetSites = ["cleanUp"] ∧
    Gen.ProxyBackoff.requestSentCallers = ["doRetry", "receiveData", "receiveHeaders", "receiveTrailers"] := ⟨rfl, rfl, rfl⟩

/-- the condition under which `cleanStream` resets the upstream request is the machine's (`cleanBody`): an upstream request
exists, its processing is not done, the request is two-way — whatever the phase, whether or not a retry is being set up -/
theorem cleanResets_regenerated (c : Cfg) (s : S) (p : Phase) (m : Bool) :
    Gen.ProxyBackoff.cleanResets (resetFlags c s) p m = (s.up.isSome && !s.procDone && !c.oneway) := by
  simp [Gen.ProxyBackoff.cleanResets, resetFlags]

end MosnVerif.Model.Downstream
