import MosnVerif.Lemmas.Downstream.Finish
/-! the worker label `work`, phases before and while the request is forwarded -/
namespace MosnVerif.Model.Downstream
open MosnVerif.Gen.ProxyPhase MosnVerif.Gen.ProxyReason MosnVerif.Gen.ProxyRetry

/-- a phase whose body does nothing in this model (no stream filters: `DownFilter`, `MatchRoute`, `DownFilterAfterRoute`,
`DownFilterAfterChooseHost`): only `processError`, then a phase the invariant does not tell apart from this one -/
theorem inv_work_quiet (c : Cfg) (ar aq : Nat) (s : S) (h : Inv c ar aq s) (hrun : s.running = true)
    (hp : s.phase = .DownFilter ∨ s.phase = .MatchRoute ∨ s.phase = .DownFilterAfterRoute ∨ s.phase = .DownFilterAfterChooseHost) :
    Inv c ar aq (finishPhase c s) := by
  have hq : unnamed s.phase = true ∧ unnamed s.phase.next = true ∧ prePhase s.phase.next = prePhase s.phase := by
    rcases hp with hp | hp | hp | hp <;> (rw [hp]; decide)
  obtain ⟨_, _, _, p1, p2, p3, _⟩ := unnamed_facts hq.1
  exact finish_inv c ar aq s h hrun (fun hh => hh.elim p1 p2) p3 fun _ _ =>
    inv_phase_unnamed c ar aq s h _ hq.1 hq.2.1 hq.2.2

theorem inv_work_init (c : Cfg) (ar aq : Nat) (s : S) (h : Inv c ar aq s) (hp : s.phase = .InitPhase) :
    Inv c ar aq { s with phase := s.phase.next } := by
  apply inv_phase_unnamed c ar aq s h <;> (rw [hp]; rfl)

theorem inv_work_chooseHost (c : Cfg) (ar aq : Nat) (s : S) (h : Inv c ar aq s) (hrun : s.running = true)
    (hp : s.phase = .ChooseHost) : Inv c ar aq (finishPhase c (chooseHost c s)) := by
  have l := h.live hrun
  have hcl := l.cl
  obtain ⟨hup, hrs, hst, hurr, hur, hpt, hgt, hrq, hge, hps⟩ := h.k17 hcl (by rw [hp]; rfl)
  have hsr := (h.k7 hcl).1
  have hdir : s.direct = false := not_direct_of_phase h.k7 hcl (by rw [hp]; decide)
  have hrst : s.respStarted = false := h.k16 hcl (by rw [hp]; rfl)
  -- a local reply (no route, no healthy host, direct response): the state is `s` with the flag and the reply written
  have hij : ∀ (f code : Nat) (body : Bool),
      Inv c ar aq (finishPhase c (sendHijack (orFlag { s with recvDone := !c.hasData && !c.hasTrailers } f) code body)) :=
    fun f code body => by
      rw [sendHijack_eq]
      unfold orFlag
      exact finish_direct c ar aq _ { l with } hsr rfl hur hps (by rw [hst]; rfl) rfl hpt hgt hrst
        (by rw [hp]; decide)
  unfold chooseHost
  simp only
  cases hroute : c.route with
  | noRoute => exact hij _ _ _
  | direct code body =>
    have := hij 0 code body
    simpa [orFlag] using this
  | noHost => exact hij _ _ _
  | cluster =>
    simp only
    split
    · exact hij _ _ _
    · -- a host was chosen: from here on retry state and upstream request exist
      have h9 : K9 c ar { s with rs := some (⟨max Gen.ProxyRetry.retriesFloor c.numRetries, false⟩ : RetryState) } := by
        simpa [K9, heldRetry, rsHeld, hrs] using l.k9
      have h14 : K14 { s with up := some none } := by simp [K14, streamsOk, hst, allDead]
      refine finish_noreset c ar aq _ { l with k9 := h9, k14 := h14, k31 := fun _ => rfl } hsr hdir hur ?_
      · intro hdr
        have hdr : s.downReset = false := hdr
        exact { h with
          k7 := k7_intro hsr hdir
          k8 := fun _ => ⟨by show s.pass ≤ 1; omega, Or.inl hps⟩
          k9 := h9
          k13 := .vac hcl, k33 := .vac hcl
          k14 := h14
          k15 := .vac (by rw [hp]; rfl)
          k16 := fun _ _ => hrst
          k17 := .vac (by rw [hp]; rfl)
          k18 := fun _ _ => Or.inr ⟨rfl, rfl, fun hh => by simp [hurr, hur, hdr] at hh, fun hh => by simp [hge] at hh,
            fun _ hh => by simp [hrq] at hh, fun hh => by simp [hp, Phase.next] at hh⟩
          k19 := fun _ => by simp [hp, Phase.next]
          k23 := fun _ hh => by simp [hur, hp, Phase.next] at hh
          k24 := fun _ _ hh => by simp [hrq] at hh
          k25 := fun _ _ _ => hps
          k26 := .vac (by simp [hp, Phase.next])
          k27 := fun _ _ hh => by simp [hurr] at hh
          k28 := fun _ hh => by
            have := h.k28 hcl hh
            simpa [hurr, hur, hdr] using this
          k29 := fun _ _ _ => by refine ⟨?_, ?_, ?_⟩ <;> (intro hh; simp [hp, Phase.next] at hh)
          k30 := fun _ _ => ⟨hst, hrq, hpt, hgt, hurr, hur, hge⟩
          k31 := fun _ => rfl
          k32 := fun _ _ => by simp [hp, Phase.next, upPhase] }

end MosnVerif.Model.Downstream
