import MosnVerif.Lemmas.Downstream.TailUpf
/-! the worker handles a pending upstream reset (`processError` → `onUpstreamReset`) -/
namespace MosnVerif.Model.Downstream
open MosnVerif.Gen.ProxyPhase MosnVerif.Gen.ProxyReason MosnVerif.Gen.ProxyRetry

/-- the regenerated retry gate of `onUpstreamReset` (Gen.ProxyReset) on the machine state: a reset is only retried when
it is not the global timeout, NO response has started going downstream, and a retry state exists.  (This lemma — and
with it every theorem below — stops checking when the regenerated condition tests anything weaker.) -/
theorem retryGate_eq (c : Cfg) (s : S) (r : Reason) :
    Gen.ProxyReset.retryGate r (resetFlags c s) = (decide (r ≠ .UpstreamGlobalTimeout) && !s.respStarted && s.rs.isSome) := rfl

/-- the regenerated second condition of `onUpstreamReset`: reset the client iff a response has started, else answer it -/
theorem resetNotReply_eq (c : Cfg) (s : S) : Gen.ProxyReset.resetNotReply (resetFlags c s) = s.respStarted := rfl

/-- `processError` finds a local reply pending in a two-way request: the client may be gone; else the retry state is released and
the response pass starts — or, at `UpFilter`, goes on — with the reply -/
theorem peTail_reply (c : Cfg) (ar aq : Nat) (h : S) (e : Bool) (l : Live c ar aq h) (how : c.oneway = false)
    (hsr : h.setupRetry = false) (hdir : h.direct = true) (hur : h.upReset = false) (hps : h.pass = 0)
    (hupf : h.phase = .UpFilter → h.urr = true)
    (hlc : liveCount h.streams = 0) (hresp : h.resp.isSome = true) (hpt : h.perTry = false) (hgt : h.global = false)
    (hrst : h.respStarted = false) : Inv c ar aq (finishOf (peTail c h e)) := by
  by_cases hd : h.downReset = true
  · rw [peTail_down c h e hd]
    exact tail_down c ar aq h l.toBase l.cl hd (fun _ => hlc)
  rw [peTail_direct c h e (by simpa using hd) hdir hsr, if_neg (by simp [how])]
  by_cases hph : h.phase = .UpFilter
  · -- already in the response pass: it goes on with the reply; a wake-up still recorded is accounted for by the taken response slot (K28)
    rw [if_neg (by simp [hph])]
    have := tail_direct c ar aq h l how hsr .UpRecvHeader h.pass h.notify (Or.inr rfl) (by omega) (fun _ => hupf hph) hlc hresp hur
      hpt hgt hrst
    simpa [finishOf, hph, Phase.next] using this
  · rw [if_pos hph]
    have := tail_direct c ar aq h l how hsr .UpFilter 1 false (Or.inl rfl) (Nat.le_refl 1) nofun hlc hresp hur hpt hgt hrst
    simpa [finishOf, reenter, hps, loopBudget] using this

/-- the error reply of `onUpstreamReset` as one update of the state: the retry slot is given back, the timers are off, the reply
is stored -/
theorem resetReply_eq (c : Cfg) (s : S) (r : Reason) (hrst : s.respStarted = false) :
    onUpstreamResetFinish c s r =
      { s with rs := (rsReset c s).rs, retries := (rsReset c s).retries, perTry := false, global := false, gtObj := false,
               flags := s.flags ||| reasonToFlag r, upReset := false, respCode := reasonToCode r,
               statusVar := some (reasonToCode r), resp := some ⟨false, false⟩, direct := true,
               hTok := .loc, dTok := .none, tTok := .none } := by
  have e : onUpstreamResetFinish c s r =
      if s.respStarted then resetDownstream c (cleanUp c s)
      else sendHijack { orFlag (cleanUp c s) (reasonToFlag r) with upReset := false } (reasonToCode r) false := rfl
  rw [e, if_neg (by simp [hrst]), sendHijack_eq]
  rfl

/-- no retry: clean up the timers and answer with the error reply of the reset reason -/
theorem finish_branch (c : Cfg) (ar aq : Nat) (s : S) (r : Reason) (l : Live c ar aq s) (how : c.oneway = false)
    (hsr : s.setupRetry = false) (hps : s.pass = 0) (hlc : liveCount s.streams = 0)
    (hrst : s.respStarted = false) (hupf : s.phase = .UpFilter → s.urr = true) :
    Inv c ar aq (finishOf (peTail c (onUpstreamResetFinish c s r) true)) := by
  rw [resetReply_eq c s r hrst]
  exact peTail_reply c ar aq _ true { l.rsReset with k21 := fun _ => ⟨rfl, rfl⟩ }
    how hsr rfl rfl hps hupf hlc rfl rfl rfl hrst

/-- `onUpstreamReset` by its decisions, on the outcome of the retry decision as a pair of projections: a retry is set up, or
the reset is answered (with the overflow flag when the retry was refused for want of a slot) -/
theorem onUpstreamReset_eq (c : Cfg) (s : S) :
    onUpstreamReset c s =
      if Gen.ProxyReset.retryGate s.resetReason (resetFlags c s) && (rsRetry c s (some s.resetReason)).2 == ShouldRetry &&
          !(setupRetryChecksExpiry && s.globalExpired) then
        { (rsRetry c s (some s.resetReason)).1 with setupRetry := true, perTry := false, urr := false, upReset := false }
      else onUpstreamResetFinish c
        (if Gen.ProxyReset.retryGate s.resetReason (resetFlags c s) then
          { (rsRetry c s (some s.resetReason)).1 with
            flags := if (rsRetry c s (some s.resetReason)).2 == RetryOverflow then s.flags ||| UpstreamOverflow else s.flags }
         else s) s.resetReason := by
  unfold onUpstreamReset
  rw [show rsRetry c s (some s.resetReason) = ((rsRetry c s (some s.resetReason)).1, (rsRetry c s (some s.resetReason)).2) from rfl]
  simp only [setupRetry_eq, rsRetry_globalExpired]
  by_cases hg : Gen.ProxyReset.retryGate s.resetReason (resetFlags c s) = true
  rotate_left
  · simp only [hg, Bool.false_eq_true, if_false, Bool.false_and]
  simp only [hg, if_true, Bool.true_and]
  by_cases hc : ((rsRetry c s (some s.resetReason)).2 == ShouldRetry) = true
  · have ho : ((rsRetry c s (some s.resetReason)).2 == RetryOverflow) = false := by rw [eq_of_beq hc]; decide
    simp only [hc, ho, if_true, Bool.true_and, Bool.false_eq_true, if_false]
    by_cases he : (setupRetryChecksExpiry && s.globalExpired) = true
    · simp only [he, if_true, Bool.not_true, Bool.false_eq_true, if_false]; rfl
    · simp only [he, Bool.not_true, Bool.false_eq_true, if_false, Bool.not_false, if_true]
  · simp only [hc, Bool.false_eq_true, if_false, Bool.false_and]
    by_cases ho : ((rsRetry c s (some s.resetReason)).2 == RetryOverflow) = true
    · simp only [ho, if_true]; rfl
    · simp only [ho, Bool.false_eq_true, if_false]; rfl

/-- the worker handles a pending upstream reset of a two-way request that is being forwarded -/
theorem upreset_branch (c : Cfg) (ar aq : Nat) (s : S) (l : Live c ar aq s) (how : c.oneway = false)
    (hsr : s.setupRetry = false) (hps : s.pass = 0)
    (hlc : liveCount s.streams = 0) (hrst : s.respStarted = false) (hupf : s.phase = .UpFilter → s.urr = true)
    (h24 : s.rs.isSome = true → s.reqSent = true → s.global = true ∨ s.globalExpired = true)
    (hdir : s.direct = false) :
    Inv c ar aq (finishOf (peTail c (onUpstreamReset c s) true)) := by
  rw [onUpstreamReset_eq]
  have l1 := l.rsRetry (some s.resetReason)
  split
  rotate_left
  · -- no retry (not retriable, no budget, no slot, or the global timeout has expired): the reset is answered
    split
    · exact finish_branch c ar aq _ _ { l1 with } how hsr hps hlc hrst hupf
    · exact finish_branch c ar aq s _ l how hsr hps hlc hrst hupf
  rename_i hset
  simp only [Bool.and_eq_true, Bool.not_eq_true', Bool.and_eq_false_iff] at hset
  obtain ⟨⟨hg, _⟩, hexp⟩ := hset
  have hrs : s.rs.isSome = true := by
    rw [retryGate_eq] at hg
    simp only [Bool.and_eq_true] at hg
    exact hg.2
  have hge : s.globalExpired = false := hexp.resolve_left (by decide)
  exact finish_setup c ar aq _ true
    { l1 with k21 := .vac how }
    how rfl hdir hps
    ((rsRetry_facts c s (some s.resetReason)).2.1.trans hrs) rfl rfl hge (fun hq => (h24 hrs hq).resolve_right (by simp [hge]))
    hlc hrst rfl

end MosnVerif.Model.Downstream
