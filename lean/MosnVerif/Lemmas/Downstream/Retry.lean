import MosnVerif.Lemmas.Downstream.Streams
import MosnVerif.Lemmas.Resource
/-! facts about the regenerated retry-state functions on the small state (retry state × Retries().Cur()) -/
namespace MosnVerif.Model.Downstream
open MosnVerif.Gen.ProxyRetry MosnVerif.Gen.Resource MosnVerif.Lemmas.Resource

/-- units of the retries resource a retry state accounts for -/
def heldUnits (c : Cfg) (r : RetryState) : Int := if c.maxRetries != 0 && r.held then 1 else 0

/-- `reset()` gives the slot back, if one is held -/
theorem reset_eq (c : Cfg) (chk : Bool) (r : RetryState) (n : Int) :
    reset (retryOps c chk) (r, n) = ({ r with held := false }, n - heldUnits c r) := by
  obtain ⟨rem, held⟩ := r
  cases held <;> simp [reset, retryOps, heldUnits, decrease_eq]
  split <;> omega

/-- `retry` in closed form: the slot of the previous retry is given back first; then no budget / not retriable → `NoRetry`,
no slot → `RetryOverflow`, else a slot is taken → `ShouldRetry` -/
theorem retry_eq (c : Cfg) (chk : Bool) (r : RetryState) (n : Int) :
    retry (retryOps c chk) (r, n) =
      if r.remaining = 0 then (({ r with held := false }, n - heldUnits c r), NoRetry)
      else if chk = false then ((⟨r.remaining - 1, false⟩, n - heldUnits c r), NoRetry)
      else if canCreate c.maxRetries (n - heldUnits c r) = false then ((⟨r.remaining - 1, false⟩, n - heldUnits c r), RetryOverflow)
      else ((⟨r.remaining - 1, true⟩, increase c.maxRetries (n - heldUnits c r)), ShouldRetry) := by
  unfold retry
  rw [reset_eq]
  unfold shouldRetry
  by_cases h0 : r.remaining = 0
  · simp [retryOps, h0, NoRetry]
  · cases chk
    · simp [retryOps, h0, NoRetry]
    · cases h2 : canCreate c.maxRetries (n - heldUnits c r) <;> simp [retryOps, h0, h2, RetryOverflow, ShouldRetry, id]

/-- the admission rule of one retry decision on the small state: with `a ≥ 0` slots held by OTHER requests, budget left and
a retriable failure, the decision is "retry" iff the resource is unlimited or `a` is below the limit — whether or not
this request still holds the slot of its previous retry: the regenerated `retry` gives that slot back (`reset`) BEFORE it
asks `CanCreate` -/
theorem retry_admit (c : Cfg) (r : RetryState) (n a : Int) (ha : 0 ≤ a) (hn : n = a + heldUnits c r) (hrem : r.remaining ≠ 0) :
    ((retry (retryOps c true) (r, n)).2 = ShouldRetry ↔ (c.maxRetries = 0 ∨ a < (c.maxRetries : Int))) ∧
    ((retry (retryOps c true) (r, n)).2 = RetryOverflow ↔ ¬ (c.maxRetries = 0 ∨ a < (c.maxRetries : Int))) := by
  have hna : n - heldUnits c r = a := by omega
  rw [retry_eq, if_neg hrem, if_neg (by decide), hna, ← canCreate_iff c.maxRetries a ha]
  cases canCreate c.maxRetries a <;> simp [ShouldRetry, RetryOverflow]

theorem retry_spec (c : Cfg) (chk : Bool) (r : RetryState) (n : Int) :
    let res := retry (retryOps c chk) (r, n)
    (res.2 = ShouldRetry ∨ res.2 = NoRetry ∨ res.2 = RetryOverflow) ∧
    (res.1.1.held = decide (res.2 = ShouldRetry)) ∧
    res.1.1.remaining ≤ r.remaining ∧
    (res.2 = ShouldRetry → res.1.1.remaining < r.remaining) ∧
    res.1.2 - heldUnits c res.1.1 = n - heldUnits c r := by
  simp only [retry_eq]
  split
  · simp [ShouldRetry, NoRetry, heldUnits]
  split
  · simp [ShouldRetry, NoRetry, heldUnits]
  split
  · simp [ShouldRetry, NoRetry, RetryOverflow, heldUnits]
  · simp only [increase_eq, heldUnits]
    by_cases hm : c.maxRetries = 0 <;> simp [hm, ShouldRetry] <;> omega

end MosnVerif.Model.Downstream
