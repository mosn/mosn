import MosnVerif.Model.DownstreamBackoff
import MosnVerif.Lemmas.Downstream.Tails
import MosnVerif.Lemmas.Downstream.Path
/-!
Which functions of the machine call `ConnectionPool.NewStream`.

`att t` are the attempt events (`un` admitted / `uf` refused) of a trace.  Everything `processError` does — the answer to an
upstream reset, the retry set-up, the clean-up of the stream — appends only resets of upstream streams, downstream resets
and the access log: `finishPhase` never creates an attempt.  The only creators are `upstreamRequest.appendHeaders` in
`receiveHeaders` and in `doRetry`, both behind the regenerated guard `processDone()`.
-/
namespace MosnVerif.Model.Downstream
open MosnVerif.Gen.ProxyPhase MosnVerif.Gen.ProxyReason MosnVerif.Gen.ProxyRetry

/-- the attempt events of a trace -/
def att (t : List Ev) : List Ev := t.filter attemptEv

theorem att_append (t u : List Ev) : att (t ++ u) = att t ++ att u := by simp [att]

/-- `t` has the attempts of `s`: the same attempt events in the trace, the same number of client streams -/
def NoAtt (s t : S) : Prop := att t.trace = att s.trace ∧ t.streams.length = s.streams.length

theorem NoAtt.refl (s : S) : NoAtt s s := ⟨rfl, rfl⟩
theorem NoAtt.trans {s t u : S} (h1 : NoAtt s t) (h2 : NoAtt t u) : NoAtt s u := ⟨Eq.trans h2.1 h1.1, Eq.trans h2.2 h1.2⟩
theorem NoAtt.of_trace {s t : S} (h : t.trace = s.trace)
    (hs : t.streams.length = s.streams.length := by first | rfl | simp) : NoAtt s t := by
  unfold NoAtt; rw [h]; exact ⟨rfl, hs⟩
theorem NoAtt.of_append {s t : S} (l : List Ev) (h : t.trace = s.trace ++ l) (hl : att l = [])
    (hs : t.streams.length = s.streams.length := by first | rfl | simp) : NoAtt s t := by
  unfold NoAtt; rw [h, att_append, hl, List.append_nil]; exact ⟨rfl, hs⟩

theorem setStream_len (l : List Stream) (k : Nat) (f : Stream → Stream) : (setStream l k f).length = l.length :=
  setStream_length l k f

@[simp] theorem destroyStream_len (c : Cfg) (s : S) (k : Nat) : (destroyStream c s k).streams.length = s.streams.length := by
  unfold destroyStream; simp only; split <;> simp

@[simp] theorem resetUpstream_len (c : Cfg) (s : S) : (resetUpstream c s).streams.length = s.streams.length := by
  unfold resetUpstream; split
  · simp
  · rfl

theorem noAtt_resetUpstream (c : Cfg) (s : S) : NoAtt s (resetUpstream c s) := by
  unfold resetUpstream
  split
  · rename_i k _
    by_cases hl : streamLive s k = true
    · exact NoAtt.of_append [.ur k] (by simp [hl]) (by simp [att, attemptEv])
    · exact NoAtt.of_trace (by simp [hl])
  · exact NoAtt.refl s

/-- no primitive update but `NewStream` creates an attempt -/
theorem noAtt_upd {c : Cfg} {k : Kind} {s t : S} (hk : k ≠ .attempt) (u : Upd c k s t) : NoAtt s t := by
  cases u with
  | frame h => exact NoAtt.of_trace h.trace (by rw [h.streams])
  | resetUpstream => exact noAtt_resetUpstream c s
  | emit _ e he => exact NoAtt.of_append [e] rfl (by simp [att, he])
  | newStream => exact absurd rfl hk
  | _ => exact ⟨rfl, rfl⟩

/-- **`processError` creates no upstream attempt**: the end of every phase — answering an upstream reset, setting a retry
up, cleaning the stream after the client left — appends only resets and the access log -/
theorem noAtt_finishPhase (c : Cfg) (s : S) : NoAtt s (finishPhase c s) :=
  (path_finishPhase c s).rel NoAtt.refl NoAtt.trans (fun hk => noAtt_upd (by rintro rfl; simp at hk))

/-- after its sleep `doRetry` creates no attempt — no `NewStream`, admitted or refused, no new client stream — when the client
has left meanwhile, an upstream reset (the global timeout) is pending, a local reply is pending, or the expiry of the
global timeout was recorded -/
theorem doRetry_no_attempt (c : Cfg) (s : S)
    (h : s.direct = true ∨ (s.globalExpired = true ∧ s.up.isSome = true) ∨ s.downReset = true ∨ s.upReset = true) :
    NoAtt s (doRetry c s) ∧ (doRetry c s).streams = s.streams := by
  rw [doRetry_eq]
  split
  · exact ⟨NoAtt.refl s, rfl⟩
  rename_i hdt
  split
  · exact ⟨NoAtt.of_trace (by simp [upOnResetStream]), by simp [upOnResetStream]⟩
  rename_i hex
  have hpd : processDone s = true := by
    rcases h with h | h | h | h
    · exact absurd h hdt
    · exact absurd (by simp [h.1, h.2]) hex
    · simp [processDone, h]
    · simp [processDone, h]
  by_cases hg : s.hostsGone = true
  · unfold doRetryBody
    rw [if_pos hg]
    constructor
    · exact NoAtt.of_trace (by split <;> simp [sendHijack]) (by split <;> simp [sendHijack])
    · split <;> simp [sendHijack]
  · -- every send call is guarded by `processDone()`; the timers touch neither trace nor streams
    have hp1 : processDone ({ s with up := some none, setupRetry := false } : S) = true := hpd
    rw [doRetryBody_send c s (by simpa using hg), upAppendHeaders_of_done c _ _ hp1, sendRest_done c _ hp1, armTimers_frame]
    exact ⟨NoAtt.of_trace rfl, rfl⟩

end MosnVerif.Model.Downstream
