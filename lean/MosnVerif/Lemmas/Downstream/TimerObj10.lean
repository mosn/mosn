import MosnVerif.Lemmas.Downstream.Budget10
/-!
**The global timer object**: `doRetry` decides with `s.responseTimer != nil` whether it arms both timers or only the
per-try timer.  The machine writes that test as `hasTimerObj s = (gtObj || global) && reqSent` (so that the main invariant needs
no fact about the pointer field); here: on every reachable state an armed timer has an object and an object exists only after
the request was sent (`global → gtObj → reqSent`), hence `hasTimerObj s = s.gtObj` — the test of the machine IS the test on the
pointer field `gtObj` (set where the timer is created, kept when it fires or is stopped, forgotten by `cleanUp`).

Every primitive update of the worker keeps this (`tobj_upd`), and so does every label on a state of the main invariant (which
says that a late frame during the back-off finds nobody).
-/
namespace MosnVerif.Model.Downstream
open MosnVerif.Gen.ProxyPhase MosnVerif.Gen.ProxyReason MosnVerif.Gen.ProxyRetry

/-- the three fields the argument looks at -/
def tk (s : S) : Bool × Bool × Bool := (s.global, s.gtObj, s.reqSent)

/-- the object invariant -/
def TObj (s : S) : Prop := (s.global = true → s.gtObj = true) ∧ (s.gtObj = true → s.reqSent = true)

/-- a step that at most stops the timer -/
theorem TObj.of_le {s t : S} (h : TObj s) (hg : t.global = true → s.global = true) (ho : t.gtObj = s.gtObj)
    (hr : t.reqSent = s.reqSent) : TObj t :=
  ⟨fun x => by rw [ho]; exact h.1 (hg x), fun x => by rw [hr]; exact h.2 (by rw [← ho]; exact x)⟩

theorem TObj.of_key {s t : S} (h : TObj s) (e : tk t = tk s) : TObj t := by
  simp only [tk, Prod.mk.injEq] at e
  exact h.of_le (fun x => by rw [← e.1]; exact x) e.2.1 e.2.2

@[simp] theorem tk_resetUpstream (c : Cfg) (s : S) : tk (resetUpstream c s) = tk s := by
  rw [resetUpstream_frame]; rfl
@[simp] theorem resetUpstream_gtObj (c : Cfg) (s : S) : (resetUpstream c s).gtObj = s.gtObj := by
  rw [resetUpstream_frame]
@[simp] theorem tk_destroyStream (c : Cfg) (s : S) (k : Nat) : tk (destroyStream c s k) = tk s := rfl
@[simp] theorem tk_rsRetry (c : Cfg) (s : S) (r : Option Reason) : tk (rsRetry c s r).1 = tk s := rfl
@[simp] theorem tk_sendHijack (s : S) (code : Nat) (b : Bool) : tk (sendHijack s code b) = tk s := rfl
@[simp] theorem tk_upOnResetStream (s : S) (r : Reason) : tk (upOnResetStream s r) = tk s := rfl

/-- every primitive update keeps the object invariant: `cleanUp` stops the timer AND forgets the object; `onUpstreamRequestSent` —
the one arm site — creates the object with the timer and marks the request sent -/
theorem tobj_upd {c : Cfg} {k : Kind} {s t : S} (u : Upd c k s t) (h : TObj s) : TObj t := by
  cases u with
  | frame f => exact h.of_le (by rw [f.global]; exact id) f.gtObj f.reqSent
  | resetUpstream => exact h.of_key (tk_resetUpstream c s)
  | cleanUp => exact ⟨fun x => by simp [cleanUp] at x, fun x => by simp [cleanUp] at x⟩
  | sent =>
    refine ⟨fun x => ?_, fun _ => rfl⟩
    simp only [onUpstreamRequestSent, Bool.or_eq_true] at x ⊢
    exact x.imp h.1 id
  | sentMark => exact ⟨h.1, fun _ => rfl⟩
  | _ => exact h.of_key rfl

theorem tobj_work (c : Cfg) (s : S) (h : TObj s) : TObj (work c s) :=
  (path_work c s).keeps (fun _ => tobj_upd) h

/-- every label: the worker's by `tobj_work`; the callbacks of other goroutines at most stop the timer -/
theorem tobj_step (c : Cfg) (ar aq : Nat) (s : S) (l : Label) (hi : Inv c ar aq s) (h : TObj s) : TObj (step c s l) :=
  step_split hi l h (fun _ _ => tobj_work c s h) fun _ a => h.of_le a.frame.global a.frame.gtObj a.frame.reqSent

/-- **the timer object on every schedule**: an armed global timer has an object, an object exists only once the request was
sent -/
theorem timer_object_run (c : Cfg) (ar aq : Nat) (l : List Label) : TObj (run c (init ar aq) l) :=
  run_inv c ar aq (tobj_step c ar aq) (inv_init c ar aq) ⟨fun h => by simp [init] at h, fun h => by simp [init] at h⟩ l

/-- **`hasTimerObj` is the pointer test**: on every reachable state the machine's reading of `s.responseTimer != nil` equals
the field `gtObj` -/
theorem hasTimerObj_eq (c : Cfg) (ar aq : Nat) (l : List Label) :
    hasTimerObj (run c (init ar aq) l) = (run c (init ar aq) l).gtObj := by
  have h := timer_object_run c ar aq l
  generalize run c (init ar aq) l = s at h ⊢
  unfold hasTimerObj
  unfold TObj at h
  revert h
  cases s.global <;> cases s.gtObj <;> cases s.reqSent <;> simp

end MosnVerif.Model.Downstream
