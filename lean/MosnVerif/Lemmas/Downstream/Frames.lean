import MosnVerif.Lemmas.Downstream.Retry
/-! GENERATED by genframes.py (checked into the tree): frame lemmas — the fields each helper of the machine leaves untouched -/
namespace MosnVerif.Model.Downstream
open MosnVerif.Gen.ProxyPhase MosnVerif.Gen.ProxyReason

@[simp] theorem destroyStream_phase (c : Cfg) (s : S) (k : Nat) : (destroyStream c s k).phase = s.phase := by rfl
@[simp] theorem destroyStream_pass (c : Cfg) (s : S) (k : Nat) : (destroyStream c s k).pass = s.pass := by rfl
@[simp] theorem destroyStream_running (c : Cfg) (s : S) (k : Nat) : (destroyStream c s k).running = s.running := by rfl
@[simp] theorem destroyStream_urr (c : Cfg) (s : S) (k : Nat) : (destroyStream c s k).urr = s.urr := by rfl
@[simp] theorem destroyStream_cleaned (c : Cfg) (s : S) (k : Nat) : (destroyStream c s k).cleaned = s.cleaned := by rfl
@[simp] theorem destroyStream_upReset (c : Cfg) (s : S) (k : Nat) : (destroyStream c s k).upReset = s.upReset := by rfl
@[simp] theorem destroyStream_downReset (c : Cfg) (s : S) (k : Nat) : (destroyStream c s k).downReset = s.downReset := by rfl
@[simp] theorem destroyStream_resetReason (c : Cfg) (s : S) (k : Nat) : (destroyStream c s k).resetReason = s.resetReason := by rfl
@[simp] theorem destroyStream_respStarted (c : Cfg) (s : S) (k : Nat) : (destroyStream c s k).respStarted = s.respStarted := by rfl
@[simp] theorem destroyStream_recvDone (c : Cfg) (s : S) (k : Nat) : (destroyStream c s k).recvDone = s.recvDone := by rfl
@[simp] theorem destroyStream_reqSent (c : Cfg) (s : S) (k : Nat) : (destroyStream c s k).reqSent = s.reqSent := by rfl
@[simp] theorem destroyStream_procDone (c : Cfg) (s : S) (k : Nat) : (destroyStream c s k).procDone = s.procDone := by rfl
@[simp] theorem destroyStream_direct (c : Cfg) (s : S) (k : Nat) : (destroyStream c s k).direct = s.direct := by rfl
@[simp] theorem destroyStream_notify (c : Cfg) (s : S) (k : Nat) : (destroyStream c s k).notify = s.notify := by rfl
@[simp] theorem destroyStream_setupRetry (c : Cfg) (s : S) (k : Nat) : (destroyStream c s k).setupRetry = s.setupRetry := by rfl
@[simp] theorem destroyStream_rs (c : Cfg) (s : S) (k : Nat) : (destroyStream c s k).rs = s.rs := by rfl
@[simp] theorem destroyStream_up (c : Cfg) (s : S) (k : Nat) : (destroyStream c s k).up = s.up := by rfl
@[simp] theorem destroyStream_downLive (c : Cfg) (s : S) (k : Nat) : (destroyStream c s k).downLive = s.downLive := by rfl
@[simp] theorem destroyStream_resp (c : Cfg) (s : S) (k : Nat) : (destroyStream c s k).resp = s.resp := by rfl
@[simp] theorem destroyStream_respCode (c : Cfg) (s : S) (k : Nat) : (destroyStream c s k).respCode = s.respCode := by rfl
@[simp] theorem destroyStream_flags (c : Cfg) (s : S) (k : Nat) : (destroyStream c s k).flags = s.flags := by rfl
@[simp] theorem destroyStream_statusVar (c : Cfg) (s : S) (k : Nat) : (destroyStream c s k).statusVar = s.statusVar := by rfl
@[simp] theorem destroyStream_perTry (c : Cfg) (s : S) (k : Nat) : (destroyStream c s k).perTry = s.perTry := by rfl
@[simp] theorem destroyStream_global (c : Cfg) (s : S) (k : Nat) : (destroyStream c s k).global = s.global := by rfl
@[simp] theorem destroyStream_failNext (c : Cfg) (s : S) (k : Nat) : (destroyStream c s k).failNext = s.failNext := by rfl
@[simp] theorem destroyStream_hostsGone (c : Cfg) (s : S) (k : Nat) : (destroyStream c s k).hostsGone = s.hostsGone := by rfl
@[simp] theorem destroyStream_globalExpired (c : Cfg) (s : S) (k : Nat) : (destroyStream c s k).globalExpired = s.globalExpired := by rfl
@[simp] theorem destroyStream_retries (c : Cfg) (s : S) (k : Nat) : (destroyStream c s k).retries = s.retries := by rfl
@[simp] theorem destroyStream_downActive (c : Cfg) (s : S) (k : Nat) : (destroyStream c s k).downActive = s.downActive := by rfl
@[simp] theorem destroyStream_trace (c : Cfg) (s : S) (k : Nat) : (destroyStream c s k).trace = s.trace := by rfl
@[simp] theorem destroyStream_hTok (c : Cfg) (s : S) (k : Nat) : (destroyStream c s k).hTok = s.hTok := by rfl
@[simp] theorem destroyStream_dTok (c : Cfg) (s : S) (k : Nat) : (destroyStream c s k).dTok = s.dTok := by rfl
@[simp] theorem destroyStream_tTok (c : Cfg) (s : S) (k : Nat) : (destroyStream c s k).tTok = s.tTok := by rfl
@[simp] theorem destroyStream_gtGen (c : Cfg) (s : S) (k : Nat) : (destroyStream c s k).gtGen = s.gtGen := by rfl

theorem resetUpstream_frame (c : Cfg) (s : S) : resetUpstream c s = { s with streams := (resetUpstream c s).streams, requests := (resetUpstream c s).requests, upActive := (resetUpstream c s).upActive, trace := (resetUpstream c s).trace } := by
  unfold resetUpstream; cases curStream s <;> rfl
@[simp] theorem resetUpstream_phase (c : Cfg) (s : S) : (resetUpstream c s).phase = s.phase := by rw [resetUpstream_frame]
@[simp] theorem resetUpstream_pass (c : Cfg) (s : S) : (resetUpstream c s).pass = s.pass := by rw [resetUpstream_frame]
@[simp] theorem resetUpstream_running (c : Cfg) (s : S) : (resetUpstream c s).running = s.running := by rw [resetUpstream_frame]
@[simp] theorem resetUpstream_urr (c : Cfg) (s : S) : (resetUpstream c s).urr = s.urr := by rw [resetUpstream_frame]
@[simp] theorem resetUpstream_cleaned (c : Cfg) (s : S) : (resetUpstream c s).cleaned = s.cleaned := by rw [resetUpstream_frame]
@[simp] theorem resetUpstream_upReset (c : Cfg) (s : S) : (resetUpstream c s).upReset = s.upReset := by rw [resetUpstream_frame]
@[simp] theorem resetUpstream_downReset (c : Cfg) (s : S) : (resetUpstream c s).downReset = s.downReset := by rw [resetUpstream_frame]
@[simp] theorem resetUpstream_resetReason (c : Cfg) (s : S) : (resetUpstream c s).resetReason = s.resetReason := by rw [resetUpstream_frame]
@[simp] theorem resetUpstream_respStarted (c : Cfg) (s : S) : (resetUpstream c s).respStarted = s.respStarted := by rw [resetUpstream_frame]
@[simp] theorem resetUpstream_recvDone (c : Cfg) (s : S) : (resetUpstream c s).recvDone = s.recvDone := by rw [resetUpstream_frame]
@[simp] theorem resetUpstream_reqSent (c : Cfg) (s : S) : (resetUpstream c s).reqSent = s.reqSent := by rw [resetUpstream_frame]
@[simp] theorem resetUpstream_procDone (c : Cfg) (s : S) : (resetUpstream c s).procDone = s.procDone := by rw [resetUpstream_frame]
@[simp] theorem resetUpstream_direct (c : Cfg) (s : S) : (resetUpstream c s).direct = s.direct := by rw [resetUpstream_frame]
@[simp] theorem resetUpstream_notify (c : Cfg) (s : S) : (resetUpstream c s).notify = s.notify := by rw [resetUpstream_frame]
@[simp] theorem resetUpstream_setupRetry (c : Cfg) (s : S) : (resetUpstream c s).setupRetry = s.setupRetry := by rw [resetUpstream_frame]
@[simp] theorem resetUpstream_rs (c : Cfg) (s : S) : (resetUpstream c s).rs = s.rs := by rw [resetUpstream_frame]
@[simp] theorem resetUpstream_up (c : Cfg) (s : S) : (resetUpstream c s).up = s.up := by rw [resetUpstream_frame]
@[simp] theorem resetUpstream_downLive (c : Cfg) (s : S) : (resetUpstream c s).downLive = s.downLive := by rw [resetUpstream_frame]
@[simp] theorem resetUpstream_resp (c : Cfg) (s : S) : (resetUpstream c s).resp = s.resp := by rw [resetUpstream_frame]
@[simp] theorem resetUpstream_respCode (c : Cfg) (s : S) : (resetUpstream c s).respCode = s.respCode := by rw [resetUpstream_frame]
@[simp] theorem resetUpstream_flags (c : Cfg) (s : S) : (resetUpstream c s).flags = s.flags := by rw [resetUpstream_frame]
@[simp] theorem resetUpstream_statusVar (c : Cfg) (s : S) : (resetUpstream c s).statusVar = s.statusVar := by rw [resetUpstream_frame]
@[simp] theorem resetUpstream_perTry (c : Cfg) (s : S) : (resetUpstream c s).perTry = s.perTry := by rw [resetUpstream_frame]
@[simp] theorem resetUpstream_global (c : Cfg) (s : S) : (resetUpstream c s).global = s.global := by rw [resetUpstream_frame]
@[simp] theorem resetUpstream_failNext (c : Cfg) (s : S) : (resetUpstream c s).failNext = s.failNext := by rw [resetUpstream_frame]
@[simp] theorem resetUpstream_hostsGone (c : Cfg) (s : S) : (resetUpstream c s).hostsGone = s.hostsGone := by rw [resetUpstream_frame]
@[simp] theorem resetUpstream_globalExpired (c : Cfg) (s : S) : (resetUpstream c s).globalExpired = s.globalExpired := by rw [resetUpstream_frame]
@[simp] theorem resetUpstream_retries (c : Cfg) (s : S) : (resetUpstream c s).retries = s.retries := by rw [resetUpstream_frame]
@[simp] theorem resetUpstream_downActive (c : Cfg) (s : S) : (resetUpstream c s).downActive = s.downActive := by rw [resetUpstream_frame]
@[simp] theorem resetUpstream_hTok (c : Cfg) (s : S) : (resetUpstream c s).hTok = s.hTok := by rw [resetUpstream_frame]
@[simp] theorem resetUpstream_dTok (c : Cfg) (s : S) : (resetUpstream c s).dTok = s.dTok := by rw [resetUpstream_frame]
@[simp] theorem resetUpstream_tTok (c : Cfg) (s : S) : (resetUpstream c s).tTok = s.tTok := by rw [resetUpstream_frame]
@[simp] theorem resetUpstream_gtGen (c : Cfg) (s : S) : (resetUpstream c s).gtGen = s.gtGen := by rw [resetUpstream_frame]

@[simp] theorem rsReset_phase (c : Cfg) (s : S) : (rsReset c s).phase = s.phase := by rfl
@[simp] theorem rsReset_pass (c : Cfg) (s : S) : (rsReset c s).pass = s.pass := by rfl
@[simp] theorem rsReset_running (c : Cfg) (s : S) : (rsReset c s).running = s.running := by rfl
@[simp] theorem rsReset_urr (c : Cfg) (s : S) : (rsReset c s).urr = s.urr := by rfl
@[simp] theorem rsReset_cleaned (c : Cfg) (s : S) : (rsReset c s).cleaned = s.cleaned := by rfl
@[simp] theorem rsReset_upReset (c : Cfg) (s : S) : (rsReset c s).upReset = s.upReset := by rfl
@[simp] theorem rsReset_downReset (c : Cfg) (s : S) : (rsReset c s).downReset = s.downReset := by rfl
@[simp] theorem rsReset_resetReason (c : Cfg) (s : S) : (rsReset c s).resetReason = s.resetReason := by rfl
@[simp] theorem rsReset_respStarted (c : Cfg) (s : S) : (rsReset c s).respStarted = s.respStarted := by rfl
@[simp] theorem rsReset_recvDone (c : Cfg) (s : S) : (rsReset c s).recvDone = s.recvDone := by rfl
@[simp] theorem rsReset_reqSent (c : Cfg) (s : S) : (rsReset c s).reqSent = s.reqSent := by rfl
@[simp] theorem rsReset_procDone (c : Cfg) (s : S) : (rsReset c s).procDone = s.procDone := by rfl
@[simp] theorem rsReset_direct (c : Cfg) (s : S) : (rsReset c s).direct = s.direct := by rfl
@[simp] theorem rsReset_notify (c : Cfg) (s : S) : (rsReset c s).notify = s.notify := by rfl
@[simp] theorem rsReset_setupRetry (c : Cfg) (s : S) : (rsReset c s).setupRetry = s.setupRetry := by rfl
@[simp] theorem rsReset_up (c : Cfg) (s : S) : (rsReset c s).up = s.up := by rfl
@[simp] theorem rsReset_streams (c : Cfg) (s : S) : (rsReset c s).streams = s.streams := by rfl
@[simp] theorem rsReset_downLive (c : Cfg) (s : S) : (rsReset c s).downLive = s.downLive := by rfl
@[simp] theorem rsReset_resp (c : Cfg) (s : S) : (rsReset c s).resp = s.resp := by rfl
@[simp] theorem rsReset_respCode (c : Cfg) (s : S) : (rsReset c s).respCode = s.respCode := by rfl
@[simp] theorem rsReset_flags (c : Cfg) (s : S) : (rsReset c s).flags = s.flags := by rfl
@[simp] theorem rsReset_statusVar (c : Cfg) (s : S) : (rsReset c s).statusVar = s.statusVar := by rfl
@[simp] theorem rsReset_perTry (c : Cfg) (s : S) : (rsReset c s).perTry = s.perTry := by rfl
@[simp] theorem rsReset_global (c : Cfg) (s : S) : (rsReset c s).global = s.global := by rfl
@[simp] theorem rsReset_failNext (c : Cfg) (s : S) : (rsReset c s).failNext = s.failNext := by rfl
@[simp] theorem rsReset_hostsGone (c : Cfg) (s : S) : (rsReset c s).hostsGone = s.hostsGone := by rfl
@[simp] theorem rsReset_globalExpired (c : Cfg) (s : S) : (rsReset c s).globalExpired = s.globalExpired := by rfl
@[simp] theorem rsReset_requests (c : Cfg) (s : S) : (rsReset c s).requests = s.requests := by rfl
@[simp] theorem rsReset_upActive (c : Cfg) (s : S) : (rsReset c s).upActive = s.upActive := by rfl
@[simp] theorem rsReset_downActive (c : Cfg) (s : S) : (rsReset c s).downActive = s.downActive := by rfl
@[simp] theorem rsReset_trace (c : Cfg) (s : S) : (rsReset c s).trace = s.trace := by rfl
@[simp] theorem rsReset_hTok (c : Cfg) (s : S) : (rsReset c s).hTok = s.hTok := by rfl
@[simp] theorem rsReset_dTok (c : Cfg) (s : S) : (rsReset c s).dTok = s.dTok := by rfl
@[simp] theorem rsReset_tTok (c : Cfg) (s : S) : (rsReset c s).tTok = s.tTok := by rfl
@[simp] theorem rsReset_gtGen (c : Cfg) (s : S) : (rsReset c s).gtGen = s.gtGen := by rfl

@[simp] theorem rsRetry_phase (c : Cfg) (s : S) (r : Option Reason) : ((rsRetry c s r).1).phase = s.phase := by rfl
@[simp] theorem rsRetry_pass (c : Cfg) (s : S) (r : Option Reason) : ((rsRetry c s r).1).pass = s.pass := by rfl
@[simp] theorem rsRetry_running (c : Cfg) (s : S) (r : Option Reason) : ((rsRetry c s r).1).running = s.running := by rfl
@[simp] theorem rsRetry_urr (c : Cfg) (s : S) (r : Option Reason) : ((rsRetry c s r).1).urr = s.urr := by rfl
@[simp] theorem rsRetry_cleaned (c : Cfg) (s : S) (r : Option Reason) : ((rsRetry c s r).1).cleaned = s.cleaned := by rfl
@[simp] theorem rsRetry_upReset (c : Cfg) (s : S) (r : Option Reason) : ((rsRetry c s r).1).upReset = s.upReset := by rfl
@[simp] theorem rsRetry_downReset (c : Cfg) (s : S) (r : Option Reason) : ((rsRetry c s r).1).downReset = s.downReset := by rfl
@[simp] theorem rsRetry_resetReason (c : Cfg) (s : S) (r : Option Reason) : ((rsRetry c s r).1).resetReason = s.resetReason := by rfl
@[simp] theorem rsRetry_respStarted (c : Cfg) (s : S) (r : Option Reason) : ((rsRetry c s r).1).respStarted = s.respStarted := by rfl
@[simp] theorem rsRetry_recvDone (c : Cfg) (s : S) (r : Option Reason) : ((rsRetry c s r).1).recvDone = s.recvDone := by rfl
@[simp] theorem rsRetry_reqSent (c : Cfg) (s : S) (r : Option Reason) : ((rsRetry c s r).1).reqSent = s.reqSent := by rfl
@[simp] theorem rsRetry_procDone (c : Cfg) (s : S) (r : Option Reason) : ((rsRetry c s r).1).procDone = s.procDone := by rfl
@[simp] theorem rsRetry_direct (c : Cfg) (s : S) (r : Option Reason) : ((rsRetry c s r).1).direct = s.direct := by rfl
@[simp] theorem rsRetry_notify (c : Cfg) (s : S) (r : Option Reason) : ((rsRetry c s r).1).notify = s.notify := by rfl
@[simp] theorem rsRetry_setupRetry (c : Cfg) (s : S) (r : Option Reason) : ((rsRetry c s r).1).setupRetry = s.setupRetry := by rfl
@[simp] theorem rsRetry_up (c : Cfg) (s : S) (r : Option Reason) : ((rsRetry c s r).1).up = s.up := by rfl
@[simp] theorem rsRetry_streams (c : Cfg) (s : S) (r : Option Reason) : ((rsRetry c s r).1).streams = s.streams := by rfl
@[simp] theorem rsRetry_downLive (c : Cfg) (s : S) (r : Option Reason) : ((rsRetry c s r).1).downLive = s.downLive := by rfl
@[simp] theorem rsRetry_resp (c : Cfg) (s : S) (r : Option Reason) : ((rsRetry c s r).1).resp = s.resp := by rfl
@[simp] theorem rsRetry_respCode (c : Cfg) (s : S) (r : Option Reason) : ((rsRetry c s r).1).respCode = s.respCode := by rfl
@[simp] theorem rsRetry_flags (c : Cfg) (s : S) (r : Option Reason) : ((rsRetry c s r).1).flags = s.flags := by rfl
@[simp] theorem rsRetry_statusVar (c : Cfg) (s : S) (r : Option Reason) : ((rsRetry c s r).1).statusVar = s.statusVar := by rfl
@[simp] theorem rsRetry_perTry (c : Cfg) (s : S) (r : Option Reason) : ((rsRetry c s r).1).perTry = s.perTry := by rfl
@[simp] theorem rsRetry_global (c : Cfg) (s : S) (r : Option Reason) : ((rsRetry c s r).1).global = s.global := by rfl
@[simp] theorem rsRetry_failNext (c : Cfg) (s : S) (r : Option Reason) : ((rsRetry c s r).1).failNext = s.failNext := by rfl
@[simp] theorem rsRetry_hostsGone (c : Cfg) (s : S) (r : Option Reason) : ((rsRetry c s r).1).hostsGone = s.hostsGone := by rfl
@[simp] theorem rsRetry_globalExpired (c : Cfg) (s : S) (r : Option Reason) : ((rsRetry c s r).1).globalExpired = s.globalExpired := by rfl
@[simp] theorem rsRetry_requests (c : Cfg) (s : S) (r : Option Reason) : ((rsRetry c s r).1).requests = s.requests := by rfl
@[simp] theorem rsRetry_upActive (c : Cfg) (s : S) (r : Option Reason) : ((rsRetry c s r).1).upActive = s.upActive := by rfl
@[simp] theorem rsRetry_downActive (c : Cfg) (s : S) (r : Option Reason) : ((rsRetry c s r).1).downActive = s.downActive := by rfl
@[simp] theorem rsRetry_trace (c : Cfg) (s : S) (r : Option Reason) : ((rsRetry c s r).1).trace = s.trace := by rfl
@[simp] theorem rsRetry_hTok (c : Cfg) (s : S) (r : Option Reason) : ((rsRetry c s r).1).hTok = s.hTok := by rfl
@[simp] theorem rsRetry_dTok (c : Cfg) (s : S) (r : Option Reason) : ((rsRetry c s r).1).dTok = s.dTok := by rfl
@[simp] theorem rsRetry_tTok (c : Cfg) (s : S) (r : Option Reason) : ((rsRetry c s r).1).tTok = s.tTok := by rfl
@[simp] theorem rsRetry_gtGen (c : Cfg) (s : S) (r : Option Reason) : ((rsRetry c s r).1).gtGen = s.gtGen := by rfl

@[simp] theorem cleanUp_phase (c : Cfg) (s : S) : (cleanUp c s).phase = s.phase := by rfl
@[simp] theorem cleanUp_pass (c : Cfg) (s : S) : (cleanUp c s).pass = s.pass := by rfl
@[simp] theorem cleanUp_running (c : Cfg) (s : S) : (cleanUp c s).running = s.running := by rfl
@[simp] theorem cleanUp_urr (c : Cfg) (s : S) : (cleanUp c s).urr = s.urr := by rfl
@[simp] theorem cleanUp_cleaned (c : Cfg) (s : S) : (cleanUp c s).cleaned = s.cleaned := by rfl
@[simp] theorem cleanUp_upReset (c : Cfg) (s : S) : (cleanUp c s).upReset = s.upReset := by rfl
@[simp] theorem cleanUp_downReset (c : Cfg) (s : S) : (cleanUp c s).downReset = s.downReset := by rfl
@[simp] theorem cleanUp_resetReason (c : Cfg) (s : S) : (cleanUp c s).resetReason = s.resetReason := by rfl
@[simp] theorem cleanUp_respStarted (c : Cfg) (s : S) : (cleanUp c s).respStarted = s.respStarted := by rfl
@[simp] theorem cleanUp_recvDone (c : Cfg) (s : S) : (cleanUp c s).recvDone = s.recvDone := by rfl
@[simp] theorem cleanUp_reqSent (c : Cfg) (s : S) : (cleanUp c s).reqSent = s.reqSent := by rfl
@[simp] theorem cleanUp_procDone (c : Cfg) (s : S) : (cleanUp c s).procDone = s.procDone := by rfl
@[simp] theorem cleanUp_direct (c : Cfg) (s : S) : (cleanUp c s).direct = s.direct := by rfl
@[simp] theorem cleanUp_notify (c : Cfg) (s : S) : (cleanUp c s).notify = s.notify := by rfl
@[simp] theorem cleanUp_setupRetry (c : Cfg) (s : S) : (cleanUp c s).setupRetry = s.setupRetry := by rfl
@[simp] theorem cleanUp_up (c : Cfg) (s : S) : (cleanUp c s).up = s.up := by rfl
@[simp] theorem cleanUp_streams (c : Cfg) (s : S) : (cleanUp c s).streams = s.streams := by rfl
@[simp] theorem cleanUp_downLive (c : Cfg) (s : S) : (cleanUp c s).downLive = s.downLive := by rfl
@[simp] theorem cleanUp_resp (c : Cfg) (s : S) : (cleanUp c s).resp = s.resp := by rfl
@[simp] theorem cleanUp_respCode (c : Cfg) (s : S) : (cleanUp c s).respCode = s.respCode := by rfl
@[simp] theorem cleanUp_flags (c : Cfg) (s : S) : (cleanUp c s).flags = s.flags := by rfl
@[simp] theorem cleanUp_statusVar (c : Cfg) (s : S) : (cleanUp c s).statusVar = s.statusVar := by rfl
@[simp] theorem cleanUp_failNext (c : Cfg) (s : S) : (cleanUp c s).failNext = s.failNext := by rfl
@[simp] theorem cleanUp_hostsGone (c : Cfg) (s : S) : (cleanUp c s).hostsGone = s.hostsGone := by rfl
@[simp] theorem cleanUp_globalExpired (c : Cfg) (s : S) : (cleanUp c s).globalExpired = s.globalExpired := by rfl
@[simp] theorem cleanUp_requests (c : Cfg) (s : S) : (cleanUp c s).requests = s.requests := by rfl
@[simp] theorem cleanUp_upActive (c : Cfg) (s : S) : (cleanUp c s).upActive = s.upActive := by rfl
@[simp] theorem cleanUp_downActive (c : Cfg) (s : S) : (cleanUp c s).downActive = s.downActive := by rfl
@[simp] theorem cleanUp_trace (c : Cfg) (s : S) : (cleanUp c s).trace = s.trace := by rfl
@[simp] theorem cleanUp_hTok (c : Cfg) (s : S) : (cleanUp c s).hTok = s.hTok := by rfl
@[simp] theorem cleanUp_dTok (c : Cfg) (s : S) : (cleanUp c s).dTok = s.dTok := by rfl
@[simp] theorem cleanUp_tTok (c : Cfg) (s : S) : (cleanUp c s).tTok = s.tTok := by rfl
@[simp] theorem cleanUp_gtGen (c : Cfg) (s : S) : (cleanUp c s).gtGen = s.gtGen := by rfl

theorem recvFinished_frame (c : Cfg) (s : S) : onUpstreamResponseRecvFinished c s = { s with streams := (onUpstreamResponseRecvFinished c s).streams, requests := (onUpstreamResponseRecvFinished c s).requests, upActive := (onUpstreamResponseRecvFinished c s).upActive, trace := (onUpstreamResponseRecvFinished c s).trace, rs := (onUpstreamResponseRecvFinished c s).rs, retries := (onUpstreamResponseRecvFinished c s).retries, perTry := (onUpstreamResponseRecvFinished c s).perTry, global := (onUpstreamResponseRecvFinished c s).global, gtObj := (onUpstreamResponseRecvFinished c s).gtObj } := by
  unfold onUpstreamResponseRecvFinished; simp only []; split; · rw [resetUpstream_frame]; rfl
  · rfl
@[simp] theorem recvFinished_phase (c : Cfg) (s : S) : (onUpstreamResponseRecvFinished c s).phase = s.phase := by rw [recvFinished_frame]
@[simp] theorem recvFinished_pass (c : Cfg) (s : S) : (onUpstreamResponseRecvFinished c s).pass = s.pass := by rw [recvFinished_frame]
@[simp] theorem recvFinished_running (c : Cfg) (s : S) : (onUpstreamResponseRecvFinished c s).running = s.running := by rw [recvFinished_frame]
@[simp] theorem recvFinished_urr (c : Cfg) (s : S) : (onUpstreamResponseRecvFinished c s).urr = s.urr := by rw [recvFinished_frame]
@[simp] theorem recvFinished_cleaned (c : Cfg) (s : S) : (onUpstreamResponseRecvFinished c s).cleaned = s.cleaned := by rw [recvFinished_frame]
@[simp] theorem recvFinished_upReset (c : Cfg) (s : S) : (onUpstreamResponseRecvFinished c s).upReset = s.upReset := by rw [recvFinished_frame]
@[simp] theorem recvFinished_downReset (c : Cfg) (s : S) : (onUpstreamResponseRecvFinished c s).downReset = s.downReset := by rw [recvFinished_frame]
@[simp] theorem recvFinished_resetReason (c : Cfg) (s : S) : (onUpstreamResponseRecvFinished c s).resetReason = s.resetReason := by rw [recvFinished_frame]
@[simp] theorem recvFinished_respStarted (c : Cfg) (s : S) : (onUpstreamResponseRecvFinished c s).respStarted = s.respStarted := by rw [recvFinished_frame]
@[simp] theorem recvFinished_recvDone (c : Cfg) (s : S) : (onUpstreamResponseRecvFinished c s).recvDone = s.recvDone := by rw [recvFinished_frame]
@[simp] theorem recvFinished_reqSent (c : Cfg) (s : S) : (onUpstreamResponseRecvFinished c s).reqSent = s.reqSent := by rw [recvFinished_frame]
@[simp] theorem recvFinished_procDone (c : Cfg) (s : S) : (onUpstreamResponseRecvFinished c s).procDone = s.procDone := by rw [recvFinished_frame]
@[simp] theorem recvFinished_direct (c : Cfg) (s : S) : (onUpstreamResponseRecvFinished c s).direct = s.direct := by rw [recvFinished_frame]
@[simp] theorem recvFinished_notify (c : Cfg) (s : S) : (onUpstreamResponseRecvFinished c s).notify = s.notify := by rw [recvFinished_frame]
@[simp] theorem recvFinished_setupRetry (c : Cfg) (s : S) : (onUpstreamResponseRecvFinished c s).setupRetry = s.setupRetry := by rw [recvFinished_frame]
@[simp] theorem recvFinished_up (c : Cfg) (s : S) : (onUpstreamResponseRecvFinished c s).up = s.up := by rw [recvFinished_frame]
@[simp] theorem recvFinished_downLive (c : Cfg) (s : S) : (onUpstreamResponseRecvFinished c s).downLive = s.downLive := by rw [recvFinished_frame]
@[simp] theorem recvFinished_resp (c : Cfg) (s : S) : (onUpstreamResponseRecvFinished c s).resp = s.resp := by rw [recvFinished_frame]
@[simp] theorem recvFinished_respCode (c : Cfg) (s : S) : (onUpstreamResponseRecvFinished c s).respCode = s.respCode := by rw [recvFinished_frame]
@[simp] theorem recvFinished_flags (c : Cfg) (s : S) : (onUpstreamResponseRecvFinished c s).flags = s.flags := by rw [recvFinished_frame]
@[simp] theorem recvFinished_statusVar (c : Cfg) (s : S) : (onUpstreamResponseRecvFinished c s).statusVar = s.statusVar := by rw [recvFinished_frame]
@[simp] theorem recvFinished_failNext (c : Cfg) (s : S) : (onUpstreamResponseRecvFinished c s).failNext = s.failNext := by rw [recvFinished_frame]
@[simp] theorem recvFinished_hostsGone (c : Cfg) (s : S) : (onUpstreamResponseRecvFinished c s).hostsGone = s.hostsGone := by rw [recvFinished_frame]
@[simp] theorem recvFinished_globalExpired (c : Cfg) (s : S) : (onUpstreamResponseRecvFinished c s).globalExpired = s.globalExpired := by rw [recvFinished_frame]
@[simp] theorem recvFinished_downActive (c : Cfg) (s : S) : (onUpstreamResponseRecvFinished c s).downActive = s.downActive := by rw [recvFinished_frame]
@[simp] theorem recvFinished_hTok (c : Cfg) (s : S) : (onUpstreamResponseRecvFinished c s).hTok = s.hTok := by rw [recvFinished_frame]
@[simp] theorem recvFinished_dTok (c : Cfg) (s : S) : (onUpstreamResponseRecvFinished c s).dTok = s.dTok := by rw [recvFinished_frame]
@[simp] theorem recvFinished_tTok (c : Cfg) (s : S) : (onUpstreamResponseRecvFinished c s).tTok = s.tTok := by rw [recvFinished_frame]
@[simp] theorem recvFinished_gtGen (c : Cfg) (s : S) : (onUpstreamResponseRecvFinished c s).gtGen = s.gtGen := by rw [recvFinished_frame]

theorem cleanBody_frame (c : Cfg) (s : S) : cleanBody c s = { s with cleaned := (cleanBody c s).cleaned, procDone := (cleanBody c s).procDone, streams := (cleanBody c s).streams, requests := (cleanBody c s).requests, upActive := (cleanBody c s).upActive, trace := (cleanBody c s).trace, rs := (cleanBody c s).rs, retries := (cleanBody c s).retries, perTry := (cleanBody c s).perTry, global := (cleanBody c s).global, gtObj := (cleanBody c s).gtObj, downActive := (cleanBody c s).downActive } := by
  unfold cleanBody; simp only []; split; · rw [resetUpstream_frame]; rfl
  · rfl
@[simp] theorem cleanBody_phase (c : Cfg) (s : S) : (cleanBody c s).phase = s.phase := by rw [cleanBody_frame]
@[simp] theorem cleanBody_pass (c : Cfg) (s : S) : (cleanBody c s).pass = s.pass := by rw [cleanBody_frame]
@[simp] theorem cleanBody_running (c : Cfg) (s : S) : (cleanBody c s).running = s.running := by rw [cleanBody_frame]
@[simp] theorem cleanBody_urr (c : Cfg) (s : S) : (cleanBody c s).urr = s.urr := by rw [cleanBody_frame]
@[simp] theorem cleanBody_upReset (c : Cfg) (s : S) : (cleanBody c s).upReset = s.upReset := by rw [cleanBody_frame]
@[simp] theorem cleanBody_downReset (c : Cfg) (s : S) : (cleanBody c s).downReset = s.downReset := by rw [cleanBody_frame]
@[simp] theorem cleanBody_resetReason (c : Cfg) (s : S) : (cleanBody c s).resetReason = s.resetReason := by rw [cleanBody_frame]
@[simp] theorem cleanBody_respStarted (c : Cfg) (s : S) : (cleanBody c s).respStarted = s.respStarted := by rw [cleanBody_frame]
@[simp] theorem cleanBody_recvDone (c : Cfg) (s : S) : (cleanBody c s).recvDone = s.recvDone := by rw [cleanBody_frame]
@[simp] theorem cleanBody_reqSent (c : Cfg) (s : S) : (cleanBody c s).reqSent = s.reqSent := by rw [cleanBody_frame]
@[simp] theorem cleanBody_direct (c : Cfg) (s : S) : (cleanBody c s).direct = s.direct := by rw [cleanBody_frame]
@[simp] theorem cleanBody_notify (c : Cfg) (s : S) : (cleanBody c s).notify = s.notify := by rw [cleanBody_frame]
@[simp] theorem cleanBody_setupRetry (c : Cfg) (s : S) : (cleanBody c s).setupRetry = s.setupRetry := by rw [cleanBody_frame]
@[simp] theorem cleanBody_up (c : Cfg) (s : S) : (cleanBody c s).up = s.up := by rw [cleanBody_frame]
@[simp] theorem cleanBody_downLive (c : Cfg) (s : S) : (cleanBody c s).downLive = s.downLive := by rw [cleanBody_frame]
@[simp] theorem cleanBody_resp (c : Cfg) (s : S) : (cleanBody c s).resp = s.resp := by rw [cleanBody_frame]
@[simp] theorem cleanBody_respCode (c : Cfg) (s : S) : (cleanBody c s).respCode = s.respCode := by rw [cleanBody_frame]
@[simp] theorem cleanBody_flags (c : Cfg) (s : S) : (cleanBody c s).flags = s.flags := by rw [cleanBody_frame]
@[simp] theorem cleanBody_statusVar (c : Cfg) (s : S) : (cleanBody c s).statusVar = s.statusVar := by rw [cleanBody_frame]
@[simp] theorem cleanBody_failNext (c : Cfg) (s : S) : (cleanBody c s).failNext = s.failNext := by rw [cleanBody_frame]
@[simp] theorem cleanBody_hostsGone (c : Cfg) (s : S) : (cleanBody c s).hostsGone = s.hostsGone := by rw [cleanBody_frame]
@[simp] theorem cleanBody_globalExpired (c : Cfg) (s : S) : (cleanBody c s).globalExpired = s.globalExpired := by rw [cleanBody_frame]
@[simp] theorem cleanBody_hTok (c : Cfg) (s : S) : (cleanBody c s).hTok = s.hTok := by rw [cleanBody_frame]
@[simp] theorem cleanBody_dTok (c : Cfg) (s : S) : (cleanBody c s).dTok = s.dTok := by rw [cleanBody_frame]
@[simp] theorem cleanBody_tTok (c : Cfg) (s : S) : (cleanBody c s).tTok = s.tTok := by rw [cleanBody_frame]
@[simp] theorem cleanBody_gtGen (c : Cfg) (s : S) : (cleanBody c s).gtGen = s.gtGen := by rw [cleanBody_frame]

end MosnVerif.Model.Downstream
