import MosnVerif.Model.Downstream
/-! The regenerated step program of `downStream.doRetry` (`Gen.ProxyBackoff.doRetry`) in closed form on the machine. -/
namespace MosnVerif.Model.Downstream
open MosnVerif.Gen.ProxyPhase MosnVerif.Gen.ProxyReason

/-- `doRetry` past its two early returns: no host → local reply; else the fresh upstream request, the send calls (each guarded
by `processDone()`), the timers (both when no timer object exists yet, else the per-try timer only), request sent -/
def doRetryBody (c : Cfg) (s : S) : S :=
  if s.hostsGone then
    cleanUp c (sendHijack (if s.up.isSome then { s with setupRetry := false } else s) NoHealthUpstreamCode false)
  else
    let s := { s with up := some none, setupRetry := false }
    let s := upAppendHeaders c s (!c.hasData && !c.hasTrailers)
    let s := if c.hasData then upAppendData s (!c.hasTrailers) else s
    let s := if c.hasTrailers then upAppendTrailers s else s
    let s := if !(hasTimerObj s) then onUpstreamRequestSent c s else setupPerReqTimeout c s
    { s with reqSent := true, recvDone := true }

/-- the regenerated `doRetry` in closed form: after the sleep it returns at once when a local reply is pending; it
raises the global timeout on the fresh upstream request when the expiry was recorded; otherwise `doRetryBody` -/
theorem doRetry_eq (c : Cfg) (s : S) :
    doRetry c s =
      if s.direct then s
      else if s.globalExpired && s.up.isSome then upOnResetStream s .UpstreamGlobalTimeout
      else doRetryBody c s := by
  unfold doRetry Gen.ProxyBackoff.doRetry doRetryBody
  simp only [drOps, id]
  -- the same tests in the same order; the program branches where the closed form applies a function to a conditional
  refine ite_congr rfl (fun _ => rfl) (fun _ => ite_congr rfl (fun _ => rfl) (fun _ => ite_congr rfl (fun _ => ?_) (fun _ => ?_)))
  · exact (apply_ite (fun z => cleanUp c (sendHijack z NoHealthUpstreamCode false)) _ _ _).symm
  · by_cases hd : c.hasData = true <;> by_cases ht : c.hasTrailers = true <;>
      simp only [hd, ht, if_true, if_false, Bool.false_eq_true] <;>
      exact (apply_ite (fun z : S => { z with reqSent := true, recvDone := true }) ((!hasTimerObj _) = true) _ _).symm

end MosnVerif.Model.Downstream
