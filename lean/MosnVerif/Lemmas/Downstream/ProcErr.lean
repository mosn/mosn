import MosnVerif.Lemmas.Downstream.Async
/-! closed form of the regenerated `processError` instantiated on the machine -/
namespace MosnVerif.Model.Downstream
open MosnVerif.Gen.ProxyPhase MosnVerif.Gen.ProxyReason MosnVerif.Gen.ProxyRetry

/-- the local-reply branch (fix 6f205a54b of /repo) of `processError` abandons a retry that is being set up: the marked
upstream request is detached (on the machine's own states the mark is never set together with a pending local reply —
`abandonRetry_id` —, the branch is exercised on the implementation at the worker's yield sites inside `setupRetry`) -/
def abandonRetry (s : S) : S :=
  if s.up.isSome && s.setupRetry then { s with up := some none, setupRetry := false } else s

theorem abandonRetry_id {s : S} (h : s.setupRetry = false) : abandonRetry s = s := by
  simp [abandonRetry, h]

/-- the tail of `processError` once the reset flags have been dealt with -/
def peTail (c : Cfg) (s1 : S) (e1 : Bool) : S × Option Phase :=
  if s1.downReset then (dsResetStream c s1, some .End)
  else if s1.direct then
    let s2 := abandonRetry { s1 with direct := false, rs := none, retries := (rsReset c s1).retries }
    if c.oneway then (s2, some .Oneway)
    else if s1.phase ≠ .UpFilter then (s2, some .UpFilter)
    else (s2, none)   -- the response pass goes on with the local reply, whatever set `err` before (fix 6ae8f7427 of /repo)
  else if s1.up.isSome && s1.setupRetry then ({ s1 with up := some none, setupRetry := false }, some .Retry)
  else (s1, if e1 || s1.procDone then some .End else none)

theorem peTail_down (c : Cfg) (r : S) (e : Bool) (hd : r.downReset = true) : peTail c r e = (dsResetStream c r, some .End) := by
  unfold peTail; rw [if_pos hd]

theorem peTail_retry (c : Cfg) (r : S) (e : Bool) (hd : r.downReset = false) (hdir : r.direct = false)
    (hup : r.up.isSome = true) (hm : r.setupRetry = true) :
    peTail c r e = ({ r with up := some none, setupRetry := false }, some .Retry) := by
  unfold peTail; rw [if_neg (by simp [hd]), if_neg (by simp [hdir]), if_pos (by simp [hup, hm])]

/-- a local reply is pending: the retry state is released; a one-way request goes to its own phase, a two-way request to the response
pass — back to `UpFilter`, or on with the pass when it is there already -/
theorem peTail_direct (c : Cfg) (r : S) (e : Bool) (hd : r.downReset = false) (hdir : r.direct = true) (hm : r.setupRetry = false) :
    peTail c r e = ({ r with direct := false, rs := none, retries := (rsReset c r).retries },
      if c.oneway then some .Oneway else if r.phase ≠ .UpFilter then some .UpFilter else none) := by
  unfold peTail
  rw [if_neg (by simp [hd]), if_pos hdir]
  simp only []
  rw [abandonRetry_id (by exact hm), apply_ite (Prod.mk _), apply_ite (Prod.mk _)]

/-- nothing is pending: the phase goes on -/
theorem peTail_plain (c : Cfg) (r : S) (hd : r.downReset = false) (hdir : r.direct = false) (hm : r.setupRetry = false)
    (hpd : r.procDone = false) : peTail c r false = (r, none) := by
  unfold peTail
  rw [if_neg (by simp [hd]), if_neg (by simp [hdir]), if_neg (by simp [hm]), if_neg (by simp [hpd])]

/-- the state written by the direct-response branch: `releaseRetry` then `clearRetryState` -/
theorem pe_direct_state (c : Cfg) (s1 : S) :
    { rsReset c { s1 with direct := false } with rs := none } =
      { s1 with direct := false, rs := none, retries := (rsReset c s1).retries } := by
  simp [rsReset]

theorem processError_spec (c : Cfg) (s : S) :
    processError c s =
      if s.cleaned then (s, some .End)
      else if s.upReset then
        if c.oneway then (s, some .Oneway) else peTail c (onUpstreamReset c s) true
      else peTail c s false := by
  unfold processError Gen.ProxyError.processError
  extract_lets p0 e0 pE eT pO pU k2 pR k3 k1 sR
  -- the tail of the regenerated program (its continuation after the reset flags), once for both states it runs on
  have key : ∀ (r : S) (e : Bool),
      (match k1 r .End e with | (s, p, err) => (s, if err = true then some p else none)) = peTail c r e := by
    intro r e
    unfold peTail abandonRetry
    simp only [k1, k2, k3, eT, e0, pO, pU, pR, peOps, id, pe_direct_state, Gen.ProxyError.detachFresh, if_true]
    by_cases hd : r.downReset = true
    · simp [hd]
    · simp only [hd]
      by_cases hdi : r.direct = true
      · simp only [hdi, if_true]
        cases hm1 : r.up.isSome <;> cases hm2 : r.setupRetry <;> by_cases ho : c.oneway = true <;>
          by_cases hp : r.phase = Phase.UpFilter <;> simp [ho, hp]
      · simp only [hdi]
        by_cases hpd : r.procDone = true <;> by_cases hr : (r.up.isSome && r.setupRetry) = true <;> cases e <;> simp [hpd, hr]
  by_cases hc : s.cleaned = true
  · simp [peOps, pE, eT, hc]
  by_cases hu : s.upReset = true
  · by_cases ho : c.oneway = true
    · simp [peOps, pO, eT, hc, hu, ho]
    · simp only [peOps, hc, hu, ho, Bool.not_true, Bool.false_eq_true, if_false, if_true]
      exact key _ _
  · simp only [peOps, hc, hu, Bool.not_true, Bool.false_eq_true, if_false]
    exact key _ _

theorem processError_cleaned (c : Cfg) (s : S) (hcl : s.cleaned = true) : processError c s = (s, some .End) := by
  rw [processError_spec, if_pos hcl]

/-- a two-way request with a pending upstream reset: `onUpstreamReset`, then the tail -/
theorem processError_reset (c : Cfg) (s : S) (hcl : s.cleaned = false) (hur : s.upReset = true) (how : c.oneway = false) :
    processError c s = peTail c (onUpstreamReset c s) true := by
  rw [processError_spec, if_neg (by simp [hcl]), if_pos hur, if_neg (by simp [how])]

theorem processError_quiet (c : Cfg) (s : S) (hcl : s.cleaned = false) (hur : s.upReset = false) :
    processError c s = peTail c s false := by
  rw [processError_spec, if_neg (by simp [hcl]), if_neg (by simp [hur])]

/-- what `finishPhase` does with the outcome of `processError` -/
def finishOf (r : S × Option Phase) : S :=
  match r with
  | (s, some p) => reenter s p
  | (s, none) => { s with phase := s.phase.next }

theorem finishPhase_eq (c : Cfg) (s : S) : finishPhase c s = finishOf (processError c s) := by
  unfold finishPhase finishOf
  split <;> simp_all

end MosnVerif.Model.Downstream
