import MosnVerif.Lemmas.Downstream.Prov
import MosnVerif.Lemmas.Downstream.Parked
import MosnVerif.Lemmas.Downstream.Regen10
import MosnVerif.Lemmas.Downstream.AsyncFrame
/-!
**The global timer is armed at most once per request** (`gtGen ≤ 1`), on every schedule.

`gtGen` counts the creations of the global timer (`s.responseTimer = utils.NewTimer(…)`): the regenerated `armSites` say that
`onUpstreamRequestSent` is the only function that creates it, the regenerated `requestSentCallers` that it is called by
`receiveHeaders`, `receiveData`, `receiveTrailers` (each only for the part that ends the request) and by `doRetry` (only when no
timer object exists).  The invariant: nothing is armed before the request is completely sent, the part that completes the
request is sent once (phase order), and a retry re-arms nothing (`lstep_doRetry`: while a retry is possible the timer of a sent
request is armed, has fired, or a local reply is pending — K24 — and `doRetry` returns early in the last two cases).
-/
namespace MosnVerif.Model.Downstream
open MosnVerif.Gen.ProxyPhase MosnVerif.Gen.ProxyReason MosnVerif.Gen.ProxyRetry

/-- the phases `processError` hands back with an error -/
def errPhase (p : Phase) : Bool := p == .End || p == .Oneway || p == .UpFilter || p == .Retry

theorem peTail_phase (c : Cfg) (s : S) (e : Bool) (p : Phase) (s' : S) (h : peTail c s e = (s', some p)) : errPhase p = true := by
  have t := peTail_cases c s e
  rw [h] at t
  cases t with
  | clientGone => rfl
  | reply _ _ _ hp => rcases hp with ⟨_, hp⟩ | ⟨_, hp⟩ | ⟨_, hp, _⟩ <;> cases hp <;> rfl
  | retry => rfl
  | plain _ _ _ hp => rcases hp with hp | ⟨hp, _⟩ <;> cases hp <;> rfl

theorem processError_phase (c : Cfg) (s s' : S) (p : Phase) (h : processError c s = (s', some p)) : errPhase p = true := by
  rw [processError_spec] at h
  split at h
  · cases h; rfl
  · split at h
    · split at h
      · cases h; rfl
      · exact peTail_phase c _ _ p s' h
    · exact peTail_phase c _ _ p s' h

/-- after `finishPhase` the worker is at the next phase or at a phase `processError` handed back -/
theorem finishPhase_phase (c : Cfg) (x : S) :
    (finishPhase c x).phase = x.phase.next ∨ errPhase (finishPhase c x).phase = true := by
  unfold finishPhase
  cases hr : processError c x with
  | mk s' o =>
    cases o with
    | none =>
      left
      simp only
      rw [finishOf_pe_none_phase c x s' hr]
    | some p =>
      right
      simp only
      rw [reenter_phase]
      exact processError_phase c x s' p hr

theorem receiveHeaders_phase (c : Cfg) (s : S) (eos : Bool) : (receiveHeaders c s eos).phase = s.phase :=
  (path_receiveHeaders c s eos).phase

theorem receiveData_phase (c : Cfg) (s : S) (eos : Bool) : (receiveData c s eos).phase = s.phase :=
  receiveData_eq c s eos ▸ (path_sendPart c s _ eos fun _ => rfl).phase

theorem receiveTrailers_phase (c : Cfg) (s : S) : (receiveTrailers c s).phase = s.phase :=
  receiveTrailers_eq c s ▸ (path_sendPart c s .ut true fun _ => rfl).phase

theorem doRetry_phase (c : Cfg) (s : S) : (doRetry c s).phase = s.phase := (path_doRetry c s).phase

/-- **where one worker step leads**: nowhere (the worker has returned, is parked, or waits for a body), to the next phase, to a
phase `processError` handed back, or — from the one-way phase — to `WaitNotify`; or the worker returns -/
theorem work_phase (c : Cfg) (s : S) :
    work c s = s ∨ (work c s).running = false ∨ (work c s).phase = s.phase.next ∨ errPhase (work c s).phase = true ∨
    (work c s).phase = .WaitNotify := by
  have hn : onewayNext = Phase.WaitNotify := by decide
  generalize hw : work c s = t
  have w := work_cases c s
  rw [hw] at w
  cases w with
  | idle => exact Or.inl rfl
  | skip p hp =>
    rcases hp with ⟨_, hp⟩ | ⟨_, hp⟩
    · exact Or.inr (Or.inr (Or.inl hp))
    · exact Or.inr (Or.inr (Or.inr (Or.inr (hp.trans hn))))
  | phase x b =>
    rcases finishPhase_phase c x with e | e
    · exact Or.inr (Or.inr (Or.inl (by rw [e, body_phase b])))
    · exact Or.inr (Or.inr (Or.inr (Or.inl e)))
  | oneway => exact Or.inr (Or.inl (by rw [reenter_end]))
  | upFilter hp y hy =>
    subst hy
    rcases finishPhase_phase c s with e | e
    · exact Or.inr (Or.inr (Or.inl e))
    · exact Or.inr (Or.inr (Or.inr (Or.inl e)))
  | ended => exact Or.inr (Or.inl rfl)

/-- nothing is armed before the request is completely sent; at most one timer was armed; and while the request is being sent
for the first time it is not yet marked sent as long as a part is still to come -/
structure TInv (c : Cfg) (s : S) : Prop where
  unsent : s.reqSent = false → s.gtGen = 0
  once : s.gtGen ≤ 1
  data : s.running = true → s.phase = .DownRecvData → (c.hasData = true ∨ c.hasTrailers = true) → s.reqSent = false
  trl : s.running = true → s.phase = .DownRecvTrailer → c.hasTrailers = true → s.reqSent = false

theorem tinv_init (c : Cfg) (ar aq : Nat) : TInv c (init ar aq) :=
  ⟨fun _ => rfl, by simp [init], fun _ h => by simp [init] at h, fun _ h => by simp [init] at h⟩

/-- the labels of other goroutines leave phase and `running` alone -/
theorem async_phase (c : Cfg) (ar aq : Nat) (s : S) (l : Label) (hl : l ≠ .work) (h : Inv c ar aq s) :
    (step c s l).phase = s.phase ∧ (step c s l).running = s.running :=
  ⟨(async_frame c s l hl h).phase, (async_frame c s l hl h).running⟩

/-- the labels of other goroutines touch neither the worker's position nor the timer count -/
theorem tinv_async {c : Cfg} {s x : S} (f : AsyncFr s x) (t : TInv c s) : TInv c x := by
  refine ⟨fun hq => ?_, by rw [f.gtGen]; exact t.once, fun hr hp hd => ?_, fun hr hp hd => ?_⟩
  · rw [f.gtGen]; exact t.unsent (by rw [← f.reqSent]; exact hq)
  · rw [f.reqSent]; exact t.data (by rw [← f.running]; exact hr) (by rw [← f.phase]; exact hp) hd
  · rw [f.reqSent]; exact t.trl (by rw [← f.running]; exact hr) (by rw [← f.phase]; exact hp) hd

theorem next_eq_drd (p : Phase) (h : p.next = .DownRecvData) : p = .DownRecvHeader := by
  cases p <;> simp [Phase.next] at h ⊢
theorem next_eq_drt (p : Phase) (h : p.next = .DownRecvTrailer) : p = .DownRecvData := by
  cases p <;> simp [Phase.next] at h ⊢

/-- `reqSent` after the first `receiveHeaders` / after `receiveData` -/
theorem receiveHeaders_reqSent (c : Cfg) (s : S) (eos : Bool) : (receiveHeaders c s eos).reqSent = (eos || s.reqSent) := by
  unfold receiveHeaders
  simp only
  have := (step_upAppendHeaders c s eos).2.2.1
  cases eos <;> simp [onUpstreamRequestSent, this]

theorem receiveData_reqSent_open (c : Cfg) (s : S) : (receiveData c s false).reqSent = s.reqSent := by
  rw [receiveData_eq]
  split
  · rfl
  · exact Bool.or_false _

theorem tinv_work (c : Cfg) (ar aq : Nat) (s : S) (h : Inv c ar aq s) (t : TInv c s) (hrun : s.running = true)
    (hcl : s.cleaned = false) : TInv c (work c s) := by
  have hl := lstep_work c ar aq s h hcl
  by_cases hbw : bodyWait s = true
  · rw [work_idle c s (Or.inr hbw)]; exact t
  -- the phases that are skipped when the request has no such part
  have skipD : s.phase = .DownRecvData → c.hasData = false → work c s = { s with phase := s.phase.next } := by
    intro hp hnd
    unfold work; rw [if_neg (by simp [hrun]), if_neg hbw]
    simp only [hp, hnd, Bool.false_eq_true, if_false]
  have skipT : s.phase = .DownRecvTrailer → c.hasTrailers = false → work c s = { s with phase := s.phase.next } := by
    intro hp hnd
    unfold work; rw [if_neg (by simp [hrun]), if_neg hbw]
    simp only [hp, hnd, Bool.false_eq_true, if_false]
  -- `reqSent` and the count, from the transition relation
  have hcount : ((work c s).reqSent = false → (work c s).gtGen = 0) ∧ (work c s).gtGen ≤ 1 := by
    cases hq : s.reqSent with
    | false =>
      have h0 := t.unsent hq
      rcases hl.2.2 with ⟨a1, a2⟩ | ⟨b1, b2, _⟩
      · exact ⟨fun _ => by rw [a2]; exact h0, by rw [a2, h0]; omega⟩
      · exact ⟨fun hh => (by rw [b1] at hh; cases hh), by omega⟩
    | true =>
      -- the request is marked sent: the part that completes it was sent, no phase sends it again, a retry re-arms nothing
      have key : (work c s).gtGen = s.gtGen ∧ (work c s).reqSent = true := by
        rcases hl.2.2 with ⟨a1, a2⟩ | ⟨b1, _, b3⟩
        · exact ⟨a2, by rw [a1]; exact hq⟩
        · refine ⟨?_, b1⟩
          have hsp := b3 hq
          simp only [sendingPhase, Bool.or_eq_true, beq_iff_eq] at hsp
          rcases hsp with (hp | hp) | hp
          · have := (h.k30 hcl (Or.inr hp)).2.1; rw [hq] at this; cases this
          · have hnd : c.hasData = false := by
              cases hd : c.hasData with
              | false => rfl
              | true => have := t.data hrun hp (Or.inl hd); rw [hq] at this; cases this
            rw [skipD hp hnd]
          · have hnt : c.hasTrailers = false := by
              cases hd : c.hasTrailers with
              | false => rfl
              | true => have := t.trl hrun hp hd; rw [hq] at this; cases this
            rw [skipT hp hnt]
      exact ⟨fun hh => (by rw [key.2] at hh; cases hh), by rw [key.1]; exact t.once⟩
  refine ⟨hcount.1, hcount.2, fun hr hp hd => ?_, fun hr hp hd => ?_⟩
  · -- the worker is now at DownRecvData: it came from DownRecvHeader
    rcases work_phase c s with e | e | e | e | e
    · rw [e] at hp ⊢; exact t.data hrun hp hd
    · rw [hr] at e; cases e
    · rw [hp] at e
      have hph := next_eq_drd s.phase e.symm
      have ew : work c s = finishPhase c (receiveHeaders c s (!c.hasData && !c.hasTrailers)) := by
        unfold work; rw [if_neg (by simp [hrun]), if_neg hbw]; simp only [hph]
      rw [ew, (step_finishPhase c _).2.2.1, receiveHeaders_reqSent]
      have hrq := (h.k30 hcl (Or.inr hph)).2.1
      rcases hd with hd | hd <;> simp [hd, hrq]
    · rw [hp] at e; cases e
    · rw [hp] at e; cases e
  · -- the worker is now at DownRecvTrailer: it came from DownRecvData
    rcases work_phase c s with e | e | e | e | e
    · rw [e] at hp ⊢; exact t.trl hrun hp hd
    · rw [hr] at e; cases e
    · rw [hp] at e
      have hph := next_eq_drt s.phase e.symm
      have hrq := t.data hrun hph (Or.inr hd)
      cases hdd : c.hasData with
      | false => rw [skipD hph hdd]; exact hrq
      | true =>
        have ew : work c s = finishPhase c (receiveData c s (!c.hasTrailers)) := by
          unfold work; rw [if_neg (by simp [hrun]), if_neg hbw]; simp only [hph, hdd, if_true]
        rw [ew, (step_finishPhase c _).2.2.1, hd]
        exact (receiveData_reqSent_open c s).trans hrq
    · rw [hp] at e; cases e
    · rw [hp] at e; cases e

theorem tinv_step (c : Cfg) (ar aq : Nat) (s : S) (l : Label) (h : Inv c ar aq s) (t : TInv c s) : TInv c (step c s l) :=
  step_split h l t (tinv_work c ar aq s h t) fun _ a => tinv_async a.frame t

theorem tinv_run (c : Cfg) (ar aq : Nat) (l : List Label) : TInv c (run c (init ar aq) l) :=
  run_inv c ar aq (tinv_step c ar aq) (inv_init c ar aq) (tinv_init c ar aq) l

end MosnVerif.Model.Downstream
