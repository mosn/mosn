import MosnVerif.Lemmas.Downstream.ProcErr
/-! the ways a worker step can end: cleaned, downstream reset, direct response, retry, advance -/
namespace MosnVerif.Model.Downstream
open MosnVerif.Gen.ProxyPhase MosnVerif.Gen.ProxyReason MosnVerif.Gen.ProxyRetry

/-- the client has seen neither an end of stream nor a reset while the stream is not cleaned -/
theorem snd_open {c : Cfg} {ar aq : Nat} {s : S} (l : Live c ar aq s) :
    (snd s.trace).ended = false ∧ (snd s.trace).reset = false ∧ (snd s.trace).bad = false ∧ (snd s.trace).hdr = s.respStarted :=
  ⟨eq_false_of_ne_true fun he => Bool.noConfusion (l.cl.symm.trans (l.k3 (Or.inl he))),
   eq_false_of_ne_true fun he => Bool.noConfusion (l.cl.symm.trans (l.k3 (Or.inr he))), l.k1, l.k2⟩

/-- `Live` and the clauses that depend on the phase the worker is in make up the invariant -/
theorem Live.inv {c : Cfg} {ar aq : Nat} {s : S} (l : Live c ar aq s) (k7 : K7 s) (k8 : K8 s) (k15 : K15 s) (k16 : K16 s)
    (k17 : K17 s) (k18 : K18 c s) (k19 : K19 s) (k23 : K23 s) (k24 : K24 c s) (k25 : K25 c s) (k26 : K26 s) (k27 : K27 s)
    (k28 : K28 s) (k29 : K29 c s) (k30 : K30 s) (k32 : K32 c s) : Inv c ar aq s :=
  { l.toBase with
    k0 := by rw [K0, l.run, l.cl]; rfl
    k3 := l.k3, k6 := l.k6
    k5 := fun hh => Bool.noConfusion (l.pd.symm.trans hh)
    k33 := .vac l.cl
    k7, k8, k15, k16, k17, k18, k19, k23, k24, k25, k26, k27, k28, k29, k30, k32 }

/-- the retry decision writes the retry state and the retries resource only -/
theorem Live.rsRetry {c : Cfg} {ar aq : Nat} {s : S} (l : Live c ar aq s) (r : Option Reason) :
    Live c ar aq (rsRetry c s r).1 :=
  { l with
    k9 := l.k9.of_eq (rsRetry_facts c s r).2.2.2
    k31 := fun hh => l.k31 ((rsRetry_facts c s r).2.1 ▸ hh) }

/-- `retryState.reset()` gives back what the retry state holds -/
theorem Live.rsReset {c : Cfg} {ar aq : Nat} {s : S} (l : Live c ar aq s) : Live c ar aq (rsReset c s) :=
  { l with
    k9 := l.k9.of_eq (rsReset_facts c s).2.2
    k31 := fun hh => l.k31 ((rsReset_facts c s).1.symm.trans hh) }

/-- `cleanUp` gives the retry slot back and stops both timers -/
theorem Live.cleanUp {c : Cfg} {ar aq : Nat} {s : S} (l : Live c ar aq s) : Live c ar aq (cleanUp c s) :=
  { l.rsReset with k21 := fun _ => ⟨rfl, rfl⟩ }

/-- `resetStream()` of the current upstream request leaves no client stream live -/
theorem Live.resetUpstream {c : Cfg} {ar aq : Nat} {s : S} (l : Live c ar aq s) :
    Live c ar aq (resetUpstream c s) ∧ liveCount (resetUpstream c s).streams = 0 := by
  obtain ⟨sts, rq, ua, t, e, hled, hdead, h22, ht1, ht2⟩ := resetUpstream_spec c aq s ⟨l.k10, l.k11, l.k14⟩ l.k22
  rw [e]
  exact ⟨l.dead sts rq ua t hled (allDead_liveCount hdead) h22 ht1 ht2, allDead_liveCount hdead⟩

/-- a cleaned stream whose worker returns: the clauses about a stream that is not cleaned say nothing -/
theorem tail_clean (c : Cfg) (ar aq : Nat) (s : S) (b : Base c ar aq s) (hcl : s.cleaned = true) (h33 : K33 c s) :
    Inv c ar aq { s with running := false, phase := .End } := by
  obtain ⟨k1, k2, k4, k9, k10, k11, k12, k13, k14, k20, k21, k22, k31⟩ := b
  refine ⟨?_, k1, k2, ?_, k4, ?_, ?_, ?_, ?_, k9, k10, k11, k12, k13, k14, ?_, ?_, ?_, ?_, ?_, k20, k21, k22, ?_, ?_, ?_, ?_, ?_, ?_, ?_, ?_, k31, ?_, h33⟩
  · simp [K0, hcl]
  · intro _; exact hcl
  · intro _; exact hcl
  · intro _; right; exact hcl
  all_goals (intro hh; simp [hcl] at hh)

/-- every phase of the response pass starts with nothing of the worker's own pending: the stream not cleaned, the request not done,
no retry marked, no local reply (what is pending from the upstream side is K15) -/
theorem upCtx {c : Cfg} {ar aq : Nat} {s : S} (h : Inv c ar aq s) (hrun : s.running = true) (hupp : upPhase s.phase = true) :
    s.cleaned = false ∧ s.procDone = false ∧ s.setupRetry = false ∧ s.direct = false :=
  have hcl := inv_not_cleaned h hrun
  ⟨hcl, inv_not_procDone h hcl, (h.k7 hcl).1, not_direct_of_phase h.k7 hcl fun hh => by
    rcases hh with hh | hh <;> (rw [hh] at hupp; cases hupp)⟩

/-- the clauses that say how far the response pass has come, for the state `s'` at phase `q` -/
def UpAt (s' : S) (q : Phase) : Prop :=
  s'.phase = q ∧ upPhase q = true ∧ s'.resp.isSome = true ∧
  (s'.respStarted = (q == .UpRecvData || q == .UpRecvTrailer)) ∧
  (q = .UpRecvData → respHasMore s'.resp = true) ∧ (q = .UpRecvTrailer → respHasTrailers s'.resp = true)

theorem inv_up_state (c : Cfg) (ar aq : Nat) (s' : S) (q : Phase) (l : Live c ar aq s') (hsr : s'.setupRetry = false)
    (hdir : s'.direct = false) (h8 : s'.pass ≤ 1) (hur : s'.upReset = false)
    (hlc : liveCount s'.streams = 0 ∨ (s'.urr = true ∧ respHasMore s'.resp = true ∧ s'.rs.isSome = true))
    (htm : (s'.perTry = false ∧ s'.global = false) ∨ s'.urr = true) (hat : UpAt s' q)
    (h24 : K24 c s') (h25 : K25 c s') (h28 : K28 s') (how : c.oneway = false) : Inv c ar aq s' := by
  obtain ⟨hph, hupq, hresp, hrst, hd, ht⟩ := hat
  obtain ⟨hq2, hq1, hq3, hq4, hq5, hq7, hq8, hq9, _⟩ := phase_excl_up q hupq
  have hnur : ∀ {p : Prop}, s'.upReset = true → p := fun hh => Bool.noConfusion (hur.symm.trans hh)
  subst hph
  exact l.inv (k7 := k7_intro hsr hdir) (k8 := fun _ => ⟨h8, Or.inr (Or.inl hupq)⟩)
    (k15 := fun _ _ => ⟨hlc, hresp, hnur, htm, hrst, hd, ht⟩)
    (k16 := .vac hupq) (k17 := .vac hq2) (k18 := .vac hq1)
    (k19 := fun _ => hq3) (k23 := fun _ hh => hh.elim hnur (fun hh => absurd hh hq4)) (k24 := h24) (k25 := h25)
    (k26 := .vac hq4) (k27 := .vac hq1) (k28 := h28)
    (k29 := fun _ _ _ => ⟨fun hh => absurd hh hq7, fun hh => absurd hh hq8, fun hh => absurd hh hq9⟩)
    (k30 := .vac hq5) (k32 := .vac how)

/-- last part of `cleanBody`: clean up, count down, log -/
def cleanFinish (c : Cfg) (s2 : S) : S :=
  { cleanUp c s2 with downActive := (cleanUp c s2).downActive - 1,
                      trace := (cleanUp c s2).trace ++ [Ev.log (cleanUp c s2).respCode (cleanUp c s2).flags] }

/-- `cleanFinish` as one update of the state: the retry slot is given back, the timers are off, the gauge is counted down and the
log event appended -/
theorem cleanFinish_eq (c : Cfg) (s2 : S) :
    cleanFinish c s2 = { s2 with rs := (rsReset c s2).rs, retries := (rsReset c s2).retries, perTry := false, global := false,
                                 gtObj := false, downActive := s2.downActive - 1,
                                 trace := s2.trace ++ [Ev.log s2.respCode s2.flags] } := rfl

@[simp] theorem cleanBody_cleaned (c : Cfg) (s : S) : (cleanBody c s).cleaned = true := by
  unfold cleanBody
  simp only
  split <;> simp

theorem cleanBody_trace_done (c : Cfg) (s : S) (h : s.procDone = true) :
    (cleanBody c s).trace = s.trace ++ [Ev.log s.respCode s.flags] := by
  unfold cleanBody
  simp [h]

/-- `cleanBody` only appends upstream-reset events and the access-log event -/
theorem cleanBody_snd (c : Cfg) (s : S) : snd (cleanBody c s).trace = snd s.trace := by
  unfold cleanBody
  simp only
  split <;> simp [snd_append, sndStep]

theorem cleanBody_base (c : Cfg) (ar aq : Nat) (s : S) (b : Base c ar aq s) (hcl : s.cleaned = false)
    (hlive : (s.up.isSome && !s.procDone && !c.oneway) = false → liveCount s.streams = 0) : Base c ar aq (cleanBody c s) := by
  -- the upstream request is reset unless its processing is done (or one-way): either way no client stream is live afterwards, and
  -- the client streams, their ledger and the trace are all that may have been written
  have key : ∀ (p : Bool) (sts : List Stream) (rq ua : Int) (t : List Ev),
      LedgerOk c aq { s with streams := sts, requests := rq, upActive := ua } → liveCount sts = 0 → K22 c { s with streams := sts } →
      snd t = snd s.trace → nLog t = nLog s.trace →
      Base c ar aq (cleanFinish c { s with cleaned := true, procDone := p, streams := sts, requests := rq, upActive := ua, trace := t }) :=
    fun p sts rq ua t hled hl0 h22 ht1 ht2 => by
      have hf := rsReset_facts c s
      rw [cleanFinish_eq]
      exact {
        k1 := by show (snd (t ++ [_])).bad = false; rw [snd_append, ht1]; exact b.k1
        k2 := by show (snd (t ++ [_])).hdr = s.respStarted; rw [snd_append, ht1]; exact b.k2
        k4 := by show nLog (t ++ [_]) = 1; rw [nLog_append, ht2, b.k4, hcl]; rfl
        k9 := b.k9.of_eq hf.2.2
        k10 := hled.1, k11 := hled.2.1, k14 := hled.2.2, k22 := h22
        k12 := by show s.downActive - 1 = 0; rw [b.k12, hcl]; rfl
        k13 := fun _ => ⟨hf.2.1, hl0, rfl, rfl⟩
        k20 := fun _ => hl0
        k21 := fun _ => ⟨rfl, rfl⟩
        k31 := fun hh => b.k31 (hf.1.symm.trans hh) }
  unfold cleanBody
  cases hdr : (s.up.isSome && !s.procDone && !c.oneway) with
  | true =>
    obtain ⟨sts, rq, ua, t, e, hled, hdead, h22, ht1, ht2⟩ :=
      resetUpstream_spec c aq { s with cleaned := true, procDone := s.procDone || true } ⟨b.k10, b.k11, b.k14⟩ b.k22
    simp only [if_true]
    rw [e]
    exact key _ sts rq ua t hled (allDead_liveCount hdead) h22 ht1 ht2
  | false => exact key _ s.streams s.requests s.upActive s.trace ⟨b.k10, b.k11, b.k14⟩ (hlive hdr) b.k22 rfl rfl

theorem reenter_end (s : S) : reenter s .End = { s with running := false, phase := .End } := by
  simp [reenter]

theorem dsResetStream_eq (c : Cfg) (s : S) (hcl : s.cleaned = false) :
    dsResetStream c s = cleanBody c { s with respCode := TimeoutExceptionCode } := by
  unfold dsResetStream cleanStream
  rw [if_neg (by rw [hcl]; decide)]

/-- `cleanStream` wins the CAS on `downstreamCleaned` for one of the reasons K33 names: the exchange is over, the worker returns -/
theorem clean_inv (c : Cfg) (ar aq : Nat) (s : S) (b : Base c ar aq s) (hcl : s.cleaned = false)
    (hlive : (s.up.isSome && !s.procDone && !c.oneway) = false → liveCount s.streams = 0)
    (h33 : (snd s.trace).ended = true ∨ s.downReset = true ∨ c.oneway = true) :
    Inv c ar aq { cleanBody c s with running := false, phase := .End } := by
  exact tail_clean c ar aq _ (cleanBody_base c ar aq s b hcl hlive) (cleanBody_cleaned c s) fun _ => by
    rw [cleanBody_snd, cleanBody_downReset]; exact h33

/-- the downstream was reset: `ResetStream` cleans the stream and the worker returns -/
theorem tail_down (c : Cfg) (ar aq : Nat) (s : S) (b : Base c ar aq s) (hcl : s.cleaned = false) (hdr : s.downReset = true)
    (hlive : (s.up.isSome && !s.procDone && !c.oneway) = false → liveCount s.streams = 0) :
    Inv c ar aq (reenter (dsResetStream c s) .End) := by
  rw [reenter_end, dsResetStream_eq c s hcl]
  exact clean_inv c ar aq _ { b with } hcl hlive (Or.inr (Or.inl hdr))

/-- a local reply is pending or the upstream was reset (one-way): the worker re-enters at `Oneway` -/
theorem tail_oneway (c : Cfg) (ar aq : Nat) (s : S) (l : Live c ar aq s) (how : c.oneway = true) (hsr : s.setupRetry = false)
    (hpass : s.pass = 0) (hrs : s.respStarted = false) (rs' : Option RetryState) (rt' : Int)
    (h9 : K9 c ar { s with rs := rs', retries := rt' }) (h31 : rs'.isSome = true → s.up.isSome = true)
    (h27 : s.urr = true → s.upReset = true ∨ (s.resp.isSome = true ∧ (liveCount s.streams = 0 ∨ respHasMore s.resp = true))) :
    Inv c ar aq (reenter { s with direct := false, rs := rs', retries := rt' } .Oneway) := by
  have hre : reenter { s with direct := false, rs := rs', retries := rt' } .Oneway =
      { s with direct := false, rs := rs', retries := rt', pass := 1, phase := .Oneway, notify := false } := by
    simp [reenter, hpass, loopBudget]
  rw [hre]
  have hnow : ∀ {p : Prop}, c.oneway = false → p := fun hh => Bool.noConfusion (how.symm.trans hh)
  exact Live.inv { l with k9 := h9, k31 := h31 }
    (k7 := k7_intro hsr rfl) (k8 := fun _ => ⟨Nat.le_refl 1, Or.inr (Or.inr rfl)⟩) (k15 := fun _ => nofun)
    (k16 := fun _ _ => hrs) (k17 := fun _ => nofun) (k18 := fun _ _ => Or.inl ⟨how, rfl, rfl⟩) (k19 := fun _ => nofun)
    (k23 := fun _ _ => l.k20 how) (k24 := fun _ => hnow) (k25 := fun _ => hnow) (k26 := fun _ => nofun)
    (k27 := fun _ _ hu => (h27 hu).imp id Or.inl) (k28 := fun _ => nofun) (k29 := fun _ => hnow)
    (k30 := fun _ hh => hh.elim nofun nofun) (k32 := fun _ _ => ⟨rfl, nofun, nofun⟩)

/-- a retry has been set up (the upstream request marked, the response slot free again, no client stream live): `processError`
detaches the marked request and the worker re-enters at `Retry` (a retry pass keeps the loop budget) — unless the client is gone -/
theorem finish_setup (c : Cfg) (ar aq : Nat) (s : S) (e : Bool) (l : Live c ar aq s) (how : c.oneway = false)
    (hm : s.setupRetry = true) (hdir : s.direct = false) (hpass : s.pass = 0) (hrs : s.rs.isSome = true)
    (hurr : s.urr = false) (hur : s.upReset = false) (hexp : s.globalExpired = false) (h24 : s.reqSent = true → s.global = true)
    (hlc : liveCount s.streams = 0) (hrst : s.respStarted = false) (hpt : s.perTry = false) :
    Inv c ar aq (finishOf (peTail c s e)) := by
  by_cases hdr : s.downReset = true
  · rw [peTail_down c s e hdr]
    exact tail_down c ar aq s l.toBase l.cl hdr (fun _ => hlc)
  simp only [Bool.not_eq_true] at hdr
  rw [peTail_retry c s e hdr hdir (l.k31 hrs) hm]
  show Inv c ar aq (reenter { s with up := some none, setupRetry := false } .Retry)
  have hre : reenter { s with up := some none, setupRetry := false } .Retry =
      { s with up := some none, setupRetry := false, pass := 0, phase := .Retry, notify := false } := by
    have hk : retryKeepsBudget = true := by decide
    simp [reenter, hpass, loopBudget, hk]
  rw [hre]
  -- the request given up for the retry is detached: no client stream is live any more, so none needs an owner
  have hdead : allDead s.streams = true := allDead_of_counted s.streams (l.k22 how) hlc
  have h14 : K14 { s with up := some none, setupRetry := false, pass := 0, phase := .Retry, notify := false } := by
    have h14s := (streamsOk_iff s).1 l.k14
    refine (streamsOk_iff _).2 ⟨h14s.1, ?_, ?_⟩
    · intro st hst hl
      have hm : st ∈ s.streams := List.mem_of_getLast? hst
      have := (List.all_eq_true.1 hdead) st hm
      simp [hl] at this
    · intro k hk; simp at hk
  have hnur : ∀ {p : Prop}, s.urr = true → p := fun hh => Bool.noConfusion (hurr.symm.trans hh)
  exact Live.inv { l with k14 := h14, k31 := fun _ => rfl }
    (k7 := k7_intro rfl hdir) (k8 := fun _ => ⟨Nat.zero_le 1, Or.inl rfl⟩) (k15 := fun _ => nofun) (k16 := fun _ _ => hrst)
    (k17 := fun _ => nofun)
    (k18 := fun _ _ => Or.inr ⟨rfl, hrs, fun hh => by simp [hurr, hur, hdr] at hh,
      fun hh => Bool.noConfusion (hexp.symm.trans hh), fun _ hh => Or.inl (h24 hh), nofun⟩)
    (k19 := fun _ => nofun) (k23 := fun _ _ => hlc) (k24 := fun _ _ hh _ => Or.inl (h24 hh)) (k25 := fun _ _ _ => rfl)
    (k26 := fun _ _ => ⟨hpt, fun hh => Bool.noConfusion (hur.symm.trans hh), hnur, rfl⟩) (k27 := fun _ _ => hnur)
    (k28 := fun _ => nofun) (k29 := fun _ _ _ => ⟨nofun, nofun, nofun⟩) (k30 := fun _ hh => hh.elim nofun nofun)
    (k32 := .vac how)

end MosnVerif.Model.Downstream
