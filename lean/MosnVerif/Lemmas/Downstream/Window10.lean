import MosnVerif.Lemmas.Downstream.Regen10
import MosnVerif.Lemmas.Downstream.UpReset
namespace MosnVerif.Model.Downstream
open MosnVerif.Gen.ProxyPhase MosnVerif.Gen.ProxyReason

/-- the global timer callback as the timer wheel runs it: the timer has fired (`global := false`), then the regenerated body -/
def gtCallback (c : Cfg) (x : S) : S := Gen.ProxyBackoff.globalCallback (gcOps c) { x with global := false }

theorem upOnResetStream_marked (x : S) (r : Reason) (hm : x.setupRetry = true) : upOnResetStream x r = x := by
  unfold upOnResetStream
  cases x
  simp_all

/-- the callback on a state whose upstream request is marked for a retry: the expiry is recorded; when the response slot is
free it is taken and the upstream request reset; the `OnResetStream` it raises is dropped -/
theorem gtCallback_marked (c : Cfg) (x : S) (hc : x.cleaned = false) (hm : x.setupRetry = true) (hu : x.up.isSome = true) :
    gtCallback c x = if x.urr then { x with global := false, globalExpired := true }
      else resetUpstream c { x with global := false, globalExpired := true, urr := true } := by
  have h1 : gtCallback c x = if x.urr then { x with global := false, globalExpired := true }
      else upOnResetStream (resetUpstream c { x with global := false, globalExpired := true, urr := true }) .UpstreamGlobalTimeout := by
    unfold gtCallback Gen.ProxyBackoff.globalCallback Gen.ProxyBackoff.onResponseTimeout
    cases hr : x.urr <;> simp only [gcOps, hc, hu, hr, Bool.false_eq_true, if_false, if_true, Bool.not_true, Bool.not_false]
  rw [h1]
  split
  · rfl
  · exact upOnResetStream_marked _ _ (by rw [resetUpstream_setupRetry]; exact hm)

/-- what `setupRetry` does after it marked the given-up request -/
def srRest (c : Cfg) (eos : Bool) (m : S) : S :=
  let m := if !eos then resetUpstream c m else m
  let m := if m.perTry then { m with perTry := false } else m
  { m with urr := false }

/-- the rest of `setupRetry` as one update -/
theorem srRest_one (c : Cfg) (eos : Bool) (m : S) :
    srRest c eos m = { (if eos then m else resetUpstream c m) with perTry := false, urr := false } := by
  have stop : ∀ x : S, (if x.perTry = true then { x with perTry := false } else x) = { x with perTry := false } := by
    intro x
    cases x
    split <;> simp_all
  unfold srRest
  simp only [stop]
  cases eos <;> rfl

/-- **the regenerated `setupRetry` with anything interleaved at its two yield sites**: the mark, `w1`, the rest of the function,
`w2` -/
theorem gen_setupRetry (c : Cfg) (w1 w2 : S → S) (eos : Bool) (s : S) (he : s.globalExpired = false) :
    Gen.ProxyBackoff.setupRetry (srOps c) w1 w2 eos s = (w2 (srRest c eos (w1 { s with setupRetry := true })), true) := by
  unfold Gen.ProxyBackoff.setupRetry srRest
  have hx : (srOps c).globalExpired s = false := he
  rw [if_neg (by rw [hx]; decide)]
  simp only [srOps]
  cases eos <;> simp only [Bool.not_false, Bool.not_true, Bool.false_eq_true, if_true, if_false] <;>
    split <;> rename_i hp <;> simp only [hp, ↓reduceIte, Bool.false_eq_true, if_false, if_true]

/-- the regenerated `setupRetry` with something interleaved at the yield site right after the mark -/
theorem gen_setupRetry_before (c : Cfg) (w1 : S → S) (eos : Bool) (s : S) (he : s.globalExpired = false) :
    Gen.ProxyBackoff.setupRetry (srOps c) w1 id eos s = (srRest c eos (w1 { s with setupRetry := true }), true) :=
  gen_setupRetry c w1 id eos s he

theorem srRest_eq (c : Cfg) (eos : Bool) (s : S) (he : s.globalExpired = false) :
    (setupRetry c s eos).1 = srRest c eos { s with setupRetry := true } := by
  rw [setupRetry_regenerated, gen_setupRetry c id id eos s he]
  rfl

/-- what the rest of `setupRetry` leaves as it was — everything `processError` looks at next —; the response slot is free -/
theorem srRest_frame (c : Cfg) (eos : Bool) (m : S) :
    (srRest c eos m).downReset = m.downReset ∧ (srRest c eos m).direct = m.direct ∧ (srRest c eos m).up = m.up ∧
    (srRest c eos m).setupRetry = m.setupRetry ∧ (srRest c eos m).pass = m.pass ∧ (srRest c eos m).running = m.running ∧
    (srRest c eos m).global = m.global ∧ (srRest c eos m).urr = false ∧ (srRest c eos m).cleaned = m.cleaned ∧
    (srRest c eos m).resp = m.resp := by
  rw [srRest_one]
  cases eos <;> simp

/-- the state `setupRetry` leaves when it accepts the retry: the given-up request marked, the response slot free -/
theorem setupRetry_marked (c : Cfg) (s : S) (eos : Bool) (he : s.globalExpired = false) :
    (setupRetry c s eos).1.downReset = s.downReset ∧ (setupRetry c s eos).1.direct = s.direct ∧
    (setupRetry c s eos).1.up = s.up ∧ (setupRetry c s eos).1.setupRetry = true ∧ (setupRetry c s eos).1.pass = s.pass ∧
    (setupRetry c s eos).1.running = s.running ∧ (setupRetry c s eos).1.global = s.global ∧ (setupRetry c s eos).1.urr = false ∧
    (setupRetry c s eos).1.cleaned = s.cleaned ∧ (setupRetry c s eos).1.resp = s.resp := by
  rw [srRest_eq c eos s he]
  exact srRest_frame c eos _

/-- the regenerated `setupRetry` with something interleaved at the yield site AFTER the swing of the response slot: the
un-interleaved call, then that something -/
theorem gen_setupRetry_after (c : Cfg) (w2 : S → S) (eos : Bool) (s : S) (he : s.globalExpired = false) :
    Gen.ProxyBackoff.setupRetry (srOps c) id w2 eos s = (w2 (setupRetry c s eos).1, true) := by
  rw [gen_setupRetry c id w2 eos s he, srRest_eq c eos s he]
  rfl

/-- **the global timer callback right after `setupRetry` swung `upstreamResponseReceived` back** (yield site 2): the timer has
fired, the expiry is recorded, the callback's compare-and-swap WINS (the slot was just freed) — the slot stays taken —, the
given-up upstream request is reset once more, and the `OnResetStream` it raises is dropped because the request is marked -/
theorem setupRetry_window_after_swing (c : Cfg) (s : S) (eos : Bool) (hc : s.cleaned = false) (he : s.globalExpired = false)
    (hu : s.up.isSome = true) :
    (Gen.ProxyBackoff.setupRetry (srOps c) id (gtCallback c) eos s).1 =
      resetUpstream c { (setupRetry c s eos).1 with global := false, globalExpired := true, urr := true } := by
  rw [gen_setupRetry_after c _ eos s he]
  obtain ⟨_, _, f3, f4, _, _, _, f8, f9, _⟩ := setupRetry_marked c s eos he
  rw [gtCallback_marked c _ (f9.trans hc) f4 (by rw [f3]; exact hu), f8]
  simp only [Bool.false_eq_true, if_false]

/-- what the callback writes: timer fired / expiry / response slot -/
def setT (g e u : Bool) (x : S) : S := { x with global := g, globalExpired := e, urr := u }

theorem resetUpstream_setT (c : Cfg) (x : S) (g e u : Bool) : resetUpstream c (setT g e u x) = setT g e u (resetUpstream c x) := by
  unfold resetUpstream
  cases h : curStream x with
  | none =>
    have : curStream (setT g e u x) = none := h
    rw [this]
  | some k =>
    have : curStream (setT g e u x) = some k := h
    rw [this]
    rfl

theorem resetUpstream_mark (c : Cfg) (x : S) :
    resetUpstream c { x with setupRetry := true } = { resetUpstream c x with setupRetry := true } := by
  unfold resetUpstream
  cases h : curStream x with
  | none =>
    have : curStream { x with setupRetry := true } = none := h
    rw [this]
  | some k =>
    have : curStream { x with setupRetry := true } = some k := h
    rw [this]
    rfl

theorem srRest_setT (c : Cfg) (eos : Bool) (m : S) (g e u : Bool) :
    srRest c eos (setT g e u m) = { srRest c eos m with global := g, globalExpired := e } := by
  rw [srRest_one, srRest_one]
  cases eos
  · simp only [Bool.false_eq_true, if_false]
    rw [resetUpstream_setT]; rfl
  · rfl

/-- **the global timer callback right after `setupRetry` marked the given-up request** (yield site 1, before the upstream
request is reset and the slot swung back): the timer has fired and the expiry is recorded; the callback's compare-and-swap wins
only if the slot was free (a retry after an upstream reset — it then resets the given-up request itself, its `OnResetStream` is
dropped); `setupRetry` goes on and swings the slot back: the slot ends up FREE either way -/
theorem setupRetry_window_after_mark (c : Cfg) (s : S) (eos : Bool) (hc : s.cleaned = false) (he : s.globalExpired = false)
    (hu : s.up.isSome = true) :
    (Gen.ProxyBackoff.setupRetry (srOps c) (gtCallback c) id eos s).1 =
      { (setupRetry c (if s.urr then s else resetUpstream c s) eos).1 with global := false, globalExpired := true } := by
  have hm := gtCallback_marked c { s with setupRetry := true } hc rfl hu
  rw [gen_setupRetry_before c _ eos s he, hm]
  have he2 : (if s.urr = true then s else resetUpstream c s).globalExpired = false := by split <;> simp [he]
  rw [srRest_eq c eos _ he2]
  by_cases hr : s.urr = true
  · rw [if_pos hr, if_pos hr]
    have e1 : ({ s with setupRetry := true, global := false, globalExpired := true } : S) =
        setT false true s.urr { s with setupRetry := true } := rfl
    rw [e1, srRest_setT]
  · rw [if_neg hr, if_neg hr]
    have e1 : ({ s with setupRetry := true, global := false, globalExpired := true, urr := true } : S) =
        setT false true true { s with setupRetry := true } := rfl
    rw [e1, resetUpstream_setT, resetUpstream_mark, srRest_setT]

/-- forget the listener registration of client streams that are gone (nothing reads it: `upResetL` tests `live` first) -/
def normL (s : S) : S := { s with streams := s.streams.map (fun st => { st with listening := st.live && st.listening }) }

theorem map_unlisten_dead (l : List Stream) (k : Nat) (h : ∀ st, l[k]? = some st → st.live = false) :
    (setStream l k unlisten).map (fun st => { st with listening := st.live && st.listening }) =
      l.map (fun st => { st with listening := st.live && st.listening }) := by
  fun_induction setStream l k unlisten with
  | case1 => rfl
  | case2 x r => simp [unlisten, h x rfl]
  | case3 x r k ih => rw [List.map_cons, List.map_cons, ih (fun st hst => h st (by simpa using hst))]

/-- resetting an upstream request whose client stream is gone changes nothing but that stream's listener registration -/
theorem normL_resetUpstream_dead (c : Cfg) (x : S) (h : ∀ k, curStream x = some k → streamLive x k = false) :
    normL (resetUpstream c x) = normL x := by
  unfold resetUpstream
  cases hk : curStream x with
  | none => rfl
  | some k =>
    have hl := h k hk
    have hst : ∀ st, x.streams[k]? = some st → st.live = false := by
      intro st hs
      simpa [streamLive, hs] using hl
    simp only [hl, Bool.false_eq_true, if_false]
    rw [destroyStream_dead]
    · simp only [normL]
      rw [map_unlisten_dead x.streams k hst]
    · simp only [streamLive, setStream_get, if_true]
      cases hs : x.streams[k]? with
      | none => rfl
      | some st => simp [unlisten, hst st hs]

/-- the rest of the worker's phase once `setupRetry` has returned: `onUpstreamReset` clears `upstreamReset`, `processError`
finds the marked request, detaches it and hands back the phase `Retry`, `receive`'s loop re-enters there -/
def restOfPhase (c : Cfg) (x : S) (e : Bool) : S := finishOf (peTail c { x with upReset := false } e)

/-- the state the worker goes to sleep in -/
def toBackoff (x : S) : S := { x with upReset := false, up := some none, setupRetry := false, phase := .Retry, notify := false }

theorem restOfPhase_marked (c : Cfg) (x : S) (e : Bool) (hd : x.downReset = false) (hdi : x.direct = false)
    (hu : x.up.isSome = true) (hm : x.setupRetry = true) (hp : x.pass < Gen.ProxyPhase.loopBudget) :
    restOfPhase c x e = toBackoff x := by
  have hk : retryKeepsBudget = true := by decide
  unfold restOfPhase peTail finishOf reenter toBackoff
  simp [hd, hdi, hu, hm, hk, hp]

theorem normL_toBackoff (x : S) : normL (toBackoff x) = toBackoff (normL x) := rfl

/-- the rest of the worker's phase after a global timer callback inside `setupRetry`: when the interleaved run leaves `X` — up to
the listener registration of client streams that are gone — the state `N` of the un-interleaved `setupRetry` with the callback's
three fields written (timer fired, expiry recorded, response slot `u`), the state the worker goes to sleep in is the back-off state
of the un-interleaved run followed by the label `gtInSetup u` -/
theorem gtInSetup_close (c : Cfg) (N X : S) (e u : Bool) (hX : normL X = normL (setT false true u N))
    (hd : N.downReset = false) (hdi : N.direct = false) (hu : N.up.isSome = true) (hm : N.setupRetry = true)
    (hp : N.pass < Gen.ProxyPhase.loopBudget) (hrun : N.running = true) (hg : N.global = true) (hurr : u = false → N.urr = false) :
    normL (restOfPhase c X e) = normL (gtInSetup (restOfPhase c N e) u) := by
  have hrec : globalCallbackRecordsExpiry = true := by decide
  have hpass := congrArg S.pass hX
  have g1 : restOfPhase c X e = toBackoff X :=
    restOfPhase_marked c X e ((congrArg S.downReset hX).trans hd) ((congrArg S.direct hX).trans hdi)
      ((congrArg (fun z => z.up.isSome) hX).trans hu) ((congrArg S.setupRetry hX).trans hm)
      (Nat.lt_of_le_of_lt (Nat.le_of_eq hpass) hp)
  have g3 : gtInSetup (toBackoff N) u = setT false true u (toBackoff N) := by
    unfold gtInSetup
    rw [if_neg (by simp [backoff, toBackoff, hrun, hg])]
    cases u
    · simp [setT, hrec, toBackoff, hurr rfl]
    · simp [setT, hrec]
  rw [g1, restOfPhase_marked c N e hd hdi hu hm hp, g3, normL_toBackoff, hX]
  rfl

/-- **the label `gtInSetup true` is the callback at yield site 2**: run the regenerated `setupRetry` with the global timer
callback interleaved right after the swing of the response slot, then the rest of the worker's phase; the state the worker goes
to sleep in is — up to the listener registration of the client stream that is gone — the back-off state of the un-interleaved
run followed by the label `gtInSetup true` -/
theorem gtInSetup_after_swing (c : Cfg) (s : S) (eos e : Bool) (hc : s.cleaned = false) (he : s.globalExpired = false)
    (hu : s.up.isSome = true) (hd : s.downReset = false) (hdi : s.direct = false) (hg : s.global = true)
    (hrun : s.running = true) (hp : s.pass < Gen.ProxyPhase.loopBudget)
    (hdead : ∀ k, curStream (setupRetry c s eos).1 = some k → streamLive (setupRetry c s eos).1 k = false) :
    normL (restOfPhase c (Gen.ProxyBackoff.setupRetry (srOps c) id (gtCallback c) eos s).1 e) =
      normL (gtInSetup (restOfPhase c (setupRetry c s eos).1 e) true) := by
  rw [setupRetry_window_after_swing c s eos hc he hu]
  obtain ⟨f1, f2, f3, f4, f5, f6, f7, _⟩ := setupRetry_marked c s eos he
  exact gtInSetup_close c _ _ e true (normL_resetUpstream_dead c (setT false true true (setupRetry c s eos).1) hdead)
    (f1.trans hd) (f2.trans hdi) (by rw [f3]; exact hu) f4 (by rw [f5]; exact hp) (f6.trans hrun) (f7.trans hg) nofun

theorem srRest_urr (c : Cfg) (eos : Bool) (m : S) : (srRest c eos m).urr = false := rfl

/-- **the label `gtInSetup false` is the callback at yield site 1** (right after the mark): with the response slot taken (a retry
decided on a response status) the callback only records the expiry; with the slot free (a retry decided on an upstream reset:
`setupRetry(true)`, the client stream is gone) it also resets the given-up request — and `setupRetry` then frees the slot
again.  Either way the state the worker goes to sleep in is — up to the listener registration of the client stream that is
gone — the back-off state of the un-interleaved run followed by the label `gtInSetup false` -/
theorem gtInSetup_after_mark (c : Cfg) (s : S) (eos e : Bool) (hc : s.cleaned = false) (he : s.globalExpired = false)
    (hu : s.up.isSome = true) (hd : s.downReset = false) (hdi : s.direct = false) (hg : s.global = true)
    (hrun : s.running = true) (hp : s.pass < Gen.ProxyPhase.loopBudget)
    (hcase : s.urr = true ∨ (eos = true ∧ ∀ k, curStream s = some k → streamLive s k = false)) :
    normL (restOfPhase c (Gen.ProxyBackoff.setupRetry (srOps c) (gtCallback c) id eos s).1 e) =
      normL (gtInSetup (restOfPhase c (setupRetry c s eos).1 e) false) := by
  rw [setupRetry_window_after_mark c s eos hc he hu]
  obtain ⟨f1, f2, f3, f4, f5, f6, f7, f8, _⟩ := setupRetry_marked c s eos he
  refine gtInSetup_close c _ _ e false ?_ (f1.trans hd) (f2.trans hdi) (by rw [f3]; exact hu) f4 (by rw [f5]; exact hp)
    (f6.trans hrun) (f7.trans hg) (fun _ => f8)
  by_cases hr : s.urr = true
  · rw [if_pos hr]
    unfold setT; rw [← f8]
  · rcases hcase with h | ⟨rfl, hdead⟩
    · exact absurd h hr
    rw [if_neg hr]
    -- the callback reset the given-up request, whose client stream was gone: nothing but its listener registration changed
    have cf : ∀ x : S, x.globalExpired = false →
        (setupRetry c x true).1 = { x with setupRetry := true, perTry := false, urr := false } := fun x hx => by
      rw [setupRetry_eq, if_neg (by simp [hx])]; rfl
    rw [cf _ (by simp [he]), cf s he]
    show ({ normL (resetUpstream c s) with
      setupRetry := true, perTry := false, urr := false, global := false, globalExpired := true } : S) = _
    rw [normL_resetUpstream_dead c s hdead]
    rfl

end MosnVerif.Model.Downstream
