import MosnVerif.Lemmas.Downstream.Finish
/-! the worker label `work`: an upstream attempt (`upstreamRequest.appendHeaders`) and the phase of the first one, `DownRecvHeader` -/
namespace MosnVerif.Model.Downstream
open MosnVerif.Gen.ProxyPhase MosnVerif.Gen.ProxyReason MosnVerif.Gen.ProxyRetry

/-- close one clause of the invariant for a state that differs from `s` in the phase only -/
macro "phase_clause" k:ident hp:ident : tactic =>
  `(tactic| (simp only [$hp:ident, fwdPhase, upPhase, prePhase, Phase.next] at $k:ident ⊢ <;> grind))

/-- `upstreamRequest.appendHeaders` while no client stream is live: nothing happens (the request is done), the pool refuses (a dead
placeholder is appended, an upstream reset raised), or it admits (the new client stream is the current one) — all the invariant needs
to know of the three outcomes -/
theorem upAppendHeaders_spec (c : Cfg) (aq : Nat) (m : S) (eos : Bool) (hled : LedgerOk c aq m) (hdead : allDead m.streams = true)
    (h22 : K22 c m) (hsr : m.setupRetry = false) (hhdr : (snd m.trace).hdr = false) :
    ∃ upv sts rq ua t fn ur rr nt,
      upAppendHeaders c m eos = { m with up := upv, streams := sts, requests := rq, upActive := ua, trace := t, failNext := fn,
                                         upReset := ur, resetReason := rr, notify := nt } ∧
      LedgerOk c aq { m with up := upv, streams := sts, requests := rq, upActive := ua } ∧ K22 c { m with streams := sts } ∧
      (m.up.isSome = true → upv.isSome = true) ∧ snd t = snd m.trace ∧ nLog t = nLog m.trace ∧
      (nt = true → ur = true ∨ m.notify = true) ∧
      (ur = true ∨ m.downReset = true ∨ c.oneway = true → liveCount sts = 0) := by
  have hl0 := allDead_liveCount hdead
  have hk := ((streamsOk_iff m).1 hled.2.2).2.2
  unfold upAppendHeaders
  by_cases hpd : processDone m = true
  · rw [if_pos hpd]
    exact ⟨m.up, m.streams, m.requests, m.upActive, m.trace, m.failNext, m.upReset, m.resetReason, m.notify, rfl, hled, h22, id,
      rfl, rfl, Or.inr, fun _ => hl0⟩
  rw [if_neg hpd]
  simp only [processDone, Bool.or_eq_true, not_or, Bool.not_eq_true] at hpd
  obtain ⟨⟨_, hdr⟩, hur⟩ := hpd
  cases poolOutcome c m with
  | some f =>
    simp only []
    rw [upOnResetStream_unmarked _ _ (by exact hsr)]
    refine ⟨m.up, _, m.requests, m.upActive, _, _, true, _, _, rfl, ?_, ?_, id, ?_, ?_, fun _ => Or.inl rfl, fun _ => ?_⟩
    · exact ledger_append c aq m _ m.up m.requests m.upActive hled hdead (fun hh => Bool.noConfusion hh)
        (fun k hk' => Nat.lt_succ_of_lt (hk k hk')) (by simp) (by simp)
    · exact fun ho => by rw [List.all_append, h22 ho]; rfl
    · rw [snd_append, sndStep_uf _ _ _ hhdr]
    · rw [nLog_append]; rfl
    · rw [liveCount_append, hl0]; rfl
  | none =>
    simp only []
    refine ⟨_, _, _, _, _, _, m.upReset, m.resetReason, m.notify, rfl, ?_, ?_, fun _ => rfl, ?_, ?_, Or.inr, fun hh => ?_⟩
    · refine ledger_append c aq m _ _ _ _ hled hdead (fun _ => ⟨rfl, rfl⟩) (fun k hk' => ?_) ?_ ?_
      · injection hk' with hk'; injection hk' with hk'; omega
      · rw [Lemmas.Resource.increase_eq]
        cases c.oneway <;> by_cases hm : c.maxRequests = 0 <;> simp [hm]
      · cases c.oneway <;> simp
    · exact fun ho => by rw [List.all_append, h22 ho]; simp [ho]
    · rw [snd_append, snd_append, sndStep_un _ _ hhdr]; rfl
    · rw [nLog_append, nLog_append]; rfl
    · rw [liveCount_append, hl0]
      rcases hh with hh | hh | hh
      · rw [hur] at hh; cases hh
      · rw [hdr] at hh; cases hh
      · simp [hh]

/-- the state an upstream attempt starts from — the first (`DownRecvHeader`) or a retry after the back-off (`Retry`, no local reply
pending, the global timeout not expired): an upstream request and a retry state exist, no client stream is live, nothing went to
the client, and of the asynchronous events only the client's departure can be pending -/
structure AttemptCtx (c : Cfg) (s : S) : Prop where
  ph : s.phase = .DownRecvHeader ∨ (s.phase = .Retry ∧ c.oneway = false)
  up : s.up.isSome = true
  rs : s.rs.isSome = true
  dead : allDead s.streams = true
  pt : s.perTry = false
  ur : s.upReset = false
  urr : s.urr = false
  exp : s.globalExpired = false
  ps : s.pass = 0
  rst : s.respStarted = false
  sr : s.setupRetry = false
  dir : s.direct = false
  gl : s.reqSent = true → s.global = true

theorem attemptCtx_first {c : Cfg} {ar aq : Nat} {s : S} (h : Inv c ar aq s) (hrun : s.running = true)
    (hp : s.phase = .DownRecvHeader) : AttemptCtx c s := by
  have hcl := inv_not_cleaned h hrun
  obtain ⟨hst, hrq, hpt, _, hurr, hur, hge⟩ := h.k30 hcl (Or.inr hp)
  obtain ⟨hup, hrs⟩ := fwd_main h hcl (by rw [hp]; rfl) (fun _ => by rw [hp]; decide)
  exact ⟨Or.inl hp, hup, hrs, by rw [hst]; rfl, hpt, hur, hurr, hge, (h.k8 hcl).2.resolve_right (by rw [hp]; decide),
    h.k16 hcl (by rw [hp]; rfl), (h.k7 hcl).1, not_direct_of_phase h.k7 hcl (by rw [hp]; decide),
    fun hq => Bool.noConfusion (hrq.symm.trans hq)⟩

/-- what an upstream attempt leaves behind: the upstream request, the client streams and their ledger, the trace, the scripted pool
outcomes, the reset raised by a refusal, and — once the request is complete — `reqSent` and the timers -/
def attempted (s : S) (upv : Option (Option Nat)) (sts : List Stream) (rq ua : Int) (t : List Ev) (fn : List PoolFail)
    (ur : Bool) (rr : Reason) (nt snt rd pt gt : Bool) (gg : Nat) (go : Bool) : S :=
  { s with up := upv, streams := sts, requests := rq, upActive := ua, trace := t, failNext := fn, upReset := ur, resetReason := rr,
           notify := nt, reqSent := snt, recvDone := rd, perTry := pt, global := gt, gtGen := gg, gtObj := go }

/-- the end of a phase whose body made an upstream attempt: a refusal is handled as an upstream reset, the client's departure cleans
the stream, else the worker goes on forwarding (`DownRecvData`) or parks (`WaitNotify`) -/
theorem finish_attempt (c : Cfg) (ar aq : Nat) (s : S) (h : Inv c ar aq s) (hrun : s.running = true) (x : AttemptCtx c s)
    (upv : Option (Option Nat)) (sts : List Stream) (rq ua : Int) (t : List Ev) (fn : List PoolFail)
    (ur : Bool) (rr : Reason) (nt snt rd pt gt : Bool) (gg : Nat) (go : Bool)
    (hled : LedgerOk c aq { s with up := upv, streams := sts, requests := rq, upActive := ua })
    (h22 : K22 c { s with streams := sts }) (hups : upv.isSome = true)
    (ht1 : snd t = snd s.trace) (ht2 : nLog t = nLog s.trace)
    (hnt : nt = true → ur = true ∨ s.notify = true)
    (hlc : ur = true ∨ s.downReset = true ∨ c.oneway = true → liveCount sts = 0)
    (hoff : c.oneway = true → pt = false ∧ gt = false) (hgl : c.oneway = false → snt = true → gt = true)
    (h29 : s.phase = .DownRecvHeader → c.oneway = false → snt = true ∨ c.hasData = true ∨ c.hasTrailers = true)
    (hw : s.phase = .Retry → snt = true) :
    Inv c ar aq (finishPhase c (attempted s upv sts rq ua t fn ur rr nt snt rd pt gt gg go)) := by
  obtain ⟨hph, hup, hrs, _, _, hur0, hurr, hge, hps, hrst, hsr, hdir, _⟩ := x
  have l := h.live hrun
  have l1 : Live c ar aq (attempted s upv sts rq ua t fn ur rr nt snt rd pt gt gg go) :=
    { l with
      k1 := by simpa [K1, attempted, ht1] using h.k1
      k2 := by simpa [K2, attempted, ht1] using h.k2
      k3 := by simpa [K3, attempted, ht1] using h.k3
      k4 := by show nLog t = _; rw [ht2]; exact h.k4
      k10 := hled.1, k11 := hled.2.1, k14 := hled.2.2
      k20 := fun ho => hlc (Or.inr (Or.inr ho)), k21 := hoff, k22 := h22
      k31 := fun _ => hups }
  refine finish_plain c ar aq _ l1 hsr hdir (fun _ => ⟨hps, hrst⟩)
    (fun hu how => ⟨hlc (Or.inl hu), ?_, fun hq => Or.inl (hgl how hq)⟩) ?_
  · show s.phase ≠ .UpFilter
    rcases hph with hp | ⟨hp, _⟩ <;> (rw [hp]; decide)
  · intro hu hd
    have hu : ur = false := hu
    have hd : s.downReset = false := hd
    have hnt0 : nt = false := eq_false_of_ne_true fun hn => by
      rcases hnt hn with hh | hh
      · rw [hu] at hh; cases hh
      · have := h.k28 l.cl hh; simp [hurr, hur0, hd] at this
    -- the phase the worker goes on with: `DownRecvData` after the first attempt, `WaitNotify` after a retry
    have hq : upPhase s.phase.next = false ∧ prePhase s.phase.next = false ∧ s.phase.next ≠ .End ∧ s.phase.next ≠ .Retry ∧
        ¬ (s.phase.next = .DownFilterAfterChooseHost ∨ s.phase.next = .DownRecvHeader) ∧
        s.phase.next ≠ .DownRecvTrailer ∧ s.phase.next ≠ .Oneway ∧ (s.phase.next = .DownRecvData → s.phase = .DownRecvHeader) ∧
        (s.phase.next = .WaitNotify → s.phase = .Retry) := by
      rcases hph with hp | ⟨hp, _⟩ <;> (rw [hp]; decide)
    obtain ⟨q2, q3, q4, q5, q6, q8, q9, q10, q11⟩ := hq
    have hnw : c.oneway = true → s.phase.next ≠ .WaitNotify := fun ho hq => by
      rcases hph with hp | ⟨_, how⟩
      · rw [hp] at hq; cases hq
      · rw [how] at ho; cases ho
    unfold attempted at l1 ⊢
    exact Live.inv { l1 with }
      (k7 := k7_intro hsr hdir) (k8 := fun _ => ⟨by show s.pass ≤ 1; omega, Or.inl hps⟩) (k15 := .vac q2)
      (k16 := fun _ _ => hrst) (k17 := .vac q3)
      (k18 := fun _ _ => Or.inr ⟨hups, hrs, fun hh => by simp [hurr, hu, hd] at hh, fun hh => Bool.noConfusion (hge.symm.trans hh),
        fun how hq => Or.inl (hgl how hq), fun hq => Or.inl (hw (q11 hq))⟩)
      (k19 := fun _ => q4)
      (k23 := fun _ hh => hh.elim (fun hh => Bool.noConfusion (hu.symm.trans hh)) (fun hh => absurd hh q5))
      (k24 := fun _ how hq _ => Or.inl (hgl how hq)) (k25 := h.k25) (k26 := .vac q5)
      (k27 := fun _ _ hh => Bool.noConfusion (hurr.symm.trans hh)) (k28 := fun _ hh => Bool.noConfusion (hnt0.symm.trans hh))
      (k29 := fun _ how _ => ⟨fun hq => h29 (q10 hq) how, fun hq => absurd hq q8, fun hq => absurd hq q9⟩)
      (k30 := .vac q6) (k32 := fun _ ho => ⟨q2, hnw ho, q5⟩)

/-- phase `DownRecvHeader`: the first `ConnectionPool.NewStream` -/
theorem inv_work_drh (c : Cfg) (ar aq : Nat) (s : S) (h : Inv c ar aq s) (hrun : s.running = true)
    (hp : s.phase = .DownRecvHeader) (eos : Bool) (heos : eos = (!c.hasData && !c.hasTrailers)) :
    Inv c ar aq (finishPhase c (receiveHeaders c s eos)) := by
  have x := attemptCtx_first h hrun hp
  obtain ⟨upv, sts, rq, ua, t, fn, ur, rr, nt, e, hled, h22, hups, ht1, ht2, hnt, hlc⟩ :=
    upAppendHeaders_spec c aq s eos ⟨h.k10, h.k11, h.k14⟩ x.dead h.k22 x.sr (h.k2.trans x.rst)
  unfold receiveHeaders
  rw [e, requestSentIf_eq]
  refine finish_attempt c ar aq s h hrun x upv sts rq ua t fn ur rr nt _ s.recvDone _ _ _ _ hled h22 (hups x.up) ht1 ht2 hnt hlc
    ?_ ?_ ?_ (fun hq => by rw [hp] at hq; cases hq)
  · intro ho; simp [ho, x.pt, (h.k21 ho).2]
  · intro how hq
    simp only [Bool.or_eq_true] at hq
    rcases hq with hq | hq
    · simp [x.gl hq]
    · simp [hq, how, hups x.up]
  · intro _ _
    rw [heos]
    cases c.hasData <;> cases c.hasTrailers <;> simp

end MosnVerif.Model.Downstream
