import MosnVerif.Model.DownstreamBackoff
import MosnVerif.Lemmas.Downstream.Tails
import MosnVerif.Lemmas.Downstream.Worker3
import MosnVerif.Lemmas.Downstream.Worker7
/-!
The label `work` and the tail of `processError` by cases: which body the phase the worker is at runs (`Body`), and what follows it (`Work`: the
`processError` that ends the phase, the next phase, or the worker's return).  The invariants of the machine go through the
label by these cases.
-/
namespace MosnVerif.Model.Downstream
open MosnVerif.Gen.ProxyPhase MosnVerif.Gen.ProxyReason

/-- the phases whose body is empty on the machine: the filter phases, route matching — and a response part that is dropped -/
def bodyless : Phase → Bool
  | .DownFilter | .MatchRoute | .DownFilterAfterRoute | .DownFilterAfterChooseHost
  | .UpRecvHeader | .UpRecvData | .UpRecvTrailer => true
  | _ => false

/-- the phases that are skipped when the request / the response has no such part (and `InitPhase`) -/
def partPhase : Phase → Bool
  | .InitPhase | .DownRecvData | .DownRecvTrailer | .UpRecvHeader | .UpRecvData | .UpRecvTrailer => true
  | _ => false

/-- `Body c s x`: `x` is `s` after the body of the phase the worker is at, before the `processError` that ends the phase -/
inductive Body (c : Cfg) (s : S) : S → Prop
  /-- the filter phases and route matching; a response part that is dropped because the request is done or marked for a retry -/
  | none (hp : bodyless s.phase = true) : Body c s s
  | chooseHost (hp : s.phase = .ChooseHost) : Body c s (chooseHost c s)
  | headers (hp : s.phase = .DownRecvHeader) : Body c s (receiveHeaders c s (!c.hasData && !c.hasTrailers))
  /-- `receiveData`, `receiveTrailers`: a part of the request after its headers -/
  | part (hp : s.phase = .DownRecvData ∨ s.phase = .DownRecvTrailer) (e : Nat → Ev) (eos : Bool)
      (he : ∀ k, attemptEv (e k) = false) : Body c s (if processDone s then s else sendPart c s e eos)
  | retry (hp : s.phase = .Retry) : Body c s (doRetry c s)
  | woken (hp : s.phase = .WaitNotify) (hn : s.notify = true) : Body c s { s with notify := false }
  | upHeaders (hp : s.phase = .UpRecvHeader) (r : Resp) (hr : s.resp = some r) (hgo : ¬(processDone s || s.setupRetry) = true) :
      Body c s (onUpstreamHeaders c s (!r.hasData && !r.hasTrailers))
  | upData (hp : s.phase = .UpRecvData) (r : Resp) (hr : s.resp = some r) (hgo : ¬(processDone s || s.setupRetry) = true) :
      Body c s (onUpstreamData c s (!r.hasTrailers))
  | upTrailers (hp : s.phase = .UpRecvTrailer) (hgo : ¬(processDone s || s.setupRetry) = true) :
      Body c s (onUpstreamTrailers c s)

/-- `Work c s t`: `t` is `s` after one iteration of `receive`'s loop -/
inductive Work (c : Cfg) (s : S) : S → Prop
  /-- the worker has returned, waits for the body of a streamed response, or is parked with nothing signalled -/
  | idle : Work c s s
  /-- `InitPhase`; a phase of a part the request / the response does not have; the one-way phase of a two-way request -/
  | skip (p : Phase) (hp : (partPhase s.phase = true ∧ p = s.phase.next) ∨ (s.phase = .Oneway ∧ p = onewayNext)) :
      Work c s { s with phase := p }
  | phase (x : S) (b : Body c s x) : Work c s (finishPhase c x)
  /-- the one-way phase of a one-way request: `cleanStream`, and the worker returns -/
  | oneway (ho : c.oneway = true) (hp : s.phase = .Oneway) : Work c s (reenter (cleanStream c s) .End)
  /-- the sender filters of the response: the end of a phase, then a request object for a local reply that has none -/
  | upFilter (hp : s.phase = .UpFilter) (y : S) (hy : finishPhase c s = y) (u : Option (Option Nat))
      (hu : u = y.up ∨ u = some none) : Work c s { y with up := u }
  | ended (hp : s.phase = .End) : Work c s { s with running := false }

theorem work_idle (c : Cfg) (s : S) (h : s.running = false ∨ bodyWait s = true) : work c s = s := by
  unfold work
  by_cases hr : (!s.running) = true
  · rw [if_pos hr]
  · rw [if_neg hr]
    rcases h with h | h
    · rw [h] at hr; exact absurd rfl hr
    · rw [if_pos h]

theorem Body.not_oneway {c : Cfg} {s x : S} (b : Body c s x) : s.phase ≠ .Oneway := by
  intro h
  cases b <;> simp_all [bodyless]

theorem Work.ite {c : Cfg} {s a b : S} {g : Prop} [Decidable g] (ha : g → Work c s a) (hb : ¬g → Work c s b) :
    Work c s (if g then a else b) := by
  split
  · exact ha ‹_›
  · exact hb ‹_›

theorem work_cases (c : Cfg) (s : S) : Work c s (work c s) := by
  unfold work
  refine .ite (fun _ => .idle) fun _ => .ite (fun _ => .idle) fun _ => ?_
  -- a response part: written unless the request is done or marked for a retry
  have part : ∀ x : S, (¬(processDone s || s.setupRetry) = true → Body c s x) → bodyless s.phase = true →
      Work c s (finishPhase c (if (processDone s || s.setupRetry) = true then s else x)) := fun x bx hbl => by
    by_cases hgo : (processDone s || s.setupRetry) = true
    · rw [if_pos hgo]; exact .phase s (.none hbl)
    · rw [if_neg hgo]; exact .phase x (bx hgo)
  split <;> rename_i hp
  · exact .skip _ (Or.inl ⟨by rw [hp]; rfl, rfl⟩)
  · exact .phase s (.none (by rw [hp]; rfl))
  · exact .phase s (.none (by rw [hp]; rfl))
  · exact .phase s (.none (by rw [hp]; rfl))
  · exact .phase _ (.chooseHost hp)
  · exact .phase s (.none (by rw [hp]; rfl))
  · exact .phase _ (.headers hp)
  · rw [receiveData_eq]
    exact .ite (fun _ => .phase _ (.part (.inl hp) _ _ fun _ => rfl)) fun _ => .skip _ (Or.inl ⟨by rw [hp]; rfl, rfl⟩)
  · rw [receiveTrailers_eq]
    exact .ite (fun _ => .phase _ (.part (.inr hp) _ _ fun _ => rfl)) fun _ => .skip _ (Or.inl ⟨by rw [hp]; rfl, rfl⟩)
  · refine .ite (fun ho => ?_) fun _ => .skip _ (Or.inr ⟨hp, rfl⟩)
    have hpe : processError c (cleanStream c s) = (cleanStream c s, some .End) := by
      rw [processError_spec, if_pos]
      unfold cleanStream; split
      · assumption
      · exact cleanBody_cleaned c s
    rw [hpe]; exact .oneway ho hp
  · exact .phase _ (.retry hp)
  · exact .ite (fun hn => .phase _ (.woken hp hn)) fun _ => .idle
  · cases hpe : processError c s with
    | mk x o =>
      cases o with
      | some p =>
        show Work c s (reenter x p)
        generalize hz : reenter x p = z
        exact .upFilter hp z (by rw [finishPhase_eq, hpe]; exact hz) z.up (Or.inl rfl)
      | none =>
        exact .upFilter hp { x with phase := x.phase.next } (by rw [finishPhase_eq, hpe]; rfl)
          (if x.up.isNone then some none else x.up) (by split; exact Or.inr rfl; exact Or.inl rfl)
  · split
    · rename_i r hr; exact part _ (.upHeaders hp r hr) (by rw [hp]; rfl)
    · exact .skip _ (Or.inl ⟨by rw [hp]; rfl, rfl⟩)
  · split
    · rename_i r hr
      exact .ite (fun _ => part _ (.upData hp r hr) (by rw [hp]; rfl)) fun _ => .skip _ (Or.inl ⟨by rw [hp]; rfl, rfl⟩)
    · exact .skip _ (Or.inl ⟨by rw [hp]; rfl, rfl⟩)
  · split
    · rename_i r hr
      exact .ite (fun _ => part _ (.upTrailers hp) (by rw [hp]; rfl)) fun _ => .skip _ (Or.inl ⟨by rw [hp]; rfl, rfl⟩)
    · exact .skip _ (Or.inl ⟨by rw [hp]; rfl, rfl⟩)
  · exact .ended hp

/-- `chooseHost` answers the request itself (no route, no healthy host, a direct response) or creates the retry state and the
upstream request -/
theorem chooseHost_cases (c : Cfg) (s : S) :
    (∃ fl code b, chooseHost c s = sendHijack { s with recvDone := !c.hasData && !c.hasTrailers, flags := fl } code b) ∨
    chooseHost c s = { s with recvDone := !c.hasData && !c.hasTrailers,
                              rs := some ⟨max Gen.ProxyRetry.retriesFloor c.numRetries, false⟩, up := some none } := by
  unfold chooseHost
  simp only []
  split
  · exact .inl ⟨_, _, _, rfl⟩
  · exact .inl ⟨_, _, _, rfl⟩
  · exact .inl ⟨_, _, _, rfl⟩
  · split
    · exact .inl ⟨_, _, _, rfl⟩
    · exact .inr rfl

/-- the end of `onUpstreamReset` in closed form (the regenerated `resetNotReply`): timers and retry slot are cleaned up; then the
client stream is reset when response headers went downstream already, else the reset is answered with a local reply -/
theorem onUpstreamResetFinish_eq (c : Cfg) (s : S) (r : Reason) :
    onUpstreamResetFinish c s r =
      if s.respStarted then resetDownstream c (cleanUp c s)
      else sendHijack { orFlag (cleanUp c s) (reasonToFlag r) with upReset := false } (reasonToCode r) false := rfl

/-- what `OnReceive`'s loop writes when `receive` hands back the phase `p` -/
theorem reenter_fields (s : S) (p : Phase) :
    ∃ (pa : Nat) (ru no : Bool), reenter s p = { s with pass := pa, running := ru, phase := p, notify := no } := by
  unfold reenter
  by_cases h1 : (p == .End) = true
  · rw [if_pos h1, ← eq_of_beq h1]; exact ⟨_, _, _, rfl⟩
  · rw [if_neg h1]
    simp only []
    generalize (if (p == .Retry && retryKeepsBudget) = true then s.pass else s.pass + 1) = pa
    split <;> exact ⟨pa, _, _, rfl⟩

theorem reenter_phase (s : S) (p : Phase) : (reenter s p).phase = p := by
  obtain ⟨_, _, _, h⟩ := reenter_fields s p
  rw [h]

/-- `PeTail c s e r`: `r` is what the tail of `processError` (`peTail`) makes of `s`; `e`: an upstream reset was dealt with before -/
inductive PeTail (c : Cfg) (s : S) (e : Bool) : S × Option Phase → Prop
  /-- the client is gone: `ResetStream`, the worker returns -/
  | clientGone (hd : s.downReset = true) : PeTail c s e (dsResetStream c s, some .End)
  /-- a local reply is pending: the retry state is released, a retry being set up abandoned; on to the one-way phase, back to
  `UpFilter`, or — already there — on with the response pass -/
  | reply (hd : s.downReset = false) (hdi : s.direct = true) (p : Option Phase)
      (hp : (c.oneway = true ∧ p = some .Oneway) ∨ (c.oneway = false ∧ p = some .UpFilter) ∨
        (c.oneway = false ∧ p = none ∧ s.phase = .UpFilter)) :
      PeTail c s e (abandonRetry { s with direct := false, rs := none, retries := (rsReset c s).retries }, p)
  /-- the upstream request is marked: it is detached and the worker sent to the back-off -/
  | retry (hd : s.downReset = false) (hdi : s.direct = false) (hm : s.setupRetry = true) :
      PeTail c s e ({ s with up := some none, setupRetry := false }, some .Retry)
  /-- nothing is pending: the worker returns after a reset that was answered or when the request is done, else it goes on -/
  | plain (hd : s.downReset = false) (hdi : s.direct = false) (p : Option Phase)
      (hp : p = some .End ∨ (p = none ∧ e = false ∧ s.procDone = false)) : PeTail c s e (s, p)

theorem peTail_cases (c : Cfg) (s : S) (e : Bool) : PeTail c s e (peTail c s e) := by
  -- the branches of `peTail` in the order it tests them
  fun_cases peTail c s e
  case case1 hd => exact .clientGone hd
  case case2 hd hdi _ ho => exact .reply (by simpa using hd) hdi _ (.inl ⟨ho, rfl⟩)
  case case3 hd hdi _ ho hp => exact .reply (by simpa using hd) hdi _ (.inr (.inl ⟨by simpa using ho, rfl⟩))
  case case4 hd hdi _ ho hp => exact .reply (by simpa using hd) hdi _ (.inr (.inr ⟨by simpa using ho, rfl, by simpa using hp⟩))
  case case5 hd hdi hm => exact .retry (by simpa using hd) (by simpa using hdi) (by simp_all)
  case case6 hd hdi hm =>
    refine .plain (by simpa using hd) (by simpa using hdi) _ ?_
    split
    · exact .inl rfl
    · exact .inr ⟨rfl, by simp_all⟩

theorem abandonRetry_clears (z : S) :
    (abandonRetry z).phase = z.phase ∧ (z.up.isSome = true → (abandonRetry z).setupRetry = false) := by
  unfold abandonRetry
  cases hu : z.up.isSome <;> cases hm : z.setupRetry <;> simp [hm]

/-- **`processError` never hands back the phase `Retry` while a local reply is pending** (regenerated `Gen.ProxyError`, closed
form `peTail`; fix 4e7d4a7f0): the reply goes to the response pass, and the retry that was being set up is abandoned — the mark
is cleared, the given-up request detached -/
theorem direct_abandons_retry (c : Cfg) (x : S) (e : Bool) (hd : x.downReset = false) (hdi : x.direct = true) :
    (peTail c x e).2 ≠ some .Retry ∧ (finishOf (peTail c x e)).phase ≠ .Retry ∧
    (x.up.isSome = true → (peTail c x e).1.setupRetry = false) := by
  generalize hr : peTail c x e = r
  have t := peTail_cases c x e
  rw [hr] at t
  cases t with
  | clientGone h => rw [hd] at h; cases h
  | reply _ _ p hp =>
    have hy := abandonRetry_clears ({ x with direct := false, rs := none, retries := (rsReset c x).retries } : S)
    rcases hp with ⟨_, rfl⟩ | ⟨_, rfl⟩ | ⟨_, rfl, hph⟩
    · exact ⟨nofun, by simp [finishOf, reenter_phase], hy.2⟩
    · exact ⟨nofun, by simp [finishOf, reenter_phase], hy.2⟩
    · exact ⟨nofun, by show (abandonRetry _).phase.next ≠ .Retry; rw [hy.1]; simp [hph, Phase.next], hy.2⟩
  | retry _ h => rw [hdi] at h; cases h
  | plain _ h => rw [hdi] at h; cases h

end MosnVerif.Model.Downstream
