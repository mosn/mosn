import MosnVerif.Lemmas.DownstreamProps
import MosnVerif.Lemmas.Downstream.AsyncFrame
import MosnVerif.Lemmas.Downstream.Path
import MosnVerif.Lemmas.Fold
/-!
Second invariant of the downstream machine, proved on top of `Inv`: every live client stream is listened to by the
proxy's upstream request (`Inv2.listen`), and while a two-way request is being forwarded / awaited with no event
signalled (no response accepted, no upstream reset, no client reset) its current upstream attempt is live (`Inv2.await`).
Consequence (`parked_live`): a worker parked in `waitNotify` waits for a live upstream request — the Spec clause
"an unfinished started exchange has upActive ≥ 1".
-/
namespace MosnVerif.Model.Downstream
open MosnVerif.Gen.ProxyPhase MosnVerif.Gen.ProxyReason MosnVerif.Gen.ProxyRetry

/-- every live client stream still has the proxy's upstream request as event listener -/
def listenOk (l : List Stream) : Bool := l.all (fun st => !st.live || st.listening)

/-- the phases in which the request is (being) sent and the answer awaited -/
def awaiting (p : Phase) : Bool :=
  p == .DownRecvData || p == .DownRecvTrailer || p == .Oneway || p == .WaitNotify

/-- nothing has been signalled to the worker -/
def quietS (s : S) : Bool := !s.cleaned && awaiting s.phase && !s.urr && !s.upReset && !s.downReset

structure Inv2 (c : Cfg) (s : S) : Prop where
  listen : listenOk s.streams = true
  await : c.oneway = false → quietS s = true → 0 < liveCount s.streams

/-- what every label keeps on the states of the invariant, every schedule keeps from any such state on -/
theorem run_inv {X : S → Prop} (c : Cfg) (ar aq : Nat) (keep : ∀ s l, Inv c ar aq s → X s → X (step c s l))
    {s : S} (hi : Inv c ar aq s) (h0 : X s) (l : List Label) : X (run c s l) :=
  (Lemmas.Fold.foldl_inv (P := fun s => Inv c ar aq s ∧ X s)
    (fun s a h => ⟨inv_step c ar aq s a h.1, keep s a h.1 h.2⟩) l s ⟨hi, h0⟩).2

/-- an update of one client stream keeps every live stream listened to when the updated stream is dead or listened to -/
theorem listenOk_setStream (l : List Stream) (k : Nat) (f : Stream → Stream) (h : listenOk l = true)
    (hf : ∀ st, l[k]? = some st → (!(f st).live || (f st).listening) = true) : listenOk (setStream l k f) = true := by
  unfold listenOk at h ⊢
  exact all_setStream h k f fun st hk _ => hf st hk

theorem setStream_setStream (l : List Stream) (k : Nat) (f g : Stream → Stream) :
    setStream (setStream l k f) k g = setStream l k (fun st => g (f st)) := by
  fun_induction setStream l k f <;> simp [setStream, *]

theorem listenOk_destroy (c : Cfg) (s : S) (k : Nat) (h : listenOk s.streams = true) :
    listenOk (destroyStream c s k).streams = true := by
  simp only [destroyStream]
  split
  · exact listenOk_setStream _ _ kill h (fun _ _ => rfl)
  · exact h

/-- `resetStream()` of the upstream request: the listener is removed and the stream reset — it is dead afterwards -/
theorem listenOk_resetUpstream (c : Cfg) (s : S) (h : listenOk s.streams = true) :
    listenOk (resetUpstream c s).streams = true := by
  unfold resetUpstream
  cases hc : curStream s with
  | none => exact h
  | some k =>
    have key : ∀ s1 : S, s1.streams = setStream s.streams k unlisten → listenOk (destroyStream c s1 k).streams = true := by
      intro s1 hs1
      simp only [destroyStream, hs1]
      split
      · rw [setStream_setStream]; exact listenOk_setStream _ _ (fun st => kill (unlisten st)) h (fun _ _ => rfl)
      · rename_i hl
        refine listenOk_setStream _ _ _ h (fun st hk => ?_)
        simp only [streamLive, hs1, setStream_get, if_true, hk, Option.map_some, unlisten, Bool.not_eq_true] at hl
        simp [unlisten, hl]
    exact key _ rfl

theorem listenOk_append (l : List Stream) (st : Stream) (h : listenOk l = true) (hs : (!st.live || st.listening) = true) :
    listenOk (l ++ [st]) = true := by
  simp only [listenOk, List.all_append, List.all_cons, List.all_nil, Bool.and_true, Bool.and_eq_true] at h ⊢
  exact ⟨h, hs⟩

theorem liveCount_resetUpstream_le (c : Cfg) (aq : Nat) (s : S) (h : LedgerOk c aq s) :
    liveCount (resetUpstream c s).streams = 0 := allDead_liveCount (resetUpstream_ledger c aq s h).2

theorem listening_of_live (s : S) (k : Nat) (st : Stream) (h : listenOk s.streams = true) (hk : s.streams[k]? = some st)
    (hl : st.live = true) : st.listening = true := by
  simp only [listenOk, List.all_eq_true] at h
  have := h st (List.mem_of_getElem? hk)
  simpa [hl] using this

/-- **the reset of a live client stream the proxy listens to**, in every state of the invariant: the stream is not cleaned, no
reset is pending and no retry is being set up (no client stream would be live), so `OnResetStream` raises `upstreamReset` and
wakes the worker; the stream is destroyed; nothing else changes — nothing is written -/
theorem upReset_live {c : Cfg} {ar aq : Nat} {s : S} (h : Inv c ar aq s) (k : Nat) (r : Reason) (st : Stream)
    (hk : s.streams[k]? = some st) (hst : st.real = true ∧ st.live = true ∧ st.counted = true ∧ st.listening = true) :
    s.cleaned = false ∧
    step c s (.upReset k r) = destroyStream c { s with upReset := true, resetReason := r, notify := true } k := by
  have hpos := liveCounted_pos s k (by simp [streamLiveCounted, hk, hst.2.1, hst.2.2.1])
  obtain ⟨hcl, _, _⟩ := live_ctx c ar aq s h hpos
  have hur : s.upReset = false := by
    cases hu : s.upReset with
    | false => rfl
    | true => have := h.k23 hcl (Or.inl hu); omega
  refine ⟨hcl, ?_⟩
  simp [step, upResetL, hk, hst.1, hst.2.1, hst.2.2.1, hst.2.2.2, upOnResetStream, (h.k7 hcl).1, hur]

theorem listen_cleanUp (c : Cfg) (s : S) : (cleanUp c s).streams = s.streams := by simp

/-- no primitive update leaves a live client stream without its listener -/
theorem listen_upd {c : Cfg} {k : Kind} {s t : S} (u : Upd c k s t) (hl : listenOk s.streams = true) : listenOk t.streams = true := by
  cases u with
  | frame h => rw [h.streams]; exact hl
  | resetUpstream => exact listenOk_resetUpstream c s hl
  | newStream _ st hst => exact listenOk_append _ st hl hst
  | _ => exact hl

theorem listen_work (c : Cfg) (s : S) (h : listenOk s.streams = true) : listenOk (work c s).streams = true :=
  (path_work c s).keeps (P := fun s => listenOk s.streams = true) (fun _ u => listen_upd u) h

theorem quietS_iff (s : S) : quietS s = true ↔
    s.cleaned = false ∧ awaiting s.phase = true ∧ s.urr = false ∧ s.upReset = false ∧ s.downReset = false := by
  simp only [quietS, Bool.and_eq_true, Bool.not_eq_true', and_assoc]

theorem not_cleaned_facts {c : Cfg} {ar aq : Nat} {s : S} (h : Inv c ar aq s) (hcl : s.cleaned = false) :
    s.procDone = false ∧ s.setupRetry = false := by
  refine ⟨?_, (h.k7 hcl).1⟩
  cases hp : s.procDone with
  | false => rfl
  | true => have := h.k5 hp; rw [hcl] at this; cases this

theorem Inv2.of_signal {c : Cfg} {t : S} (hl : listenOk t.streams = true)
    (hs : t.urr = true ∨ t.upReset = true ∨ t.downReset = true ∨ awaiting t.phase = false) : Inv2 c t := by
  refine ⟨hl, fun _ hq => ?_⟩
  rw [quietS_iff] at hq
  rcases hs with h | h | h | h
  · rw [hq.2.2.1] at h; cases h
  · rw [hq.2.2.2.1] at h; cases h
  · rw [hq.2.2.2.2] at h; cases h
  · rw [hq.2.1] at h; cases h

/-- `hu`: a response frame is accepted unless the request is done or marked for a retry, which a quiet one is not -/
theorem Inv2.of_frame {c : Cfg} {ar aq : Nat} {s t : S} (h : Inv c ar aq s) (hl : listenOk t.streams = true)
    (hcl : t.cleaned = s.cleaned) (hur : t.upReset = s.upReset) (hdr : t.downReset = s.downReset)
    (hu : (processDone s || s.setupRetry) = false → t.urr = true) : Inv2 c t := by
  refine ⟨hl, fun _ hq => ?_⟩
  rw [quietS_iff, hcl, hur, hdr] at hq
  obtain ⟨q1, _, q3, q4, q5⟩ := hq
  obtain ⟨hpd, hsr⟩ := not_cleaned_facts h q1
  rw [hu (by simp [processDone, hpd, hsr, q4, q5])] at q3
  cases q3

/-- a label of another goroutine either does nothing, or leaves alone everything `Inv2` reads, or signals something to the
worker — and then nothing is awaited any more -/
theorem Async.inv2 {c : Cfg} {ar aq : Nat} {s t : S} (a : Async c s t) (h : Inv c ar aq s) (h2 : Inv2 c s) : Inv2 c t := by
  cases a with
  | same => exact h2
  | timers f hg p g e u hgl hu =>
    rcases hu with rfl | rfl
    · exact ⟨h2.listen, h2.await⟩
    · exact Inv2.of_signal h2.listen (Or.inl rfl)
  | response k code d t st x acc hk hst hurr hx hacc =>
    refine Inv2.of_frame h ?_ ?_ ?_ ?_ (fun hp => by show (s.urr || acc) = true; rw [hacc hp, Bool.or_true])
    all_goals rcases hx with rfl | rfl
    · exact h2.listen
    · exact listenOk_destroy c s k h2.listen
    all_goals rfl
  | ended k hurr => exact Inv2.of_signal (listenOk_destroy c s k h2.listen) (Or.inl hurr)
  | reset k r st hk hlive =>
    -- a live stream is listened to: its reset reaches the upstream request, which records it unless one is pending
    -- already (or a retry is being set up, which a request that is not cleaned is not)
    rw [listening_of_live s k st h2.listen hk hlive, if_pos rfl]
    refine ⟨listenOk_destroy c (upOnResetStream s r) k h2.listen, fun _ hq => ?_⟩
    rw [quietS_iff] at hq
    obtain ⟨q1, _, _, q4, _⟩ := hq
    have hsr := (not_cleaned_facts h q1).2
    have q4 : (s.upReset || (!s.setupRetry && !s.upReset)) = false := q4
    simp [hsr] at q4
  | timedOut p g e hgl y hy r =>
    have hy' : listenOk y.streams = true ∧ y.urr = true := by
      rcases hy with rfl | rfl
      · exact ⟨listenOk_resetUpstream c _ h2.listen, resetUpstream_urr c _⟩
      · exact ⟨listenOk_resetUpstream c _ h2.listen, resetUpstream_urr c _⟩
    exact Inv2.of_signal hy'.1 (Or.inl hy'.2)
  | clientGone dl r => exact Inv2.of_signal h2.listen (Or.inr (Or.inr (Or.inl rfl)))
  | terminated code hz hcl hurr => exact Inv2.of_signal (listenOk_resetUpstream c s h2.listen) (Or.inl rfl)

theorem not_quiet_reenter (s : S) (p : Phase) (hp : awaiting p = false) : quietS (reenter s p) = false := by
  cases hq : quietS (reenter s p) with
  | false => rfl
  | true =>
    rw [quietS_iff] at hq
    rw [reenter_phase, hp] at hq
    cases hq.2.1

/-- the end of a phase leaves the worker quiet only when `processError` found nothing: it just moved on -/
theorem finish_quiet (c : Cfg) (s : S) (how : c.oneway = false) (hq : quietS (finishPhase c s) = true) :
    finishPhase c s = { s with phase := s.phase.next } ∧ s.upReset = false ∧ s.downReset = false ∧ s.direct = false := by
  -- the phases `processError` hands back to a two-way request are not awaiting ones
  have back : ∀ {x : S} {p : Phase}, awaiting p = false → quietS (reenter x p) = true → False := fun hp h => by
    rw [not_quiet_reenter _ _ hp] at h; cases h
  have tail : ∀ (g : S) (e : Bool), quietS (finishOf (peTail c g e)) = true →
      e = false ∧ finishOf (peTail c g e) = { g with phase := g.phase.next } ∧ g.downReset = false ∧ g.direct = false := by
    intro g e hq
    generalize hr : peTail c g e = r at hq ⊢
    have t := peTail_cases c g e
    rw [hr] at t
    cases t with
    | clientGone => exact (back (by decide) hq).elim
    | reply _ _ p hp =>
      rcases hp with ⟨ho, _⟩ | ⟨_, rfl⟩ | ⟨_, rfl, hph⟩
      · rw [how] at ho; cases ho
      · exact (back (by decide) hq).elim
      · -- on with the response pass
        have h1 : awaiting (abandonRetry _).phase.next = true := ((quietS_iff _).mp hq).2.1
        rw [(path_abandonRetry c _).phase] at h1
        simp [hph, Phase.next, awaiting] at h1
    | retry => exact (back (by decide) hq).elim
    | plain hd hdi p hp =>
      rcases hp with rfl | ⟨rfl, he, _⟩
      · exact (back (by decide) hq).elim
      · exact ⟨he, rfl, hd, hdi⟩
  rw [finishPhase_eq, processError_spec] at hq ⊢
  by_cases hcl : s.cleaned = true
  · rw [if_pos hcl] at hq; exact (back (by decide) hq).elim
  rw [if_neg hcl] at hq ⊢
  by_cases hur : s.upReset = true
  · rw [if_pos hur, if_neg (by simp [how])] at hq
    cases (tail _ _ hq).1
  · rw [if_neg hur] at hq ⊢
    obtain ⟨_, h2, h3, h4⟩ := tail _ _ hq
    exact ⟨h2, by simpa using hur, h3, h4⟩

/-- a freshly admitted client stream of a two-way request is live and counted -/
theorem upAppendHeaders_quiet (c : Cfg) (s : S) (eos : Bool) (how : c.oneway = false) (hpd : s.procDone = false)
    (hsr : s.setupRetry = false)
    (hq : (upAppendHeaders c s eos).upReset = false ∧ (upAppendHeaders c s eos).downReset = false) :
    0 < liveCount (upAppendHeaders c s eos).streams := by
  unfold upAppendHeaders at hq ⊢
  by_cases hp : processDone s = true
  · rw [if_pos hp] at hq
    simp [processDone, hpd, hq.1, hq.2] at hp
  · rw [if_neg hp] at hq ⊢
    simp only at hq ⊢
    cases ho : poolOutcome c s with
    | some f =>
      simp only [ho] at hq
      have hur : s.upReset = false := by
        cases hu : s.upReset with
        | false => rfl
        | true => simp [processDone, hu] at hp
      simp [upOnResetStream, hsr, hur] at hq
    | none =>
      simp only [ho]
      rw [liveCount_append]
      simp [how]

theorem receiveHeaders_quiet (c : Cfg) (s : S) (eos : Bool) (how : c.oneway = false) (hpd : s.procDone = false)
    (hsr : s.setupRetry = false)
    (hq : (receiveHeaders c s eos).upReset = false ∧ (receiveHeaders c s eos).downReset = false) :
    0 < liveCount (receiveHeaders c s eos).streams := by
  unfold receiveHeaders at hq ⊢
  cases eos <;> exact upAppendHeaders_quiet c s _ how hpd hsr hq

theorem doRetry_quiet (c : Cfg) (s : S) (how : c.oneway = false) (hpd : s.procDone = false) (hsr : s.setupRetry = false)
    (hq : (doRetry c s).upReset = false ∧ (doRetry c s).downReset = false ∧ (doRetry c s).direct = false) :
    0 < liveCount (doRetry c s).streams := by
  rw [doRetry_eq] at hq ⊢
  by_cases hdt : s.direct = true
  · rw [if_pos hdt] at hq
    have := hq.2.2; rw [hdt] at this; cases this
  rw [if_neg hdt] at hq ⊢
  by_cases hx : (s.globalExpired && s.up.isSome) = true
  · -- the global timeout is raised: an upstream reset is pending
    rw [if_pos hx] at hq
    have := hq.1
    simp [upOnResetStream, hsr] at this
  rw [if_neg hx] at hq ⊢
  by_cases hg : s.hostsGone = true
  · unfold doRetryBody at hq
    rw [if_pos hg] at hq
    have := hq.2.2
    simp [sendHijack] at this
  · rw [doRetryBody_send c s (by simpa using hg)] at hq ⊢
    rw [armTimers_frame] at hq ⊢
    have h0 := upAppendHeaders_quiet c { s with up := some none, setupRetry := false } (!c.hasData && !c.hasTrailers) how hpd rfl
    generalize upAppendHeaders c { s with up := some none, setupRetry := false } (!c.hasData && !c.hasTrailers) = a at hq h0 ⊢
    -- the data / trailers calls write the trace only
    rw [sendRest_frame] at hq ⊢
    exact h0 ⟨hq.1, hq.2.1⟩

/-- `x` has the client streams and the signals of `s` -/
def Calm (s x : S) : Prop := x.streams = s.streams ∧ x.urr = s.urr ∧ x.upReset = s.upReset ∧ x.downReset = s.downReset

theorem inv2_work (c : Cfg) (ar aq : Nat) (s : S) (h : Inv c ar aq s) (h2 : Inv2 c s) (hcl : s.cleaned = false) :
    Inv2 c (work c s) := by
  refine ⟨listen_work c s h2.listen, fun how hq => ?_⟩
  obtain ⟨hpd, hsr⟩ := not_cleaned_facts h hcl
  -- the worker moves on from an awaiting phase with the client streams and the signals it had
  have keep : ∀ (x : S) (p : Phase), Calm s x → awaiting s.phase = true → quietS { x with phase := p } = true →
      0 < liveCount x.streams := fun x p ⟨e1, e2, e3, e4⟩ ha hq' => by
    rw [e1]
    apply h2.await how
    rw [quietS_iff] at hq' ⊢
    exact ⟨hcl, ha, e2.symm.trans hq'.2.2.1, e3.symm.trans hq'.2.2.2.1, e4.symm.trans hq'.2.2.2.2⟩
  -- `processError` found nothing, the worker went on to an awaiting phase
  have on : ∀ g : S, quietS (finishPhase c g) = true →
      quietS { g with phase := g.phase.next } = true ∧ awaiting g.phase.next = true := fun g hq' => by
    rw [(finish_quiet c g how hq').1] at hq'
    exact ⟨hq', ((quietS_iff _).mp hq').2.1⟩
  generalize hw : work c s = t at hq ⊢
  have w := work_cases c s
  rw [hw] at w
  cases w with
  | idle => exact h2.await how hq
  | skip p hp =>
    refine keep s p ⟨rfl, rfl, rfl, rfl⟩ ?_ hq
    rcases hp with ⟨hpp, hp⟩ | ⟨hp, _⟩
    · -- the successor of a skipped phase is an awaiting phase only if the phase is one
      have hn : awaiting s.phase.next = true := by rw [← hp]; exact ((quietS_iff _).mp hq).2.1
      revert hpp hn; cases s.phase <;> decide
    · rw [hp]; rfl
  | phase x b =>
    obtain ⟨f1, f2, f3, f4⟩ := finish_quiet c x how hq
    obtain ⟨hq, hn⟩ := on x hq
    rw [f1]
    rw [body_phase b] at hn
    show 0 < liveCount x.streams
    cases b with
    | none hp => exact absurd hn (by revert hp; cases s.phase <;> decide)
    -- the first NewStream, the next NewStream
    | headers hp => exact receiveHeaders_quiet c s _ how hpd hsr ⟨f2, f3⟩
    | retry hp => exact doRetry_quiet c s how hpd hsr ⟨f2, f3, f4⟩
    -- a part of the request goes to the client stream there is
    | part hp e eos => exact keep _ _ (by split <;> exact ⟨rfl, rfl, rfl, rfl⟩) (by rcases hp with hp | hp <;> rw [hp] <;> rfl) hq
    | chooseHost hp | woken hp | upHeaders hp | upData hp | upTrailers hp => rw [hp] at hn; cases hn
  | oneway ho => rw [how] at ho; cases ho
  -- UpFilter: what `quietS` reads does not depend on the request object a local reply is given
  | upFilter hp y hy =>
    subst hy
    have hn := (on s hq).2
    rw [hp] at hn; cases hn
  | ended hp => exact absurd hp (h.k19 hcl)

theorem inv2_step (c : Cfg) (ar aq : Nat) (s : S) (l : Label) (h : Inv c ar aq s) (h2 : Inv2 c s) : Inv2 c (step c s l) :=
  step_split h l h2 (fun _ => inv2_work c ar aq s h h2) fun _ a => a.inv2 h h2

theorem inv2_init (c : Cfg) (ar aq : Nat) : Inv2 c (init ar aq) :=
  ⟨rfl, fun _ hq => by simp [quietS, init, awaiting] at hq⟩

theorem inv2_run (c : Cfg) (ar aq : Nat) (l : List Label) : Inv2 c (run c (init ar aq) l) :=
  run_inv c ar aq (inv2_step c ar aq) (inv_init c ar aq) (inv2_init c ar aq) l

/-- a parked worker waits for a live upstream request: its request holds exactly one active upstream stream -/
theorem parked_live (c : Cfg) (ar aq : Nat) (s : S) (h : Inv c ar aq s) (h2 : Inv2 c s) (hb : blocked s = true) :
    0 < liveCount s.streams ∧ 1 ≤ s.upActive := by
  obtain ⟨hcl, how, _, hurr, hur, hdr, _⟩ := blocked_facts c ar aq s h hb
  simp only [blocked, Bool.and_eq_true, Bool.not_eq_true', beq_iff_eq] at hb
  have hl := h2.await how (by rw [quietS_iff]; exact ⟨hcl, by rw [hb.1.2]; decide, hurr, hur, hdr⟩)
  refine ⟨hl, ?_⟩
  have := h.k11
  simp only [K11] at this
  omega

end MosnVerif.Model.Downstream
