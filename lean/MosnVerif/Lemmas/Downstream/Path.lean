import MosnVerif.Model.DownstreamBackoff
import MosnVerif.Lemmas.Downstream.WorkCases
import MosnVerif.Lemmas.Downstream.P3Base
import MosnVerif.Lemmas.Downstream.UpReset
import MosnVerif.Lemmas.Downstream.Worker5
/-!
What the worker's functions are made of.  Every function the label `work` runs is a composition of a few primitive updates
(`Upd`), each of a `Kind` that says what it does to the fields the invariants of the second level read.  `Path c K s t`: `t` is
reached from `s` by primitive updates of the kinds `K`; every function has its path (`path_cleanStream` … `path_work`), with the
kinds it needs — so "the end of a phase creates no attempt", "a phase body does not move the worker" are facts about a list of
kinds.  A relation that is reflexive, transitive and holds across the primitive updates of the kinds a function uses holds across
the function (`Path.rel`): each invariant states what it asks of the primitives, once.
-/
namespace MosnVerif.Model.Downstream
open MosnVerif.Gen.ProxyPhase MosnVerif.Gen.ProxyReason MosnVerif.Gen.ProxyRetry

theorem rsReset_remaining (c : Cfg) (s : S) : rsRemaining (rsReset c s) = rsRemaining s := by
  unfold rsReset rsRemaining
  cases h : s.rs with
  | none => simp
  | some r =>
    obtain ⟨n, hd⟩ := r
    cases hd <;> simp [Gen.ProxyRetry.reset, retryOps]

/-- the remaining budget never grows, and `ShouldRetry` takes a unit of it -/
theorem rsRetry_remaining (c : Cfg) (s : S) (reason : Option Reason) :
    rsRemaining (rsRetry c s reason).1 ≤ rsRemaining s ∧
    ((rsRetry c s reason).2 = ShouldRetry → rsRemaining (rsRetry c s reason).1 + 1 ≤ rsRemaining s) := by
  unfold rsRetry retryRes rsRemaining
  cases h : s.rs with
  | none => simp [ShouldRetry, NoRetry]
  | some r => exact ⟨(retry_spec c _ r s.retries).2.2.1, (retry_spec c _ r s.retries).2.2.2.1⟩

/-- `t` has the fields of `s` that the invariants of the second level read; its retry budget is not larger; it is marked for a
retry only if `s` is -/
structure Kept (s t : S) : Prop where
  phase : t.phase = s.phase
  streams : t.streams = s.streams
  trace : t.trace = s.trace
  resp : t.resp = s.resp
  hTok : t.hTok = s.hTok
  dTok : t.dTok = s.dTok
  tTok : t.tTok = s.tTok
  respStarted : t.respStarted = s.respStarted
  reqSent : t.reqSent = s.reqSent
  gtGen : t.gtGen = s.gtGen
  global : t.global = s.global
  gtObj : t.gtObj = s.gtObj
  rem : rsRemaining t ≤ rsRemaining s
  mark : t.setupRetry = true → s.setupRetry = true

/-- the watched fields as one value -/
def core (s : S) : Phase × List Stream × List Ev × Option Resp × Tok × Tok × Tok × Bool × Bool × Nat × Bool × Bool :=
  (s.phase, s.streams, s.trace, s.resp, s.hTok, s.dTok, s.tTok, s.respStarted, s.reqSent, s.gtGen, s.global, s.gtObj)

theorem Kept.of_core {s t : S} (h : core t = core s := by rfl) (rem : rsRemaining t ≤ rsRemaining s := by exact Nat.le_refl _)
    (mark : t.setupRetry = true → s.setupRetry = true := by exact id) : Kept s t := by
  simp only [core, Prod.mk.injEq] at h
  obtain ⟨h1, h2, h3, h4, h5, h6, h7, h8, h9, h10, h11, h12⟩ := h
  exact ⟨h1, h2, h3, h4, h5, h6, h7, h8, h9, h10, h11, h12, rem, mark⟩

inductive Kind where
  /-- nothing the invariants watch -/
  | quiet
  /-- `retryState.retry` answered `ShouldRetry` — a unit of the budget is taken — and the upstream request is marked for the retry -/
  | mark
  /-- a local reply is stored behind a test that no response has started -/
  | reply
  /-- a phase body answers the request itself -/
  | answer
  /-- the worker moves to another phase, returns, or parks -/
  | move
  /-- `ConnectionPool.NewStream`: a client stream is created, admitted or refused -/
  | attempt
  /-- the request is marked completely sent; the global timer may be armed -/
  | arm
  /-- the retry state is created -/
  | budget
  /-- response headers go downstream -/
  | respond
  deriving DecidableEq

inductive Upd (c : Cfg) : Kind → S → S → Prop
  | frame {s t : S} (h : Kept s t) : Upd c .quiet s t
  | resetUpstream (s : S) : Upd c .quiet s (resetUpstream c s)
  | cleanUp (s : S) : Upd c .quiet s (cleanUp c s)
  | emit (s : S) (e : Ev) (he : attemptEv e = false) : Upd c .quiet s (emit s e)
  | started (s : S) : Upd c .respond s { s with respStarted := true }
  | mark (s : S) (r : Option Reason) (h : (rsRetry c s r).2 = ShouldRetry) :
      Upd c .mark s { (rsRetry c s r).1 with setupRetry := true }
  | hijack (s : S) (code : Nat) (body : Bool) (h : s.respStarted = false) : Upd c .reply s (sendHijack s code body)
  | answer (s : S) (code : Nat) (body : Bool) : Upd c .answer s (sendHijack s code body)
  | move (s : S) (pa : Nat) (ru : Bool) (ph : Phase) (no : Bool) :
      Upd c .move s { s with pass := pa, running := ru, phase := ph, notify := no }
  | newStream (s : S) (st : Stream) (hst : (!st.live || st.listening) = true) (e : Ev) :
      Upd c .attempt s { s with streams := s.streams ++ [st], trace := s.trace ++ [e] }
  | sent (s : S) : Upd c .arm s (onUpstreamRequestSent c s)
  | sentMark (s : S) : Upd c .arm s { s with reqSent := true }
  | newRetryState (s : S) (r : RetryState) : Upd c .budget s { s with rs := some r }

inductive Path (c : Cfg) (K : List Kind) : S → S → Prop
  | refl (s : S) : Path c K s s
  | cons {k : Kind} {s t u : S} (hk : k ∈ K) (h : Upd c k s t) (p : Path c K t u) : Path c K s u

theorem Path.trans {c : Cfg} {K : List Kind} {s t u : S} (p : Path c K s t) (q : Path c K t u) : Path c K s u := by
  induction p with
  | refl => exact q
  | cons hk h _ ih => exact .cons hk h (ih q)

theorem Path.one {c : Cfg} {K : List Kind} {k : Kind} {s t : S} (h : Upd c k s t) (hk : k ∈ K := by decide) : Path c K s t :=
  .cons hk h (.refl t)

theorem Path.frame {c : Cfg} {K : List Kind} {s t : S} (h : Kept s t) (hk : Kind.quiet ∈ K := by decide) : Path c K s t :=
  .one (.frame h) hk

theorem Path.mono {c : Cfg} {K K' : List Kind} {s t : S} (p : Path c K s t) (h : K ⊆ K' := by decide) : Path c K' s t := by
  induction p with
  | refl => exact .refl _
  | cons hk u _ ih => exact .cons (h hk) u ih

theorem Path.ite {c : Cfg} {K : List Kind} {s a b : S} {g : Prop} [Decidable g] (ha : g → Path c K s a) (hb : ¬g → Path c K s b) :
    Path c K s (if g then a else b) := by
  split
  · exact ha ‹_›
  · exact hb ‹_›

/-- a relation that is reflexive, transitive and holds across the primitive updates of the kinds `K` holds along a path -/
theorem Path.rel {c : Cfg} {K : List Kind} {R : S → S → Prop} (refl : ∀ s, R s s) (trans : ∀ {x y z : S}, R x y → R y z → R x z)
    (upd : ∀ {k : Kind} {s t : S}, k ∈ K → Upd c k s t → R s t) {s t : S} (p : Path c K s t) : R s t := by
  induction p with
  | refl => exact refl _
  | cons hk h _ ih => exact trans (upd hk h) ih

/-- a predicate that the primitive updates of the kinds `K` keep holds at the end of a path if it holds at its start -/
theorem Path.keeps {c : Cfg} {K : List Kind} {P : S → Prop} (upd : ∀ {k s t}, k ∈ K → Upd c k s t → P s → P t) {s t : S}
    (p : Path c K s t) (h : P s) : P t :=
  p.rel (R := fun s t => P s → P t) (fun _ => id) (fun a b x => b (a x)) upd h

/-- only `move` takes the worker to another phase -/
theorem Path.phase {c : Cfg} {K : List Kind} {s t : S} (p : Path c K s t) (hk : Kind.move ∉ K := by decide) : t.phase = s.phase :=
  p.rel (R := fun s t => t.phase = s.phase) (fun _ => rfl) (fun a b => b.trans a) (fun {k s t} hm u => by
    cases u with
    | frame h => exact h.phase
    | resetUpstream => exact resetUpstream_phase c s
    | hijack | answer => rw [sendHijack_eq]
    | move => exact absurd hm hk
    | _ => rfl)

abbrev Kinds.quiet : List Kind := [.quiet]
/-- the kinds of a retry being set up -/
abbrev Kinds.setup : List Kind := [.quiet, .mark]
/-- the kinds of the end of a phase -/
abbrev Kinds.phaseEnd : List Kind := [.quiet, .mark, .reply, .move]
/-- the kinds of the phase bodies: the worker stays at its phase -/
abbrev Kinds.body : List Kind := [.quiet, .mark, .answer, .attempt, .arm, .budget, .respond]
/-- the kinds of the worker label -/
abbrev Kinds.all : List Kind := [.quiet, .mark, .reply, .answer, .move, .attempt, .arm, .budget, .respond]

theorem path_cleanStream (c : Cfg) (s : S) : Path c Kinds.quiet s (cleanStream c s) := by
  unfold cleanStream
  refine .ite (fun _ => .refl s) fun _ => ?_
  -- `cleanUp`, the gauge, the access log
  have fin : ∀ x : S, Path c Kinds.quiet x (cleanFinish c x) := fun x => ((Path.one (.cleanUp x)).trans (.frame .of_core)).trans
    (.one (.emit { cleanUp c x with downActive := (cleanUp c x).downActive - 1 } (.log (cleanUp c x).respCode (cleanUp c x).flags) rfl))
  -- `cleanBody` is these three after the reset of the upstream request, if one is due
  unfold cleanBody
  refine Path.trans ?_ (fin _)
  exact .ite (fun _ => (Path.frame .of_core).trans (.one (.resetUpstream _))) fun _ => .frame .of_core

theorem path_dsResetStream (c : Cfg) (s : S) : Path c Kinds.quiet s (dsResetStream c s) :=
  (Path.frame .of_core).trans (path_cleanStream c _)

theorem path_resetDownstream (c : Cfg) (s : S) : Path c Kinds.quiet s (resetDownstream c s) := by
  have h1 : Path c Kinds.quiet s { s with procDone := true, trace := s.trace ++ [.dr] } :=
    (Path.frame .of_core).trans (.one (.emit { s with procDone := true } .dr rfl))
  exact .ite (fun _ => .ite (fun _ => h1.trans (.frame .of_core)) fun _ => h1) fun _ => .refl s

/-- the reply to an upstream reset is stored only when no response has started (the regenerated `resetNotReply`) -/
theorem path_onUpstreamResetFinish (c : Cfg) (s : S) (r : Reason) :
    Path c [.quiet, .reply] s (onUpstreamResetFinish c s r) := by
  rw [onUpstreamResetFinish_eq]
  refine (Path.one (.cleanUp s)).trans (.ite (fun _ => (path_resetDownstream c _).mono) fun hr => ?_)
  exact (Path.frame .of_core).trans (.one (.hijack { orFlag (cleanUp c s) (reasonToFlag r) with upReset := false } _ _
    (by show (cleanUp c s).respStarted = false; simpa using hr)))

/-- an upstream reset: the request is marked only after `ShouldRetry`; else the reset is answered -/
theorem path_onUpstreamReset (c : Cfg) (s : S) : Path c Kinds.phaseEnd s (onUpstreamReset c s) := by
  rw [onUpstreamReset_eq]
  refine .ite (fun h => ?_) fun _ => ?_
  · simp only [Bool.and_eq_true, beq_iff_eq] at h
    exact (Path.one (.mark s _ h.1.2)).trans (.frame .of_core)
  · refine Path.trans ?_ (path_onUpstreamResetFinish c _ _).mono
    exact .ite (fun _ => .frame (.of_core (rem := (rsRetry_remaining c s _).1))) fun _ => .refl s

theorem path_abandonRetry (c : Cfg) (s : S) : Path c Kinds.quiet s (abandonRetry s) := by
  exact .ite (fun _ => .frame (.of_core (mark := nofun))) fun _ => .refl s

theorem path_peTail (c : Cfg) (s : S) (e : Bool) : Path c Kinds.quiet s (peTail c s e).1 := by
  generalize hr : peTail c s e = r
  have t := peTail_cases c s e
  rw [hr] at t
  cases t with
  | clientGone => exact path_dsResetStream c s
  | reply => exact (Path.frame (.of_core (rem := Nat.zero_le _))).trans (path_abandonRetry c _)
  | retry => exact .frame (.of_core (mark := nofun))
  | plain => exact .refl s

theorem path_processError (c : Cfg) (s : S) : Path c Kinds.phaseEnd s (processError c s).1 := by
  rw [processError_spec]
  by_cases hc : s.cleaned = true
  · rw [if_pos hc]; exact .refl s
  rw [if_neg hc]
  by_cases hu : s.upReset = true
  · rw [if_pos hu]
    by_cases ho : c.oneway = true
    · rw [if_pos ho]; exact .refl s
    · rw [if_neg ho]; exact (path_onUpstreamReset c s).trans (path_peTail c _ _).mono
  · rw [if_neg hu]; exact (path_peTail c s _).mono

theorem path_finishOf (c : Cfg) (r : S × Option Phase) : Path c [.move] r.1 (finishOf r) := by
  obtain ⟨x, o⟩ := r
  cases o with
  | none => exact .one (.move x x.pass x.running x.phase.next x.notify)
  | some p =>
    obtain ⟨pa, ru, no, h⟩ := reenter_fields x p
    show Path c [.move] x (reenter x p)
    rw [h]; exact .one (.move x pa ru p no)

/-- the end of every phase: `processError`, then the next phase or the re-entry -/
theorem path_finishPhase (c : Cfg) (s : S) : Path c Kinds.phaseEnd s (finishPhase c s) := by
  rw [finishPhase_eq]
  exact (path_processError c s).trans (path_finishOf c _).mono

/-- a part is handed to the downstream sender; the last one ends the stream -/
theorem path_dsAppend (c : Cfg) (s : S) (pd eos : Bool) (e : Ev) (he : attemptEv e = false) :
    Path c Kinds.quiet s (if eos = true then endStream c { emit { s with procDone := pd } e with downLive := false }
      else emit { s with procDone := pd } e) := by
  have h1 : Path c Kinds.quiet s (emit { s with procDone := pd } e) :=
    (Path.frame .of_core).trans (.one (.emit { s with procDone := pd } e he))
  cases eos
  · exact h1
  · exact (h1.trans (.frame .of_core)).trans (path_cleanStream c _)

theorem path_recvFinished (c : Cfg) (s : S) : Path c Kinds.quiet s (onUpstreamResponseRecvFinished c s) := by
  unfold onUpstreamResponseRecvFinished
  exact Path.trans (.ite (fun _ => .one (.resetUpstream s)) fun _ => .refl s) (.one (.cleanUp _))

theorem path_headersFinish (c : Cfg) (s : S) (eos : Bool) : Path c [.quiet, .respond] s (onUpstreamHeadersFinish c s eos) := by
  unfold onUpstreamHeadersFinish dsAppendHeaders
  refine (Path.one (.started s)).trans ?_
  cases eos
  · exact (path_dsAppend c _ false false _ rfl).mono
  · exact ((path_recvFinished c _).trans (path_dsAppend c _ true true _ rfl)).mono

/-- response headers: the request is marked only after `ShouldRetry`; else the retry slot is given back and the headers go on -/
theorem path_onUpstreamHeaders (c : Cfg) (s : S) (eos : Bool) : Path c [.quiet, .mark, .respond] s (onUpstreamHeaders c s eos) := by
  by_cases hrs : s.rs.isSome = true
  · rw [onUpstreamHeaders_eq c s eos hrs]
    refine .ite (fun h => ?_) fun _ => ?_
    · simp only [Bool.and_eq_true, beq_iff_eq] at h
      refine (Path.one (.mark s none h.1)).trans ?_
      cases eos
      · exact (Path.one (.resetUpstream _)).trans (.frame .of_core)
      · exact .frame .of_core
    · refine Path.trans ?_ (path_headersFinish c _ eos).mono
      exact .frame (.of_core (rem := Nat.le_trans (Nat.le_of_eq (rsReset_remaining c _)) (rsRetry_remaining c s none).1))
  · unfold onUpstreamHeaders
    rw [if_neg hrs]; exact (path_headersFinish c s eos).mono

theorem path_onUpstreamData (c : Cfg) (s : S) (eos : Bool) : Path c Kinds.quiet s (onUpstreamData c s eos) := by
  unfold onUpstreamData dsAppendData
  cases eos
  · exact path_dsAppend c _ false false _ rfl
  · exact (path_recvFinished c _).trans (path_dsAppend c _ true true _ rfl)

theorem path_onUpstreamTrailers (c : Cfg) (s : S) : Path c Kinds.quiet s (onUpstreamTrailers c s) :=
  (path_recvFinished c s).trans (path_dsAppend c _ true true .dt rfl)

/-- `ConnectionPool.NewStream` and what follows it: the one place an attempt is created -/
theorem path_upAppendHeaders (c : Cfg) (s : S) (eos : Bool) : Path c [.quiet, .attempt] s (upAppendHeaders c s eos) := by
  unfold upAppendHeaders
  refine .ite (fun _ => .refl s) fun _ => ?_
  cases poolOutcome c s with
  | some f =>
    exact ((Path.frame .of_core).trans (.one (.newStream { s with failNext := s.failNext.drop 1 } ⟨false, false, false, false⟩ rfl
      (.uf s.streams.length f)))).trans (.frame .of_core)
  | none =>
    exact ((Path.frame .of_core).trans (.one (.newStream
      { s with up := some (some s.streams.length), failNext := s.failNext.drop 1,
               upActive := (if !c.oneway then s.upActive + 1 else s.upActive),
               requests := (if !c.oneway then Gen.Resource.increase c.maxRequests s.requests else s.requests) }
      ⟨true, true, true, !c.oneway⟩ rfl (.un s.streams.length)))).trans (.one (.emit _ (.uh s.streams.length eos) rfl))

/-- a body part / the trailers on the client stream there is -/
theorem path_dataTrace (c : Cfg) (s : S) (e : Nat → Ev) (he : ∀ k, attemptEv (e k) = false) :
    Path c Kinds.quiet s { s with trace := dataTrace s e } := by
  unfold dataTrace
  split
  · exact .one (.emit s _ (he _))
  · exact .refl s

theorem path_receiveHeaders (c : Cfg) (s : S) (eos : Bool) : Path c [.quiet, .attempt, .arm] s (receiveHeaders c s eos) := by
  unfold receiveHeaders
  cases eos
  · exact (path_upAppendHeaders c s false).mono
  · exact ((path_upAppendHeaders c s true).mono).trans (.one (.sent _))

/-- `receiveData` / `receiveTrailers`: the part goes to the client stream there is; the last one marks the request completely sent -/
theorem path_sendPart (c : Cfg) (s : S) (e : Nat → Ev) (eos : Bool) (he : ∀ k, attemptEv (e k) = false) :
    Path c [.quiet, .arm] s (if processDone s then s else sendPart c s e eos) := by
  refine .ite (fun _ => .refl s) fun _ => ?_
  have h : sendPart c s e eos = { (if eos then onUpstreamRequestSent c { s with recvDone := eos } else { s with recvDone := eos }) with
      trace := dataTrace s e } := by
    rw [requestSentIf_eq]; rfl
  rw [h]
  cases eos
  · exact (Path.frame .of_core).trans (path_dataTrace c { s with recvDone := false } e he).mono
  · exact ((Path.frame .of_core).trans (.one (.sent { s with recvDone := true }))).trans (path_dataTrace c _ e he).mono

theorem path_chooseHost (c : Cfg) (s : S) : Path c [.quiet, .answer, .budget] s (chooseHost c s) := by
  rcases chooseHost_cases c s with ⟨fl, code, b, h⟩ | h <;> rw [h]
  · exact (Path.frame .of_core).trans (.one (.answer _ code b))
  · exact (Path.frame .of_core).trans
      (Path.one (k := .budget) (.newRetryState { s with recvDone := !c.hasData && !c.hasTrailers, up := some none } _))

/-- the request body and trailers of a retry -/
theorem path_sendRest (c : Cfg) (z : S) : Path c Kinds.quiet z (sendRest c z) := by
  have h1 : Path c Kinds.quiet z (if c.hasData = true then upAppendData z (!c.hasTrailers) else z) :=
    .ite (fun _ => path_dataTrace c z _ fun _ => rfl) fun _ => .refl z
  exact .ite (fun _ => h1.trans (path_dataTrace c _ _ fun _ => rfl)) fun _ => h1

theorem path_armTimers (c : Cfg) (d : S) : Path c [.quiet, .arm] d (armTimers c d) := by
  unfold armTimers
  by_cases h : (!hasTimerObj d) = true
  · rw [if_pos h]; exact (Path.one (.sent d)).trans (.frame .of_core)
  · rw [if_neg h]; exact ((Path.frame .of_core).trans (.one (.sentMark (setupPerReqTimeout c d)))).trans (.frame .of_core)

theorem path_doRetry (c : Cfg) (s : S) : Path c [.quiet, .answer, .attempt, .arm] s (doRetry c s) := by
  rw [doRetry_eq]
  refine .ite (fun _ => .refl s) fun _ => .ite (fun _ => .frame .of_core) fun _ => ?_
  by_cases hg : s.hostsGone = true
  · unfold doRetryBody
    rw [if_pos hg]
    refine (Path.trans ?_ (.one (.answer _ _ _))).trans (.one (.cleanUp _))
    exact .ite (fun _ => .frame (.of_core (mark := nofun))) fun _ => .refl s
  · rw [doRetryBody_send c s (by simpa using hg)]
    exact (((Path.frame (t := { s with up := some none, setupRetry := false }) (.of_core (mark := nofun))).trans
      (path_upAppendHeaders c _ _).mono).trans (path_sendRest c _).mono).trans (path_armTimers c _).mono

theorem path_body {c : Cfg} {s x : S} (b : Body c s x) : Path c Kinds.body s x := by
  cases b with
  | none => exact .refl s
  | chooseHost => exact (path_chooseHost c s).mono
  | headers => exact (path_receiveHeaders c s _).mono
  | part _ e eos he => exact (path_sendPart c s e eos he).mono
  | retry => exact (path_doRetry c s).mono
  | woken => exact .frame .of_core
  | upHeaders => exact (path_onUpstreamHeaders c s _).mono
  | upData => exact (path_onUpstreamData c s _).mono
  | upTrailers => exact (path_onUpstreamTrailers c s).mono

/-- the phase bodies leave the worker at its phase -/
theorem body_phase {c : Cfg} {s x : S} (b : Body c s x) : x.phase = s.phase := (path_body b).phase

/-- one worker step is a phase body and the end of the phase — or, where no body runs, a path of the kinds of the end of a phase -/
theorem Work.split {c : Cfg} {s t : S} (w : Work c s t) :
    (∃ x, Body c s x ∧ t = finishPhase c x) ∨ Path c Kinds.phaseEnd s t := by
  cases w with
  | idle => exact .inr (.refl s)
  | skip p => exact .inr (.one (.move s s.pass s.running p s.notify))
  | phase x b => exact .inl ⟨x, b, rfl⟩
  | oneway => exact .inr ((path_cleanStream c s).mono.trans (path_finishOf c (cleanStream c s, some .End)).mono)
  | upFilter _ y hy => exact .inr ((hy ▸ path_finishPhase c s).trans (.frame .of_core))
  | ended => exact .inr (.one (.move s s.pass false s.phase s.notify))

/-- **the worker label is a path of primitive updates** -/
theorem path_work (c : Cfg) (s : S) : Path c Kinds.all s (work c s) := by
  rcases (work_cases c s).split with ⟨x, b, e⟩ | p
  · rw [e]; exact (path_body b).mono.trans (path_finishPhase c x).mono
  · exact p.mono

end MosnVerif.Model.Downstream
