import MosnVerif.Lemmas.Downstream.Finish
/-! the worker label `work`: response headers (retry decision), data, trailers -/
namespace MosnVerif.Model.Downstream
open MosnVerif.Gen.ProxyPhase MosnVerif.Gen.ProxyReason MosnVerif.Gen.ProxyRetry

theorem resetUpstream_comm (c : Cfg) (s : S) (b : Bool) :
    resetUpstream c { s with respStarted := b } = { resetUpstream c s with respStarted := b } := by
  unfold resetUpstream
  show (match curStream s with
    | some k => destroyStream c { ({ s with respStarted := b } : S) with
        streams := setStream s.streams k unlisten, trace := if streamLive s k then s.trace ++ [Ev.ur k] else s.trace } k
    | none => ({ s with respStarted := b } : S)) = _
  cases curStream s <;> rfl

theorem recvFinished_comm (c : Cfg) (s : S) (b : Bool) :
    onUpstreamResponseRecvFinished c { s with respStarted := b } =
      { onUpstreamResponseRecvFinished c s with respStarted := b } := by
  unfold onUpstreamResponseRecvFinished
  simp only
  split
  · rw [resetUpstream_comm]; rfl
  · rfl

theorem onUpstreamHeadersFinish_last (c : Cfg) (s : S) :
    onUpstreamHeadersFinish c s true = lastPart c s true (.dh (s.statusVar.getD 0) true) := by
  unfold onUpstreamHeadersFinish dsAppendHeaders emit lastPart
  simp only [if_true, recvFinished_comm, recvFinished_statusVar]

/-- the response headers go to the client (no retry): either the whole response ends here, or data/trailers follow -/
theorem headers_finish (c : Cfg) (ar aq : Nat) (s : S) (eos : Bool) (r : Resp) (l : Live c ar aq s)
    (hsr : s.setupRetry = false) (hdir : s.direct = false) (h8 : s.pass ≤ 1) (hur : s.upReset = false)
    (hlc : liveCount s.streams = 0 ∨ (s.urr = true ∧ respHasMore s.resp = true ∧ s.rs.isSome = true))
    (hlc0 : eos = true → liveCount s.streams = 0) (htm : (s.perTry = false ∧ s.global = false) ∨ s.urr = true)
    (hph : s.phase = .UpRecvHeader) (hresp : s.resp = some r) (heos : eos = (!r.hasData && !r.hasTrailers))
    (ho4 : (snd s.trace).hdr = false) (h24 : K24 c s) (h25 : K25 c s) (h28 : K28 s) (how : c.oneway = false) :
    Inv c ar aq (finishPhase c (onUpstreamHeadersFinish c s eos)) := by
  obtain ⟨ho1, ho2, ho3, _⟩ := snd_open l
  cases eos with
  | true =>
    rw [onUpstreamHeadersFinish_last]
    exact respond_last c ar aq s _ true l (hlc0 rfl) (by simp [sndStep, ho1, ho2, ho3, ho4]) rfl
  | false =>
    have e : onUpstreamHeadersFinish c s false =
        { s with respStarted := true, procDone := false, trace := s.trace ++ [Ev.dh (s.statusVar.getD 0) false] } := by
      unfold onUpstreamHeadersFinish dsAppendHeaders emit
      simp only [Bool.false_eq_true, if_false]
    rw [e]
    have lm := respond_more_live c ar aq s (Ev.dh (s.statusVar.getD 0) false) true l
      (by simp [sndStep, ho1, ho2, ho3, ho4]) rfl
    refine finish_noreset c ar aq _ lm hsr hdir hur ?_
    · intro _
      have hmore : r.hasData = true ∨ r.hasTrailers = true := by
        cases hd : r.hasData <;> cases ht : r.hasTrailers <;> simp [hd, ht] at heos ⊢
      refine inv_up_state c ar aq _ .UpRecvData { lm with } hsr hdir h8 hur hlc htm ?_ h24 h25 h28 how
      refine ⟨by simp [hph, Phase.next], by simp [upPhase], by simp [hresp], by simp, ?_, ?_⟩
      · intro _; simp [respHasMore, hresp]; exact hmore
      · intro hh; cases hh

/-- `onUpstreamHeaders` with a retry state by its decision, on the outcome of the retry decision as a pair of projections: a retry
is set up (the client stream reset unless the response is complete), or the retry slot is given back and the headers go on (with
the overflow flag when the retry was refused for want of a slot) -/
theorem onUpstreamHeaders_eq (c : Cfg) (s : S) (eos : Bool) (hrs : s.rs.isSome = true) :
    onUpstreamHeaders c s eos =
      if (rsRetry c s none).2 == ShouldRetry && !(setupRetryChecksExpiry && s.globalExpired) then
        { (if eos then { (rsRetry c s none).1 with setupRetry := true }
           else resetUpstream c { (rsRetry c s none).1 with setupRetry := true }) with perTry := false, urr := false }
      else onUpstreamHeadersFinish c
        { s with rs := (rsReset c (rsRetry c s none).1).rs, retries := (rsReset c (rsRetry c s none).1).retries,
                 flags := if (rsRetry c s none).2 == RetryOverflow then s.flags ||| UpstreamOverflow else s.flags } eos := by
  unfold onUpstreamHeaders
  rw [if_pos hrs, show rsRetry c s none = ((rsRetry c s none).1, (rsRetry c s none).2) from rfl]
  simp only [setupRetry_eq, rsRetry_globalExpired]
  by_cases hc : ((rsRetry c s none).2 == ShouldRetry) = true
  · have ho : ((rsRetry c s none).2 == RetryOverflow) = false := by rw [eq_of_beq hc]; decide
    simp only [hc, ho, if_true, Bool.true_and, Bool.false_eq_true, if_false]
    by_cases he : (setupRetryChecksExpiry && s.globalExpired) = true
    · simp only [he, if_true, Bool.not_true, Bool.false_eq_true, if_false]; rfl
    · simp only [he, Bool.false_eq_true, if_false, Bool.not_false, if_true]
      cases eos <;> rfl
  · simp only [hc, Bool.false_eq_true, if_false, Bool.false_and]
    by_cases ho : ((rsRetry c s none).2 == RetryOverflow) = true
    · simp only [ho, if_true]; rfl
    · simp only [ho, Bool.false_eq_true, if_false]; rfl

/-- phase `UpRecvHeader`: retry decision on the upstream response, otherwise the headers go to the client -/
theorem inv_work_urh (c : Cfg) (ar aq : Nat) (s : S) (h : Inv c ar aq s) (hrun : s.running = true)
    (hp : s.phase = .UpRecvHeader) :
    Inv c ar aq (match s.resp with
      | some r => finishPhase c (if processDone s || s.setupRetry then s
                                 else onUpstreamHeaders c s (!r.hasData && !r.hasTrailers))
      | none => { s with phase := s.phase.next }) := by
  have hupp : upPhase s.phase = true := by rw [hp]; rfl
  have l := h.live hrun
  obtain ⟨hcl, hpd, hsr, hdir⟩ := upCtx h hrun hupp
  obtain ⟨hlc, hresp, _, htm, hrst0, _, _⟩ := h.k15 hcl hupp
  have hrst : s.respStarted = false := by rw [hrst0, hp]; decide
  obtain ⟨r, hr⟩ := Option.isSome_iff_exists.1 hresp
  have ho4 : (snd s.trace).hdr = false := h.k2.trans hrst
  have h8 := (h.k8 hcl).1
  have how := two_way h hcl (Or.inl hupp)
  rw [hr]
  simp only
  -- nothing is written when the client is gone, or the open stream of the streamed response was reset before its head went downstream
  refine inv_resp_part c ar aq s h hrun hupp _ fun hur hdr => ?_
  generalize heos : (!r.hasData && !r.hasTrailers) = eos
  -- a complete response has no body in flight: its client stream is gone
  have hlc0 : eos = true → liveCount s.streams = 0 := fun he => by
    rcases hlc with h0 | ⟨_, h1, _⟩
    · exact h0
    · rw [hr] at h1
      simp only [respHasMore] at h1
      cases hd : r.hasData <;> cases ht : r.hasTrailers <;> simp [hd, ht, he] at heos h1
  by_cases hrs : s.rs.isSome = true
  rotate_left
  · unfold onUpstreamHeaders
    rw [if_neg hrs]
    exact headers_finish c ar aq s eos r l hsr hdir h8 hur hlc hlc0 htm hp hr heos.symm ho4 h.k24 h.k25 h.k28 how
  rw [onUpstreamHeaders_eq c s eos hrs]
  have l1 := l.rsRetry none
  have hrs1 := (rsRetry_facts c s none).2.1.trans hrs
  have hps := h.k25 hcl how hrs
  by_cases hset : ((rsRetry c s none).2 == ShouldRetry && !(setupRetryChecksExpiry && s.globalExpired)) = true
  rotate_left
  · -- no retry: only the retry state, the retries resource and the flags have changed
    rw [if_neg hset]
    have l2 := l1.rsReset
    exact headers_finish c ar aq _ eos r
      { l with k9 := l2.k9, k31 := l2.k31 }
      hsr hdir h8 hur (hlc.imp_right fun x => ⟨x.1, x.2.1, (rsReset_facts c _).1.trans hrs1⟩) hlc0 htm hp hr heos.symm ho4
      (fun a b d _ => h.k24 a b d hrs) (fun _ _ _ => hps) h.k28 how
  rw [if_pos hset]
  simp only [Bool.and_eq_true, Bool.not_eq_true', Bool.and_eq_false_iff] at hset
  have hge : s.globalExpired = false := hset.2.resolve_left (by decide)
  -- the retry is set up on a state whose client streams, their ledger and the trace may have been written by `resetStream`
  have key : ∀ (sts : List Stream) (rq ua : Int) (t : List Ev),
      LedgerOk c aq { s with streams := sts, requests := rq, upActive := ua } → liveCount sts = 0 →
      K22 c { s with streams := sts } → snd t = snd s.trace → nLog t = nLog s.trace →
      Inv c ar aq (finishPhase c { (rsRetry c s none).1 with
        setupRetry := true, streams := sts, requests := rq, upActive := ua, trace := t, perTry := false, urr := false }) := by
    intro sts rq ua t hled hl0 h22 ht1 ht2
    rw [finishPhase_eq, processError_quiet c _ (by exact hcl) (by exact hur)]
    refine finish_setup c ar aq _ false { l1.dead sts rq ua t hled hl0 h22 ht1 ht2 with k21 := .vac how }
      how rfl hdir hps hrs1 rfl hur hge ?_ hl0 hrst rfl
    intro hq
    exact (or3_nd (h.k24 hcl how hq hrs) hdir).resolve_right (by simp [hge])
  cases eos with
  | true =>
    rw [if_pos rfl]
    exact key s.streams s.requests s.upActive s.trace ⟨l.k10, l.k11, l.k14⟩ (hlc0 rfl) l.k22 rfl rfl
  | false =>
    obtain ⟨sts, rq, ua, t, e, hled, hdead, h22, ht1, ht2⟩ :=
      resetUpstream_spec c aq { (rsRetry c s none).1 with setupRetry := true } ⟨l.k10, l.k11, l.k14⟩ l.k22
    simp only [Bool.false_eq_true, if_false]
    rw [e]
    exact key sts rq ua t hled (allDead_liveCount hdead) h22 ht1 ht2

end MosnVerif.Model.Downstream
