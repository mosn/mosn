import MosnVerif.Lemmas.Downstream.Timer10
import MosnVerif.Lemmas.Downstream.Backoff9
/-!
**The number of upstream attempts is bounded by the retry budget**, on every schedule of the extended machine (the
back-off sleep a state, every label possible during it).

`budget c = max retriesFloor numRetries` is what `newRetryState` starts with; every retry decision (`retryState.retry`, the
regenerated `Gen.ProxyRetry.retry`) that answers `ShouldRetry` has taken one unit; an attempt is created only by
`upstreamRequest.appendHeaders` — once in `receiveHeaders`, once per wake-up of `doRetry` — and a wake-up happens only after a
`ShouldRetry` (the Retry phase is entered only through the detach branch of `processError`, which needs the mark
`upstreamRequest.setupRetry`, which only `setupRetry` sets, which is only called after `ShouldRetry`).  So
`attempts + remaining ≤ budget + 1` always, `≤ budget` while a retry is set up or slept on: `attempts ≤ budget + 1`.
-/
namespace MosnVerif.Model.Downstream
open MosnVerif.Gen.ProxyPhase MosnVerif.Gen.ProxyReason MosnVerif.Gen.ProxyRetry

/-- what `newRetryState` starts with -/
def budget (c : Cfg) : Nat := max Gen.ProxyRetry.retriesFloor c.numRetries

/-- the attempt events of the trace, the number of client streams, the remaining retry budget, the retry mark -/
def key (s : S) : List Ev × Nat × Nat × Bool := (att s.trace, s.streams.length, rsRemaining s, s.setupRetry)

/-- `t` has the attempts of `s`, no more retry budget, and is marked for a retry only if `s` was -/
def Mono (s t : S) : Prop := NoAtt s t ∧ rsRemaining t ≤ rsRemaining s ∧ (t.setupRetry = true → s.setupRetry = true)

theorem Mono.refl (s : S) : Mono s s := ⟨NoAtt.refl s, Nat.le_refl _, id⟩
theorem Mono.trans {s t u : S} (h1 : Mono s t) (h2 : Mono t u) : Mono s u :=
  ⟨NoAtt.trans h1.1 h2.1, Nat.le_trans h2.2.1 h1.2.1, fun h => h1.2.2 (h2.2.2 h)⟩
theorem Mono.of_key {s t : S} (h : key t = key s) : Mono s t := by
  simp only [key, Prod.mk.injEq] at h
  exact ⟨⟨h.1, h.2.1⟩, Nat.le_of_eq h.2.2.1, fun hh => by rw [← h.2.2.2]; exact hh⟩

@[simp] theorem att_resetUpstream (c : Cfg) (s : S) : att (resetUpstream c s).trace = att s.trace := (noAtt_resetUpstream c s).1
@[simp] theorem rem_resetUpstream (c : Cfg) (s : S) : rsRemaining (resetUpstream c s) = rsRemaining s := by simp [rsRemaining]
@[simp] theorem rem_destroyStream (c : Cfg) (s : S) (k : Nat) : rsRemaining (destroyStream c s k) = rsRemaining s := by simp [rsRemaining]
@[simp] theorem rem_cleanUp (c : Cfg) (s : S) : rsRemaining (cleanUp c s) = rsRemaining s := rsReset_remaining c s

@[simp] theorem key_resetUpstream (c : Cfg) (s : S) : key (resetUpstream c s) = key s := by simp [key]
@[simp] theorem key_cleanUp (c : Cfg) (s : S) : key (cleanUp c s) = key s := by simp [key]
@[simp] theorem key_sendHijack (s : S) (code : Nat) (b : Bool) : key (sendHijack s code b) = key s := by simp [key, sendHijack, rsRemaining]
@[simp] theorem key_orFlag (s : S) (f : Nat) : key (orFlag s f) = key s := rfl
@[simp] theorem key_upOnResetStream (s : S) (r : Reason) : key (upOnResetStream s r) = key s := by
  rfl
@[simp] theorem key_dsOnResetStream (s : S) (r : Reason) : key (dsOnResetStream s r) = key s := rfl

theorem mono_resetUpstream (c : Cfg) (s : S) : Mono s (resetUpstream c s) := Mono.of_key (key_resetUpstream c s)

theorem mono_emit (s : S) (e : Ev) (he : attemptEv e = false) : Mono s (emit s e) :=
  ⟨NoAtt.of_append [e] rfl (by simp [att, he]), Nat.le_refl _, id⟩

/-- the kinds that create no attempt, give no budget and set no retry mark -/
abbrev Kinds.mono : List Kind := [.quiet, .reply, .answer, .move, .arm, .respond]

theorem mono_upd {c : Cfg} {k : Kind} {s t : S} (hk : k ∈ Kinds.mono) (u : Upd c k s t) : Mono s t := by
  cases u with
  | frame h => exact ⟨NoAtt.of_trace h.trace (by rw [h.streams]), h.rem, h.mark⟩
  | resetUpstream => exact mono_resetUpstream c s
  | cleanUp => exact Mono.of_key (key_cleanUp c s)
  | emit _ e he => exact mono_emit s e he
  | hijack _ code b | answer _ code b => exact Mono.of_key (key_sendHijack s code b)
  | started | move | sent | sentMark => exact Mono.of_key rfl
  | mark | newStream | newRetryState => simp at hk

theorem Path.isMono {c : Cfg} {K : List Kind} {s t : S} (p : Path c K s t) (hk : K ⊆ Kinds.mono := by decide) : Mono s t :=
  (p.mono hk).rel Mono.refl Mono.trans mono_upd

theorem mono_reenter (s : S) (p : Phase) : Mono s (reenter s p) := by
  obtain ⟨_, _, _, h⟩ := reenter_fields s p
  rw [h]; exact Mono.of_key rfl

/-- every client stream is an attempt event of the trace; the budget left is at most the initial one; attempts + budget left is
at most the initial budget + 1 (the first attempt is free), and at most the initial budget once a retry is being set up -/
structure W (F : Nat) (s : S) : Prop where
  cnt : (att s.trace).length = s.streams.length
  rem : rsRemaining s ≤ F
  tot : s.streams.length + rsRemaining s ≤ F + 1
  set : s.setupRetry = true → s.streams.length + rsRemaining s ≤ F

theorem W.mono {F : Nat} {s t : S} (h : W F s) (m : Mono s t) : W F t := by
  obtain ⟨⟨ha, hl⟩, hr, hf⟩ := m
  refine ⟨by rw [ha, hl]; exact h.cnt, Nat.le_trans hr h.rem, ?_, fun hh => ?_⟩
  · rw [hl]; have := h.tot; omega
  · rw [hl]; have := h.set (hf hh); omega

/-- the bound that holds while a retry is set up or slept on -/
def Low (F : Nat) (s : S) : Prop := s.streams.length + rsRemaining s ≤ F

theorem Low.mono {F : Nat} {s t : S} (h : Low F s) (m : Mono s t) : Low F t := by
  unfold Low at *; rw [m.1.2]; have := m.2.1; omega

/-- a unit of the budget was taken: the sharper bound holds, whether or not the request is marked -/
theorem W.paid {F : Nat} {s t : S} (h : W F s) (n : NoAtt s t) (hr : rsRemaining t + 1 ≤ rsRemaining s) : W F t := by
  have := h.tot
  have := h.rem
  refine ⟨by rw [n.1, n.2]; exact h.cnt, by omega, by rw [n.2]; omega, fun _ => by rw [n.2]; omega⟩

/-- the kinds across which the budget predicate holds: all but the creation of an attempt and of the retry state -/
abbrev Kinds.w : List Kind := [.quiet, .mark, .reply, .answer, .move, .arm, .respond]

/-- the mark comes with the unit `ShouldRetry` took; the other primitives create no attempt, give no budget and set no mark -/
theorem w_upd {F : Nat} {c : Cfg} {k : Kind} {s t : S} (hk : k ∈ Kinds.w) (u : Upd c k s t) (h : W F s) : W F t := by
  by_cases hm : k = .mark
  · subst hm
    cases u with
    | mark s r hc => exact h.paid ⟨rfl, rfl⟩ ((rsRetry_remaining c s r).2 hc)
  · exact h.mono (mono_upd (by revert hk hm; cases k <;> decide) u)

theorem Path.w {F : Nat} {c : Cfg} {K : List Kind} {s t : S} (p : Path c K s t) (h : W F s) (hk : K ⊆ Kinds.w := by decide) :
    W F t :=
  (p.mono hk).keeps w_upd h

/-- the tail of `processError` hands the phase `Retry` back only for a marked request -/
theorem peTail_retry_marked (c : Cfg) (s : S) (e : Bool) (h : (peTail c s e).2 = some .Retry) : s.setupRetry = true := by
  generalize hr : peTail c s e = r at h
  have t := peTail_cases c s e
  rw [hr] at t
  cases t with
  | clientGone => cases h
  | reply _ _ p hp => rcases hp with ⟨_, hp⟩ | ⟨_, hp⟩ | ⟨_, hp, _⟩ <;> rw [hp] at h <;> cases h
  | retry _ _ hm => exact hm
  | plain _ _ p hp => rcases hp with hp | ⟨hp, _⟩ <;> rw [hp] at h <;> cases h

theorem low_peTail (F : Nat) (c : Cfg) (s : S) (e : Bool) (h : W F s) (hr : (peTail c s e).2 = some .Retry) :
    Low F (peTail c s e).1 :=
  Low.mono (h.set (peTail_retry_marked c s e hr)) (path_peTail c s e).isMono

/-- `processError` sends the worker to the back-off only with `attempts + budget left ≤ initial budget` -/
theorem low_processError (F : Nat) (c : Cfg) (s : S) (h : W F s) (hr : (processError c s).2 = some .Retry) :
    Low F (processError c s).1 := by
  rw [processError_spec] at hr ⊢
  by_cases hc : s.cleaned = true
  · rw [if_pos hc] at hr; cases hr
  rw [if_neg hc] at hr ⊢
  by_cases hu : s.upReset = true
  · rw [if_pos hu] at hr ⊢
    by_cases ho : c.oneway = true
    · rw [if_pos ho] at hr; cases hr
    · rw [if_neg ho] at hr ⊢; exact low_peTail F c _ _ ((path_onUpstreamReset c s).w h) hr
  · rw [if_neg hu] at hr ⊢; exact low_peTail F c s _ h hr

/-- the end of a phase: the budget predicate holds again, and the worker goes to sleep in the back-off only with
`attempts + budget left ≤ initial budget` -/
theorem w_finishPhase (F : Nat) (c : Cfg) (s : S) (h : W F s) (hp : s.phase ≠ .Oneway) :
    W F (finishPhase c s) ∧ ((finishPhase c s).phase = .Retry → Low F (finishPhase c s)) := by
  refine ⟨(path_finishPhase c s).w h, fun hh => ?_⟩
  rw [finishPhase_eq] at hh ⊢
  refine Low.mono (low_processError F c s h ?_) (path_finishOf c _).isMono
  -- the worker gets to `Retry` only by a phase handed back: the phase before it in the order is the one-way phase
  cases hr : processError c s with
  | mk x o =>
    rw [hr] at hh
    cases o with
    | none =>
      have hn : x.phase.next = .Retry := hh
      rw [finishOf_pe_none_phase c s x hr] at hn
      exact absurd hn (by revert hp; cases s.phase <;> decide)
    | some p => exact congrArg some ((reenter_phase x p).symm.trans hh)

theorem w_grow (F : Nat) (s x : S) (e : Ev) (h : W F s) (hl : Low F s)
    (hx1 : att x.trace = att s.trace ++ [e]) (hx2 : x.streams.length = s.streams.length + 1)
    (hx3 : rsRemaining x = rsRemaining s) (hx4 : x.setupRetry = false) : W F x := by
  unfold Low at hl
  refine ⟨?_, by rw [hx3]; exact h.rem, by rw [hx2, hx3]; omega, fun hh => by rw [hx4] at hh; cases hh⟩
  rw [hx1, hx2, List.length_append, h.cnt]; rfl

/-- `upstreamRequest.appendHeaders`: the one place an attempt is created — at most one, and the trace says so -/
theorem w_upAppendHeaders (F : Nat) (c : Cfg) (s : S) (eos : Bool) (h : W F s) (hl : Low F s) (hsr : s.setupRetry = false) :
    W F (upAppendHeaders c s eos) ∧ (upAppendHeaders c s eos).setupRetry = false := by
  unfold upAppendHeaders
  split
  · exact ⟨h, hsr⟩
  · simp only
    split
    · rename_i f _
      refine ⟨W.mono ?_ (Mono.of_key (key_upOnResetStream _ _)), hsr⟩
      exact w_grow F s _ (.uf s.streams.length f) h hl (by simp [att, attemptEv]) (by simp) rfl hsr
    · exact ⟨w_grow F s _ (.un s.streams.length) h hl (by simp [att, List.filter, attemptEv]) (by simp) rfl hsr, hsr⟩

theorem w_receiveHeaders (F : Nat) (c : Cfg) (s : S) (eos : Bool) (h : W F s) (hl : Low F s) (hsr : s.setupRetry = false) :
    W F (receiveHeaders c s eos) := by
  unfold receiveHeaders
  simp only
  split
  · exact (w_upAppendHeaders F c s eos h hl hsr).1.mono (Mono.of_key rfl)
  · exact (w_upAppendHeaders F c s eos h hl hsr).1

/-- `chooseHost` creates the retry state with the initial budget — before any attempt -/
theorem w_chooseHost (c : Cfg) (s : S) (h : W (budget c) s) (hs : s.streams = []) (hsr : s.setupRetry = false) :
    W (budget c) (chooseHost c s) := by
  rcases chooseHost_cases c s with ⟨fl, code, b, e⟩ | e <;> rw [e]
  · exact h.mono (Mono.trans (Mono.of_key rfl) (Mono.of_key (key_sendHijack _ code b)))
  · refine ⟨h.cnt, ?_, ?_, fun hh => ?_⟩
    · simp [rsRemaining, budget]
    · simp [rsRemaining, budget, hs]
    · simp [hsr] at hh

/-- `doRetry` after its sleep: at most one more attempt, paid for by the unit the retry decision took -/
theorem w_doRetry (F : Nat) (c : Cfg) (s : S) (h : W F s) (hl : Low F s) : W F (doRetry c s) := by
  rw [doRetry_eq]
  split
  · exact h
  split
  · exact h.mono (Mono.of_key (key_upOnResetStream s _))
  by_cases hg : s.hostsGone = true
  · unfold doRetryBody
    rw [if_pos hg]
    refine h.mono (Mono.trans (Mono.trans ?_ (Mono.of_key (key_sendHijack _ _ _))) (Mono.of_key (key_cleanUp c _)))
    split
    · exact ⟨NoAtt.of_trace rfl, Nat.le_refl _, fun hh => by cases hh⟩
    · exact Mono.refl s
  · rw [doRetryBody_send c s (by simpa using hg)]
    have h0 : W F ({ s with up := some none, setupRetry := false } : S) :=
      h.mono ⟨NoAtt.of_trace rfl, Nat.le_refl _, fun hh => by cases hh⟩
    exact (path_armTimers c _).w ((path_sendRest c _).w (w_upAppendHeaders F c _ (!c.hasData && !c.hasTrailers) h0 hl rfl).1)

/-- no label of another goroutine — a response, a reset, a timer, the client leaving, `TerminateStream`, anything landing in
the back-off — creates an attempt, gives budget back or marks a request for a retry -/
theorem key_async {s x : S} (f : AsyncFr s x) : key x = key s := by
  simp only [key, rsRemaining, f.noAtt.1, f.noAtt.2, f.rs, f.setupRetry]

/-- the budget predicate, and the sharper bound while the worker sleeps in the back-off (phase `Retry`) -/
structure BInv (c : Cfg) (s : S) : Prop where
  w : W (budget c) s
  slp : s.phase = .Retry → Low (budget c) s

theorem binv_init (c : Cfg) (ar aq : Nat) : BInv c (init ar aq) :=
  ⟨⟨rfl, Nat.zero_le _, Nat.zero_le _, fun h => by cases h⟩, fun h => by cases h⟩

theorem binv_async {c : Cfg} {s x : S} (f : AsyncFr s x) (b : BInv c s) : BInv c x :=
  ⟨b.w.mono (Mono.of_key (key_async f)), fun hh => Low.mono (b.slp (by rw [← f.phase]; exact hh)) (Mono.of_key (key_async f))⟩

/-- the phase bodies: the budget predicate holds again before the `processError` that ends the phase -/
theorem w_body {c : Cfg} {ar aq : Nat} {s x : S} (bd : Body c s x) (h : Inv c ar aq s) (hcl : s.cleaned = false)
    (b : BInv c s) : W (budget c) x := by
  have hsr : s.setupRetry = false := (h.k7 hcl).1
  cases bd with
  | none => exact b.w
  | chooseHost hp => exact w_chooseHost c s b.w (h.k17 hcl (by simp [hp, prePhase])).2.2.1 hsr
  | headers hp =>
    have hlow : Low (budget c) s := by unfold Low; rw [(h.k30 hcl (Or.inr hp)).1]; simpa using b.w.rem
    exact w_receiveHeaders _ c s _ b.w hlow hsr
  | part _ e eos he => exact (path_sendPart c s e eos he).w b.w
  | retry hp => exact w_doRetry _ c s b.w (b.slp hp)
  | woken => exact b.w.mono (Mono.of_key rfl)
  | upHeaders => exact (path_onUpstreamHeaders c s _).w b.w
  | upData => exact b.w.mono (path_onUpstreamData c s _).isMono
  | upTrailers => exact b.w.mono (path_onUpstreamTrailers c s).isMono

theorem binv_work (c : Cfg) (ar aq : Nat) (s : S) (h : Inv c ar aq s) (b : BInv c s) (hcl : s.cleaned = false) :
    BInv c (work c s) := by
  have hon : onewayNext ≠ Phase.Retry := by decide
  generalize hw : work c s = t
  have w := work_cases c s
  rw [hw] at w
  cases w with
  | idle => exact b
  | skip p hp =>
    refine ⟨b.w.mono (Mono.of_key rfl), fun hh => ?_⟩
    rcases hp with ⟨hpp, hp⟩ | ⟨_, hp⟩
    · exact absurd (hp.symm.trans hh) (by revert hpp; cases s.phase <;> simp [Phase.next, partPhase])
    · exact absurd (hp.symm.trans hh) hon
  | phase x bd =>
    have := w_finishPhase _ c x (w_body bd h hcl b) (by rw [body_phase bd]; exact bd.not_oneway)
    exact ⟨this.1, this.2⟩
  | oneway =>
    exact ⟨(b.w.mono (path_cleanStream c s).isMono).mono (mono_reenter _ _), fun hh => by rw [reenter_phase] at hh; cases hh⟩
  | upFilter hp y hy =>
    have := w_finishPhase _ c s b.w (by rw [hp]; nofun)
    rw [hy] at this
    exact ⟨this.1.mono (Mono.of_key rfl), fun hh => (this.2 hh).mono (Mono.of_key rfl)⟩
  | ended hp => exact absurd hp (h.k19 hcl)

theorem binv_step (c : Cfg) (ar aq : Nat) (s : S) (l : Label) (h : Inv c ar aq s) (b : BInv c s) : BInv c (step c s l) :=
  step_split h l b (fun _ => binv_work c ar aq s h b) fun _ a => binv_async a.frame b

theorem binv_run (c : Cfg) (ar aq : Nat) (l : List Label) : BInv c (run c (init ar aq) l) :=
  run_inv c ar aq (binv_step c ar aq) (inv_init c ar aq) (binv_init c ar aq) l

/-- **the attempts of a request are bounded by its retry budget** — on every schedule of the extended machine, the back-off a
state in which every label may fire: the `NewStream` calls of the trace (admitted `un` and refused `uf`) are at most
`1 + max retriesFloor numRetries` -/
theorem attempts_le_budget (c : Cfg) (ar aq : Nat) (l : List Label) :
    (att (run c (init ar aq) l).trace).length ≤ 1 + max Gen.ProxyRetry.retriesFloor c.numRetries := by
  have b := (binv_run c ar aq l).w
  have := b.tot
  rw [b.cnt]; unfold budget at this; omega

end MosnVerif.Model.Downstream
