import MosnVerif.Lemmas.Downstream.Worker2
/-! the worker label `work`: the retry phase (`doRetry`) -/
namespace MosnVerif.Model.Downstream
open MosnVerif.Gen.ProxyPhase MosnVerif.Gen.ProxyReason MosnVerif.Gen.ProxyRetry

theorem dataTrace_done (s : S) (e : Nat → Ev) (h : processDone s = true) : dataTrace s e = s.trace := by
  unfold dataTrace; rw [h]

theorem upAppendHeaders_of_done (c : Cfg) (s : S) (eos : Bool) (hpd : processDone s = true) : upAppendHeaders c s eos = s := by
  unfold upAppendHeaders
  rw [if_pos hpd]

/-- the second stage of `doRetry`: the request body and trailers go to the new upstream request -/
def sendRest (c : Cfg) (z : S) : S :=
  let s := if c.hasData then upAppendData z (!c.hasTrailers) else z
  if c.hasTrailers then upAppendTrailers s else s

/-- the last stage of `doRetry`: both timers when no global timer object exists yet, else the per-try timer only -/
def armTimers (c : Cfg) (z : S) : S :=
  { (if !(hasTimerObj z) then onUpstreamRequestSent c z else setupPerReqTimeout c z) with reqSent := true, recvDone := true }

theorem doRetryBody_send (c : Cfg) (s : S) (h : s.hostsGone = false) :
    doRetryBody c s = armTimers c (sendRest c
      (upAppendHeaders c { s with up := some none, setupRetry := false } (!c.hasData && !c.hasTrailers))) := by
  unfold doRetryBody
  rw [if_neg (by rw [h]; decide)]
  rfl

theorem sendRest_done (c : Cfg) (z : S) (h : processDone z = true) : sendRest c z = z := by
  have e : ∀ t, dataTrace { z with trace := t } = fun _ => t := fun t => funext fun f => dataTrace_done _ f h
  unfold sendRest upAppendTrailers upAppendData
  cases c.hasData <;> cases c.hasTrailers <;> simp only [Bool.false_eq_true, if_false, if_true] <;>
    simp only [dataTrace_done z _ h, e]

/-- the request body and trailers only write the trace, with upstream-side events -/
theorem sendRest_frame (c : Cfg) (z : S) : sendRest c z = { z with trace := (sendRest c z).trace } := by
  unfold sendRest upAppendTrailers upAppendData
  cases c.hasData <;> cases c.hasTrailers <;> rfl

theorem sendRest_trace (c : Cfg) (z : S) : snd (sendRest c z).trace = snd z.trace ∧ nLog (sendRest c z).trace = nLog z.trace := by
  have hd : ∀ (x : S) (e : Bool), snd (upAppendData x e).trace = snd x.trace ∧ nLog (upAppendData x e).trace = nLog x.trace :=
    fun x _ => ⟨snd_dataTrace x _ (fun _ _ => rfl), nLog_dataTrace x _ (fun _ => rfl)⟩
  have ht : ∀ x : S, snd (upAppendTrailers x).trace = snd x.trace ∧ nLog (upAppendTrailers x).trace = nLog x.trace :=
    fun x => ⟨snd_dataTrace x _ (fun _ _ => rfl), nLog_dataTrace x _ (fun _ => rfl)⟩
  unfold sendRest
  cases c.hasData <;> cases c.hasTrailers <;> simp [hd, ht]

/-- in the back-off the given-up upstream request is detached already (K26): the fresh request `doRetry` installs changes nothing -/
theorem fresh_request_eq {s : S} (hup : s.up = some none) (hsr : s.setupRetry = false) :
    ({ s with up := some none, setupRetry := false } : S) = s := by
  cases s
  subst hup hsr
  rfl

/-- the timers are all `armTimers` writes besides the two request words -/
theorem armTimers_frame (c : Cfg) (z : S) :
    armTimers c z = { z with reqSent := true, recvDone := true, perTry := (armTimers c z).perTry,
                             global := (armTimers c z).global, gtGen := (armTimers c z).gtGen, gtObj := (armTimers c z).gtObj } := by
  unfold armTimers
  split <;> rfl

/-- after `doRetry` the global timer of a two-way request is armed: newly when no timer object exists, else it was (K24) -/
theorem armTimers_global (c : Cfg) (z : S) (hup : z.up.isSome = true) (how : c.oneway = false)
    (hgl : z.reqSent = true → z.global = true) : (armTimers c z).global = true := by
  unfold armTimers hasTimerObj
  cases hq : z.reqSent
  · simp [onUpstreamRequestSent, hup, how]
  · simp [hgl hq, setupPerReqTimeout]

/-- the wake-up from the back-off with no local reply pending and the global timeout not expired: a retry attempt starts -/
theorem attemptCtx_retry {c : Cfg} {ar aq : Nat} {s : S} (h : Inv c ar aq s) (hrun : s.running = true) (hp : s.phase = .Retry)
    (hdir : s.direct = false) (hnexp : s.globalExpired = false) : AttemptCtx c s := by
  have hcl := inv_not_cleaned h hrun
  have how := two_way h hcl (Or.inr (Or.inr hp))
  obtain ⟨hup, hrs, hps, hrst⟩ := fwd_two_way h hcl (by rw [hp]; rfl) how
  have hlc := h.k23 hcl (Or.inr hp)
  obtain ⟨hpt, hure, hurr, _⟩ := h.k26 hcl hp
  have hur : s.upReset = false := eq_false_of_ne_true fun hh => Bool.noConfusion (hnexp.symm.trans (hure hh).1)
  have hurr0 : s.urr = false := eq_false_of_ne_true fun hu => by
    rcases hurr hu with h1 | h1 | h1
    · rw [hur] at h1; cases h1
    · rw [hdir] at h1; cases h1
    · rw [hnexp] at h1; cases h1
  exact ⟨Or.inr ⟨hp, how⟩, hup, hrs, allDead_of_counted _ (h.k22 how) hlc, hpt, hur, hurr0, hnexp, hps, hrst, (h.k7 hcl).1, hdir,
    fun hq => ((or3_nd (h.k24 hcl how hq hrs) hdir).resolve_right (by simp [hnexp]))⟩

/-- the wake-up after the global timeout expired while the retry was being set up, or during the back-off: `doRetry`
raises the global timeout on the fresh upstream request (a no-op when the callback got through and raised it already),
`processError` answers it — no retry: `setupRetry` refuses once the expiry is recorded -/
theorem inv_work_retry_expired (c : Cfg) (ar aq : Nat) (s : S) (h : Inv c ar aq s) (hrun : s.running = true)
    (hp : s.phase = .Retry) (hdir : s.direct = false) (hexp : s.globalExpired = true) :
    Inv c ar aq (finishPhase c (upOnResetStream s .UpstreamGlobalTimeout)) := by
  have l := h.live hrun
  have how := two_way h l.cl (Or.inr (Or.inr hp))
  obtain ⟨_, _, hps, hrst⟩ := fwd_two_way h l.cl (by rw [hp]; rfl) how
  rw [upOnResetStream_unmarked s _ (h.k7 l.cl).1, finishPhase_eq, processError_reset c _ (by exact l.cl) (by rfl) how]
  exact upreset_branch c ar aq _
    { l with k21 := .vac how }
    how (h.k7 l.cl).1 hps (h.k23 l.cl (Or.inr hp)) hrst (fun hq => by rw [hp] at hq; cases hq) (fun _ _ => Or.inr hexp) hdir

/-- phase `Retry`: the wake-up from `doRetry`'s back-off sleep -/
theorem inv_work_retry (c : Cfg) (ar aq : Nat) (s : S) (h : Inv c ar aq s) (hrun : s.running = true)
    (hp : s.phase = .Retry) : Inv c ar aq (finishPhase c (doRetry c s)) := by
  rw [doRetry_eq]
  by_cases hdt : s.direct = true
  · -- a `TerminateStream` was accepted during the back-off: `doRetry` returns at once
    rw [if_pos hdt]; exact finish_term c ar aq s h hrun hdt s.notify
  rw [if_neg hdt]
  simp only [Bool.not_eq_true] at hdt
  have hup0 : s.up.isSome = true := by
    have hcl := inv_not_cleaned h hrun
    rw [(h.k26 hcl hp).2.2.2]; rfl
  by_cases hex : s.globalExpired = true
  · rw [if_pos (by simp [hex, hup0])]; exact inv_work_retry_expired c ar aq s h hrun hp hdt hex
  rw [if_neg (by simp [hex])]
  simp only [Bool.not_eq_true] at hex
  have x := attemptCtx_retry h hrun hp hdt hex
  have hcl := inv_not_cleaned h hrun
  have how : c.oneway = false := x.ph.elim (fun hq => by rw [hp] at hq; cases hq) (fun hq => hq.2)
  by_cases hhg : s.hostsGone = true
  · -- no host can be chosen any more: local reply 502
    unfold doRetryBody
    rw [if_pos hhg]
    simp only [x.up, if_true]
    -- the state carrying the reply is `s` with the retry slot given back, the timers off and the reply stored
    have e : cleanUp c (sendHijack { s with setupRetry := false } NoHealthUpstreamCode false) =
        { s with setupRetry := false, rs := (rsReset c s).rs, retries := (rsReset c s).retries, perTry := false, global := false,
                 gtObj := false, respCode := NoHealthUpstreamCode, statusVar := some NoHealthUpstreamCode,
                 resp := some ⟨false, false⟩, direct := true, hTok := .loc, dTok := .none, tTok := .none } := by
      rw [sendHijack_eq]; rfl
    rw [e]
    exact finish_direct c ar aq _
      { (h.live hrun).rsReset with k21 := fun _ => ⟨rfl, rfl⟩ }
      rfl rfl x.ur x.ps (allDead_liveCount x.dead) rfl rfl rfl x.rst (by rw [hp]; intro hh; cases hh)
  · -- a new attempt: `NewStream`, the rest of the request, the timers
    rw [doRetryBody_send c s (by simpa using hhg), fresh_request_eq (h.k26 hcl hp).2.2.2 x.sr]
    obtain ⟨upv, sts, rq, ua, t, fn, ur, rr, nt, e, hled, h22, hups, ht1, ht2, hnt, hlc⟩ :=
      upAppendHeaders_spec c aq s (!c.hasData && !c.hasTrailers) ⟨h.k10, h.k11, h.k14⟩ x.dead h.k22 x.sr (h.k2.trans x.rst)
    rw [e, sendRest_frame, armTimers_frame]
    exact finish_attempt c ar aq s h hrun x upv sts rq ua _ fn ur rr nt true true _ _ _ _ hled h22 (hups x.up)
      ((sendRest_trace c _).1.trans ht1) ((sendRest_trace c _).2.trans ht2) hnt hlc
      (fun ho => Bool.noConfusion (how.symm.trans ho)) (fun _ _ => armTimers_global c _ (hups x.up) how x.gl) (fun hq => by rw [hp] at hq; cases hq) (fun _ => rfl)

end MosnVerif.Model.Downstream
