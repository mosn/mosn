import MosnVerif.Model.DownstreamSpec
/-! list-level facts about client streams (no machine state involved) -/
namespace MosnVerif.Model.Downstream

/-- `setStream` is core's `List.modify` -/
theorem setStream_eq_modify (l : List Stream) (k : Nat) (f : Stream → Stream) : setStream l k f = l.modify k f := by
  fun_induction setStream l k f <;> simp [*]

@[simp] theorem setStream_length (l : List Stream) (k : Nat) (f : Stream → Stream) : (setStream l k f).length = l.length := by
  rw [setStream_eq_modify, List.length_modify]

theorem setStream_get (l : List Stream) (k j : Nat) (f : Stream → Stream) :
    (setStream l k f)[j]? = if j = k then (l[j]?).map f else l[j]? := by
  rw [setStream_eq_modify, List.getElem?_modify]
  split <;> simp [*, eq_comm]

theorem length_filter_cons {α : Type} (p : α → Bool) (a : α) (l : List α) :
    ((a :: l).filter p).length = (if p a then 1 else 0) + (l.filter p).length := by
  rw [List.filter_cons]
  split <;> simp [Nat.add_comm]

theorem liveCount_cons (x : Stream) (r : List Stream) :
    liveCount (x :: r) = (if x.live && x.counted then 1 else 0) + liveCount r :=
  length_filter_cons liveCounted x r

@[simp] theorem liveCount_nil : liveCount [] = 0 := rfl

theorem liveCount_append (l : List Stream) (st : Stream) :
    liveCount (l ++ [st]) = liveCount l + (if st.live && st.counted then 1 else 0) := by
  simp only [liveCount, List.filter_append, List.length_append, List.filter_cons, List.filter_nil, liveCounted]
  by_cases h : (st.live && st.counted) = true <;> simp [h]

theorem allDead_cons (x : Stream) (r : List Stream) : allDead (x :: r) = (!x.live && allDead r) := by
  simp [allDead]

theorem allDead_liveCount {l : List Stream} (h : allDead l = true) : liveCount l = 0 := by
  simp only [allDead, List.all_eq_true, Bool.not_eq_true'] at h
  rw [liveCount, List.length_eq_zero_iff, List.filter_eq_nil_iff]
  intro st hst hl
  simp [liveCounted, h st hst] at hl

theorem allDead_get {l : List Stream} (h : allDead l = true) {k : Nat} {st : Stream} (hk : l[k]? = some st) : st.live = false := by
  have hm : st ∈ l := List.mem_of_getElem? hk
  simp only [allDead, List.all_eq_true, Bool.not_eq_true'] at h
  exact h st hm

/-- a live stream of a list whose initial part is dead is the last one -/
theorem live_is_last {l : List Stream} (h : allDead l.dropLast = true) {k : Nat} {st : Stream}
    (hk : l[k]? = some st) (hl : st.live = true) : k + 1 = l.length := by
  have hlt := (List.getElem?_eq_some_iff.1 hk).1
  rcases Nat.lt_or_ge (k + 1) l.length with h2 | h2
  · have := allDead_get h (k := k) (st := st) (by rw [List.getElem?_dropLast, if_pos (by omega), hk])
    rw [hl] at this; cases this
  · omega

theorem allDead_setStream_kill_last {l : List Stream} (h : allDead l.dropLast = true) :
    allDead (setStream l (l.length - 1) kill) = true := by
  induction l with
  | nil => rfl
  | cons x r ih =>
    cases r with
    | nil => rfl
    | cons y r' => simp_all [setStream, allDead_cons]

/-- what holds of every stream still holds of every stream after `setStream` when `f` keeps it on the stream it updates -/
theorem all_setStream {p : Stream → Bool} {l : List Stream} (h : l.all p = true) (k : Nat) (f : Stream → Stream)
    (hf : ∀ st, l[k]? = some st → p st = true → p (f st) = true) : (setStream l k f).all p = true := by
  fun_induction setStream l k f with
  | case1 => rfl
  | case2 x r => rw [List.all_cons, Bool.and_eq_true] at h ⊢; exact ⟨hf x rfl h.1, h.2⟩
  | case3 x r k ih => rw [List.all_cons, Bool.and_eq_true] at h ⊢; exact ⟨h.1, ih h.2 fun st hk => hf st (by simpa using hk)⟩

theorem allDead_setStream {l : List Stream} (h : allDead l = true) (k : Nat) (f : Stream → Stream)
    (hf : ∀ st, st.live = false → (f st).live = false) : allDead (setStream l k f) = true :=
  all_setStream h k f fun st _ => by simpa using hf st

theorem setStream_dropLast (l : List Stream) (k : Nat) (f : Stream → Stream) :
    (setStream l k f).dropLast = setStream l.dropLast k f := by
  simp only [setStream_eq_modify, List.dropLast_eq_take, List.length_modify, List.take_modify]

theorem liveCount_setStream_unlisten (l : List Stream) (k : Nat) : liveCount (setStream l k unlisten) = liveCount l := by
  fun_induction setStream l k unlisten <;> simp_all [liveCount_cons, unlisten]

theorem allDead_setStream_unlisten (l : List Stream) (k : Nat) : allDead (setStream l k unlisten) = allDead l := by
  fun_induction setStream l k unlisten <;> simp_all [allDead_cons, unlisten]

/-- killing stream k lowers the live count by one exactly when it was live and counted -/
theorem liveCount_setStream_kill (l : List Stream) (k : Nat) (st : Stream) (hk : l[k]? = some st) :
    liveCount (setStream l k kill) + (if st.live && st.counted then 1 else 0) = liveCount l := by
  fun_induction setStream l k kill with
  | case1 => cases hk
  | case2 x r => cases hk; simp [liveCount_cons, kill]; omega
  | case3 x r k ih => rw [liveCount_cons, liveCount_cons, ← ih hk]; omega

theorem getLast?_setStream (l : List Stream) (k : Nat) (f : Stream → Stream) :
    (setStream l k f).getLast? = if k + 1 = l.length then l.getLast?.map f else l.getLast? := by
  rw [List.getLast?_eq_getElem?, List.getLast?_eq_getElem?, setStream_length, setStream_get]
  cases l with
  | nil => simp
  | cons x r => simp only [List.length_cons, Nat.add_sub_cancel, Nat.add_right_cancel_iff, eq_comm]

theorem allDead_of_counted (l : List Stream) (h22 : l.all (fun st => !st.live || st.counted) = true) (hlc : liveCount l = 0) :
    allDead l = true := by
  rw [liveCount, List.length_eq_zero_iff, List.filter_eq_nil_iff] at hlc
  simp only [allDead, List.all_eq_true] at h22 ⊢
  intro st hst
  cases hl : st.live with
  | false => rfl
  | true => exact absurd (by simpa [liveCounted, hl] using h22 st hst) (hlc st hst)

end MosnVerif.Model.Downstream
