import MosnVerif.Lemmas.Downstream.Attempts10
import MosnVerif.Lemmas.Downstream.P3Base
import MosnVerif.Lemmas.Downstream.Async
/-!
What the labels of other goroutines leave alone.  A response, a reset, a timer callback, the client leaving, `TerminateStream`:
each is a composition of a few callbacks (`destroyStream`, `upOnResetStream`, `resetUpstream`, `dsOnResetStream`, a local reply)
and updates of the fields those callbacks own.  None of them moves the worker, marks the request sent or cleaned, touches the
retry state, the upstream request object or the timer object, creates an attempt, or arms the global timer (`async_frame`).
On a state of the invariant: a frame of the attempt that was given up, arriving during the back-off, finds no upstream request.
-/
namespace MosnVerif.Model.Downstream
open MosnVerif.Gen.ProxyPhase MosnVerif.Gen.ProxyReason

structure AsyncFr (s t : S) : Prop where
  phase : t.phase = s.phase := by rfl
  running : t.running = s.running := by rfl
  cleaned : t.cleaned = s.cleaned := by rfl
  respStarted : t.respStarted = s.respStarted := by rfl
  reqSent : t.reqSent = s.reqSent := by rfl
  procDone : t.procDone = s.procDone := by rfl
  setupRetry : t.setupRetry = s.setupRetry := by rfl
  rs : t.rs = s.rs := by rfl
  up : t.up = s.up := by rfl
  gtGen : t.gtGen = s.gtGen := by rfl
  gtObj : t.gtObj = s.gtObj := by rfl
  global : t.global = true → s.global = true := by exact id
  noAtt : NoAtt s t := by exact ⟨rfl, rfl⟩

theorem AsyncFr.refl (s : S) : AsyncFr s s := {}

theorem AsyncFr.trans {s t u : S} (a : AsyncFr s t) (b : AsyncFr t u) : AsyncFr s u where
  phase := b.phase.trans a.phase
  running := b.running.trans a.running
  cleaned := b.cleaned.trans a.cleaned
  respStarted := b.respStarted.trans a.respStarted
  reqSent := b.reqSent.trans a.reqSent
  procDone := b.procDone.trans a.procDone
  setupRetry := b.setupRetry.trans a.setupRetry
  rs := b.rs.trans a.rs
  up := b.up.trans a.up
  gtGen := b.gtGen.trans a.gtGen
  gtObj := b.gtObj.trans a.gtObj
  global := fun h => a.global (b.global h)
  noAtt := NoAtt.trans a.noAtt b.noAtt

theorem fr_destroyStream (c : Cfg) (s : S) (k : Nat) : AsyncFr s (destroyStream c s k) :=
  { noAtt := ⟨rfl, destroyStream_len c s k⟩ }

theorem fr_upOnResetStream (s : S) (r : Reason) : AsyncFr s (upOnResetStream s r) := {}

theorem fr_dsOnResetStream (s : S) (r : Reason) : AsyncFr s (dsOnResetStream s r) := {}

theorem fr_orFlag (s : S) (f : Nat) : AsyncFr s (orFlag s f) := {}

theorem fr_resetUpstream (c : Cfg) (s : S) : AsyncFr s (resetUpstream c s) := by
  rw [resetUpstream_frame]
  exact { noAtt := noAtt_resetUpstream c s }

theorem fr_terminateAcc (c : Cfg) (s : S) (code : Nat) : AsyncFr s (terminateAcc c s code) :=
  (fr_resetUpstream c s).trans { global := Bool.noConfusion }

/-- `Async c s t`: `t` is what a label other than `work` makes of `s` — with the guards under which each callback acts;
the no-op branches of all of them are `same`. -/
inductive Async (c : Cfg) (s : S) : S → Prop
  | same : Async c s s
  /-- scripted pool failures, hosts removed; a timer callback — also the one inside `setupRetry` — that finds the stream cleaned or
  the response slot taken, or takes the slot and has no upstream request to reset -/
  | timers (f : List PoolFail) (hg p g e u : Bool) (hgl : g = true → s.global = true) (hu : u = s.urr ∨ u = true) :
      Async c s { s with failNext := f, hostsGone := hg, perTry := p, global := g, globalExpired := e, urr := u }
  /-- a response frame (complete: the client stream is destroyed; head of a streamed response: it stays) reaches `OnReceive`:
  accepted (`acc`) unless the request is done or marked for a retry -/
  | response (k code : Nat) (d t : Bool) (st : Stream) (x : S) (acc : Bool) (hk : s.streams[k]? = some st)
      (hst : ¬(!st.real || !st.counted || !st.live) = true) (hurr : s.urr = false) (hx : x = s ∨ x = destroyStream c s k)
      (hacc : (processDone s || s.setupRetry) = false → acc = true) : Async c s
      { x with statusVar := some code, urr := s.urr || acc, respCode := if acc then code else s.respCode,
               resp := if acc then some ⟨d, t⟩ else s.resp, notify := s.notify || acc,
               hTok := if acc then .att k else s.hTok, dTok := if acc then (if d then .att k else .none) else s.dTok,
               tTok := if acc then (if t then .att k else .none) else s.tTok }
  /-- the streamed body of an accepted response ended -/
  | ended (k : Nat) (hurr : s.urr = true) : Async c s (destroyStream c s k)
  /-- a live client stream is reset by its connection -/
  | reset (k : Nat) (r : Reason) (st : Stream) (hk : s.streams[k]? = some st) (hlive : st.live = true) :
      Async c s (destroyStream c (if st.listening then upOnResetStream s r else s) k)
  /-- a timer callback takes the response slot and resets the upstream request -/
  | timedOut (p g e : Bool) (hgl : g = true → s.global = true) (y : S)
      (hy : y = resetUpstream c { s with perTry := p, global := g, globalExpired := e, urr := true } ∨
        y = orFlag (resetUpstream c { s with perTry := p, global := g, globalExpired := e, urr := true }) UpstreamRequestTimeout)
      (r : Reason) : Async c s (upOnResetStream y r)
  /-- the client goes away (stream reset or connection close) -/
  | clientGone (dl : Bool) (r : Reason) : Async c s (dsOnResetStream { s with downLive := dl } r)
  /-- an accepted `TerminateStream` -/
  | terminated (code : Nat) (hz : asleep s = true) (hcl : s.cleaned = false) (hurr : s.urr = false) :
      Async c s (terminateAcc c s code)

/-- a callback behind a test that makes it a no-op -/
theorem Async.unless {c : Cfg} {s t : S} {g : Prop} [Decidable g] (h : ¬g → Async c s t) : Async c s (if g then s else t) := by
  by_cases hg : g
  · rw [if_pos hg]; exact .same
  · rw [if_neg hg]; exact h hg

theorem Async.ite {c : Cfg} {s a b : S} {g : Prop} [Decidable g] (ha : Async c s a) (hb : Async c s b) :
    Async c s (if g then a else b) := by
  split
  · exact ha
  · exact hb

theorem async_terminateL (c : Cfg) (s : S) (code : Nat) : Async c s (terminateL c s code) := by
  rw [terminateL_eq]
  refine .unless fun h1 => .unless fun _ => .unless fun h3 => .unless fun h4 => ?_
  exact .terminated code (by simpa using h1) (by simpa using h3) (by simpa using h4)

theorem async_upResp (c : Cfg) (s : S) (k code : Nat) (d t : Bool) : Async c s (upResp c s k code d t) := by
  unfold upResp
  cases hk : s.streams[k]? with
  | none => exact .same
  | some st =>
    refine .unless fun hst => .unless fun hurr => ?_
    have hurr : s.urr = false := by simpa using hurr
    exact .response k code d t st _ (!(processDone s || s.setupRetry) && !s.urr) hk hst hurr (Or.inr rfl)
      (fun hp => by rw [hp, hurr]; rfl)

theorem async_cases (c : Cfg) (s : S) (l : Label) (hl : l ≠ .work) {ar aq : Nat} (h : Inv c ar aq s) :
    Async c s (step c s l) := by
  cases l with
  | work => exact absurd rfl hl
  | upResp k code d t => exact async_upResp c s k code d t
  | upRespS k code d t =>
    simp only [step, upRespS]
    refine .ite (async_upResp c s k code d t) ?_
    cases hk : s.streams[k]? with
    | none => exact .same
    | some st =>
      refine .unless fun hst => .unless fun hurr => ?_
      exact .response k code d t st _ (!(processDone s || s.setupRetry)) hk hst (by simpa using hurr) (Or.inl rfl)
        (fun hp => by rw [hp]; rfl)
  | upReset k r =>
    simp only [step, upResetL]
    cases hk : s.streams[k]? with
    | none => exact .same
    | some st => exact .unless fun hst => .reset k r st hk (by revert hst; cases st.real <;> cases st.live <;> simp)
  | upEnd k =>
    simp only [step, upEndL]
    cases hk : s.streams[k]? with
    | none => exact .same
    | some st => exact .unless fun hst => .ended k (by revert hst; cases s.urr <;> simp)
  | poolFail f => exact .timers _ _ _ _ _ _ id (Or.inl rfl)
  | hostsGone => exact .timers _ _ _ _ _ _ id (Or.inl rfl)
  | perTryFire =>
    simp only [step, perTryFire]
    exact .unless fun _ => .ite (.timers _ _ _ _ _ _ id (Or.inl rfl)) (.ite (.timers _ _ _ _ _ _ id (Or.inl rfl))
      (.ite (.timedOut _ _ _ id _ (Or.inr rfl) _) (.timers _ _ _ _ _ _ id (Or.inr rfl))))
  | globalFire =>
    have hrec : globalCallbackRecordsExpiry = true := rfl
    simp only [step, globalFire, hrec, if_true]
    exact .unless fun _ => .ite (.timers _ _ _ _ _ _ Bool.noConfusion (Or.inl rfl)) (.ite (.timers _ _ _ _ _ _ Bool.noConfusion (Or.inl rfl))
      (.ite (.timedOut _ _ _ Bool.noConfusion _ (Or.inl rfl) _) (.timers _ _ _ _ _ _ Bool.noConfusion (Or.inr rfl))))
  | downReset r => exact .unless fun _ => .clientGone _ r
  | connClose => exact .unless fun _ => .clientGone _ _
  | terminate code => exact async_terminateL c s code
  | terminateStale g code =>
    simp only [step]
    rw [terminateStale_eq]
    exact .ite (async_terminateL c s code) .same
  | terminateRaced code k d t =>
    simp only [step]
    rw [terminateRaced_eq]
    exact async_terminateL c s code
  | lateResp k d t =>
    -- the request that was given up is detached: a late frame finds nobody
    simp only [step]
    rw [lateBackoff_noop c ar aq s k d t h]; exact .same
  | gtInSetup b => exact .unless fun _ => .timers _ _ _ _ _ _ Bool.noConfusion (by cases b <;> simp)

theorem Async.frame {c : Cfg} {s t : S} (h : Async c s t) : AsyncFr s t := by
  cases h with
  | same => exact AsyncFr.refl s
  | timers f hg p g e u hgl => exact { global := hgl }
  | response k code d t st x acc hk hst hurr hx hacc =>
    rcases hx with rfl | rfl
    · exact {}
    · exact (fr_destroyStream c s k).trans {}
  | ended k hurr => exact fr_destroyStream c s k
  | reset k r st hk hlive =>
    refine AsyncFr.trans ?_ (fr_destroyStream c _ k)
    split
    · exact fr_upOnResetStream s r
    · exact AsyncFr.refl s
  | timedOut p g e hgl y hy r =>
    refine AsyncFr.trans ?_ (fr_upOnResetStream y r)
    rcases hy with rfl | rfl
    · exact AsyncFr.trans { global := hgl } (fr_resetUpstream c _)
    · exact (AsyncFr.trans { global := hgl } (fr_resetUpstream c _)).trans (fr_orFlag _ _)
  | clientGone dl r => exact AsyncFr.trans {} (fr_dsOnResetStream _ r)
  | terminated code hz hcl hurr => exact fr_terminateAcc c s code

theorem async_frame (c : Cfg) (s : S) (l : Label) (hl : l ≠ .work) {ar aq : Nat} (h : Inv c ar aq s) :
    AsyncFr s (step c s l) :=
  (async_cases c s l hl h).frame

/-- a label is one of another goroutine, or the worker's: a worker that has returned does nothing, the stream of one that runs is
not cleaned -/
theorem step_split {P : S → Prop} {c : Cfg} {ar aq : Nat} {s : S} (h : Inv c ar aq s) (l : Label) (h0 : P s)
    (hw : s.running = true → s.cleaned = false → P (work c s)) (ha : ∀ t, Async c s t → P t) : P (step c s l) := by
  by_cases hl : l = .work
  · subst hl
    by_cases hrun : s.running = true
    · exact hw hrun (inv_not_cleaned h hrun)
    · rw [show step c s .work = s from work_idle c s (Or.inl (by simpa using hrun))]; exact h0
  · exact ha _ (async_cases c s l hl h)

end MosnVerif.Model.Downstream
