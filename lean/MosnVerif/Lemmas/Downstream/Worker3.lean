import MosnVerif.Lemmas.Downstream.Finish
/-! the worker label `work`: sending data/trailers, the one-way phase, waiting -/
namespace MosnVerif.Model.Downstream
open MosnVerif.Gen.ProxyPhase MosnVerif.Gen.ProxyReason MosnVerif.Gen.ProxyRetry

/-- the worker goes on from a forwarding phase to the next one (`hrq`: a two-way request is completely sent, unless its trailers are
still to come) -/
theorem inv_fwd_next (c : Cfg) (ar aq : Nat) (s : S) (h : Inv c ar aq s) (hrun : s.running = true) (q : Phase)
    (hp : s.phase = .DownRecvData ∨ s.phase = .DownRecvTrailer ∨ s.phase = .Oneway)
    (hq : (s.phase ≠ .Oneway ∧ q = s.phase.next) ∨ (s.phase = .Oneway ∧ q = .WaitNotify))
    (hone : s.phase = .Oneway → c.oneway = false)
    (hrq : c.oneway = false → s.reqSent = true ∨ (q = .DownRecvTrailer ∧ c.hasTrailers = true)) :
    Inv c ar aq { s with phase := q } := by
  have hcl := inv_not_cleaned h hrun
  have hfwd : fwdPhase s.phase = true := by rcases hp with hp | hp | hp <;> (rw [hp]; rfl)
  have hup := (phase_excl s.phase hfwd).2.1
  have hqf : upPhase q = false ∧ prePhase q = false ∧ q ≠ .End ∧ q ≠ .Retry ∧
      ¬ (q = .DownFilterAfterChooseHost ∨ q = .DownRecvHeader) ∧ q ≠ .DownRecvData := by
    rcases hq with ⟨hq0, rfl⟩ | ⟨_, rfl⟩
    · rcases hp with hp | hp | hp
      · rw [hp]; decide
      · rw [hp]; decide
      · exact absurd hp hq0
    · decide
  obtain ⟨hq2, hq3, hq4, hq5, hq6, hq8⟩ := hqf
  have hnw : ¬ (s.phase = .WaitNotify ∨ s.phase = .Retry) := by rcases hp with hp | hp | hp <;> (rw [hp]; decide)
  have hnr : s.phase ≠ .Retry := fun hh => hnw (Or.inr hh)
  have hmain : s.up.isSome = true ∧ s.rs.isSome = true ∧ _ ∧ _ ∧ _ ∧ _ :=
    (h.k18 hcl hfwd).resolve_left fun x => by have := hone x.2.1; rw [x.1] at this; cases this
  obtain ⟨hups, hrs, hwake, hexp, hgl, _⟩ := hmain
  exact { h with
    k7 := k7_frame h.k7 hcl hnw rfl rfl
    k8 := fun _ => ⟨(h.k8 hcl).1, (h.k8 hcl).2.elim Or.inl fun h0 => h0.elim (fun h0 => by rw [hup] at h0; cases h0)
      fun h0 => Or.inl (h.k25 hcl (hone h0) hrs)⟩
    k15 := .vac hq2, k17 := .vac hq3, k26 := .vac hq5, k30 := .vac hq6
    k16 := fun _ _ => h.k16 hcl hup
    k18 := fun _ _ => Or.inr ⟨hups, hrs, fun hh => Or.inl ((hwake hh).resolve_right fun h1 => hnr h1.1),
      fun hh => Or.inl ((hexp hh).resolve_right hnr), hgl, fun (hw : q = .WaitNotify) => by
        cases how : c.oneway with
        | true => exact Or.inr rfl
        | false => exact Or.inl ((hrq how).resolve_right fun x => by rw [hw] at x; cases x.1)⟩
    k19 := fun _ => hq4
    k23 := fun _ hh => hh.elim (fun hh => h.k23 hcl (Or.inl hh)) (fun hh => absurd hh hq5)
    k27 := fun _ _ hu => (h.k27 hcl hfwd hu).imp id fun h1 => h1.imp id fun h1 => absurd h1.1 hnr
    k29 := fun _ how _ => ⟨fun hh => absurd hh hq8, fun _ => (hrq how).imp_right fun x => x.2,
      fun (hh : q = .Oneway) => (hrq how).resolve_right fun x => by rw [hh] at x; cases x.1⟩
    k32 := fun _ how => by
      refine ⟨hq2, ?_, hq5⟩
      intro hw
      rcases hq with ⟨_, hq⟩ | ⟨hq0, _⟩
      · rcases hp with hp | hp | hp <;> simp [hq, hp, Phase.next] at hw
      · have := hone hq0; rw [how] at this; cases this }

/-- what `receiveData(endStream)` / `receiveTrailers()` of a request that is not done leave behind: the part goes to the current
client stream; when it ends the request, `reqSent` is set and the timers are armed -/
def sendPart (c : Cfg) (s : S) (e : Nat → Ev) (eos : Bool) : S :=
  { s with recvDone := eos, reqSent := s.reqSent || eos,
           perTry := s.perTry || (eos && (s.up.isSome && !c.oneway && c.tryTimeout)),
           global := s.global || (eos && (s.up.isSome && !c.oneway)),
           gtGen := if (eos && (s.up.isSome && !c.oneway)) = true then s.gtGen + 1 else s.gtGen,
           gtObj := s.gtObj || (eos && (s.up.isSome && !c.oneway)), trace := dataTrace s e }

theorem receiveData_eq (c : Cfg) (s : S) (eos : Bool) :
    receiveData c s eos = if processDone s then s else sendPart c s (fun k => Ev.ud k eos) eos := by
  unfold receiveData
  by_cases hpd : processDone s = true
  · rw [if_pos hpd, if_pos hpd]
  · rw [if_neg hpd, if_neg hpd]
    have hp0 : s.procDone = false := by cases hh : s.procDone <;> simp [processDone, hh] at hpd ⊢
    simp only [requestSentIf_eq]
    rw [if_neg (by show ¬ s.procDone = true; simp [hp0])]
    rfl

theorem receiveTrailers_eq (c : Cfg) (s : S) :
    receiveTrailers c s = if processDone s then s else sendPart c s Ev.ut true := by
  unfold receiveTrailers
  by_cases hpd : processDone s = true
  · rw [if_pos hpd, if_pos hpd]
  · rw [if_neg hpd, if_neg hpd]
    have hp0 : s.procDone = false := by cases hh : s.procDone <;> simp [processDone, hh] at hpd ⊢
    have e := requestSentIf_eq c { s with recvDone := true } true
    rw [if_pos rfl] at e
    simp only [e]
    rw [if_neg (by show ¬ s.procDone = true; simp [hp0])]
    rfl

/-- a part of the request goes upstream: the invariant holds where the worker stands — when the part completes the request, the timers
are armed -/
theorem inv_sendPart (c : Cfg) (ar aq : Nat) (s : S) (h : Inv c ar aq s) (hrun : s.running = true)
    (hp : s.phase = .DownRecvData ∨ s.phase = .DownRecvTrailer) (e : Nat → Ev) (eos : Bool)
    (he1 : ∀ k g, sndStep g (e k) = g) (he2 : ∀ k, isLog (e k) = false) : Inv c ar aq (sendPart c s e eos) := by
  have hcl := inv_not_cleaned h hrun
  have hfwd : fwdPhase s.phase = true := by rcases hp with hp | hp <;> (rw [hp]; rfl)
  obtain ⟨hpre, hup, _⟩ := phase_excl s.phase hfwd
  have hnw : ¬ (s.phase = .WaitNotify ∨ s.phase = .Retry) := by rcases hp with hp | hp <;> (rw [hp]; decide)
  have hno : s.phase ≠ .Oneway := by rcases hp with hp | hp <;> (rw [hp]; decide)
  obtain ⟨hups, hrs⟩ := fwd_main h hcl hfwd fun _ => hno
  have ht1 := snd_dataTrace s e he1
  -- once the request is complete the global timer is armed (now, or it was and may have expired)
  have hgl : c.oneway = false → (s.reqSent || eos) = true →
      (s.global || (eos && (s.up.isSome && !c.oneway))) = true ∨ s.globalExpired = true ∨ s.direct = true := fun how hq => by
    cases eos
    · simpa using h.k24 hcl how (by simpa using hq) hrs
    · simp [hups, how]
  unfold sendPart
  exact { h with
    k1 := by rw [K1, ht1]; exact h.k1
    k2 := by rw [K2, ht1]; exact h.k2
    k3 := by rw [K3, ht1]; exact h.k3
    k4 := (nLog_dataTrace s e he2).trans h.k4
    k7 := k7_frame h.k7 hcl hnw rfl rfl
    k13 := .vac hcl, k33 := .vac hcl, k15 := .vac hup, k17 := .vac hpre, k26 := .vac fun hh => hnw (Or.inr hh)
    k30 := .vac fun hh => by rcases hh with hh | hh <;> rcases hp with hp | hp <;> (rw [hp] at hh; cases hh)
    k18 := fun _ _ => (h.k18 hcl hfwd).imp id fun ⟨a, b, w, d, _⟩ => ⟨a, b, w, d, hgl, fun hw => absurd (Or.inl hw) hnw⟩
    k21 := fun ho => by simpa [ho] using h.k21 ho
    k24 := fun _ how hq _ => hgl how hq
    k29 := fun _ how hps => have ⟨a, b, _⟩ := h.k29 hcl how hps
      ⟨fun hh => (a hh).imp_left fun x => by rw [x]; rfl, fun hh => (b hh).imp_left fun x => by rw [x]; rfl, fun hh => absurd hh hno⟩ }

/-- the phases `DownRecvData` / `DownRecvTrailer`: a part the request does not have is skipped; a part is not sent when the request
is done (a reset is pending: `processError` deals with it); else it goes upstream and the next forwarding phase follows -/
theorem inv_work_part (c : Cfg) (ar aq : Nat) (s : S) (h : Inv c ar aq s) (hrun : s.running = true) (has : Bool)
    (e : Nat → Ev) (eos : Bool) (hp : s.phase = .DownRecvData ∨ s.phase = .DownRecvTrailer)
    (he1 : ∀ k g, sndStep g (e k) = g) (he2 : ∀ k, isLog (e k) = false)
    (hhas : has = if s.phase = .DownRecvData then c.hasData else c.hasTrailers)
    (heos : eos = false → s.phase = .DownRecvData ∧ c.hasTrailers = true) :
    Inv c ar aq (if has then finishPhase c (if processDone s then s else sendPart c s e eos) else { s with phase := s.phase.next }) := by
  have hcl := inv_not_cleaned h hrun
  have hnw : ¬ (s.phase = .WaitNotify ∨ s.phase = .Retry) := by rcases hp with hp | hp <;> (rw [hp]; decide)
  have hno : s.phase ≠ .Oneway := by rcases hp with hp | hp <;> (rw [hp]; decide)
  cases hh : has with
  | false =>
    -- the request has no such part: K29 says what is still to come
    rw [hh] at hhas
    simp only [Bool.false_eq_true, if_false]
    refine inv_fwd_next c ar aq s h hrun _ (hp.imp_right Or.inl) (Or.inl ⟨hno, rfl⟩) (fun hq => absurd hq hno) fun how => ?_
    have hps := (fwd_two_way h hcl (by rcases hp with hp | hp <;> (rw [hp]; rfl)) how).2.2.1
    rcases hp with hp | hp
    · rw [if_pos hp] at hhas
      exact ((h.k29 hcl how hps).1 hp).imp id fun x => ⟨by rw [hp]; rfl, x.resolve_left (by simp [← hhas])⟩
    · rw [if_neg (by rw [hp]; decide)] at hhas
      exact Or.inl (((h.k29 hcl how hps).2.1 hp).resolve_right (by simp [← hhas]))
  | true =>
    simp only [if_true]
    by_cases hpdn : processDone s = true
    · rw [if_pos hpdn]
      exact finish_inv c ar aq s h hrun hnw hno
        (fun h1 h2 => by simp [processDone, inv_not_procDone h hcl, h1, h2] at hpdn)
    rw [if_neg hpdn]
    have hs := inv_sendPart c ar aq s h hrun hp e eos he1 he2
    refine finish_inv c ar aq _ hs hrun hnw hno fun _ _ => ?_
    refine inv_fwd_next c ar aq _ hs hrun _ (hp.imp_right Or.inl) (Or.inl ⟨hno, rfl⟩) (fun hq => absurd hq hno) fun _ => ?_
    cases eos
    · exact Or.inr ⟨by show s.phase.next = _; rw [(heos rfl).1]; rfl, (heos rfl).2⟩
    · exact Or.inl (by simp [sendPart])

theorem inv_work_drd (c : Cfg) (ar aq : Nat) (s : S) (h : Inv c ar aq s) (hrun : s.running = true)
    (hp : s.phase = .DownRecvData) :
    Inv c ar aq (if c.hasData then finishPhase c (receiveData c s (!c.hasTrailers)) else { s with phase := s.phase.next }) := by
  rw [receiveData_eq]
  exact inv_work_part c ar aq s h hrun c.hasData _ _ (Or.inl hp) (fun _ _ => rfl) (fun _ => rfl) (by rw [if_pos hp])
    (fun he => ⟨hp, by simpa using he⟩)

theorem inv_work_drt (c : Cfg) (ar aq : Nat) (s : S) (h : Inv c ar aq s) (hrun : s.running = true)
    (hp : s.phase = .DownRecvTrailer) :
    Inv c ar aq (if c.hasTrailers then finishPhase c (receiveTrailers c s) else { s with phase := s.phase.next }) := by
  rw [receiveTrailers_eq]
  exact inv_work_part c ar aq s h hrun c.hasTrailers _ _ (Or.inr hp) (fun _ _ => rfl) (fun _ => rfl)
    (by rw [if_neg (by rw [hp]; decide)]) (fun he => Bool.noConfusion he)

theorem inv_work_oneway (c : Cfg) (ar aq : Nat) (s : S) (h : Inv c ar aq s) (hrun : s.running = true)
    (hp : s.phase = .Oneway) :
    Inv c ar aq (if c.oneway then
        match processError c (cleanStream c s) with
        | (s, some p) => reenter s p
        | (s, none) => { s with phase := onewayNext }
      else { s with phase := onewayNext }) := by
  have hcl := inv_not_cleaned h hrun
  by_cases how : c.oneway = true
  · simp only [how, if_true]
    have e : cleanStream c s = cleanBody c s := by simp [cleanStream, hcl]
    rw [e, processError_cleaned c _ (cleanBody_cleaned c s)]
    simp only []
    rw [reenter_end]
    exact clean_inv c ar aq s h.base hcl (fun _ => h.k20 how) (Or.inr (Or.inr how))
  · simp only [how, Bool.false_eq_true, if_false]
    simp only [Bool.not_eq_true] at how
    have hps := (fwd_two_way h hcl (by rw [hp]; rfl) how).2.2.1
    exact inv_fwd_next c ar aq s h hrun .WaitNotify (Or.inr (Or.inr hp)) (Or.inr ⟨hp, rfl⟩) (fun _ => how)
      (fun how' => Or.inl ((h.k29 hcl how' hps).2.2 hp))

theorem inv_work_wait (c : Cfg) (ar aq : Nat) (s : S) (h : Inv c ar aq s) (hrun : s.running = true)
    (hp : s.phase = .WaitNotify) :
    Inv c ar aq (if s.notify then finishPhase c { s with notify := false } else s) := by
  have hcl := inv_not_cleaned h hrun
  by_cases hn : s.notify = true
  rotate_left
  · simp only [hn, Bool.false_eq_true, if_false]; exact h
  simp only [hn, if_true]
  have hpd := inv_not_procDone h hcl
  have hsr := (h.k7 hcl).1
  have hfwd : fwdPhase s.phase = true := by rw [hp]; rfl
  have how := two_way h hcl (Or.inr (Or.inl hp))
  obtain ⟨_, hrsome, hps, hrst⟩ := fwd_two_way h hcl hfwd how
  have l1 : Live c ar aq { s with notify := false } := { h.live hrun with }
  by_cases hdt : s.direct = true
  · exact finish_term c ar aq s h hrun hdt false
  have hdir : s.direct = false := by simpa using hdt
  apply finish_plain c ar aq _ l1 hsr hdir (fun _ => ⟨hps, hrst⟩)
  · intro hur how
    refine ⟨h.k23 hcl (Or.inl hur), by simp [hp], fun hq => or3_nd (h.k24 hcl how hq hrsome) hdir⟩
  · intro hur hdr
    have hur : s.upReset = false := hur
    have hdr : s.downReset = false := hdr
    have hurr : s.urr = true := by
      have := h.k28 hcl hn
      simpa [hur, hdr] using this
    have h27 : s.resp.isSome = true ∧ (liveCount s.streams = 0 ∨ respHasMore s.resp = true) := by
      rcases h.k27 hcl hfwd hurr with h1 | h1 | h1
      · rw [hur] at h1; cases h1
      · exact h1
      · rw [hp] at h1; exact absurd h1.1 (by decide)
    -- the response pass starts: the accepted response is stored, its client stream gone or still open
    exact inv_up_state c ar aq _ .UpFilter { l1 with } hsr hdir (h.k8 hcl).1 hur
      (h27.2.imp id fun h1 => ⟨hurr, h1, hrsome⟩) (Or.inr hurr) ⟨by simp [hp, Phase.next], rfl, h27.1, hrst, nofun, nofun⟩
      h.k24 h.k25 (fun _ hh => by simp at hh) how

end MosnVerif.Model.Downstream
