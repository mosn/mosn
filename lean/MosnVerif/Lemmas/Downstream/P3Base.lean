import MosnVerif.Lemmas.Downstream.Frames
import MosnVerif.Lemmas.Downstream.DoRetry10
/-!
The regenerated pieces of `Gen.ProxyReply`, `Gen.ProxyTimers`, `Gen.ProxyTerminate` in closed form on the
machine: what the local-reply paths do to the held data / trailers, which timers `setupRetry` stops, and the step program
of `TerminateStream` as one record update.  These lemmas are where a change of the regenerated definitions shows up first.
-/
namespace MosnVerif.Model.Downstream
open MosnVerif.Gen.ProxyPhase MosnVerif.Gen.ProxyReason

/-- a header-only local reply CLEARS the held data, a reply with body REPLACES it by its own: the data part after
`sendHijackReply[WithBody]` is present exactly when the reply has a body -/
@[simp] theorem hijack_data_eff (body held : Bool) : applyEff (hijackDataEff body) body held = body := by
  cases body <;> rfl

/-- both local-reply paths clear the held trailers -/
@[simp] theorem hijack_trailers_eff (body held : Bool) : applyEff (hijackTrailersEff body) false held = false := by
  cases body <;> rfl

@[simp] theorem hijack_data_tok (body : Bool) (old : Tok) :
    effTok (hijackDataEff body) body .loc old = if body then .loc else .none := by
  cases body <;> rfl

@[simp] theorem hijack_trailers_tok (body : Bool) (old : Tok) : effTok (hijackTrailersEff body) false .loc old = .none := by
  cases body <;> rfl

/-- `sendHijackReply[WithBody]` in closed form: the stored response is exactly this reply -/
theorem sendHijack_eq (s : S) (code : Nat) (body : Bool) :
    sendHijack s code body =
      { s with respCode := code, statusVar := some code, resp := some ⟨body, false⟩, direct := true,
               hTok := .loc, dTok := if body then .loc else .none, tTok := .none } := by
  simp [sendHijack]

@[simp] theorem setupRetry_stops_perTry : Gen.ProxyTimers.setupRetryStopsPerTry = true := rfl
@[simp] theorem setupRetry_keeps_global : Gen.ProxyTimers.setupRetryStopsGlobal = false := rfl

theorem setupRetry_timers (z : S) :
    ({ z with perTry := z.perTry && !Gen.ProxyTimers.setupRetryStopsPerTry, urr := false,
              global := z.global && !Gen.ProxyTimers.setupRetryStopsGlobal } : S) = { z with perTry := false, urr := false } := by
  cases z; simp

/-- `setupRetry` in closed form: of the two timers only the per-try timer is stopped — the global timer, its generation
and `responseTimer != nil` are left alone -/
theorem setupRetry_eq (c : Cfg) (s : S) (eos : Bool) :
    setupRetry c s eos =
      if setupRetryChecksExpiry && s.globalExpired then (s, false) else
      let s := { s with setupRetry := true }
      let s := if !eos then resetUpstream c s else s
      ({ s with perTry := false, urr := false }, true) := by
  unfold setupRetry
  split
  · rfl
  · simp only [setupRetry_timers]

/-- the accepted `TerminateStream` as one record update (what the regenerated step program amounts to) -/
def terminateAcc (c : Cfg) (s : S) (code : Nat) : S :=
  { resetUpstream c s with
      urr := true, perTry := false, global := false, flags := s.flags ||| DownStreamTerminate,
      respCode := code, statusVar := some code, resp := some ⟨false, false⟩, direct := true, notify := true,
      hTok := .loc, dTok := .none, tTok := .none }

theorem term_acc_eq (c : Cfg) (s : S) (code : Nat) :
    sendNotify (sendHijack (orFlag (resetUpstream c { { { s with urr := true } with global := false } with perTry := false })
      DownStreamTerminate) code false) = terminateAcc c s code := by
  cases s with
  | mk phase pass running urr cleaned upReset downReset resetReason respStarted recvDone reqSent procDone direct notify setupRetry rs up =>
    cases up with
    | none => rfl
    | some o => cases o <;> rfl

/-- the regenerated program in closed form on ANY state (wherever the worker is), for anything `between` that lands inside its reset
of the upstream request: the refusal tests in their order (stored response headers, cleaned, generation, response slot), then the
claim, the reset, `between`, the reply -/
theorem terminateStream_eq (c : Cfg) (s : S) (hid code : Nat) (between : S → S) :
    (Gen.ProxyTerminate.terminateStream (termOps c hid code) between s).1 =
      if s.resp.isSome then s else if s.cleaned then s else if !(hid == c.gen) then s
      else if s.urr then s
      else sendNotify (sendHijack (orFlag (between
        (resetUpstream c { { { s with urr := true } with global := false } with perTry := false })) DownStreamTerminate) code false) := by
  unfold Gen.ProxyTerminate.terminateStream Gen.ProxyTerminate.claim Gen.ProxyTerminate.commit
  simp only [termOps, id]
  -- the same four tests in the same order on both sides
  by_cases h1 : s.resp.isSome = true
  · simp only [h1, if_true]
  by_cases h2 : s.cleaned = true
  · simp only [h1, h2, Bool.false_eq_true, if_true, if_false]
  by_cases h3 : (!(hid == c.gen)) = true
  · simp only [h1, h2, h3, Bool.false_eq_true, if_true, if_false]
  by_cases h4 : s.urr = true
  · simp only [h1, h2, h3, h4, Bool.false_eq_true, if_true, if_false]
  · simp only [h1, h2, h3, h4, Bool.false_eq_true, if_false]

theorem terminateG_eq (c : Cfg) (s : S) (hid code : Nat) :
    terminateG c s hid code id =
      if !asleep s then s else if s.resp.isSome then s else if s.cleaned then s else if !(hid == c.gen) then s
      else if s.urr then s else terminateAcc c s code := by
  unfold terminateG
  rw [terminateStream_eq, id, term_acc_eq]

/-- the label `terminate` (a handler of this very request) in closed form -/
theorem terminateL_eq (c : Cfg) (s : S) (code : Nat) :
    terminateL c s code =
      if !asleep s then s else if s.resp.isSome then s else if s.cleaned then s else if s.urr then s
      else terminateAcc c s code := by
  unfold terminateL
  rw [terminateG_eq]
  simp

/-- a late response frame is dropped when the response slot is taken -/
theorem lateRecv_of_urr (s : S) (k : Nat) (d t : Bool) (h : s.urr = true) : lateRecv s k d t = s := by
  unfold lateRecv
  split
  · rfl
  · cases s; simp_all

/-- a handler of another generation is refused before anything is touched; one of this generation is the label `terminate` -/
theorem terminateStale_eq (c : Cfg) (s : S) (g code : Nat) :
    terminateG c s g code id = if g == c.gen then terminateL c s code else s := by
  rw [terminateG_eq, terminateL_eq]
  cases h : (g == c.gen) <;> simp

/-- an in-flight response landing inside an accepted `TerminateStream` (after the claim of the response slot) is dropped:
the call with the interleaved frame is the plain call -/
theorem terminateRaced_eq (c : Cfg) (s : S) (code k : Nat) (d t : Bool) :
    terminateG c s c.gen code (fun s => lateRecv s k d t) = terminateL c s code := by
  unfold terminateL terminateG
  rw [terminateStream_eq, terminateStream_eq, lateRecv_of_urr _ _ _ _ (by rw [resetUpstream_urr])]
  rfl

end MosnVerif.Model.Downstream
