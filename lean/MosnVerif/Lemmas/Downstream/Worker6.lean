import MosnVerif.Lemmas.Downstream.Finish
/-! the worker label `work`: response data and trailers, the end -/
namespace MosnVerif.Model.Downstream
open MosnVerif.Gen.ProxyPhase MosnVerif.Gen.ProxyReason MosnVerif.Gen.ProxyRetry

/-- facts every phase after the response headers starts from -/
theorem up_started {c : Cfg} {ar aq : Nat} {s : S} (h : Inv c ar aq s) (hrun : s.running = true)
    (hp : s.phase = .UpRecvData ∨ s.phase = .UpRecvTrailer) :
    upPhase s.phase = true ∧ s.respStarted = true ∧ c.oneway = false ∧
    (snd s.trace).ended = false ∧ (snd s.trace).reset = false ∧ (snd s.trace).bad = false ∧ (snd s.trace).hdr = true := by
  have hupp : upPhase s.phase = true := by rcases hp with hp | hp <;> (rw [hp]; rfl)
  have hcl := inv_not_cleaned h hrun
  obtain ⟨_, _, _, _, hrst0, _, _⟩ := h.k15 hcl hupp
  have hrst : s.respStarted = true := by rcases hp with hp | hp <;> (rw [hrst0, hp]; decide)
  have how := two_way h hcl (Or.inl hupp)
  have hopen := snd_open (h.live hrun)
  exact ⟨hupp, hrst, how, hopen.1, hopen.2.1, hopen.2.2.1, by rw [hopen.2.2.2, hrst]⟩

/-- the worker does not wait for the body although neither a reset nor the client's departure was signalled: the streamed upstream
body has ended (no live client stream is left) -/
theorem not_waiting {c : Cfg} {ar aq : Nat} {s : S} (h : Inv c ar aq s) (hrun : s.running = true)
    (hp : s.phase = .UpRecvData ∨ s.phase = .UpRecvTrailer) (hnw : bodyWait s = false) (hur : s.upReset = false)
    (hdr : s.downReset = false) : liveCount s.streams = 0 := by
  have hpd : processDone s = false := by simp [processDone, inv_not_procDone h (inv_not_cleaned h hrun), hdr, hur]
  apply allDead_liveCount
  apply dead_of_not_open s h.k14
  cases hb : bodyOpen s with
  | false => rfl
  | true =>
    rcases hp with hp | hp <;> simp [bodyWait, hrun, hp, hb, hpd] at hnw

/-- a response without data: the data phase is skipped, also while an upstream reset is pending -/
theorem inv_skip_urd (c : Cfg) (ar aq : Nat) (s : S) (h : Inv c ar aq s)
    (hp : s.phase = .UpRecvData) (ht : respHasTrailers s.resp = true) : Inv c ar aq { s with phase := .UpRecvTrailer } :=
  -- only the phase moves, inside the response pass: what K15 says at `UpRecvData` it says at `UpRecvTrailer`
  have hupp : upPhase s.phase = true := by rw [hp]; rfl
  { h with
    k7 := fun hcl => ⟨(h.k7 hcl).1, fun hd => absurd ((h.k7 hcl).2 hd).1 (by rw [hp]; decide)⟩
    k8 := fun hcl => ⟨(h.k8 hcl).1, Or.inr (Or.inl rfl)⟩
    k15 := fun hcl _ =>
      have ⟨a, b, _, d, e, _, _⟩ := h.k15 hcl hupp
      ⟨a, b, fun _ => Or.inr (Or.inl rfl), d, by rw [e, hp]; rfl, nofun, fun _ => ht⟩
    k16 := .vac rfl, k17 := .vac rfl, k18 := .vac rfl, k27 := .vac rfl, k26 := .vac nofun, k30 := .vac (not_or.2 ⟨nofun, nofun⟩)
    k19 := fun _ => nofun
    k23 := fun hcl hh => h.k23 hcl (hh.imp_right nofun)
    k29 := fun _ _ _ => ⟨nofun, nofun, nofun⟩
    k32 := fun hcl ho => absurd (h.k32 hcl ho).1 (by rw [hupp]; decide) }

theorem onUpstreamData_last (c : Cfg) (s : S) : onUpstreamData c s true = lastPart c s s.respStarted (.dd true) := by
  unfold onUpstreamData dsAppendData emit lastPart
  simp only [if_true]
  rw [recvFinished_respStarted]

theorem onUpstreamTrailers_last (c : Cfg) (s : S) : onUpstreamTrailers c s = lastPart c s s.respStarted .dt := by
  unfold onUpstreamTrailers dsAppendTrailers emit lastPart
  rw [← recvFinished_respStarted c s]

/-- the data or the trailers end the response: the stream is cleaned, the worker returns -/
theorem respond_rest (c : Cfg) (ar aq : Nat) (s : S) (h : Inv c ar aq s) (hrun : s.running = true)
    (hp : s.phase = .UpRecvData ∨ s.phase = .UpRecvTrailer) (hlc : liveCount s.streams = 0) (e : Ev)
    (he : e = .dd true ∨ e = .dt) : Inv c ar aq (finishPhase c (lastPart c s s.respStarted e)) := by
  obtain ⟨_, hrst, _, ho1, ho2, ho3, ho4⟩ := up_started h hrun hp
  apply respond_last c ar aq s e _ (h.live hrun) hlc
  · rcases he with he | he <;> simp [he, sndStep, ho1, ho2, ho3, ho4, hrst]
  · rcases he with he | he <;> (rw [he]; rfl)

theorem inv_work_urd (c : Cfg) (ar aq : Nat) (s : S) (h : Inv c ar aq s) (hrun : s.running = true)
    (hp : s.phase = .UpRecvData) (hnw : bodyWait s = false) :
    Inv c ar aq (match s.resp with
      | some r =>
        if r.hasData then finishPhase c (if processDone s || s.setupRetry then s else onUpstreamData c s (!r.hasTrailers))
        else { s with phase := s.phase.next }
      | none => { s with phase := s.phase.next }) := by
  obtain ⟨hupp, hrst, how, ho1, ho2, ho3, ho4⟩ := up_started h hrun (Or.inl hp)
  obtain ⟨hcl, _, hsr, hdir⟩ := upCtx h hrun hupp
  obtain ⟨_, hresp, _, htm, _, hmore, _⟩ := h.k15 hcl hupp
  obtain ⟨r, hr⟩ := Option.isSome_iff_exists.1 hresp
  have hmore' : r.hasData = true ∨ r.hasTrailers = true := by simpa [respHasMore, hr] using hmore hp
  rw [hr]
  simp only []
  by_cases hd : r.hasData = true
  rotate_left
  · rw [if_neg hd]
    have := inv_skip_urd c ar aq s h hp (by simpa [respHasTrailers, hr] using hmore'.resolve_left hd)
    rw [hr] at this
    rw [hp]
    exact this
  rw [if_pos hd]
  refine inv_resp_part c ar aq s h hrun hupp _ fun hur hdr => ?_
  have hlc := not_waiting h hrun (Or.inl hp) hnw hur hdr
  cases ht : r.hasTrailers with
  | false =>
    rw [show (!false) = true from rfl, onUpstreamData_last]
    exact respond_rest c ar aq s h hrun (Or.inl hp) hlc _ (Or.inl rfl)
  | true =>
    have e2 : onUpstreamData c s (!true) = { s with procDone := false, trace := s.trace ++ [Ev.dd false] } := by
      unfold onUpstreamData dsAppendData emit
      simp only [Bool.not_true, Bool.false_eq_true, if_false]
    rw [e2]
    have lm := respond_more_live c ar aq s (Ev.dd false) s.respStarted (h.live hrun)
      (by simp [sndStep, ho1, ho2, ho3, ho4, hrst]) rfl
    refine finish_noreset c ar aq _ lm hsr hdir hur fun _ => ?_
    -- the data went out, the trailers are still to come
    exact inv_up_state c ar aq _ .UpRecvTrailer { lm with } hsr hdir (h.k8 hcl).1 hur (Or.inl hlc) htm
      ⟨by rw [hp]; rfl, rfl, by rw [hr]; rfl, hrst, nofun, fun _ => by simp [respHasTrailers, hr, ht]⟩ h.k24 h.k25 h.k28 how

theorem inv_work_urt (c : Cfg) (ar aq : Nat) (s : S) (h : Inv c ar aq s) (hrun : s.running = true)
    (hp : s.phase = .UpRecvTrailer) (hnw : bodyWait s = false) :
    Inv c ar aq (match s.resp with
      | some r =>
        if r.hasTrailers then finishPhase c (if processDone s || s.setupRetry then s else onUpstreamTrailers c s)
        else { s with phase := s.phase.next }
      | none => { s with phase := s.phase.next }) := by
  have hupp : upPhase s.phase = true := by rw [hp]; rfl
  have hcl := inv_not_cleaned h hrun
  obtain ⟨_, hresp, _, _, _, _, htr⟩ := h.k15 hcl hupp
  obtain ⟨r, hr⟩ := Option.isSome_iff_exists.1 hresp
  rw [hr]
  simp only []
  rw [if_pos (by simpa [respHasTrailers, hr] using htr hp)]
  rw [onUpstreamTrailers_last]
  refine inv_resp_part c ar aq s h hrun hupp _ fun hur hdr => ?_
  exact respond_rest c ar aq s h hrun (Or.inr hp) (not_waiting h hrun (Or.inr hp) hnw hur hdr) _ (Or.inr rfl)

/-- phase `End`: unreachable for a running worker -/
theorem inv_work_end (c : Cfg) (ar aq : Nat) (s : S) (h : Inv c ar aq s) (hrun : s.running = true)
    (hp : s.phase = .End) : Inv c ar aq { s with running := false } := by
  have hcl := inv_not_cleaned h hrun
  exact absurd hp (h.k19 hcl)

end MosnVerif.Model.Downstream
