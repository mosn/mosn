import MosnVerif.Lemmas.Downstream.Helpers
/-! the invariant is preserved by the labels of other goroutines.  Each label is a no-op behind its guards (`of_unless`) or ONE update of
the state: `{ h with kᵢ := … }` carries over every clause that reads no written field; of the others, those whose guard fails in the
state at hand are `.vac`, and what is left says what the label means for the request -/
namespace MosnVerif.Model.Downstream
open MosnVerif.Gen.ProxyPhase MosnVerif.Gen.ProxyReason MosnVerif.Gen.ProxyRetry

theorem inv_poolFail (c : Cfg) (ar aq : Nat) (s : S) (f : PoolFail) (h : Inv c ar aq s) :
    Inv c ar aq { s with failNext := s.failNext ++ [f] } :=
  { h with }

theorem inv_hostsGone (c : Cfg) (ar aq : Nat) (s : S) (h : Inv c ar aq s) :
    Inv c ar aq { s with hostsGone := true } :=
  { h with }

theorem inv_dsOnResetStream (c : Cfg) (ar aq : Nat) (s : S) (r : Reason) (dl : Bool)
    (h : Inv c ar aq s) : Inv c ar aq (dsOnResetStream { s with downLive := dl } r) :=
  { h with
    k6 := fun _ => Or.inl rfl
    k7 := by have := h.k7; simp only [K7, Term, dsOnResetStream] at this ⊢; grind
    k18 := by have := h.k18; simp only [K18, dsOnResetStream] at this ⊢; grind
    k28 := fun _ _ => Or.inr (Or.inr rfl)
    k33 := fun _ => Or.inr (Or.inl rfl) }

theorem inv_connClose (c : Cfg) (ar aq : Nat) (s : S) (h : Inv c ar aq s) : Inv c ar aq (connClose s) := by
  unfold connClose
  exact of_unless h fun _ => inv_dsOnResetStream c ar aq s _ s.downLive h

theorem inv_downReset (c : Cfg) (ar aq : Nat) (s : S) (r : Reason) (h : Inv c ar aq s) : Inv c ar aq (downResetL c s r) := by
  unfold downResetL
  exact of_unless h fun _ => inv_dsOnResetStream c ar aq s r false h

theorem phase_cases (p : Phase) : prePhase p = true ∨ fwdPhase p = true ∨ upPhase p = true ∨ p = .End := by
  cases p <;> decide

theorem phase_excl (p : Phase) : (fwdPhase p = true → prePhase p = false ∧ upPhase p = false ∧ p ≠ .End) := by
  cases p <;> decide

/-- a two-way request that is being forwarded has an upstream request and a retry state (K18), has used no re-entry budget (K25) and
has sent nothing to the client (K16) -/
theorem fwd_two_way {c : Cfg} {ar aq : Nat} {s : S} (h : Inv c ar aq s) (hcl : s.cleaned = false) (hf : fwdPhase s.phase = true)
    (how : c.oneway = false) : s.up.isSome = true ∧ s.rs.isSome = true ∧ s.pass = 0 ∧ s.respStarted = false :=
  have ⟨a, b⟩ := fwd_main h hcl hf fun ho => Bool.noConfusion (how.symm.trans ho)
  ⟨a, b, h.k25 hcl how b, h.k16 hcl (phase_excl s.phase hf).2.1⟩

theorem phase_excl_up (p : Phase) : (upPhase p = true → prePhase p = false ∧ fwdPhase p = false ∧ p ≠ .End ∧ p ≠ .Retry ∧
    ¬ (p = .DownFilterAfterChooseHost ∨ p = .DownRecvHeader) ∧ p ≠ .DownRecvData ∧ p ≠ .DownRecvTrailer ∧ p ≠ .Oneway ∧
    ((p = .UpFilter ∨ p = .UpRecvHeader) ∨ p = .UpRecvData ∨ p = .UpRecvTrailer)) := by
  cases p <;> decide

/-- the phases no clause of the invariant names on its own: the phases before a host exists (named only as `prePhase`) and the two
before the first `receiveHeaders` (named only together, K30) -/
def unnamed (p : Phase) : Bool := prePhase p || p == .DownFilterAfterChooseHost || p == .DownRecvHeader

theorem unnamed_facts {p : Phase} (h : unnamed p = true) :
    upPhase p = false ∧ fwdPhase p = !prePhase p ∧ ((p = .DownFilterAfterChooseHost ∨ p = .DownRecvHeader) ↔ prePhase p = false) ∧
    p ≠ .WaitNotify ∧ p ≠ .Retry ∧ p ≠ .Oneway ∧ p ≠ .End ∧ p ≠ .DownRecvData ∧ p ≠ .DownRecvTrailer := by
  revert h
  cases p <;> decide

/-- the invariant does not tell two unnamed phases of the same kind apart -/
theorem inv_phase_unnamed (c : Cfg) (ar aq : Nat) (s : S) (h : Inv c ar aq s) (q : Phase) (hp : unnamed s.phase = true)
    (hq : unnamed q = true) (hpre : prePhase q = prePhase s.phase) : Inv c ar aq { s with phase := q } := by
  obtain ⟨pu, pf, pd, p1, p2, p3, p4, p5, p6⟩ := unnamed_facts hp
  obtain ⟨qu, qf, qd, q1, q2, q3, q4, q5, q6⟩ := unnamed_facts hq
  exact { h with
    k7 := by have := h.k7; simp only [K7, Term, p1, p2, q1, q2, false_or, false_and] at this ⊢; exact this
    k8 := by have := h.k8; simp only [K8, pu, qu, p3, q3] at this ⊢; exact this
    k15 := .vac qu
    k16 := fun hcl _ => h.k16 hcl pu
    k17 := by have := h.k17; simp only [K17, hpre] at this ⊢; exact this
    k18 := by have := h.k18; simp only [K18, pf, qf, hpre, p1, p2, p3, q1, q2, q3] at this ⊢; exact this
    k19 := fun _ => q4
    k23 := fun hcl hh => h.k23 hcl (hh.imp_right fun e => absurd e q2)
    k26 := .vac q2
    k27 := by have := h.k27; simp only [K27, pf, qf, hpre, p2, q2] at this ⊢; exact this
    k29 := by have := h.k29; simp only [K29, p3, p5, p6, q3, q5, q6] at this ⊢; exact this
    k30 := by have := h.k30; simp only [K30, pd, qd, hpre] at this ⊢; exact this
    k32 := fun _ _ => ⟨qu, q1, q2⟩ }

theorem liveCounted_pos (s : S) (k : Nat) (h : streamLiveCounted s k = true) : 0 < liveCount s.streams := by
  unfold streamLiveCounted at h
  cases hk : s.streams[k]? with
  | none => simp [hk] at h
  | some st =>
    simp [hk] at h
    have hm : st ∈ s.streams := List.mem_of_getElem? hk
    have : st ∈ s.streams.filter liveCounted := by
      simp [List.mem_filter, hm, liveCounted, h.1, h.2]
    exact List.length_pos_of_mem this

/-- a live counted client stream only exists while a two-way request is being forwarded, or — as the open stream of a
streamed response whose head was accepted — during the response pass -/
theorem live_ctx (c : Cfg) (ar aq : Nat) (s : S) (h : Inv c ar aq s) (hl : 0 < liveCount s.streams) :
    s.cleaned = false ∧ c.oneway = false ∧
    (fwdPhase s.phase = true ∨ (upPhase s.phase = true ∧ s.urr = true ∧ respHasMore s.resp = true ∧ s.rs.isSome = true)) := by
  have hc : s.cleaned = false := by
    cases hcl : s.cleaned with
    | false => rfl
    | true => have := (h.k13 hcl).2.1; omega
  have ho : c.oneway = false := by
    cases hw : c.oneway with
    | false => rfl
    | true => have := h.k20 hw; omega
  refine ⟨hc, ho, ?_⟩
  rcases phase_cases s.phase with hp | hp | hp | hp
  · have := (h.k17 hc hp).2.2.1
    simp [this] at hl
  · exact Or.inl hp
  · rcases (h.k15 hc hp).1 with h0 | h1
    · omega
    · exact Or.inr ⟨hp, h1.1, h1.2.1, h1.2.2⟩
  · exact absurd hp (h.k19 hc)

/-- while a client stream is live and counted the request is two-way, past its first attempt and outside the back-off; no retry is
marked, no local reply and no upstream reset is pending; it is being forwarded, or — the open stream of a streamed response whose head
was accepted — in the response pass -/
theorem live_facts (c : Cfg) (ar aq : Nat) (s : S) (h : Inv c ar aq s) (hl : 0 < liveCount s.streams) :
    s.cleaned = false ∧ c.oneway = false ∧ prePhase s.phase = false ∧ s.setupRetry = false ∧ s.direct = false ∧ s.phase ≠ .Retry ∧
    ¬ (s.phase = .DownFilterAfterChooseHost ∨ s.phase = .DownRecvHeader) ∧ s.upReset = false ∧
    ((fwdPhase s.phase = true ∧ upPhase s.phase = false) ∨
     (upPhase s.phase = true ∧ fwdPhase s.phase = false ∧ s.urr = true ∧ s.rs.isSome = true)) := by
  obtain ⟨hcl, how, hph⟩ := live_ctx c ar aq s h hl
  have hdead : ∀ {p : Prop}, liveCount s.streams = 0 → p := fun h0 => by omega
  refine ⟨hcl, how, ?_, (h.k7 hcl).1, not_direct h.k7 hcl fun t => hdead t.2.2.2.2.2.1, fun hp => hdead (h.k23 hcl (Or.inr hp)),
    fun hp => hdead (by rw [(h.k30 hcl hp).1]; rfl), eq_false_of_ne_true fun hu => hdead (h.k23 hcl (Or.inl hu)), ?_⟩
  · rcases hph with hf | ⟨hu, _⟩
    · exact (phase_excl s.phase hf).1
    · exact (phase_excl_up s.phase hu).1
  · rcases hph with hf | ⟨hu, hurr, _, hrs⟩
    · exact Or.inl ⟨hf, (phase_excl s.phase hf).2.1⟩
    · exact Or.inr ⟨hu, (phase_excl_up s.phase hu).2.1, hurr, hrs⟩

/-- destroying a live client stream after an (optional) `upstreamRequest.OnResetStream`: while forwarding, or — for the
open stream of a streamed response — at any later point (a reset is then delivered only while the worker waits for
the body: phases `UpRecvData` / `UpRecvTrailer`) -/
theorem inv_reset_destroy (c : Cfg) (ar aq : Nat) (s : S) (k : Nat) (r : Reason) (fire : Bool) (h : Inv c ar aq s)
    (hlc : streamLiveCounted s k = true) :
    Inv c ar aq (destroyStream c (if fire then upOnResetStream s r else s) k) := by
  obtain ⟨hcl, how, hpre, hsr, hnd, hnr, hn30, hur, hph⟩ := live_facts c ar aq s h (liveCounted_pos s k hlc)
  -- the ledger after the stream is destroyed: nothing is live any more
  obtain ⟨hd, hdead⟩ := destroyStream_ledger c aq s k ⟨h.k10, h.k11, h.k14⟩
  have hl0 := allDead_liveCount (hdead (streamLiveCounted_le s k hlc))
  have h22 := K22_destroyStream c s k h.k22
  -- the stream is destroyed …
  have hdes : Inv c ar aq (destroyStream c s k) := by
    unfold destroyStream
    exact { h with
      k7 := k7_intro hsr hnd, k10 := hd.1, k11 := hd.2.1, k14 := hd.2.2, k22 := h22
      k13 := .vac hcl, k33 := .vac hcl, k20 := .vac how, k17 := .vac hpre, k30 := .vac hn30
      k15 := fun _ hupp => have ⟨_, b⟩ := h.k15 hcl hupp; ⟨Or.inl hl0, b⟩
      k23 := fun _ _ => hl0
      k27 := fun _ hfwd hu => (h.k27 hcl hfwd hu).imp id (Or.imp (fun x => ⟨x.1, Or.inl hl0⟩) id) }
  cases fire with
  | false => exact hdes
  | true =>
    -- … and (the order does not matter) the reset raised on the upstream request
    have e : destroyStream c (if true = true then upOnResetStream s r else s) k =
        { destroyStream c s k with upReset := true, resetReason := r, notify := true } := by
      rw [if_pos rfl, upOnResetStream_fire s r hsr hur]
      rfl
    rw [e]
    -- as ONE update of `s`
    unfold destroyStream at hdes ⊢
    dsimp only
    rcases hph with ⟨hfwd, hup⟩ | ⟨hupp, hfw, hurr, hrsome⟩
    · -- while forwarding (no response accepted yet, or accepted and still waiting to be picked up)
      exact { hdes with
        k7 := k7_intro hsr hnd, k17 := .vac hpre, k30 := .vac hn30, k15 := .vac hup, k26 := .vac hnr
        k18 := fun _ hf => (h.k18 hcl hf).imp id fun ⟨a, b, _, d⟩ => ⟨a, b, fun _ => Or.inl rfl, d⟩
        k23 := fun _ _ => hl0
        k27 := fun _ _ _ => Or.inl rfl
        k28 := fun _ _ => Or.inr (Or.inl rfl) }
    · -- the open stream of a streamed response is reset while the worker waits for the body
      exact { hdes with
        k7 := k7_intro hsr hnd, k17 := .vac hpre, k30 := .vac hn30, k18 := .vac hfw, k26 := .vac hnr, k27 := .vac hfw
        k15 := fun _ _ =>
          have ⟨_, b2, _, _, b5⟩ := h.k15 hcl hupp
          ⟨Or.inl hl0, b2, fun _ => (phase_excl_up s.phase hupp).2.2.2.2.2.2.2.2.elim
            (fun hq => Or.inr (Or.inr ⟨hq, hurr, hrsome⟩)) (Or.imp_right Or.inl), Or.inr hurr, b5⟩
        k23 := fun _ _ => hl0
        k28 := fun _ _ => Or.inl hurr }

theorem inv_upReset (c : Cfg) (ar aq : Nat) (s : S) (k : Nat) (r : Reason) (h : Inv c ar aq s) :
    Inv c ar aq (upResetL c s k r) := by
  unfold upResetL
  cases hk : s.streams[k]? with
  | none => exact h
  | some st =>
    refine of_unless h fun hcond => ?_
    simp only [Bool.or_eq_true, Bool.not_eq_true', not_or, Bool.not_eq_false] at hcond
    obtain ⟨⟨hreal, hlive⟩, hcounted⟩ := hcond
    have hlc : streamLiveCounted s k = true := by simp [streamLiveCounted, hk, hlive, hcounted]
    exact inv_reset_destroy c ar aq s k r st.listening h hlc

/-- the streamed body ended: the codec destroys the client stream -/
theorem inv_upEnd (c : Cfg) (ar aq : Nat) (s : S) (k : Nat) (h : Inv c ar aq s) : Inv c ar aq (upEndL c s k) := by
  unfold upEndL
  cases hk : s.streams[k]? with
  | none => exact h
  | some st =>
    refine of_unless h fun hcond => ?_
    simp only [Bool.or_eq_true, Bool.not_eq_true', not_or, Bool.not_eq_false] at hcond
    obtain ⟨⟨⟨hreal, hlive⟩, hcounted⟩, _⟩ := hcond
    have hlc : streamLiveCounted s k = true := by simp [streamLiveCounted, hk, hlive, hcounted]
    exact inv_reset_destroy c ar aq s k .StreamLocalReset false h hlc

/-- a response (or its head) is accepted — or dropped because the request is done or marked for a retry — on a state `g` whose response
slot is free: `g` is the state itself when the client stream stays open (a streamed response: more is to come), or the state with the
answered stream destroyed -/
theorem inv_accept (c : Cfg) (ar aq : Nat) (g : S) (k code : Nat) (d t : Bool) (h : Inv c ar aq g) (hnu : g.urr = false)
    (hcl : g.cleaned = false) (hpre : prePhase g.phase = false) (hup : upPhase g.phase = false) (hsr : g.setupRetry = false)
    (hnd : g.direct = false) (hnr : g.phase ≠ .Retry) (hn30 : ¬ (g.phase = .DownFilterAfterChooseHost ∨ g.phase = .DownRecvHeader))
    (hmore : liveCount g.streams = 0 ∨ (d || t) = true) (acc : Bool) (hacc : acc = !(processDone g || g.setupRetry)) :
    Inv c ar aq { g with
      statusVar := some code, urr := g.urr || acc, respCode := if acc then code else g.respCode,
      resp := if acc then some ⟨d, t⟩ else g.resp, notify := g.notify || acc,
      hTok := if acc then .att k else g.hTok, dTok := if acc then (if d then .att k else .none) else g.dTok,
      tTok := if acc then (if t then .att k else .none) else g.tTok } := by
  subst hacc
  exact { h with
    k7 := k7_intro hsr hnd
    k13 := .vac hcl, k33 := .vac hcl, k15 := .vac hup, k17 := .vac hpre, k26 := .vac hnr, k30 := .vac hn30
    k18 := by have := h.k18; simp only [K18, processDone] at this ⊢; grind
    k27 := fun _ _ hu => by
      by_cases hur : g.upReset = true
      · exact Or.inl hur
      · right
        simp only [Bool.not_eq_true] at hur
        simp [processDone, hnu, hur, hsr] at hu ⊢
        simp [hu, respHasMore]
        exact Or.inl (hmore.imp_right (by simp))
    k28 := by have := h.k28; simp only [K28, processDone] at this ⊢; grind }

theorem inv_upResp (c : Cfg) (ar aq : Nat) (s : S) (k code : Nat) (d t : Bool) (h : Inv c ar aq s) :
    Inv c ar aq (upResp c s k code d t) := by
  unfold upResp
  cases hk : s.streams[k]? with
  | none => exact h
  | some st =>
    refine of_unless h fun hcond => of_unless h fun hnu => ?_
    simp only [Bool.or_eq_true, Bool.not_eq_true', not_or, Bool.not_eq_false] at hcond
    simp only [Bool.not_eq_true] at hnu
    have hlc : streamLiveCounted s k = true := by simp [streamLiveCounted, hk, hcond.2, hcond.1.2]
    obtain ⟨hcl, _, hpre, hsr, hnd, hnr, hn30, _, hph⟩ := live_facts c ar aq s h (liveCounted_pos s k hlc)
    have hup := (hph.resolve_right fun x => by rw [hnu] at x; cases x.2.2.1).2
    -- the answered stream is destroyed: no client stream is live any more
    have hg := inv_reset_destroy c ar aq s k .StreamLocalReset false h hlc
    have hl0 := allDead_liveCount
      ((destroyStream_ledger c aq s k ⟨h.k10, h.k11, h.k14⟩).2 (streamLiveCounted_le s k hlc))
    exact inv_accept c ar aq (destroyStream c s k) k code d t hg hnu hcl hpre hup hsr hnd hnr hn30 (Or.inl hl0) _
      (by rw [hnu]; exact Bool.and_true _)

/-- the head of a streamed response is accepted (or dropped): the client stream stays open -/
theorem inv_upRespS (c : Cfg) (ar aq : Nat) (s : S) (k code : Nat) (d t : Bool) (h : Inv c ar aq s) :
    Inv c ar aq (upRespS c s k code d t) := by
  unfold upRespS
  by_cases hdt : (!d && !t) = true
  · rw [if_pos hdt]; exact inv_upResp c ar aq s k code d t h
  rw [if_neg hdt]
  have hmore : (d || t) = true := by cases d <;> cases t <;> simp at hdt ⊢
  cases hk : s.streams[k]? with
  | none => exact h
  | some st =>
    refine of_unless h fun hcond => of_unless h fun hnu => ?_
    simp only [Bool.or_eq_true, Bool.not_eq_true', not_or, Bool.not_eq_false] at hcond
    simp only [Bool.not_eq_true] at hnu
    have hlc : streamLiveCounted s k = true := by simp [streamLiveCounted, hk, hcond.2, hcond.1.2]
    obtain ⟨hcl, _, hpre, hsr, hnd, hnr, hn30, _, hph⟩ := live_facts c ar aq s h (liveCounted_pos s k hlc)
    have hup := (hph.resolve_right fun x => by rw [hnu] at x; cases x.2.2.1).2
    exact inv_accept c ar aq s k code d t h hnu hcl hpre hup hsr hnd hnr hn30 (Or.inr hmore) _ rfl

theorem timer_facts (c : Cfg) (ar aq : Nat) (s : S) (h : Inv c ar aq s) (ht : s.perTry = true ∨ s.global = true)
    (hurr : s.urr = false) :
    s.cleaned = false ∧ c.oneway = false ∧ fwdPhase s.phase = true ∧ prePhase s.phase = false ∧ upPhase s.phase = false ∧
    s.setupRetry = false ∧ s.respStarted = false := by
  have hc : s.cleaned = false := by
    cases hcl : s.cleaned with
    | false => rfl
    | true => have := h.k13 hcl; rcases ht with ht | ht <;> simp [this] at ht
  have ho : c.oneway = false := by
    cases hw : c.oneway with
    | false => rfl
    | true => have := h.k21 hw; rcases ht with ht | ht <;> simp [this] at ht
  have hf : fwdPhase s.phase = true := by
    rcases phase_cases s.phase with hp | hp | hp | hp
    · have := h.k17 hc hp; rcases ht with ht | ht <;> simp [this] at ht
    · exact hp
    · have := (h.k15 hc hp).2.2.2.1
      rcases this with ⟨a, b⟩ | a
      · rcases ht with ht | ht <;> simp [a, b] at ht
      · simp [hurr] at a
    · exact absurd hp (h.k19 hc)
  obtain ⟨hpre, hup, _⟩ := phase_excl s.phase hf
  exact ⟨hc, ho, hf, hpre, hup, (h.k7 hc).1, h.k16 hc hup⟩

/-- stopping the per-try timer keeps the invariant: every clause that mentions the timer asks for it to be off -/
theorem inv_perTry_off {c : Cfg} {ar aq : Nat} {s : S} (h : Inv c ar aq s) : Inv c ar aq { s with perTry := false } :=
  { h with
    k7 := fun hcl => ⟨(h.k7 hcl).1, fun hd =>
      have ⟨a, b, c, d, e, f, _, g⟩ := (h.k7 hcl).2 hd; ⟨a, b, c, d, e, f, rfl, g⟩⟩
    k13 := fun hcl => have ⟨a, b, _, d⟩ := h.k13 hcl; ⟨a, b, rfl, d⟩
    k15 := fun hcl hp =>
      have ⟨a, b, c, d, e⟩ := h.k15 hcl hp; ⟨a, b, c, d.imp (fun x => ⟨rfl, x.2⟩) id, e⟩
    k17 := fun hcl hp => have ⟨a, b, c, d, e, _, g⟩ := h.k17 hcl hp; ⟨a, b, c, d, e, rfl, g⟩
    k21 := fun ho => ⟨rfl, (h.k21 ho).2⟩
    k26 := fun hcl hp => have ⟨_, b⟩ := h.k26 hcl hp; ⟨rfl, b⟩
    k30 := fun hcl hp => have ⟨a, b, _, d⟩ := h.k30 hcl hp; ⟨a, b, rfl, d⟩ }

/-- the global timer fires and records the expiry while the response slot is taken: every clause that mentions the armed timer
accepts the recorded expiry in its place -/
theorem inv_global_expired {c : Cfg} {ar aq : Nat} {s : S} (h : Inv c ar aq s) (hg : s.global = true) (hu : s.urr = true) :
    Inv c ar aq { s with global := false, globalExpired := true } :=
  { h with
    k7 := fun hcl => ⟨(h.k7 hcl).1, fun hd =>
      have ⟨a, b, c, d, e, f, g, _⟩ := (h.k7 hcl).2 hd; ⟨a, b, c, d, e, f, g, rfl⟩⟩
    k13 := fun hcl => by rw [(h.k13 hcl).2.2.2] at hg; cases hg
    k15 := fun hcl hp =>
      have ⟨a, b, c, _, e⟩ := h.k15 hcl hp; ⟨a, b, c, Or.inr hu, e⟩
    k17 := fun hcl hp => by rw [(h.k17 hcl hp).2.2.2.2.2.2.1] at hg; cases hg
    k18 := fun hcl hp => (h.k18 hcl hp).imp id fun ⟨a, b, c, _, _, f⟩ =>
      ⟨a, b, fun x => (c x).imp id fun y => ⟨y.1, rfl, y.2.2⟩, fun _ => Or.inl hu, fun _ _ => Or.inr (Or.inl rfl), f⟩
    k21 := fun ho => ⟨(h.k21 ho).1, rfl⟩
    k24 := fun _ _ _ _ => Or.inr (Or.inl rfl)
    k26 := fun hcl hp =>
      have ⟨a, b, _, d⟩ := h.k26 hcl hp; ⟨a, fun x => ⟨rfl, (b x).2⟩, fun _ => Or.inr (Or.inr rfl), d⟩
    k27 := fun hcl hp hu => (h.k27 hcl hp hu).imp id (Or.imp id fun x => ⟨x.1, rfl⟩)
    k30 := fun hcl hp => by rw [(h.k30 hcl hp).2.2.2.1] at hg; cases hg }

/-- a timer callback wins the response slot: the upstream request is reset (streams, ledger and trace as `resetUpstream`
leaves them) and an upstream reset is raised on it.  Either timer: the per-try timer stops (`pt`), the global timer stops and
records its expiry (`gt`, `ge`). -/
theorem inv_timeout_reset {c : Cfg} {ar aq : Nat} {s : S} (h : Inv c ar aq s) (ht : s.perTry = true ∨ s.global = true)
    (hurr : s.urr = false) (pt gt ge : Bool) (fl : Nat) (sts : List Stream) (rq ua : Int) (t : List Ev) (rr : Reason)
    (hpt : pt = true → s.perTry = true)
    (hge : ge = true ∨ (gt = s.global ∧ ge = s.globalExpired ∧ s.phase ≠ .Retry))
    (hled : LedgerOk c aq { s with streams := sts, requests := rq, upActive := ua }) (hdead : allDead sts = true)
    (h22 : K22 c { s with streams := sts }) (ht1 : snd t = snd s.trace) (ht2 : nLog t = nLog s.trace) :
    Inv c ar aq { s with perTry := pt, global := gt, globalExpired := ge, urr := true, flags := fl, streams := sts,
                         requests := rq, upActive := ua, trace := t, upReset := true, resetReason := rr,
                         notify := s.notify || !s.upReset } := by
  obtain ⟨hcl, how, hfwd, hpre, hup, hsr, hrst⟩ := timer_facts c ar aq s h ht hurr
  have hnd : s.direct = false := not_direct_of_timer h.k7 hcl ht
  have h18 : _ ∧ _ := (h.k18 hcl hfwd).resolve_left (fun x => by rw [how] at x; cases x.1)
  obtain ⟨hups, hrs, hwake, _, hgl, hwait⟩ := h18
  have hnt : (s.notify || !s.upReset) = true := by
    cases hu : s.upReset with
    | false => simp
    | true =>
      rcases hwake (Or.inr (Or.inl hu)) with h1 | h1
      · simp [h1]
      · rw [hu] at h1; cases h1.2.2.1
  have htm : ∀ x : Bool, (x = true → s.global = true ∨ s.globalExpired = true ∨ s.direct = true) →
      x = true → gt = true ∨ ge = true ∨ s.direct = true := by
    intro x hx hxt
    rcases hge with hge | ⟨e1, e2, _⟩
    · exact Or.inr (Or.inl hge)
    · rw [e1, e2]; exact hx hxt
  have hl0 := allDead_liveCount hdead
  -- the client streams die (`Live.dead`); the rest is what the callback writes
  exact { (h.live (by rw [h.k0, hcl]; rfl)).dead sts rq ua t hled hl0 h22 ht1 ht2, h with
    k7 := k7_intro hsr hnd
    k13 := .vac hcl, k33 := .vac hcl, k15 := .vac hup, k17 := .vac hpre, k21 := .vac how
    k18 := fun _ _ => Or.inr ⟨hups, hrs, fun _ => Or.inl hnt, fun _ => Or.inl rfl, fun _ hq => htm _ (hgl how) hq, hwait⟩
    k23 := fun _ _ => hl0
    k24 := fun _ _ hq hr => htm _ (fun x => h.k24 hcl how x hr) hq
    k26 := fun _ hp => by
      have ⟨a, _, _, d⟩ := h.k26 hcl hp
      have hpf : pt = false := by
        cases hh : pt with
        | false => rfl
        | true => rw [hpt hh] at a; cases a
      exact ⟨hpf, fun _ => ⟨hge.elim id (fun x => absurd hp x.2.2), rfl⟩, fun _ => Or.inl rfl, d⟩
    k27 := fun _ _ _ => Or.inl rfl
    k28 := fun _ _ => Or.inr (Or.inl rfl)
    k30 := .vac fun hp => by
      have := h.k30 hcl hp
      rcases ht with ht | ht
      · rw [this.2.2.1] at ht; cases ht
      · rw [this.2.2.2.1] at ht; cases ht }

theorem inv_perTryFire (c : Cfg) (ar aq : Nat) (s : S) (h : Inv c ar aq s) : Inv c ar aq (perTryFire c s) := by
  unfold perTryFire
  refine of_unless h fun hpt => ?_
  have hpt : s.perTry = true := by simpa using hpt
  -- the stream is cleaned or the response slot is taken: only the timer stops
  refine of_unless (inv_perTry_off h) fun hcl => of_unless (inv_perTry_off h) fun hu => ?_
  dsimp only
  obtain ⟨_, _, _, _, _, hsr, hrst⟩ := timer_facts c ar aq s h (Or.inl hpt) (by simpa using hu)
  rw [if_pos (by rw [hrst]; rfl)]
  unfold orFlag
  obtain ⟨sts, rq, ua, t, e, hled, hdead, h22, ht1, ht2⟩ :=
    resetUpstream_spec c aq { s with perTry := false, urr := true } ⟨h.k10, h.k11, h.k14⟩ h.k22
  rw [e, upOnResetStream_unmarked]
  · exact inv_timeout_reset h (Or.inl hpt) (by simpa using hu) false s.global s.globalExpired _ sts rq ua t _
      (fun x => by cases x) (Or.inr ⟨rfl, rfl, fun hp => by rw [(h.k26 (by simpa using hcl) hp).1] at hpt; cases hpt⟩)
      hled hdead h22 ht1 ht2
  · exact hsr

theorem inv_globalFire (c : Cfg) (ar aq : Nat) (s : S) (h : Inv c ar aq s) : Inv c ar aq (globalFire c s) := by
  unfold globalFire
  refine of_unless h fun hgt => ?_
  have hgt : s.global = true := by simpa using hgt
  have hcl : s.cleaned = false := by
    cases hc : s.cleaned with
    | false => rfl
    | true => rw [(h.k13 hc).2.2.2] at hgt; cases hgt
  simp only [show globalCallbackRecordsExpiry = true from by decide, if_true]
  rw [if_neg (by rw [hcl]; decide)]
  by_cases hu : s.urr = true
  · rw [if_pos hu]; exact inv_global_expired h hgt hu
  rw [if_neg hu]
  obtain ⟨_, how, hfwd, _, _, hsr, _⟩ := timer_facts c ar aq s h (Or.inr hgt) (by simpa using hu)
  rw [if_pos (fwd_two_way h hcl hfwd how).1]
  obtain ⟨sts, rq, ua, t, e, hled, hdead, h22, ht1, ht2⟩ :=
    resetUpstream_spec c aq { s with global := false, globalExpired := true, urr := true } ⟨h.k10, h.k11, h.k14⟩ h.k22
  rw [e, upOnResetStream_unmarked]
  · exact inv_timeout_reset h (Or.inr hgt) (by simpa using hu) s.perTry false true s.flags sts rq ua t _
      (fun x => x) (Or.inl rfl) hled hdead h22 ht1 ht2
  · exact hsr

/-- the worker is parked and only an event can wake it: which events are still possible -/
theorem blocked_facts (c : Cfg) (ar aq : Nat) (s : S) (h : Inv c ar aq s) (hb : blocked s = true) :
    s.cleaned = false ∧ c.oneway = false ∧ s.global = true ∧ s.urr = false ∧ s.upReset = false ∧ s.downReset = false ∧
    s.globalExpired = false ∧ s.reqSent = true ∧ s.respStarted = false ∧ s.rs.isSome = true ∧ s.up.isSome = true := by
  simp only [blocked, Bool.and_eq_true, Bool.not_eq_true', beq_iff_eq] at hb
  obtain ⟨⟨hrun, hp⟩, hn⟩ := hb
  have hcl := inv_not_cleaned h hrun
  have hfwd : fwdPhase s.phase = true := by rw [hp]; rfl
  have how := two_way h hcl (Or.inr (Or.inl hp))
  rcases h.k18 hcl hfwd with ⟨ho, _, _⟩ | hm
  · rw [how] at ho; cases ho
  · obtain ⟨hup, hrs, hwake, hexp, hgl, hw⟩ := hm
    -- nothing woke the worker, so nothing is pending
    have hnone : ¬ (s.urr = true ∨ s.upReset = true ∨ s.downReset = true) := fun hh => by
      rcases hwake hh with h1 | h1
      · rw [hn] at h1; cases h1
      · rw [hp] at h1; exact absurd h1.1 (by decide)
    have hnf : s.urr = false ∧ s.upReset = false ∧ s.downReset = false :=
      ⟨eq_false_of_ne_true fun hh => hnone (Or.inl hh), eq_false_of_ne_true fun hh => hnone (Or.inr (Or.inl hh)),
        eq_false_of_ne_true fun hh => hnone (Or.inr (Or.inr hh))⟩
    have hge : s.globalExpired = false := by
      cases hh : s.globalExpired with
      | false => rfl
      | true =>
        rcases hexp hh with h1 | h1
        · rw [hnf.1] at h1; cases h1
        · rw [hp] at h1; exact absurd h1 (by decide)
    have hrq : s.reqSent = true := by
      rcases hw hp with hh | hh
      · exact hh
      · rw [how] at hh; cases hh
    have hg : s.global = true := by
      rcases or3_nd (hgl how hrq) (not_direct h.k7 hcl fun t => Bool.noConfusion (hn.symm.trans t.2.1)) with hh | hh
      · exact hh
      · rw [hge] at hh; cases hh
    exact ⟨hcl, how, hg, hnf.1, hnf.2.1, hnf.2.2, hge, hrq, h.k16 hcl (by rw [hp]; rfl), hrs, hup⟩

/-- an accepted asynchronous `TerminateStream` while the worker is parked or asleep in `doRetry`'s back-off -/
theorem inv_terminateAcc (c : Cfg) (ar aq : Nat) (s : S) (code : Nat) (h : Inv c ar aq s)
    (hp : s.phase = .WaitNotify ∨ s.phase = .Retry) (hcl : s.cleaned = false) (hur : s.upReset = false) :
    Inv c ar aq (terminateAcc c s code) := by
  unfold terminateAcc
  have hfwd : fwdPhase s.phase = true := by rcases hp with hp | hp <;> (rw [hp]; rfl)
  obtain ⟨hpre, hup, _⟩ := phase_excl s.phase hfwd
  have how := two_way h hcl (Or.inr hp)
  have hsr : s.setupRetry = false := (h.k7 hcl).1
  have hrst : s.respStarted = false := h.k16 hcl hup
  have h18 := h.k18 hcl hfwd
  simp only [how, Bool.false_eq_true, false_and, false_or] at h18
  obtain ⟨sts, rq, ua, t, e, hled, hdead, h22, ht1, ht2⟩ := resetUpstream_spec c aq s ⟨h.k10, h.k11, h.k14⟩ h.k22
  rw [e]
  have hl0 := allDead_liveCount hdead
  exact { (h.live (by rw [h.k0, hcl]; rfl)).dead sts rq ua t hled hl0 h22 ht1 ht2, h with
    k7 := fun _ => ⟨hsr, fun _ => ⟨hp, rfl, rfl, hur, rfl, hl0, rfl, rfl⟩⟩
    k13 := .vac hcl, k33 := .vac hcl, k15 := .vac hup, k17 := .vac hpre, k21 := .vac how
    k30 := .vac fun hh => by rcases hp with hp | hp <;> simp [hp] at hh
    k18 := fun _ _ => Or.inr ⟨h18.1, h18.2.1, fun _ => Or.inl rfl, fun _ => Or.inl rfl, fun _ _ => Or.inr (Or.inr rfl),
      fun hw => (h18.2.2.2.2.2 hw).imp id False.elim⟩
    k23 := fun _ _ => hl0
    k24 := fun _ _ _ _ => Or.inr (Or.inr rfl)
    k26 := fun _ hq => ⟨rfl, fun hu => Bool.noConfusion (hur.symm.trans hu), fun _ => Or.inr (Or.inl rfl), (h.k26 hcl hq).2.2.2⟩
    k27 := fun _ _ _ => Or.inr (Or.inl ⟨rfl, Or.inl hl0⟩)
    k28 := fun _ _ => Or.inl rfl }

theorem inv_terminate (c : Cfg) (ar aq : Nat) (s : S) (code : Nat) (h : Inv c ar aq s) :
    Inv c ar aq (terminateL c s code) := by
  rw [terminateL_eq]
  refine of_unless h fun hpk => of_unless h fun hresp => of_unless h fun hcl => of_unless h fun hurr => ?_
  simp only [Bool.not_eq_true] at hresp hcl hurr
  simp only [asleep, Bool.not_eq_true', Bool.not_eq_false, Bool.or_eq_true] at hpk
  rcases hpk with hpk | hpk
  · -- parked in waitNotify, nothing signalled: no upstream reset is pending
    have hur := (blocked_facts c ar aq s h hpk).2.2.2.2.1
    simp only [parked, Bool.and_eq_true, beq_iff_eq] at hpk
    exact inv_terminateAcc c ar aq s code h (Or.inl hpk.1.2) hcl hur
  · -- asleep in doRetry's back-off
    simp only [backoff, Bool.and_eq_true, beq_iff_eq] at hpk
    have hur : s.upReset = false := by
      cases hh : s.upReset with
      | false => rfl
      | true => have := ((h.k26 hcl hpk.2).2.1 hh).2; rw [hurr] at this; cases this
    exact inv_terminateAcc c ar aq s code h (Or.inr hpk.2) hcl hur

/-- the global timer callback inside `setupRetry`: timer fired, expiry recorded, the response slot taken or not -/
theorem inv_gtInSetup (c : Cfg) (ar aq : Nat) (s : S) (b : Bool) (h : Inv c ar aq s) : Inv c ar aq (gtInSetup s b) := by
  unfold gtInSetup
  refine of_unless h fun hcond => ?_
  simp only [Bool.not_eq_true', Bool.not_eq_false, Bool.and_eq_true] at hcond
  obtain ⟨hb, hg⟩ := hcond
  simp only [backoff, Bool.and_eq_true, beq_iff_eq] at hb
  obtain ⟨hrun, hp⟩ := hb
  have hcl := inv_not_cleaned h hrun
  have hfwd : fwdPhase s.phase = true := by rw [hp]; rfl
  obtain ⟨hpre, hup, _⟩ := phase_excl s.phase hfwd
  have how := two_way h hcl (Or.inr (Or.inr hp))
  have hnd : s.direct = false := not_direct_of_timer h.k7 hcl (Or.inr hg)
  have hrec : globalCallbackRecordsExpiry = true := by decide
  simp only [hrec, Bool.or_true]
  have h18 := h.k18 hcl hfwd
  simp only [how, Bool.false_eq_true, false_and, false_or] at h18
  have h26 := h.k26 hcl hp
  exact { h with
    k7 := k7_intro (h.k7 hcl).1 hnd
    k13 := .vac hcl, k15 := .vac hup, k17 := .vac hpre, k21 := .vac how
    k30 := .vac fun hh => by rcases hh with hh | hh <;> (rw [hp] at hh; cases hh)
    k18 := fun _ _ => by
      right
      refine ⟨h18.1, h18.2.1, ?_, fun _ => Or.inr hp, fun _ _ => Or.inr (Or.inl rfl), fun hw => absurd hw (by simp [hp])⟩
      intro hh
      by_cases hx : s.urr = true ∨ s.upReset = true ∨ s.downReset = true
      · rcases h18.2.2.1 hx with h1 | h1
        · exact Or.inl h1
        · exact Or.inr ⟨hp, rfl, h1.2.2.1, h1.2.2.2⟩
      · simp only [not_or, Bool.not_eq_true] at hx
        exact Or.inr ⟨hp, rfl, hx.2.1, hx.2.2⟩
    k24 := fun _ _ _ _ => Or.inr (Or.inl rfl)
    k26 := fun _ _ => by
      refine ⟨h26.1, fun hu => ⟨rfl, ?_⟩, fun _ => Or.inr (Or.inr rfl), h26.2.2.2⟩
      have := (h26.2.1 hu).2
      simp [this]
    k27 := fun _ _ _ => Or.inr (Or.inr ⟨hp, rfl⟩)
    k28 := fun _ hn => by
      rcases h.k28 hcl hn with h1 | h1 | h1
      · left; simp [h1]
      · right; left; exact h1
      · right; right; exact h1 }

/-- **late response during the back-off is ignored**: in every state satisfying the invariant the label is a no-op — while
the worker sleeps in `doRetry` the stream's current upstream request is the fresh one `processError` installed (K26), so
the frame of the attempt that was given up finds no current request -/
theorem lateBackoff_noop (c : Cfg) (ar aq : Nat) (s : S) (k : Nat) (d t : Bool) (h : Inv c ar aq s) :
    lateBackoff s k d t = s := by
  unfold lateBackoff
  by_cases hb : backoff s = true
  · rw [if_pos hb]
    simp only [backoff, Bool.and_eq_true, beq_iff_eq] at hb
    have hcl := inv_not_cleaned h hb.1
    have hup := (h.k26 hcl hb.2).2.2.2
    unfold lateRecv
    rw [if_pos (by simp [curStream, hup])]
  · rw [if_neg hb]

theorem inv_async (c : Cfg) (ar aq : Nat) (s : S) (l : Label) (hl : l ≠ .work) (h : Inv c ar aq s) :
    Inv c ar aq (step c s l) := by
  cases l with
  | work => exact absurd rfl hl
  | upResp k code d t => exact inv_upResp c ar aq s k code d t h
  | upReset k r => exact inv_upReset c ar aq s k r h
  | upRespS k code d t => exact inv_upRespS c ar aq s k code d t h
  | upEnd k => exact inv_upEnd c ar aq s k h
  | poolFail f => exact inv_poolFail c ar aq s f h
  | hostsGone => exact inv_hostsGone c ar aq s h
  | perTryFire => exact inv_perTryFire c ar aq s h
  | globalFire => exact inv_globalFire c ar aq s h
  | downReset r => exact inv_downReset c ar aq s r h
  | connClose => exact inv_connClose c ar aq s h
  | terminate code => exact inv_terminate c ar aq s code h
  | terminateStale g code =>
    simp only [step]
    rw [terminateStale_eq]
    split
    · exact inv_terminate c ar aq s code h
    · exact h
  | terminateRaced code k d t =>
    simp only [step]
    rw [terminateRaced_eq]
    exact inv_terminate c ar aq s code h
  | lateResp k d t =>
    simp only [step]
    rw [lateBackoff_noop c ar aq s k d t h]
    exact h
  | gtInSetup b => exact inv_gtInSetup c ar aq s b h

end MosnVerif.Model.Downstream
