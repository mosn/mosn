import MosnVerif.Lemmas.Downstream.Window10
import MosnVerif.Lemmas.Downstream.Parked
/-!
`TerminateStream` landing INSIDE the retry set-up (between the retry decision and `processError`): the regenerated
`setupRetry` with the regenerated `TerminateStream` interleaved at the worker's two yield sites, then the regenerated `processError`.
-/
namespace MosnVerif.Model.Downstream
open MosnVerif.Gen.ProxyPhase MosnVerif.Gen.ProxyReason

/-- `TerminateStream(code)` of a handler of this request as the REGENERATED program, wherever the worker is (the label
`terminate` of the machine is this call delivered while the worker is asleep) -/
def termCall (c : Cfg) (code : Nat) (x : S) : S := (Gen.ProxyTerminate.terminateStream (termOps c c.gen code) id x).1

theorem termCall_eq (c : Cfg) (code : Nat) (x : S) :
    termCall c code x = if x.resp.isSome then x else if x.cleaned then x else if x.urr then x else terminateAcc c x code := by
  unfold termCall
  rw [terminateStream_eq, id, term_acc_eq, beq_self_eq_true]
  rfl

theorem reenter_mark (y : S) (p : Phase) : (reenter y p).setupRetry = y.setupRetry := by
  obtain ⟨_, _, _, h⟩ := reenter_fields y p
  rw [h]

theorem finishOf_mark (r : S × Option Phase) : (finishOf r).setupRetry = r.1.setupRetry := by
  obtain ⟨y, o⟩ := r
  cases o
  · rfl
  · exact reenter_mark y _

theorem terminateAcc_frame (c : Cfg) (x : S) (code : Nat) :
    (terminateAcc c x code).direct = true ∧ (terminateAcc c x code).downReset = x.downReset ∧
    (terminateAcc c x code).up = x.up := by
  simp [terminateAcc]

end MosnVerif.Model.Downstream
