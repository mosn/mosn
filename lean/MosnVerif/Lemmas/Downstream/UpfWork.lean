import MosnVerif.Lemmas.Downstream.Finish
/-! frame facts used by the `UpFilter` step of the worker when its `processError` handles an upstream reset -/
namespace MosnVerif.Model.Downstream
open MosnVerif.Gen.ProxyPhase MosnVerif.Gen.ProxyReason MosnVerif.Gen.ProxyRetry

theorem onUpstreamResetFinish_phase (c : Cfg) (s : S) (r : Reason) : (onUpstreamResetFinish c s r).phase = s.phase := by
  unfold onUpstreamResetFinish resetDownstream
  simp only [apply_ite S.phase, dsOnResetStream, sendHijack, orFlag, cleanUp_phase, ite_self]

theorem onUpstreamReset_phase (c : Cfg) (s : S) : (onUpstreamReset c s).phase = s.phase := by
  rw [onUpstreamReset_eq]
  split
  · rfl
  · rw [onUpstreamResetFinish_phase]
    split <;> rfl

theorem peTail_keeps_phase (c : Cfg) (g : S) (e : Bool) : (peTail c g e).1.phase = g.phase := by
  unfold peTail abandonRetry dsResetStream cleanStream
  simp only [apply_ite (fun z : S × Option Phase => z.1.phase), apply_ite S.phase, cleanBody_phase, ite_self]

/-- `processError` never moves the phase itself: the phase it hands back is taken by the loop of `OnReceive` -/
theorem processError_keeps_phase (c : Cfg) (s : S) : (processError c s).1.phase = s.phase := by
  rw [processError_spec]
  simp only [apply_ite (fun z : S × Option Phase => z.1.phase), peTail_keeps_phase, onUpstreamReset_phase, ite_self]

/-- when `processError` finds nothing that ends the pass, the worker is still in the phase it was in -/
theorem finishOf_pe_none_phase (c : Cfg) (s s' : S) (h : processError c s = (s', none)) : s'.phase = s.phase := by
  have := processError_keeps_phase c s
  rw [h] at this
  exact this

/-- the fake upstream request the `UpFilter` case installs when none exists (`maybe direct response`) -/
theorem inv_fake_up (c : Cfg) (ar aq : Nat) (x : S) (h : Inv c ar aq x) (hupp : upPhase x.phase = true) :
    Inv c ar aq { x with up := (if x.up.isNone then some none else x.up) } := by
  obtain ⟨hpre, hfw, _, hnr, _, _⟩ := phase_excl_up x.phase hupp
  exact { h with
    k14 := by
      have k14 := h.k14
      rw [K14, streamsOk_iff] at k14 ⊢
      refine ⟨k14.1, ?_, ?_⟩
      · intro st hst hl
        have := k14.2.1 st hst hl
        simp only [this.1]
        exact ⟨by simp, this.2⟩
      · intro k hk
        apply k14.2.2 k
        cases hu : x.up with
        | none => simp [hu] at hk
        | some o => simpa [hu] using hk
    k17 := .vac hpre, k18 := .vac hfw, k26 := .vac hnr
    k31 := fun hh => by
      have := h.k31 hh
      cases hu : x.up with
      | none => simp [hu] at this
      | some o => simp [hu] }

end MosnVerif.Model.Downstream
