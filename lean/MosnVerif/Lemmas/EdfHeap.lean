import MosnVerif.Model.EdfHeap
import MosnVerif.Lemmas.EDF
/-! The array heap of `edfheap.go` keeps the heap order: `Push`, and `Fix(0)` after any change of the root's key,
restore it; in an ordered heap `Peek` is a minimum of the order. Generic in the order; instantiated with the regenerated
`edfEntryLess`. Core Lean only. -/
namespace MosnVerif.Model.EdfHeap

variable {α : Type} (lt : α → α → Bool)

/-- what the proofs need of the order: asymmetry and transitivity of `a ≤ b :⇔ ¬ b < a`. -/
structure WeakOrder : Prop where
  asymm : ∀ a b, lt a b = true → lt b a = false
  le_trans : ∀ a b c, lt b a = false → lt c b = false → lt c a = false

/-- heap order on the first `n` cells: no cell is less than its parent. -/
def Ordered (m : Nat → α) (n : Nat) : Prop := ∀ k, 0 < k → k < n → lt (m k) (m ((k - 1) / 2)) = false

/-- same contents on the first `n` cells: `v'` is `v` rearranged by a bijection of `[0, n)`; untouched beyond. -/
def SameSet (v v' : Nat → α) (n : Nat) : Prop :=
  ∃ σ τ : Nat → Nat, (∀ k, k < n → σ k < n) ∧ (∀ k, k < n → τ k < n) ∧ (∀ k, k < n → τ (σ k) = k) ∧
    (∀ k, k < n → σ (τ k) = k) ∧ (∀ k, k < n → v' k = v (σ k)) ∧ ∀ k, n ≤ k → v' k = v k

theorem SameSet.refl (v : Nat → α) (n : Nat) : SameSet v v n :=
  ⟨id, id, fun _ h => h, fun _ h => h, fun _ _ => rfl, fun _ _ => rfl, fun _ _ => rfl, fun _ _ => rfl⟩

theorem SameSet.trans {v1 v2 v3 : Nat → α} {n : Nat} (h1 : SameSet v1 v2 n) (h2 : SameSet v2 v3 n) : SameSet v1 v3 n := by
  obtain ⟨s1, t1, a1, b1, c1, d1, e1, f1⟩ := h1
  obtain ⟨s2, t2, a2, b2, c2, d2, e2, f2⟩ := h2
  refine ⟨fun k => s1 (s2 k), fun k => t2 (t1 k), ?_, ?_, ?_, ?_, ?_, ?_⟩
  · intro k hk; exact a1 _ (a2 k hk)
  · intro k hk; exact b2 _ (b1 k hk)
  · intro k hk; simp only; rw [c1 _ (a2 k hk), c2 k hk]
  · intro k hk; simp only; rw [d2 _ (b1 k hk), d1 k hk]
  · intro k hk; rw [e2 k hk, e1 _ (a2 k hk)]
  · intro k hk; rw [f2 k hk, f1 k hk]

/-- same contents: the cell lists are permutations of each other. -/
theorem SameSet.perm {v v' : Nat → α} {n : Nat} (h : SameSet v v' n) :
    ((List.range n).map v').Perm ((List.range n).map v) := by
  obtain ⟨s, t, a, b, c, d, e1, _⟩ := h
  have e : (List.range n).map v' = ((List.range n).map s).map v := by
    rw [List.map_map]
    exact List.map_congr_left fun k hk => e1 k (List.mem_range.mp hk)
  rw [e]
  refine List.Perm.map v ((List.perm_ext_iff_of_nodup ?_ List.nodup_range).mpr fun k => ?_)
  · rw [List.nodup_iff_pairwise_ne, List.pairwise_map]
    refine List.Pairwise.imp_of_mem (fun {x y} hx hy hlt he => ?_) List.pairwise_lt_range
    have := c x (List.mem_range.mp hx)
    rw [he, c y (List.mem_range.mp hy)] at this
    exact Nat.ne_of_lt hlt this.symm
  · simp only [List.mem_map, List.mem_range]
    exact ⟨fun ⟨x, hx, hk⟩ => hk ▸ a x hx, fun hk => ⟨t k, b k hk, d k hk⟩⟩

theorem SameSet.mem_iff {v v' : Nat → α} {n : Nat} (h : SameSet v v' n) (e : α) :
    (∃ k, k < n ∧ v' k = e) ↔ (∃ k, k < n ∧ v k = e) := by
  simpa only [List.mem_map, List.mem_range] using h.perm.mem_iff (a := e)

theorem upd_eq (m : Nat → α) (i : Nat) (a : α) : upd m i a i = a := if_pos rfl

theorem upd_ne (m : Nat → α) {i k : Nat} (a : α) (h : k ≠ i) : upd m i a k = m k := if_neg h

theorem upd_self (m : Nat → α) (i : Nat) : upd m i (m i) = m := by
  funext k
  by_cases h : k = i
  · rw [h, upd_eq]
  · rw [upd_ne m _ h]

theorem upd_upd (m : Nat → α) (i : Nat) (a b : α) : upd (upd m i a) i b = upd m i b := by
  funext k
  by_cases h : k = i
  · rw [h, upd_eq, upd_eq]
  · rw [upd_ne _ b h, upd_ne _ b h, upd_ne _ a h]

theorem cells_upd_root (m : Nat → α) (n : Nat) (e : α) :
    (List.range (n + 1)).map (upd m 0 e) = e :: ((List.range (n + 1)).map m).tail := by
  rw [List.range_succ_eq_map, List.map_cons, List.map_cons, upd_eq, List.tail_cons, List.map_map, List.map_map]
  rfl

theorem cells_upd_last (m : Nat → α) (n : Nat) (e : α) :
    (List.range (n + 1)).map (upd m n e) = (List.range n).map m ++ [e] := by
  rw [List.range_succ, List.map_append, List.map_cons, List.map_nil, upd_eq]
  congr 1
  exact List.map_congr_left fun k hk => upd_ne m e (Nat.ne_of_lt (List.mem_range.mp hk))

def swap (v : Nat → α) (i c : Nat) : Nat → α := upd (upd v i (v c)) c (v i)

theorem swap_snd (v : Nat → α) (i c : Nat) : swap v i c c = v i := upd_eq _ _ _

theorem swap_fst (v : Nat → α) (i c : Nat) : swap v i c i = v c := by
  by_cases h : i = c
  · rw [h, swap_snd]
  · unfold swap; rw [upd_ne _ _ h, upd_eq]

theorem swap_other (v : Nat → α) {i c k : Nat} (hi : k ≠ i) (hc : k ≠ c) : swap v i c k = v k := by
  unfold swap; rw [upd_ne _ _ hc, upd_ne _ _ hi]

/-- one iteration of either sift loop (move the cell `c` into the hole `i`, the hole is now at `c`) exchanges the two
cells of the filled array. -/
theorem upd_move (m : Nat → α) (e : α) {i c : Nat} (h : c ≠ i) :
    upd (upd m i (m c)) c e = swap (upd m i e) i c := by
  unfold swap; rw [upd_eq, upd_ne _ _ h, upd_upd]

def transp (i c k : Nat) : Nat := if k = c then i else if k = i then c else k

theorem transp_transp (i c k : Nat) : transp i c (transp i c k) = k := by
  unfold transp; grind

theorem swap_eq_transp (v : Nat → α) (i c k : Nat) : swap v i c k = v (transp i c k) := by
  unfold transp
  split
  · rename_i h; rw [h, swap_snd]
  · rename_i hc
    split
    · rename_i h; rw [h, swap_fst]
    · rename_i hi; exact swap_other v hi hc

theorem sameSet_swap (v : Nat → α) (n i c : Nat) (hi : i < n) (hc : c < n) : SameSet v (swap v i c) n := by
  have lt_n : ∀ k, k < n → transp i c k < n := by
    intro k hk; unfold transp; split
    · exact hi
    · split
      · exact hc
      · exact hk
  refine ⟨transp i c, transp i c, lt_n, lt_n, fun k _ => transp_transp i c k, fun k _ => transp_transp i c k,
    fun k _ => swap_eq_transp v i c k, fun k hk => swap_other v (by omega) (by omega)⟩

/-- heap order around a hole at `i` that is to move DOWN: every edge whose upper end is not `i` is ordered, and no child
of `i` is less than the parent of `i`. -/
def HoleDown (m : Nat → α) (i n : Nat) : Prop :=
  (∀ k, 0 < k → k < n → (k - 1) / 2 ≠ i → lt (m k) (m ((k - 1) / 2)) = false) ∧
  ∀ k, 0 < k → k < n → (k - 1) / 2 = i → 0 < i → lt (m k) (m ((i - 1) / 2)) = false

/-- … that is to move UP: every edge whose lower end is not `i` is ordered, and the same about the children of `i`. -/
def HoleUp (m : Nat → α) (i n : Nat) : Prop :=
  (∀ k, 0 < k → k < n → k ≠ i → lt (m k) (m ((k - 1) / 2)) = false) ∧
  ∀ k, 0 < k → k < n → (k - 1) / 2 = i → 0 < i → lt (m k) (m ((i - 1) / 2)) = false

theorem parent_lt {k : Nat} (h : 0 < k) : (k - 1) / 2 < k :=
  Nat.lt_of_le_of_lt (Nat.div_le_self _ _) (Nat.sub_one_lt (Nat.ne_of_gt h))

theorem child_gt {k i : Nat} (hk : 0 < k) (h : (k - 1) / 2 = i) : i < k := h ▸ parent_lt hk

theorem child_cases {k i : Nat} (hk : 0 < k) (h : (k - 1) / 2 = i) : k = i * 2 + 1 ∨ k = i * 2 + 1 + 1 := by omega

theorem parent_left (i : Nat) : (i * 2 + 1 - 1) / 2 = i := by
  rw [Nat.add_sub_cancel, Nat.mul_div_cancel _ (by decide)]

theorem parent_right (i : Nat) : (i * 2 + 1 + 1 - 1) / 2 = i := by
  rw [Nat.add_sub_cancel, Nat.add_comm, Nat.add_mul_div_right _ _ (by decide)]
  exact Nat.zero_add i

variable {lt}

theorem lt_irrefl (ho : WeakOrder lt) (a : α) : lt a a = false := by
  cases h : lt a a
  · rfl
  · have := ho.asymm a a h; rw [h] at this; exact absurd this (by simp)

/-- **Peek is a minimum**: in an ordered heap no cell is less than the root. -/
theorem root_min (ho : WeakOrder lt) (m : Nat → α) (n : Nat) (h : Ordered lt m n) :
    ∀ k, k < n → lt (m k) (m 0) = false := by
  intro k
  induction k using Nat.strongRecOn with
  | _ k ih =>
    intro hk
    by_cases h0 : k = 0
    · subst h0; exact lt_irrefl ho _
    · have hp : (k - 1) / 2 < k := parent_lt (Nat.pos_of_ne_zero h0)
      exact ho.le_trans _ _ _ (ih _ hp (Nat.lt_trans hp hk)) (h k (Nat.pos_of_ne_zero h0) hk)

/-- the smaller child `c` of `i` is less than the element at the hole: exchanging them moves the hole to `c`. -/
theorem holeDown_swap (ho : WeakOrder lt) {v : Nat → α} {i c n : Nat} (H : HoleDown lt v i n)
    (hc0 : 0 < c) (hci : (c - 1) / 2 = i) (hcn : c < n) (hlt : lt (v c) (v i) = true)
    (hmin : ∀ k, 0 < k → k < n → (k - 1) / 2 = i → lt (v k) (v c) = false) : HoleDown lt (swap v i c) c n := by
  have hic : i < c := child_gt hc0 hci
  refine ⟨fun k hk0 hkn hpk => ?_, fun k hk0 hkn hpk _ => ?_⟩
  · by_cases hpi : (k - 1) / 2 = i
    · rw [hpi, swap_fst]
      by_cases hkc : k = c
      · rw [hkc, swap_snd]; exact ho.asymm _ _ hlt
      · rw [swap_other v (Nat.ne_of_gt (child_gt hk0 hpi)) hkc]; exact hmin k hk0 hkn hpi
    · by_cases hki : k = i
      · -- the edge above `i`
        have hi0 : 0 < i := hki ▸ hk0
        rw [hki, swap_fst, swap_other v (Nat.ne_of_lt (parent_lt hi0)) (Nat.ne_of_lt (Nat.lt_trans (parent_lt hi0) hic))]
        exact H.2 c hc0 hcn hci hi0
      · rw [swap_other v hki (fun h => hpi (h ▸ hci)), swap_other v hpi hpk]
        exact H.1 k hk0 hkn hpi
  · -- a child of `c`
    have hck : c < k := child_gt hk0 hpk
    have h := H.1 k hk0 hkn (hpk ▸ Nat.ne_of_gt hic)
    rw [hpk] at h
    rw [hci, swap_fst, swap_other v (Nat.ne_of_gt (Nat.lt_trans hic hck)) (Nat.ne_of_gt hck)]
    exact h

/-- no child of `i` is less than the element at the hole: the heap is ordered. -/
theorem holeDown_done {v : Nat → α} {i n : Nat} (H : HoleDown lt v i n)
    (h : ∀ k, 0 < k → k < n → (k - 1) / 2 = i → lt (v k) (v i) = false) : Ordered lt v n := by
  intro k hk0 hkn
  by_cases hpi : (k - 1) / 2 = i
  · rw [hpi]; exact h k hk0 hkn hpi
  · exact H.1 k hk0 hkn hpi

/-- the child of `i` that `fixDown` compares with the element: in range, a child, and least among the children. -/
theorem minChild_spec (ho : WeakOrder lt) (m : Nat → α) (i n : Nat) (h : i * 2 + 1 < n) {c : Nat}
    (hc : c = if i * 2 + 1 + 1 < n && lt (m (i * 2 + 1 + 1)) (m (i * 2 + 1)) then i * 2 + 1 + 1 else i * 2 + 1) :
    c < n ∧ 0 < c ∧ (c - 1) / 2 = i ∧ ∀ k, 0 < k → k < n → (k - 1) / 2 = i → lt (m k) (m c) = false := by
  by_cases hh : (i * 2 + 1 + 1 < n && lt (m (i * 2 + 1 + 1)) (m (i * 2 + 1))) = true
  · rw [if_pos hh] at hc
    simp only [Bool.and_eq_true, decide_eq_true_eq] at hh
    rw [hc]
    refine ⟨hh.1, Nat.succ_pos _, parent_right i, fun k hk0 _ hpk => ?_⟩
    rcases child_cases hk0 hpk with rfl | rfl
    · exact ho.asymm _ _ hh.2
    · exact lt_irrefl ho _
  · rw [if_neg hh] at hc
    simp only [Bool.and_eq_true, decide_eq_true_eq, not_and, Bool.not_eq_true] at hh
    rw [hc]
    refine ⟨h, Nat.succ_pos _, parent_left i, fun k hk0 hkn hpk => ?_⟩
    rcases child_cases hk0 hpk with rfl | rfl
    · exact lt_irrefl ho _
    · exact hh hkn

/-- sift-down with a hole at `i`: when the filled array `m[i := element]` is a heap around the hole, the loop ends with
an ordered heap with the same contents. -/
theorem fixDownLoop_spec (ho : WeakOrder lt) (m : Nat → α) (element : α) (i n : Nat) :
    i < n → HoleDown lt (upd m i element) i n →
    Ordered lt (upd (fixDownLoop lt m element i n).1 (fixDownLoop lt m element i n).2 element) n ∧
    SameSet (upd m i element) (upd (fixDownLoop lt m element i n).1 (fixDownLoop lt m element i n).2 element) n := by
  fun_induction fixDownLoop lt m element i n with
  | case1 m i child hch c hlt ih =>
    intro hi H
    obtain ⟨hcn, hc0, hci, hmin⟩ := minChild_spec ho m i n hch (c := c) rfl
    have hne : c ≠ i := Nat.ne_of_gt (child_gt hc0 hci)
    have H' := holeDown_swap ho H hc0 hci hcn (by rw [upd_ne _ _ hne, upd_eq]; exact hlt)
      (fun k hk0 hkn hpk => by
        rw [upd_ne _ _ hne, upd_ne _ _ (Nat.ne_of_gt (child_gt hk0 hpk))]; exact hmin k hk0 hkn hpk)
    rw [← upd_move m element hne] at H'
    obtain ⟨k1, k2⟩ := ih hcn H'
    refine ⟨k1, SameSet.trans ?_ k2⟩
    rw [upd_move m element hne]
    exact sameSet_swap _ n i c hi hcn
  | case2 m i child hch c hlt =>
    intro hi H
    obtain ⟨hcn, hc0, hci, hmin⟩ := minChild_spec ho m i n hch (c := c) rfl
    refine ⟨holeDown_done H (fun k hk0 hkn hpk => ?_), SameSet.refl _ _⟩
    rw [upd_eq, upd_ne _ _ (Nat.ne_of_gt (child_gt hk0 hpk))]
    exact ho.le_trans _ _ _ (by simpa using hlt) (hmin k hk0 hkn hpk)
  | case3 m i child hch =>
    intro hi H
    refine ⟨holeDown_done H (fun k hk0 hkn hpk => absurd ?_ hch), SameSet.refl _ _⟩
    rcases child_cases hk0 hpk with rfl | rfl
    · exact hkn
    · exact Nat.lt_of_succ_lt hkn

/-- the element at the hole is less than its parent `p`: exchanging them moves the hole to `p`. -/
theorem holeUp_swap (ho : WeakOrder lt) {v : Nat → α} {i p n : Nat} (H : HoleUp lt v i n) (hi0 : 0 < i) (hin : i < n)
    (hp : (i - 1) / 2 = p) (hlt : lt (v i) (v p) = true) : HoleUp lt (swap v i p) p n := by
  have hpi : p < i := child_gt hi0 hp
  refine ⟨fun k hk0 hkn hkp => ?_, fun k hk0 hkn hpk hp0 => ?_⟩
  · by_cases hki : k = i
    · rw [hki, hp, swap_fst, swap_snd]; exact ho.asymm _ _ hlt
    · have u := H.1 k hk0 hkn hki
      by_cases hpk : (k - 1) / 2 = p
      · -- the sibling of `i`
        rw [hpk] at u ⊢
        rw [swap_other v hki hkp, swap_snd]
        exact ho.le_trans _ _ _ (ho.asymm _ _ hlt) u
      · by_cases hpki : (k - 1) / 2 = i
        · -- a child of `i`
          have u2 := H.2 k hk0 hkn hpki hi0
          rw [hp] at u2
          rw [hpki, swap_other v hki hkp, swap_fst]
          exact u2
        · rw [swap_other v hki hkp, swap_other v hpki hpk]
          exact u
  · -- a child of `p`: above `p` nothing moved
    have hpp : (p - 1) / 2 < p := parent_lt hp0
    have u0 := H.1 p hp0 (Nat.lt_trans hpi hin) (Nat.ne_of_lt hpi)
    rw [swap_other v (Nat.ne_of_lt (Nat.lt_trans hpp hpi)) (Nat.ne_of_lt hpp)]
    by_cases hki : k = i
    · rw [hki, swap_fst]; exact u0
    · have u := H.1 k hk0 hkn hki
      rw [hpk] at u
      rw [swap_other v hki (Nat.ne_of_gt (child_gt hk0 hpk))]
      exact ho.le_trans _ _ _ u0 u

/-- the hole is at the root or its element is not less than its parent: the heap is ordered. -/
theorem holeUp_done {v : Nat → α} {i n : Nat} (H : HoleUp lt v i n)
    (h : 0 < i → lt (v i) (v ((i - 1) / 2)) = false) : Ordered lt v n := by
  intro k hk0 hkn
  by_cases hki : k = i
  · rw [hki]; exact h (hki ▸ hk0)
  · exact H.1 k hk0 hkn hki

/-- sift-up with a hole at `i`: the statement of `fixDownLoop_spec`, with `HoleUp`. -/
theorem fixUpLoop_spec (ho : WeakOrder lt) (m : Nat → α) (element : α) (i n : Nat) :
    i < n → HoleUp lt (upd m i element) i n →
    Ordered lt (upd (fixUpLoop lt m element i).1 (fixUpLoop lt m element i).2 element) n ∧
    SameSet (upd m i element) (upd (fixUpLoop lt m element i).1 (fixUpLoop lt m element i).2 element) n := by
  fun_induction fixUpLoop lt m element i with
  | case1 m i hi0 p hlt ih =>
    intro hi H
    have hpi : p < i := parent_lt hi0
    have hne : p ≠ i := Nat.ne_of_lt hpi
    have H' := holeUp_swap ho H hi0 hi rfl (by rw [upd_eq, upd_ne _ _ hne]; exact hlt)
    rw [← upd_move m element hne] at H'
    obtain ⟨k1, k2⟩ := ih (Nat.lt_trans hpi hi) H'
    refine ⟨k1, SameSet.trans ?_ k2⟩
    rw [upd_move m element hne]
    exact sameSet_swap _ n i p hi (Nat.lt_trans hpi hi)
  | case2 m i hi0 p hlt =>
    intro hi H
    refine ⟨holeUp_done H (fun _ => ?_), SameSet.refl _ _⟩
    rw [upd_eq, upd_ne _ _ (Nat.ne_of_lt (parent_lt hi0))]
    simpa using hlt
  | case3 m i hi0 =>
    intro hi H
    exact ⟨holeUp_done H (fun h => absurd h hi0), SameSet.refl _ _⟩

/-- the hole only moves down, and a hole that did not move left the memory untouched. -/
theorem fixDownLoop_fst_of_eq (m : Nat → α) (element : α) (i n : Nat) :
    i ≤ (fixDownLoop lt m element i n).2 ∧ ((fixDownLoop lt m element i n).2 = i → (fixDownLoop lt m element i n).1 = m) := by
  fun_induction fixDownLoop lt m element i n with
  | case1 m i child hch c hlt ih =>
    have hic : i < c := by simp only [c, child]; split <;> omega
    exact ⟨Nat.le_trans (Nat.le_of_lt hic) ih.1, fun h => absurd (h ▸ ih.1) (Nat.not_le.mpr hic)⟩
  | case2 => exact ⟨Nat.le_refl _, fun _ => rfl⟩
  | case3 => exact ⟨Nat.le_refl _, fun _ => rfl⟩

theorem fixUpLoop_fst_of_eq (m : Nat → α) (element : α) (i : Nat) :
    (fixUpLoop lt m element i).2 ≤ i ∧ ((fixUpLoop lt m element i).2 = i → (fixUpLoop lt m element i).1 = m) := by
  fun_induction fixUpLoop lt m element i with
  | case1 m i hi p hlt ih =>
    have hpi : p < i := parent_lt hi
    exact ⟨Nat.le_trans ih.1 (Nat.le_of_lt hpi), fun h => absurd (h ▸ ih.1) (Nat.not_le.mpr hpi)⟩
  | case2 => exact ⟨Nat.le_refl _, fun _ => rfl⟩
  | case3 => exact ⟨Nat.le_refl _, fun _ => rfl⟩

/-- how `fixDown` and `fixUp` end: the element goes into the hole `r.2` of the memory `r.1` the loop left (a hole that
did not move left the memory as it was). -/
theorem fill_hole (h : Heap α) (i : Nat) (r : (Nat → α) × Nat) (hr : r.2 = i → r.1 = h.elements) :
    (if i = r.2 then (h, false) else ({ h with elements := upd r.1 r.2 (h.elements i) }, true)).1 =
      { h with elements := upd r.1 r.2 (h.elements i) } := by
  split
  · rename_i he
    rw [hr he.symm, ← he, upd_self]
  · rfl

theorem fixDown_fst (h : Heap α) (i n : Nat) :
    (fixDown lt h i n).1 = { h with
      elements := upd (fixDownLoop lt h.elements (h.elements i) i n).1 (fixDownLoop lt h.elements (h.elements i) i n).2 (h.elements i) } :=
  fill_hole h i _ (fixDownLoop_fst_of_eq h.elements (h.elements i) i n).2

theorem fixUp_fst (h : Heap α) (i : Nat) :
    (fixUp lt h i).1 = { h with
      elements := upd (fixUpLoop lt h.elements (h.elements i) i).1 (fixUpLoop lt h.elements (h.elements i) i).2 (h.elements i) } :=
  fill_hole h i _ (fixUpLoop_fst_of_eq h.elements (h.elements i) i).2

theorem fixUp_zero (h : Heap α) : (fixUp lt h 0).1 = h := by
  unfold fixUp fixUpLoop
  simp

/-- `Fix(0)` is `fixDown(0, size)` (a root cannot move up). -/
theorem fix_zero (h : Heap α) : fix lt h 0 = (fixDown lt h 0 h.size).1 := by
  unfold fix
  simp only
  split
  · rfl
  · exact fixUp_zero _

/-- **Fix(0) restores the heap order** after the root's key was changed to anything (`NextAndPush` raises it), and
keeps the contents. -/
theorem fix_root_spec (ho : WeakOrder lt) (h : Heap α) (e' : α) (hord : Ordered lt h.elements h.size) (hs : 0 < h.size) :
    let g := fix lt { h with elements := upd h.elements 0 e' } 0
    Ordered lt g.elements g.size ∧ g.size = h.size ∧ SameSet (upd h.elements 0 e') g.elements h.size := by
  intro g
  have hg : g = _ := (fix_zero _).trans (fixDown_fst _ 0 h.size)
  simp only [upd_eq] at hg
  -- only the edges below the root can be out of order
  have H : HoleDown lt (upd h.elements 0 e') 0 h.size :=
    ⟨fun k hk0 hkn hpk => by rw [upd_ne _ _ (Nat.ne_of_gt hk0), upd_ne _ _ hpk]; exact hord k hk0 hkn,
     fun _ _ _ _ h0 => absurd h0 (Nat.lt_irrefl 0)⟩
  have spec := fixDownLoop_spec ho (upd h.elements 0 e') e' 0 h.size hs (by rw [upd_upd]; exact H)
  rw [upd_upd] at spec
  rw [hg]
  exact ⟨spec.1, rfl, spec.2⟩

/-- **Push keeps the heap order** and adds exactly the pushed element. -/
theorem push_spec (ho : WeakOrder lt) (h : Heap α) (e : α) (hord : Ordered lt h.elements h.size) :
    let g := push lt h e
    Ordered lt g.elements g.size ∧ g.size = h.size + 1 ∧ SameSet (upd h.elements h.size e) g.elements (h.size + 1) := by
  intro g
  have hg : g = _ := fixUp_fst { elements := upd h.elements h.size e, size := h.size + 1 } h.size
  simp only [upd_eq] at hg
  -- only the edge above the new last cell can be out of order
  have H : HoleUp lt (upd h.elements h.size e) h.size (h.size + 1) :=
    ⟨fun k hk0 hkn hk => by
      have hk' : k < h.size := Nat.lt_of_le_of_ne (Nat.le_of_lt_succ hkn) hk
      rw [upd_ne _ _ hk, upd_ne _ _ (Nat.ne_of_lt (Nat.lt_trans (parent_lt hk0) hk'))]; exact hord k hk0 hk',
     fun k hk0 hkn hpk _ => absurd (child_gt hk0 hpk) (Nat.not_lt.mpr (Nat.le_of_lt_succ hkn))⟩
  have spec := fixUpLoop_spec ho (upd h.elements h.size e) e h.size (h.size + 1) (Nat.lt_succ_self _) (by rw [upd_upd]; exact H)
  rw [upd_upd] at spec
  rw [hg]
  exact ⟨spec.1, rfl, spec.2⟩

section Refinement
open MosnVerif.Model.EDF MosnVerif.Gen

theorem less_weakOrder : WeakOrder less := ⟨less_asymm, less_le_trans⟩

/-- queued times are bounded by the clock and distinct (every push takes a fresh tick). -/
def QInv (s : Sched) : Prop :=
  (∀ e ∈ s.entries, e.queued ≤ s.clock) ∧ ∀ e ∈ s.entries, ∀ f ∈ s.entries, e.queued = f.queued → e = f

/-- abstraction relation: same time and clock, the array is heap-ordered, its cells are the queued entries. -/
structure Rel (hs : HSched) (s : Sched) : Prop where
  now : hs.now = s.now
  clock : hs.clock = s.clock
  ord : Ordered less hs.items.elements hs.items.size
  cells : (toList hs.items).Perm s.entries

theorem rel_empty : Rel HSched.empty {} := ⟨rfl, rfl, fun k _ hk => absurd hk (Nat.not_lt_zero k), List.Perm.refl _⟩

theorem qinv_empty : QInv {} := ⟨by simp, by simp⟩

/-- every push takes the fresh tick `clock + 1`: the entries of the new state are old ones or the one pushed entry. -/
theorem qinv_fresh {s s' : Sched} (h : QInv s) (hc : s'.clock = s.clock + 1) {e0 : Entry} (h0 : e0.queued = s.clock + 1)
    (hL : ∀ e ∈ s'.entries, e ∈ s.entries ∨ e = e0) : QInv s' := by
  constructor
  · intro e he
    rcases hL e he with he | rfl
    · have := h.1 e he; omega
    · omega
  · intro a ha b hb hq
    rcases hL a ha with ha | rfl <;> rcases hL b hb with hb | rfl
    · exact h.2 a ha b hb hq
    · have := h.1 a ha; omega
    · have := h.1 b hb; omega
    · rfl

theorem qinv_add {s : Sched} (h : QInv s) (item : Nat) (w : Rat) : QInv (s.add item w) :=
  qinv_fresh h rfl (e0 := { item := item, deadline := Edf.addDeadline s.now w, weight := w, queued := s.clock + 1 }) rfl
    fun _ he => (List.mem_append.mp he).imp id List.mem_singleton.mp

theorem qinv_next {s s' : Sched} {wf : Nat → Rat} {hint : Option Nat} {i : Nat} (h : QInv s)
    (hn : s.nextAndPush wf hint = some (i, s')) : QInv s' := by
  obtain ⟨pe, _, _, rfl⟩ := nextAndPush_spec hn
  refine qinv_fresh h rfl (e0 := repush pe (wf pe.item) (s.clock + 1)) rfl (List.forall_mem_map.mpr fun f hf => ?_)
  split
  · exact Or.inr rfl
  · exact Or.inl hf

theorem least_unique {s : Sched} (hQ : QInv s) {a b : Entry} (ha : a ∈ s.entries) (hb : b ∈ s.entries)
    (h1 : less a b = false) (h2 : less b a = false) : a = b := by
  apply hQ.2 a ha b hb
  have n1 : ¬ (less a b = true) := by simp [h1]
  have n2 : ¬ (less b a = true) := by simp [h2]
  rw [less_iff] at n1 n2
  have hd : a.deadline = b.deadline := by grind
  have : ¬ a.queued < b.queued := fun h => n1 (Or.inr ⟨hd, h⟩)
  have : ¬ b.queued < a.queued := fun h => n2 (Or.inr ⟨hd.symm, h⟩)
  omega

/-- replacing the entry of one item in a list with distinct items that is `root :: rest` up to order. -/
theorem replace_perm {l rest : List Entry} {root e' : Entry} (hp : (root :: rest).Perm l)
    (hnd : (l.map (·.item)).Nodup) : (e' :: rest).Perm (l.map (fun f => if f.item = root.item then e' else f)) := by
  refine List.Perm.trans ?_ (hp.map _)
  have hnd' := ((hp.map (·.item)).nodup_iff).mpr hnd
  rw [List.map_cons, List.nodup_cons] at hnd'
  rw [List.map_cons, if_pos rfl]
  refine List.Perm.of_eq (congrArg _ ?_)
  exact (List.map_id' rest).symm.trans
    (List.map_congr_left fun x hx => (if_neg fun he => hnd'.1 (List.mem_map.mpr ⟨x, hx, he⟩)).symm)

/-- **one `NextAndPush` of the heap scheduler is one `NextAndPush` of the list scheduler** (same served item, related
successor states): the array heap implements "serve the minimum of `edfEntryLess`". -/
theorem hsched_next_refines {hs : HSched} {s : Sched} (R : Rel hs s) (hN : (s.entries.map (·.item)).Nodup)
    (hQ : QInv s) (wf : Nat → Rat)
    {i : Nat} {hs' : HSched} (h : hs.nextAndPush wf = some (i, hs')) :
    ∃ s', s.nextAndPush wf none = some (i, s') ∧ Rel hs' s' := by
  unfold HSched.nextAndPush at h
  by_cases hsz : hs.items.size = 0
  · rw [if_pos hsz] at h
    cases h
  · rw [if_neg hsz] at h
    simp only [Option.some.injEq, Prod.mk.injEq] at h
    obtain ⟨rfl, rfl⟩ := h
    obtain ⟨n, hn⟩ : ∃ n, hs.items.size = n + 1 := ⟨hs.items.size - 1, by omega⟩
    have hpos : 0 < hs.items.size := by omega
    -- the root is a queued entry and least, so it is the list scheduler's pick
    have hcells : toList hs.items = peek hs.items :: (toList hs.items).tail := by
      unfold toList
      rw [hn, List.range_succ_eq_map]
      rfl
    have hroot : peek hs.items ∈ s.entries := R.cells.subset (hcells ▸ List.mem_cons_self)
    have hleast : ∀ f ∈ s.entries, less f (peek hs.items) = false := by
      intro f hf
      obtain ⟨k, hk, rfl⟩ := List.mem_map.mp (R.cells.symm.subset hf)
      exact root_min less_weakOrder _ _ R.ord k (List.mem_range.mp hk)
    obtain ⟨m, hm⟩ := Option.isSome_iff_exists.mp (minEntry_isSome (List.ne_nil_of_mem hroot))
    have hmmem := (minEntry_least hm).1
    have hmeq : m = peek hs.items :=
      least_unique hQ hmmem hroot (hleast m hmmem) ((minEntry_least hm).2 _ hroot)
    subst hmeq
    refine ⟨_, by unfold Sched.nextAndPush; rw [pick_none, hm], ?_⟩
    obtain ⟨g1, g2, g3⟩ := fix_root_spec less_weakOrder hs.items
      (repush (peek hs.items) (wf (peek hs.items).item) (hs.clock + 1)) R.ord hpos
    refine ⟨rfl, congrArg (· + 1) R.clock, g1, ?_⟩
    have p := SameSet.perm g3
    rw [hn, cells_upd_root, ← hn] at p
    unfold toList
    rw [g2]
    refine p.trans ?_
    rw [← R.clock]
    exact replace_perm (hcells ▸ R.cells) hN

theorem hsched_add_refines {hs : HSched} {s : Sched} (R : Rel hs s) (item : Nat) (w : Rat) :
    Rel (hs.add item w) (s.add item w) := by
  obtain ⟨g1, g2, g3⟩ := push_spec less_weakOrder hs.items
    { item := item, deadline := Edf.addDeadline hs.now w, weight := w, queued := hs.clock + 1 } R.ord
  refine ⟨R.now, congrArg (· + 1) R.clock, g1, ?_⟩
  have p := SameSet.perm g3
  rw [cells_upd_last] at p
  unfold toList HSched.add Sched.add
  simp only
  rw [g2, ← R.now, ← R.clock]
  exact p.trans (R.cells.append_right _)

theorem hinit_succ (wf : Nat → Rat) (n : Nat) : HSched.initWith wf (n + 1) = (HSched.initWith wf n).add n (wf n) := by
  unfold HSched.initWith
  rw [List.range_succ, List.foldl_append]
  rfl

theorem init_rel (wf : Nat → Rat) (n : Nat) :
    Rel (HSched.initWith wf n) (EDF.initWith wf n) ∧ QInv (EDF.initWith wf n) := by
  induction n with
  | zero => exact ⟨rel_empty, qinv_empty⟩
  | succ n ih =>
    rw [hinit_succ, initWith_succ]
    exact ⟨hsched_add_refines ih.1 n (wf n), qinv_add ih.2 n (wf n)⟩

theorem hsched_next_none {hs : HSched} {s : Sched} (R : Rel hs s) (wf : Nat → Rat) (h : hs.nextAndPush wf = none) :
    s.nextAndPush wf none = none := by
  have hsz : hs.items.size = 0 := by
    unfold HSched.nextAndPush at h
    split at h
    · assumption
    · simp at h
  have hnil : s.entries = [] := by
    have := R.cells
    unfold toList at this
    rw [hsz] at this
    exact this.symm.eq_nil
  unfold Sched.nextAndPush; rw [pick_none, hnil]; rfl

/-- any number of picks, any weight function: the heap scheduler serves the items the list scheduler serves without hints,
and the end states are related again. -/
theorem run_refines (wf : Nat → Rat) (k : Nat) (hs : HSched) (s : Sched)
    (R : Rel hs s) (hN : (s.entries.map (·.item)).Nodup) (hQ : QInv s) :
    (hs.run wf k).1 = (s.run wf (List.replicate k none)).1 ∧
    Rel (hs.run wf k).2 (s.run wf (List.replicate k none)).2 ∧
    ((s.run wf (List.replicate k none)).2.entries.map (·.item)).Nodup ∧ QInv (s.run wf (List.replicate k none)).2 := by
  induction k generalizing hs s with
  | zero => exact ⟨rfl, R, hN, hQ⟩
  | succ k ih =>
    unfold HSched.run
    simp only [List.replicate_succ, Sched.run]
    cases hn : hs.nextAndPush wf with
    | none => rw [hsched_next_none R wf hn]; exact ⟨rfl, R, hN, hQ⟩
    | some p =>
      obtain ⟨i, hs'⟩ := p
      obtain ⟨s', h1, R'⟩ := hsched_next_refines R hN hQ wf hn
      obtain ⟨e, r⟩ := ih hs' s' R' (next_items h1 ▸ hN) (qinv_next hQ h1)
      simp only [h1]
      exact ⟨by rw [e], r⟩

end Refinement

end MosnVerif.Model.EdfHeap
