import MosnVerif.Model.WcLock
import MosnVerif.Lemmas.Threads
/-!
Serialization of the draws from one shared generator under the lock discipline (property C06, concurrent `ClusterName`).
-/
namespace MosnVerif.Lemmas.WcLock
open MosnVerif.Gen.WcLock MosnVerif.Model.WcLock

theorem setThread_same (th : Nat → Thread) (t : Nat) (v : Thread) : setThread th t v t = v := by
  simp [setThread]

theorem setThread_other (th : Nat → Thread) (t u : Nat) (v : Thread) (h : u ≠ t) : setThread th t v u = th u := by
  simp [setThread, h]

/-- knowing that the generator exists only helps. -/
theorem safe_of_created (l : List Step) (h : Bool) {i i' : Bool} (hc : i = true → i' = true) (hs : safe h i l = true) :
    safe h i' l = true := by
  induction l generalizing h i i' with
  | nil => rfl
  | cons a r ih =>
    cases a <;> simp only [safe, Bool.and_eq_true, Bool.false_eq_true] at hs ⊢
    case lock | unlock => exact ⟨hs.1, ih _ hc hs.2⟩
    case initRng => exact hs
    case draw | alias | drawAlias => exact ⟨⟨hs.1.1, hc hs.1.2⟩, ih _ hc hs.2⟩
    case other => exact ih _ hc hs

theorem prefixOf_succ (stream : Nat → Nat) (n : Nat) : prefixOf stream (n + 1) = prefixOf stream n ++ [stream n] := by
  simp [prefixOf, List.range_succ]

/-- the invariant of every reachable configuration of disciplined programs. -/
structure Inv (stream : Nat → Nat) (c : Conf) : Prop where
  pos_eq : c.pos = c.log.length
  uncreated : c.created = false → c.log = []
  safeT : ∀ t, safe (decide (c.holder = some t)) c.created (c.threads t).todo = true
  rdT : ∀ t p, (c.threads t).rd = some p →
    c.holder = some t ∧ c.pos = p ∧ ∃ a r, (c.threads t).todo = a :: r ∧ isDraw a = true
  stream_eq : handed c = prefixOf stream c.log.length

theorem inv_init (stream : Nat → Nat) (progs : Nat → List Step) (b : Bool) (hd : ∀ t, safe false b (progs t) = true) :
    Inv stream (initConf progs b) := by
  refine ⟨rfl, fun _ => rfl, ?_, ?_, rfl⟩
  · intro t
    simpa [initConf] using hd t
  · intro t p h
    simp [initConf] at h

theorem disciplined_safe (p : List Step) (b : Bool) (h : disciplined p = true) : safe false b p = true :=
  safe_of_created p false (i := false) (fun hf => nomatch hf) h

/-- outside a draw no generator state is remembered. -/
theorem rd_none {stream : Nat → Nat} {c : Conf} (hi : Inv stream c) {t : Nat} {a : Step} {r : List Step}
    (htodo : (c.threads t).todo = a :: r) (hnd : isDraw a = false) : (c.threads t).rd = none := by
  cases h : (c.threads t).rd with
  | none => rfl
  | some p =>
    obtain ⟨_, _, a', r', h1, h2⟩ := hi.rdT t p h
    rw [htodo] at h1
    cases h1
    rw [hnd] at h2
    cases h2

/-- a step of thread `t`. For the other threads it is enough that the mutex changes hands only to or from `t`, that an
existing generator stays, and that the generator state is kept unless `t` holds the mutex (then nobody else is inside a
draw); what is left to show is the generator's part and thread `t`'s own two facts. -/
theorem inv_frame {stream : Nat → Nat} {c : Conf} (hi : Inv stream c) (t : Nat) (cr : Bool) (ps : Nat) (ho : Option Nat)
    (v : Thread) (lg : List (Nat × Nat)) (hh : ∀ u, u ≠ t → (ho = some u ↔ c.holder = some u))
    (hc : c.created = true → cr = true) (hp : ps = c.pos ∨ c.holder = some t)
    (hpos : ps = lg.length) (hun : cr = false → lg = []) (hstream : lg.map (·.2) = prefixOf stream lg.length)
    (hsafe : safe (decide (ho = some t)) cr v.todo = true)
    (hrd : ∀ p, v.rd = some p → ho = some t ∧ ps = p ∧ ∃ a r, v.todo = a :: r ∧ isDraw a = true) :
    Inv stream { created := cr, pos := ps, holder := ho, threads := setThread c.threads t v, log := lg } := by
  refine ⟨hpos, hun, ?_, ?_, hstream⟩
  · intro u
    by_cases hu : u = t
    · subst hu
      simpa [setThread_same] using hsafe
    · simp only [setThread_other _ _ _ _ hu, decide_eq_decide.mpr (hh u hu)]
      exact safe_of_created _ _ hc (hi.safeT u)
  · intro u p h
    by_cases hu : u = t
    · subst hu
      simp only [setThread_same] at h ⊢
      exact hrd p h
    · simp only [setThread_other _ _ _ _ hu] at h ⊢
      obtain ⟨h0, h1, h2⟩ := hi.rdT u p h
      refine ⟨(hh u hu).mpr h0, ?_, h2⟩
      rcases hp with hp | hp
      · rw [hp]
        exact h1
      · rw [hp] at h0
        cases h0
        exact absurd rfl hu

/-- … when the step leaves generator and log alone. -/
theorem inv_quiet {stream : Nat → Nat} {c : Conf} (hi : Inv stream c) (t : Nat) (ho : Option Nat) (v : Thread)
    (hh : ∀ u, u ≠ t → (ho = some u ↔ c.holder = some u)) (hsafe : safe (decide (ho = some t)) c.created v.todo = true)
    (hrd : ∀ p, v.rd = some p → ho = some t ∧ c.pos = p ∧ ∃ a r, v.todo = a :: r ∧ isDraw a = true) :
    Inv stream { c with holder := ho, threads := setThread c.threads t v } :=
  inv_frame hi t _ _ ho v _ hh id (Or.inl rfl) hi.pos_eq hi.uncreated hi.stream_eq hsafe hrd

/-- one half of a draw by the holder of the mutex. -/
theorem inv_draw {stream : Nat → Nat} {c : Conf} (hi : Inv stream c) (t : Nat) (a : Step) (r : List Step) (valid : Bool)
    (htodo : (c.threads t).todo = a :: r) (hda : isDraw a = true) (hheld : c.holder = some t) (hcr : c.created = true)
    (hs : safe true true r = true) : Inv stream (drawStep stream c t r valid) := by
  unfold drawStep
  cases valid
  · -- a draw through a nil pointer: the request dies
    exact inv_quiet hi t _ _ (fun _ _ => Iff.rfl) rfl (fun p h => by cases h)
  · simp only [if_true]
    split
    · -- read half
      exact inv_quiet hi t _ _ (fun _ _ => Iff.rfl) (hi.safeT t)
        (fun p h => ⟨hheld, Option.some.inj h, a, r, htodo, hda⟩)
    · -- write half: the output at the remembered state is the next one of the stream
      rename_i p hp
      have hlen : p = c.log.length := (hi.rdT t p hp).2.1 ▸ hi.pos_eq
      refine inv_frame hi t _ _ _ _ _ (fun _ _ => Iff.rfl) id (Or.inr hheld) (by simp [hlen]) (by simp [hcr]) ?_
        (by simpa [hheld, hcr] using hs) (fun p h => by cases h)
      have := hi.stream_eq
      simp only [handed] at this
      simp only [List.map_append, List.length_append, List.length_singleton, List.map_cons, List.map_nil, this,
        prefixOf_succ, hlen]

theorem inv_step (stream : Nat → Nat) (c : Conf) (t : Nat) (hi : Inv stream c) : Inv stream (stepThread stream c t) := by
  have hst := hi.safeT t
  unfold stepThread
  match htodo : (c.threads t).todo with
  | [] => exact hi
  | a :: r =>
    rw [htodo] at hst
    simp only []
    unfold stepHead
    -- outside a draw thread `t` remembers no generator state, so it owes nothing for one
    have hrd {P : Nat → Prop} (hnd : isDraw a = false) (p : Nat) (h : (c.threads t).rd = some p) : P p := by
      rw [rd_none hi htodo hnd] at h
      cases h
    cases a with
    | escape | atomicOp => exact absurd hst Bool.false_ne_true
    | other => exact inv_quiet hi t _ _ (fun _ _ => Iff.rfl) hst (hrd rfl)
    | alias =>
      simp only [safe, Bool.and_eq_true] at hst
      exact inv_quiet hi t _ _ (fun _ _ => Iff.rfl) hst.2 (hrd rfl)
    | lock =>
      simp only [safe, Bool.and_eq_true, Bool.not_eq_true', decide_eq_false_iff_not] at hst
      simp only []
      split
      · rename_i hn
        exact inv_quiet hi t _ _ (fun u hu => by simp [hn, Ne.symm hu]) (by simpa using hst.2) (hrd rfl)
      · exact hi
    | unlock =>
      simp only [safe, Bool.and_eq_true, decide_eq_true_eq] at hst
      simp only [hst.1, if_true]
      exact inv_quiet hi t _ _ (fun u hu => by simp [hst.1, Ne.symm hu]) (by simpa using hst.2) (hrd rfl)
    | initRng =>
      simp only [safe, Bool.and_eq_true, decide_eq_true_eq] at hst
      simp only []
      split
      · rename_i hc
        exact inv_quiet hi t _ _ (fun _ _ => Iff.rfl) (by simpa [hst.1, hc] using hst.2) (hrd rfl)
      · rename_i hc
        have hlog := hi.uncreated (by simpa using hc)
        exact inv_frame hi t _ _ _ _ _ (fun _ _ => Iff.rfl) (fun _ => rfl) (Or.inr hst.1) (by simp [hlog]) (by simp)
          (by simp [hlog, prefixOf]) (by simpa [hst.1] using hst.2) (hrd rfl)
    | draw | drawAlias =>
      simp only [safe, Bool.and_eq_true, decide_eq_true_eq] at hst
      exact inv_draw hi t _ r _ htodo rfl hst.1.1 hst.1.2 (by simpa [hst.1.1, hst.1.2] using hst.2)

theorem inv_run (stream : Nat → Nat) (sched : List Nat) : ∀ (c : Conf), Inv stream c → Inv stream (runSched stream c sched) :=
  Fold.foldl_inv (inv_step stream) sched
