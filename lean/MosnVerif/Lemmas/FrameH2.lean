import MosnVerif.Model.FrameH2
import MosnVerif.Model.FrameH2Err
import MosnVerif.Lemmas.FramingS
import MosnVerif.Lemmas.FrameSteps
/-! prefix-stability of the HTTP/2 frame extraction -/
namespace MosnVerif.Model.FrameH2
open MosnVerif.Model.Framing MosnVerif.Model.FramingS MosnVerif.Model.FrameBytes MosnVerif.Model.FrameSteps
open MosnVerif.Gen.FrameLen MosnVerif.Gen.FrameConsts

variable (M : Nat) (P : Bytes → Bool)

theorem fh_append (p e : Bytes) (off : Nat) (h : off + 9 ≤ p.length) : fh (p ++ e) off = fh p off := by
  unfold fh
  rw [be_append p e _ _ (by omega), u8_append p e _ (by omega), u8_append p e _ (by omega),
    be_append p e _ _ (by omega)]

/-- the two regenerated length tests of `ReadFrame`, as arithmetic -/
theorem hdrShort_false (l off : Nat) : h2_hdrShort l off = false ↔ off + 9 ≤ l := by
  frame_len_defs; simp

theorem incomplete_false (n l off : Nat) (h : off + 9 ≤ l) : h2_incomplete n l off = false ↔ off + h2_size n ≤ l := by
  frame_len_defs; simp; omega

theorem one_ok_bound (b : Bytes) (off : Nat) (h : FH) (ho : one M P b off = .ok h) :
    off + 9 ≤ b.length ∧ off + h2_size h.len ≤ b.length ∧ h = fh b off ∧ 9 ≤ h2_size h.len := by
  revert ho
  fun_cases one M P b off with
  | case4 h1 _ _ h3 _ =>
    intro ho
    obtain rfl := One.ok.inj ho
    have hl := (hdrShort_false _ _).1 (Bool.eq_false_iff.2 h1)
    exact ⟨hl, (incomplete_false _ _ _ hl).1 (Bool.eq_false_iff.2 h3), rfl, by simp [h2_size]⟩
  | _ => nofun

theorem one_ext (p e : Bytes) (off : Nat) (h : one M P p off ≠ .needMore) :
    one M P (p ++ e) off = one M P p off := by
  have hle : p.length ≤ (p ++ e).length := by simp
  revert h
  fun_cases one M P p off with
  | case1 | case3 => exact fun h => absurd rfl h
  | case2 h1 _ h2 =>
    have hl := (hdrShort_false _ _).1 (Bool.eq_false_iff.2 h1)
    intro _
    rw [one, if_neg (by rw [Bool.not_eq_true, hdrShort_false]; omega), fh_append p e off hl]
    exact if_pos h2
  | case4 h1 hd h2 h3 h4 | case5 h1 hd h2 h3 h4 =>
    have hl := (hdrShort_false _ _).1 (Bool.eq_false_iff.2 h1)
    have hc := (incomplete_false _ _ _ hl).1 (Bool.eq_false_iff.2 h3)
    intro _
    rw [one, if_neg (by rw [Bool.not_eq_true, hdrShort_false]; omega), fh_append p e off hl, show fh p off = hd from rfl]
    simp only [if_neg h2, (incomplete_false hd.len (p ++ e).length off (by omega)).2 (by omega), List.take_append_of_le_length hc,
      h4, Bool.false_eq_true, if_false, if_true]

/-- an answer of the CONTINUATION scan other than need-more is final on every extension of the buffer and with more fuel -/
theorem cont_final (p e : Bytes) (size0 sid : Nat) (fuel k ms : Nat) (h : cont M P p size0 sid fuel ms ≠ .needMore) :
    cont M P (p ++ e) size0 sid (fuel + k) ms = cont M P p size0 sid fuel ms := by
  fun_induction cont M P p size0 sid fuel ms with
  | case1 | case2 => exact absurd rfl h
  | case3 fuel ms ho => rw [Nat.succ_add, cont, one_ext M P p e _ (by simp [ho]), ho]
  | case4 fuel ms a ho hc => rw [Nat.succ_add, cont, one_ext M P p e _ (by simp [ho]), ho]; exact if_pos hc
  | case5 fuel ms a ho hc he =>
    rw [Nat.succ_add, cont, one_ext M P p e _ (by simp [ho]), ho]
    exact (if_neg hc).trans (if_pos he)
  | case6 fuel ms a ho hc he ih =>
    rw [Nat.succ_add, cont, one_ext M P p e _ (by simp [ho]), ho]
    exact (if_neg hc).trans ((if_neg he).trans (ih h))

theorem cont_bound (b : Bytes) (size0 sid : Nat) (fuel ms r : Nat) (h : cont M P b size0 sid fuel ms = .len r) :
    size0 + r ≤ b.length ∧ ms < r := by
  fun_induction cont M P b size0 sid fuel ms with
  | case5 fuel ms a ho hc he =>
    have ⟨_, hb, _, h9⟩ := one_ok_bound M P b _ a ho
    cases h
    omega
  | case6 fuel ms a ho hc he ih =>
    have ⟨_, hb, _, h9⟩ := one_ok_bound M P b _ a ho
    have := ih h
    omega
  | _ => cases h

theorem cont_no_error_ext (p e : Bytes) (size0 sid : Nat) (fuel ms : Nat)
    (h : cont M P p size0 sid fuel ms = .error) : cont M P (p ++ e) size0 sid fuel ms = .error := by
  exact (cont_final M P p e size0 sid fuel 0 ms (by rw [h]; simp)).trans h

theorem h2Hdr_stable : HdrStable (h2Hdr M P) := by
  refine .of_final (fun p n h => ?_) (fun p e h => ?_)
  · unfold h2Hdr at h
    cases ho : one M P p 0 with
    | needMore => simp [ho] at h
    | error => simp [ho] at h
    | ok hd =>
      have ⟨_, hb, _, h9⟩ := one_ok_bound M P p 0 hd ho
      simp only [ho] at h
      split at h
      · cases h
      · split at h
        · cases hc : cont M P p (h2_size hd.len) hd.sid p.length 0 with
          | len ms =>
            have := cont_bound M P p _ _ _ _ _ hc
            simp only [hc, Hdr.len.injEq, h2_drain] at h
            omega
          | _ => simp [hc] at h
        · split at h <;> simp only [Hdr.len.injEq, reduceCtorEq, h2_drain] at h
          omega
  · have ho : one M P p 0 ≠ .needMore := fun hc => h (by simp [h2Hdr, hc])
    unfold h2Hdr at h ⊢
    rw [one_ext M P p e 0 ho]
    cases hone : one M P p 0 with
    | ok hd =>
      simp only [hone] at h ⊢
      split
      · rfl
      · split
        · -- the CONTINUATION scan answered on `p` with fuel `|p|`: same answer on the extension with more fuel
          rename_i hc hg
          rw [if_neg hc, if_pos hg] at h
          have hne : cont M P p (h2_size hd.len) hd.sid p.length 0 ≠ .needMore := fun hc => h (by simp [hc])
          rw [List.length_append, cont_final M P p e _ _ p.length e.length 0 hne]
        · rfl
    | _ => rfl

theorem h2Step_pre (G : Bytes → Bool) (p : Bytes) : h2Step M P G false p =
    if p.length < http2_preface.length then .needMore
    else if MosnVerif.Model.Match.nats (p.take http2_preface.length) = http2_preface then .frame (none, true) http2_preface.length
    else .error := rfl

theorem h2Step_post (G : Bytes → Bool) (p : Bytes) : h2Step M P G true p =
    match h2Hdr M P p with
    | .needMore => .needMore
    | .error => .error
    | .len n => if G (p.take n) then .frame (some (p.take n), true) n else .error := rfl

theorem h2Step_stable (G : Bytes → Bool) : SStable (h2Step M P G) := by
  have hh := h2Hdr_stable M P
  have hL : 0 < http2_preface.length := by frame_consts_defs; simp
  refine .of_final (fun s p f n h => ?_) (fun s p e h => ?_) <;> cases s
  · rw [h2Step_pre] at h
    split at h
    · cases h
    · split at h <;> simp at h
      omega
  · rw [h2Step_post] at h
    split at h <;> try (simp at h)
    rename_i m hm
    split at h <;> simp at h
    exact h.2 ▸ hh.pos p m hm
  · have hl : http2_preface.length ≤ p.length := Nat.le_of_not_lt fun hc => h (by simp [h2Step_pre, hc])
    have hl' : ¬ (p ++ e).length < http2_preface.length := by rw [List.length_append]; omega
    simp only [h2Step_pre, if_neg hl', if_neg (Nat.not_lt.2 hl), List.take_append_of_le_length hl]
  · have hne : h2Hdr M P p ≠ .needMore := fun hc => h (by simp [h2Step_post, hc])
    rw [h2Step_post, h2Step_post, hh.final p e hne]
    cases hm : h2Hdr M P p with
    | len m => simp only [List.take_append_of_le_length (hh.pos p m hm).2]
    | _ => rfl

theorem h2Step_empty (G : Bytes → Bool) (s : Bool) : h2Step M P G s [] = .needMore := by
  cases s
  · rw [h2Step_pre]; frame_consts_defs; simp
  · rw [h2Step_post]; unfold h2Hdr one; frame_len_defs; simp

end MosnVerif.Model.FrameH2
