import MosnVerif.Model.H1Drain
/-! Lemmas about the drain mark of an HTTP/1 server connection: the mark is sticky under the regenerated assignment
rules, and a marked connection writes at most one more response — with `Connection: close`, closing after it. -/
namespace MosnVerif.Lemmas.H1Drain
open MosnVerif.Model.H1Drain MosnVerif.Gen.H1Drain

/-- the transfer event sets the mark whatever it was -/
theorem mark_sets (b : Bool) : markUpdate b = true := by
  cases b <;> decide

/-- no parsed request clears a set mark: every assignment in `serve` is `= true` or under a guard that cannot clear it -/
theorem parse_keeps (rc : Bool) : parseUpdate true rc = true := by
  cases rc <;> decide

/-- a marked connection answers `Connection: close` and closes -/
theorem resp_of_mark (rc : Bool) : respCloses true rc = true := by
  cases rc <;> decide

theorem step_flag (c : Conn) (e : Ev) (h : c.flag = true) : (step c e).1.flag = true := by
  cases e with
  | mark => simp only [step, stepWith, codeRules]; exact mark_sets _
  | parse rc =>
    simp only [step, stepWith, codeRules]
    split
    · exact h
    · simp only [h]; exact parse_keeps rc
  | respond =>
    simp only [step, stepWith]
    split
    · exact h
    · split <;> exact h

theorem run_nil (c : Conn) : run c [] = (c, []) := rfl

theorem run_cons (c : Conn) (e : Ev) (es : List Ev) :
    run c (e :: es) = ((run (step c e).1 es).1, (step c e).2 ++ (run (step c e).1 es).2) := rfl

theorem run_append (c : Conn) (a b : List Ev) :
    run c (a ++ b) = ((run (run c a).1 b).1, (run c a).2 ++ (run (run c a).1 b).2) := by
  induction a generalizing c with
  | nil => simp [run_nil]
  | cons e es ih => simp only [List.cons_append, run_cons, ih, List.append_assoc]

theorem run_flag (c : Conn) (evs : List Ev) (h : c.flag = true) : (run c evs).1.flag = true := by
  induction evs generalizing c with
  | nil => exact h
  | cons e es ih => rw [run_cons]; exact ih _ (step_flag c e h)

/-- a closed connection writes nothing any more -/
theorem step_closed (c : Conn) (e : Ev) (h : c.closed = true) : (step c e).1.closed = true ∧ (step c e).2 = [] := by
  cases e with
  | mark => simp [step, stepWith, h]
  | parse rc => simp [step, stepWith, h]
  | respond =>
    simp only [step, stepWith]
    split
    · exact ⟨h, rfl⟩
    · simp [h]

theorem run_closed (c : Conn) (evs : List Ev) (h : c.closed = true) :
    (run c evs).1.closed = true ∧ (run c evs).2 = [] := by
  induction evs generalizing c with
  | nil => exact ⟨h, rfl⟩
  | cons e es ih =>
    rw [run_cons, (step_closed c e h).2]
    exact ih _ (step_closed c e h).1

/-- the response of a marked, open connection to its outstanding request: `Connection: close`, then closed -/
theorem respond_marked (c : Conn) (rc : Bool) (hcur : c.cur = some rc) (hf : c.flag = true) (hc : c.closed = false) :
    (step c .respond).2 = [Out.resp true, Out.closed] ∧ (step c .respond).1.closed = true := by
  simp [step, stepWith, hcur, hc, hf, resp_of_mark rc]

/-- one step of a marked, open connection: either nothing is written and it stays open, or the step is the response —
`Connection: close`, then closed -/
theorem step_marked (c : Conn) (e : Ev) (hf : c.flag = true) (hc : c.closed = false) :
    ((step c e).2 = [] ∧ (step c e).1.closed = false) ∨
    ((step c e).2 = [Out.resp true, Out.closed] ∧ (step c e).1.closed = true) := by
  cases e with
  | mark => left; simp [step, stepWith, hc]
  | parse rc =>
    left
    simp only [step, stepWith]
    split <;> simp [hc]
  | respond =>
    cases hcur : c.cur with
    | none => left; simp [step, stepWith, hcur, hc]
    | some rc => exact Or.inr (respond_marked c rc hcur hf hc)

theorem run_marked (c : Conn) (evs : List Ev) (hf : c.flag = true) (hc : c.closed = false) :
    ((run c evs).2 = [] ∧ (run c evs).1.closed = false) ∨
    ((run c evs).2 = [Out.resp true, Out.closed] ∧ (run c evs).1.closed = true) := by
  induction evs generalizing c with
  | nil => left; exact ⟨rfl, hc⟩
  | cons e es ih =>
    rw [run_cons]
    rcases step_marked c e hf hc with ⟨h1, h2⟩ | ⟨h1, h2⟩
    · rw [h1]
      simp only [List.nil_append]
      exact ih _ (step_flag c e hf) h2
    · right
      rw [h1, (run_closed _ es h2).2]
      exact ⟨rfl, (run_closed _ es h2).1⟩

end MosnVerif.Lemmas.H1Drain
