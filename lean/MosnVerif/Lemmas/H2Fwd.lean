import MosnVerif.Lemmas.H2Msg
/-! The forwarding theorems of `Model/H2Msg.lean`, instantiated with the regenerated decisions (`Gen/C01H2Map`). -/
namespace MosnVerif.Lemmas.H2Fwd
open MosnVerif.Model.H2Msg MosnVerif.Gen MosnVerif.Lemmas.H2Msg

/-! regenerated facts: a changed guard / delivery / name list changes these or no longer compiles.  Each flag compares a
regenerated value with the form the model was written against; the two are the same literal, so the comparison is
`x == x` once the regenerated constant is unfolded — no string is ever evaluated. -/
theorem srvPassesTrailers_true : srvPassesTrailers = true := by
  simp [srvPassesTrailers, C01H2Map.serverFullDelivery, fullArgs, C01H2Map.serverTrailerGuard, C01H2Map.serverTrailerSource]
theorem cliPassesTrailers_true : cliPassesTrailers = true := by
  simp [cliPassesTrailers, C01H2Map.clientFullDelivery, fullArgs, C01H2Map.clientTrailerGuard, C01H2Map.clientTrailerSource]
theorem cliSendsTrailers_true : cliSendsTrailers = true := beq_self_eq_true _
theorem srvSendsTrailers_true : srvSendsTrailers = true := beq_self_eq_true _
theorem endStreamAsModelled_true : endStreamAsModelled = true := beq_self_eq_true _
theorem srvHeaderOnly_true : srvHeaderOnly = true := beq_self_eq_true _
theorem cliHeaderOnly_true : cliHeaderOnly = true := beq_self_eq_true _
theorem srvEmptyBuf : C01H2Map.serverEmptyBodyBuffer = true := rfl
theorem cliEmptyBuf : C01H2Map.clientEmptyBodyBuffer = true := rfl
theorem respContentType_nil : C01H2Map.respContentType = [] := rfl
theorem reqKeepsAll_true : reqKeepsAll = true := beq_self_eq_true _
theorem respKeepsAll_true : respKeepsAll = true := beq_self_eq_true _
theorem reqTrailerKeepsAll_true : reqTrailerKeepsAll = true := beq_self_eq_true _
theorem respTrailerKeepsAll_true : respTrailerKeepsAll = true := beq_self_eq_true _
theorem cookieSeparator_eq : C01H2Map.cookieSeparator = semiSp := rfl
theorem reqDeletesTrailerField_true : C01H2Map.reqDeletesTrailerField = true := rfl
theorem collectFields_true (fs : List Field) : collectFields true fs = ofFields fs := rfl
theorem joinCookies_eq (h : HMap) :
    joinCookies h = if (h.vals nCookie).length > 1 then h.setVals nCookie [joinWith semiSp (h.vals nCookie)] else h := by
  unfold joinCookies; rw [cookieSeparator_eq]

/-- what the HTTP/2 server stream hands to the proxy, with the regenerated decisions put in: the request line, the authority
(the Host field when there is none), the header map with the cookie crumbs joined and the Trailer announcement deleted; a
body and a trailer map unless END_STREAM came on the HEADERS frame -/
theorem srvDecode_eq (w : Wire) : srvDecode w =
    { a := pseudoGet w.pseudo nMethod,
      b := if pseudoGet w.pseudo nAuthority = [] then (valuesOf nHost w.fields).headD [] else pseudoGet w.pseudo nAuthority,
      c := pseudoGet w.pseudo nPath,
      hdr := (joinCookies (ofFields w.fields)).del nTrailer,
      data := if w.endOnHeaders then none else some w.body,
      trailers := if w.endOnHeaders then none else some (decodeTrailers true true w.trailers) } := by
  unfold srvDecode srvHdr srvHost
  cases w.endOnHeaders <;>
    simp [srvHeaderOnly_true, srvEmptyBuf, srvPassesTrailers_true, reqTrailerKeepsAll_true, reqKeepsAll_true,
      reqDeletesTrailerField_true, collectFields_true, vals_ofFields]

theorem srvDecode_hdr (w : Wire) : (srvDecode w).hdr = (joinCookies (ofFields w.fields)).del nTrailer := by
  rw [srvDecode_eq]

theorem srvHdr_keeps {P : HMap → Prop} (hP : KeyProp P) (w : Wire) (h : P (ofFields w.fields)) : P (srvDecode w).hdr := by
  rw [srvDecode_hdr]
  exact del_keeps hP _ _ (joinCookies_keeps hP _ h)

theorem distinct_srvHdr (w : Wire) : Distinct (srvDecode w).hdr := srvHdr_keeps keyProp_distinct w (distinct_ofFields _)

theorem contains_false_of_not_mem {l : List Bytes} {n : Bytes} (h : n ∉ l) : l.contains n = false := by
  simpa using h

/-- an entry the request encoder writes: not one of its own or the connection-specific names, the name unchanged, no value
that was not there -/
theorem reqEntry_some {e e' : Bytes × List Bytes} (h : reqEntry e = some e') :
    e.1 ∉ C01H2Map.reqOwnFields ∧ e.1 ∉ C01H2Map.reqConnSpecific ∧ e'.1 = e.1 ∧ ∀ v ∈ e'.2, v ∈ e.2 := by
  unfold reqEntry at h
  split at h
  · cases h
  · rename_i hc
    simp only [Bool.or_eq_true, List.contains_iff_mem, not_or] at hc
    refine ⟨hc.1, hc.2, ?_⟩
    split at h
    · split at h
      · cases h
      · cases h
        exact ⟨rfl, fun v hv => by unfold uaVals at hv; split at hv; exact List.mem_of_mem_take hv; exact hv⟩
    · cases h; exact ⟨rfl, fun _ hv => hv⟩

theorem reqEntry_key (e e' : Bytes × List Bytes) (h : reqEntry e = some e') : e'.1 = e.1 := (reqEntry_some h).2.2.1

/-- a field the request encoder writes from a header map: its name is none of the connection-specific or the encoder's own
ones, its value one of the map's values under that name -/
theorem mem_reqFieldsOf {h : HMap} {n v : Bytes} (hf : (n, v) ∈ reqFieldsOf h) :
    n ∉ C01H2Map.reqConnSpecific ∧ n ∉ C01H2Map.reqOwnFields ∧ (Distinct h → v ∈ h.vals n) := by
  obtain ⟨e', he', rfl, hv⟩ := mem_toFields.mp hf
  obtain ⟨e, he, hge⟩ := List.mem_filterMap.mp he'
  obtain ⟨hown, hconn, hk, hsub⟩ := reqEntry_some hge
  rw [hk]
  exact ⟨hconn, hown, fun hd => vals_of_mem h hd e he ▸ hsub v hv⟩

theorem valuesAt_reqFieldsOf (h : HMap) (hd : Distinct h) (n : Bytes)
    (hown : n ∉ C01H2Map.reqOwnFields) (hconn : n ∉ C01H2Map.reqConnSpecific) (hua : n ≠ nUA) :
    valuesAt n (reqFieldsOf h) = h.vals n := by
  unfold reqFieldsOf
  rw [valuesAt_toFields _ (filterMap_keeps keyProp_distinct _ _ reqEntry_key hd)]
  apply vals_filterMap _ _ reqEntry_key
  intro e he
  unfold reqEntry
  rw [he, contains_false_of_not_mem hown, contains_false_of_not_mem hconn]
  simp [hua]

theorem valuesAt_clField (n : Bytes) (hcl : n ≠ nCL) (x : Option Nat) : valuesAt n (clField x) = [] := by
  cases x <;> simp [clField, valuesAt, Ne.symm hcl]

/-- **every regular request field reaches the upstream**: for every name outside the encoder's own fields (host,
content-length), the connection-specific ones, user-agent (first value only), cookie (crumbs joined) and the trailer
announcement (consumed), the values written upstream under the lower-cased name are exactly the values received under that
name up to case — same values, same multiplicity, same relative order; for every target, every DATA framing, every window
schedule, every trailer block. -/
theorem req_fields_preserved (O : Oracles) (remote : Bytes) (win : List Nat) (w : Wire) (n : Bytes)
    (hown : n ∉ C01H2Map.reqOwnFields) (hconn : n ∉ C01H2Map.reqConnSpecific)
    (hua : n ≠ nUA) (hck : n ≠ nCookie) (htr : n ≠ nTrailer) (hcl : n ≠ nCL) :
    valuesAt n (fwdReqH2 O remote win w).fields = valuesOf n w.fields := by
  unfold fwdReqH2 cliEncode
  simp only [valuesAt_append]
  rw [valuesAt_reqFieldsOf _ (distinct_srvHdr w) n hown hconn hua, srvDecode_hdr, vals_del,
    vals_joinCookies_ne _ _ (Ne.symm hck), vals_ofFields]
  rw [valuesAt_clField n hcl]
  simp [Ne.symm htr]

/-! ### responses -/
/-- what the HTTP/2 client stream hands to the proxy, with the regenerated decisions put in -/
theorem cliDecode_eq (w : Wire) : cliDecode w =
    { a := pseudoGet w.pseudo nStatus, b := [], c := [],
      hdr := (ofFields w.fields).del nTrailer,
      data := if w.endOnHeaders then none else some w.body,
      trailers := if w.endOnHeaders then none else some (decodeTrailers true true w.trailers) } := by
  unfold cliDecode
  cases w.endOnHeaders <;>
    simp [cliHeaderOnly_true, cliEmptyBuf, cliPassesTrailers_true, respTrailerKeepsAll_true, respKeepsAll_true, collectFields_true]

theorem cliDecode_hdr (w : Wire) : (cliDecode w).hdr = (ofFields w.fields).del nTrailer := by
  rw [cliDecode_eq]

theorem distinct_cliHdr (w : Wire) : Distinct (cliDecode w).hdr := by
  rw [cliDecode_hdr]; exact del_keeps keyProp_distinct _ _ (distinct_ofFields _)

theorem respEntry_key (e : Bytes × List Bytes) : (respEntry e).1 = e.1 := by
  unfold respEntry; split <;> rfl

theorem respEntry_vals_sub (e : Bytes × List Bytes) : ∀ v ∈ (respEntry e).2, v ∈ e.2 := by
  unfold respEntry; split
  · intro v hv; exact (List.mem_filter.mp hv).1
  · intro v hv; exact hv

/-- a field the response encoder writes from a header map: its name is not one of the dropped ones, its value one of the
map's values under that name -/
theorem mem_respFieldsOf {h : HMap} {n v : Bytes} (hf : (n, v) ∈ respFieldsOf h) :
    n ∉ C01H2Map.respDropped ∧ (Distinct h → v ∈ h.vals n) := by
  obtain ⟨e', he', rfl, hv⟩ := mem_toFields.mp hf
  obtain ⟨e, he, rfl⟩ := List.mem_map.mp he'
  obtain ⟨he, hk⟩ := List.mem_filter.mp he
  rw [respEntry_key]
  exact ⟨fun hm => by simp [respKeep, hm] at hk, fun hd => vals_of_mem h hd e he ▸ respEntry_vals_sub e v hv⟩

theorem valuesAt_respFieldsOf (h : HMap) (hd : Distinct h) (n : Bytes)
    (hdrop : n ∉ C01H2Map.respDropped) (hte : n ≠ C01H2Map.respTEName) :
    valuesAt n (respFieldsOf h) = h.vals n := by
  unfold respFieldsOf
  rw [valuesAt_toFields _ (map_keeps keyProp_distinct _ _ respEntry_key (filter_keeps keyProp_distinct _ _ hd)),
    vals_map _ _ respEntry_key n, vals_filter]
  · intro e he; unfold respKeep; rw [he, contains_false_of_not_mem hdrop]; rfl
  · intro e he; unfold respEntry; rw [he]; simp [hte]

theorem valuesAt_optField_ne (n k v : Bytes) (h : n ≠ k) : valuesAt n (optField k v) = [] := by
  unfold optField; split <;> simp [valuesAt, Ne.symm h]

/-! ### nothing is invented -/
theorem mem_vals_srvHdr (w : Wire) (n v : Bytes) (hck : n ≠ nCookie) (h : v ∈ (srvDecode w).hdr.vals n) :
    v ∈ valuesOf n w.fields := by
  rw [srvDecode_hdr, vals_del, List.mem_ite_nil_left, vals_joinCookies_ne _ _ (Ne.symm hck), vals_ofFields] at h
  exact h.2

/-- **no invented request field**: whatever the upstream receives under a name other than content-length (computed from
the body, `reqSendsCL`) and cookie (crumbs joined) was sent by the client under that name. -/
theorem req_no_invented_field (O : Oracles) (remote : Bytes) (win : List Nat) (w : Wire) (n v : Bytes)
    (hcl : n ≠ nCL) (hck : n ≠ nCookie) (h : v ∈ valuesAt n (fwdReqH2 O remote win w).fields) :
    v ∈ valuesOf n w.fields := by
  unfold fwdReqH2 cliEncode at h
  simp only [valuesAt_append, valuesAt_clField n hcl, List.append_nil] at h
  exact mem_vals_srvHdr w n v hck ((mem_reqFieldsOf (mem_valuesAt.mp h)).2.2 (distinct_srvHdr w))

/-! ### bodies -/
/-- **body = concatenation of the DATA payloads, whatever the DATA framing on either side**: for every chunking of the
request (`w.chunks`) and every window schedule of the upstream connection (`win`) -/
theorem req_body_preserved (O : Oracles) (remote : Bytes) (win : List Nat) (w : Wire)
    (hwf : w.endOnHeaders = true → w.chunks = []) : (fwdReqH2 O remote win w).body = w.body := by
  unfold fwdReqH2 cliEncode Wire.body
  rw [srvDecode_eq]
  cases he : w.endOnHeaders
  · simp [flatten_splitBy, Wire.body]
  · simp [hwf he]

/-! ### pseudo fields -/
theorem splitTarget_join (t : Bytes) :
    (splitTarget t).1 ++ (if (splitTarget t).2.1 then qmark :: (splitTarget t).2.2 else []) = t := by
  simp only [splitTarget]
  induction t with
  | nil => simp
  | cons a r ih =>
    by_cases ha : a = qmark
    · subst ha; simp [List.takeWhile, List.dropWhile]
    · simp only [List.takeWhile_cons, List.dropWhile_cons, ne_eq, ha, not_false_eq_true, decide_true, if_true,
        List.cons_append]
      exact congrArg (a :: ·) ih

theorem pseudo4_authority (a m p s : Bytes) :
    pseudoGet [(nAuthority, a), (nMethod, m), (nPath, p), (nScheme, s)] nAuthority = a := by
  simp [pseudoGet, List.find?]
theorem pseudo4_method (a m p s : Bytes) :
    pseudoGet [(nAuthority, a), (nMethod, m), (nPath, p), (nScheme, s)] nMethod = m := by
  simp [pseudoGet, List.find?, nAuthority, nMethod]
theorem pseudo4_path (a m p s : Bytes) :
    pseudoGet [(nAuthority, a), (nMethod, m), (nPath, p), (nScheme, s)] nPath = p := by
  simp [pseudoGet, List.find?, nAuthority, nMethod, nPath]
theorem pseudo4_scheme (a m p s : Bytes) :
    pseudoGet [(nAuthority, a), (nMethod, m), (nPath, p), (nScheme, s)] nScheme = s := by
  simp [pseudoGet, List.find?, nAuthority, nMethod, nPath, nScheme]

theorem fwdReqH2_pseudo (O : Oracles) (remote : Bytes) (win : List Nat) (w : Wire) :
    (fwdReqH2 O remote win w).pseudo =
      [(nAuthority, if pseudoGet w.pseudo nAuthority = [] then (valuesOf nHost w.fields).headD []
                    else pseudoGet w.pseudo nAuthority),
       (nMethod, pseudoGet w.pseudo nMethod),
       (nPath, let s := splitTarget (pseudoGet w.pseudo nPath)
               (O.escaped s.1).getD [] ++ (if s.2.1 then qmark :: s.2.2 else [])),
       (nScheme, sHTTP)] := by
  unfold fwdReqH2 cliEncode
  rw [srvDecode_eq]
  simp only [C01H2Map.clientAppendHeaders]
  simp [sHTTP]
  split <;> simp

/-- **method, path + query, authority round trip** (HTTP/2 → HTTP/2): for every request, the upstream receives the same
`:method`, the same `:authority` (or the Host field when the client sent none), scheme `http`, and the same `:path` byte for
byte — path and query, including an empty query's `?` — whenever net/url's parse-and-print of the path part is the identity
(`O.escaped p = some p`: every path without the characters net/url re-escapes). -/
theorem req_pseudo_roundtrip (O : Oracles) (remote : Bytes) (win : List Nat) (w : Wire)
    (hesc : O.escaped (splitTarget (pseudoGet w.pseudo nPath)).1 = some (splitTarget (pseudoGet w.pseudo nPath)).1) :
    let out := fwdReqH2 O remote win w
    pseudoGet out.pseudo nMethod = pseudoGet w.pseudo nMethod ∧
    pseudoGet out.pseudo nPath = pseudoGet w.pseudo nPath ∧
    pseudoGet out.pseudo nScheme = sHTTP ∧
    pseudoGet out.pseudo nAuthority =
      (if pseudoGet w.pseudo nAuthority = [] then (valuesOf nHost w.fields).headD [] else pseudoGet w.pseudo nAuthority) := by
  intro out
  have hp : out.pseudo = _ := fwdReqH2_pseudo O remote win w
  have hj := splitTarget_join (pseudoGet w.pseudo nPath)
  refine ⟨?_, ?_, ?_, ?_⟩
  · rw [hp, pseudo4_method]
  · rw [hp, pseudo4_path]
    simp only [hesc, Option.getD_some]
    exact hj
  · rw [hp, pseudo4_scheme]
  · rw [hp, pseudo4_authority]

/-! ### trailers -/
/-- the trailer block the encoder writes for a received one: the fields of the collected map (no block when there is no
field, which reads the same) -/
theorem trailerBlock_eq (t : Option (List Field)) :
    (trailerBlock true (some (decodeTrailers true true t))).getD [] = toFields (ofFields (t.getD [])) := by
  have h : decodeTrailers true true t = ofFields (t.getD []) := by cases t <;> rfl
  simp only [trailerBlock, h, endStreamAsModelled_true, Bool.true_and]
  cases toFields (ofFields (t.getD [])) <;> rfl

theorem trailerBlock_values (t : Option (List Field)) (n : Bytes) :
    valuesAt n ((trailerBlock true (some (decodeTrailers true true t))).getD []) = valuesOf n (t.getD []) := by
  rw [trailerBlock_eq, valuesAt_toFields _ (distinct_ofFields _), vals_ofFields]

/-- **request trailers are preserved**: every trailer field reaches the upstream with the same name up to case, value,
multiplicity and relative order — announced or not, after a body of any length **including the empty body and no DATA frame
at all**; an empty trailer block is forwarded as END_STREAM on a DATA frame. -/
theorem req_trailers_preserved (O : Oracles) (remote : Bytes) (win : List Nat) (w : Wire) (n : Bytes)
    (hopen : w.endOnHeaders = false) :
    valuesAt n ((fwdReqH2 O remote win w).trailers.getD []) = valuesOf n (w.trailers.getD []) := by
  unfold fwdReqH2 cliEncode
  rw [srvDecode_eq]
  simp only [hopen, cliSendsTrailers_true]
  exact trailerBlock_values w.trailers n

/-! ### cookie crumbs -/
theorem vals_setVals_self (m : HMap) (k : Bytes) (ws : List Bytes) (h : m.vals k ≠ []) : (m.setVals k ws).vals k = ws := by
  fun_induction HMap.setVals m k ws <;> simp_all [HMap.vals]

/-- **cookie crumbs** (RFC 7540 8.1.2.5): several `cookie` fields reach the upstream as ONE field, the crumbs joined with
"; " in their order; a single one unchanged -/
theorem req_cookie_crumbs (O : Oracles) (remote : Bytes) (win : List Nat) (w : Wire) :
    valuesAt nCookie (fwdReqH2 O remote win w).fields =
      (if (valuesOf nCookie w.fields).length > 1 then [joinWith semiSp (valuesOf nCookie w.fields)] else valuesOf nCookie w.fields) := by
  unfold fwdReqH2 cliEncode
  simp only [valuesAt_append]
  rw [valuesAt_clField nCookie (by decide), valuesAt_reqFieldsOf _ (distinct_srvHdr w) nCookie (by decide) (by decide) (by decide),
    srvDecode_hdr, vals_del]
  simp only [show ¬ nTrailer = nCookie by decide, if_false, List.append_nil]
  rw [joinCookies_eq]
  rw [vals_ofFields]
  split
  · rename_i h
    rw [vals_setVals_self]
    rw [vals_ofFields]
    intro h0; rw [h0] at h; simp at h
  · rw [vals_ofFields]

/-! ### cross protocol -/
theorem transcoders_keep_all :
    transcoderKeepsAll "httpTohttp2.TranscodingRequest" = true ∧ transcoderKeepsAll "httpTohttp2.TranscodingResponse" = true ∧
    transcoderKeepsAll "http2Tohttp.TranscodingRequest" = true ∧ transcoderKeepsAll "http2Tohttp.TranscodingResponse" = true := by
  simp [transcoderKeepsAll, C01H2Map.transcoders]

theorem convert_true (h : HMap) : convert true h = h := rfl

def special : List Bytes := [nUA, nCT, nServer]

theorem keepSpecial_of_not_special (e : Bytes × List Bytes) (h : e.1 ∉ special) : keepSpecial e = true := by
  unfold keepSpecial
  simp only [special, List.mem_cons, List.not_mem_nil, or_false, not_or] at h
  simp [h.1, h.2.1, h.2.2]

theorem vals_dropEmptySpecial (h : HMap) (n : Bytes) (hn : n ∉ special) : (dropEmptySpecial h).vals n = h.vals n := by
  unfold dropEmptySpecial
  apply vals_filter
  intro e he
  exact keepSpecial_of_not_special e (he ▸ hn)

theorem distinct_dropEmptySpecial (h : HMap) (hd : Distinct h) : Distinct (dropEmptySpecial h) :=
  filter_keeps keyProp_distinct _ _ hd

theorem mem_clField (x : Option Nat) (f : Field) (h : f ∈ clField x) : f.1 = nCL := by
  cases x with
  | none => simp [clField] at h
  | some k => simp [clField] at h; rw [h]

theorem mem_optField (k v : Bytes) (f : Field) (h : f ∈ optField k v) : f.1 = k := by
  unfold optField at h
  split at h
  · simp at h
  · simp at h; rw [h]

theorem valuesAt_cons_ne (n k v : Bytes) (rest : List Field) (h : n ≠ k) : valuesAt n ((k, v) :: rest) = valuesAt n rest := by
  simp [valuesAt, Ne.symm h]

/-! ### HTTP/1.1 → HTTP/2: the request line -/
/-- the path `clientStream.AppendHeaders` puts into the URL for a converted request: the unescaped original path when the
path variable still is its normalisation, else the path variable -/
def x12PathUsed (O : Oracles) (p : Bytes) : Bytes := (O.unescape p).getD (O.fhNorm p)

theorem pathUsed_eq (u : Option Bytes) (f : Bytes) :
    (if u.isSome = true ∧ ¬ u.getD [] = f then u.getD [] else f) = u.getD f := by
  cases u with
  | none => simp
  | some x => by_cases h : x = f <;> simp [h]

theorem splitTarget_hadQ (t : Bytes) (h : (splitTarget t).2.2 ≠ []) : (splitTarget t).2.1 = true := by
  unfold splitTarget at *
  simp only at *
  generalize List.dropWhile (fun x => decide (x ≠ qmark)) t = r at *
  cases r <;> simp_all

theorem x12_req_pseudo_eq (O : Oracles) (remote : Bytes) (win : List Nat) (w : Wire)
    (hm : pseudoGet w.pseudo nMethod ≠ []) (hh : lower ((valuesOf nHost w.fields).headD []) ≠ []) :
    (x12Req O remote win w).pseudo =
      [(nAuthority, lower ((valuesOf nHost w.fields).headD [])), (nMethod, pseudoGet w.pseudo nMethod),
       (nPath, let s := splitTarget (pseudoGet w.pseudo nPath)
               O.escapedOf (x12PathUsed O s.1) s.1 ++ (if s.2.2 = [] then [] else qmark :: s.2.2)),
       (nScheme, sHTTP)] := by
  unfold x12Req cliEncode x12PathUsed
  simp only [C01H2Map.clientAppendHeaders, vals_ofFields]
  simp [sHTTP, hm, pathUsed_eq]
  by_cases hq : (splitTarget (pseudoGet w.pseudo nPath)).2.2 = [] <;> simp [hq] <;> intro h <;> simp_all

end MosnVerif.Lemmas.H2Fwd
