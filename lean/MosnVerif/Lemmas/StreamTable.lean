import MosnVerif.Model.StreamTable
import MosnVerif.Lemmas.KeyedList
/-! The association list refines a finite map; the table invariant along every run; closed forms of the id
generators and when two allocations collide. -/
namespace MosnVerif.Model.StreamTable
open MosnVerif.Gen.StreamIds

theorem lookup_nil (k : Int) : lookup [] k = none := rfl

theorem lookup_cons (e : Int × Nat) (t : Table) (k : Int) :
    lookup (e :: t) k = if e.1 = k then some e.2 else lookup t k := by
  unfold lookup
  by_cases h : e.1 = k <;> simp [h]

theorem lookup_erase (t : Table) (k k' : Int) : lookup (erase t k) k' = if k' = k then none else lookup t k' := by
  rw [lookup, erase, Lemmas.KeyedList.find?_filter_ne]
  split <;> rfl

theorem lookup_erase_self (t : Table) (k : Int) : lookup (erase t k) k = none := by rw [lookup_erase]; simp

theorem lookup_erase_some {t : Table} {k k' : Int} {w : Nat} (h : lookup (erase t k) k' = some w) :
    k' ≠ k ∧ lookup t k' = some w := by
  rw [lookup_erase] at h; split at h <;> simp_all

theorem erase_of_lookup_none (t : Table) (k : Int) (h : lookup t k = none) : erase t k = t := by
  unfold lookup at h
  rw [Option.map_eq_none_iff, List.find?_eq_none] at h
  exact List.filter_eq_self.mpr (fun e he => by simpa using h e he)

/-- refinement: insert and erase on the association list are function update on `lookup`. -/
theorem lookup_insert (t : Table) (k : Int) (v : Nat) (k' : Int) :
    lookup (insert t k v) k' = if k' = k then some v else lookup t k' := by
  unfold insert
  rw [lookup_cons, lookup_erase]
  by_cases h : k' = k
  · simp [h]
  · have : k ≠ k' := fun e => h e.symm
    simp [h, this]

theorem mem_erase (t : Table) (k : Int) (e : Int × Nat) : e ∈ erase t k ↔ e ∈ t ∧ e.1 ≠ k := by
  simp [erase, List.mem_filter]

theorem lookup_mem (t : Table) (k : Int) (w : Nat) (h : lookup t k = some w) : (k, w) ∈ t :=
  Lemmas.KeyedList.mem_of_find? h

theorem lookup_of_mem_nodup (t : Table) (e : Int × Nat) (he : e ∈ t) (hk : (t.map (·.1)).Nodup) : lookup t e.1 = some e.2 := by
  induction t with
  | nil => simp at he
  | cons a r ih =>
    rw [lookup_cons]
    rw [List.map_cons, List.nodup_cons] at hk
    rw [List.mem_cons] at he
    rcases he with he | he
    · subst he; simp
    · have hne : a.1 ≠ e.1 := by
        intro heq; apply hk.1; rw [heq]; exact List.mem_map.mpr ⟨e, he, rfl⟩
      simp only [hne, if_false]
      exact ih he hk.2

theorem keys_erase_nodup (t : Table) (k : Int) (h : (t.map (·.1)).Nodup) : ((erase t k).map (·.1)).Nodup :=
  List.Nodup.sublist (List.Sublist.map _ List.filter_sublist) h

theorem keys_erase_not_mem (t : Table) (k : Int) : k ∉ (erase t k).map (·.1) := by
  intro h
  obtain ⟨e, he, hk⟩ := List.mem_map.mp h
  exact ((mem_erase t k e).mp he).2 hk

theorem keys_insert_nodup (t : Table) (k : Int) (v : Nat) (h : (t.map (·.1)).Nodup) :
    ((insert t k v).map (·.1)).Nodup := by
  unfold insert
  rw [List.map_cons, List.nodup_cons]
  exact ⟨keys_erase_not_mem t k, keys_erase_nodup t k h⟩

structure TInv (s : Conn) : Prop where
  keys : (s.table.map (·.1)).Nodup
  entry : ∀ e, e ∈ s.table → e.2 < s.nW ∧ (s.waiter e.2).id = e.1 ∧ (s.waiter e.2).got = []
  got : ∀ w, w < s.nW → (s.waiter w).got.length ≤ 1 ∧ ∀ g, g ∈ (s.waiter w).got → g.1 = (s.waiter w).id

theorem tinv_init (p : Proto) (b : Int) : TInv (init p b) :=
  ⟨by simp [init], by simp [init], by simp [init]⟩

/-- a field of the stream objects that `f` leaves alone is the same after `updW` -/
theorem updW_field {α} (g : Waiter → α) (s : Conn) (w : Nat) (f : Waiter → Waiter) (hf : ∀ x, g (f x) = g x)
    (k : Nat) : g ((s.updW w f).waiter k) = g (s.waiter k) := by
  simp only [Conn.updW]
  split
  · rename_i h; subst h; exact hf _
  · rfl

/-- `t` has the counter, the protocol, the table and the number of stream objects of `s`, and every stream object has kept
its id and what it received -/
structure Keeps (s t : Conn) : Prop where
  table : t.table = s.table
  nW : t.nW = s.nW
  proto : t.proto = s.proto
  base : t.base = s.base
  ids : ∀ k, (t.waiter k).id = (s.waiter k).id
  got : ∀ k, (t.waiter k).got = (s.waiter k).got

namespace Keeps
variable {s t : Conn}

theorem refl (s : Conn) : Keeps s s := ⟨rfl, rfl, rfl, rfl, fun _ => rfl, fun _ => rfl⟩

protected theorem updW (e : Keeps s t) (w : Nat) (f : Waiter → Waiter) (hf : ∀ x, (f x).id = x.id ∧ (f x).got = x.got) :
    Keeps s (t.updW w f) :=
  ⟨e.table, e.nW, e.proto, e.base, fun k => (updW_field Waiter.id t w f (fun x => (hf x).1) k).trans (e.ids k),
    fun k => (updW_field Waiter.got t w f (fun x => (hf x).2) k).trans (e.got k)⟩

protected theorem baseReset (e : Keeps s t) (w : Nat) : Keeps s (baseReset t w) := by
  unfold baseReset
  split
  · exact e.updW w _ fun _ => ⟨rfl, rfl⟩
  · exact e

protected theorem resetAll (l : List (Int × Nat)) (e : Keeps s t) : Keeps s (resetAll t l) := by
  induction l generalizing t with
  | nil => exact e
  | cons x l ih => exact ih ((e.updW x.2 (fun y => { y with connReset := true }) fun _ => ⟨rfl, rfl⟩).baseReset x.2)

end Keeps

theorem tinv_of_keeps {s t : Conn} (h : TInv s) (e : Keeps s t) : TInv t := by
  refine ⟨by rw [e.table]; exact h.keys, ?_, ?_⟩
  · intro x hx; rw [e.table] at hx
    rw [e.nW, e.ids, e.got]; exact h.entry x hx
  · intro w hw; rw [e.nW] at hw
    rw [e.ids, e.got]; exact h.got w hw

theorem tinv_erase (s : Conn) (h : TInv s) (k : Int) : TInv { s with table := erase s.table k } :=
  ⟨keys_erase_nodup _ _ h.keys, fun e he => h.entry e ((mem_erase _ _ _).mp he).1, h.got⟩

/-- a new stream object with a freshly generated id (not yet in the table) -/
def allocated (s : Conn) (oneway : Bool) : Conn :=
  { s with base := (gen s.proto s.base).1, nW := s.nW + 1,
           waiter := fun k => if k = s.nW then { id := (gen s.proto s.base).2, registered := !oneway } else s.waiter k }

theorem step_newStream (s : Conn) (oneway : Bool) :
    step s (.newStream oneway) =
      if registers (!oneway) then { allocated s oneway with table := insert s.table (gen s.proto s.base).2 s.nW }
      else allocated s oneway := rfl

/-- `ResetStream` may delete the stream's id from the table; counter, protocol, ids and received replies stay -/
theorem resetStream_keeps (s : Conn) (w : Nat) :
    Keeps s (step s (.resetStream w)) ∨ Keeps { s with table := erase s.table (s.waiter w).id } (step s (.resetStream w)) := by
  simp only [step]
  split
  · split
    · exact .inr ((Keeps.refl _).baseReset w)
    · exact .inl ((Keeps.refl s).baseReset w)
  · exact .inl (Keeps.refl s)

theorem newStream_fields (c : Conn) (o : Bool) :
    (step c (.newStream o)).nW = c.nW + 1 ∧
    (∀ k, k ≠ c.nW → (step c (.newStream o)).waiter k = c.waiter k) ∧
    ((step c (.newStream o)).waiter c.nW).id = (gen c.proto c.base).2 ∧ ((step c (.newStream o)).waiter c.nW).got = [] := by
  rw [step_newStream]; split <;> simp +contextual [allocated]

theorem step_reply_some (c : Conn) (id : Int) (tok w : Nat) (h : lookup c.table id = some w) :
    step c (.reply id tok) =
      ({ c with table := erase c.table id }).updW w (fun x => { x with live := false, got := x.got ++ [(id, tok)] }) := by
  simp [step, h]

theorem reply_fields (c : Conn) (id : Int) (tok w : Nat) (h : lookup c.table id = some w) :
    (step c (.reply id tok)).nW = c.nW ∧
    (∀ k, ((step c (.reply id tok)).waiter k).id = (c.waiter k).id) ∧
    (∀ k, k ≠ w → ((step c (.reply id tok)).waiter k).got = (c.waiter k).got) ∧
    ((step c (.reply id tok)).waiter w).got = (c.waiter w).got ++ [(id, tok)] := by
  rw [step_reply_some c id tok w h]
  refine ⟨rfl, updW_field Waiter.id _ w _ (fun _ => by rfl), ?_, ?_⟩
  · intro k hk; simp [Conn.updW, hk]
  · simp [Conn.updW]

/-- an operation that opens no stream leaves the number of stream objects alone, and a stream object that has received
its reply keeps it (a `reply` goes to an object still in the table, which has received nothing) -/
theorem step_keeps (c : Conn) (h : TInv c) (op : Op) (hn : ∀ o, op ≠ .newStream o) :
    (step c op).nW = c.nW ∧ ∀ w, (c.waiter w).got ≠ [] → ((step c op).waiter w).got = (c.waiter w).got := by
  cases op with
  | newStream o => exact absurd rfl (hn o)
  | reply id tok =>
    cases hl : lookup c.table id with
    | none => simp [step, hl]
    | some w =>
      have hf := reply_fields c id tok w hl
      exact ⟨hf.1, fun v hne => hf.2.2.1 v fun e => hne (e ▸ (h.entry _ (lookup_mem _ _ _ hl)).2.2)⟩
  | resetStream w => exact (resetStream_keeps c w).elim (fun e => ⟨e.nW, fun v _ => e.got v⟩) (fun e => ⟨e.nW, fun v _ => e.got v⟩)
  | connReset => exact ⟨((Keeps.refl c).resetAll c.table).nW, fun v _ => ((Keeps.refl c).resetAll c.table).got v⟩
  | setBase v => exact ⟨rfl, fun _ _ => rfl⟩

/-- a stream reset by its user (not by a connection reset) is gone from the table -/
theorem lookup_after_reset (c : Conn) (w : Nat) (hw : w < c.nW) (hcr : (c.waiter w).connReset = false) :
    lookup (step c (.resetStream w)).table (c.waiter w).id = none := by
  simp only [step, hw, if_true, hcr]
  have hd : resetDeletes clientStream false = true := by decide
  simp only [hd, if_true]
  rw [((Keeps.refl _).baseReset w).table]
  exact lookup_erase_self _ _

theorem tinv_step (s : Conn) (h : TInv s) (op : Op) : TInv (step s op) := by
  cases op with
  | newStream oneway =>
    rw [step_newStream]
    have hbase : TInv (allocated s oneway) := by
      refine ⟨h.keys, ?_, ?_⟩
      · intro e he
        have ⟨h1, h2, h3⟩ := h.entry e he
        have hne : e.2 ≠ s.nW := Nat.ne_of_lt h1
        simp only [allocated, hne, if_false]
        exact ⟨by omega, h2, h3⟩
      · intro w hw
        simp only [allocated] at hw ⊢
        by_cases hwn : w = s.nW
        · simp [hwn]
        · simp only [hwn, if_false]; exact h.got w (by omega)
    split
    · refine ⟨keys_insert_nodup _ _ _ h.keys, ?_, hbase.got⟩
      intro e he
      simp only [insert, List.mem_cons] at he
      rcases he with he | he
      · subst he; simp [allocated]
      · exact hbase.entry e ((mem_erase _ _ _).mp he).1
    · exact hbase
  | reply id tok =>
    simp only [step]
    cases hl : lookup s.table id with
    | none => exact h
    | some w =>
      simp only []
      have hm := lookup_mem _ _ _ hl
      have ⟨hw1, hw2, hw3⟩ := h.entry (id, w) hm
      refine ⟨keys_erase_nodup _ _ h.keys, ?_, ?_⟩
      · intro e he
        have ⟨he1, he2⟩ := (mem_erase _ _ _).mp he
        have ⟨h1, h2, h3⟩ := h.entry e he1
        have hne : e.2 ≠ w := by
          intro heq; apply he2; rw [← h2, heq]; exact hw2
        simp only [Conn.updW, hne, if_false]
        exact ⟨h1, h2, h3⟩
      · intro k hk
        simp only [Conn.updW]
        by_cases hkw : k = w
        · subst hkw
          simp only [if_true]
          simp only [] at hw2 hw3
          rw [hw3]
          refine ⟨by simp, ?_⟩
          intro g hg; simp at hg; subst hg; exact hw2.symm
        · simp only [hkw, if_false]; exact h.got k hk
  | resetStream w => exact (resetStream_keeps s w).elim (tinv_of_keeps h) (tinv_of_keeps (tinv_erase s h _))
  | connReset => exact tinv_of_keeps h ((Keeps.refl s).resetAll s.table)
  | setBase v => exact { h with }

theorem tinv_run (s : Conn) (h : TInv s) (ops : List Op) : TInv (run s ops) := by
  induction ops generalizing s with
  | nil => exact h
  | cons op r ih => exact ih _ (tinv_step s h op)

/-- counter after `n` allocations -/
def baseAfter (p : Proto) (b : Int) : Nat → Int
  | 0 => b
  | n + 1 => (gen p (baseAfter p b n)).1
/-- id handed out by the (n+1)-th allocation -/
def idAt (p : Proto) (b : Int) (n : Nat) : Int := (gen p (baseAfter p b n)).2

theorem gen_fst (p : Proto) (b : Int) : (gen p b).1 = (b + 1) % 18446744073709551616 := by
  cases p <;> rfl

theorem baseAfter_eq (p : Proto) (b : Int) (hb : 0 ≤ b ∧ b < 18446744073709551616) (n : Nat) :
    baseAfter p b n = (b + n) % 18446744073709551616 := by
  induction n with
  | zero => simp only [baseAfter]; omega
  | succ n ih => rw [baseAfter, gen_fst, ih, Int.emod_add_emod, Int.natCast_succ, Int.add_assoc]

theorem idAt_gen (p : Proto) (b : Int) (hb : 0 ≤ b ∧ b < 18446744073709551616) (n : Nat) :
    idAt p b n = (gen p ((b + n) % 18446744073709551616)).2 := by
  rw [idAt, baseAfter_eq p b hb n]

/-- boltv2 generates its ids as bolt does -/
theorem idAt_bolt (p : Proto) (hp : gen p = genBolt) (b : Int) (hb : 0 ≤ b ∧ b < 18446744073709551616) (n : Nat) :
    idAt p b n = (b + n + 1) % 4294967296 := by
  rw [idAt_gen p b hb n, hp]
  simp only [genBolt, addU64, u64, u32, Int.emod_add_emod]
  omega

/-- dubbo-thrift generates its ids as dubbo does -/
theorem idAt_dubbo (p : Proto) (hp : gen p = genDubbo) (b : Int) (hb : 0 ≤ b ∧ b < 18446744073709551616) (n : Nat) :
    idAt p b n = (b + n + 1) % 18446744073709551616 := by
  rw [idAt_gen p b hb n, hp]
  simp only [genDubbo, addU64, u64, Int.emod_add_emod]

theorem idAt_tars (b : Int) (hb : 0 ≤ b ∧ b < 18446744073709551616) (n : Nat) :
    idAt .tars b n = (if (b + n + 1) % 4294967296 < 2147483648 then (b + n + 1) % 4294967296
                      else (b + n + 1) % 4294967296 + 18446744069414584320) := by
  rw [idAt_gen .tars b hb n]
  simp only [gen, genTars, addU64, u64, i32, Int.emod_add_emod,
    Int.emod_emod_of_dvd _ (show (4294967296 : Int) ∣ 18446744073709551616 by decide)]
  split
  · omega
  · omega

/-- period of the id generator of a protocol -/
def period : Proto → Nat
  | .bolt | .boltv2 | .tars => 4294967296
  | .dubbo | .thrift => 18446744073709551616

/-- two allocations get the same id exactly when their counters agree modulo the period -/
theorem idAt_eq_iff (p : Proto) (b : Int) (hb : 0 ≤ b ∧ b < 18446744073709551616) (i j : Nat) :
    idAt p b i = idAt p b j ↔ (b + i + 1) % (period p : Int) = (b + j + 1) % (period p : Int) := by
  cases p
  · rw [idAt_bolt .bolt rfl b hb, idAt_bolt .bolt rfl b hb]; exact Iff.rfl
  · rw [idAt_bolt .boltv2 rfl b hb, idAt_bolt .boltv2 rfl b hb]; exact Iff.rfl
  · rw [idAt_dubbo .dubbo rfl b hb, idAt_dubbo .dubbo rfl b hb]; exact Iff.rfl
  · rw [idAt_dubbo .thrift rfl b hb, idAt_dubbo .thrift rfl b hb]; exact Iff.rfl
  · rw [idAt_tars b hb, idAt_tars b hb]
    show _ ↔ (b + i + 1) % 4294967296 = (b + j + 1) % 4294967296
    generalize (b + i + 1) % 4294967296 = r
    generalize (b + j + 1) % 4294967296 = r'
    split <;> split <;> omega

theorem idAt_distinct (p : Proto) (b : Int) (hb : 0 ≤ b ∧ b < 18446744073709551616) (i j : Nat)
    (hij : i < j) (hd : j - i < period p) : idAt p b i ≠ idAt p b j := by
  intro e
  have e := ((idAt_eq_iff p b hb i j).mp e).symm
  rw [Int.emod_eq_emod_iff_emod_sub_eq_zero] at e
  have := Int.le_of_dvd (by omega) (Int.dvd_of_emod_eq_zero e)
  omega

theorem idAt_wrap (p : Proto) (b : Int) (hb : 0 ≤ b ∧ b < 18446744073709551616) (n : Nat) :
    idAt p b (n + period p) = idAt p b n := by
  rw [idAt_eq_iff p b hb, ← Int.add_emod_right (b + n + 1)]
  congr 1
  omega

theorem u64_range (v : Int) : 0 ≤ u64 v ∧ u64 v < 18446744073709551616 := by
  unfold u64; omega

def Op.isSetBase : Op → Bool
  | .setBase _ => true
  | _ => false

-- along a run without `setBase` the w-th stream object carries the id of the w-th allocation
structure IdInv (s : Conn) (p : Proto) (b0 : Int) : Prop where
  proto : s.proto = p
  base : s.base = baseAfter p b0 s.nW
  ids : ∀ w, w < s.nW → (s.waiter w).id = idAt p b0 w

theorem idinv_of_keeps {s t : Conn} {p : Proto} {b0 : Int} (h : IdInv s p b0) (e : Keeps s t) : IdInv t p b0 :=
  ⟨e.proto.trans h.proto, by rw [e.base, e.nW]; exact h.base, fun w hw => by rw [e.ids w]; exact h.ids w (e.nW ▸ hw)⟩

theorem idinv_step (s : Conn) (p : Proto) (b0 : Int) (h : IdInv s p b0) (op : Op) (hop : op.isSetBase = false) :
    IdInv (step s op) p b0 := by
  cases op with
  | newStream oneway =>
    rw [step_newStream]
    have hal : IdInv (allocated s oneway) p b0 := by
      refine ⟨h.proto, ?_, ?_⟩
      · simp only [allocated, baseAfter]; rw [h.proto, h.base]
      · intro w hw
        simp only [allocated] at hw ⊢
        by_cases hwn : w = s.nW
        · subst hwn; simp only [if_true, idAt]; rw [h.proto, h.base]
        · simp only [hwn, if_false]; exact h.ids w (by omega)
    split
    · exact { hal with }
    · exact hal
  | reply id tok =>
    simp only [step]
    cases hl : lookup s.table id with
    | none => exact h
    | some w =>
      exact ⟨h.proto, h.base, fun v hv => (updW_field Waiter.id _ w _ (fun _ => by rfl) v).trans (h.ids v hv)⟩
  | resetStream w =>
    exact (resetStream_keeps s w).elim (idinv_of_keeps h) (idinv_of_keeps { h with })
  | connReset => exact idinv_of_keeps h ((Keeps.refl s).resetAll s.table)
  | setBase v => simp [Op.isSetBase] at hop

theorem idinv_run (s : Conn) (p : Proto) (b0 : Int) (h : IdInv s p b0) (ops : List Op)
    (hops : ∀ op, op ∈ ops → op.isSetBase = false) : IdInv (run s ops) p b0 := by
  induction ops generalizing s with
  | nil => exact h
  | cons op r ih =>
    exact ih _ (idinv_step s p b0 h op (hops op (by simp))) (fun o ho => hops o (by simp [ho]))

def OnlyLatest (s : Conn) : Prop := s.table = [] ∨ ∃ id, s.table = [(id, s.nW - 1)] ∧ 0 < s.nW

/-- the op list never opens a stream while another is registered (what the ping-pong pool guarantees, C09) -/
def Exclusive (s : Conn) : List Op → Prop
  | [] => True
  | .newStream o :: r => s.table = [] ∧ Exclusive (step s (.newStream o)) r
  | op :: r => Exclusive (step s op) r

theorem onlyLatest_erase {s : Conn} (h : OnlyLatest s) (k : Int) : OnlyLatest { s with table := erase s.table k } := by
  rcases h with h | ⟨i, hi, hn⟩
  · left; show erase s.table k = []; rw [h]; rfl
  · show erase s.table k = [] ∨ ∃ id, erase s.table k = [(id, s.nW - 1)] ∧ 0 < s.nW
    rw [hi]
    by_cases hik : i = k
    · left; simp [erase, hik]
    · right; exact ⟨i, by simp [erase, hik], hn⟩

theorem onlyLatest_step (s : Conn) (h : OnlyLatest s) (op : Op) (hex : ∀ o, op = .newStream o → s.table = []) :
    OnlyLatest (step s op) := by
  cases op with
  | newStream oneway =>
    have ht := hex oneway rfl
    rw [step_newStream]
    split
    · right; exact ⟨(gen s.proto s.base).2, by simp [allocated, insert, erase, ht], by simp [allocated]⟩
    · left; simp [allocated, ht]
  | reply id tok =>
    simp only [step]
    cases hl : lookup s.table id with
    | none => exact h
    | some w => exact onlyLatest_erase h id
  | resetStream w =>
    unfold OnlyLatest
    rcases resetStream_keeps s w with e | e
    · rw [e.table, e.nW]; exact h
    · rw [e.table, e.nW]; exact onlyLatest_erase h _
  | connReset =>
    have e := (Keeps.refl s).resetAll s.table
    unfold OnlyLatest; simp only [step]; rw [e.table, e.nW]; exact h
  | setBase v => exact h

theorem onlyLatest_run (s : Conn) (h : OnlyLatest s) (ops : List Op) (hex : Exclusive s ops) : OnlyLatest (run s ops) := by
  induction ops generalizing s with
  | nil => exact h
  | cons op r ih =>
    cases op with
    | newStream o => exact ih _ (onlyLatest_step s h _ (fun _ _ => hex.1)) hex.2
    | _ => exact ih _ (onlyLatest_step s h _ nofun) hex

/-- executable form of `Exclusive` -/
def exclusiveB (s : Conn) : List Op → Bool
  | [] => true
  | .newStream o :: r => s.table.isEmpty && exclusiveB (step s (.newStream o)) r
  | .reply id tok :: r => exclusiveB (step s (.reply id tok)) r
  | .resetStream w :: r => exclusiveB (step s (.resetStream w)) r
  | .connReset :: r => exclusiveB (step s .connReset) r
  | .setBase v :: r => exclusiveB (step s (.setBase v)) r

theorem exclusive_of_B (s : Conn) (ops : List Op) (h : exclusiveB s ops = true) : Exclusive s ops := by
  induction ops generalizing s with
  | nil => trivial
  | cons op r ih =>
    cases op with
    | newStream o =>
      simp only [exclusiveB, Bool.and_eq_true, List.isEmpty_iff] at h
      exact ⟨h.1, ih _ h.2⟩
    | _ => exact ih _ h

end MosnVerif.Model.StreamTable
