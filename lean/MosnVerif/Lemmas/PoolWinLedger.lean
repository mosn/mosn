import MosnVerif.Lemmas.PoolWin
/-! The request ledger of the two ping-pong pools in every intermediate state of `OnDestroyStream` (model
`Model/PoolWin.lean`): for every statement program of the class `ledgerOk` (each of the three decrements exactly once,
none of them skipped by an early return) and under every interleaving, the requests breaker and the two
upstream_request_active gauges equal the requests in flight plus what the destroy calls in progress still owe. -/
namespace MosnVerif.Lemmas.PoolWinLedger
open MosnVerif.Model.PoolWin MosnVerif.Lemmas.PoolWin MosnVerif.Gen.Pool MosnVerif.Gen.PoolDestroy
open MosnVerif.Model.Pool (Kind Dial Res resIncrease_eq resDecrease_eq)

structure LInv (m : Nat) (s : State) : Prop where
  mx : s.maxReq = m
  req : s.reqCur = if s.maxReq = 0 then 0 else (s.ext : Int) + s.liveN + (owed .decRes s.tasks : Nat)
  host : s.rqHost = s.liveN + (owed .decHost s.tasks : Nat)
  cluster : s.rqCluster = s.liveN + (owed .decCluster s.tasks : Nat)
  safe : ∀ t, t ∈ s.tasks → retSafe t.2 = true
  ok : ledgerOk s.kind s.prog = true

variable {m : Nat}

theorem owed_append (st : DStep) (ts : List Task) (c : Nat) (p : List DStep) :
    owed st (ts ++ [(c, p)]) = owed st ts + p.count st := by
  simp [owed]

theorem owed_eraseIdx (st : DStep) (ts : List Task) (k c : Nat) (p : List DStep) (hk : ts[k]? = some (c, p)) :
    owed st (ts.eraseIdx k) + p.count st = owed st ts := by
  induction ts generalizing k with
  | nil => simp at hk
  | cons t r ih =>
    cases k with
    | zero =>
      simp only [List.getElem?_cons_zero, Option.some.injEq] at hk
      subst hk
      simp [owed]; omega
    | succ k =>
      simp only [List.getElem?_cons_succ] at hk
      have := ih k hk
      simp only [owed, List.eraseIdx_cons_succ, List.map_cons, List.sum_cons] at *
      omega

theorem owed_setTask (st : DStep) (ts : List Task) (k c : Nat) (p q : List DStep) (hk : ts[k]? = some (c, p)) :
    owed st (setTask ts k c q) + p.count st = owed st ts + q.count st := by
  unfold setTask
  split
  · rename_i hq
    rw [List.isEmpty_iff.1 hq]
    exact owed_eraseIdx st ts k c p hk
  · exact Lemmas.Fold.sum_map_set (fun t => t.2.count st) ts k (c, p) (c, q) hk

theorem mem_setTask' (ts : List Task) (k c : Nat) (q : List DStep) (t : Task) (ht : t ∈ setTask ts k c q) :
    t ∈ ts ∨ t = (c, q) := by
  unfold setTask at ht
  split at ht
  · exact Or.inl (List.mem_of_mem_eraseIdx ht)
  · exact List.mem_or_eq_of_mem_set ht

/-- how many of each decrement a statement list still holds -/
def decs (p : List DStep) : Nat × Nat × Nat := (p.count .decHost, p.count .decCluster, p.count .decRes)

theorem noDecs_decs (p : List DStep) (h : noDecs p = true) : decs p = (0, 0, 0) := by
  unfold noDecs at h
  rw [List.all_eq_true] at h
  have hc : ∀ d, (d != .decHost && d != .decCluster && d != .decRes) = false → p.count d = 0 :=
    fun d hd => List.count_eq_zero.mpr fun hm => by rw [h d hm] at hd; cases hd
  simp only [decs, hc .decHost rfl, hc .decCluster rfl, hc .decRes rfl]

theorem retSafe_tail (st : DStep) (rest : List DStep) (h : retSafe (st :: rest) = true) : retSafe rest = true := by
  cases st with
  | closeIf ret => cases ret <;> simp_all [retSafe]
  | poolEvent ret => cases ret <;> simp_all [retSafe]
  | _ => simpa [retSafe] using h

/-- an early return after the close skips no decrement -/
theorem retSafe_event (ret : Bool) (rest : List DStep) (h : retSafe (.poolEvent ret :: rest) = true) :
    retSafe (if ret = true then [] else rest) = true ∧ decs (if ret = true then [] else rest) = decs rest := by
  cases ret
  · exact ⟨retSafe_tail _ _ h, rfl⟩
  · simp only [retSafe, Bool.and_eq_true] at h
    exact ⟨rfl, (noDecs_decs rest h.1).symm⟩

theorem retSafe_close (ret : Bool) (rest : List DStep) (h : retSafe (.closeIf ret :: rest) = true) :
    retSafe (.poolEvent ret :: rest) = true := by
  cases ret <;> simpa [retSafe] using h

theorem ledgerOk_spec (k : Kind) (p : List DStep) (h : ledgerOk k p = true) :
    retSafe p = true ∧ p.count .decHost = 1 ∧ p.count .decCluster = 1 ∧ p.count .decRes = 1 ∧ takeCodes k = [10, 11, 12] := by
  simpa [ledgerOk, and_assoc] using h

/-- the fields of the ledger other than the three counters -/
structure LFrame (s s1 : State) : Prop where
  tasks : s1.tasks = s.tasks
  ext : s1.ext = s.ext
  liveN : s1.liveN = s.liveN
  maxReq : s1.maxReq = s.maxReq
  kind : s1.kind = s.kind
  prog : s1.prog = s.prog

theorem LFrame.of_frame {s s1 : State} (f : Frame s s1) : LFrame s s1 := ⟨f.tasks, f.ext, f.liveN, f.maxReq, f.kind, f.prog⟩

/-- `s1` differs from `s` in nothing the ledger reads -/
structure Same (s s1 : State) : Prop extends LFrame s s1 where
  reqCur : s1.reqCur = s.reqCur
  rqHost : s1.rqHost = s.rqHost
  rqCluster : s1.rqCluster = s.rqCluster

theorem Same.trans {s s1 s2 : State} (f : Same s s1) (g : Same s1 s2) : Same s s2 :=
  ⟨⟨g.tasks.trans f.tasks, g.ext.trans f.ext, g.liveN.trans f.liveN, g.maxReq.trans f.maxReq, g.kind.trans f.kind,
    g.prog.trans f.prog⟩, g.reqCur.trans f.reqCur, g.rqHost.trans f.rqHost, g.rqCluster.trans f.rqCluster⟩

/-- the pool's books, which the ledger does not read -/
theorem same_books (s : State) (t : Int) (i : List Nat) (n : Nat) (cl : Nat → Client) (o : Nat) :
    Same s { s with total := t, idle := i, nClients := n, client := cl, openN := o } :=
  ⟨⟨rfl, rfl, rfl, rfl, rfl, rfl⟩, rfl, rfl, rfl⟩

/-! ### the regenerated counter movements: the connection gauges leave the request ledger alone -/

theorem same_poolOnClose (s : State) (c : Nat) : Same s (poolOnClose s c) := by
  rw [poolOnClose_eq]; exact ⟨⟨rfl, rfl, rfl, rfl, rfl, rfl⟩, rfl, rfl, rfl⟩

theorem same_newClient (s : State) : Same s (newClient s) := by
  rw [newClient_eq]; exact ⟨⟨rfl, rfl, rfl, rfl, rfl, rfl⟩, rfl, rfl, rfl⟩

/-- a lease whose regenerated movements are the three of the class `ledgerOk`, as one update -/
theorem lease_eq (s : State) (c : Nat) (hk : takeCodes s.kind = [10, 11, 12]) : lease s c =
    { s.updC c (fun cl => { cl with live := true }) with
      liveN := s.liveN + 1, rqHost := s.rqHost + 1, rqCluster := s.rqCluster + 1, reqCur := resIncrease s.maxReq s.reqCur } := by
  simp only [lease, hk, applyMoves, List.foldl, applyMove, State.updC]

theorem linv_of (s s' : State) (h : LInv m s) (emax : s'.maxReq = s.maxReq) (ek : s'.kind = s.kind) (ep : s'.prog = s.prog)
    (hsafe : ∀ t, t ∈ s'.tasks → retSafe t.2 = true) (a : Int)
    (hreq : s'.reqCur = if s.maxReq = 0 then s.reqCur else s.reqCur + a)
    (hbal : (s'.ext : Int) + s'.liveN + (owed .decRes s'.tasks : Nat) = (s.ext : Int) + s.liveN + (owed .decRes s.tasks : Nat) + a)
    (hhost : s'.rqHost - (s'.liveN + (owed .decHost s'.tasks : Nat)) = s.rqHost - (s.liveN + (owed .decHost s.tasks : Nat)))
    (hcl : s'.rqCluster - (s'.liveN + (owed .decCluster s'.tasks : Nat)) = s.rqCluster - (s.liveN + (owed .decCluster s.tasks : Nat))) :
    LInv m s' := by
  refine ⟨emax.trans h.mx, ?_, ?_, ?_, hsafe, by rw [ek, ep]; exact h.ok⟩
  · rw [emax, hreq, h.req]
    split
    · rfl
    · rw [hbal]
  · exact Int.sub_eq_zero.1 (hhost.trans (Int.sub_eq_zero.2 h.host))
  · exact Int.sub_eq_zero.1 (hcl.trans (Int.sub_eq_zero.2 h.cluster))

theorem linv_same (s s' : State) (h : LInv m s) (f : Same s s') : LInv m s' := by
  refine linv_of s s' h f.maxReq f.kind f.prog (by rw [f.tasks]; exact h.safe) 0
    (f.reqCur.trans (by rw [Int.add_zero, ite_self])) ?_ ?_ ?_
  · rw [f.ext, f.liveN, f.tasks]; omega
  · rw [f.liveN, f.tasks, f.rqHost]
  · rw [f.liveN, f.tasks, f.rqCluster]

theorem linv_lease (s : State) (c : Nat) (h : LInv m s) : LInv m (lease s c) := by
  rw [lease_eq s c (ledgerOk_spec _ _ h.ok).2.2.2.2]
  refine linv_of s _ h rfl rfl rfl h.safe 1 (resIncrease_eq _ _) ?_ ?_ ?_
  · show (s.ext : Int) + (s.liveN + 1) + (owed .decRes s.tasks : Nat) = _
    omega
  · show s.rqHost + 1 - (s.liveN + 1 + (owed .decHost s.tasks : Nat)) = _
    omega
  · show s.rqCluster + 1 - (s.liveN + 1 + (owed .decCluster s.tasks : Nat)) = _
    omega

theorem linv_newStream (s : State) (d : Dial) (h : LInv m s) : LInv m (newStream s d).1 := by
  rcases newStream_cases s d with ⟨t, _, e⟩ | ⟨ys, c, _, e⟩ | ⟨t, r, _, e⟩ <;> rw [e]
  · exact linv_lease _ _ (linv_same s _ h ((same_books s t _ _ _ _).trans (same_newClient _)))
  · exact linv_lease _ _ (linv_same s _ h (same_books s _ _ _ _ _))
  · exact linv_same s _ h (same_books s t _ _ _ _)

/-! ### end of a request: one request less in flight, one more destroy call owing each decrement once -/
theorem linv_end (s : State) (c : Nat) (g : Client → Client) (h : LInv m s) :
    LInv m { s.updC c g with liveN := s.liveN - 1, tasks := s.tasks ++ [(c, s.prog)] } := by
  have hp := ledgerOk_spec _ _ h.ok
  refine linv_of s _ h rfl rfl rfl ?_ 0 (by rw [Int.add_zero, ite_self]; rfl) ?_ ?_ ?_
  · intro t ht
    rcases List.mem_append.1 ht with ht | ht
    · exact h.safe t ht
    · rw [List.mem_singleton.1 ht]; exact hp.1
  · show (s.ext : Int) + (s.liveN - 1) + (owed .decRes (s.tasks ++ [(c, s.prog)]) : Nat) = _
    rw [owed_append, hp.2.2.2.1]; omega
  · show s.rqHost - (s.liveN - 1 + (owed .decHost (s.tasks ++ [(c, s.prog)]) : Nat)) = _
    rw [owed_append, hp.2.1]; omega
  · show s.rqCluster - (s.liveN - 1 + (owed .decCluster (s.tasks ++ [(c, s.prog)]) : Nat)) = _
    rw [owed_append, hp.2.2.1]; omega

theorem linv_endStream (s : State) (c : Nat) (cause : Cause) (h : LInv m s) : LInv m (step s (.endStream c cause)).1 := by
  simp only [step]
  split
  · exact linv_end s c _ h
  · exact h

theorem linv_netClose (s : State) (c : Nat) (h : LInv m s) : LInv m (step s (.netClose c)).1 := by
  rw [step_netClose_eq]
  have hx : LInv m (X s c) := linv_same s _ h ((same_books s _ _ _ _ _).trans (same_poolOnClose (Y s c) c))
  split
  · split
    · exact linv_end (X s c) c _ hx
    · exact hx
  · exact h

theorem step_task_eq (s : State) (k c : Nat) (st : DStep) (rest : List DStep) (hk : s.tasks[k]? = some (c, st :: rest)) :
    (step s (.taskStep k)).1 = { (execStep s c st rest).1 with
      tasks := setTask (execStep s c st rest).1.tasks k c (execStep s c st rest).2 } := by
  simp only [step, hk]

/-- what a statement does to the ledger: `s1` keeps the frame, `q` is what is left of `p`, and each counter goes down by what
the task owes less -/
structure Pays (s s1 : State) (p q : List DStep) : Prop extends LFrame s s1 where
  safe : retSafe q = true
  host : s1.rqHost + (p.count .decHost : Nat) = s.rqHost + (q.count .decHost : Nat)
  cluster : s1.rqCluster + (p.count .decCluster : Nat) = s.rqCluster + (q.count .decCluster : Nat)
  req : s1.reqCur = if s.maxReq = 0 then s.reqCur else s.reqCur + (q.count .decRes : Nat) - (p.count .decRes : Nat)

/-- a statement that moves none of the three counters and leaves the task owing what it owed -/
theorem Pays.of_same {s s1 : State} {p q : List DStep} (f : Same s s1) (hd : decs q = decs p) (hq : retSafe q = true) :
    Pays s s1 p q := by
  simp only [decs, Prod.mk.injEq] at hd
  exact ⟨f.toLFrame, hq, by rw [f.rqHost, hd.1], by rw [f.rqCluster, hd.2.1], by rw [f.reqCur, hd.2.2]; split <;> omega⟩

theorem execStep_pays (s : State) (c : Nat) (st : DStep) (rest : List DStep) (hs : retSafe (st :: rest) = true)
    (s1 : State) (q : List DStep) (he : execStep s c st rest = (s1, q)) : Pays s s1 (st :: rest) q := by
  have hs' : retSafe rest = true := retSafe_tail st rest hs
  have fs : Same s s := same_books s _ _ _ _ _
  cases st with
  | decHost =>
    cases he
    exact ⟨⟨rfl, rfl, rfl, rfl, rfl, rfl⟩, hs', by show s.rqHost - 1 + _ = _; simp; omega, by show s.rqCluster + _ = _; simp, by show s.reqCur = _; simp⟩
  | decCluster =>
    cases he
    exact ⟨⟨rfl, rfl, rfl, rfl, rfl, rfl⟩, hs', by show s.rqHost + _ = _; simp, by show s.rqCluster - 1 + _ = _; simp; omega, by show s.reqCur = _; simp⟩
  | decRes =>
    cases he
    refine ⟨⟨rfl, rfl, rfl, rfl, rfl, rfl⟩, hs', by show s.rqHost + _ = _; simp, by show s.rqCluster + _ = _; simp, ?_⟩
    show resDecrease s.maxReq s.reqCur = _
    rw [resDecrease_eq]; split <;> simp <;> omega
  | bad => cases he; exact .of_same fs (by simp [decs]) hs'
  | put =>
    cases he
    refine .of_same ?_ (by simp [decs]) hs'
    split
    · exact same_books s _ _ _ _ _
    · exact fs
  | poolEvent ret =>
    cases he
    have hr := retSafe_event ret rest hs
    exact .of_same (same_poolOnClose s c) (hr.2.trans (by simp [decs])) hr.1
  | closeIf ret =>
    have hr := retSafe_event ret rest (retSafe_close ret rest hs)
    by_cases hc : MosnVerif.Model.Pool.closeOnDestroy s.kind (s.client c).closed (s.client c).closeConn = true
    · by_cases hn : (s.client c).netOpen = true
      · simp only [execStep, hc, hn, if_true] at he
        cases he
        exact .of_same (same_books s _ _ _ _ _) (by simp [decs]) (retSafe_close ret rest hs)
      · simp only [execStep, hc, hn, Bool.false_eq_true, if_true, if_false] at he
        cases he
        exact .of_same fs (hr.2.trans (by simp [decs])) hr.1
    · simp only [execStep, hc, Bool.false_eq_true, if_false] at he
      cases he
      exact .of_same fs (by simp [decs]) hs'

theorem linv_taskStep (s : State) (k : Nat) (h : LInv m s) : LInv m (step s (.taskStep k)).1 := by
  cases hk : s.tasks[k]? with
  | none => simp only [step, hk]; exact h
  | some t =>
    obtain ⟨c, p⟩ := t
    cases p with
    | nil => simp only [step, hk]; exact h
    | cons st rest =>
      rcases he : execStep s c st rest with ⟨s1, q⟩
      have e := execStep_pays s c st rest (h.safe _ (List.mem_of_getElem? hk)) s1 q he
      rw [step_task_eq s k c st rest hk, he]
      have o := fun d => owed_setTask d s.tasks k c (st :: rest) q hk
      refine linv_of s _ h e.maxReq e.kind e.prog ?_ ((q.count .decRes : Nat) - ((st :: rest).count .decRes : Nat) : Int) ?_ ?_ ?_ ?_
      · intro t ht
        have ht' : t ∈ setTask s1.tasks k c q := ht
        rw [e.tasks] at ht'
        rcases mem_setTask' _ _ _ _ _ ht' with ht' | rfl
        · exact h.safe t ht'
        · exact e.safe
      · show s1.reqCur = _
        rw [e.req]; split <;> omega
      · show (s1.ext : Int) + s1.liveN + (owed .decRes (setTask s1.tasks k c q) : Nat) = _
        have := o .decRes
        rw [e.ext, e.liveN, e.tasks]; omega
      · show s1.rqHost - (s1.liveN + (owed .decHost (setTask s1.tasks k c q) : Nat)) = _
        have := o .decHost; have := e.host
        rw [e.liveN, e.tasks]; omega
      · show s1.rqCluster - (s1.liveN + (owed .decCluster (setTask s1.tasks k c q) : Nat)) = _
        have := o .decCluster; have := e.cluster
        rw [e.liveN, e.tasks]; omega
theorem linv_step (s : State) (l : Label) (h : LInv m s) : LInv m (step s l).1 := by
  cases l with
  | newStream d => exact linv_newStream s d h
  | endStream c cause => exact linv_endStream s c cause h
  | taskStep k => exact linv_taskStep s k h
  | netClose c => exact linv_netClose s c h
  | goAway c =>
    simp only [step]
    split
    · exact linv_same s _ h (same_books s _ _ _ _ _)
    · exact h
  | extInc =>
    refine linv_of s _ h rfl rfl rfl h.safe 1 (resIncrease_eq _ _) ?_ rfl rfl
    · show ((s.ext + 1 : Nat) : Int) + s.liveN + (owed .decRes s.tasks : Nat) = _
      omega
  | extDec =>
    simp only [step]
    split
    · rename_i hpos
      refine linv_of s _ h rfl rfl rfl h.safe (-1) (resDecrease_eq _ _) ?_ rfl rfl
      · show ((s.ext - 1 : Nat) : Int) + s.liveN + (owed .decRes s.tasks : Nat) = _
        omega
    · exact h

theorem linv_run_of (s : State) (h : LInv m s) (ls : List Label) : LInv m (run s ls) := by
  induction ls generalizing s with
  | nil => exact h
  | cons l r ih => exact ih (step s l).1 (linv_step s l h)

theorem linv_init (k : Kind) (mc mr : Nat) (prog : List DStep) (h : ledgerOk k prog = true) : LInv mr (initWith k mc mr prog) := by
  refine ⟨rfl, ?_, ?_, ?_, ?_, h⟩
  · show (0 : Int) = if mr = 0 then 0 else _
    split <;> simp [initWith, owed]
  · simp [initWith, owed]
  · simp [initWith, owed]
  · intro t ht; cases ht

/-- in every reachable state, under every interleaving: breaker and gauges = requests in flight + what the destroy
calls in progress still owe -/
theorem request_ledger_exact (k : Kind) (mc mr : Nat) (prog : List DStep) (h : ledgerOk k prog = true) (ls : List Label) :
    let s := run (initWith k mc mr prog) ls
    s.reqCur = (if mr = 0 then 0 else (s.ext : Int) + s.liveN + (owed .decRes s.tasks : Nat)) ∧
    s.rqHost = s.liveN + (owed .decHost s.tasks : Nat) ∧ s.rqCluster = s.liveN + (owed .decCluster s.tasks : Nat) := by
  intro s
  have hl := linv_run_of _ (linv_init k mc mr prog h) ls
  have hr := hl.req
  rw [hl.mx] at hr
  exact ⟨hr, hl.host, hl.cluster⟩

/-- nothing in flight, no destroy call in progress: the breaker only holds the other pools' slots, the gauges are 0 -/
theorem ledger_quiescent_zero (k : Kind) (mc mr : Nat) (prog : List DStep) (h : ledgerOk k prog = true) (ls : List Label) :
    let s := run (initWith k mc mr prog) ls
    s.tasks = [] → s.liveN = 0 → s.reqCur = (if mr = 0 then 0 else (s.ext : Int)) ∧ s.rqHost = 0 ∧ s.rqCluster = 0 := by
  intro s ht hl
  have h3 := request_ledger_exact k mc mr prog h ls
  simp only [] at h3
  obtain ⟨a, b, c⟩ := h3
  rw [show run (initWith k mc mr prog) ls = s from rfl] at a b c
  rw [ht, hl] at a b c
  refine ⟨?_, by simpa [owed] using b, by simpa [owed] using c⟩
  rw [a]; split <;> simp [owed]

end MosnVerif.Lemmas.PoolWinLedger
