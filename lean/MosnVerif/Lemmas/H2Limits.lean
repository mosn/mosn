import MosnVerif.Model.H2Limits
/-! Every regenerated limit comparison of `Model/H2Limits` equals its RFC 7540 predicate. -/
namespace MosnVerif.Lemmas.H2Limits
open MosnVerif.Gen MosnVerif.Model.H2Limits

theorem readTooLarge_iff (len lim : Nat) : H2Limits.readTooLarge (iLen len) (iLen lim) = true ↔ len > lim := by
  simp [H2Limits.readTooLarge, iLen]

theorem readHeaderIncomplete_iff (avail : Nat) : H2Limits.readHeaderIncomplete (iLen avail) 0 = true ↔ avail < 9 := by
  simp [H2Limits.readHeaderIncomplete, iLen]; omega

theorem readPayloadIncomplete_iff (len avail : Nat) :
    H2Limits.readPayloadIncomplete (iLen len) (iLen avail) 0 = true ↔ avail < 9 + len := by
  simp [H2Limits.readPayloadIncomplete, iLen]; omega

theorem setMaxRead_eq (v : Nat) : setMaxRead v = min v 16777215 := by
  simp only [setMaxRead, H2Limits.readSizeClamped, H2Limits.readSizeClamp, iLen, decide_eq_true_eq]
  split <;> omega

/-! each regenerated comparison as a `decide` of its RFC predicate over `Nat` -/
theorem priorityBadLength_eq (n : Nat) : H2Limits.priorityBadLength (iLen n) = decide (n ≠ 5) := by
  unfold H2Limits.priorityBadLength iLen; apply decide_eq_decide.2; omega
theorem rstBadLength_eq (n : Nat) : H2Limits.rstBadLength (iLen n) = decide (n ≠ 4) := by
  unfold H2Limits.rstBadLength iLen; apply decide_eq_decide.2; omega
theorem pingBadLength_eq (n : Nat) : H2Limits.pingBadLength (iLen n) = decide (n ≠ 8) := by
  unfold H2Limits.pingBadLength iLen; apply decide_eq_decide.2; omega
theorem goAwayBadLength_eq (n : Nat) : H2Limits.goAwayBadLength (iLen n) = decide (n < 8) := by
  unfold H2Limits.goAwayBadLength iLen; apply decide_eq_decide.2; omega
theorem windowUpdateBadLength_eq (n : Nat) : H2Limits.windowUpdateBadLength (iLen n) = decide (n ≠ 4) := by
  unfold H2Limits.windowUpdateBadLength iLen; apply decide_eq_decide.2; omega
theorem windowUpdateZero_eq (n : Nat) : H2Limits.windowUpdateZero (iLen n) = decide (n = 0) := by
  unfold H2Limits.windowUpdateZero iLen; apply decide_eq_decide.2; omega
theorem settingsBadLength_eq (n : Nat) : H2Limits.settingsBadLength (iLen n) = decide (n % 6 ≠ 0) := by
  unfold H2Limits.settingsBadLength iLen; apply decide_eq_decide.2; omega
theorem settingsAckWithPayload_eq (a : Bool) (n : Nat) :
    H2Limits.settingsAckWithPayload a (iLen n) = (a && decide (n > 0)) := by
  unfold H2Limits.settingsAckWithPayload iLen; congr 1; apply decide_eq_decide.2; omega
theorem dataPadTooBig_eq (pad n : Nat) : H2Frame.dataPadTooBig (iLen pad) (iLen n) = decide (pad > n) := by
  unfold H2Frame.dataPadTooBig iLen; apply decide_eq_decide.2; omega
theorem dataPadTooBig_zero (n : Nat) : H2Frame.dataPadTooBig 0 (iLen n) = false := by
  have := dataPadTooBig_eq 0 n; simpa [iLen] using this
theorem headersPadTooBig_eq (n pad : Nat) : H2Frame.headersPadTooBig (iLen n) (iLen pad) = decide (pad > n) := by
  unfold H2Frame.headersPadTooBig iLen; apply decide_eq_decide.2; omega
theorem pushPadTooBig_eq (pad n : Nat) : H2Limits.pushPadTooBig (iLen pad) (iLen n) = decide (pad > n) := by
  unfold H2Limits.pushPadTooBig iLen; apply decide_eq_decide.2; omega
theorem headerListOver_eq (size remain : Nat) : H2Limits.headerListOver (iLen size) (iLen remain) = decide (size > remain) := by
  unfold H2Limits.headerListOver iLen; apply decide_eq_decide.2; omega
theorem tooManyStreams_eq (cur adv : Nat) : H2Limits.tooManyStreams (iLen cur) (iLen adv) = decide (cur ≥ adv) := by
  unfold H2Limits.tooManyStreams iLen; apply decide_eq_decide.2; omega

theorem parseData_eq (flags sid len pad fill : Nat) :
    parse ⟨0, flags, sid, len, pad, fill⟩ = refParse ⟨0, flags, sid, len, pad, fill⟩ := by
  simp [parse, refParse, parseData, H2Frame.frameData, H2Frame.flagDataPadded, dataPadTooBig_eq, dataPadTooBig_zero, protoErr,
    H2Limits.errCodeProtocol]

/-- the pad-length octet and then `n` more fixed octets taken off a payload of `len` octets are `1 + n` octets taken at once -/
theorem pad_then_fixed {α : Type} (len n : Nat) (short : α) (k : Nat → α) :
    (if len = 0 then short else if len - 1 < n then short else k (len - 1 - n)) =
      if len < 1 + n then short else k (len - (1 + n)) := by
  rw [Nat.sub_sub]
  by_cases h : len < 1 + n
  · rw [if_pos h]
    by_cases h0 : len = 0
    · rw [if_pos h0]
    · rw [if_neg h0, if_pos (by omega)]
  · rw [if_neg h, if_neg (by omega), if_neg (by omega)]

theorem parseHeaders_eq (flags sid len pad fill : Nat) :
    parse ⟨1, flags, sid, len, pad, fill⟩ = refParse ⟨1, flags, sid, len, pad, fill⟩ := by
  show parseHeaders _ = _
  cases h8 : hasFlag flags 8 <;> cases h32 : hasFlag flags 32 <;>
    simp only [parseHeaders, refParse, headersPadTooBig_eq, protoErr, H2Limits.errCodeProtocol, H2Frame.flagHeadersPadded,
      H2Frame.flagHeadersPriority, h8, h32, beq_iff_eq, decide_eq_true_eq, Bool.false_and, Bool.true_and, Bool.false_eq_true,
      if_false, if_true, Nat.zero_add, Nat.add_zero, Nat.sub_zero, Nat.not_lt_zero, Nat.lt_one_iff]
  rw [pad_then_fixed len 5 _ fun p => if pad > p then Out.stream 1 else Out.ok (p - pad)]

theorem parsePush_eq (flags sid len pad fill : Nat) :
    parse ⟨5, flags, sid, len, pad, fill⟩ = refParse ⟨5, flags, sid, len, pad, fill⟩ := by
  show parsePush _ = _
  cases h8 : hasFlag flags 8 <;>
    simp only [parsePush, refParse, pushPadTooBig_eq, protoErr, H2Limits.errCodeProtocol, h8, beq_iff_eq, decide_eq_true_eq,
      Bool.false_and, Bool.true_and, Bool.false_eq_true, if_false, if_true, Nat.zero_add, Nat.sub_zero]
  rw [pad_then_fixed len 4 _ fun p => if pad > p then Out.conn 1 else Out.ok (p - pad)]

theorem parse_eq_ref (f : Frame) : parse f = refParse f := by
  rcases f with ⟨ty, flags, sid, len, pad, fill⟩
  match ty with
  | 0 => exact parseData_eq ..
  | 1 => exact parseHeaders_eq ..
  | 5 => exact parsePush_eq ..
  | 2 | 3 | 4 | 6 | 7 | 8 | 9 | n + 10 =>
    simp [parse, refParse, H2Frame.frameData, H2Frame.frameHeaders, H2Frame.framePriority, H2Frame.frameRSTStream,
      H2Frame.frameSettings, H2Frame.framePushPromise, H2Frame.framePing, H2Frame.frameGoAway, H2Frame.frameWindowUpdate,
      H2Frame.frameContinuation, H2Frame.flagSettingsAck, priorityBadLength_eq, rstBadLength_eq,
      settingsAckWithPayload_eq, settingsBadLength_eq, pingBadLength_eq, goAwayBadLength_eq,
      windowUpdateBadLength_eq, windowUpdateZero_eq, protoErr, sizeErr, H2Limits.errCodeProtocol,
      H2Limits.errCodeFrameSize]

theorem refParse_ne_tooLarge (f : Frame) : refParse f ≠ .tooLarge := by
  unfold refParse
  split <;> simp only [apply_ite (· ≠ Out.tooLarge), ne_eq, reduceCtorEq, not_false_eq_true, ite_self]

/-- `Setting.Valid` by itself answers as RFC 7540 §6.5.2 does; the two INITIAL_WINDOW_SIZE tests around it repeat one of its cases -/
theorem settingInvalidCode_eq (server : Bool) (id val : Nat) :
    H2Limits.settingInvalidCode (iLen id) (iLen val) = refSettingCode server id val := by
  unfold H2Limits.settingInvalidCode refSettingCode iLen
  obtain rfl | rfl | rfl | h : id = 2 ∨ id = 4 ∨ id = 5 ∨ (id ≠ 2 ∧ id ≠ 4 ∧ id ≠ 5) := by omega
  · simp; split <;> split <;> omega
  · simp; split <;> split <;> omega
  · simp; split <;> split <;> omega
  · simp [h]; omega

theorem settingCode_eq (server : Bool) (id val : Nat) : settingCode server id val = refSettingCode server id val := by
  have validates : (if server then C08H2Settings.serverValidatesFirst else C08H2Settings.clientValidatesFirst) = true := by
    cases server <;> rfl
  have big : id = 4 ∧ val > 2147483647 → refSettingCode server id val = 3 := fun h => if_pos h
  simp only [settingCode, validates, settingInvalidCode_eq server, Bool.true_and, Int.toNat_natCast,
    H2Limits.settingsFrameWindowTooBig, H2Limits.clientWindowTooBig, H2Limits.settingInitialWindowSize,
    H2Limits.errCodeFlowControl, iLen]
  generalize refSettingCode server id val = r at big ⊢
  by_cases hb : id = 4 ∧ val > 2147483647
  · have : (val : Int) > 2147483647 := by omega
    simp [hb.1, this, big hb]
  · have : ¬ (id = 4 ∧ (val : Int) > 2147483647) := by omega
    have : ¬ ((server = false ∧ id = 4) ∧ (val : Int) > 2147483647) := fun h => this ⟨h.1.2, h.2⟩
    by_cases hr : r = 0 <;> simp [*]

end MosnVerif.Lemmas.H2Limits
