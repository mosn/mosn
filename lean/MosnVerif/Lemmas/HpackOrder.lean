import MosnVerif.Model.HpackOrder
import MosnVerif.Lemmas.Fold
namespace MosnVerif.Model.HpackOrder
open MosnVerif.Gen.H2WriteLock

theorem find_get {f : Field} {t : Table} {i : Nat} (h : find f t = some i) : t[i]? = some f := by
  fun_induction find f t generalizing i with
  | case1 => cases h
  | case2 r => cases h; rfl
  | case3 g r hg ih =>
    obtain ⟨j, hj, rfl⟩ := Option.map_eq_some_iff.mp h
    exact ih hj

theorem dec_enc_field (cap : Nat) (t : Table) (f : Field) :
    decField cap t (encField cap t f).2 = some ((encField cap t f).1, f) := by
  unfold encField
  cases h : find f t with
  | none => simp [decField]
  | some i => simp [decField, find_get h]

theorem dec_enc_block (cap : Nat) : ∀ (fs : List Field) (t : Table),
    decBlock cap t (encBlock cap t fs).2 = some ((encBlock cap t fs).1, fs) := by
  intro fs
  induction fs with
  | nil => intro t; rfl
  | cons f fs ih =>
    intro t
    simp only [encBlock, decBlock, dec_enc_field, ih]

theorem dec_enc_all (cap : Nat) : ∀ (xs : List (Nat × List Field)) (t : Table),
    decAll cap t (encAll cap t xs).2 = some ((encAll cap t xs).1, xs) := by
  intro xs
  induction xs with
  | nil => intro t; rfl
  | cons x xs ih =>
    intro t
    obtain ⟨s, fs⟩ := x
    simp only [encAll, decAll, dec_enc_block, ih]

theorem encAll_append (cap : Nat) (x : Nat × List Field) : ∀ (xs : List (Nat × List Field)) (t : Table),
    encAll cap t (xs ++ [x]) =
      ((encBlock cap (encAll cap t xs).1 x.2).1, (encAll cap t xs).2 ++ [⟨x.1, (encBlock cap (encAll cap t xs).1 x.2).2⟩]) := by
  intro xs
  induction xs with
  | nil => intro t; obtain ⟨s, fs⟩ := x; simp [encAll]
  | cons y ys ih =>
    intro t
    obtain ⟨s, fs⟩ := y
    simp only [List.cons_append, encAll, ih]

theorem decAll_append (cap : Nat) : ∀ (a b : List Blk) (t t2 : Table) (out : List (Nat × List Field)),
    decAll cap t (a ++ b) = some (t2, out) →
      ∃ t1 o1 o2, decAll cap t a = some (t1, o1) ∧ decAll cap t1 b = some (t2, o2) ∧ out = o1 ++ o2 := by
  intro a
  induction a with
  | nil => intro b t t2 out h; exact ⟨t, [], out, rfl, h, rfl⟩
  | cons x xs ih =>
    intro b t t2 out h
    simp only [List.cons_append, decAll] at h ⊢
    cases hd : decBlock cap t x.reps with
    | none => simp [hd] at h
    | some r =>
      obtain ⟨t', fs⟩ := r
      simp only [hd] at h ⊢
      cases hr : decAll cap t' (xs ++ b) with
      | none => simp [hr] at h
      | some q =>
        obtain ⟨t'', o⟩ := q
        simp only [hr, Option.some.injEq, Prod.mk.injEq] at h
        obtain ⟨rfl, rfl⟩ := h
        obtain ⟨t1, o1, o2, h1, h2, h3⟩ := ih b t' t'' o hr
        exact ⟨t1, (x.stream, fs) :: o1, o2, by simp [h1], h2, by simp [h3]⟩

theorem mem_foldl_filter (m : String) : ∀ (r : List Fn) (g : List String),
    m ∈ r.foldl (fun g f' => g.filter (heldAcross f'.acts).contains) g → m ∈ g ∧ ∀ f ∈ r, m ∈ heldAcross f.acts := by
  intro r
  induction r with
  | nil => intro g h; exact ⟨h, by simp⟩
  | cons f r ih =>
    intro g h
    have := ih _ h
    simp only [List.mem_filter, List.contains_eq_mem, decide_eq_true_eq] at this
    exact ⟨this.1.1, List.forall_mem_cons.mpr ⟨this.1.2, this.2⟩⟩

/-- a mutex of `commonGuard` is in the guard of every function of the side -/
theorem commonGuard_mem {m : String} {fs : List Fn} (h : m ∈ commonGuard fs) : ∀ f ∈ fs, m ∈ heldAcross f.acts := by
  cases fs with
  | nil => simp [commonGuard] at h
  | cons f r => exact List.forall_mem_cons.mpr (mem_foldl_filter m r _ h)

theorem shares_of_mem {m : String} {a b : List String} (ha : m ∈ a) (hb : m ∈ b) : shares a b = true := by
  simp only [shares, List.any_eq_true, List.contains_eq_mem, decide_eq_true_eq]
  exact ⟨m, ha, hb⟩

/-- invariant of a connection all of whose writers hold the mutex `m` from their encode to their write: at most one
block is between encode and write, and the wire followed by it is the encode order -/
structure Inv (m : String) (s : Sys) : Prop where
  common : ∀ g ∈ s.guards, m ∈ g
  sync : encAll s.cap [] s.sent = (s.encT, s.wire ++ s.inFlight)
  pend : s.pending = [] ∨ ∃ i b g, s.pending = [(i, b)] ∧ s.guards[i]? = some g
  progs : ∀ j p, s.progs[j]? = some p → p = [U.enc, U.wr] ∨ p = [] ∨ (p = [U.wr] ∧ ∃ b, s.pending = [(j, b)])
  own : ∀ x ∈ s.sent, x ∈ s.reqs

theorem inv_start (m : String) (cap : Nat) (reqs : List (Nat × List Field)) (gs : List (List String))
    (hg : ∀ g ∈ gs, m ∈ g) : Inv m (Sys.start cap reqs gs) := by
  refine ⟨hg, rfl, Or.inl rfl, ?_, ?_⟩
  · intro j p hp
    obtain ⟨_, _, rfl⟩ := List.mem_map.mp (List.mem_of_getElem? hp)
    exact Or.inl rfl
  · exact List.forall_mem_nil _

/-- an entry of `l.set i x` is `x` at `i` or an entry of `l` elsewhere -/
theorem getElem?_set_cases {α : Type} {l : List α} {i j : Nat} {x y : α} (h : (l.set i x)[j]? = some y) :
    j = i ∧ y = x ∨ j ≠ i ∧ l[j]? = some y := by
  rw [List.getElem?_set] at h
  by_cases e : i = j
  · rw [if_pos e] at h
    split at h
    · exact .inl ⟨e.symm, (Option.some.inj h).symm⟩
    · cases h
  · rw [if_neg e] at h; exact .inr ⟨fun e' => e e'.symm, h⟩

theorem inv_step {m : String} {s : Sys} (h : Inv m s) (i : Nat) : Inv m (s.step i) := by
  unfold Sys.step
  split
  · rename_i u rest st fs g hp hr hgi
    have hmg : m ∈ g := h.common g (List.mem_of_getElem? hgi)
    cases u with
    | enc =>
      have hrest : rest = [U.wr] := by
        rcases h.progs i _ hp with h1 | h1 | ⟨h1, _⟩ <;> cases h1
        rfl
      subst hrest
      simp only
      cases hb : s.blocked g with
      | true => simpa using h
      | false =>
        -- nobody is between encode and write: such a writer's guard would share `m` with `g`
        have hpe : s.pending = [] := by
          rcases h.pend with h1 | ⟨j, b, gj, h1, h2⟩
          · exact h1
          · have : s.blocked g = true := by
              simp only [Sys.blocked, h1, List.any_cons, List.any_nil, Bool.or_false, h2, Option.getD_some]
              exact shares_of_mem (h.common gj (List.mem_of_getElem? h2)) hmg
            rw [hb] at this; cases this
        simp only [Bool.false_eq_true, if_false]
        refine ⟨h.common, ?_, Or.inr ⟨i, _, g, by rw [hpe], hgi⟩, fun j p hj => ?_,
          List.forall_mem_append.mpr ⟨h.own, List.forall_mem_singleton.mpr (List.mem_of_getElem? hr)⟩⟩
        · have hs := h.sync
          simp only [Sys.inFlight, hpe, List.reverse_nil, List.map_nil, List.append_nil] at hs
          simp only [encAll_append, hs, Sys.inFlight, hpe, List.reverse_cons, List.reverse_nil, List.nil_append,
            List.map_cons, List.map_nil]
        · rcases getElem?_set_cases hj with ⟨rfl, rfl⟩ | ⟨_, hj⟩
          · exact Or.inr (Or.inr ⟨rfl, _, by rw [hpe]⟩)
          · rcases h.progs j p hj with h1 | h1 | ⟨_, b, h1⟩
            · exact Or.inl h1
            · exact Or.inr (Or.inl h1)
            · rw [hpe] at h1; cases h1
    | wr =>
      have hw : rest = [] ∧ ∃ b, s.pending = [(i, b)] := by
        rcases h.progs i _ hp with h1 | h1 | ⟨h1, h2⟩ <;> cases h1
        exact ⟨rfl, h2⟩
      obtain ⟨rfl, b, hpe⟩ := hw
      simp only [hpe, List.find?_cons, beq_self_eq_true]
      refine ⟨h.common, ?_, Or.inl (by simp), fun j p hj => ?_, h.own⟩
      · have hs := h.sync
        simp only [Sys.inFlight, hpe, List.reverse_cons, List.reverse_nil, List.nil_append, List.map_cons,
          List.map_nil] at hs
        simp only [Sys.inFlight, List.filter_cons, bne_self_eq_false, Bool.false_eq_true, if_false,
          List.filter_nil, List.reverse_nil, List.map_nil, List.append_nil]
        exact hs
      · rcases getElem?_set_cases hj with ⟨rfl, rfl⟩ | ⟨hne, hj⟩
        · exact Or.inr (Or.inl rfl)
        · rcases h.progs j p hj with h1 | h1 | ⟨_, b', h1⟩
          · exact Or.inl h1
          · exact Or.inr (Or.inl h1)
          · rw [hpe] at h1
            exact absurd (congrArg Prod.fst (List.cons.inj h1).1).symm hne
  · exact h

theorem inv_run {m : String} {s : Sys} (h : Inv m s) (sched : List Nat) : Inv m (s.run sched) :=
  Lemmas.Fold.foldl_inv (P := Inv m) (fun _ i h => inv_step h i) sched s h

theorem step_cap (s : Sys) (i : Nat) : (s.step i).cap = s.cap ∧ (s.step i).reqs = s.reqs := by
  fun_cases Sys.step s i <;> exact ⟨rfl, rfl⟩

theorem run_cap (s : Sys) (sched : List Nat) : (s.run sched).cap = s.cap ∧ (s.run sched).reqs = s.reqs := by
  unfold Sys.run
  exact ⟨Lemmas.Fold.foldl_frame (·.cap) _ sched (fun i _ t => (step_cap t i).1) s,
    Lemmas.Fold.foldl_frame (·.reqs) _ sched (fun i _ t => (step_cap t i).2) s⟩

/-- **writers that share a mutex are seen in encode order**: any number of writers whose guards (the mutexes held from
encode to write) all contain one mutex `m`, any header lists, any schedule: at most one block is between encode and
write, the wire followed by it decodes — with one table — to exactly what was encoded, in encode order, so the wire
alone decodes to a prefix of it, and to all of it with the encoder's table once nothing is in flight. -/
theorem wire_order (m : String) (cap : Nat) (reqs : List (Nat × List Field)) (gs : List (List String))
    (hg : ∀ g ∈ gs, m ∈ g) (sched : List Nat) :
    let s := (Sys.start cap reqs gs).run sched
    decAll cap [] (s.wire ++ s.inFlight) = some (s.encT, s.sent) ∧
    (∃ t o, decAll cap [] s.wire = some (t, o) ∧ o <+: s.sent) ∧
    (s.pending = [] → decAll cap [] s.wire = some (s.encT, s.sent)) ∧
    (∀ x ∈ s.sent, x ∈ reqs) ∧ s.pending.length ≤ 1 := by
  intro s
  have hi : Inv m s := inv_run (inv_start m cap reqs gs hg) sched
  have hc := run_cap (Sys.start cap reqs gs) sched
  have hsync : decAll cap [] (s.wire ++ s.inFlight) = some (s.encT, s.sent) := by
    have h := dec_enc_all cap s.sent []
    have hs := hi.sync
    rw [show s.cap = cap from hc.1] at hs
    rwa [hs] at h
  refine ⟨hsync, ?_, fun hp => ?_, fun x hx => (show s.reqs = reqs from hc.2) ▸ hi.own x hx, ?_⟩
  · obtain ⟨t1, o1, o2, h1, _, h3⟩ := decAll_append cap _ _ _ _ _ hsync
    exact ⟨t1, o1, h1, o2, h3.symm⟩
  · rwa [show s.inFlight = [] by simp [Sys.inFlight, hp], List.append_nil] at hsync
  · rcases hi.pend with h1 | ⟨_, _, _, h1, _⟩ <;> simp [h1]

end MosnVerif.Model.HpackOrder
