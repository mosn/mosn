import MosnVerif.Model.HealthLifecycle
import MosnVerif.Lemmas.HealthCheck
import MosnVerif.Lemmas.Fold
/-! What the regenerated life-cycle programs do to the words, host sets, thresholds and the checker table, and the invariant
`Good` under which the active-health-check condition of an address changes only at a threshold-completing result. -/
namespace MosnVerif.Model.HealthLifecycle
open MosnVerif.Gen.HealthLifecycle MosnVerif.Gen.HealthCheck
open MosnVerif.Model.HealthCheck (Result Out trail)

theorem upd_apply {β : Type} (f : Nat → β) (i : Nat) (v : β) (j : Nat) : upd f i v j = if j = i then v else f j := rfl
theorem upd2_apply {β : Type} (f : Nat → Nat → β) (i j : Nat) (v : β) (i' j' : Nat) :
    upd2 f i j v i' j' = if i' = i ∧ j' = j then v else f i' j' := rfl

def isFlagAtom : Atom → Bool
  | .flag _ => true
  | _ => false

def noFlag (p : CheckProg) : Bool := (p.pre ++ p.body ++ p.post).all (fun x => !isFlagAtom x)

theorem startCheckProg_noFlag : noFlag startCheckProg = true := by decide
theorem stopCheckProg_noFlag : noFlag stopCheckProg = true := by decide

/-! Whatever no effect other than a flag operation changes (`π`: the words, the host sets, the thresholds) is left alone
by every program without a flag operation, hence by `startCheck`, `stopCheck` and the loops over them. -/
section Frame
variable {β : Type} (π : World → β) (hπ : ∀ k a w x, isFlagAtom x = false → π (runAtom k a w x) = π w)
include hπ

theorem runAtoms_frame (k : Cid) (a : Addr) (l : List Atom) (w : World) (h : l.all (fun x => !isFlagAtom x) = true) :
    π (runAtoms k a w l) = π w :=
  Lemmas.Fold.foldl_frame π _ l (fun x hx w => hπ k a w x (by simpa using List.all_eq_true.mp h x hx)) w

theorem runCheckProg_frame (p : CheckProg) (h : noFlag p = true) (k : Cid) (a : Addr) (w : World) :
    π (runCheckProg p k a w) = π w := by
  simp only [noFlag, List.all_append, Bool.and_eq_true] at h
  obtain ⟨⟨h1, h2⟩, h3⟩ := h
  simp only [runCheckProg]
  rw [runAtoms_frame π hπ _ _ _ _ h3]
  split
  · rw [runAtoms_frame π hπ _ _ _ _ h2, runAtoms_frame π hπ _ _ _ _ h1]
  · rw [runAtoms_frame π hπ _ _ _ _ h1]

theorem startAll_frame (k : Cid) (l : List Addr) (w : World) : π (startAll k l w) = π w :=
  Lemmas.Fold.foldl_frame π _ l (fun a _ w => runCheckProg_frame π hπ startCheckProg startCheckProg_noFlag k a w) w

theorem stopEach_frame (k : Cid) (l : List Addr) (w : World) : π (stopEach k l w) = π w :=
  Lemmas.Fold.foldl_frame π _ l (fun a _ w => runCheckProg_frame π hπ stopCheckProg stopCheckProg_noFlag k a w) w

theorem setHosts_frame (hst : ∀ (w : World) (h : Cid → List Addr), π { w with hosts := h } = π w) (k : Cid)
    (hs : List Addr) (w : World) : π (setHosts k hs w) = π w :=
  Lemmas.Fold.foldl_frame π _ _ (fun x _ w => by
    cases x
    · exact startAll_frame π hπ k _ w
    · exact stopEach_frame π hπ k _ w
    · exact hst w _) w

end Frame

theorem runAtom_words (k : Cid) (a : Addr) (w : World) (x : Atom) (h : isFlagAtom x = false) :
    (runAtom k a w x).words = w.words := by
  cases x <;> simp_all [runAtom, isFlagAtom]

theorem runAtom_hosts (k : Cid) (a : Addr) (w : World) (x : Atom) (_ : isFlagAtom x = false) :
    (runAtom k a w x).hosts = w.hosts := by
  cases x <;> rfl

theorem runAtom_thr (k : Cid) (a : Addr) (w : World) (x : Atom) (_ : isFlagAtom x = false) :
    (runAtom k a w x).thr = w.thr := by
  cases x <;> rfl

theorem startAll_hosts (k : Cid) (l : List Addr) (w : World) : (startAll k l w).hosts = w.hosts :=
  startAll_frame _ runAtom_hosts k l w
theorem stopEach_hosts (k : Cid) (l : List Addr) (w : World) : (stopEach k l w).hosts = w.hosts :=
  stopEach_frame _ runAtom_hosts k l w

theorem setHosts_words (k : Cid) (hs : List Addr) (w : World) : (setHosts k hs w).words = w.words :=
  setHosts_frame _ runAtom_words (fun _ _ => rfl) k hs w
theorem setHosts_thr (k : Cid) (hs : List Addr) (w : World) : (setHosts k hs w).thr = w.thr :=
  setHosts_frame _ runAtom_thr (fun _ _ => rfl) k hs w
theorem stopAll_words (k : Cid) (w : World) : (stopAll k w).words = w.words := stopEach_frame _ runAtom_words ..
theorem stopAll_thr (k : Cid) (w : World) : (stopAll k w).thr = w.thr := stopEach_frame _ runAtom_thr ..
theorem stopAll_hosts (k : Cid) (w : World) : (stopAll k w).hosts = w.hosts := stopEach_hosts ..

theorem step_lifecycle_words (w : World) (op : Op) (h : op.isLifecycle = true) : (step w op).1.words = w.words := by
  cases op with
  | setHosts k hs => exact setHosts_words k hs w
  | stopAll k => exact stopAll_words k w
  | recreate k cu ch => exact stopAll_words k w
  | _ => simp [Op.isLifecycle] at h

theorem step_lifecycle_out (w : World) (op : Op) (h : op.isLifecycle = true) : (step w op).2 = none := by
  cases op <;> first | rfl | simp [Op.isLifecycle] at h

/-- a session checker as `startCheck` leaves it: counters zero, goroutine started, nothing handled yet -/
def fresh : Checker := ⟨0, 0, true, []⟩

def freshOr : Option Checker → Option Checker
  | none => some fresh
  | some c => some c

theorem startCheck_unfold (k : Cid) (a : Addr) (w : World) :
    startCheck k a w = if (w.chk k a).isNone then
      runAtom k a (runAtom k a (runAtom k a w .newChecker) .goStart) (.localHealthy 1) else w := rfl

theorem stopCheck_unfold (k : Cid) (a : Addr) (w : World) :
    stopCheck k a w = if (w.chk k a).isSome then
      runAtom k a (runAtom k a (runAtom k a w .stopSession) .delChecker) (.localHealthy (-1)) else w := rfl

theorem startCheck_chk (k : Cid) (a : Addr) (w : World) (k' : Cid) (a' : Addr) :
    (startCheck k a w).chk k' a' = if k' = k ∧ a' = a then freshOr (w.chk k a) else w.chk k' a' := by
  rw [startCheck_unfold]
  cases hc : w.chk k a with
  | none =>
    simp only [Option.isNone_none, if_true, runAtom, upd2_apply, freshOr, fresh]
    by_cases h : k' = k ∧ a' = a <;> simp [h]
  | some c =>
    simp only [Option.isNone_some, freshOr]
    by_cases h : k' = k ∧ a' = a
    · simp [h, hc]
    · simp [h]

theorem stopCheck_chk (k : Cid) (a : Addr) (w : World) (k' : Cid) (a' : Addr) :
    (stopCheck k a w).chk k' a' = if k' = k ∧ a' = a then none else w.chk k' a' := by
  rw [stopCheck_unfold]
  cases hc : w.chk k a with
  | none =>
    by_cases h : k' = k ∧ a' = a
    · simp [h, hc]
    · simp [h]
  | some c =>
    simp only [Option.isSome_some, if_true, runAtom, upd2_apply]
    by_cases h : k' = k ∧ a' = a <;> simp [h]

theorem startAll_chk (k : Cid) (l : List Addr) (w : World) (k' : Cid) (a' : Addr) :
    (startAll k l w).chk k' a' = if k' = k ∧ a' ∈ l then freshOr (w.chk k a') else w.chk k' a' := by
  induction l generalizing w with
  | nil => simp [startAll]
  | cons x xs ih =>
    simp only [startAll, List.foldl_cons] at ih ⊢
    rw [ih, startCheck_chk, startCheck_chk]
    by_cases hk : k' = k
    · subst hk
      by_cases hx : a' = x
      · subst hx
        cases hc : w.chk k' a' <;> simp [freshOr]
      · by_cases hm : a' ∈ xs <;> simp [hx, hm]
    · simp [hk]

theorem stopEach_chk (k : Cid) (l : List Addr) (w : World) (k' : Cid) (a' : Addr) :
    (stopEach k l w).chk k' a' = if k' = k ∧ a' ∈ l then none else w.chk k' a' := by
  induction l generalizing w with
  | nil => simp [stopEach]
  | cons x xs ih =>
    simp only [stopEach, List.foldl_cons] at ih ⊢
    rw [ih, stopCheck_chk]
    by_cases hk : k' = k
    · subst hk
      by_cases hx : a' = x
      · subst hx; simp
      · by_cases hm : a' ∈ xs <;> simp [hx, hm]
    · simp [hk]

theorem stopAll_chk (k : Cid) (w : World) (k' : Cid) (a' : Addr) :
    (stopAll k w).chk k' a' = if k' = k ∧ a' ∈ w.hosts k then none else w.chk k' a' := stopEach_chk ..

theorem setHosts_hosts (k : Cid) (hs : List Addr) (w : World) : (setHosts k hs w).hosts = upd w.hosts k hs := by
  simp only [setHosts, hostSetProg, List.foldl_cons, List.foldl_nil, runHsAtom, stopEach_hosts, startAll_hosts]

theorem setHosts_chk (k : Cid) (hs : List Addr) (w : World) (k' : Cid) (a' : Addr) :
    (setHosts k hs w).chk k' a' =
      if k' = k ∧ a' ∈ w.hosts k ∧ a' ∉ hs then none
      else if k' = k ∧ a' ∈ hs ∧ a' ∉ w.hosts k then freshOr (w.chk k a')
      else w.chk k' a' := by
  simp only [setHosts, hostSetProg, List.foldl_cons, List.foldl_nil, runHsAtom]
  rw [stopEach_chk, startAll_chk]
  simp only [List.mem_filter, Bool.not_eq_true', List.contains_eq_mem, decide_eq_false_iff_not]

theorem step_lifecycle_chk (w : World) (op : Op) (h : op.isLifecycle = true) (k : Cid) (a : Addr) :
    (step w op).1.chk k a = none ∨
    ((step w op).1.chk k a = w.chk k a ∧ (step w op).1.thr k = w.thr k) ∨
    (∃ l, op = .setHosts k l ∧ a ∈ l ∧ (step w op).1.chk k a = some fresh ∧ (step w op).1.thr k = w.thr k) := by
  cases op with
  | setHosts k0 l =>
    simp only [step, setHosts_chk, setHosts_thr]
    split
    · exact .inl rfl
    · split
      · rename_i e
        obtain ⟨rfl, hl, _⟩ := e
        cases hc : w.chk k a with
        | none => exact .inr (.inr ⟨l, rfl, hl, rfl, trivial⟩)
        | some c => exact .inr (.inl ⟨rfl, trivial⟩)
      · exact .inr (.inl ⟨rfl, trivial⟩)
  | stopAll k0 =>
    simp only [step, stopAll_chk, stopAll_thr]
    split
    · exact .inl rfl
    · exact .inr (.inl ⟨rfl, trivial⟩)
  | recreate k0 cu ch =>
    simp only [step, stopAll_chk, stopAll_thr, upd_apply]
    split
    · exact .inl rfl
    · split
      · exact .inl rfl
      · exact .inr (.inl ⟨rfl, rfl⟩)
  | _ => simp [Op.isLifecycle] at h

theorem result_none (k : Cid) (a : Addr) (r : Result) (w : World) (h : w.chk k a = none) : result k a r w = (w, none) := by
  simp [result, h]

theorem result_stopped (k : Cid) (a : Addr) (r : Result) (w : World) (c : Checker) (h : w.chk k a = some c)
    (hr : c.running = false) : result k a r w = (w, none) := by
  simp [result, h, hr]

def handled (w : World) (k : Cid) (a : Addr) (c : Checker) (r : Result) : HealthCheck.St × Out :=
  HealthCheck.step ((w.thr k).1 : Int) ((w.thr k).2 : Int) ⟨c.un, c.hc, (w.words a).active⟩ r

theorem result_live (k : Cid) (a : Addr) (r : Result) (w : World) (c : Checker) (h : w.chk k a = some c)
    (hr : c.running = true) :
    (result k a r w).2 = some (handled w k a c r).2 ∧
    (result k a r w).1.words = upd w.words a { w.words a with active := (handled w k a c r).1.flag } ∧
    (result k a r w).1.chk = upd2 w.chk k a (some ⟨(handled w k a c r).1.unHealthCount, (handled w k a c r).1.healthCount, c.running, r :: c.rev⟩) := by
  simp [result, h, hr, handled, incHealthyFlagOps, decHealthyFlagOps, applyFlagOps]

/-! Every session checker in the table runs, and its counters are bounded by the run lengths of its own history. -/

def Good (w : World) : Prop :=
  ∀ k a c, w.chk k a = some c →
    c.running = true ∧ c.hc ≤ (trail Result.ok c.rev : Int) ∧ c.un ≤ (trail Result.bad c.rev : Int)

theorem good_fresh : fresh.running = true ∧ fresh.hc ≤ (trail Result.ok fresh.rev : Int) ∧ fresh.un ≤ (trail Result.bad fresh.rev : Int) := by
  simp [fresh, trail]

theorem good_step (w : World) (op : Op) (hg : Good w) : Good (step w op).1 := by
  intro k' a' c' hc'
  by_cases hl : op.isLifecycle = true
  · rcases step_lifecycle_chk w op hl k' a' with e | ⟨e, _⟩ | ⟨_, _, _, e, _⟩
    · rw [e] at hc'; cases hc'
    · exact hg _ _ _ (e ▸ hc')
    · rw [e] at hc'; cases hc'; exact good_fresh
  cases op with
  | outlier a on => exact hg _ _ _ hc'
  | result k a r =>
    simp only [step] at hc'
    cases hk : w.chk k a with
    | none => rw [result_none _ _ _ _ hk] at hc'; exact hg _ _ _ hc'
    | some c =>
      obtain ⟨hrun, hh, hu⟩ := hg _ _ _ hk
      obtain ⟨_, _, hchk⟩ := result_live k a r w c hk hrun
      rw [hchk, upd2_apply] at hc'
      split at hc'
      · injection hc' with hc'
        subst hc'
        obtain ⟨_, hh', hu', _⟩ := HealthCheck.step_of_le _ _ ⟨c.un, c.hc, (w.words a).active⟩ c.rev r hh hu
        exact ⟨hrun, hh', hu'⟩
      · exact hg _ _ _ hc'
  | _ => exact absurd rfl hl

theorem good_init (cfg : Cid → Nat × Nat) (words0 : Addr → Word) : Good (World.init cfg words0) := by
  intro k a c h; simp [World.init] at h

theorem good_runOps (ops : List Op) (w : World) (hg : Good w) : Good (runOps w ops) :=
  Lemmas.Fold.foldl_inv good_step ops w hg

/-- only a result handed to a live session checker of the address changes its active-health-check condition, and only one
that completes a threshold-long run of that session checker: a success clears it, a failure or timeout sets it -/
theorem active_changed_by (w : World) (hg : Good w) (op : Op) (a : Addr)
    (hne : ((step w op).1.words a).active ≠ (w.words a).active) :
    ∃ k r c, op = .result k a r ∧ w.chk k a = some c ∧ c.running = true ∧
      ((r = .success ∧ (w.words a).active = true ∧ (w.thr k).2 ≤ trail Result.ok (.success :: c.rev)) ∨
       (r.bad = true ∧ (w.words a).active = false ∧ (w.thr k).1 ≤ trail Result.bad (r :: c.rev))) := by
  cases op with
  | outlier a' on =>
    simp only [step, upd_apply] at hne
    split at hne
    · rename_i e; subst e; exact absurd rfl hne
    · exact absurd rfl hne
  | result k a' r =>
    simp only [step] at hne
    cases hk : w.chk k a' with
    | none => rw [result_none _ _ _ _ hk] at hne; exact absurd rfl hne
    | some c =>
      obtain ⟨hrun, hh, hu⟩ := hg _ _ _ hk
      obtain ⟨_, hw, _⟩ := result_live k a' r w c hk hrun
      rw [hw, upd_apply] at hne
      split at hne
      · rename_i e; subst e
        obtain ⟨_, _, _, hclr, hset⟩ :=
          HealthCheck.step_of_le (w.thr k).1 (w.thr k).2 ⟨c.un, c.hc, (w.words a).active⟩ c.rev r hh hu
        rw [handled] at hne
        refine ⟨k, r, c, rfl, hk, hrun, ?_⟩
        cases hb : (w.words a).active with
        | true =>
          obtain ⟨rfl, hle⟩ := hclr hb (by simpa [hb] using hne)
          exact .inl ⟨rfl, rfl, Int.ofNat_le.mp hle⟩
        | false =>
          obtain ⟨hbad, hle⟩ := hset hb (by simpa [hb] using hne)
          exact .inr ⟨hbad, rfl, Int.ofNat_le.mp hle⟩
      · exact absurd rfl hne
  | _ => rw [step_lifecycle_words w _ rfl] at hne; exact absurd rfl hne

end MosnVerif.Model.HealthLifecycle
