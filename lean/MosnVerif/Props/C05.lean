import MosnVerif.Lemmas.LB
import MosnVerif.Lemmas.Snapshot
import MosnVerif.Lemmas.ClusterPub
import MosnVerif.Lemmas.HostOps
import MosnVerif.Lemmas.PubVal
import MosnVerif.Lemmas.PoolLookup
/-!
# C05 — load balancers return only current, healthy members (property theorems only)

`choose p choice hs st c` is `ChooseHost` of the policy `p` (round robin, random, weighted round robin, least request,
least connection, request round robin, maglev, peak EWMA) on the host set `hs`, in the policy state `st` (round-robin
cursor, EDF scheduler), with the nondeterministic inputs `c` of the call (random draws, service order of exact EDF ties,
re-entry index, maglev table index).  Every theorem holds for ALL policies, choice counts, host lists (size 0, 1, 2, …),
weights, health patterns, gauges, cursor states, scheduler states, draws and re-entry indices.
`keyed p c` is the precondition that a maglev lookup has a hash to look up (route with a hash policy, table built);
it is `true` for every other policy.
-/
namespace MosnVerif.Props.C05
open MosnVerif.Model.LB

/-- **healthy_result**: a returned host is healthy. -/
theorem healthy_result (p : Policy) (choice : Nat) (hs : Hosts) (st : LBState) (c : Call) (i : Nat)
    (h : (choose p choice hs st c).result = some i) : hAt hs i = true := by
  by_cases hk : keyed p c = true
  · exact (choose_good p choice hs st c hk).1 i h
  · rw [choose_unkeyed p choice hs st c (by simpa using hk)] at h; simp at h

/-- **member**: the returned index denotes an element of the current host set. -/
theorem member (p : Policy) (choice : Nat) (hs : Hosts) (st : LBState) (c : Call) (i : Nat)
    (h : (choose p choice hs st c).result = some i) : i < hs.length :=
  hAt_lt (healthy_result p choice hs st c i h)

/-- **complete**: when some host is healthy, a host is returned. -/
theorem complete (p : Policy) (choice : Nat) (hs : Hosts) (st : LBState) (c : Call) (hk : keyed p c = true)
    (h : ∃ i, hAt hs i = true) : (choose p choice hs st c).result ≠ none := by
  intro hn
  obtain ⟨i, hi⟩ := h
  have := (choose_good p choice hs st c hk).2 hn i
  rw [this] at hi; simp at hi

/-- **none_only_if**: no host is returned only when no host is healthy (in particular when the set is empty). -/
theorem none_only_if (p : Policy) (choice : Nat) (hs : Hosts) (st : LBState) (c : Call) (hk : keyed p c = true)
    (h : (choose p choice hs st c).result = none) : ∀ i, hAt hs i = false :=
  (choose_good p choice hs st c hk).2 h

/-- the executable predicate evaluated on implementation outputs is implied by the model (keyed or not). -/
theorem spec_holds_on_model (p : Policy) (choice : Nat) (hs : Hosts) (st : LBState) (c : Call) :
    specLookup p c hs (choose p choice hs st c).result = true := by
  unfold specLookup
  by_cases hk : keyed p c = true
  · rw [good_specChoice (choose_good p choice hs st c hk)]; rfl
  · simp only [Bool.not_eq_true] at hk
    simp [hk, choose_unkeyed p choice hs st c hk]

/-- **history**: along every history of host-set replacements, health flips, gauge changes, cursor settings and
lookups, from every start state, every lookup satisfies the predicate with respect to the snapshot it saw. -/
theorem history (p : Policy) (choice : Nat) (w : World) (ops : List Op) :
    ∀ x ∈ runOps p choice w ops, specLookup p x.2.1 x.1 x.2.2.result = true := by
  induction ops generalizing w with
  | nil => simp [runOps]
  | cons o r ih =>
    unfold runOps
    split
    · rename_i w' x heq
      intro y hy
      simp only [List.mem_cons] at hy
      rcases hy with rfl | hy
      · cases o <;> simp [applyOp] at heq
        obtain ⟨_, rfl⟩ := heq
        exact spec_holds_on_model p choice _ _ _
      · exact ih w' y hy
    · exact ih _

-- non-vacuity: concrete non-trivial instances
private def hs3 : Hosts := [⟨0, 1, false, 0, 0, 1⟩, ⟨1, 1, true, 2, 0, 3⟩, ⟨2, 1, false, 0, 1, 1⟩]
/-- two of three hosts unhealthy: every policy still finds the healthy one (least request: both random candidates
unhealthy, the traversal finds host 1). -/
example : (choose .lr 2 hs3 {} { draws := [0, 2, 2] }).result = some 1 := by decide
example : (choose .random 2 hs3 {} { draws := [2] }).result = some 1 := by decide
example : (choose .reqrr 2 hs3 {} { re := .idx 1 }).result = some 1 := by decide
example : (choose .maglev 2 hs3 {} { table := some 2, re := .unset }).result = some 1 := by decide
example : keyed .maglev { table := some 2 } = true ∧ ∃ i, hAt hs3 i = true := ⟨by decide, 1, by decide⟩
example : (choose .rr 2 hs3 { rr := 4294967295 } {}).result = some 1 := by decide
example : (choose .ewma 2 hs3 {} { draws := [0, 0] }).result = some 1 := by decide
example : (choose .lc 0 (hs3.map ({ · with healthy := false })) {} { draws := [1] }).result = none := by decide

/-! ## a lookup concurrent with a host-set replacement sees entirely the old or entirely the new set

`Gen/Snapshot.lean` is the regenerated step program of `simpleCluster.UpdateHosts` (source order, origin of the components
of the stored `clusterSnapshot`, writes into a published record), the number of loads in `Snapshot()` and the number of
writes to `clusterSnapshot` fields elsewhere. `Model/Snapshot.lean` runs any number of `UpdateHosts` calls (thread `v`
installs host set number `v`; 0 is the initial set) and lookups (`Snapshot()`; `.LoadBalancer()`; `.HostSet()`) under an
arbitrary schedule. A lookup *sees* `(x, y)`: the balancer it used was built over host set `x`, the host set it read is
`y`. The theorems above (`member`, `healthy_result`, `complete`, `none_only_if`) are about one host list; they apply to a
concurrent lookup because `x = y`: it evaluates one `(hostSet, lb)` pair. -/
section SnapshotCoherence
open MosnVerif.Model.Snapshot MosnVerif.Gen.Snapshot

/-- **snapshot_publication_discipline**: the regenerated `UpdateHosts` stores only NEW records whose balancer was built
over the very host set stored with it, never writes a published record; `Snapshot()` loads the cell once; nothing else in
the package writes a `clusterSnapshot` field. -/
theorem snapshot_publication_discipline : coherentPublication = true := by decide

/-- **snapshot_coherent**: for every update program with that discipline, every number of concurrent `UpdateHosts` calls
and lookups and every schedule: a finished lookup saw a balancer and a host set of the SAME replacement, and that
replacement is the initial set or one that some `UpdateHosts` call has stored. -/
theorem snapshot_coherent (prog : List UStep) (h : publishOk prog = true) (nUpd : Nat) (sched : List Nat) (t x y : Nat)
    (hs : seen (run (initConf prog nUpd) sched) t = some (x, y)) :
    x = y ∧ x ≤ nUpd ∧ x ∈ (run (initConf prog nUpd) sched).cl.published := by
  have I := inv_run sched _ (inv_init prog h nUpd)
  have B := pubBound_run nUpd sched _ (pubBound_init prog nUpd)
  have ht := I.thr t
  unfold seen at hs
  split at hs
  · rename_i x' y' heq
    simp only [Option.some.injEq, Prod.mk.injEq] at hs
    obtain ⟨rfl, rfl⟩ := hs
    rw [heq] at ht
    exact ⟨ht.1, B.1 _ ht.2, ht.2⟩
  · simp at hs

/-- **lookup_sees_old_or_new**: one `UpdateHosts` (the regenerated program) concurrent with any number of lookups, every
schedule: each lookup sees entirely the old pair `(0, 0)` or entirely the new pair `(1, 1)`. -/
theorem lookup_sees_old_or_new (sched : List Nat) (t x y : Nat)
    (hs : seen (run (initConf updateHosts 1) sched) t = some (x, y)) : (x, y) = (0, 0) ∨ (x, y) = (1, 1) := by
  have hd : publishOk updateHosts = true := by decide
  obtain ⟨rfl, hle, _⟩ := snapshot_coherent updateHosts hd 1 sched t x y hs
  have : x = 0 ∨ x = 1 := by omega
  rcases this with rfl | rfl
  · exact Or.inl rfl
  · exact Or.inr rfl

-- non-vacuity: the lookup (thread 0) loads before the update (thread 1) stores: it sees the old pair; the lookup of
-- thread 2 starts afterwards and sees the new pair
example : seen (run (initConf updateHosts 1) [0, 1, 1, 0, 1, 1, 1, 0, 1, 1, 2, 2, 2]) 0 = some (0, 0) ∧
    seen (run (initConf updateHosts 1) [0, 1, 1, 0, 1, 1, 1, 0, 1, 1, 2, 2, 2]) 2 = some (1, 1) := by decide

/-- **update_in_place_mixes** (negative witness, machine-checked): a variant of `UpdateHosts` that updates the published
record in place instead of storing a new one violates the discipline, and the schedule "lookup loads and reads the
balancer; the update runs; the lookup reads the host set" makes the lookup see the OLD balancer with the NEW host set. -/
theorem update_in_place_mixes :
    publishOk updateInPlace = false ∧
    seen (run (initConf updateInPlace 1) [0, 0, 1, 1, 1, 1, 1, 1, 1, 1, 0]) 0 = some (0, 1) := by decide

end SnapshotCoherence

/-! ## an update is a sequence of atomic steps; a lookup may run between any two of them

`Gen/ClusterPub.lean` is regenerated from `cluster_manager.go`: `clusterManager.UpdateCluster` / `UpdateHosts` statement by
statement, and the handlers they are called with (`AddOrUpdatePrimaryCluster`, `AddOrUpdateClusterAndHost`,
`UpdateClusterHosts`, `AppendClusterHosts`, `RemoveClusterHosts`). `Model/ClusterPub.lean` runs any number of such updaters
(thread `v` supplies host set `v`; 0 is the set the cluster has) and lookups (`GetClusterSnapshot`: `clustersMap.Load`,
then `Snapshot()`) under an arbitrary schedule. A lookup sees `some v` or `none` = neither (the empty set of a cluster
object that has not been given its hosts yet). -/
section PublicationOrder
open MosnVerif.Model.ClusterPub MosnVerif.Gen.ClusterPub

/-- **publication_order_discipline**: in every regenerated updater the host set is built completely before the atomic
publish, the new cluster object is stored into `clustersMap` only after its handler gave it the host set, and nothing
touches a set after publication. -/
theorem publication_order_discipline : publicationOrderOk = true := by decide

/-- **lookup_never_neither**: for EVERY program with that order, any number of concurrent updaters and lookups, EVERY
schedule (= every interleaving point): a finished lookup saw a host set that exists — the initial one or one an updater
supplied — never the unfilled one. -/
theorem lookup_never_neither (prog : List CStep) (h : orderOk prog = true) (nUpd : Nat) (sched : List Nat) (t : Nat)
    (r : Option Nat) (hs : seen (run (initConf prog nUpd) sched) t = some r) :
    ∃ v, r = some v ∧ v ≤ nUpd ∧ v ∈ (run (initConf prog nUpd) sched).m.supplied := by
  have I := inv_run sched _ (inv_init prog h nUpd)
  have B := supBound_run nUpd sched _ (supBound_init prog nUpd)
  have ht := I.thr t
  unfold seen at hs
  split at hs
  · rename_i r' heq
    simp only [Option.some.injEq] at hs
    subst hs
    rw [heq] at ht
    obtain ⟨v, h1, h2⟩ := ht
    exact ⟨v, h1, B.1 v h2, h2⟩
  · simp at hs

/-- **lookup_during_update**: one update by any of the manager's (regenerated) updaters, any number of lookups, every
schedule: each lookup sees the old set (0) or the new set (1), and what the balancer of that set returns — every policy,
state, draw — is a healthy member of THAT set, no host only if that set has no healthy member. -/
theorem lookup_during_update (prog : List CStep) (hp : prog ∈ updaters) (sched : List Nat) (t : Nat) (r : Option Nat)
    (hs : seen (run (initConf prog 1) sched) t = some r) :
    ∃ v, r = some v ∧ (v = 0 ∨ v = 1) ∧
      ∀ (hostsOf : Nat → MosnVerif.Model.LB.Hosts) (p : Policy) (choice : Nat) (st : LBState) (c : Call),
        specLookup p c (hostsOf v) (choose p choice (hostsOf v) st c).result = true ∧
        (∀ i, (choose p choice (hostsOf v) st c).result = some i → i < (hostsOf v).length ∧ hAt (hostsOf v) i = true) ∧
        (keyed p c = true → (choose p choice (hostsOf v) st c).result = none → ∀ i, hAt (hostsOf v) i = false) := by
  have hok : orderOk prog = true := List.all_eq_true.mp publication_order_discipline prog hp
  obtain ⟨v, rfl, hle, _⟩ := lookup_never_neither prog hok 1 sched t r hs
  refine ⟨v, rfl, by omega, ?_⟩
  intro hostsOf p choice st c
  exact ⟨spec_holds_on_model p choice _ st c,
    fun i hi => ⟨member p choice _ st c i hi, healthy_result p choice _ st c i hi⟩,
    fun hk hn => none_only_if p choice _ st c hk hn⟩

-- non-vacuity: AddOrUpdatePrimaryCluster (thread 1); the lookup of thread 0 runs between newCluster/loadOld and the
-- handler, the lookup of thread 2 after the store: both see set 0 (the inherited one)
example : expand primaryHandler updateCluster ∈ updaters := by decide
example : seen (run (initConf (expand primaryHandler updateCluster) 1) [1, 1, 0, 0, 1, 1, 2, 2]) 0 = some (some 0) ∧
    seen (run (initConf (expand primaryHandler updateCluster) 1) [1, 1, 0, 0, 1, 1, 2, 2]) 2 = some (some 0) := by decide
-- UpdateClusterHosts: a lookup after the publish sees the new set
example : seen (run (initConf (expand newSimpleHostHandler updateHostsMgr) 1) [1, 1, 1, 0, 0]) 0 = some (some 1) := by decide

/-- **store_before_fill_sees_neither** (negative witness, machine-checked): storing the new cluster object into
`clustersMap` BEFORE the handler gave it its host set violates the order, and the lookup that runs between the store and the
handler sees neither the old nor the new set. The end state is the same. -/
theorem store_before_fill_sees_neither :
    orderOk storeBeforeFill = false ∧
    seen (run (initConf storeBeforeFill 1) [1, 1, 1, 1, 0, 0, 1, 1]) 0 = some none ∧
    seen (run (initConf storeBeforeFill 1) [1, 1, 1, 1, 0, 0, 1, 1, 2, 2]) 2 = some (some 0) := by decide

end PublicationOrder

/-! ## WHAT is published: every value a reader can see during an update

`Gen/PubVal.lean` is regenerated from `cluster_manager.go`: for every handler, which variable each `UpdateHosts` call
publishes and from what list it was built (complete list / empty / a list still being filled / unknown).
`Model/PubVal.lean` runs an update step by step over cells that carry host set VALUES (`old`, `new`, `empty`, `filling`,
`junk`) and lists what a reader sees after EVERY atomic step (`trace`); the harness observes exactly the steps `isEvent`
marks through the verif publish hook. -/
section PublicationValues
open MosnVerif.Model.PubVal MosnVerif.Gen.PubVal

/-- **publication_values_discipline**: in every regenerated updater each publish hands over a set built from the complete
list the handler computed (or the old cluster's own set), the new cluster object reaches `clustersMap` only after that, and
the order program the value program stands for passes the order check of `lookup_never_neither`. -/
theorem publication_values_discipline :
    updatersV.all (fun p => valuesOk p && MosnVerif.Model.ClusterPub.orderOk (abstract [] p)) = true := by decide

/-- **every_published_value_old_or_new**: for EVERY update program with that value discipline (any number of builds,
publishes, variables), after EVERY atomic step of the update — i.e. at every point where a lookup can run — the value a
reader sees is the complete old or the complete new set; never an empty, partially filled or unknown one. -/
theorem every_published_value_old_or_new (prog : List VStep) (h : valuesOk prog = true) :
    ∀ p ∈ trace {} prog, p.2 = .old ∨ p.2 = .new :=
  trace_good prog {} {} inv_init h

/-- **window_lookup_old_or_new**: every window of every regenerated updater (the moments the publish hook reports) shows
the old or the new set. -/
theorem window_lookup_old_or_new (prog : List VStep) (hp : prog ∈ updatersV) :
    ∀ p ∈ events prog, p.2 = .old ∨ p.2 = .new := by
  intro p hp'
  have hv : valuesOk prog = true := by
    have := List.all_eq_true.mp publication_values_discipline prog hp
    simp only [Bool.and_eq_true] at this
    exact this.1
  exact every_published_value_old_or_new prog hv p (List.mem_filter.mp hp').1

/-- **concurrent_values_never_neither**: any number of concurrent updaters running a value program whose order abstraction
passes the order check, any number of lookups, EVERY schedule: a finished lookup saw a supplied set (`lookup_never_neither`
on the abstraction, in which a publish of anything but a complete built set stores "neither"). -/
theorem concurrent_values_never_neither (prog : List VStep)
    (h : MosnVerif.Model.ClusterPub.orderOk (abstract [] prog) = true) (nUpd : Nat) (sched : List Nat) (t : Nat)
    (r : Option Nat)
    (hs : MosnVerif.Model.ClusterPub.seen
      (MosnVerif.Model.ClusterPub.run (MosnVerif.Model.ClusterPub.initConf (abstract [] prog) nUpd) sched) t = some r) :
    ∃ v, r = some v ∧ v ≤ nUpd := by
  obtain ⟨v, h1, h2, _⟩ := lookup_never_neither (abstract [] prog) h nUpd sched t r hs
  exact ⟨v, h1, h2⟩

-- non-vacuity: AddOrUpdateClusterAndHost publishes into the new cluster (a reader still sees the old set), then stores it
example : expandV clusterAndHostHandlerV MosnVerif.Gen.ClusterPub.updateCluster ∈ updatersV := by decide
example : (events (expandV clusterAndHostHandlerV MosnVerif.Gen.ClusterPub.updateCluster)).map (·.2) = [.old, .new] := by decide
example : (events (expandV removeHostsHandlerV MosnVerif.Gen.ClusterPub.updateHostsMgr)).map (·.2) = [.new] := by decide

/-- **empty_publish_is_seen** (negative witness, machine-checked): a handler that publishes `NewHostSet(nil)` before the
real set, or a set whose list is still being filled, fails the value check, and the reader in that window sees the empty /
half-filled set. The end state is the same as without the extra publish. -/
theorem empty_publish_is_seen :
    valuesOk emptyFirst = false ∧ (events emptyFirst).map (·.2) = [.empty, .new] ∧
    valuesOk publishWhileFilling = false ∧ (events publishWhileFilling).map (·.2) = [.filling] := by decide

/-- **health_change_is_one_atomic_step**: MOSN keeps no derived healthy-host set — `hostSet` holds only the immutable list
and `Health()` reads the per-address flag word on every probe (both regenerated) — so a health change is one atomic word
update (a `flip` operation of `history`) and there is no rebuild-then-swap window in which a lookup could see a half-built
healthy set. A cached healthy list added to `hostSet` breaks this theorem (=> the tie is reported broken). -/
theorem health_change_is_one_atomic_step : healthIsWordRead = true ∧ hostSetExtraFields = 0 := by decide

end PublicationValues

/-! ## which host OBJECT the cluster carries for an address

`Model/HostOps.lean`: the handlers' list construction (regenerated order: supplied hosts, then the current ones) composed
with `setFinalHost` (regenerated rule: the first occurrence of an address is kept). `absRun` is the declarative map
address → most recently supplied object (within one call: the first occurrence of the address in that call). -/
section HostObjects
open MosnVerif.Model.HostOps

/-- **published_exact**: after ANY sequence of Update / Append / Remove / inherit operations, from any represented start,
the published list has distinct addresses and lists for every address exactly the abstract map's object. -/
theorem published_exact (ops : List MosnVerif.Model.HostOps.Op) (c : List H) (m : Nat → Option H) (h : Rep c m) :
    ((MosnVerif.Model.HostOps.runOps c ops).map (·.a)).Nodup ∧ ∀ a, firstOf (MosnVerif.Model.HostOps.runOps c ops) a = absRun m ops a :=
  rep_run ops c m h

/-- **lb_returns_current_object**: every balancer (any policy, state, draws) over the published list (`hosts` is that list
position by position) returns an index whose object is the abstract map's object for its address. -/
theorem lb_returns_current_object (ops : List MosnVerif.Model.HostOps.Op) (c : List H) (m : Nat → Option H) (h : Rep c m)
    (hosts : MosnVerif.Model.LB.Hosts) (hl : hosts.length = (MosnVerif.Model.HostOps.runOps c ops).length)
    (p : Policy) (choice : Nat) (st : LBState) (cl : Call) (i : Nat)
    (hi : (choose p choice hosts st cl).result = some i) :
    ∃ o, (MosnVerif.Model.HostOps.runOps c ops)[i]? = some o ∧ absRun m ops o.a = some o := by
  have hlt : i < (MosnVerif.Model.HostOps.runOps c ops).length := hl ▸ member p choice hosts st cl i hi
  have R := rep_run ops c m h
  refine ⟨(MosnVerif.Model.HostOps.runOps c ops)[i], by simp [hlt], ?_⟩
  rw [← R.2]
  exact firstOf_of_mem _ R.1 _ (List.getElem_mem hlt)

-- non-vacuity: address 1 is appended again with a new object (token 2, weight 5), twice in one call (first one counts)
example : Rep [⟨1, 1, 1⟩, ⟨3, 7, 2⟩] (fun a => if a = 1 then some ⟨1, 1, 1⟩ else if a = 3 then some ⟨3, 7, 2⟩ else none) := by
  refine ⟨by decide, fun a => ?_⟩
  by_cases h1 : a = 1
  · subst h1; decide
  · by_cases h3 : a = 3
    · subst h3; decide
    · have e1 : ¬ (1 = a) := fun e => h1 e.symm
      have e3 : ¬ (3 = a) := fun e => h3 e.symm
      rw [firstOf_cons, firstOf_cons, if_neg e1, if_neg e3]
      simp [firstOf, h1, h3]
example : MosnVerif.Model.HostOps.runOps [⟨1, 1, 1⟩, ⟨3, 7, 2⟩] [.append [⟨1, 2, 5⟩, ⟨1, 3, 4⟩], .remove [3]] = [⟨1, 2, 5⟩] := by decide

/-- **last_wins_keeps_stale_object** (negative witness, machine-checked): with the other de-duplication rule (last
occurrence wins, in the first one's slot) the list the append handler builds (new object first, then the current ones)
publishes the OLD object of the address, while the map says the new one. -/
theorem last_wins_keeps_stale_object :
    dedupLast ([⟨1, 2, 5⟩] ++ [⟨1, 1, 1⟩, ⟨3, 7, 2⟩]) = [⟨1, 1, 1⟩, ⟨3, 7, 2⟩] ∧
    dedupFirst [] ([⟨1, 2, 5⟩] ++ [⟨1, 1, 1⟩, ⟨3, 7, 2⟩]) = [⟨1, 2, 5⟩, ⟨3, 7, 2⟩] := by decide

end HostObjects

/-! ## the request path: which host travels with the connection pool

`Gen/PoolLookup.lean` is regenerated from `cluster_manager.go`: the data flow of `getActiveConnectionPool` (what every
`return` hands back and where it was last assigned, the key of every pool-map access, the host each factory call gets, the
slot indices of the parallel arrays `pools` / `hosts` in the first loop and in the poll loop, the bounds) and the map
selection of `connPool.load`. `Model/PoolLookup.lookup` interprets that flow over pool maps whose pools OUTLIVE host-set
replacements and keep the host object they were created with (`Pool.created` = `pool.Host()`). `q.lb` lists what the
`ChooseHost` calls of this lookup returned; `(lookup …).ret` is the (pool, host) pair `ConnPoolForCluster` hands to the
proxy; `(lookup …).iter` lists, per first-loop iteration, the pool that iteration loaded / created and the host it chose.
`Keyed σ`: every pool sits under the address of its creation host (true initially, kept by every operation). -/
section RequestPath
open MosnVerif.Model.PoolLookup MosnVerif.Gen.PoolLookup
open MosnVerif.Model.HostOps (H)

/-- **pool_lookup_flow_discipline**: the regenerated `getActiveConnectionPool` keys the pool map by the address of the host
chosen in this iteration, creates pools with that host, returns a ready pool of the first loop with that host, stores a
pool that is not ready into slot `i` of `pools` and that host into slot `i` of `hosts`, and the poll loop tests and returns
slot `i` of BOTH arrays. -/
theorem pool_lookup_flow_discipline : flowOk flow = true := by decide

/-- **returned_host_is_chosen**: for EVERY flow with that discipline, pool-map state, readiness script, scope, query: the
host handed back is one of the objects `ChooseHost` returned during THIS call (call number `k` < `try`). -/
theorem returned_host_is_chosen (fl : Flow) (hf : flowOk fl = true) (env : Env) (σ : St) (hk : Keyed σ) (q : Query)
    (p : Pool) (x : H) (hr : (lookup fl env σ q).ret = (some p, some x)) :
    ∃ k, k < min q.hostNum fl.maxHosts ∧ q.lb[k]? = some (some x) := by
  have S := lookup_spec fl hf env σ q hk
  exact (S.2.1 (p, x) (S.2.2.1 p x hr)).2

/-- **returned_pair_consistent**: the returned pool was created for the returned host's address, the pair is the (pool,
host) pair of ONE first-loop iteration (same loop index), and a pool is returned iff a host is. -/
theorem returned_pair_consistent (fl : Flow) (hf : flowOk fl = true) (env : Env) (σ : St) (hk : Keyed σ) (q : Query) :
    (∀ p x, (lookup fl env σ q).ret = (some p, some x) → p.created.a = x.a ∧ (p, x) ∈ (lookup fl env σ q).iter) ∧
    ((lookup fl env σ q).ret.1 = none ↔ (lookup fl env σ q).ret.2 = none) ∧
    Keyed (lookup fl env σ q).st := by
  have S := lookup_spec fl hf env σ q hk
  exact ⟨fun p x hr => ⟨(S.2.1 (p, x) (S.2.2.1 p x hr)).1, S.2.2.1 p x hr⟩, S.2.2.2, S.1⟩

/-- **stale_pool_host_never_returned**: along EVERY history of host-set replacements (any lists, any cluster), lookups (any
balancer answers, any readiness), pool shutdowns, TLS changes — from the empty pool maps — every lookup that returns
`(p, x)`: `x` was chosen in this lookup, `p` is a pool for `x`'s address, and when the balancer only returns members of
the cluster's current set (`member`, `lb_returns_current_object`), `x` is a member of the current set — so a pool's own host
object that is no longer in the set (stale after a replacement keeping the address, or another cluster's) is never
handed back. -/
theorem stale_pool_host_never_returned (fl : Flow) (hf : flowOk fl = true) (env : Env) (ops : List MosnVerif.Model.PoolLookup.Op) :
    ∀ ev ∈ runHist fl env {} ops, ∀ p x, ev.2.2.ret = (some p, some x) →
      p.created.a = x.a ∧
      (∃ k, k < min ev.2.1.hostNum fl.maxHosts ∧ ev.2.1.lb[k]? = some (some x)) ∧
      ((∀ o ∈ ev.2.1.lb, ∀ h, o = some h → h ∈ ev.1) → x ∈ ev.1 ∧ (p.created ∉ ev.1 → x ≠ p.created)) := by
  intro ev hev p x hr
  have G := runHist_good fl hf env ops {} keyed_init ev hev
  have hp := G.1 (p, x) (G.2.1 p x hr)
  refine ⟨hp.1, hp.2, ?_⟩
  intro hlb
  obtain ⟨k, _, hk⟩ := hp.2
  have hx : x ∈ ev.1 := hlb (some x) (List.mem_of_getElem? hk) x rfl
  exact ⟨hx, fun hn he => hn (he ▸ hx)⟩

/-- **returned_host_current_healthy**: the balancer instantiated — every policy, state and draw per call — over the list
published after ANY update history (`published_exact`): the host the request path hands back is the current object of its
address in the abstract map, healthy, and the pool is one for its address. -/
theorem returned_host_current_healthy (fl : Flow) (hf : flowOk fl = true) (env : Env) (σ : St) (hk : Keyed σ)
    (ops : List MosnVerif.Model.HostOps.Op) (c0 : List H) (m : Nat → Option H) (hrep : MosnVerif.Model.HostOps.Rep c0 m)
    (hosts : MosnVerif.Model.LB.Hosts) (hl : hosts.length = (MosnVerif.Model.HostOps.runOps c0 ops).length)
    (pol : Policy) (choice : Nat) (st : Nat → LBState) (cl : Nat → Call) (q : Query)
    (hq : ∀ k o, q.lb[k]? = some o →
      o = ((choose pol choice hosts (st k) (cl k)).result).bind (fun i => (MosnVerif.Model.HostOps.runOps c0 ops)[i]?))
    (p : Pool) (x : H) (hr : (lookup fl env σ q).ret = (some p, some x)) :
    ∃ i, (MosnVerif.Model.HostOps.runOps c0 ops)[i]? = some x ∧ hAt hosts i = true ∧
      MosnVerif.Model.HostOps.absRun m ops x.a = some x ∧ p.created.a = x.a := by
  obtain ⟨k, _, hk'⟩ := returned_host_is_chosen fl hf env σ hk q p x hr
  have hb := hq k (some x) hk'
  cases hres : (choose pol choice hosts (st k) (cl k)).result with
  | none => simp [hres] at hb
  | some i =>
    simp only [hres, Option.bind_some] at hb
    obtain ⟨o, ho, habs⟩ := lb_returns_current_object ops c0 m hrep hosts hl pol choice (st k) (cl k) i hres
    have : o = x := by rw [ho] at hb; exact (Option.some.inj hb).symm
    subst this
    exact ⟨i, ho, healthy_result pol choice hosts (st k) (cl k) i hres, habs,
      ((returned_pair_consistent fl hf env σ hk q).1 p o hr).1⟩

-- non-vacuity: address 1 is replaced by a new object (marker 2, weight 5) while its pool (created with marker 1) lives on;
-- the second lookup re-uses pool 0 and hands back the NEW object
example : (runHist flow {} {} [.setHosts 0 [⟨1, 1, 1⟩], .lookup ⟨0, 1, [some ⟨1, 1, 1⟩]⟩, .setHosts 0 [⟨1, 2, 5⟩],
    .lookup ⟨0, 1, [some ⟨1, 2, 5⟩]⟩]).map (fun e => e.2.2.ret) =
    [(some ⟨0, ⟨1, 1, 1⟩, 0⟩, some ⟨1, 1, 1⟩), (some ⟨0, ⟨1, 1, 1⟩, 0⟩, some ⟨1, 2, 5⟩)] := by decide
-- two hosts, neither pool ready at first; the pool of the SECOND slot becomes ready first: slot 1 of both arrays is returned
example : (lookup flow {} { nr := [(1, 3), (2, 1)] } ⟨0, 2, [some ⟨1, 1, 1⟩, some ⟨2, 2, 1⟩]⟩).ret =
    (some ⟨1, ⟨2, 2, 1⟩, 0⟩, some ⟨2, 2, 1⟩) := by decide
example : Keyed (lookup flow {} {} ⟨0, 1, [some ⟨1, 1, 1⟩]⟩).st :=
  (returned_pair_consistent flow pool_lookup_flow_discipline {} {} keyed_init _).2.2

/-- **pool_host_return_is_stale** (negative witnesses, machine-checked): (1) returning the pool's own host instead of the
chosen one violates the discipline, and after a replacement that keeps the address the lookup hands back the REPLACED
object; (2) pairing `pools[i]` with `hosts[0]` in the poll loop hands back a pool for address 2 with the host of address 1;
(3) keying the pool map by host name makes two hosts of one name share a pool: pool for address 1, host of address 2. -/
theorem pool_host_return_is_stale :
    flowOk (returnsPoolHost flow) = false ∧
    (runHist (returnsPoolHost flow) {} {} [.setHosts 0 [⟨1, 1, 1⟩], .lookup ⟨0, 1, [some ⟨1, 1, 1⟩]⟩, .setHosts 0 [⟨1, 2, 5⟩],
      .lookup ⟨0, 1, [some ⟨1, 2, 5⟩]⟩]).map (fun e => (e.1, e.2.2.ret.2)) =
      [([⟨1, 1, 1⟩], some ⟨1, 1, 1⟩), ([⟨1, 2, 5⟩], some ⟨1, 1, 1⟩)] ∧
    flowOk (pollReturnsSlot0 flow) = false ∧
    (lookup (pollReturnsSlot0 flow) {} { nr := [(1, 3), (2, 1)] } ⟨0, 2, [some ⟨1, 1, 1⟩, some ⟨2, 2, 1⟩]⟩).ret =
      (some ⟨1, ⟨2, 2, 1⟩, 0⟩, some ⟨1, 1, 1⟩) ∧
    flowOk (keyedByName flow) = false ∧
    (runHist (keyedByName flow) {} {} [.lookup ⟨0, 2, [some ⟨1, 1, 1⟩]⟩, .lookup ⟨0, 2, [some ⟨2, 2, 1⟩]⟩]).map (fun e => e.2.2.ret) =
      [(some ⟨0, ⟨1, 1, 1⟩, 0⟩, some ⟨1, 1, 1⟩), (some ⟨0, ⟨1, 1, 1⟩, 0⟩, some ⟨2, 2, 1⟩)] := by decide

end RequestPath

end MosnVerif.Props.C05
