import MosnVerif.Lemmas.ConfigPairs
import MosnVerif.Lemmas.ConfigDir
import MosnVerif.Lemmas.ConfigPairs2
import MosnVerif.Lemmas.UpdatesMode
import MosnVerif.Lemmas.ConfigOrder
import MosnVerif.Lemmas.ConfigCb
import MosnVerif.Lemmas.ListenerAddr
/-!
# C19 — configuration survives dump and reload unchanged (property theorems only)

The generic JSON codec of encoding/json is modelled by a field-table-driven encoder / decoder (`Shape`); the field tables
are **regenerated** from pkg/config/v2 (`Gen.ConfigGraph`), and so is the classification of the custom (Un)MarshalJSON
pairs from their method bodies (`Gen.ConfigPairs`: mirror wrappers = the generic codec of their config, metadata
wrappers = shape `metaS`, single-field delegation = shape `boxed`).  Theorems: the cycle `decode ∘ encode` is the
normalisation `norm` and is stable from the first pass on — for *every* shape, and every struct of the regenerated graph
that unfolds (84 of 100: all but those containing Listener, FilterChain, the two directory pairs, or opaque external
types) is such a shape, customs included and nested; the fixpoint law `M (U (M (U w))) = M (U w)` for the hand-written
pairs FilterChain, Host, RetryPolicy / DurationConfig, every metadata wrapper (ClusterWeight, RouteAction, Router),
CircuitBreakers, Listener, tied to the regenerated tables; `ParseDuration ∘ String = id` for the digit-level model of
package time; and the directory ("dynamic") mode of ClusterManagerConfig / RouterConfiguration with the file-name
operations regenerated from the two MarshalJSON bodies, closed over the regenerated Cluster / VirtualHost codecs.
-/
namespace MosnVerif.Props.C19
open MosnVerif.Model MosnVerif.Model.ConfigCodec MosnVerif.Model.GoTypes

/-- **generic_roundtrip**: for every field table (shape) whose member keys are distinct ignoring case, and every value of
it, `decode (encode v) = some (norm v)`; encoding does not see the normalisation, so a second cycle changes nothing:
`decode (encode (norm v)) = some (norm v)` and `encode (norm (norm v)) = encode (norm v)`. -/
theorem generic_roundtrip (sh : Shape) (hk : keysOK sh = true) (v : CVal) (hw : wt sh v = true) :
    decode sh (encode sh v) = some (norm sh v) ∧
    encode sh (norm sh v) = encode sh v ∧
    decode sh (encode sh (norm sh v)) = some (norm sh v) ∧
    encode sh (norm sh (norm sh v)) = encode sh (norm sh v) := by
  have h1 := rt sh hk v hw
  have h2 := en sh v hw
  have hwn : wt sh (norm sh v) = true := dw sh hk _ _ h1
  exact ⟨h1, h2, by rw [h2, h1], en sh _ hwn⟩

/-- whatever `decode` accepts, the dump of it is a fixpoint of the cycle: `encode (decode (encode (decode w))) = encode (decode w)` -/
theorem generic_dump_stable (sh : Shape) (hk : keysOK sh = true) (w : Json) (v : CVal) (h : decode sh w = some v) :
    ∃ v', decode sh (encode sh v) = some v' ∧ encode sh v' = encode sh v := by
  have hw := dw sh hk w v h
  exact ⟨norm sh v, rt sh hk v hw, en sh v hw⟩

/-- **the regenerated field tables are instances**: every struct of pkg/config/v2 that unfolds — no embedded fields or
opaque external field types; custom pairs only where the extractor recognised both method bodies as a mirror wrapper,
a metadata wrapper (the metadata member must be an `omitempty` `*MetadataConfig`: part of `keysOK`) or a single-field
delegation — unfolds to a shape with distinct member keys, so `generic_roundtrip` applies to it: among them `Cluster`
and `VirtualHost` with everything nested in them. -/
theorem regenerated_tables_generic :
    genericStructs.all (fun s => match shapeOf s with | some sh => keysOK sh | none => false) = true := by
  have hB : genericStructs.all (fun s => match shapeOf s with | some sh => keysOKB sh | none => false) = true := by
    decide +kernel
  refine List.all_eq_true.mpr fun s hs => ?_
  have := List.all_eq_true.mp hB s hs
  cases hsh : shapeOf s with
  | none => simp [hsh] at this
  | some sh => rw [hsh] at this; exact keysOK_of_keysOKB sh this

theorem mem_genericStructs {s : String} (h : (shapeOf s).isSome = true) : s ∈ genericStructs := by
  obtain ⟨sh, hs⟩ := Option.isSome_iff_exists.mp h
  exact List.mem_filter.mpr ⟨name_mem_of_expandTy hs, h⟩

/-- every struct that unfolds is one of `genericStructs`, so the sweep above covers it -/
theorem keysOK_of_shapeOf {s : String} {sh : Shape} (h : shapeOf s = some sh) : keysOK sh = true := by
  have := List.all_eq_true.mp regenerated_tables_generic s (mem_genericStructs (by rw [h]; rfl))
  rwa [h] at this

/-- **FilterChain** (`tls_context` / `tls_context_set` ↔ `TLSContexts`), for every shape of TLS contexts and filters -/
theorem filterchain_fixpoint (tls filter : Shape) (h1 : keysOK tls = true) (h2 : keysOK filter = true)
    (h3 : ptrElemOK tls = true) (w : Json) (x : FilterChainV) (hU : fcU tls filter w = some x) :
    ∃ y, fcU tls filter (fcM tls filter x) = some y ∧ fcM tls filter y = fcM tls filter x := by
  have hk := fc_keysOK tls filter h1 h2 h3
  revert hU
  fun_cases fcU tls filter w with
  | case2 m tc n ts fl hdec =>
    intro hU
    have hw := dw _ hk w _ hdec
    simp only [fcShape, wt, wtF, Bool.and_eq_true, Bool.and_true] at hw
    obtain ⟨hwm, ⟨⟨_, _⟩, hwtc⟩, ⟨hnts, hwts⟩, hwfl⟩ := hw
    -- the contexts are a non-empty list of TLS values
    have hx := (Option.some.inj hU).symm
    have hctx : ∃ c cs, x.ctxs = c :: cs ∧ wtL (wt tls) (c :: cs) = true ∧ x.cfg = .struct [m, .ptr tc, .slice n ts, fl] := by
      rw [hx]
      cases ts with
      | cons t r => exact ⟨t, r, by simp, hwts, rfl⟩
      | nil =>
        cases tc with
        | nil => exact ⟨zero tls, [], by simp, by simp [wtL, wt_zero tls h1], rfl⟩
        | cons t r =>
          refine ⟨t, [], by simp, ?_, rfl⟩
          simp only [wtL, Bool.and_eq_true] at hwtc ⊢
          exact ⟨hwtc.1, trivial⟩
    obtain ⟨c, cs, hx1, hwc, hx2⟩ := hctx
    have hM : fcM tls filter x = encode (fcShape tls filter) (.struct [m, .ptr [], .slice false (c :: cs), fl]) := by
      simp [fcM, hx1, hx2]
    have hwc1 : wt (fcShape tls filter) (.struct [m, .ptr [], .slice false (c :: cs), fl]) = true := by
      simp only [wtL, Bool.and_eq_true] at hwc
      simp [fcShape, wt, wtF, wtL, hwm, h3, hwc.1, hwc.2, hwfl]
    have hrt := rt _ hk _ hwc1
    have hen := en _ _ hwc1
    have hnorm : norm (fcShape tls filter) (.struct [m, .ptr [], .slice false (c :: cs), fl]) =
        .struct [(if isEmpty m then zero .str else norm .str m), .ptr [], .slice false (normL (norm tls) (c :: cs)),
                 (if isEmpty fl then zero (.slice filter) else norm (.slice filter) fl)] := by
      have e1 : isEmpty (.ptr []) = true := rfl
      have e2 : isEmpty (.slice false (c :: cs)) = false := rfl
      have e3 : zero (.ptr tls) = .ptr [] := by simp [zero]
      simp only [fcShape, norm, normF, e1, e2, e3, Bool.true_and, Bool.and_true, Bool.and_false, if_true, if_false,
        Bool.false_eq_true]
    refine ⟨⟨norm (fcShape tls filter) (.struct [m, .ptr [], .slice false (c :: cs), fl]), normL (norm tls) (c :: cs)⟩, ?_, ?_⟩
    · rw [hM]
      unfold fcU
      rw [hrt, hnorm]
      simp [normL]
    · rw [hM, ← hen, hnorm]
      simp [fcM, normL]
  | _ => nofun

/-- **Host** (`metadata.filter_metadata."mosn.lb"` ↔ `MetaData`, strings only) -/
theorem host_fixpoint (w : Json) (x : HostV) (hU : hostU w = some x) :
    ∃ y, hostU (hostM x) = some y ∧ hostM y = hostM x :=
  ConfigCodec.host_fixpoint w x hU

/-- **duration_roundtrip**: in the digit-level model of package time, `time.ParseDuration (d.String ()) = d` for every
int64 duration, and every duration `ParseDuration` returns is an int64 — so what `DurationConfig` writes is always
read back unchanged. -/
theorem duration_roundtrip (d : Int) (hlo : -(GoDuration.two63 : Int) ≤ d) (hhi : d < (GoDuration.two63 : Int)) :
    GoDuration.parseDur (GoDuration.fmtDur d) = some d ∧
    (∀ s d', GoDuration.parseDur s = some d' → -(GoDuration.two63 : Int) ≤ d' ∧ d' < (GoDuration.two63 : Int)) :=
  ⟨GoDuration.parseDur_fmtDur d hlo hhi, fun s d' h => GoDuration.parseChars_range s.toList d' h⟩

/-- **RetryPolicy** (`retry_timeout` ↔ `RetryTimeout`, through `api.DurationConfig`) -/
theorem retrypolicy_fixpoint (w : Json) (x : RetryV) (hU : retryU w = some x) :
    ∃ y, retryU (retryM x) = some y ∧ retryM y = retryM x := by
  -- the timeout of x is an int64 (`durU` returned it, or it is 0), so it is read back from its `String()`
  have h0 : -(GoDuration.two63 : Int) ≤ 0 ∧ (0 : Int) < (GoDuration.two63 : Int) := by decide
  have hr : -(GoDuration.two63 : Int) ≤ x.timeout ∧ x.timeout < (GoDuration.two63 : Int) := by
    unfold retryU at hU
    split at hU
    · split at hU
      · next h2 _ _ =>
        cases hU
        split at h2
        · exact durU_range h2
        · cases h2; exact h0
      · cases hU
    · cases hU; exact h0
    · cases hU
  exact ⟨_, retry_readback x (GoDuration.parseDur_fmtDur _ hr.1 hr.2), by simp [retryM]⟩

/-- **mirror wrappers** (`KeepAlive`, `HealthCheck`, and every pair of the same form): `UnmarshalJSON` decodes the embedded
generic config and copies members into `json:"-"` fields (`proj`), `MarshalJSON` copies them back (`put`) and encodes;
since `put (proj c) c = c`, what the pair writes after one load is a fixpoint — for every generic shape, in particular
the regenerated `KeepAliveConfig` and `HealthCheckConfig` (durations included). -/
theorem mirror_wrapper_fixpoint {δ : Type} (sh : Shape) (hk : keysOK sh = true) (proj : CVal → δ) (put : δ → CVal → CVal)
    (hput : ∀ c, put (proj c) c = c) (w : Json) (c : CVal) (h : decode sh w = some c) :
    ∃ c', decode sh (encode sh (put (proj c) c)) = some c' ∧ encode sh (put (proj c') c') = encode sh (put (proj c) c) := by
  have hw := dw sh hk w c h
  rw [hput]
  exact ⟨norm sh c, rt sh hk c hw, by rw [hput]; exact en sh c hw⟩

/-! ## metadata wrappers, CircuitBreakers, Listener -/

/-- **metadata_wrapper_fixpoint** (`ClusterWeight`, `RouteAction`, `Router`, `Host`: `UnmarshalJSON` derives an
`api.Metadata` from the `*MetadataConfig` member of the embedded config, `MarshalJSON` rebuilds the member from it): for
EVERY field table with case-distinct keys and every position `i` of an `omitempty` `*MetadataConfig` member, and every
wire value the pair accepts, `M (U (M (U w))) = M (U w)`.  Members that are mirrored into `json:"-"` fields and copied
back (`RouteAction.Timeout` ↔ `timeout`, an `api.DurationConfig` = shape `.dur`) are the identity on the config. -/
theorem metadata_wrapper_fixpoint (fs : Fields) (i : Nat) (hk : keysOKF fs = true) (hm : metaAt fs i = true)
    (w : Json) (x : MetaV) (hU : metaU fs i w = some x) :
    ∃ y, metaU fs i (metaM fs i x) = some y ∧ metaM fs i y = metaM fs i x :=
  meta_fixpoint fs i hk hm w x hU

/-- the law for the **regenerated** field table of config struct `s` with its metadata member `key` -/
theorem wrapper_instance (s key : String)
    (hreg : (match embFields s with | some fs => keysOKF fs && metaAt fs (fs.indexOf key) | none => false) = true)
    (fs : Fields) (h : embFields s = some fs) (w : Json) (x : MetaV) (hU : metaU fs (fs.indexOf key) w = some x) :
    ∃ y, metaU fs (fs.indexOf key) (metaM fs (fs.indexOf key) x) = some y ∧
      metaM fs (fs.indexOf key) y = metaM fs (fs.indexOf key) x := by
  rw [h] at hreg
  simp only [Bool.and_eq_true] at hreg
  exact meta_fixpoint fs _ hreg.1 hreg.2 w x hU

/-- every pair the extractor classified as a metadata wrapper meets the hypothesis of `wrapper_instance`: the regenerated
table of its config has case-distinct keys, and the member named is an `omitempty` `*MetadataConfig` -/
theorem regenerated_metadata_wrappers (s cfg key : String) (h : (s, .metadata cfg key) ∈ Gen.ConfigPairs.customKinds) :
    (match embFields cfg with | some fs => keysOKF fs && metaAt fs (fs.indexOf key) | none => false) = true := by
  have hall : Gen.ConfigPairs.customKinds.all (fun e => match e.2 with
      | .metadata cfg key =>
        (match embFields cfg with | some fs => keysOKFB fs && metaAt fs (fs.indexOf key) | none => false)
      | _ => true) = true := by decide +kernel
  have := List.all_eq_true.mp hall _ h
  cases hfs : embFields cfg with
  | none => simp [hfs] at this
  | some fs =>
    simp only [hfs, Bool.and_eq_true] at this ⊢
    exact ⟨keysOKF_of_keysOKFB fs this.1, this.2⟩

/-- **ClusterWeight** over the regenerated `ClusterWeightConfig` (`metadata_match` ↔ `MetadataMatch`) -/
theorem clusterweight_fixpoint (fs : Fields) (h : embFields "ClusterWeightConfig" = some fs) (w : Json) (x : MetaV)
    (hU : metaU fs (fs.indexOf "metadata_match") w = some x) :
    ∃ y, metaU fs (fs.indexOf "metadata_match") (metaM fs (fs.indexOf "metadata_match") x) = some y ∧
      metaM fs (fs.indexOf "metadata_match") y = metaM fs (fs.indexOf "metadata_match") x :=
  wrapper_instance "ClusterWeightConfig" "metadata_match"
    (regenerated_metadata_wrappers "ClusterWeight" "ClusterWeightConfig" "metadata_match" (by simp [Gen.ConfigPairs.customKinds])) fs h w x hU

/-- **RouteAction** over the regenerated `RouterActionConfig` (`metadata_match` ↔ `MetadataMatch`, `timeout` ↔ `Timeout`) -/
theorem routeaction_fixpoint (fs : Fields) (h : embFields "RouterActionConfig" = some fs) (w : Json) (x : MetaV)
    (hU : metaU fs (fs.indexOf "metadata_match") w = some x) :
    ∃ y, metaU fs (fs.indexOf "metadata_match") (metaM fs (fs.indexOf "metadata_match") x) = some y ∧
      metaM fs (fs.indexOf "metadata_match") y = metaM fs (fs.indexOf "metadata_match") x :=
  wrapper_instance "RouterActionConfig" "metadata_match"
    (regenerated_metadata_wrappers "RouteAction" "RouterActionConfig" "metadata_match" (by simp [Gen.ConfigPairs.customKinds])) fs h w x hU

/-- **Router** over the regenerated `RouterConfig` (`metadata` ↔ `Metadata`) -/
theorem router_fixpoint (fs : Fields) (h : embFields "RouterConfig" = some fs) (w : Json) (x : MetaV)
    (hU : metaU fs (fs.indexOf "metadata") w = some x) :
    ∃ y, metaU fs (fs.indexOf "metadata") (metaM fs (fs.indexOf "metadata") x) = some y ∧
      metaM fs (fs.indexOf "metadata") y = metaM fs (fs.indexOf "metadata") x :=
  wrapper_instance "RouterConfig" "metadata"
    (regenerated_metadata_wrappers "Router" "RouterConfig" "metadata" (by simp [Gen.ConfigPairs.customKinds])) fs h w x hU

/-- **CircuitBreakers** (the bare `[]Thresholds`) over the regenerated `Thresholds` table -/
theorem circuitbreakers_fixpoint (th : Shape) (h : shapeOf "Thresholds" = some th) (w : Json) (x : CVal)
    (hU : cbU th w = some x) : ∃ y, cbU th (cbM th x) = some y ∧ cbM th y = cbM th x :=
  cb_fixpoint th (keysOK_of_shapeOf h) w x hU

/-- **circuitbreakers_effective_survive**: MOSN applies one entry of `circuit_breakers` (`Gen.ConfigCb.plan`, regenerated
from `cluster.NewResourceManager`: entry 0, defaults for an empty list), so the POSITION of every entry is configuration.
For every wire document the real pair accepts, the dump read back has the same entries — as many, in the same order, with
the same four limits, entries that set no limit (`{}`, an entry with only members MOSN does not know, `null`) included —
hence the cluster built from the reloaded dump gets the limits of the running one.  (The fixpoint law above does not say
this: a dump that drops limit-less entries is a fixpoint of the pair, yet moves another entry to the front.) -/
theorem circuitbreakers_effective_survive (fs : Fields) (h : shapeOf "Thresholds" = some (.struct fs)) (w : Json) (x : CVal)
    (hU : cbU (.struct fs) w = some x) :
    ∃ y, cbU (.struct fs) (cbM (.struct fs) x) = some y ∧ ConfigCb.entries y = ConfigCb.entries x ∧
      ConfigCb.effective y = ConfigCb.effective x := by
  have hnum : (match shapeOf "Thresholds" with | some (.struct fs) => ConfigCb.allNum fs | _ => false) = true := by
    decide +kernel
  rw [h] at hnum
  obtain ⟨y, h1, h2⟩ := ConfigCb.cb_entries_survive fs (keysOK_of_shapeOf h) hnum w x hU
  exact ⟨y, h1, h2, by unfold ConfigCb.effective; rw [h2]⟩

/-- non-vacuity and the witness of what is at stake: `[{"priority":"HIGH"},{…:0,…:0},null]` decodes to three entries, all
dumped; the first entry is the effective one: `[{}, {max_connections 10, max_retries 3}]` means no limits, without the
first entry the limits are those of the second -/
example : (match shapeOf "Thresholds" with
    | some th =>
      (match cbU th (.arr [.obj [("priority", .str "HIGH")], .obj [("max_connections", .num "0"), ("max_retries", .num "0")], .null]) with
      | some x => (ConfigCb.entries x).length == 3 && (cbM th x == .arr [.obj [], .obj [], .obj []])
      | none => false)
    | none => false) = true := by decide +kernel
example : ConfigCb.effectiveOf ConfigCb.thresholdNames Gen.ConfigCb.plan [[0, 0, 0, 0], [10, 0, 0, 3]] = [0, 0, 0, 0] ∧
    ConfigCb.effectiveOf ConfigCb.thresholdNames Gen.ConfigCb.plan [[10, 0, 0, 3]] = [10, 0, 0, 3] ∧
    ConfigCb.effectiveOf ConfigCb.thresholdNames Gen.ConfigCb.plan [] = [0, 0, 0, 0] := by decide +kernel

/-- **Listener** over the regenerated `ListenerConfig`: empty address and networks other than tcp / udp / unix are
rejected, `network` is defaulted and lower-cased by the first `UnmarshalJSON`, the address is replaced by the resolver's
answer; for every resolver whose answers are non-empty and resolve to themselves (`ResolverOK`: `net.Resolve*Addr` of
`Addr.String()`), what `MarshalJSON` writes after one `UnmarshalJSON` is a fixpoint -/
theorem listener_fixpoint (fs : Fields) (h : embFields "ListenerConfig" = some fs)
    (R : String → String → Option String) (hR : ResolverOK R) (w : Json) (x : LnV)
    (hU : lnU fs (fs.indexOf "address") (fs.indexOf "network") R w = some x) :
    ∃ y, lnU fs (fs.indexOf "address") (fs.indexOf "network") R (lnM fs (fs.indexOf "address") x) = some y ∧
      lnM fs (fs.indexOf "address") y = lnM fs (fs.indexOf "address") x := by
  have hreg : (match embFields "ListenerConfig" with
    | some fs => keysOKFB fs && strAt fs (fs.indexOf "address") "address" && strAt fs (fs.indexOf "network") "network"
    | none => false) = true := by decide +kernel
  rw [h] at hreg
  simp only [Bool.and_eq_true] at hreg
  exact ln_fixpoint fs _ _ (keysOKF_of_keysOKFB fs hreg.1.1) hreg.1.2 hreg.2 R hR w x hU

/-! the Go structs behind these pairs, in the regenerated graph: an embedded config + derived `json:"-"` fields only -/
example : (G.find "ClusterWeight").map (fun d => d.fields.map (fun f => (f.name, f.json, f.embedded))) =
      some [("ClusterWeightConfig", "", true), ("MetadataMatch", "-", false)] ∧
    (G.find "RouteAction").map (fun d => d.fields.map (fun f => (f.name, f.json, f.embedded))) =
      some [("RouterActionConfig", "", true), ("MetadataMatch", "-", false), ("Timeout", "-", false)] ∧
    (G.find "Router").map (fun d => d.fields.map (fun f => (f.name, f.json, f.embedded))) =
      some [("RouterConfig", "", true), ("Metadata", "-", false)] := by decide +kernel
example : (G.find "CircuitBreakers").map (fun d => d.fields.map (fun f => (f.name, f.json, f.embedded, f.ty))) =
      some [("Thresholds", "", false, .slice (.named "Thresholds"))] := by decide +kernel
example : (G.find "Listener").map (fun d => d.fields.map (fun f => (f.name, f.json, f.embedded))) =
      some [("ListenerConfig", "", true), ("Addr", "-", false), ("ListenerTag", "-", false), ("ListenerScope", "-", false),
            ("PerConnBufferLimitBytes", "-", false), ("InheritListener", "-", false), ("InheritPacketConn", "-", false),
            ("Remain", "-", false)] := by decide +kernel
/-- `timeout` of `RouterActionConfig` is an `api.DurationConfig` (never omitted); `Host` is the fourth wrapper -/
example : (match embFields "RouterActionConfig" with
      | some fs => (match fs.get? (fs.indexOf "timeout") with
        | some (k, o, sh) => k == "timeout" && o && sh == .dur
        | none => false)
      | none => false) = true ∧
    (match embFields "HostConfig" with | some fs => keysOKF fs && metaAt fs (fs.indexOf "metadata") | none => false) = true :=
  ⟨by decide +kernel, regenerated_metadata_wrappers "Host" "HostConfig" "metadata" (by simp [Gen.ConfigPairs.customKinds])⟩

/-! non-vacuity -/

/-- ClusterWeight: a non-string `mosn.lb` value is dropped by the first load; then stable -/
example : (match embFields "ClusterWeightConfig" with
    | some fs =>
      (match metaU fs 2 (.obj [("name", .str "c"), ("metadata_match", .obj [("filter_metadata", .obj [("mosn.lb",
          .obj [("v", .str "1"), ("n", .num "2")])])])]) with
      | some x => metaM fs 2 x == .obj [("name", .str "c"), ("metadata_match", .obj [("filter_metadata", .obj [("mosn.lb",
          .obj [("v", .str "1")])])])]
      | none => false)
    | none => false) = true := by decide +kernel
/-- RouteAction: `90s` is written as `1m30s`, an absent timeout as `0s`, empty metadata disappears -/
example : (match embFields "RouterActionConfig" with
    | some fs =>
      (match metaU fs 6 (.obj [("cluster_name", .str "c"), ("timeout", .str "90s"), ("metadata_match", .obj [])]) with
      | some x => metaM fs 6 x == .obj [("cluster_name", .str "c"), ("timeout", .str "1m30s")]
      | none => false) &&
      (match metaU fs 6 (.obj []) with
      | some x => metaM fs 6 x == .obj [("timeout", .str "0s")]
      | none => false)
    | none => false) = true := by decide +kernel
/-- CircuitBreakers: zero thresholds vanish behind `omitempty`, `null` stays `null` -/
example : (match shapeOf "Thresholds" with
    | some th =>
      (match cbU th (.arr [.obj [("max_connections", .num "0"), ("max_retries", .num "3")]]) with
      | some x => cbM th x == .arr [.obj [("max_retries", .num "3")]] | none => false) &&
      (match cbU th .null with | some x => cbM th x == .null | none => false) &&
      (cbU th (.obj [])).isNone
    | none => false) = true := by decide +kernel
/-- Listener: `network` absent ⇒ `tcp`, `TCP` ⇒ `tcp`; the address becomes the resolver's answer; empty address, `sctp`
and an unresolvable address are errors.  (`R`: `localhost:80` ↦ `127.0.0.1:80` ↦ itself: `ResolverOK` on these.) -/
example : (match embFields "ListenerConfig" with
    | some fs =>
      let R : String → String → Option String := fun _ a =>
        if a == "localhost:80" || a == "127.0.0.1:80" then some "127.0.0.1:80" else none
      (match lnU fs 2 5 R (.obj [("name", .str "l"), ("address", .str "localhost:80"), ("network", .str "TCP")]) with
      | some x => lnM fs 2 x == .obj [("name", .str "l"), ("address", .str "127.0.0.1:80"), ("network", .str "tcp")]
      | none => false) &&
      (match lnU fs 2 5 R (.obj [("address", .str "127.0.0.1:80")]) with
      | some x => lnM fs 2 x == .obj [("address", .str "127.0.0.1:80"), ("network", .str "tcp")]
      | none => false) &&
      (lnU fs 2 5 R (.obj [("name", .str "l")])).isNone &&
      (lnU fs 2 5 R (.obj [("address", .str "127.0.0.1:80"), ("network", .str "sctp")])).isNone &&
      (lnU fs 2 5 R (.obj [("address", .str "nohost")])).isNone
    | none => false) = true := by decide +kernel

/-! ## directory ("dynamic") mode: `clusters_configs` / `router_configs` -/

section Directory
open MosnVerif.Model.ConfigDir MosnVerif.Model.DirTypes

/-- **dynamic_roundtrip**: let `ops` be file-name operations that end with `+ ext` and `uniqueFileName`, where
`ext` is the extension the loader reads, and that replace every path separator before (`opsOK`, decided below for the
regenerated lists; likewise every NUL byte).  Then for EVERY directory content `d` (files of any name and body), every list of items `cs` — names
of any length, colliding after truncation / separator replacement, empty, even repeated — every clock and every item
codec with `dcd (enc c) = some (nrm c)`: the dump succeeds, and the loader applied to what the dump left returns exactly
the items dumped (as a permutation: `ReadDir` sorts by file name), each as one (un)marshal cycle leaves it.
No hypothesis on the names: a NUL byte is replaced like the separator (repaired defect `dynnul`: before, `open` refused
the file name and the whole dump failed — witness below on the operations before the repair). -/
theorem dynamic_roundtrip {α : Type} (ops : List NameOp) (hops : opsOK ops Gen.ConfigDir.readExt = true)
    (enc : α → Json) (dcd : Json → Option α) (nrm : α → α) (hcodec : ∀ c, dcd (enc c) = some (nrm c))
    (nameOf : α → Bytes) (clock : Nat → Bytes) (hclock : ClockOK clock) (d : Dir) (cs : List α) :
    ∃ d' l, marshalDynamic ops enc nameOf clock d cs = some d' ∧
      unmarshalDynamic dcd Gen.ConfigDir.readExt d' = some l ∧ l.Perm (cs.map nrm) :=
  dynamic_roundtrip_gen ops _ hops enc dcd nrm nameOf clock hclock d cs (fun c _ => hcodec c)

/-- the **regenerated** operations of `ClusterManagerConfig.MarshalJSON` and `RouterConfiguration.MarshalJSON` are such
operations: truncation to `MaxFilePath`, then the separator and the NUL replacement, then the extension, then
`uniqueFileName`, then the in-use mark `delete(allFiles, fileName)` on the final name -/
theorem regenerated_name_ops_ok :
    opsOK Gen.ConfigDir.clusterNameOps Gen.ConfigDir.readExt = true ∧
    opsOK Gen.ConfigDir.vhostNameOps Gen.ConfigDir.readExt = true := by decide +kernel

/-- … and they read the clock only for an empty name -/
theorem regenerated_name_ops_stamp_first :
    stampFirst Gen.ConfigDir.clusterNameOps = true ∧ stampFirst Gen.ConfigDir.vhostNameOps = true := by decide +kernel

/-- clusters in `clusters_configs` mode -/
theorem dynamic_roundtrip_clusters {α : Type} (enc : α → Json) (dcd : Json → Option α) (nrm : α → α)
    (hcodec : ∀ c, dcd (enc c) = some (nrm c)) (nameOf : α → Bytes) (clock : Nat → Bytes) (hclock : ClockOK clock)
    (d : Dir) (cs : List α) :
    ∃ d' l, marshalDynamic Gen.ConfigDir.clusterNameOps enc nameOf clock d cs = some d' ∧
      unmarshalDynamic dcd Gen.ConfigDir.readExt d' = some l ∧ l.Perm (cs.map nrm) :=
  dynamic_roundtrip _ regenerated_name_ops_ok.1 enc dcd nrm hcodec nameOf clock hclock d cs

/-- virtual hosts in `router_configs` mode -/
theorem dynamic_roundtrip_vhosts {α : Type} (enc : α → Json) (dcd : Json → Option α) (nrm : α → α)
    (hcodec : ∀ c, dcd (enc c) = some (nrm c)) (nameOf : α → Bytes) (clock : Nat → Bytes) (hclock : ClockOK clock)
    (d : Dir) (cs : List α) :
    ∃ d' l, marshalDynamic Gen.ConfigDir.vhostNameOps enc nameOf clock d cs = some d' ∧
      unmarshalDynamic dcd Gen.ConfigDir.readExt d' = some l ∧ l.Perm (cs.map nrm) :=
  dynamic_roundtrip _ regenerated_name_ops_ok.2 enc dcd nrm hcodec nameOf clock hclock d cs

/-- the directory round trip **closed over the regenerated item codec** (`s` = `Cluster` with the operations of
`ClusterManagerConfig.MarshalJSON`, or `VirtualHost` with those of `RouterConfiguration.MarshalJSON`): the shape of `s`
unfolds from the regenerated field tables *including* its custom members (HealthCheck, KeepAlive, Host, CircuitBreakers,
TLS / SDS; Router, RouteAction, ClusterWeight, RetryPolicy — classified from their method bodies, `Gen.ConfigPairs`); for
every directory, clock and list of values of that shape, the dump succeeds, the loader returns the items as one cycle
normalises them, and these re-encode to the very same documents — a second dump writes the same set of documents. -/
theorem dynamic_roundtrip_closed (s : String) (ops : List NameOp) (sh : Shape) (h : shapeOf s = some sh)
    (hreg : (match shapeOf s with | some sh => keysOK sh | none => false) = true)
    (hops : opsOK ops Gen.ConfigDir.readExt = true) (clock : Nat → Bytes) (hclock : ClockOK clock) (d : Dir)
    (cs : List CVal) (hwt : ∀ c ∈ cs, wt sh c = true) :
    ∃ d' l, marshalDynamic ops (encode sh) (itemName sh) clock d cs = some d' ∧
      unmarshalDynamic (decode sh) Gen.ConfigDir.readExt d' = some l ∧ l.Perm (cs.map (norm sh)) ∧
      (l.map (encode sh)).Perm (cs.map (encode sh)) := by
  rw [h] at hreg
  obtain ⟨d', l, h1, h2, h3⟩ := dynamic_roundtrip_gen ops _ hops (encode sh) (decode sh) (norm sh) (itemName sh) clock
    hclock d cs (fun c hc => rt sh hreg c (hwt c hc))
  refine ⟨d', l, h1, h2, h3, ?_⟩
  have h4 := h3.map (encode sh)
  refine h4.trans ?_
  rw [List.map_map]
  have : ∀ c ∈ cs, (encode sh ∘ norm sh) c = encode sh c := fun c hc => en sh c (hwt c hc)
  rw [List.map_congr_left this]

/-- clusters (`clusters_configs`) and virtual hosts (`router_configs`) with their regenerated shapes -/
theorem dynamic_roundtrip_clusters_closed (sh : Shape) (h : shapeOf "Cluster" = some sh) (clock : Nat → Bytes)
    (hclock : ClockOK clock) (d : Dir) (cs : List CVal) (hwt : ∀ c ∈ cs, wt sh c = true) :
    ∃ d' l, marshalDynamic Gen.ConfigDir.clusterNameOps (encode sh) (itemName sh) clock d cs = some d' ∧
      unmarshalDynamic (decode sh) Gen.ConfigDir.readExt d' = some l ∧ l.Perm (cs.map (norm sh)) ∧
      (l.map (encode sh)).Perm (cs.map (encode sh)) :=
  dynamic_roundtrip_closed "Cluster" _ sh h (by rw [h]; exact keysOK_of_shapeOf h) regenerated_name_ops_ok.1 clock hclock d cs hwt

theorem dynamic_roundtrip_vhosts_closed (sh : Shape) (h : shapeOf "VirtualHost" = some sh) (clock : Nat → Bytes)
    (hclock : ClockOK clock) (d : Dir) (cs : List CVal) (hwt : ∀ c ∈ cs, wt sh c = true) :
    ∃ d' l, marshalDynamic Gen.ConfigDir.vhostNameOps (encode sh) (itemName sh) clock d cs = some d' ∧
      unmarshalDynamic (decode sh) Gen.ConfigDir.readExt d' = some l ∧ l.Perm (cs.map (norm sh)) ∧
      (l.map (encode sh)).Perm (cs.map (encode sh)) :=
  dynamic_roundtrip_closed "VirtualHost" _ sh h (by rw [h]; exact keysOK_of_shapeOf h) regenerated_name_ops_ok.2 clock hclock d cs hwt

/-- **dynamic_files**: what the dump leaves — one file per item, pairwise distinct names, each with the extension the
loader reads; nothing else survives, whatever the directory held -/
theorem dynamic_files {α : Type} (ops : List NameOp) (hops : opsOK ops Gen.ConfigDir.readExt = true) (enc : α → Json)
    (nameOf : α → Bytes) (clock : Nat → Bytes) (hclock : ClockOK clock) (d : Dir) (cs : List α) :
    ∃ files : List (Bytes × α), marshalDynamic ops enc nameOf clock d cs = some (files.map (docOf enc)) ∧
      (files.map (·.1)).Nodup ∧ (∀ p ∈ files, ext p.1 = Gen.ConfigDir.readExt) ∧ files.map (·.2) = cs.reverse ∧
      files = plan ops nameOf clock cs :=
  marshalDynamic_spec ops _ hops enc nameOf clock hclock d cs

/-- **dump_independent_of_directory**: what a dump leaves in the directory is a function of the items and the clock
(`plan`) — not of what the directory held: stale files, files of an earlier dump under the very names this dump
chooses (`x.json`, `x_1.json`), operator files under unrelated names -/
theorem dump_independent_of_directory {α : Type} (ops : List NameOp) (hops : opsOK ops Gen.ConfigDir.readExt = true)
    (enc : α → Json) (nameOf : α → Bytes) (clock : Nat → Bytes) (hclock : ClockOK clock) (d₁ d₂ : Dir) (cs : List α) :
    marshalDynamic ops enc nameOf clock d₁ cs = marshalDynamic ops enc nameOf clock d₂ cs := by
  rw [marshalDynamic_plan ops _ hops enc nameOf clock hclock d₁ cs,
    marshalDynamic_plan ops _ hops enc nameOf clock hclock d₂ cs]

/-- **dump_idempotent** (dump ; dump = dump): a second dump of the same items into the directory the first one left
reproduces that directory exactly — same file names, same documents; in particular the stale-file cleanup of the second
dump removes none of the files it has just written, disambiguated ones (`x_1.json`) included.  The clock is read only
for items without a name (`stampFirst`, decided for the regenerated operations), so with named items the two dumps may
run at any two times. -/
theorem dump_idempotent {α : Type} (ops : List NameOp) (hops : opsOK ops Gen.ConfigDir.readExt = true)
    (hst : stampFirst ops = true) (enc : α → Json) (nameOf : α → Bytes) (clock clock' : Nat → Bytes)
    (hclock : ClockOK clock) (hclock' : ClockOK clock') (d : Dir) (cs : List α)
    (hnames : (∀ c ∈ cs, nameOf c ≠ []) ∨ clock' = clock) :
    ∃ d₁, marshalDynamic ops enc nameOf clock d cs = some d₁ ∧ marshalDynamic ops enc nameOf clock' d₁ cs = some d₁ := by
  refine ⟨_, marshalDynamic_plan ops _ hops enc nameOf clock hclock d cs, ?_⟩
  rw [marshalDynamic_plan ops _ hops enc nameOf clock' hclock' _ cs]
  rcases hnames with h | h
  · unfold plan; rw [planLoop_clock_indep ops hst nameOf clock' clock cs h 0 0 []]
  · rw [h]

/-- **reload_after_dumps**: after ANY number (≥ 1) of dumps of the same items into the same directory, at any times —
items without a name included, whose files are renamed by every dump —, whatever the directory held at the start, the
loader returns exactly the dumped items -/
theorem reload_after_dumps {α : Type} (ops : List NameOp) (hops : opsOK ops Gen.ConfigDir.readExt = true)
    (enc : α → Json) (dcd : Json → Option α) (nrm : α → α) (hcodec : ∀ c, dcd (enc c) = some (nrm c))
    (nameOf : α → Bytes) (cs : List α) (clocks : List (Nat → Bytes)) (hne : clocks ≠ [])
    (hclocks : ∀ k ∈ clocks, ClockOK k) (d : Dir) :
    ∃ d' l, dumps ops enc nameOf cs clocks d = some d' ∧
      unmarshalDynamic dcd Gen.ConfigDir.readExt d' = some l ∧ l.Perm (cs.map nrm) := by
  induction clocks generalizing d with
  | nil => exact absurd rfl hne
  | cons k r ih =>
    obtain ⟨d₁, l, h1, h2, h3⟩ := dynamic_roundtrip_gen ops _ hops enc dcd nrm nameOf k (hclocks k (by simp)) d cs
      (fun c _ => hcodec c)
    cases r with
    | nil => exact ⟨d₁, l, by simp [dumps, h1], h2, h3⟩
    | cons k2 r2 =>
      obtain ⟨d', l', g1, g2, g3⟩ := ih (by simp) (fun k' hk' => hclocks k' (by simp [hk'])) d₁
      exact ⟨d', l', by simpa [dumps, h1] using g1, g2, g3⟩

/-- both for the regenerated operations of the two directory pairs -/
theorem dump_idempotent_regenerated {α : Type} (enc : α → Json) (nameOf : α → Bytes) (clock clock' : Nat → Bytes)
    (hclock : ClockOK clock) (hclock' : ClockOK clock') (d : Dir) (cs : List α)
    (hnames : (∀ c ∈ cs, nameOf c ≠ []) ∨ clock' = clock) :
    (∃ d₁, marshalDynamic Gen.ConfigDir.clusterNameOps enc nameOf clock d cs = some d₁ ∧
      marshalDynamic Gen.ConfigDir.clusterNameOps enc nameOf clock' d₁ cs = some d₁) ∧
    (∃ d₁, marshalDynamic Gen.ConfigDir.vhostNameOps enc nameOf clock d cs = some d₁ ∧
      marshalDynamic Gen.ConfigDir.vhostNameOps enc nameOf clock' d₁ cs = some d₁) :=
  ⟨dump_idempotent _ regenerated_name_ops_ok.1 regenerated_name_ops_stamp_first.1 enc nameOf clock clock' hclock hclock'
      d cs hnames,
   dump_idempotent _ regenerated_name_ops_ok.2 regenerated_name_ops_stamp_first.2 enc nameOf clock clock' hclock hclock'
      d cs hnames⟩

/-- non-vacuity: `svc/v1`, `svc_v1` dumped twice over a stray file — the second dump keeps `svc_v1_1.json`; an
in-use mark taken BEFORE `uniqueFileName` (second example: not `opsOK`) loses it on the second dump, and the item with
it: the first dump is fine, which is why a single dump → reload cycle cannot show it -/
example : (match dumps Gen.ConfigDir.vhostNameOps (fun _ : Bytes => Json.null) id
      [[115, 47, 118], [115, 95, 118]] [fun _ => [49], fun _ => [50]] [([120], .junk)] with
    | some d => d.map (·.1) | none => []) =
    [[115, 95, 118, 95, 49, 46, 106, 115, 111, 110], [115, 95, 118, 46, 106, 115, 111, 110]] := by decide +kernel
example : opsOK [.orStamp, .truncate 128 128, .replaceAll 47 [95], .append [46, 106, 115, 111, 110], .mark, .unique]
      Gen.ConfigDir.readExt = false ∧
    (fun k => match dumps [.orStamp, .truncate 128 128, .replaceAll 47 [95], .append [46, 106, 115, 111, 110], .mark, .unique]
        (fun _ : Bytes => Json.null) id [[115, 47, 118], [115, 95, 118]] (List.replicate k (fun _ => [49])) [([120], .junk)] with
      | some d => d.length | none => 0) 1 = 2 ∧
    (fun k => match dumps [.orStamp, .truncate 128 128, .replaceAll 47 [95], .append [46, 106, 115, 111, 110], .mark, .unique]
        (fun _ : Bytes => Json.null) id [[115, 47, 118], [115, 95, 118]] (List.replicate k (fun _ => [49])) [([120], .junk)] with
      | some d => d.length | none => 0) 2 = 1 := by decide +kernel

/-- **unique_file_name**: `uniqueFileName` never returns a name already written by this dump (its loop ends within
`|written| + 1` rounds), and leaves a free name alone -/
theorem unique_file_name (written : List Bytes) (f : Bytes) :
    uniq written f ∉ written ∧ (f ∉ written → uniq written f = f) :=
  ⟨uniq_not_mem written f, uniq_of_not_mem written f⟩

/-! non-vacuity and witnesses (names as bytes: `a/b` = [97,47,98], `a_b` = [97,95,98], `.json` = [46,106,115,111,110]) -/

/-- hypotheses of `dynamic_roundtrip` are satisfiable: a directory with a stray file, two colliding names,
a clock showing digits -/
example : ClockOK (fun i => dec i) := by
  intro i
  exact ⟨free_dec 0 (by decide) i, free_dec 47 (by decide) i⟩

/-- the repaired dump on `a/b`, `a_b` (same file name after the separator replacement) over a stale file: two files -/
example : (match marshalDynamic Gen.ConfigDir.clusterNameOps (fun _ : Bytes => Json.null) id (fun _ => [49])
      [([120], .junk)] [[97, 47, 98], [97, 95, 98]] with
    | some d => d.map (·.1) | none => []) =
    [[97, 95, 98, 95, 49, 46, 106, 115, 111, 110], [97, 95, 98, 46, 106, 115, 111, 110]] := by decide +kernel

/-- the operations BEFORE the repair (commit a55302045): no `uniqueFileName` — `a/b` and `a_b` (likewise two names with a
common prefix of `MaxFilePath` bytes) went to one file and one item was lost: a defect of the unchanged tree, repaired -/
example : (match marshalDynamic [.orStamp, .truncate 128 128, .replaceAll 47 [95], .append [46, 106, 115, 111, 110], .mark]
      (fun _ : Bytes => Json.null) id (fun _ => [49]) [] [[97, 47, 98], [97, 95, 98]] with
    | some d => d.length | none => 0) = 1 := by decide +kernel
example : fileName [.orStamp, .truncate 128 128, .replaceAll 47 [95], .append [46, 106, 115, 111, 110]] [] []
      (List.replicate 128 97 ++ [65]) =
    fileName [.orStamp, .truncate 128 128, .replaceAll 47 [95], .append [46, 106, 115, 111, 110]] [] []
      (List.replicate 128 97 ++ [66]) := by decide +kernel

/-- the operations BEFORE the NUL repair are not `opsOK`, and a NUL byte in a name made the dump fail (defect `dynnul`,
repaired); with the regenerated operations `a\0b`, `a/b`, `a_b`, a name of only such bytes and a name longer than
`MaxFilePath` ending in them all get files of their own -/
example : opsOK [.orStamp, .truncate 128 128, .replaceAll 47 [95], .append [46, 106, 115, 111, 110], .unique, .mark]
      Gen.ConfigDir.readExt = false ∧
    (marshalDynamic [.orStamp, .truncate 128 128, .replaceAll 47 [95], .append [46, 106, 115, 111, 110], .unique, .mark]
      (fun _ : Bytes => Json.null) id (fun _ => [49]) [] [[97, 0, 98]]).isNone = true := by decide +kernel
example : (match marshalDynamic Gen.ConfigDir.clusterNameOps (fun _ : Bytes => Json.null) id (fun _ => [49]) []
      [[97, 0, 98], [97, 47, 98], [97, 95, 98], [0, 47, 0]] with
    | some d => d.map (·.1) | none => []) =
    [[95, 95, 95, 46, 106, 115, 111, 110], [97, 95, 98, 95, 50, 46, 106, 115, 111, 110],
     [97, 95, 98, 95, 49, 46, 106, 115, 111, 110], [97, 95, 98, 46, 106, 115, 111, 110]] := by decide +kernel
example : (match marshalDynamic Gen.ConfigDir.vhostNameOps (fun _ : Bytes => Json.null) id (fun _ => [49]) []
      [List.replicate 127 97 ++ [0, 66], List.replicate 127 97 ++ [47, 67]] with
    | some d => d.map (fun f => (f.1.length, f.1.drop 126)) | none => []) =
    [(135, [97, 95, 95, 49, 46, 106, 115, 111, 110]), (133, [97, 95, 46, 106, 115, 111, 110])] := by decide +kernel

/-- appending the extension BEFORE the truncation is not `opsOK`: a name of 124 bytes gets the extension `.jso` -/
example : opsOK [.orStamp, .replaceAll 47 [95], .append [46, 106, 115, 111, 110], .truncate 128 128, .unique, .mark]
      Gen.ConfigDir.readExt = false ∧
    ext (fileName [.orStamp, .replaceAll 47 [95], .append [46, 106, 115, 111, 110], .truncate 128 128, .unique, .mark] [] []
      (List.replicate 124 97)) = [46, 106, 115, 111] := by decide +kernel

end Directory

/-- the regenerated classification of the custom pairs, and what the big structs unfold to: `Router` is a metadata
wrapper at member 4 of `RouterConfig`, whose `route` member is a metadata wrapper at member 6 of `RouterActionConfig`;
`Cluster`, `VirtualHost`, `RouterConfigurationConfig`… unfold; `Listener`, `FilterChain` and the directory pairs do not -/
example : (kindOf "ClusterWeight" == .metadata "ClusterWeightConfig" "metadata_match" &&
    kindOf "RouteAction" == .metadata "RouterActionConfig" "metadata_match" &&
    kindOf "Router" == .metadata "RouterConfig" "metadata" && kindOf "Host" == .metadata "HostConfig" "metadata" &&
    kindOf "RetryPolicy" == .mirror "RetryPolicyConfig" && kindOf "HealthCheck" == .mirror "HealthCheckConfig" &&
    kindOf "KeepAlive" == .mirror "KeepAliveConfig" && kindOf "SecretConfigWrapper" == .mirror "SecretConfigWrapperConfig" &&
    kindOf "CircuitBreakers" == .boxed "Thresholds" && kindOf "FilterChain" == .other && kindOf "Listener" == .other &&
    kindOf "ClusterManagerConfig" == .other && kindOf "RouterConfiguration" == .other) = true := by decide +kernel
example : (match shapeOf "Router" with
    | some (.metaS 4 fs) => (match fs.get? 1 with | some ("route", true, .metaS 6 _) => true | _ => false)
    | _ => false) = true := by decide +kernel
example : ((shapeOf "Cluster").isSome && (shapeOf "VirtualHost").isSome && (shapeOf "TLSConfig").isSome &&
    (shapeOf "Listener").isNone && (shapeOf "FilterChain").isNone && (shapeOf "ClusterManagerConfig").isNone &&
    (shapeOf "RouterConfiguration").isNone && (shapeOf "MOSNConfig").isNone) = true := by decide +kernel
/-- nested customs in one cycle: a virtual host whose route has a weighted cluster with non-string metadata and a retry
policy with a `90s` timeout — the metadata value is dropped, both durations are rewritten, absent timeouts appear -/
example : (match shapeOf "VirtualHost" with
    | some sh =>
      (match decode sh (.obj [("name", .str "v"), ("routers", .arr [.obj [("route", .obj [
          ("weighted_clusters", .arr [.obj [("cluster", .obj [("name", .str "c"), ("metadata_match", .obj [("filter_metadata",
            .obj [("mosn.lb", .obj [("z", .str "a"), ("n", .num "1")])])])])]]),
          ("retry_policy", .obj [("retry_timeout", .str "90s")])])]])]) with
      | some v => encode sh v == .obj [("name", .str "v"), ("routers", .arr [.obj [("match", .obj []), ("route", .obj [
          ("weighted_clusters", .arr [.obj [("cluster", .obj [("name", .str "c"), ("metadata_match", .obj [("filter_metadata",
            .obj [("mosn.lb", .obj [("z", .str "a")])])])])]]),
          ("timeout", .str "0s"), ("retry_policy", .obj [("retry_timeout", .str "1m30s")])])]])]
      | none => false)
    | none => false) = true := by decide +kernel

/-! ## the hand-written shapes of the custom pairs against the regenerated tables -/

/-- `HostConfig` of the regenerated graph is exactly `hostShape` -/
example : (match shapeOf "HostConfig" with | some sh => sh == hostShape | none => false) = true := by decide +kernel
/-- `FilterChainConfig` of the regenerated graph is `fcShape` over the regenerated TLSConfig and Filter tables -/
example : (match looseShapeOf "TLSConfig", shapeOf "Filter", looseShapeOf "FilterChainConfig" with
    | some tls, some fl, some fc => fc == fcShape tls fl && keysOK tls && keysOK fl && ptrElemOK tls
    | _, _, _ => false) = true := by decide +kernel
/-- `RetryPolicyConfig`: the four members `retryU` / `retryM` handle, in this order, all `omitempty` -/
example : (G.find "RetryPolicyConfig").map (fun d => d.fields.map (fun f => (jsonKey f, f.omitempty, f.ty))) =
    some [("retry_on", true, .bool), ("retry_timeout", true, .ext "api.DurationConfig"), ("num_retries", true, .num),
          ("status_codes", true, .slice .num)] := by decide +kernel
/-- the structs with the custom pairs embed exactly these configs and keep their derived fields out of JSON -/
example : (G.find "FilterChain").map (fun d => d.fields.map (fun f => (f.name, f.json, f.embedded))) =
      some [("FilterChainConfig", "", true), ("TLSContexts", "-", false)] ∧
    (G.find "Host").map (fun d => d.fields.map (fun f => (f.name, f.json, f.embedded))) =
      some [("HostConfig", "", true), ("MetaData", "-", false)] ∧
    (G.find "RetryPolicy").map (fun d => d.fields.map (fun f => (f.name, f.json, f.embedded))) =
      some [("RetryPolicyConfig", "", true), ("RetryTimeout", "-", false)] := by decide +kernel

/-- `KeepAlive` and `HealthCheck` are mirror wrappers of generic configs: embedded config + `json:"-"` durations only -/
example : (G.find "KeepAlive").map (fun d => d.fields.map (fun f => (f.name, f.json, f.embedded, f.ty))) =
      some [("KeepAliveConfig", "", true, .named "KeepAliveConfig"), ("Interval", "-", false, .ext "time.Duration"),
            ("Timeout", "-", false, .ext "time.Duration")] ∧
    (G.find "HealthCheck").map (fun d => d.fields.map (fun f => (f.name, f.json, f.embedded, f.ty))) =
      some [("HealthCheckConfig", "", true, .named "HealthCheckConfig"), ("Timeout", "-", false, .ext "time.Duration"),
            ("Interval", "-", false, .ext "time.Duration"), ("IntervalJitter", "-", false, .ext "time.Duration")] ∧
    (genericStructs.contains "KeepAliveConfig" && genericStructs.contains "HealthCheckConfig") = true := by
  refine ⟨by decide +kernel, by decide +kernel, ?_⟩
  simp [mem_genericStructs (s := "KeepAliveConfig") (by decide +kernel),
    mem_genericStructs (s := "HealthCheckConfig") (by decide +kernel)]

/-! ## non-vacuity -/

/-- a struct of the regenerated graph, a value with an empty non-nil slice behind `omitempty`: the cycle normalises it -/
example : (match shapeOf "RouterMatch" with
    | some sh =>
      let v := CVal.struct [.str "/p", .str "", .str "", .slice false [], .slice true [], .slice false [.struct [.str "e"]]]
      wt sh v && keysOK sh &&
        (encode sh v == Json.obj [("prefix", .str "/p"), ("dsl_expressions", .arr [.obj [("expression", .str "e")]])]) &&
        (match decode sh (encode sh v) with | some v' => !(v' == v) && v' == norm sh v | none => false)
    | none => false) = true := by decide +kernel

/-- FilterChain: a single `tls_context` is dumped as a one-element `tls_context_set`, and stays so -/
example : (match fcU .str .hole (.obj [("tls_context", .str "T"), ("filters", .arr [.num "1"])]) with
    | some x => fcM .str .hole x == .obj [("tls_context_set", .arr [.str "T"]), ("filters", .arr [.num "1"])]
    | none => false) = true := by decide +kernel
example : (fcU .str .hole (.obj [("tls_context", .str "T"), ("tls_context_set", .arr [.str "S"])])).isNone = true := by
  decide +kernel
/-- Host: a non-string metadata value is dropped by the first load (and only by the first) -/
example : (match hostU (.obj [("address", .str "a:1"), ("metadata", .obj [("filter_metadata", .obj [("mosn.lb",
      .obj [("v", .str "1"), ("n", .num "2")])])])]) with
    | some x => hostM x == .obj [("address", .str "a:1"), ("metadata", .obj [("filter_metadata", .obj [("mosn.lb",
      .obj [("v", .str "1")])])])]
    | none => false) = true := by decide +kernel

/-- RetryPolicy: `90s` is dumped as `1m30s` and stays so; parse ∘ print = id on the boundary values of `time.Duration` -/
example : (match retryU (.obj [("retry_on", .bool true), ("retry_timeout", .str "90s"), ("status_codes", .arr [.num "500"])]) with
    | some x => retryM x == .obj [("retry_on", .bool true), ("retry_timeout", .str "1m30s"), ("status_codes", .arr [.num "500"])]
    | none => false) = true := by decide +kernel
example : ([0, 1, 999, 1000, 1500, 999999, 1000000, 999999999, 1000000000, 59999999999, 60000000000, 3600000000000,
    3661000000001, -1, -1500000, 9223372036854775807, -9223372036854775808] : List Int).all
    (fun d => durU (.str (GoDuration.fmtDur d)) == some d) = true := by decide +kernel

/-! ## a router whose persisted MODE changes at run time (directory → static and back) survives dump and reload

`Model/Updates` (shared with C12): a router configuration carries `path` (`router_configs`) and `static` (`virtual_hosts`);
`configmanager.SetRouter`'s transition — which field goes where under which condition — is regenerated (`Gen.Updates.setRouter_*`);
`dumpRouter` is `transferConfig`, `marshalRouter` / `unmarshalRouter` are `RouterConfiguration.MarshalJSON` / `UnmarshalJSON`
at the level of the two mode fields (the virtual hosts themselves: `dynamic_roundtrip_*` above, parameter `fsr` here). -/
section dynupd
open MosnVerif.Model.Updates

/-- **mode_change_survives_reload**: after EVERY history of runtime updates in which routers are (re)loaded from a directory,
from static JSON or built by code, in any order, mixed with single-route additions / removals and any other operation: for every
router name the dumped file LOADS AGAIN (never `ErrDuplicateStaticAndDynamic`) and gives the router the running proxy holds —
same name, same mode (the path of the LAST complete update, empty when that one was static), same virtual hosts (through the
directory in directory mode). -/
theorem mode_change_survives_reload (o : Oracle) (ops : List Op) (hops : ∀ op ∈ ops, opLoaderShaped op)
    (fsr : List VHost → List VHost) (n : String) :
    reloadRouter fsr (run o ops) n = ((run o ops).wrappers n).map (fun w => some (reloadedCfg fsr w.cfg)) ∧
    (∀ w, (run o ops).wrappers n = some w → (run o ops).rpath n = w.cfg.path) :=
  ⟨reloadRouter_of_inv (inv_run o ops) (shinv_run o ops hops) fsr n, (inv_run o ops).r_path n⟩

/-- a store that keeps a directory path for a router whose stored configuration came from a static file is dumped with both
`router_configs` and `virtual_hosts`; the loader refuses that file (machine-checked negative witness for the "copy the path only
when the update carries one" shape of `SetRouter`). -/
theorem kept_path_refused_by_loader (fsr : List VHost → List VHost) (s : State) (n : String) (c : RouterCfg)
    (hs : s.rstore n = some c) (hstatic : c.static ≠ []) (hp : s.rpath n ≠ "") :
    reloadRouter fsr s n = some none := by
  simp only [reloadRouter, dumpRouter, hs, Option.map_some]
  rw [unmarshal_marshal_both fsr { c with path := s.rpath n } hp hstatic]

/-- the predicate of the `dynupd` cases holds of every model output -/
theorem spec_dynupd_holds_on_model (o : Oracle) (ops : List Op) (hops : ∀ op ∈ ops, opLoaderShaped op) (rnames : List String) :
    Spec.modeHolds (modeObserve o rnames (run o ops)) = true :=
  modeHolds_on_model o ops hops rnames

-- non-vacuity: directory load, static update (loader-shaped both), the reload of the dump is the static router
example :
    let dirCfg : RouterCfg := { name := "r", vhosts := [⟨"v1", ["a.b"], []⟩], path := "/etc/r" }
    let stCfg : RouterCfg := { name := "r", vhosts := [⟨"v2", ["*"], []⟩], static := [⟨"v2", ["*"], []⟩] }
    let o : Oracle := ⟨fun _ => true, fun doms d => doms.findIdx? (fun ds => ds.contains d)⟩
    loaderShaped dirCfg ∧ loaderShaped stCfg ∧
    (run o [.addOrUpdateRouters dirCfg]).rpath "r" = "/etc/r" ∧
    (run o [.addOrUpdateRouters dirCfg, .addOrUpdateRouters stCfg]).rpath "r" = "" ∧
    ((reloadRouter (fun l => l) (run o [.addOrUpdateRouters dirCfg, .addOrUpdateRouters stCfg]) "r").map
      (·.map (fun c => (c.path, c.vhosts.map (·.name))))) = some (some ("", ["v2"])) := by decide
end dynupd

/-! ## order of the lists across dump and reload (`transferConfig`'s reassembly, regenerated as `Gen.ConfigTransfer`) -/
section order
open MosnVerif.Model.OrderTypes MosnVerif.Model.ConfigOrder MosnVerif.Lemmas.ConfigOrder

/-- **dump_reload_preserves_order**: for every reassembly plan that copies `extends` in order, never sorts it and edits no
element (`planOK`; sorting the name-keyed lists is allowed), every configuration `c` (names and extend types may repeat,
lists inside elements are arbitrary), every iteration order of the three maps and every comparison used by the sort calls:
with `run = load c` the running configuration, `d` its dump and `re = load d` the restart from the dump —
the dumped and the reloaded `extends` ARE the running list (same elements, same order), and each name-keyed list of the
dump and of the reload is a permutation of the running table (whole elements: every ordered list inside a listener,
cluster or router is unchanged), with the same element under every name. -/
theorem dump_reload_preserves_order {κ : Type} [DecidableEq κ] (le : κ → κ → Bool) (p : Plan) (hp : planOK p = true)
    (c : Cfg κ) (itL itC itR : Table κ → Table κ)
    (hL : ∀ t, (itL t).Perm t) (hC : ∀ t, (itC t).Perm t) (hR : ∀ t, (itR t).Perm t) :
    let run := load c
    let d := dumpBy le p itL itC itR run
    let re := load d
    d.extends_ = run.extends_ ∧ re.extends_ = run.extends_ ∧
    d.listeners.Perm run.listeners ∧ d.clusters.Perm run.clusters ∧ d.routers.Perm run.routers ∧
    re.listeners.Perm run.listeners ∧ re.clusters.Perm run.clusters ∧ re.routers.Perm run.routers ∧
    (∀ k, re.listeners.find? (fun e => e.key = k) = run.listeners.find? (fun e => e.key = k)) ∧
    (∀ k, re.clusters.find? (fun e => e.key = k) = run.clusters.find? (fun e => e.key = k)) ∧
    (∀ k, re.routers.find? (fun e => e.key = k) = run.routers.find? (fun e => e.key = k)) := by
  obtain ⟨pl, pc, pr, px, ed⟩ := p
  simp only [planOK, Bool.and_eq_true, beq_iff_eq, List.isEmpty_iff] at hp
  obtain ⟨⟨⟨⟨⟨hx, hx0⟩, rfl⟩, hl⟩, hc⟩, hr⟩ := hp
  obtain ⟨l1, l2, l3⟩ := keyed_dump_reload le pl _ hl itL hL c.listeners
  obtain ⟨c1, c2, c3⟩ := keyed_dump_reload le pc _ hc itC hC c.clusters
  obtain ⟨r1, r2, r3⟩ := keyed_dump_reload le pr _ hr itR hR c.routers
  have hdx := dumpList_ordered_eq le px _ hx hx0 id (loadTable c.extends_)
  -- the three `let`s and the projections of `dumpBy` / `load` away: the clauses are then the lemmas' statements literally
  simp only [dumpBy, load]
  refine ⟨hdx, ?_, l1, c1, r1, l2, c2, r2, l3, c3, r3⟩
  rw [hdx]; exact loadTable_of_nodup _ (loadTable_keys_nodup _)

/-- **regenerated_transfer_keeps_order**: the plan regenerated from the body of `transferConfig` is complete (all four lists
found) and keeps order where order matters. -/
theorem regenerated_transfer_keeps_order : (genPlan.map planOK) = some true := by decide +kernel

/-- **transfer_dump_reload_preserves_order**: `dump_reload_preserves_order` for the regenerated plan of the real function. -/
theorem transfer_dump_reload_preserves_order {κ : Type} [DecidableEq κ] (le : κ → κ → Bool) (p : Plan) (h : genPlan = some p)
    (c : Cfg κ) (itL itC itR : Table κ → Table κ)
    (hL : ∀ t, (itL t).Perm t) (hC : ∀ t, (itC t).Perm t) (hR : ∀ t, (itR t).Perm t) :
    (load (dumpBy le p itL itC itR (load c))).extends_ = (load c).extends_ ∧
    (dumpBy le p itL itC itR (load c)).extends_ = (load c).extends_ ∧
    (∀ k, (load (dumpBy le p itL itC itR (load c))).listeners.find? (fun e => e.key = k) = (load c).listeners.find? (fun e => e.key = k)) ∧
    (∀ k, (load (dumpBy le p itL itC itR (load c))).clusters.find? (fun e => e.key = k) = (load c).clusters.find? (fun e => e.key = k)) ∧
    (∀ k, (load (dumpBy le p itL itC itR (load c))).routers.find? (fun e => e.key = k) = (load c).routers.find? (fun e => e.key = k)) := by
  have hok : planOK p = true := by
    have := regenerated_transfer_keeps_order
    rw [h] at this
    simpa using this
  have := dump_reload_preserves_order le p hok c itL itC itR hL hC hR
  exact ⟨this.2.1, this.1, this.2.2.2.2.2.2.2.2.1, this.2.2.2.2.2.2.2.2.2.1, this.2.2.2.2.2.2.2.2.2.2⟩

-- non-vacuity: a configuration with repeated extend types in non-alphabetical order, reversed map iteration
example :
    let x (k n : Nat) : Elem Nat := ⟨k, [("cfg", [n])]⟩
    let c : Cfg Nat := ⟨[⟨2, [("StreamFilters", [9, 3, 5])]⟩, ⟨1, []⟩], [⟨7, [("Hosts", [4, 2])]⟩], [], [x 5 0, x 2 1, x 9 2, x 2 3]⟩
    let p : Plan := ⟨⟨"Servers[0].Listeners", .fromMap "Listener", 1⟩, ⟨"ClusterManager.Clusters", .fromMap "Cluster", 0⟩,
      ⟨"Servers[0].Routers", .fromMap "Routers", 0⟩, ⟨"Extends", .inOrder "ExtendConfigs", 0⟩, []⟩
    planOK p = true ∧ (load c).extends_ = [x 5 0, x 2 3, x 9 2] ∧
    (dumpBy Nat.ble p List.reverse List.reverse List.reverse (load c)).listeners = [⟨1, []⟩, ⟨2, [("StreamFilters", [9, 3, 5])]⟩] ∧
    (load (dumpBy Nat.ble p List.reverse List.reverse List.reverse (load c))).extends_ = [x 5 0, x 2 3, x 9 2] := by decide +kernel

/-- **sorted_extends_reordered** (negation witness): a plan that sorts `extends` by type (the 'deterministic dump') is
refused by `planOK`, and a restart from its dump runs the extensions in another order. -/
theorem sorted_extends_reordered :
    let x (k : Nat) : Elem Nat := ⟨k, []⟩
    let c : Cfg Nat := ⟨[], [], [], [x 5, x 2, x 9]⟩
    let p : Plan := ⟨⟨"Servers[0].Listeners", .fromMap "Listener", 1⟩, ⟨"ClusterManager.Clusters", .fromMap "Cluster", 1⟩,
      ⟨"Servers[0].Routers", .fromMap "Routers", 1⟩, ⟨"Extends", .inOrder "ExtendConfigs", 1⟩, []⟩
    planOK p = false ∧ (load c).extends_ = [x 5, x 2, x 9] ∧
    (load (dumpBy Nat.ble p id id id (load c))).extends_ = [x 2, x 5, x 9] := by decide +kernel

/-- **sorted_stream_filters_reordered** (negation witness): a loop edit sorting a list inside every listener is refused by
`planOK`, and the reloaded listener has its stream filters in another order. -/
theorem sorted_stream_filters_reordered :
    let c : Cfg Nat := ⟨[⟨1, [("StreamFilters", [9, 3, 5]), ("FilterChains", [8, 1])]⟩], [], [], []⟩
    let p : Plan := ⟨⟨"Servers[0].Listeners", .fromMap "Listener", 0⟩, ⟨"ClusterManager.Clusters", .fromMap "Cluster", 0⟩,
      ⟨"Servers[0].Routers", .fromMap "Routers", 0⟩, ⟨"Extends", .inOrder "ExtendConfigs", 0⟩, [⟨"Servers[0].Listeners", "StreamFilters"⟩]⟩
    planOK p = false ∧
    (load (dumpBy Nat.ble p id id id (load c))).listeners = [⟨1, [("StreamFilters", [3, 5, 9]), ("FilterChains", [8, 1])]⟩] := by
  decide +kernel
end order

/-! ## the listener address keeps its FORM across dump and reload

`v2.Listener` keeps `Addr net.Addr` next to `AddrConfig string`; `MarshalJSON` writes `address` from `Addr.String()`, `UnmarshalJSON` /
`ParseListenerConfig` resolve `address` into `Addr` (`Gen.ListenerAddr`: the regenerated statement lists and resolver tables). -/
section listenerAddr
open MosnVerif.Model.ListenerAddr MosnVerif.Gen.ListenerAddr

/-- **gen_listener_addr_shape**: `MarshalJSON` prints the set `Addr` verbatim (no branch on the address value), `UnmarshalJSON`
requires an address, defaults / lower-cases the network, resolves by the table tcp / udp / unix (anything else rejected) and stores
the result; `ParseListenerConfig` resolves the same way and only when `Addr` is not set. -/
theorem gen_listener_addr_shape :
    marshal = [.ifAddrSet, .printVerbatim, .marshalConfig] ∧
    unmarshal = [.decodeConfig, .requireAddress, .defaultTcp, .lowerNetwork, .resolve, .failOnError, .setAddr, .setBufferLimit, .done] ∧
    parse = [.defaultTcp, .lowerNetwork, .ifAddrNil, .resolve, .failOnError, .setAddr] ∧
    ["tcp", "udp", "unix", "tcp4", "sctp", ""].map (netKind unmarshalResolvers) = [some .tcp, some .udp, some .unix, none, none, none] ∧
    parseResolvers = unmarshalResolvers ∧ unmarshalResolvers.length = 3 := by decide +kernel

/-- octets of an IPv4 literal -/
def wfIP : IP → Prop
  | .v4 a b c d => a ≤ 255 ∧ b ≤ 255 ∧ c ≤ 255 ∧ d ≤ 255
  | _ => True

def wfAddr : Addr → Prop
  | .tcp ip p => wfIP ip ∧ p ≤ 65535
  | .udp ip p => wfIP ip ∧ p ≤ 65535
  | .unix _ => True

/-- the system resolver answers with IP addresses -/
def ResOK (res : String → Option IP) : Prop := ∀ s ip, res s = some ip → wfIP ip

theorem parse_print (res : String → Option IP) (ip : IP) (h : wfIP ip) : parseHost res (printIP ip) = some ip := by
  cases ip <;> simp_all [printIP, parseHost, wfIP]

theorem parseHost_wf (res : String → Option IP) (hres : ResOK res) (h : HostTxt) (ip : IP) (e : parseHost res h = some ip) : wfIP ip := by
  cases h <;> simp only [parseHost] at e
  case quad a b c d =>
    split at e
    · cases e; assumption
    · cases e
  case name s => exact hres s ip e
  all_goals (cases e; trivial)

theorem kind_networks (n : String) (k : Kind) (h : netKind unmarshalResolvers n = some k) :
    (n = "tcp" ∧ k = .tcp) ∨ (n = "udp" ∧ k = .udp) ∨ (n = "unix" ∧ k = .unix) := by
  obtain ⟨fn, hm, hk⟩ := netKind_some h
  simp only [unmarshalResolvers, List.mem_cons, Prod.mk.injEq, List.not_mem_nil, or_false] at hm
  rcases hm with ⟨rfl, rfl, _⟩ | ⟨rfl, rfl, _⟩ | ⟨rfl, rfl, _⟩ <;> simp [kindOfFn] at hk <;> simp [hk]

/-- the resolver that produced the address -/
def kindMatch : Addr → Kind → Prop
  | .tcp _ _, k => k = .tcp
  | .udp _ _, k => k = .udp
  | .unix _, k => k = .unix

theorem resolve_print (res' : String → Option IP) (k : Kind) (a : Addr) (hk : kindMatch a k)
    (hw : wfAddr a) : resolve res' k (printAddr a) = some a := by
  cases a with
  | tcp ip p => simp only [kindMatch] at hk; subst hk; simp [resolve, printAddr, hw.2, parse_print res' ip hw.1]
  | udp ip p => simp only [kindMatch] at hk; subst hk; simp [resolve, printAddr, hw.2, parse_print res' ip hw.1]
  | unix s => simp only [kindMatch] at hk; subst hk; rfl

theorem resolve_wf (res : String → Option IP) (hres : ResOK res) (k : Kind) (t : Txt) (a : Addr) (h : resolve res k t = some a) :
    wfAddr a ∧ kindMatch a k := by
  cases k <;> cases t <;> simp only [resolve] at h
  case tcp.inet hh p | udp.inet hh p =>
    split at h
    · obtain ⟨ip, e, rfl⟩ := Option.map_eq_some_iff.mp h
      exact ⟨⟨parseHost_wf res hres hh ip e, by assumption⟩, rfl⟩
    · cases h
  case unix.path s => cases h; exact ⟨trivial, rfl⟩
  all_goals cases h

/-- a load succeeds exactly when the network names a resolver of the table and that resolver accepts the address -/
theorem load_eq_some {res : String → Option IP} {c : Cfg} {l : Loaded} :
    load res c = some l ↔ ∃ k a, netKind unmarshalResolvers (normNet c.network) = some k ∧ resolve res k c.address = some a ∧
      l = ⟨normNet c.network, a, c.address⟩ := by
  obtain ⟨_, hu, hp, _⟩ := gen_listener_addr_shape
  simp only [load, hu, hp, and_self, if_true]
  cases netKind unmarshalResolvers (normNet c.network) with
  | none => simp
  | some k => cases hr : resolve res k c.address <;> simp [hr, eq_comm]

theorem dump_eq (l : Loaded) : dump l = some ⟨l.network, printAddr l.addr⟩ := by
  simp [dump, gen_listener_addr_shape.1]

/-- **listener_address_roundtrip**: for EVERY accepted configuration (network tcp / udp / unix in any accepted spelling, address an
IPv4 literal, `0.0.0.0`, an IPv6 literal, the IPv6 wildcard `[::]`, a bare `:port`, a host name the resolver knows, any port incl. 0,
any unix path) and every resolver: the dump of the loaded listener loads again — under ANY resolver, the dumped text holds no name —
to the SAME network and the SAME `Addr`; hence the listen socket is bound the same way: same kind, same family semantics (the
IPv6 wildcard stays the dual-stack wildcard, `0.0.0.0` stays IPv4-only), same port / path. -/
theorem listener_address_roundtrip (res : String → Option IP) (hres : ResOK res) (c : Cfg) (l : Loaded) (h : load res c = some l) :
    ∃ c', dump l = some c' ∧ c'.network = l.network ∧
      ∀ res', ∃ l', load res' c' = some l' ∧ l'.network = l.network ∧ l'.addr = l.addr ∧ boundOf l'.addr = boundOf l.addr := by
  obtain ⟨k, a, hk, hr, rfl⟩ := load_eq_some.mp h
  obtain ⟨hw, hka⟩ := resolve_wf res hres k c.address a hr
  have hn : normNet (normNet c.network) = normNet c.network := by
    rcases kind_networks _ _ hk with ⟨e, _⟩ | ⟨e, _⟩ | ⟨e, _⟩ <;> rw [e] <;> decide
  refine ⟨_, dump_eq _, rfl, fun res' => ⟨⟨normNet c.network, a, printAddr a⟩, ?_, rfl, rfl, rfl⟩⟩
  exact load_eq_some.mpr ⟨k, a, hn.symm ▸ hk, resolve_print res' k a hka hw, by rw [hn]⟩

/-- **address_form_stable**: dump ∘ reload ∘ dump = dump — the text written by the second dump is the text of the first. -/
theorem address_form_stable (res res' : String → Option IP) (hres : ResOK res) (c : Cfg) (l : Loaded) (h : load res c = some l) :
    ∃ c' l', dump l = some c' ∧ load res' c' = some l' ∧ dump l' = some c' := by
  obtain ⟨c', hd, hn, hall⟩ := listener_address_roundtrip res hres c l h
  obtain ⟨l', hl', hn', ha', _⟩ := hall res'
  refine ⟨c', l', hd, hl', ?_⟩
  rw [dump_eq] at hd ⊢
  rw [hn', ha']
  exact hd

/-- … and for every configuration WITHOUT a host name the form itself is kept: the dumped `address` is the configured one
(`[::]:p` stays `[::]:p`, `:p` stays `:p`, `0.0.0.0:p` stays `0.0.0.0:p`, a unix path stays the path). -/
theorem address_form_kept (res : String → Option IP) (c : Cfg) (l : Loaded) (h : load res c = some l)
    (hn : ∀ p s, c.address ≠ .inet (.name s) p) : dump l = some ⟨l.network, c.address⟩ := by
  obtain ⟨k, a, hk, hr, rfl⟩ := load_eq_some.mp h
  simp only [dump_eq, Option.some.injEq, Cfg.mk.injEq, true_and]
  cases k <;> cases hc : c.address <;> rw [hc] at hr <;> simp only [resolve] at hr
  case tcp.inet hh p | udp.inet hh p =>
    split at hr
    · obtain ⟨ip, e, rfl⟩ := Option.map_eq_some_iff.mp hr
      simp [printAddr, print_parse e fun s hs => hn p s (hs ▸ hc)]
    · cases hr
  case unix.path s => cases hr; rfl
  all_goals cases hr

/-- **name_form_lost** (negation witness for host names, machine-checked; the code as it is): `localhost:80` is dumped as the literal
the resolver answered at load time; when the name resolves differently at the next start, a start from the ORIGINAL file listens on
the new address, a start from the DUMP on the old one: the dump is not an equivalent configuration. -/
theorem name_form_lost :
    let res1 : String → Option IP := fun s => if s = "localhost" then some (.v4 127 0 0 1) else none
    let res2 : String → Option IP := fun s => if s = "localhost" then some (.v4 10 0 0 7) else none
    let c : Cfg := ⟨"tcp", .inet (.name "localhost") 80⟩
    (load res1 c).bind dump = some ⟨"tcp", .inet (.quad 127 0 0 1) 80⟩ ∧
    (load res2 c).map (fun l => boundOf l.addr) = some (.inet .tcp (.host4 10 0 0 7) 80) ∧
    (load res2 ⟨"tcp", .inet (.quad 127 0 0 1) 80⟩).map (fun l => boundOf l.addr) = some (.inet .tcp (.host4 127 0 0 1) 80) := by
  decide +kernel

/-- **normalising_marshal_loses_dual_stack** (negation witness, machine-checked): a `MarshalJSON` that writes every unspecified IP
as `0.0.0.0` turns the dual-stack listeners `[::]:80` and `:80` into IPv4-only ones after a restart from the dump, although the
second dump equals the first (comparing dumps does not show it); `0.0.0.0:80` itself and the regenerated code are unaffected. -/
theorem normalising_marshal_loses_dual_stack :
    let res : String → Option IP := fun _ => none
    (∀ h ∈ [HostTxt.unspec6, HostTxt.empty],
      ((load res ⟨"tcp", .inet h 80⟩).map (fun l => boundOf l.addr) = some (.inet .tcp .wildDual 80) ∧
       ((load res ⟨"tcp", .inet h 80⟩).bind (fun l => load res (dumpNorm l))).map (fun l => boundOf l.addr) = some (.inet .tcp .wild4 80) ∧
       ((load res ⟨"tcp", .inet h 80⟩).bind (fun l => load res (dumpNorm l))).map dumpNorm =
         (load res ⟨"tcp", .inet h 80⟩).map dumpNorm ∧
       ((load res ⟨"tcp", .inet h 80⟩).bind (fun l => (dump l).bind (load res))).map (fun l => boundOf l.addr) =
         some (.inet .tcp .wildDual 80))) := by
  decide +kernel

-- non-vacuity: a resolver, every accepted form loads, and what is dumped
example : ResOK (fun s => if s = "localhost" then some (.v4 127 0 0 1) else none) := by
  intro s ip h; dsimp only at h; split at h <;> cases h; simp [wfIP]
example : [Cfg.mk "" (.inet (.quad 127 0 0 1) 80), ⟨"tcp", .inet (.quad 0 0 0 0) 0⟩, ⟨"tcp", .inet .unspec6 2045⟩, ⟨"tcp", .inet .loop6 80⟩,
           ⟨"udp", .inet .empty 53⟩, ⟨"udp", .inet (.other6 "fe80::1") 53⟩, ⟨"unix", .path "/tmp/mosn.sock"⟩, ⟨"tcp", .inet (.name "localhost") 80⟩,
           ⟨"sctp", .inet .empty 1⟩, ⟨"tcp", .path "/tmp/x"⟩, ⟨"tcp", .inet (.quad 300 1 1 1) 80⟩, ⟨"tcp", .inet .empty 99999⟩].map
      (fun c => ((load (fun s => if s = "localhost" then some (.v4 127 0 0 1) else none) c).bind dump).map (·.address)) =
    [some (.inet (.quad 127 0 0 1) 80), some (.inet (.quad 0 0 0 0) 0), some (.inet .unspec6 2045), some (.inet .loop6 80),
     some (.inet .empty 53), some (.inet (.other6 "fe80::1") 53), some (.path "/tmp/mosn.sock"), some (.inet (.quad 127 0 0 1) 80),
     none, none, none, none] := by decide
end listenerAddr

end MosnVerif.Props.C19
