import MosnVerif.Lemmas.Updates
import MosnVerif.Lemmas.UpdatesRm
import MosnVerif.Lemmas.UpdatesMode
import MosnVerif.Lemmas.DumpScript
import MosnVerif.Lemmas.RouterLocksConc
import MosnVerif.Lemmas.ResourceUpd
import MosnVerif.Lemmas.DirHist
import MosnVerif.Lemmas.VhostSpec
/-!
# C12 — runtime updates are coherent and reproducible from the dumped config (property theorems only)

Every theorem quantifies over ALL finite operation lists `ops` (successful, failed, repeated, no-op and invalid operations
alike — `Op` contains the nil router config, routers that cannot be built, unknown routers/domains/clusters, a cluster factory
returning nil, removal of absent clusters/hosts, empty and multi-locality endpoint assignments) and over EVERY domain oracle
`o` (how a domain string selects a virtual host) and every route matcher. `run o ops` is the state reached from the empty
managers; `step`-level theorems hold from every state (reachable or not) unless `Inv` is assumed, and `inv_run` gives `Inv`
for every reachable state.
-/
namespace MosnVerif.Props.C12
open MosnVerif.Model.Updates

/-- **coherent (route tables)**: after every history, for every router name, the live route tables (virtual hosts in order,
each with its route list, plus the domain index input) are exactly those `NewRouters` builds from the dumped configuration —
including "no such router" and "router stored without tables". -/
theorem coherent_routes (o : Oracle) (ops : List Op) :
    liveRouters (run o ops) = rebuildRouters o (dump (run o ops)) :=
  routers_coherent (inv_run o ops)

/-- **coherent (host sets)**: after every history, for every cluster name, the live cluster (configuration tag and the host
list IN ORDER, weights read through the load balancers' clamp) is the one a fresh start builds from the dumped cluster
(`ParseClusterConfig` clamp, `NewHostSet`), including "no such cluster". -/
theorem coherent_hosts (o : Oracle) (ops : List Op) :
    liveClusters (run o ops) = rebuildClusters (dump (run o ops)) :=
  clusters_coherent (inv_run o ops)

/-- **coherent (host sets, exact)**: when every host weight supplied at run time lies inside the regenerated bounds
`[MinHostWeight, MaxHostWeight]` (and every xDS endpoint carries a load-balancing weight — the conversion clamps it into the same
bounds), the live cluster IS the rebuilt one, weights included: the clamp of `coherent_hosts` only matters for out-of-range
weights, which a runtime update keeps raw and a fresh start clamps. -/
theorem coherent_hosts_exact (o : Oracle) (ops : List Op) (hops : ∀ op ∈ ops, opOk op) :
    (run o ops).clusters = rebuildClusters (dump (run o ops)) := by
  funext n
  have hI := inv_run o ops
  have hW := winv_run o ops hops
  simp only [rebuildClusters, dump]
  cases hc : (run o ops).clusters n with
  | none => simp [hI.c_none n hc]
  | some lc =>
    obtain ⟨hs, hnd⟩ := hI.c_some n lc hc
    simp only [hs, Option.map_some, buildCluster, map_clamp_id (hW n lc hc), Option.some.injEq]
    rw [dedup_id _ hnd]

/-- live host sets are address-distinct lists after every history. -/
theorem hosts_distinct (o : Oracle) (ops : List Op) (n : String) (lc : LiveCluster)
    (h : (run o ops).clusters n = some lc) : (lc.hosts.map (·.addr)).Nodup :=
  ((inv_run o ops).c_some n lc h).2

/-- **coherent (behaviour)**: whatever a route matches, a lookup on the live tables answers what the same lookup on the
tables rebuilt from the dump answers. -/
theorem coherent_match (o : Oracle) (ops : List Op) (m : Route → Bool) (n host : String) :
    matchRoute o m ((liveRouters (run o ops) n).join) host =
    matchRoute o m ((rebuildRouters o (dump (run o ops)) n).join) host := by
  rw [coherent_routes]

/-- **coherent (listeners)**: after every history, for every listener name, what the live listener serves new connections with
(stream filters registered for it, network filter factories, idle timeout) and its config are exactly what a fresh start builds
from the dumped listener config — including "no such listener". -/
theorem coherent_listeners (o : Oracle) (ops : List Op) :
    (run o ops).listeners = rebuildListeners (dump (run o ops)) := by
  funext n
  exact listeners_coherent (linv_run o ops) n

/-! ## the mode a router is persisted in (static `virtual_hosts` / a `router_configs` directory) follows the updates; dump → reload

`RouterCfg` carries `path` (`RouterConfigPath`) and `static` (`StaticVirtualHosts`); `SetRouter`'s transition — which of them goes
where under which condition — is REGENERATED (`Gen.Updates.setRouter_*`); `dumpRouter` is `transferConfig` (stored router + the
remembered path), `marshalRouter` / `unmarshalRouter` are `RouterConfiguration.MarshalJSON` / `UnmarshalJSON`. -/

/-- **router_mode_follows_update**: after EVERY history (any mix of directory-mode, static and code-built router configurations,
single-route additions, removals, failed and foreign operations), for every router: the remembered path is the path of the
configuration its wrapper holds — the one of the last successful `AddOrUpdateRouters`, EMPTY when that update was static — and
the dumped router is exactly that configuration. -/
theorem router_mode_follows_update (o : Oracle) (ops : List Op) (n : String) (w : Wrapper)
    (hw : (run o ops).wrappers n = some w) :
    (run o ops).rpath n = w.cfg.path ∧ dumpRouter (run o ops) n = some w.cfg := by
  have hI := inv_run o ops
  exact ⟨hI.r_path n w hw, by rw [dumpRouter_of_inv hI, hw]; rfl⟩

/-- **dump_reload_routers**: after every history of loader-shaped configurations (never both a directory and a static list — what
`UnmarshalJSON` accepts), for every router name and every directory behaviour `fsr`: loading the dumped file SUCCEEDS and gives the
router its wrapper holds (same name, same mode, the virtual hosts through the directory in directory mode). -/
theorem dump_reload_routers (o : Oracle) (ops : List Op) (hops : ∀ op ∈ ops, opLoaderShaped op)
    (fsr : List VHost → List VHost) (n : String) :
    reloadRouter fsr (run o ops) n = ((run o ops).wrappers n).map (fun w => some (reloadedCfg fsr w.cfg)) :=
  reloadRouter_of_inv (inv_run o ops) (shinv_run o ops hops) fsr n

/-- **dump_reload_live**: … hence (the directory giving its files back in configuration order — virtual-host order is the only
thing a directory changes, and matching does not depend on it) the routers built from the RELOADED dump are the live ones, for every
router name: a restart from the persisted file reproduces the running proxy's routes. -/
theorem dump_reload_live (o : Oracle) (ops : List Op) (hops : ∀ op ∈ ops, opLoaderShaped op)
    (fsr : List VHost → List VHost) (hfs : ∀ l, fsr l = l) (n : String) :
    (reloadRouter fsr (run o ops) n).map (fun r => r.map (build o)) = (liveRouters (run o ops) n).map some := by
  rw [dump_reload_routers o ops hops fsr n]
  simp only [liveRouters]
  cases hw : (run o ops).wrappers n with
  | none => rfl
  | some w => simp [build_reloadedCfg o fsr hfs, ((inv_run o ops).r_some n w hw).2.2]

/-- **stale_path_breaks_reload** (negative witness, machine-checked): a store in which a router keeps a remembered directory path
while its stored configuration came from a static file (what "copy the path only when the update carries one" leaves after
directory-mode load → static update) is dumped with BOTH `router_configs` and `virtual_hosts`, and the loader refuses it — for
every directory behaviour. -/
theorem stale_path_breaks_reload (fsr : List VHost → List VHost) (s : State) (n : String) (c : RouterCfg)
    (hs : s.rstore n = some c) (hstatic : c.static ≠ []) (hp : s.rpath n ≠ "") :
    reloadRouter fsr s n = some none := by
  simp only [reloadRouter, dumpRouter, hs, Option.map_some]
  rw [unmarshal_marshal_both fsr { c with path := s.rpath n } hp hstatic]

/-- the predicate of the `mode` cases (the dumped configuration loads again, and the routers built from it answer as the live
ones) is true of the model's observation of every history of loader-shaped configurations. -/
theorem spec_mode_holds_on_model (o : Oracle) (ops : List Op) (hops : ∀ op ∈ ops, opLoaderShaped op) (rnames : List String) :
    Spec.modeHolds (modeObserve o rnames (run o ops)) = true :=
  modeHolds_on_model o ops hops rnames

/-- **last_wins (routers)**: a successful `AddOrUpdateRouters cfg` leaves exactly `cfg` in the store (the stored copy: its path
cleared, the path itself remembered beside it — `cfg`'s, empty or not) and `NewRouters cfg` live, whatever happened before (from
every state): the dumped router is `cfg` itself. -/
theorem last_wins_routers (o : Oracle) (s : State) (cfg : RouterCfg)
    (hok : (step o s (.addOrUpdateRouters cfg)).2 = true) :
    (step o s (.addOrUpdateRouters cfg)).1.rstore cfg.name = some (storedCfg cfg) ∧
    (step o s (.addOrUpdateRouters cfg)).1.rpath cfg.name = cfg.path ∧
    dumpRouter (step o s (.addOrUpdateRouters cfg)).1 cfg.name = some cfg ∧
    liveRouters (step o s (.addOrUpdateRouters cfg)).1 cfg.name = some (build o cfg) := by
  simp only [step] at hok ⊢
  cases hw : s.wrappers cfg.name with
  | none => simp [gen_recordsAddOrUpdate, gen_setRouterStores, rememberedPath_eq, recordRouter, liveRouters, dumpRouter]
  | some w =>
    cases hb : build o cfg with
    | none => simp [hw, hb] at hok
    | some t => simp [gen_recordsAddOrUpdate, gen_setRouterStores, rememberedPath_eq, recordRouter, liveRouters, dumpRouter]

/-- **last_wins (single route)**: a successful `AddRoute` on a known router appends the route as the LAST route of the selected
virtual host, in the live table and in the stored configuration, at the same index. -/
theorem last_wins_route (o : Oracle) (s : State) (hI : Inv o s) (rname domain : String) (r : Route) (w : Wrapper)
    (hw : s.wrappers rname = some w) (hok : (step o s (.addRoute rname domain r)).2 = true) :
    ∃ t i, w.routers = some t ∧ o.resolve t.doms domain = some i ∧
      ∃ t' cfg', liveRouters (step o s (.addRoute rname domain r)).1 rname = some (some t') ∧
        (step o s (.addRoute rname domain r)).1.rstore rname = some cfg' ∧
        (t'.vhs[i]?).map (·.routes) = (t.vhs[i]?).map (fun vh => vh.routes ++ [r]) ∧
        (cfg'.vhosts[i]?).map (·.routes) = (w.cfg.vhosts[i]?).map (fun vh => vh.routes ++ [r]) := by
  obtain ⟨hname, _, _⟩ := hI.r_some rname w hw
  cases ht : w.routers with
  | none => simp [step, hw, ht] at hok
  | some t =>
    cases ha : t.addRoute o domain r with
    | none => simp [step, hw, ht, ha] at hok
    | some p =>
      obtain ⟨i, t'⟩ := p
      obtain ⟨hr, rfl⟩ := Table.addRoute_some ha
      obtain ⟨t', cfg', h1, h2, h3, h4⟩ := recordRouter_modify s rname t w.cfg hname
        (fun vh => { vh with routes := vh.routes ++ [r] }) (fun vh => { vh with routes := vh.routes ++ [r] }) i
      simp only [step, hw, ht, ha, gen_addRoute]
      exact ⟨t, i, rfl, hr, t', cfg', h1, h2, by rw [h3, Option.map_map]; rfl, by rw [h4, Option.map_map]; rfl⟩

/-- **last_wins (hosts)**: a host-list replacement on an existing cluster leaves exactly `NewHostSet hs` live and stored
(with the cluster's current configuration), whatever the hosts were before. -/
theorem last_wins_hosts (o : Oracle) (s : State) (hI : Inv o s) (c : String) (lc : LiveCluster) (hs : List Host)
    (hc : s.clusters c = some lc) :
    (step o s (.updateHosts c hs)).2 = true ∧
    (step o s (.updateHosts c hs)).1.clusters c = some ⟨lc.tag, dedup hs⟩ ∧
    (step o s (.updateHosts c hs)).1.cstore c = some ⟨lc.tag, dedup hs⟩ :=
  step_updateHosts hI (.updateHosts c hs) (replaceHosts hs) rfl hc

/-- **last_wins (cluster + hosts)**: `AddOrUpdateClusterAndHost` always succeeds and leaves the new configuration with exactly
`NewHostSet hosts`, live and stored, whatever existed before. -/
theorem last_wins_cluster (o : Oracle) (s : State) (hI : Inv o s) (c : String) (tag : Nat) (cfgHosts hosts : List Host) :
    (step o s (.addOrUpdateClusterAndHost c tag cfgHosts hosts)).2 = true ∧
    (step o s (.addOrUpdateClusterAndHost c tag cfgHosts hosts)).1.clusters c = some ⟨tag, dedup hosts⟩ ∧
    (step o s (.addOrUpdateClusterAndHost c tag cfgHosts hosts)).1.cstore c = some ⟨tag, dedup hosts⟩ :=
  step_updateCluster (.addOrUpdateClusterAndHost c tag cfgHosts hosts) c tag cfgHosts (fun _ => replaceHosts hosts []) rfl

/-- **last_wins (cluster configuration, hosts inherited)**: `AddOrUpdatePrimaryCluster` installs the new configuration and keeps
the hosts of an existing cluster (none for a new one — `cluster.Hosts` is not read), live and stored. -/
theorem last_wins_cluster_inherit (o : Oracle) (s : State) (hI : Inv o s) (c : String) (tag : Nat) (cfgHosts : List Host) :
    (step o s (.addOrUpdateCluster c tag cfgHosts)).1.clusters c = some ⟨tag, inheritHosts (s.clusters c)⟩ ∧
    (step o s (.addOrUpdateCluster c tag cfgHosts)).1.cstore c = some ⟨tag, inheritHosts (s.clusters c)⟩ :=
  (step_updateCluster (.addOrUpdateCluster c tag cfgHosts) c tag cfgHosts inheritHosts rfl).2

/-- **last_wins (listener)**: a successful `AddOrUpdateListener` leaves the new stream filters, network filters and idle
timeout serving AND stored, under the name the listener is registered as (an update keeps the fields it does not copy). -/
theorem last_wins_listener (o : Oracle) (s : State) (hL : LInv s) (lc : ListenerCfg)
    (hok : (step o s (.addOrUpdateListener lc)).2 = true) :
    ∃ al, (step o s (.addOrUpdateListener lc)).1.listeners (effName lc) = some al ∧
      (step o s (.addOrUpdateListener lc)).1.lstore (effName lc) = some al.cfg ∧
      al.sf = lc.sf ∧ al.nf = lc.nf ∧ al.idle = lc.idle ∧ al.cfg.sf = lc.sf ∧ al.cfg.nf = lc.nf ∧ al.cfg.idle = lc.idle ∧
      al.cfg.addr = lc.addr ∧
      (∀ old, s.listeners (effName lc) = some old → al.cfg.keep = old.cfg.keep) := by
  have hL' := linv_step o hL (.addOrUpdateListener lc)
  simp only [step] at hok hL' ⊢
  rcases addOrUpdateListener_cases s lc with ⟨_, e⟩ | ⟨al, _, hl, ha, _, e⟩ | ⟨_, hl, _, e⟩
  · rw [e] at hok; cases hok
  · rw [e] at hL' ⊢
    refine ⟨⟨{ al.cfg with sf := lc.sf, nf := lc.nf, tlsOk := lc.tlsOk, idle := lc.idle }, lc.sf, lc.nf, lc.idle⟩,
      by simp, ?_, rfl, rfl, rfl, rfl, rfl, rfl, ha, ?_⟩
    · exact (hL'.l_some (effName lc) _ (by simp)).1
    · intro old ho; rw [hl] at ho; cases ho; rfl
  · rw [e] at hL' ⊢
    refine ⟨⟨{ lc with name := effName lc }, lc.sf, lc.nf, lc.idle⟩, by simp, ?_, rfl, rfl, rfl, rfl, rfl, rfl, rfl, ?_⟩
    · exact (hL'.l_some (effName lc) _ (by simp)).1
    · intro old ho; rw [hl] at ho; cases ho

/-- five hosts `.1 … .5` and the 20 ordered pairs of distinct indices (for the witness below and the examples) -/
def exAddr : Nat → String
  | 1 => "10.0.0.1:80" | 2 => "10.0.0.2:80" | 3 => "10.0.0.3:80" | 4 => "10.0.0.4:80" | 5 => "10.0.0.5:80" | _ => "10.0.0.9:80"
def exFive : List Host := [1, 2, 3, 4, 5].map (fun k => ⟨exAddr k, "", 1⟩)
def exPairs : List (Nat × Nat) :=
  ([1, 2, 3, 4, 5].flatMap (fun x => [1, 2, 3, 4, 5].map (fun y => (x, y)))).filter (fun p => p.1 != p.2)

/-- **removed_gone (clusters)**: after a successful `RemovePrimaryCluster names` every named cluster is absent, live and in the
store. -/
theorem removed_gone_clusters (o : Oracle) (s : State) (hI : Inv o s) (names : List String)
    (hok : (step o s (.removeClusters names)).2 = true) (n : String) (hn : n ∈ names) :
    (step o s (.removeClusters names)).1.clusters n = none ∧ (step o s (.removeClusters names)).1.cstore n = none := by
  have hI' := inv_step hI (.removeClusters names)
  have hl : (step o s (.removeClusters names)).1.clusters n = none := by
    simp only [step] at hok ⊢
    split
    · exact foldl_removeCluster_gone names s hn
    · rename_i h; simp [h] at hok
  exact ⟨hl, hI'.c_none n hl⟩

/-- **removed_gone (listeners)**: after `DeleteListener` the listener is absent, live and in the store. -/
theorem removed_gone_listeners (o : Oracle) (s : State) (hL : LInv s) (name : String) :
    (step o s (.deleteListener name)).2 = true ∧
    (step o s (.deleteListener name)).1.listeners name = none ∧ (step o s (.deleteListener name)).1.lstore name = none := by
  have hL' := linv_step o hL (.deleteListener name)
  simp only [step] at hL' ⊢
  rcases deleteListener_eq s name with ⟨h0, e⟩ | ⟨al, _, e⟩
  · rw [e]; exact ⟨rfl, h0, hL.l_none name h0⟩
  · rw [e]; simp

/-- a removed cluster stays absent until an operation adds a cluster of that name again. -/
theorem removed_stays_gone (o : Oracle) (s : State) (hI : Inv o s) (n : String) (ops : List Op)
    (h : s.clusters n = none) (hno : ∀ op ∈ ops, addsCluster n op = false) :
    (runFrom o s ops).clusters n = none ∧ (runFrom o s ops).cstore n = none := by
  have hl := runFrom_keeps_absent o ops h hno
  exact ⟨hl, (inv_runFrom ops hI).c_none n hl⟩

/-- **removed_gone (hosts)**: `RemoveClusterHosts c addrs` (`TriggerHostDel`) on an existing cluster, for EVERY address list —
any length, any order, with duplicates, with addresses the cluster does not have: the call succeeds and the new host set, live
and stored, is EXACTLY the old hosts whose address is not listed, in ascending address order (the deletions preserve the order
of the sorted slice the searches rely on). `removeHosts` is the loop as written: Go's binary `sort.Search` with the regenerated
predicate, the regenerated guard and the regenerated deletion statement(s), one iteration per listed address. -/
theorem removed_gone_hosts (o : Oracle) (s : State) (hI : Inv o s) (c : String) (lc : LiveCluster) (addrs : List String)
    (hc : s.clusters c = some lc) :
    (step o s (.removeHosts c addrs)).2 = true ∧
    (step o s (.removeHosts c addrs)).1.clusters c =
      some ⟨lc.tag, (sortByAddr lc.hosts).filter (fun h => !decide (h.addr ∈ addrs))⟩ ∧
    (step o s (.removeHosts c addrs)).1.cstore c =
      some ⟨lc.tag, (sortByAddr lc.hosts).filter (fun h => !decide (h.addr ∈ addrs))⟩ ∧
    (∀ h, h ∈ (sortByAddr lc.hosts).filter (fun h => !decide (h.addr ∈ addrs)) ↔ (h ∈ lc.hosts ∧ h.addr ∉ addrs)) := by
  obtain ⟨h1, h2, h3⟩ := step_updateHosts hI (.removeHosts c addrs) (removeHosts addrs) rfl hc
  rw [removeHosts_eq addrs lc.hosts (hI.c_some c lc hc).2] at h2 h3
  refine ⟨h1, h2, h3, fun h => ?_⟩
  rw [List.mem_filter, (sortByAddr_perm lc.hosts).mem_iff]
  simp

/-- … so the ORDER of the listed addresses (and listing one twice) never matters: two lists naming the same addresses leave the
same host set, live and stored. -/
theorem removed_gone_hosts_any_order (o : Oracle) (s : State) (hI : Inv o s) (c : String) (lc : LiveCluster)
    (addrs addrs' : List String) (hc : s.clusters c = some lc) (hsame : ∀ a, a ∈ addrs ↔ a ∈ addrs') :
    (step o s (.removeHosts c addrs)).1.clusters c = (step o s (.removeHosts c addrs')).1.clusters c ∧
    (step o s (.removeHosts c addrs)).1.cstore c = (step o s (.removeHosts c addrs')).1.cstore c := by
  obtain ⟨_, h2, h3, _⟩ := removed_gone_hosts o s hI c lc addrs hc
  obtain ⟨_, h2', h3', _⟩ := removed_gone_hosts o s hI c lc addrs' hc
  have : (fun h : Host => !decide (h.addr ∈ addrs)) = (fun h : Host => !decide (h.addr ∈ addrs')) := by
    funext h; simp [hsame h.addr]
  rw [h2, h3, h2', h3', this]
  exact ⟨rfl, rfl⟩

/-- **swap_with_last_leaves_host** (negative witness, machine-checked): the same loop with the deletion "move the LAST host
into the slot and shorten the slice" un-sorts the slice, and the search for a later address of the same call misses it: removing
`[.1, .2]` from five hosts leaves `.2` in the host set, `[.2, .1]` happens to work, and exactly 5 of the 20 ordered pairs of
distinct addresses fail. (The regenerated deletion is the order-preserving one; `removed_gone_hosts` is about it.) -/
theorem swap_with_last_leaves_host :
    (removeHostsWith swapLastDelete [exAddr 1, exAddr 2] exFive).map (·.addr) = [exAddr 5, exAddr 2, exAddr 3, exAddr 4] ∧
    (removeHostsWith swapLastDelete [exAddr 2, exAddr 1] exFive).map (·.addr) = [exAddr 4, exAddr 5, exAddr 3] ∧
    (removeHosts [exAddr 1, exAddr 2] exFive).map (·.addr) = [exAddr 3, exAddr 4, exAddr 5] ∧
    exPairs.filter (fun p => (removeHostsWith swapLastDelete [exAddr p.1, exAddr p.2] exFive).any
      (fun h => h.addr == exAddr p.1 || h.addr == exAddr p.2)) = [(1, 2), (1, 5), (2, 3), (2, 5), (3, 4)] := by decide +kernel

/-- **removed_gone (routes)**: a successful `RemoveAllRoutes` on a known router empties the selected virtual host, in the live
table and in the stored configuration, at the same index. -/
theorem removed_gone_routes (o : Oracle) (s : State) (hI : Inv o s) (rname domain : String) (w : Wrapper)
    (hw : s.wrappers rname = some w) (hok : (step o s (.removeAllRoutes rname domain)).2 = true) :
    ∃ t i, w.routers = some t ∧ o.resolve t.doms domain = some i ∧
      ∃ t' cfg', liveRouters (step o s (.removeAllRoutes rname domain)).1 rname = some (some t') ∧
        (step o s (.removeAllRoutes rname domain)).1.rstore rname = some cfg' ∧
        (t'.vhs[i]?).map (·.routes) = (t.vhs[i]?).map (fun _ => []) ∧
        (cfg'.vhosts[i]?).map (·.routes) = (w.cfg.vhosts[i]?).map (fun _ => []) := by
  obtain ⟨hname, _, _⟩ := hI.r_some rname w hw
  cases ht : w.routers with
  | none => simp [step, hw, ht] at hok
  | some t =>
    cases ha : t.removeAll o domain with
    | none => simp [step, hw, ht, ha] at hok
    | some p =>
      obtain ⟨i, t'⟩ := p
      obtain ⟨hr, rfl⟩ := Table.removeAll_some ha
      obtain ⟨t', cfg', h1, h2, h3, h4⟩ := recordRouter_modify s rname t w.cfg hname
        (fun vh => { vh with routes := [] }) (fun vh => { vh with routes := [] }) i
      simp only [step, hw, ht, ha, gen_removeAll]
      exact ⟨t, i, rfl, hr, t', cfg', h1, h2, by rw [h3, Option.map_map]; rfl, by rw [h4, Option.map_map]; rfl⟩

/-- **failed_unchanged**: an operation that reports an error changed NEITHER side (nil router config, update by a router that
cannot be built, `AddRoute`/`RemoveAllRoutes` on a router without tables / unknown domain / invalid route, nil cluster, host
operations and endpoint assignments on unknown clusters, `RemovePrimaryCluster` naming an absent cluster). For
`ConvertUpdateEndpoints` this is per assignment (`single`: at most one assignment per call; with more, each failed assignment
changes nothing, see `xdsAssign_failed_unchanged`). -/
theorem failed_unchanged (o : Oracle) (s : State) (op : Op) (hs : single op)
    (h : (step o s op).2 = false) : (step o s op).1 = s := by
  by_cases hr : side op = .routers
  · rcases step_router o s op hr with e | ⟨n, t, cfg, e, _⟩
    · exact e
    · rw [e] at h; cases h
  cases op with
  | addOrUpdateRouters | addRoute | removeAllRoutes => exact absurd rfl hr
  | addOrUpdateCluster | addOrUpdateClusterAndHost => simp [step, updateCluster_eq] at h
  | routersNil | addClusterNil => rfl
  | updateHosts | appendHosts | removeHosts => exact updateHosts_failed h
  | removeClusters names =>
    simp only [step] at h ⊢
    split at h
    · cases h
    · rename_i h1; simp [h1]
  | xdsEndpoints as =>
    match as, hs with
    | [], _ => simp [step] at h
    | [(c, locs)], _ =>
      rw [step_xdsEndpoints_one] at h ⊢
      exact updateHosts_failed h
    | _ :: _ :: _, hs => simp [single] at hs
  | addOrUpdateListener lc =>
    simp only [step] at h ⊢
    rcases addOrUpdateListener_cases s lc with ⟨_, e⟩ | ⟨al, _, _, _, _, e⟩ | ⟨_, _, _, e⟩
    · rw [e]
    · rw [e] at h; cases h
    · rw [e] at h; cases h
  | deleteListener m =>
    simp only [step] at h
    rcases deleteListener_eq s m with ⟨_, e⟩ | ⟨al, _, e⟩ <;> rw [e] at h <;> cases h

theorem xdsAssign_failed_unchanged (s : State) (c : String) (locs : List (List XHost))
    (h : (xdsAssign s c locs).2 = false) : (xdsAssign s c locs).1 = s := by
  rw [xdsAssign_eq] at h ⊢
  exact updateHosts_failed h

/-- `AddRoute` / `RemoveAllRoutes` on an unknown router name return no error and change nothing (as the code does). -/
theorem noop_unknown_router (o : Oracle) (s : State) (rname domain : String) (r : Route) (h : s.wrappers rname = none) :
    step o s (.addRoute rname domain r) = (s, true) ∧ step o s (.removeAllRoutes rname domain) = (s, true) := by
  simp [step, h]

/-- repeating a host-list replacement is a no-op the second time (repeated operations). -/
theorem repeat_updateHosts (o : Oracle) (s : State) (hI : Inv o s) (c : String) (hs : List Host) :
    (step o (step o s (.updateHosts c hs)).1 (.updateHosts c hs)).1.clusters c = (step o s (.updateHosts c hs)).1.clusters c ∧
    (step o (step o s (.updateHosts c hs)).1 (.updateHosts c hs)).1.cstore c = (step o s (.updateHosts c hs)).1.cstore c := by
  cases hc : s.clusters c with
  | none =>
    have : step o s (.updateHosts c hs) = (s, false) := updateHosts_none _ hc
    simp [this]
  | some lc =>
    obtain ⟨_, h2, h3⟩ := last_wins_hosts o s hI c lc hs hc
    obtain ⟨_, h2', h3'⟩ := last_wins_hosts o _ (inv_step hI (.updateHosts c hs)) c ⟨lc.tag, dedup hs⟩ hs h2
    rw [h2', h3', h2, h3]
    exact ⟨rfl, rfl⟩

/-- **endpoints_union**: `ConvertUpdateEndpoints` with one assignment for an existing cluster, localities `L₁ … Lₙ` (any `n`,
`n = 0` included): the cluster's host set becomes the address-distinct union of the endpoints of ALL localities — it is
`NewHostSet (L₁ ++ … ++ Lₙ)`, address-distinct, contains the address of every endpoint of every locality, and nothing
else — live and stored. -/
theorem endpoints_union (o : Oracle) (s : State) (hI : Inv o s) (c : String) (lc : LiveCluster) (locs : List (List XHost))
    (hc : s.clusters c = some lc) :
    ∃ hosts, (step o s (.xdsEndpoints [(c, locs)])).2 = true ∧
      (step o s (.xdsEndpoints [(c, locs)])).1.clusters c = some ⟨lc.tag, hosts⟩ ∧
      (step o s (.xdsEndpoints [(c, locs)])).1.cstore c = some ⟨lc.tag, hosts⟩ ∧
      hosts = dedup ((locs.map (·.map convHost)).flatten) ∧
      (hosts.map (·.addr)).Nodup ∧
      (∀ loc ∈ locs, ∀ x ∈ loc, x.addr ∈ hosts.map (·.addr)) ∧
      (∀ h ∈ hosts, ∃ loc ∈ locs, ∃ x ∈ loc, h = convHost x) := by
  obtain ⟨h1, h2, h3⟩ := step_updateHosts hI (.xdsEndpoints [(c, locs)]) _ (step_xdsEndpoints_one o s c locs) hc
  simp only [replaceHosts] at h2 h3
  refine ⟨_, h1, h2, h3, rfl, dedup_nodup _, ?_, ?_⟩
  · intro loc hl x hx
    apply addr_mem_dedup
    have : convHost x ∈ (locs.map (·.map convHost)).flatten := by
      simp only [List.mem_flatten, List.mem_map]
      exact ⟨loc.map convHost, ⟨loc, hl, rfl⟩, List.mem_map_of_mem hx⟩
    exact List.mem_map_of_mem (f := fun h : Host => h.addr) this
  · intro h hm
    have := mem_dedup hm
    simp only [List.mem_flatten, List.mem_map] at this
    obtain ⟨l, ⟨loc, hl, rfl⟩, hh⟩ := this
    obtain ⟨x, hx, rfl⟩ := List.mem_map.mp hh
    exact ⟨loc, hl, x, hx, rfl⟩

/-- the same after any history: if the cluster exists after `ops`, the assignment appended to the history yields the union. -/
theorem endpoints_union_history (o : Oracle) (ops : List Op) (c : String) (lc : LiveCluster) (locs : List (List XHost))
    (hc : (run o ops).clusters c = some lc) :
    (run o (ops ++ [.xdsEndpoints [(c, locs)]])).clusters c = some ⟨lc.tag, dedup ((locs.map (·.map convHost)).flatten)⟩ ∧
    (∀ loc ∈ locs, ∀ x ∈ loc, ∃ h, (run o (ops ++ [.xdsEndpoints [(c, locs)]])).clusters c = some h ∧ x.addr ∈ h.hosts.map (·.addr)) := by
  rw [run_append]
  obtain ⟨hosts, _, h2, _, h4, _, h6, _⟩ := endpoints_union o (run o ops) (inv_run o ops) c lc locs hc
  subst h4
  exact ⟨h2, fun loc hl x hx => ⟨_, h2, h6 loc hl x hx⟩⟩

/-- `Spec.holds` (coherence of the observation + the declarative post-condition of the last operation) is true of the model's
observation of every history, for every oracle and every list of observed names that covers the last operation. -/
theorem spec_holds_on_model (o : Oracle) (ops : List Op) (op : Op) (rnames cnames lnames : List String) (res : List Bool)
    (hcov : ∀ n ∈ clusterNames op, n ∈ cnames) (hcovL : ∀ n ∈ listenerNames op, n ∈ lnames) :
    Spec.holds (some (op, (step o (run o ops) op).2)) cnames lnames
      (observe o rnames cnames lnames res (run o (ops ++ [op]))) = true := by
  unfold Spec.holds
  rw [Bool.and_eq_true]
  constructor
  · exact spec_coherent_on_model o (ops ++ [op]) rnames cnames lnames res
  · rw [run_append]
    exact spec_lastOp_on_model o (run o ops) (inv_run o ops) op rnames cnames lnames res hcov hcovL

/-- … and of the empty history. -/
theorem spec_holds_on_model_nil (o : Oracle) (rnames cnames lnames : List String) (res : List Bool) :
    Spec.holds none cnames lnames (observe o rnames cnames lnames res (run o [])) = true := by
  unfold Spec.holds
  rw [Bool.and_eq_true]
  exact ⟨spec_coherent_on_model o [] rnames cnames lnames res, rfl⟩

/-- the predicate of the `rm` cases (one multi-address `RemoveClusterHosts` call: succeeded, live hosts = the initial addresses
not listed, each once, stored = live, nothing listed still served) is true of the model's observation for EVERY host list
(duplicates included: `NewHostSet` keeps the first) and EVERY address list. -/
theorem spec_rm_holds_on_model (o : Oracle) (hosts : List Host) (addrs : List String) :
    Spec.rmHolds (hosts.map (·.addr)) addrs (rmObserve o hosts addrs) = true := by
  rw [rmObserve_eq]
  have hnd := removeHosts_nodup addrs (dedup hosts)
  rw [removeHosts_eq addrs _ (dedup_nodup hosts)] at hnd
  unfold Spec.rmHolds
  simp only [Bool.and_eq_true, List.isEmpty_nil, and_true, beq_self_eq_true, true_and]
  refine ⟨⟨distinct_of_nodup _ hnd, ?_⟩, ?_⟩
  · rw [List.all_eq_true]
    intro a ha
    obtain ⟨h, hm, rfl⟩ := List.mem_map.mp ha
    obtain ⟨hm1, hm2⟩ := List.mem_filter.mp hm
    have hh : h ∈ hosts := mem_dedup ((sortByAddr_perm _).mem_iff.mp hm1)
    simp only [Bool.and_eq_true, List.contains_eq_mem, decide_eq_true_eq, Bool.not_eq_true', decide_eq_false_iff_not]
    exact ⟨List.mem_map_of_mem hh, by simpa using hm2⟩
  · rw [List.all_eq_true]
    intro a ha
    simp only [Bool.or_eq_true, List.contains_eq_mem, decide_eq_true_eq]
    by_cases hin : a ∈ addrs
    · exact Or.inl hin
    · right
      obtain ⟨h, hm, rfl⟩ := List.mem_map.mp (addr_mem_dedup ha)
      exact List.mem_map_of_mem (List.mem_filter.mpr ⟨(sortByAddr_perm _).mem_iff.mpr hm, by simpa using hin⟩)

/-! ## the persisted file: every update reaches the dumped file (`DumpConfig` / `getDump` / `setDump`, `auto_config` on)

`Model/DumpProto`: the effective config and the file are version numbers, `dumping` is the shared flag, the dumper and any number
of mutators run the REGENERATED decision trees (`Gen.DumpProto.dumpConfig`, `setDump`) one atomic action per schedule entry;
file writes succeed or fail as the schedule says. -/
section dump
open MosnVerif.Model.DumpProto MosnVerif.Gen.DumpProto

/-- the regenerated `DumpConfig` and `setDump` have the discipline the theorems below need (`disc`: a request that was taken away
— flag cleared — is always followed, in the same round, by a snapshot and a successful write of it, or the flag is raised again;
`quietOk`: an undisturbed round started with a pending request ends with a current file; `setOk`: a request leaves the flag
raised), every writer of the effective config except `Reset` / `SetMosnConfig` requests a dump after its writes, `tryDump` is
gated by `auto_config` only, and the snapshot is taken under the config read lock. -/
theorem dump_protocol_discipline : protocolOk = true := by decide +kernel

/-- **file behind ⇒ request pending** (the invariant): for every dump-round program and request program with the discipline, every
number of mutators and EVERY schedule (updates landing at any point of a dump round, failing writes): whenever the dumper is
between two rounds and no mutator is inside its request, a file that is not the effective config has the flag raised — the
next round will dump. -/
theorem dump_file_behind_flag_set (prog setp : Prog) (hd : disc .clean false prog = true) (hs : setOk setp = true)
    (sched : List Ev) (hidle : (run (initConf prog setp) sched).d.rest = .done)
    (hm : ∀ t, (run (initConf prog setp) sched).m t = .idle)
    (hne : (run (initConf prog setp) sched).file ≠ (run (initConf prog setp) sched).live) :
    (run (initConf prog setp) sched).flag = 1 := by
  rcases behind_flag (inv_run (inv_init prog setp hd hs) sched) hidle hm with h | h
  · exact absurd h hne
  · exact h

/-- **dump_eventually_current**: for every schedule `sched` (any history of updates and dump rounds, interleaved action by
action), once it has brought the dumper between two rounds with no mutator inside a request, ONE more dump round that runs to
completion with no further update and a successful write leaves file = effective config. -/
theorem dump_eventually_current (prog setp : Prog) (hd : disc .clean false prog = true) (hq : quietOk prog = true)
    (hs : setOk setp = true) (sched : List Ev) (hidle : (run (initConf prog setp) sched).d.rest = .done)
    (hm : ∀ t, (run (initConf prog setp) sched).m t = .idle) :
    (run (run (initConf prog setp) sched)
        (.dump true :: List.replicate (quietLen prog (run (initConf prog setp) sched).flag) (.dump true))).file =
      (run (initConf prog setp) sched).live ∧
    (run (run (initConf prog setp) sched)
        (.dump true :: List.replicate (quietLen prog (run (initConf prog setp) sched).flag) (.dump true))).d.rest = .done := by
  have hp : (run (initConf prog setp) sched).prog = prog := (run_progs _ sched).1
  have := quiet_round_current (inv_run (inv_init prog setp hd hs) sched) (by rw [hp]; exact hq) hidle hm
  rw [hp] at this
  exact ⟨this.1.trans this.2.2, this.2.1⟩

/-- … for the code as it is (regenerated programs). -/
theorem dump_eventually_current_mosn (sched : List Ev)
    (hidle : (run (initConf dumpConfig setDump) sched).d.rest = .done)
    (hm : ∀ t, (run (initConf dumpConfig setDump) sched).m t = .idle) :
    (run (run (initConf dumpConfig setDump) sched)
        (.dump true :: List.replicate (quietLen dumpConfig (run (initConf dumpConfig setDump) sched).flag) (.dump true))).file =
      (run (initConf dumpConfig setDump) sched).live :=
  (dump_eventually_current dumpConfig setDump (by decide) (by decide) (by decide) sched hidle hm).1

-- non-vacuity: an update lands between the snapshot and the write of a round; the schedule ends idle with the file behind and
-- the flag raised; the next round makes the file current
example :
    let c := run (initConf dumpConfig setDump) [.upd 1, .upd 1, .upd 1, .dump true, .dump true, .dump true, .upd 2, .upd 2, .upd 2, .dump true]
    c.d.rest = .done ∧ c.m 1 = .idle ∧ c.m 2 = .idle ∧ c.file = 1 ∧ c.live = 2 ∧ c.flag = 1 ∧
    (run c (.dump true :: List.replicate (quietLen dumpConfig c.flag) (.dump true))).file = 2 := by decide +kernel

/-- **clear_after_write_loses_update** (negative witness, machine-checked): a round that only READS the flag at its start and
clears it AFTER the write violates the discipline, and the schedule "round starts, reads the flag, snapshots; an update lands
and raises the (already raised) flag; the round writes and clears the flag" ends between two rounds, all mutators idle, with the
file behind the effective config and NO request pending: the next round does nothing, the update is never dumped. -/
theorem clear_after_write_loses_update :
    disc .clean false clearAfterWrite = false ∧
    (let c := run (initConf clearAfterWrite setDump)
        [.upd 1, .upd 1, .upd 1, .dump true, .dump true, .dump true, .upd 2, .upd 2, .upd 2, .dump true, .dump true]
     c.d.rest = .done ∧ c.m 1 = .idle ∧ c.m 2 = .idle ∧ c.file = 1 ∧ c.live = 2 ∧ c.flag = 0 ∧
     (run c [.dump true, .dump true]).d.rest = .done ∧ (run c [.dump true, .dump true]).file = 1) := by decide +kernel

/-- the predicate of the `dump` cases (after every round: file behind ⇒ request pending; a round with no update inside and a
successful write leaves the file current) is true of the model's observations of EVERY script of updates and rounds (updates
injected before / after the snapshot, failing writes). -/
theorem spec_dump_holds_on_model (items : List Item) :
    Spec.dumpHolds items (runScript (initConf dumpConfig setDump) items) = true :=
  dumpHolds_runScript items _ (inv_init _ _ (by decide) (by decide)) (by decide) ⟨rfl, fun _ => rfl⟩

end dump

/-! ## concurrent mutators of one router: the LOCK STRUCTURE of `routers_manager.go`

`Gen/RouterLocks`: every mutator as a step program in source order (regenerated): where `rw.mux` (read / write) and `rm.updateMux` are
taken and released, and between which of them the wrapper is read, the live table modified, the configuration recorded.
`Model/RouterLocks`: any number of calls, one thread each, run their programs under an arbitrary schedule; the wrapper holds
pointers (table object modified in place, configuration object modified in place and copied by `SetRouter`). -/
section locks
open MosnVerif.Model.RouterLocks MosnVerif.Gen.RouterLocks

/-- the regenerated lock structure: every mutator of an existing router holds the wrapper's WRITE lock from before its first read
of the wrapper until after the configuration is recorded (everything outside is the map lookup, `NewRouters` of the call's own
argument, or the manager mutex); the first `AddOrUpdateRouters` of a name publishes the wrapper and records its configuration
under the manager mutex and the new wrapper's write lock; the readers of the request path take the read lock. -/
theorem router_locks_discipline :
    disciplined addOrUpdateRouters_found = true ∧ disciplined addRoute_found = true ∧ disciplined removeAllRoutes_found = true ∧
    disciplined addRoute_absent = true ∧ disciplined removeAllRoutes_absent = true ∧ disciplined getRouterWrapperByName_found = true ∧
    firstAddOk addOrUpdateRouters_absent = true ∧ readerOk getRouters = true ∧ readerOk getRoutersConfig = true := by decide +kernel

/-- **mutators_serializable** (generic): for every step semantics whose outside steps are local, every family of calls whose
programs have the lock discipline (any number of concurrent calls), every initial state and EVERY schedule: whenever nobody holds
the write lock, the shared state is the one the calls that went through their critical section leave when they run ONE AFTER THE
OTHER in the order `done` in which they released the lock (a list without repetition); a finished call that is not in it
changes nothing when run alone. -/
theorem mutators_serializable {S L : Type} (exec : Exec S L) (hloc : ∀ a, localStep a = true → LocalStep exec a)
    (calls : Nat → Call L) (s0 : S) (hd : ∀ t, disciplined (calls t).prog = true) (sched : List Nat) :
    (runSched exec (initConf calls s0) sched).done.Nodup ∧
    ((runSched exec (initConf calls s0) sched).writer = none →
      (runSched exec (initConf calls s0) sched).shared = serialS exec calls (runSched exec (initConf calls s0) sched).done s0) ∧
    (∀ t, ((runSched exec (initConf calls s0) sched).threads t).todo = [] → t ∉ (runSched exec (initConf calls s0) sched).done →
      Noop exec calls t) :=
  serializable exec hloc calls s0 hd sched

/-- **concurrent_coherent_routes**: router `n` exists in a coherent state `st` (e.g. after any history: `inv_run`); ANY number of
concurrent `AddOrUpdateRouters` / `AddRoute` / `RemoveAllRoutes` calls for it (`ops t` = the call of thread `t`, valid or not) run
the REGENERATED programs under ANY schedule. Whenever nobody holds the wrapper's write lock: there is an order of distinct calls
such that the router's live table, wrapper configuration, stored configuration and remembered path are exactly those of the
sequential history `order` of `Model/Updates` — and the live table is the one `NewRouters` builds from the stored configuration
(`coherent_routes` for concurrent callers). -/
theorem concurrent_coherent_routes (o : Oracle) (st : State) (hI : Inv o st) (n : String) (w : Wrapper)
    (hw : st.wrappers n = some w) (ops : Nat → MOp) (hn : ∀ t, named n (ops t)) (sched : List Nat)
    (hidle : (runSched (exec o) (initConf (callOf ops) (sharedOf st n w)) sched).writer = none) :
    ∃ order : List Nat, order.Nodup ∧ ∃ w', (runFrom o st (order.map (fun t => toOp n (ops t)))).wrappers n = some w' ∧
      view (runSched (exec o) (initConf (callOf ops) (sharedOf st n w)) sched).shared =
        viewOf (runFrom o st (order.map (fun t => toOp n (ops t)))) n w' ∧
      coherentView o (view (runSched (exec o) (initConf (callOf ops) (sharedOf st n w)) sched).shared) = true := by
  have hd : ∀ t, disciplined (callOf ops t).prog = true := by
    intro t
    unfold callOf
    cases ops t <;> simp only <;> decide
  obtain ⟨hnd, hser, _⟩ := serializable (exec o) (exec_local o) (callOf ops) (sharedOf st n w) hd sched
  obtain ⟨w', hw', hv⟩ := serial_view o n ops hn (runSched (exec o) (initConf (callOf ops) (sharedOf st n w)) sched).done
    st hI w hw (sharedOf st n w) (view_sharedOf st n w)
  refine ⟨_, hnd, w', hw', ?_, ?_⟩
  · rw [hser hidle]; exact hv
  · rw [hser hidle, hv]
    exact coherent_viewOf o _ (inv_runFrom _ hI) n w' hw'

end locks

section examples
/-- a simple concrete oracle (first virtual host listing the domain); the driver's `exOracle` works on lower-cased strings,
which the kernel does not evaluate -/
def exOracle : Oracle := ⟨fun _ => true, fun doms d => doms.findIdx? (fun ds => ds.contains d)⟩
def h1 : Host := ⟨"127.0.0.1:80", "h1", 1⟩
def h2 : Host := ⟨"127.0.0.1:81", "h2", 0⟩
def h1' : Host := ⟨"127.0.0.1:80", "dup", 200⟩
def rt (id : String) : Route := ⟨id, "/", true⟩
def cfg1 : RouterCfg := { name := "r", vhosts := [⟨"v1", ["a.b"], [rt "x"]⟩, ⟨"v2", ["*"], []⟩] }

-- mode: loaded from a directory, updated from a static file (and back), a route added in between
def vhx : VHost := ⟨"v1", ["a.b"], [rt "x"]⟩
def cfgDir : RouterCfg := { name := "r", vhosts := [vhx], path := "/etc/routers/r" }
def cfgStatic : RouterCfg := { name := "r", vhosts := [vhx, ⟨"v2", ["*"], []⟩], static := [vhx, ⟨"v2", ["*"], []⟩] }
def mhist : List Op := [.addOrUpdateRouters cfgDir, .addRoute "r" "a.b" (rt "y"), .addOrUpdateRouters cfgStatic, .addRoute "r" "*" (rt "z")]
example : ∀ op ∈ mhist, opLoaderShaped op := by
  intro op h
  simp only [mhist, List.mem_cons, List.not_mem_nil, or_false] at h
  rcases h with rfl | rfl | rfl | rfl <;> simp [opLoaderShaped, loaderShaped, cfgDir, cfgStatic]
example : (run exOracle (mhist.take 2)).rpath "r" = "/etc/routers/r" ∧ (run exOracle mhist).rpath "r" = "" ∧
    (run exOracle (mhist ++ [.addOrUpdateRouters cfgDir])).rpath "r" = "/etc/routers/r" := by decide +kernel
example : ((reloadRouter (fun l => l) (run exOracle mhist) "r").map (·.map (fun c => (c.path, c.vhosts.map (fun v => v.routes.map (·.id)))))) =
    some (some ("", [["x"], ["z"]])) := by decide +kernel
-- stale_path_breaks_reload's hypotheses: the state "directory load, then static update whose empty path was not copied"
example : let s : State := { run exOracle mhist with rpath := fun _ => "/etc/routers/r" }
    (∃ c, s.rstore "r" = some c ∧ c.static ≠ []) ∧ s.rpath "r" ≠ "" ∧ reloadRouter (fun l => l) s "r" = some none := by
  refine ⟨⟨_, rfl, by decide⟩, by decide, by decide⟩

-- a history with successful, failing, repeated and no-op operations; the cluster exists at the end with distinct hosts
def hist : List Op :=
  [.addOrUpdateCluster "c" 1 [h2], .updateHosts "c" [h1, h2, h1'], .updateHosts "nope" [h1], .appendHosts "c" [h1'],
   .addOrUpdateRouters cfg1, .addRoute "r" "a.b" (rt "y"), .addRoute "r" "a.b" ⟨"bad", "/", false⟩, .addRoute "zz" "a.b" (rt "y"),
   .routersNil, .removeHosts "c" ["127.0.0.1:81", "127.0.0.1:99"], .removeClusters ["c", "absent"]]

-- (AppendClusterHosts puts the new hosts first, so on an address clash the appended host replaces the old one)
theorem hist_cluster : (run exOracle hist).clusters "c" = some ⟨1, [h1']⟩ := by decide +kernel
example : (run exOracle hist).clusters "c" = some ⟨1, [h1']⟩ := hist_cluster
example : (run exOracle hist).cstore "c" = some ⟨1, [h1']⟩ := ((inv_run exOracle hist).c_some "c" _ hist_cluster).1
example : results exOracle init hist = [true, true, false, true, true, true, false, true, false, true, false] := by decide +kernel
example : ((run exOracle hist).rstore "r").map (fun c => c.vhosts.map (fun v => v.routes.map (·.id))) = some [["x", "y"], []] := by
  decide +kernel
-- endpoints_union's hypothesis (cluster exists) and a 3-locality assignment with a duplicate address across localities
example : (run exOracle (hist ++ [.xdsEndpoints [("c", [[⟨"10.0.0.1:1", some 5⟩], [⟨"10.0.0.2:1", none⟩, ⟨"10.0.0.1:1", some 300⟩], [⟨"10.0.0.3:1", some 0⟩]])]])).clusters "c"
    = some ⟨1, [⟨"10.0.0.1:1", "", 5⟩, ⟨"10.0.0.2:1", "", 0⟩, ⟨"10.0.0.3:1", "", 1⟩]⟩ := by decide +kernel
-- removed_gone_hosts: a multi-address call in descending order with a duplicate and an absent address, on hosts given unsorted
example : (run exOracle [.addOrUpdateCluster "c" 1 [], .updateHosts "c" exFive.reverse,
      .removeHosts "c" [exAddr 4, exAddr 2, exAddr 9, exAddr 4, exAddr 1]]).clusters "c" =
    some ⟨1, [⟨exAddr 3, "", 1⟩, ⟨exAddr 5, "", 1⟩]⟩ := by decide +kernel
-- removed_gone_clusters / removed_stays_gone hypotheses
example : (step exOracle (run exOracle hist) (.removeClusters ["c"])).2 = true := by decide +kernel
example : single (.xdsEndpoints [("c", [[], []])]) ∧ addsCluster "c" (.updateHosts "c" []) = false := by decide +kernel
-- last_wins_route / removed_gone_routes hypotheses: a known router and a successful call
example : ((run exOracle hist).wrappers "r").isSome = true ∧
    (step exOracle (run exOracle hist) (.removeAllRoutes "r" "*")).2 = true ∧
    (step exOracle (run exOracle hist) (.addRoute "r" "a.b" (rt "z"))).2 = true := by decide +kernel
-- listeners: add, update (keeps `keep`, copies sf/nf/idle), rejected updates (address mismatch, bad tls, two chains), delete
def lcA : ListenerCfg := ⟨"l1", "127.0.0.1:1001", 1, ["vfa"], 1, 0, 7, true⟩
def lhist : List Op :=
  [.addOrUpdateListener lcA, .addOrUpdateListener { lcA with sf := ["vfb", "vfa"], idle := 2, keep := 9 },
   .addOrUpdateListener { lcA with addr := "127.0.0.1:1002", sf := [] }, .addOrUpdateListener { lcA with tlsOk := false, nf := 5 },
   .addOrUpdateListener { lcA with chains := 2 }, .addOrUpdateListener { lcA with name := "", addr := "127.0.0.1:1003" },
   .deleteListener "nope"]
example : results exOracle init lhist = [true, true, false, false, false, true, true] := by decide +kernel
example : (run exOracle lhist).listeners "l1" = some ⟨{ lcA with sf := ["vfb", "vfa"], idle := 2 }, ["vfb", "vfa"], 1, 2⟩ := by decide +kernel
example : ((run exOracle lhist).lstore "127.0.0.1:1003").map (·.name) = some "127.0.0.1:1003" := by decide +kernel
example : (run exOracle (lhist ++ [.deleteListener "l1"])).lstore "l1" = none := by decide +kernel
-- coherent_hosts_exact: a history inside the bounds, and one outside (weight 0 kept raw live, clamped on restart)
example : opOk (.updateHosts "c" [h1]) ∧ opOk (.xdsEndpoints [("c", [[⟨"10.0.0.1:1", some 300⟩]])]) :=
  ⟨by intro h hm; simp at hm; subst hm; exact ⟨by decide, by decide⟩, by intro a ha loc hl x hx; simp at ha; subst ha; simp at hl; subst hl; simp at hx; subst hx; rfl⟩
example : (run exOracle [.addOrUpdateCluster "c" 1 [], .updateHosts "c" [h2]]).clusters "c" = some ⟨1, [h2]⟩ ∧
    rebuildClusters (dump (run exOracle [.addOrUpdateCluster "c" 1 [], .updateHosts "c" [h2]])) "c" = some ⟨1, [{ h2 with weight := 1 }]⟩ := by
  decide +kernel
end examples

section lockWitness
open MosnVerif.Model.RouterLocks MosnVerif.Gen.RouterLocks

def cfgA : RouterCfg := { name := "r", vhosts := [⟨"v1", ["a.b"], [rt "x"]⟩] }
def cfgB : RouterCfg := { name := "r", vhosts := [⟨"v1", ["a.b"], [rt "u"]⟩] }
def stA : State := run exOracle [.addOrUpdateRouters cfgA]
def wA : Wrapper := ⟨build exOracle cfgA, cfgA⟩
/-- thread 0: `AddRoute` with the read-then-write shape; thread 1: a complete update by `cfgB` (regenerated program) -/
def badCalls : Nat → Call Local := fun t =>
  if t = 0 then ⟨addRouteReadThenWrite, { op := .addRoute "a.b" (rt "y"), me := 1 }⟩
  else ⟨addOrUpdateRouters_found, { op := .update cfgB, me := t + 1 }⟩
/-- `AddRoute` reads the wrapper (read lock), inserts the route unlocked; the complete update runs; `AddRoute` writes back -/
def badSched : List Nat := List.replicate 8 0 ++ List.replicate 9 1 ++ List.replicate 6 0

/-- **read_then_write_lock_incoherent** (negative witness, machine-checked): `AddRoute` reading table and configuration under
the READ lock, inserting the route unlocked and taking the write lock only to record the configuration does NOT have the
discipline, and the schedule "AddRoute reads and inserts; a complete `AddOrUpdateRouters` of the same router runs; AddRoute writes
back" ends with every call finished, no lock held, the live table being the UPDATED one (route `u`) while the stored
configuration is the OLD one plus the added route (`x`, `y`): live ≠ build (stored). The same two calls with the regenerated
`AddRoute` under the same schedule stay coherent. -/
theorem read_then_write_lock_incoherent :
    stA.wrappers "r" = some wA ∧ disciplined addRouteReadThenWrite = false ∧
    (let c := runSched (exec exOracle) (initConf badCalls (sharedOf stA "r" wA)) badSched
     c.writer = none ∧ c.readers = [] ∧ c.mholder = none ∧ (c.threads 0).todo = [] ∧ (c.threads 1).todo = [] ∧
     ((view c.shared).live.map (fun t => t.vhs.map (fun v => v.routes.map (·.id)))) = some [["u"]] ∧
     (view c.shared).stored.vhosts.map (fun v => v.routes.map (·.id)) = [["x", "y"]] ∧
     coherentView exOracle (view c.shared) = false) ∧
    (let c := runSched (exec exOracle) (initConf (callOf (fun t => if t = 0 then .addRoute "a.b" (rt "y") else .update cfgB))
        (sharedOf stA "r" wA)) badSched
     coherentView exOracle (view c.shared) = true) := by decide +kernel

-- mutators_serializable's hypotheses hold of the regenerated programs with the concrete steps (`exec_local`,
-- `router_locks_discipline`), and the conclusion is not vacuous: under `badSched` (the update is blocked at the write lock while
-- the AddRoute is inside) followed by the rest of the update, both calls go through their critical section — first the AddRoute,
-- then the complete update — and the shared state is the sequential one of that order
example :
    let calls := callOf (fun t => if t = 0 then MOp.addRoute "a.b" (rt "y") else MOp.update cfgB)
    let c := runSched (exec exOracle) (initConf calls (sharedOf stA "r" wA)) (badSched ++ List.replicate 9 1)
    (∀ t, t < 2 → disciplined (calls t).prog = true) ∧ c.done = [0, 1] ∧ c.writer = none ∧
    view c.shared = view (serialS (exec exOracle) calls [0, 1] (sharedOf stA "r" wA)) ∧
    (view c.shared).stored.vhosts.map (fun v => v.routes.map (·.id)) = [["u"]] := by decide +kernel

-- concurrent_coherent_routes' hypotheses: an existing router in a reachable state, calls that name it
example : Inv exOracle stA ∧ stA.wrappers "r" = some wA ∧
    (∀ t, named "r" ((fun t => if t = 0 then MOp.addRoute "a.b" (rt "y") else MOp.update cfgB) t)) :=
  ⟨inv_run _ _, by decide, fun t => by by_cases h : t = 0 <;> simp [h, named, cfgB]⟩
end lockWitness

/-! ## the virtual host's route table: in-place single-route updates vs lookups on the request path

`VirtualHostImpl.RemoveAllRoutes` reslices `vh.routes` to length 0 IN PLACE and a following `AddRoute` appends into the same backing
array; lookups are coherent only because they hold `vh.mutex.RLock()` for the whole walk. `Gen.VhostLocks` is the regenerated step
program of every method of the type (locks, reads in place, header / map copies, in-place vs replacing writes) and of the callers
in `routers_impl.go`; `Model/VhostTable.lean` runs any number of such programs over a shared backing array under every schedule,
a walk reading ONE cell per step. -/
section vhostTable
open MosnVerif.Gen.VhostLocks MosnVerif.Model.VhostTable MosnVerif.Model.VhostSpec

/-- **gen_vhost_discipline**: every method of `VirtualHostImpl` as regenerated has the lock discipline (reads of the table / index
under the mutex in either mode, writes under the WRITE lock in one section per call, a header copy never outlives the read lock,
a map copy is used only in the critical section that took it, no escape, no unknown in-place write); the constructor makes the map
before anything else; nothing else in package `router` touches the two fields; `routersImpl`'s request path and single-route
mutators look the virtual host up in tables that are never written after `NewRouters` and call exactly one table method on it. -/
theorem gen_vhost_discipline : genDiscipline = true := by decide +kernel

/-- **vhost_reader_sees_a_published_table**: ANY number of concurrent calls whose programs have the discipline (`args t` = the
arguments of call `t`: any route, any index key, any request), any initial table and heap layout, EVERY schedule: every result a
lookup (a call that never takes the write lock) has produced so far — a first-match walk, an all-matches walk, an index lookup —
is exactly `answer` on ONE published view `pubs[o.at_]`: the table as it stood at the start or at a release of the write lock,
namely the one that was current when the lookup took its read lock. No result mixes cells of two tables. -/
theorem vhost_reader_sees_a_published_table {α K : Type} [DecidableEq K] (args : Nat → Arg α K) (progs : Nat → List Step)
    (hd : ∀ t, disciplined (progs t) = true) (s0 : Shared α K) (sched : List Nat) (t : Nat) (hl : Step.lock ∉ progs t) :
    let c := runSched false args (initConf progs s0) sched
    ∀ o ∈ (c.th t).obs, ∃ v, c.g.pubs[o.at_]? = some v ∧ o.res = answer (args t) o.kv v :=
  (schedule_facts false args progs s0 hd (fun e => by cases e) sched).2.2.2.1 t hl

/-- **vhost_updates_serializable**: under the same hypotheses the published views are those of the writer calls run ONE AFTER THE
OTHER in the order `done` in which they released the write lock (distinct calls): `pubs = [v₀, e₁ v₀, e₂ (e₁ v₀), …]` with `eₜ` the
effect of call `t` run alone — every writer call is atomic for lookups — and while nobody holds the write lock the live table IS
the last published view. -/
theorem vhost_updates_serializable {α K : Type} [DecidableEq K] (args : Nat → Arg α K) (progs : Nat → List Step)
    (hd : ∀ t, disciplined (progs t) = true) (s0 : Shared α K) (sched : List Nat) :
    let c := runSched false args (initConf progs s0) sched
    c.g.done.Nodup ∧ c.g.pubs = serialPubs (fun t => effect (progs t) (args t)) c.g.done (view s0) ∧
    (c.g.writer = none → c.g.pubs.getLast? = some (view c.g.sh)) :=
  let h := schedule_facts false args progs s0 hd (fun e => by cases e) sched
  ⟨h.1, h.2.1, h.2.2.1⟩

/-- **vhost_lookups_coherent** (the regenerated programs): any number of concurrent `GetRouteFromEntries` / `GetAllRoutesFromEntries`
/ `GetRouteFromHeaderKV` / `AddRoute` / `RemoveAllRoutes` calls on one virtual host, every schedule: the published views are those
of the sequential history `done` of the DECLARATIVE operations (`RemoveAllRoutes`: no route, empty index; `AddRoute r`: `r` appended
and filed under its key), and every lookup result is the answer of one of them. -/
theorem vhost_lookups_coherent {α K : Type} [DecidableEq K] (calls : Nat → Call α K) (s0 : Shared α K) (sched : List Nat) :
    let c := runSched false (fun t => argOf (calls t)) (initConf (fun t => progOf (calls t)) s0) sched
    c.g.done.Nodup ∧ c.g.pubs = serialPubs (fun t => specOf (calls t)) c.g.done (view s0) ∧
    ∀ t, isLookup (calls t) = true → ∀ o ∈ (c.th t).obs, ∃ v, c.g.pubs[o.at_]? = some v ∧ o.res = answer (argOf (calls t)) o.kv v := by
  intro c
  obtain ⟨h1, h2, _, h4, _⟩ := schedule_facts false (fun t => argOf (calls t)) (fun t => progOf (calls t)) s0
    (fun t => disciplined_progOf _) (fun e => by cases e) sched
  refine ⟨h1, ?_, fun t ht => h4 t (lock_notMem_progOf _ ht)⟩
  have heq : (fun t => effect (progOf (calls t)) (argOf (calls t))) = (fun t => specOf (calls t)) := by
    funext t v; exact effect_progOf _ v
  rw [← heq]; exact h2

/-- **vhost_index_follows_routes**: when every `AddRoute` files its route under `keyOf` of that route (what `addRouteBase` computes
from the route's header matchers) and the index is right at the start, then in EVERY published view of every schedule the index
entry of each key is the LAST route of the table with that key: `GetRouteFromHeaderKV` answers from the same table as the walks. -/
theorem vhost_index_follows_routes {α K : Type} [DecidableEq K] (keyOf : α → Option K) (calls : Nat → Call α K)
    (hk : ∀ t, keyed keyOf (calls t)) (s0 : Shared α K) (h0 : IndexOk keyOf (view s0)) (sched : List Nat) :
    let c := runSched false (fun t => argOf (calls t)) (initConf (fun t => progOf (calls t)) s0) sched
    ∀ v ∈ c.g.pubs, IndexOk keyOf v := by
  intro c v hv
  have h2 := (vhost_lookups_coherent calls s0 sched).2.1
  rw [h2] at hv
  exact serialPubs_all (IndexOk keyOf) _ (fun t v h => indexOk_specOf keyOf _ (hk t) v h) _ _ h0 v hv

/-- **replace_would_allow_escape**: the reader theorem again for the RELAXED discipline `disciplinedEsc` — a header copy taken
under the read lock may be walked after the unlock — provided no writer shortens the slice in place: with `RemoveAllRoutes`
installing a FRESH slice (`removeAllFresh`) the in-place `append` of `AddRoute` only ever writes cells at or beyond every length
that was published for that array, so the escaping copy is a stable snapshot. The regenerated `removeAllRoutes` has NOT this
discipline and `walkAfterUnlock` has not the code's: the theorems are about the combination of the two sites, each fine alone. -/
theorem replace_would_allow_escape {α K : Type} [DecidableEq K] (args : Nat → Arg α K) (progs : Nat → List Step)
    (hd : ∀ t, disciplinedEsc (progs t) = true) (s0 : Shared α K) (h0 : s0.hdr.ptr < s0.fresh) (sched : List Nat) (t : Nat)
    (hl : Step.lock ∉ progs t) :
    (let c := runSched true args (initConf progs s0) sched
     ∀ o ∈ (c.th t).obs, ∃ v, c.g.pubs[o.at_]? = some v ∧ o.res = answer (args t) o.kv v) ∧
    disciplinedEsc walkAfterUnlock = true ∧ disciplinedEsc removeAllFresh = true ∧ disciplinedEsc addRoute = true ∧
    disciplinedEsc removeAllRoutes = false ∧ disciplined walkAfterUnlock = false :=
  ⟨(schedule_facts true args progs s0 hd (fun _ => h0) sched).2.2.2.1 t hl, by decide, by decide, by decide, by decide, by decide⟩

/-- routes are numbers; request of thread 0 matches routes 2 and 3 (old slots 1, 2), not the new routes 10, 11 -/
def wArgs : Nat → Arg Nat Nat
  | 0 => { mt := fun x => x == 2 || x == 3, first := true }
  | 2 => { route := some 10 }
  | 3 => { route := some 11 }
  | _ => {}
/-- thread 0 the lookup, 1 `RemoveAllRoutes`, 2 and 3 `AddRoute` -/
def wProgs (reader removeAll : List Step) : Nat → List Step
  | 0 => reader
  | 1 => removeAll
  | 2 => addRoute
  | 3 => addRoute
  | _ => []
/-- the table `[1, 2, 3]` in an array of capacity 4 -/
def wS0 : Shared Nat Nat := ⟨fun p => if p = 0 then [1, 2, 3, 0] else [], 1, ⟨0, 3⟩, fun _ => [], 1, 0⟩
/-- the lookup up to and including slot 0; the three writer calls; the rest of the lookup -/
def wSched : List Nat :=
  List.replicate 5 0 ++ List.replicate 10 1 ++ List.replicate 15 2 ++ List.replicate 15 3 ++ List.replicate 10 0

/-- **inplace_needs_whole_walk_lock** (machine-checked witness): `GetRouteFromEntries` copying the slice header under the read lock
and walking after the unlock (`walkAfterUnlock`), against the REGENERATED writers, schedule `wSched`: the lookup reads slot 0 of
`[1, 2, 3]`, then `RemoveAllRoutes; AddRoute 10; AddRoute 11` complete (slots 0, 1 overwritten, the copied length still 3), then it
goes on: it answers route 3 — a removed route; the old table answers 2, every later table nothing: no published view answers 3.
With the regenerated reader and the same schedule the writers stay blocked behind the read lock and the answer is 2, the old
table's; with the header copy but a REPLACING `RemoveAllRoutes` the answer is 2 as well. -/
theorem inplace_needs_whole_walk_lock :
    (let c := runSched false wArgs (initConf (wProgs walkAfterUnlock removeAllRoutes) wS0) wSched
     (c.th 0).obs.map (·.res) = [[3]] ∧ c.g.done = [1, 2, 3] ∧
     c.g.pubs.map (answer (wArgs 0) false) = [[2], [], [], []]) ∧
    (let c := runSched false wArgs (initConf (wProgs getRouteFromEntries removeAllRoutes) wS0) wSched
     (c.th 0).obs.map (·.res) = [[2]] ∧ c.g.done = [] ∧ (c.th 1).todo = removeAllRoutes) ∧
    (let c := runSched true wArgs (initConf (wProgs walkAfterUnlock removeAllFresh) wS0) wSched
     (c.th 0).obs.map (·.res) = [[2]] ∧ c.g.done = [1, 2, 3] ∧ c.g.pubs.map (·.1) = [[1, 2, 3], [], [10], [10, 11]]) := by
  decide +kernel

/-- **spec_vht_holds_on_model**: the harness's `vht` cases — one lookup for request `q` (first match or all matches) on the table
`old`, concurrent with `RemoveAllRoutes; AddRoute new₀; …; AddRoute newₖ₋₁` issued by one goroutine — under EVERY schedule of the
regenerated programs: whenever the writer calls completed so far are the first `m` in issue order, every answer the lookup has
produced satisfies the driver's predicate `ansAllowed` (it is the answer of ONE of the tables `old, [], [new₀], …, new`). -/
theorem spec_vht_holds_on_model (old new : List R) (first : Bool) (q : Nat) (s0 : Shared R Nat) (h0 : (view s0).1 = old)
    (sched : List Nat) (m : Nat) (hm : m ≤ new.length + 1) :
    let c := runSched false (fun t => argOf (caseCalls new first q t)) (initConf (fun t => progOf (caseCalls new first q t)) s0) sched
    c.g.done = List.range' 1 m → ∀ o ∈ (c.th 0).obs, ansAllowed old new first q (o.res.map (·.id)) = true := by
  intro c hdone o ho
  obtain ⟨_, hser, _, hobs, hkv⟩ := schedule_facts false (fun t => argOf (caseCalls new first q t))
    (fun t => progOf (caseCalls new first q t)) s0 (fun t => disciplined_progOf _) (fun e => by cases e) sched
  have hp : progOf (caseCalls new first q 0) = if first then getRouteFromEntries else getAllRoutesFromEntries := by
    cases first <;> rfl
  have hl : Step.lock ∉ progOf (caseCalls new first q 0) := by rw [hp]; cases first <;> decide
  obtain ⟨v, hv, hres⟩ := hobs 0 hl o ho
  have hk : o.kv = false := hkv 0 (by rw [hp]; cases first <;> decide) (by rw [hp]; cases first <;> decide) o ho
  have hmem : v ∈ c.g.pubs := List.mem_of_getElem? hv
  have heq : (fun t => effect (progOf (caseCalls new first q t)) (argOf (caseCalls new first q t))) =
      (fun t => specOf (caseCalls new first q t)) := by
    funext t v; exact effect_progOf _ v
  rw [hser, hdone, heq] at hmem
  have htab := serial_tables old new first q m hm (view s0) h0 v hmem
  rw [ansAllowed, List.any_eq_true]
  refine ⟨v.1, htab, ?_⟩
  rw [hres, hk]
  cases first <;> simp [answer, caseCalls, argOf, ansOf, firstOf, allOf, lim]

-- non-vacuity: the hypotheses of the schedule theorems hold of the regenerated programs with concrete arguments, and the
-- conclusion says something: after the whole of `wSched` plus the blocked writers' steps the lookup has answered 2 = the answer of
-- pubs[0], three views were published after it, and the index of the last one files route 11 under key 7
example : (∀ t, disciplined (wProgs getRouteFromEntries removeAllRoutes t) = true) ∧
    Step.lock ∉ wProgs getRouteFromEntries removeAllRoutes 0 := by
  refine ⟨fun t => ?_, by decide⟩
  match t with
  | 0 => decide
  | 1 => decide
  | 2 => decide
  | 3 => decide
  | _ + 4 => rfl
example :
    let args : Nat → Arg Nat Nat := fun t => if t = 3 then { route := some 11, key := some 7 } else wArgs t
    let c := runSched false args (initConf (wProgs getRouteFromEntries removeAllRoutes) wS0)
      (wSched ++ List.replicate 10 1 ++ List.replicate 15 2 ++ List.replicate 15 3)
    (c.th 0).obs.map (fun o => (o.res, o.at_)) = [([2], 0)] ∧ c.g.done = [1, 2, 3] ∧
    c.g.pubs = [([1, 2, 3], []), ([], []), ([10], []), ([10, 11], [(7, 11)])] ∧ view c.g.sh = ([10, 11], [(7, 11)]) := by decide +kernel
-- replace_would_allow_escape's hypotheses
example : (∀ t, disciplinedEsc (wProgs walkAfterUnlock removeAllFresh t) = true) ∧ wS0.hdr.ptr < wS0.fresh := by
  refine ⟨fun t => ?_, by decide⟩
  match t with
  | 0 => decide
  | 1 => decide
  | 2 => decide
  | 3 => decide
  | _ + 4 => rfl
-- vhost_index_follows_routes' hypotheses: the empty virtual host, routes keyed by their residue
example : IndexOk (fun x : Nat => if x % 2 = 0 then some (x / 2) else none) (view (emptyShared : Shared Nat Nat)) ∧
    keyed (fun x : Nat => if x % 2 = 0 then some (x / 2) else none) (Call.add 10 (some 5) : Call Nat Nat) :=
  ⟨fun q => by simp [view, emptyShared, tableOf, lookupK], by simp [keyed]⟩
-- spec_vht_holds_on_model's hypotheses and a table the predicate rejects: the mixed answer of the witness
example : ansAllowed [⟨"a", false, [1]⟩, ⟨"b", false, [0]⟩, ⟨"c", false, [0]⟩] [⟨"x", false, [1]⟩, ⟨"y", false, [1]⟩] true 0 ["c"] = false ∧
    ansAllowed [⟨"a", false, [1]⟩, ⟨"b", false, [0]⟩, ⟨"c", false, [0]⟩] [⟨"x", false, [1]⟩, ⟨"y", false, [1]⟩] true 0 ["b"] = true ∧
    ansAllowed [⟨"a", false, [1]⟩, ⟨"b", false, [0]⟩, ⟨"c", false, [0]⟩] [⟨"x", false, [1]⟩, ⟨"y", false, [1]⟩] true 0 [] = true := by
  decide +kernel
end vhostTable

/-! ## resource thresholds of an updated cluster (circuit breakers): thresholds follow the latest configuration, counters survive

`ResourceUpd.Op` = cluster updates through either mutator (any cluster type, any `circuit_breakers` list: absent, empty, several
entries, zero thresholds), host updates, removal, `Increase` / `Decrease` of any resource by requests in flight.
`updateResourceValue` and `UpdateClusterResourceManagerHandler` are regenerated (`Gen.ResourceUpd`). -/
section resources
open MosnVerif.Model MosnVerif.Gen.ResourceUpd

/-- **thresholds_follow_latest_config**: after EVERY history the live thresholds (all four, zero = unlimited included) are those
of a fresh cluster built from the dumped configuration — present on both sides or on neither —, and right after a cluster update
(whatever came before: other limits, requests in flight, removals) they are exactly the thresholds of that update's
configuration: the first `circuit_breakers` entry, the defaults (0) without one. -/
theorem thresholds_follow_latest_config (ops : List ResourceUpd.Op) :
    ResourceUpd.liveMax (ResourceUpd.run ops) = ResourceUpd.rebuilt (ResourceUpd.run ops) ∧
    ∀ via cfg, ResourceUpd.liveMax (ResourceUpd.run (ops ++ [.update via cfg])) = some (ResourceUpd.newRM cfg.cb) ∧
      ResourceUpd.rebuilt (ResourceUpd.run (ops ++ [.update via cfg])) = some (ResourceUpd.newRM cfg.cb) := by
  refine ⟨ResourceUpd.inv_runFrom _ ops ResourceUpd.inv_init, fun via cfg => ?_⟩
  simp [ResourceUpd.run, ResourceUpd.runFrom, ResourceUpd.step, ResourceUpd.liveMax, ResourceUpd.rebuilt,
    ResourceUpd.handler_max]

/-- from every state (reachable or not) with a live cluster, an update through either mutator — whether or not it changes the
cluster type: `UpdateClusterResourceManagerHandler` has no type guard — leaves all four `current` counters exactly as they were
(the old manager object is handed over), while the thresholds become the new ones. -/
theorem counters_survive_every_update (s : ResourceUpd.State) (l : ResourceUpd.Live) (via : ResourceUpd.Via)
    (cfg : ResourceUpd.Cfg) (hl : s.live = some l) :
    ResourceUpd.liveCur (ResourceUpd.step s (.update via cfg)) = some l.rm.cur ∧
    ResourceUpd.liveMax (ResourceUpd.step s (.update via cfg)) = some (ResourceUpd.newRM cfg.cb) := by
  simp [ResourceUpd.step, ResourceUpd.liveCur, ResourceUpd.liveMax, hl, ResourceUpd.handler_cur, ResourceUpd.handler_max]

/-- **counters_survive_update**: from every state (reachable or not) with a live cluster, an update through either mutator that
keeps the cluster type leaves all four `current` counters exactly as they were (the old manager object is handed over), while the
thresholds become the new ones. -/
theorem counters_survive_update (s : ResourceUpd.State) (l : ResourceUpd.Live) (via : ResourceUpd.Via) (cfg : ResourceUpd.Cfg)
    (hl : s.live = some l) (ht : l.typ = cfg.typ) :
    ResourceUpd.liveCur (ResourceUpd.step s (.update via cfg)) = some l.rm.cur ∧
    ResourceUpd.liveMax (ResourceUpd.step s (.update via cfg)) = some (ResourceUpd.newRM cfg.cb) :=
  counters_survive_every_update s l via cfg hl

/-- the model's step-by-step observation of every history satisfies the driver's predicate `ResourceUpd.Spec.holds` -/
theorem spec_rsrc_holds_on_model (ops : List ResourceUpd.Op) :
    ResourceUpd.Spec.holds ops (ResourceUpd.trace ResourceUpd.init ops) = true :=
  ResourceUpd.holdsFrom_model ResourceUpd.init ops ResourceUpd.inv_init

/-- **skip_zero_keeps_old_limit** (negation witness, machine-checked): with `updateResourceValue` skipping zero thresholds
("do not lift the limits of a busy cluster") an update that drops `max_connections` (5 → absent) leaves 5 in force on the live
manager while the configuration — and a fresh start from its dump — has no limit; the regenerated function stores the 0. -/
theorem skip_zero_keeps_old_limit :
    ResourceUpd.updateSkipZero ⟨5, 0, 7, 0⟩ (ResourceUpd.newRM []) = ⟨5, 0, 7, 0⟩ ∧
    ResourceUpd.updateSkipZero ⟨5, 0, 7, 0⟩ (ResourceUpd.newRM []) ≠ ResourceUpd.newRM [] ∧
    updateResourceValue ⟨5, 0, 7, 0⟩ (ResourceUpd.newRM []) = ResourceUpd.newRM [] := by decide +kernel

-- non-vacuity: a history with limits set, requests in flight, limits dropped and set again, removal and re-creation
def rhist : List ResourceUpd.Op :=
  [.update .primary ⟨0, [⟨5, 0, 7, 1⟩]⟩, .setHosts true, .incr .conn, .incr .req, .incr .pend, .update (.andHost true) ⟨0, []⟩,
   .decr .conn, .update .primary ⟨0, [⟨0, 3, 0, 0⟩, ⟨9, 9, 9, 9⟩]⟩, .update .primary ⟨1, [⟨2, 2, 2, 2⟩]⟩, .remove,
   .update .primary ⟨0, []⟩]
example : (ResourceUpd.run (rhist.take 6)).live.map (·.rm) = some ⟨⟨0, 0, 0, 0⟩, ⟨1, 0, 1, 0⟩⟩ := by decide +kernel
example : (ResourceUpd.run (rhist.take 8)).live.map (·.rm) = some ⟨⟨0, 3, 0, 0⟩, ⟨1, 0, 1, 0⟩⟩ := by decide +kernel
-- a change of the cluster type hands the manager over as well (`UpdateClusterResourceManagerHandler` has no type guard,
-- `handler_typeGuard = false`): the counters survive, the thresholds are the new ones
example : (ResourceUpd.run (rhist.take 9)).live.map (·.rm) = some ⟨⟨2, 2, 2, 2⟩, ⟨1, 0, 1, 0⟩⟩ := by decide +kernel
example : (ResourceUpd.run (rhist.take 10)).live = none ∧ (ResourceUpd.run rhist).live.map (·.rm.max) = some ⟨0, 0, 0, 0⟩ := by decide +kernel
-- counters_survive_update's hypotheses
example : ∃ l, (ResourceUpd.run (rhist.take 5)).live = some l ∧ l.typ = (⟨0, []⟩ : ResourceUpd.Cfg).typ ∧ l.rm.cur = ⟨1, 0, 1, 0⟩ :=
  ⟨_, rfl, rfl, by decide⟩
-- the predicate is not trivially true: the skip-zero outcome of `rhist.take 6` is rejected
example : ResourceUpd.Spec.stepOk (some (⟨⟨5, 0, 7, 1⟩, ⟨1, 1, 1, 0⟩⟩, 0)) (.update (.andHost true) ⟨0, []⟩)
    ⟨.ok, some ⟨⟨5, 0, 7, 1⟩, ⟨1, 1, 1, 0⟩⟩, some ⟨⟨5, 0, 7, 1⟩, ⟨1, 1, 1, 0⟩⟩, some ⟨0, 0, 0, 0⟩⟩ = false := by decide +kernel
end resources

/-! ## removals survive a reload in directory mode (`clusters_configs` / `router_configs`)

The directory scan of `MarshalJSON` that writes the current items is also what deletes the files of removed ones; its top-level
statements are regenerated (`Gen.DirDump`), the item loop's file-name operations are `Gen.ConfigDir`'s. -/
section dirHistories
open MosnVerif.Model MosnVerif.Model.ConfigDir MosnVerif.Gen.DirDump

/-- **dir_dump_discipline**: both regenerated statement lists scan the directory, collect its files, write every item, clean up and
return — with no `return` between the scan and the cleanup (whatever the item list is, empty included). -/
theorem dir_dump_discipline :
    DirHist.stepsOK clusterDumpSteps = true ∧ DirHist.stepsOK vhostDumpSteps = true := by decide +kernel

/-- **removal_survives_reload**: for EVERY non-empty history of updates of the item list (add / replace by name, remove — down to
the empty list and back —, complete replacement), each followed by a dump into the SAME directory at any time, every directory
content at the start (stale files, operator files) and every initial item list: every dump succeeds and the loader applied to the
directory returns exactly the CURRENT items (as one marshal cycle leaves them; a permutation, `ReadDir` sorts by file name) — so an
item removed by the history is not loaded again, and after a history that ends with no item the directory loads as empty.  Stated
for any statement list with the discipline and any file-name operations that are `opsOK`; quantifying over all histories covers
every prefix (`reload (dump state_n) = state_n` for every n). -/
theorem removal_survives_reload {α : Type} (steps : List DStep) (hsteps : DirHist.stepsOK steps = true)
    (ops : List DirTypes.NameOp) (hops : opsOK ops Gen.ConfigDir.readExt = true)
    (enc : α → Json) (dcd : Json → Option α) (nrm : α → α) (hcodec : ∀ c, dcd (enc c) = some (nrm c)) (nameOf : α → Bytes)
    (ups : List (DirHist.Upd α × (Nat → Bytes))) (hne : ups ≠ []) (hclocks : ∀ u ∈ ups, ClockOK u.2) (d : Dir) (items : List α) :
    ∃ d' l, DirHist.histDump steps ops enc nameOf d items ups = some d' ∧
      unmarshalDynamic dcd Gen.ConfigDir.readExt d' = some l ∧ l.Perm ((DirHist.histItems nameOf items ups).map nrm) ∧
      (DirHist.histItems nameOf items ups = [] → l = []) := by
  obtain ⟨d', l, h1, h2, h3⟩ := DirHist.hist_reload steps hsteps ops _ hops enc dcd nrm hcodec nameOf ups hne hclocks d items
  exact ⟨d', l, h1, h2, h3, fun h => by rw [h] at h3; exact List.Perm.eq_nil (by simpa using h3)⟩

/-- … for the regenerated clusters (`clusters_configs`) and virtual hosts (`router_configs`) dumps -/
theorem removal_survives_reload_regenerated {α : Type} (enc : α → Json) (dcd : Json → Option α) (nrm : α → α)
    (hcodec : ∀ c, dcd (enc c) = some (nrm c)) (nameOf : α → Bytes)
    (ups : List (DirHist.Upd α × (Nat → Bytes))) (hne : ups ≠ []) (hclocks : ∀ u ∈ ups, ClockOK u.2) (d : Dir) (items : List α) :
    (∃ d' l, DirHist.histDump clusterDumpSteps Gen.ConfigDir.clusterNameOps enc nameOf d items ups = some d' ∧
      unmarshalDynamic dcd Gen.ConfigDir.readExt d' = some l ∧ l.Perm ((DirHist.histItems nameOf items ups).map nrm) ∧
      (DirHist.histItems nameOf items ups = [] → l = [])) ∧
    (∃ d' l, DirHist.histDump vhostDumpSteps Gen.ConfigDir.vhostNameOps enc nameOf d items ups = some d' ∧
      unmarshalDynamic dcd Gen.ConfigDir.readExt d' = some l ∧ l.Perm ((DirHist.histItems nameOf items ups).map nrm) ∧
      (DirHist.histItems nameOf items ups = [] → l = [])) :=
  ⟨removal_survives_reload _ dir_dump_discipline.1 _ (by decide +kernel) enc dcd nrm hcodec nameOf ups hne hclocks d items,
   removal_survives_reload _ dir_dump_discipline.2 _ (by decide +kernel) enc dcd nrm hcodec nameOf ups hne hclocks d items⟩

/-- the statement list of the seeded shape: `if len(items) == 0 { return … }` right after the directory was read -/
def earlyReturnSteps : List DStep :=
  [.mkdir, .readDir, .returnIfEmpty, .collectInit, .collect, .writtenInit, .writeLoop, .cleanup, .finish]

/-- `c1` as bytes; `c1.json` -/
def c1Item : DirHist.Item := ⟨"c1", 1⟩
def c1Name : Bytes := [99, 49]

/-- **early_return_keeps_removed_cluster** (negation witness, machine-checked): with a `return` for an empty item list before the
cleanup the statement list has not the discipline, and the history "add cluster c1; remove it" (a dump after each step) leaves
`c1.json` in the directory: the loader returns c1 although no item is left.  The regenerated list empties the directory. -/
theorem early_return_keeps_removed_cluster :
    DirHist.stepsOK earlyReturnSteps = false ∧
    (let ups : List (DirHist.Upd DirHist.Item × (Nat → Bytes)) := [(.put c1Item, fun i => dec i), (.del c1Name, fun i => dec i)]
     DirHist.histItems (fun _ => c1Name) [] ups = [] ∧
     ((DirHist.histDump earlyReturnSteps Gen.ConfigDir.clusterNameOps DirHist.Item.enc (fun _ => c1Name) [] [] ups).bind
        (unmarshalDynamic DirHist.Item.dcd Gen.ConfigDir.readExt)) = some [c1Item] ∧
     ((DirHist.histDump clusterDumpSteps Gen.ConfigDir.clusterNameOps DirHist.Item.enc (fun _ => c1Name) [] [] ups).bind
        (unmarshalDynamic DirHist.Item.dcd Gen.ConfigDir.readExt)) = some []) := by decide +kernel

-- non-vacuity of removal_survives_reload's hypotheses: a clock showing digits, a codec, a history down to empty and back
example : ClockOK (fun i => dec i) := by
  intro i
  exact ⟨free_dec 0 (by decide) i, free_dec 47 (by decide) i⟩
example (c : DirHist.Item) : DirHist.Item.dcd (DirHist.Item.enc c) = some c := DirHist.item_codec c
example : DirHist.histItems (fun _ : DirHist.Item => c1Name) []
    [(.put c1Item, fun i => dec i), (.del c1Name, fun i => dec i), (.setAll [c1Item, c1Item], fun i => dec i)] = [c1Item, c1Item] := by
  decide +kernel
end dirHistories

end MosnVerif.Props.C12
