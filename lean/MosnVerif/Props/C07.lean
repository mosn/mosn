import MosnVerif.Lemmas.Framing
import MosnVerif.Lemmas.FrameSteps
import MosnVerif.Lemmas.Match
import MosnVerif.Lemmas.FrameH2
import MosnVerif.Lemmas.ReadLoop
import MosnVerif.Model.ReadLoopSpec
import MosnVerif.Lemmas.DispatchCtx
import MosnVerif.Model.DispatchCtxSpec
import MosnVerif.Lemmas.FrameOwn
import MosnVerif.Lemmas.H1Seg
import MosnVerif.Lemmas.H1SegStable
import MosnVerif.Lemmas.H1Continue
import MosnVerif.Lemmas.BoltHandover
import MosnVerif.Lemmas.CheckedMatchEq
/-!
# C07 — message extraction is independent of how TCP segments the byte stream (property theorems only)

`run d chunks` is the buffered dispatch loop of `streamConn.Dispatch` fed with the reads `chunks`
(Model/Framing.lean); `frameStep_P` is `XProtocol.Decode` of protocol `P` built from the regenerated length
computations (Model/FrameSteps.lean); the matchers are Model/Match.lean.
-/
namespace MosnVerif.Props.C07
open MosnVerif.Model.FramingS MosnVerif.Model.FrameH2
open MosnVerif.Model.Framing MosnVerif.Model.FrameSteps MosnVerif.Model.Match MosnVerif.Model.FrameSpec
open MosnVerif.Model
open MosnVerif.Model.ReadLoop (Params Ev Consumer Consumer.Drains SafeShrinks appended readsOf toConn dispatchConsumer)

/-- **segmentation_independent** (generic): for every prefix-stable decoder, every byte stream and every way of
cutting it into consecutive reads (1-byte reads, frames straddling reads, several frames in one read, empty reads),
the connection ends in the same state — same frames in the same order, same residue, same failed flag — as when the
whole stream arrives in one read. -/
theorem segmentation_independent {F : Type} (d : Bytes → Step F) (hs : Stable d) (chunks : List Bytes) :
    run d chunks = run d [chunks.flatten] := by
  rw [run_eq_feed d hs chunks, run_eq_feed d hs [chunks.flatten]]; simp

/-- two segmentations of the same bytes are indistinguishable -/
theorem segmentation_irrelevant {F : Type} (d : Bytes → Step F) (hs : Stable d) (c1 c2 : List Bytes)
    (h : c1.flatten = c2.flatten) : run d c1 = run d c2 := by
  rw [segmentation_independent d hs c1, segmentation_independent d hs c2, h]

/-- `Stable` for each xprotocol decoder, against the current (regenerated) length fields, tests and `Drain` arguments. -/
theorem stable_bolt : Stable frameStep_bolt := MosnVerif.Model.FrameSteps.stable_bolt
theorem stable_boltv2 : Stable frameStep_boltv2 := MosnVerif.Model.FrameSteps.stable_boltv2
/-- for every behaviour of the hessian2 black box that is a function of the frame bytes -/
theorem stable_dubbo (oracle : Bytes → Bool) : Stable (frameStep_dubbo oracle) :=
  MosnVerif.Model.FrameSteps.stable_dubbo oracle
theorem stable_dubbothrift (oracle : Bytes → Bool) : Stable (frameStep_thrift oracle) :=
  envelope_stable _ thriftHdr_stable _
theorem stable_tars (oracle : Bytes → Bool) : Stable (frameStep_tars oracle) :=
  MosnVerif.Model.FrameSteps.stable_tars oracle

theorem stable_xprotocol (proto : String) (oracle : Bytes → Bool) (d : Bytes → Step Bytes)
    (h : frameStepOf proto oracle = some d) : Stable d := by
  unfold frameStepOf at h
  split at h <;> simp at h <;> subst h
  · exact stable_bolt
  · exact stable_boltv2
  · exact stable_dubbo oracle
  · exact stable_dubbothrift oracle
  · exact stable_tars oracle

/-- **segmentation independence of every supported xprotocol**: bolt, boltv2, dubbo, dubbothrift, tars -/
theorem segmentation_independent_xprotocol (proto : String) (oracle : Bytes → Bool) (d : Bytes → Step Bytes)
    (h : frameStepOf proto oracle = some d) (chunks : List Bytes) : run d chunks = run d [chunks.flatten] :=
  segmentation_independent d (stable_xprotocol proto oracle d h) chunks

/-- **valid_stream_delivered**: a stream made of frames the decoder accepts in isolation, followed by an incomplete
frame `t`, delivered in *any* segmentation, yields exactly those frames, in order, each exactly once, and leaves
exactly `t` in the buffer: no byte lost, duplicated or attributed to a neighbouring frame. -/
theorem valid_stream_delivered (d : Bytes → Step Bytes) (hs : Stable d) (fs : List Bytes) (t : Bytes)
    (hv : ∀ f ∈ fs, d f = .frame f f.length) (ht : TailOk d t)
    (chunks : List Bytes) (hc : chunks.flatten = fs.flatten ++ t) :
    run d chunks = { buf := t, out := fs, failed := false } := by
  simpa [Function.comp_def] using run_frames d hs (fs.map fun f => (f, f)) t (by simpa using hv)
    (tailOk_needMore d hs t ht) chunks (by simpa [Function.comp_def] using hc)

/-- **incomplete_consumes_nothing / prompt delivery**: when only the first `k` bytes of such a stream have arrived,
exactly the frames lying wholly inside those `k` bytes have been handed on, the connection has not failed, and the
buffer holds exactly the bytes of the frame that is still incomplete. -/
theorem prefix_delivery (d : Bytes → Step Bytes) (hs : Stable d) (fs : List Bytes) (t : Bytes)
    (hv : ∀ f ∈ fs, d f = .frame f f.length) (ht : TailOk d t) (k : Nat) :
    let c := run d [(fs.flatten ++ t).take k]
    c.out = fs.take (completeBy (fs.map List.length) k) ∧ c.failed = false ∧
    c.out.flatten ++ c.buf = (fs.flatten ++ t).take k := by
  have ⟨h1, h2, h3⟩ := drainAll_prefix d hs t ht fs k hv
  simp only [run, List.foldl_cons, List.foldl_nil, feed_eq, Conn.init, Bool.false_eq_true, ↓reduceIte,
    List.nil_append]
  exact ⟨h1, h2, by rw [h1]; exact h3⟩

/-- on a proper prefix of an acceptable frame the decoder asks for more data (and therefore drains nothing) -/
theorem incomplete_frame_needs_more (d : Bytes → Step Bytes) (hs : Stable d) (g : Bytes)
    (hg : d g = .frame g g.length) (k : Nat) (hk : k < g.length) : d (g.take k) = .needMore :=
  prefix_needMore d hs g hg k hk

/-- **segmentation_independent_stateful**: the same for decoders that carry connection state which changes only when
an item is produced (HTTP/2: "client preface consumed"). -/
theorem segmentation_independent_stateful {F σ : Type} (d : σ → Bytes → Step (F × σ)) (hs : SStable d) (s0 : σ)
    (h0 : d s0 [] = .needMore) (chunks : List Bytes) : srun d s0 chunks = srun d s0 [chunks.flatten] := by
  rw [srun_eq_sfeed d hs s0 h0 chunks, srun_eq_sfeed d hs s0 h0 [chunks.flatten]]; simp

/-- prefix-stability of the HTTP/2 server-side frame extraction (`ReadPreface`, then `MFramer.ReadFrame`: 9-byte
header, 24-bit length, read-size limit, HEADERS + CONTINUATION pulled and drained as one item), for every read
limit, every payload-parser behaviour that is a function of the frame and every HPACK outcome that is a function of
the group bytes; over the regenerated length tests, sizes and `Drain` argument. -/
theorem stable_http2 (maxRead : Nat) (parseOk groupOk : Bytes → Bool) : SStable (h2Step maxRead parseOk groupOk) :=
  h2Step_stable maxRead parseOk groupOk

/-- **segmentation independence of HTTP/2 frame extraction** (preface + frames, any chunking) -/
theorem segmentation_independent_http2 (maxRead : Nat) (parseOk groupOk : Bytes → Bool) (chunks : List Bytes) :
    srun (h2Step maxRead parseOk groupOk) false chunks = srun (h2Step maxRead parseOk groupOk) false [chunks.flatten] :=
  segmentation_independent_stateful _ (stable_http2 maxRead parseOk groupOk) false
    (h2Step_empty maxRead parseOk groupOk false) chunks

/-- **match_monotone**: for every protocol matcher (bolt, boltv2, dubbo, dubbothrift, tars, HTTP/1 method table,
HTTP/2 preface) an answer `success` or `failed` on a prefix is final on every extension. -/
theorem match_monotone (name : String) (m : Bytes → MR) (h : matcherOf name = some m) : Monotone m := by
  unfold matcherOf at h
  split at h <;> simp at h <;> subst h
  · exact codeMatch_mono _
  · exact codeMatch_mono _
  · exact dubboMatch_mono
  · exact thriftMatch_mono
  · exact tarsMatch_mono
  · exact http1Match_mono
  · exact http2Match_mono

theorem scope_monotone (names : List String) : ∀ m ∈ scopeOf names, Monotone m.2 := by
  intro m hm
  unfold scopeOf at hm
  obtain ⟨n, _, hn⟩ := List.mem_filterMap.mp hm
  cases hmo : matcherOf n with
  | none => simp [hmo] at hn
  | some f => simp [hmo] at hn; subst hn; exact match_monotone n f hmo

/-- **select_deterministic_partial**: automatic protocol selection (`SelectStreamFactoryProtocol` over an ordered scope
of matchers) is segmentation independent on streams on which at most one matcher of the scope can ever succeed: once a
protocol is chosen on a prefix, every longer prefix chooses the same one.
The unrestricted statement ("for every stream") is FALSE of the code — first success in scope order wins, and a later
matcher may succeed on a shorter prefix than an earlier one: see the witness below. -/
theorem select_deterministic_partial (names : List String) (p e : Bytes) (hx : Exclusive (scopeOf names) p)
    (n : String) (h : select (scopeOf names) p = .proto n) : select (scopeOf names) (p ++ e) = .proto n :=
  select_proto_final _ (scope_monotone names) p e hx n h

/-- a failed selection is final on every extension, for every stream -/
theorem select_failed_is_final (names : List String) (p e : Bytes) (h : select (scopeOf names) p = .failed) :
    select (scopeOf names) (p ++ e) = .failed :=
  select_failed_final _ (scope_monotone names) p e h

-- machine-checked negation witness of the unrestricted statement: a bolt request whose `ver2` byte is 0xda and whose
-- request id starts with 0xbc also satisfies the dubbothrift matcher (magic at [4:6]); with scope [dubbothrift, bolt]
-- a first read of 1–5 bytes selects bolt, a first read of ≥ 6 bytes selects dubbothrift.
example : select (scopeOf ["thrift", "bolt"]) [1] = .proto "bolt" ∧
    select (scopeOf ["thrift", "bolt"]) [1, 1, 0, 1, 0xda, 0xbc] = .proto "thrift" := by decide +kernel
-- non-vacuity of `Exclusive`: on a standard bolt frame (ver2 = 1) only the bolt matcher can succeed ...
example : select (scopeOf ["thrift", "bolt"]) [1, 1, 0, 1, 1, 0] = .proto "bolt" := by decide +kernel

/-- the executable predicate `specSeg` (evaluated by the driver on implementation outputs) holds of the model -/
theorem spec_seg_holds_on_model (d : Bytes → Step Bytes) (hs : Stable d) (fs : List Bytes) (t : Bytes)
    (hv : ∀ f ∈ fs, d f = .frame f f.length) (ht : TailOk d t)
    (chunks : List Bytes) (hc : chunks.flatten = fs.flatten ++ t) :
    specSeg (fs.flatten ++ t) (fs.map List.length) (run d chunks).out (run d chunks).buf (run d chunks).failed = true := by
  rw [valid_stream_delivered d hs fs t hv ht chunks hc]
  simp [specSeg, splitBy_flatten]

/-- the executable predicate `specCut` holds of the model for every cut offset -/
theorem spec_cut_holds_on_model (d : Bytes → Step Bytes) (hs : Stable d) (fs : List Bytes) (t : Bytes)
    (hv : ∀ f ∈ fs, d f = .frame f f.length) (ht : TailOk d t) (k : Nat) :
    let s := fs.flatten ++ t
    let c1 := run d [s.take k]
    let c2 := run d [s.take k, s.drop k]
    specCut s (fs.map List.length) k c1.out.length c2.out.length (digest c2.out c2.buf) c2.failed = true := by
  intro s c1 c2
  have h2 : c2 = { buf := t, out := fs, failed := false } :=
    valid_stream_delivered d hs fs t hv ht _ (by simp [s])
  have ⟨h1, _, _⟩ := prefix_delivery d hs fs t hv ht k
  have hc1 : c1.out.length = completeBy (fs.map List.length) k := by
    show (run d [(fs.flatten ++ t).take k]).out.length = _
    rw [h1, List.length_take]
    have := completeBy_le (fs.map List.length) k
    simp at this; omega
  simp only [specCut, hc1, h2, s, splitBy_flatten, List.length_map]
  simp

-- non-vacuity: the hypotheses are satisfiable by real protocol frames (a bolt request with a class, a KV header
-- `a=b` and 2 content bytes; a dubbo heartbeat event; a tars-style length-prefixed package)
def boltReq : Bytes := [1,1,0,1,1,0,0,0,7,1,0,0,3,232, 0,1, 0,10, 0,0,0,2, 99, 0,0,0,1,97,0,0,0,1,98, 120,121]
example : frameStep_bolt boltReq = .frame boltReq boltReq.length := by decide +kernel
example : frameStep_bolt (boltReq.take 34) = .needMore := by decide +kernel
example : TailOk frameStep_bolt (boltReq.take 20) := Or.inr ⟨boltReq, 20, by decide +kernel, by decide, rfl⟩
example : (run frameStep_bolt [boltReq.take 10, boltReq.drop 10 ++ boltReq.take 3, boltReq.drop 3]).out = [boltReq, boltReq] := by
  decide +kernel
example : frameStep_dubbo (fun _ => true) [0xda,0xbb,0xe2,0,0,0,0,0,0,0,0,9,0,0,0,1,78] =
    .frame [0xda,0xbb,0xe2,0,0,0,0,0,0,0,0,9,0,0,0,1,78] 17 := by decide +kernel
example : frameStep_tars (fun _ => true) [0,0,0,6,16,1,9] = .frame [0,0,0,6,16,1] 6 := by decide +kernel
example : boltMatch [1] = .success ∧ dubboMatch [0xda] = .again ∧ http1Match [71,69,84] = .success := by decide +kernel

-- HTTP/2: preface, then a SETTINGS frame (length 0) and a HEADERS frame without END_HEADERS followed by its
-- CONTINUATION: three items, the group drained as one
def h2Sample : Bytes := (MosnVerif.Gen.FrameConsts.http2_preface.map UInt8.ofNat) ++ [0,0,0,4,0,0,0,0,0] ++
  [0,0,1,1,0,0,0,0,1, 0x82] ++ [0,0,1,9,4,0,0,0,1, 0x84]
example : ((srun (h2Step 1048576 (fun _ => true) (fun _ => true)) false
    [h2Sample.take 30, h2Sample.drop 30 |>.take 20, h2Sample.drop 50]).out.map (fun o => (o.map List.length))) =
    [none, some 9, some 20] := by decide +kernel

/-! ## the connection read loop below `Dispatch` (`pkg/network/connection.go` startReadLoop / doRead / onRead)

`ReadLoop.run P c k evs` is the loop fed with the results `evs` of successive `ReadOnce` calls — reads, read timeouts
(`types.DefaultConnReadTimeout`), EOF, errors, in any order — over the regenerated `doRead` / `onRead` decisions and
the regenerated re-allocations of the timeout branch (`Params.actual`), handing the read buffer to the consumer `c`
(the read filters; `dispatchConsumer d` = `streamConn.Dispatch` = `Framing.feed d`). -/

/-- the timeout branch of the current `startReadLoop` frees / re-allocates the read buffer only when it holds nothing,
for every default read buffer size -/
theorem timeout_branch_frees_only_empty (dflt : Int) : SafeShrinks (Params.actual dflt) := by
  intro sh hsh alloc len cap h
  simp only [Params.actual, MosnVerif.Gen.ReadLoopConn.timeoutShrinks, List.mem_cons, List.not_mem_nil, or_false] at hsh
  subst hsh
  simp only [MosnVerif.Gen.ReadLoopConn.timeoutShrinkCond0, Bool.and_eq_true, decide_eq_true_eq] at h
  omega

/-- **readloop_preserves_stream**: for every consumer that only drains from the front, every default buffer size and
every sequence of `ReadOnce` results (chunks of any sizes with read timeouts, EOF and errors anywhere), the bytes the
consumer has drained, in order, followed by what the read buffer still holds are exactly the bytes `ReadOnce` put into
the buffer, in order: no byte lost, none duplicated — at every point of the run (the statement holds for every prefix
of `evs`), so every hand-off shows the consumer exactly the unconsumed rest of the stream. -/
theorem readloop_preserves_stream {κ : Type} (dflt : Int) (c : Consumer κ) (hd : c.Drains) (k : κ) (evs : List Ev) :
    (ReadLoop.run (Params.actual dflt) c k evs).consumed ++ (ReadLoop.run (Params.actual dflt) c k evs).buf =
      (appended evs).flatten := by
  have := ReadLoop.foldl_stream (Params.actual dflt) (timeout_branch_frees_only_empty dflt) c hd evs (ReadLoop.St.init k)
  simpa [ReadLoop.run, ReadLoop.St.init, ReadLoop.appendedFrom] using this

/-- … in particular for every chunk list (chunks of at least one byte) with read timeouts inserted anywhere: the stream is
the concatenation of the chunks. -/
theorem readloop_preserves_stream_timeouts {κ : Type} (dflt : Int) (c : Consumer κ) (hd : c.Drains) (k : κ)
    (evs : List Ev) (hp : ∀ e ∈ evs, e.plain = true) :
    (ReadLoop.run (Params.actual dflt) c k evs).consumed ++ (ReadLoop.run (Params.actual dflt) c k evs).buf =
      (readsOf evs).flatten := by
  rw [readloop_preserves_stream dflt c hd k evs, ReadLoop.appended_plain evs hp]

/-- **readloop_refines_dispatch**: with the stream connection behind the filter manager, the read loop is the generic
dispatch model: frames handed on, residue and failed flag are those of `Framing.run` on the chunks read. -/
theorem readloop_refines_dispatch {F : Type} (dflt : Int) (d : Bytes → Step F) (hs : Stable d) (evs : List Ev) :
    toConn (ReadLoop.run (Params.actual dflt) (dispatchConsumer d) ([], false) evs) = run d (appended evs) := by
  have := ReadLoop.foldl_feed_loop (Params.actual dflt) (timeout_branch_frees_only_empty dflt) d hs evs
    (ReadLoop.St.init ([], false)) rfl (feed_init_nil d)
  have h0 : toConn (ReadLoop.St.init (([], false) : List F × Bool)) = (Conn.init : Conn F) := rfl
  rw [h0] at this
  simpa [ReadLoop.run, run] using this

/-- **readloop_segmentation_independent**: hence, by `segmentation_independent`, for every chunk list with read
timeouts inserted anywhere the frames (and residue, failed flag) are those of the concatenation arriving in one read. -/
theorem readloop_segmentation_independent {F : Type} (dflt : Int) (d : Bytes → Step F) (hs : Stable d) (evs : List Ev)
    (hp : ∀ e ∈ evs, e.plain = true) :
    toConn (ReadLoop.run (Params.actual dflt) (dispatchConsumer d) ([], false) evs) = run d [(readsOf evs).flatten] := by
  rw [readloop_refines_dispatch dflt d hs evs, segmentation_independent d hs, ReadLoop.appended_plain evs hp]

/-- a stream of valid frames followed by an incomplete one, read in any chunks with any stalls: exactly those frames,
in order, once; exactly the incomplete frame stays buffered -/
theorem readloop_valid_stream_delivered (dflt : Int) (d : Bytes → Step Bytes) (hs : Stable d) (fs : List Bytes) (t : Bytes)
    (hv : ∀ f ∈ fs, d f = .frame f f.length) (ht : TailOk d t) (evs : List Ev) (hp : ∀ e ∈ evs, e.plain = true)
    (hc : (readsOf evs).flatten = fs.flatten ++ t) :
    toConn (ReadLoop.run (Params.actual dflt) (dispatchConsumer d) ([], false) evs) = { buf := t, out := fs, failed := false } := by
  rw [readloop_segmentation_independent dflt d hs evs hp]
  exact valid_stream_delivered d hs fs t hv ht _ (by simpa using hc)

/-- outside the re-allocations covered above, `startReadLoop` / `doRead` / `onRead` change `c.readBuffer` only by the
first allocation and by `ReadOnce` (regenerated list of uses) -/
theorem read_path_vocabulary :
    ReadLoop.mutatingUses MosnVerif.Gen.ReadLoopConn.readBufferUses = ReadLoop.expectedMutatingUses := by decide +kernel

/-- the two further copies of the statement in netpoll mode (read-timeout timer callback, event-loop `onRead`) also fire
only on an empty buffer, for every network and default size; and nothing else in pkg/network discards or consumes a
connection's read buffer (regenerated list of such calls is empty).  Proof over the regenerated conditions only: the
netpoll event loop is not driven by the harness. -/
theorem netpoll_shrinks_free_only_empty (net : String) (dflt : Int) :
    SafeShrinks { network := net, dflt := dflt, shrinks := MosnVerif.Gen.ReadLoopConn.netpollShrinks } := by
  intro sh hsh alloc len cap h
  simp only [MosnVerif.Gen.ReadLoopConn.netpollShrinks, List.mem_cons, List.not_mem_nil, or_false] at hsh
  rcases hsh with rfl | rfl <;>
    (simp only [MosnVerif.Gen.ReadLoopConn.netpollShrinkCond0, MosnVerif.Gen.ReadLoopConn.netpollShrinkCond1,
      Bool.and_eq_true, decide_eq_true_eq] at h; omega)

theorem no_stray_buffer_discard : MosnVerif.Gen.ReadLoopConn.strayBufferCalls = [] := by decide +kernel

/-- the executable predicate `specReadLoop` (evaluated by the driver on the implementation's output of every `rl`
case) holds of the model: a stream of valid frames plus an incomplete tail, read in any chunks with any stalls -/
theorem spec_readloop_holds_on_model (dflt : Int) (d : Bytes → Step Bytes) (hs : Stable d) (fs : List Bytes) (t : Bytes)
    (hv : ∀ f ∈ fs, d f = .frame f f.length) (ht : TailOk d t) (evs : List Ev) (hp : ∀ e ∈ evs, e.plain = true)
    (hc : (readsOf evs).flatten = fs.flatten ++ t) :
    let c := toConn (ReadLoop.run (Params.actual dflt) (dispatchConsumer d) ([], false) evs)
    ReadLoopSpec.specReadLoop (fs.flatten ++ t) (fs.map List.length) ((readsOf evs).map List.length) c.out c.buf c.failed
      = true := by
  intro c
  have hcv : c = { buf := t, out := fs, failed := false } := readloop_valid_stream_delivered dflt d hs fs t hv ht evs hp hc
  have hsum : ((readsOf evs).map List.length).sum = (fs.flatten ++ t).length := by
    rw [← hc, List.length_flatten]
  simp [ReadLoopSpec.specReadLoop, hcv, hsum, specSeg, splitBy_flatten]

-- non-vacuity and the negation witness.  `holdSmall`: a consumer that takes everything once 128 bytes are buffered and
-- otherwise waits (a frame that is not complete yet).
def holdSmall : Consumer Unit := ⟨fun k b => (k, if b.length ≥ 128 then [] else b)⟩
def bigRead : Bytes := List.replicate 128 7
def stalled : List Ev := [.read bigRead, .read [1, 2, 3], .timeout, .timeout, .read [4]]
example : ∀ e ∈ stalled, e.plain = true := by decide +kernel
-- the current loop: the 128-byte read grew the buffer (128 -> 1024), the stall changes nothing
example : (ReadLoop.run (Params.actual 128) holdSmall () stalled).buf = [1, 2, 3, 4] ∧
    (ReadLoop.run (Params.actual 128) holdSmall () stalled).cap = 1024 := by decide +kernel
example : (ReadLoop.run (Params.actual 128) holdSmall () [.read bigRead, .timeout]).cap = 128 := by decide +kernel
/-- "free when small": re-allocate whenever the buffer holds at most the default size and has grown -/
def freeWhenSmall : MosnVerif.Gen.ReadLoopConn.Shrink :=
  ⟨fun net alloc len cap dflt => decide (net = "tcp") && alloc && decide (len ≤ dflt) && decide (cap > dflt), fun d => d⟩
def mutant (dflt : Int) : Params := { network := "tcp", dflt := dflt, shrinks := [freeWhenSmall] }
example : ¬ SafeShrinks (mutant 128) := by
  intro h
  have := h freeWhenSmall (by simp [mutant]) true 3 1024 (by decide)
  omega
-- the buffered head [1,2,3] of the waiting frame is discarded by the first timeout: bytes lost
example : (ReadLoop.run (mutant 128) holdSmall () stalled).consumed ++ (ReadLoop.run (mutant 128) holdSmall () stalled).buf
    = bigRead ++ [4] := by decide +kernel
example : (ReadLoop.run (mutant 128) holdSmall () stalled).consumed ++ (ReadLoop.run (mutant 128) holdSmall () stalled).buf
    ≠ (readsOf stalled).flatten := by decide +kernel
-- ... and it needs the earlier growth: without the large read the capacity is still the default and nothing is lost
example : (ReadLoop.run (mutant 128) holdSmall () [.read [1, 2, 3], .timeout, .read [4]]).buf = [1, 2, 3, 4] := by decide +kernel
-- with frames: bolt request cut after 20 bytes behind a first read that filled the buffer
example : (toConn (ReadLoop.run (Params.actual 64) (dispatchConsumer frameStep_bolt) ([], false)
    [.read (boltReq ++ boltReq.take 29), .read (boltReq.drop 29 ++ boltReq.take 20), .timeout, .read (boltReq.drop 20)])).out
    = [boltReq, boltReq, boltReq] := by decide +kernel
example : (toConn (ReadLoop.run (mutant 64) (dispatchConsumer frameStep_bolt) ([], false)
    [.read (boltReq ++ boltReq.take 29), .read (boltReq.drop 29 ++ boltReq.take 20), .timeout, .read (boltReq.drop 20)])).out
    = [boltReq, boltReq] := by decide +kernel

/-! ## nothing is attributed to a neighbouring frame: the context of a frame (`streamConn.Dispatch`, Model/DispatchCtx.lean)

Above, a frame is its bytes.  A delivered request is more: the receiver keeps the decoded frame, the server stream and
the stream-level context and reads them after `Dispatch` has gone on to the next frame of the same read.  A chunking is
here the list of `Dispatch` calls with the frames each read completes; `genShape` is the call structure of the loop
regenerated from conn.go on this run. -/
section DispatchContext
open MosnVerif.Model.DispatchCtx

theorem dispatch_one_context_per_frame : DispatchCtx.genShape.perFrame := by decide +kernel

/-- **each frame exactly once** (whatever the loop does with contexts): the receivers are created for exactly the
request / one-way frames, the acknowledgements written for exactly the heartbeats, each once, in stream order. -/
theorem frames_handled_exactly_once (sh : Shape) (pf : Bool) (calls : List (List Frame)) :
    (DispatchCtx.run sh pf calls).delivered.map (·.frame) = calls.flatten.filter (·.kind.delivers) ∧
    (DispatchCtx.run sh pf calls).acks = (calls.flatten.filter (·.kind = .heartbeat)).map (·.id) :=
  run_delivered sh pf calls

/-- **delivered_chunking_independent**: what the receivers find in the frames, streams and contexts they kept does not
depend on how the frames were spread over reads (one frame per read, all in one read, anything between) — it is the
list of their own frames; nothing of a neighbouring frame. -/
theorem delivered_chunking_independent (pf : Bool) (c1 c2 : List (List Frame)) (h : c1.flatten = c2.flatten) :
    views DispatchCtx.genShape pf (DispatchCtx.run DispatchCtx.genShape pf c1) =
      views DispatchCtx.genShape pf (DispatchCtx.run DispatchCtx.genShape pf c2) ∧
    views DispatchCtx.genShape pf (DispatchCtx.run DispatchCtx.genShape pf c1) = (c1.flatten.filter (·.kind.delivers)).map own := by
  rw [views_eq dispatch_one_context_per_frame pf c1, views_eq dispatch_one_context_per_frame pf c2, h]
  exact ⟨rfl, rfl⟩

/-- one context per decoded frame, none held by two receivers -/
theorem context_per_frame (pf : Bool) (calls : List (List Frame)) :
    Isolated DispatchCtx.genShape pf (DispatchCtx.run DispatchCtx.genShape pf calls) :=
  isolated_of_inv (inv_run dispatch_one_context_per_frame pf calls)

/-- the executable predicate of the `ctx` cases holds of the model's output -/
theorem spec_ctx_holds_on_model (pf : Bool) (calls : List (List Frame)) :
    specCtx calls.flatten (runA DispatchCtx.genShape pf DispatchCtx.init [] calls).2
      (views DispatchCtx.genShape pf (runA DispatchCtx.genShape pf DispatchCtx.init [] calls).1)
      (deliveredClasses (runA DispatchCtx.genShape pf DispatchCtx.init [] calls).1)
      (runA DispatchCtx.genShape pf DispatchCtx.init [] calls).1.acks = true :=
  specCtx_on_model dispatch_one_context_per_frame pf calls

/-! ### non-vacuity; the hoisted `Get` depends on the chunking -/
def cq1 : Frame := ⟨.request, 1, 101, 201⟩
def cq2 : Frame := ⟨.request, 2, 102, 202⟩
def cq3 : Frame := ⟨.request, 3, 103, 203⟩
example : views DispatchCtx.genShape true (DispatchCtx.run DispatchCtx.genShape true [[cq1, cq2, cq3]]) = [own cq1, own cq2, own cq3] := by decide +kernel
example : views hoistedShape true (DispatchCtx.run hoistedShape true [[cq1], [cq2], [cq3]]) = [own cq1, own cq2, own cq3] := by decide +kernel
example : views hoistedShape true (DispatchCtx.run hoistedShape true [[cq1, cq2], [cq3]]) = [own cq2, own cq2, own cq3] := by decide +kernel
example : views hoistedShape true (DispatchCtx.run hoistedShape true [[cq1, cq2, cq3]]) = [own cq3, own cq3, own cq3] := by decide +kernel

end DispatchContext

/-! ## Content locality and ownership (Model/FrameOwn): the CONTENTS of message `i` do not depend on the chunking -/
section ContentOwnership
open MosnVerif.Model.FrameOwn
open MosnVerif.Gen.FrameOwn

/-- **parsers_read_frame_only**: in the current decoders (regenerated lists of every use of the read buffer in
decodeRequest / decodeResponse / decodeFrame of bolt, boltv2, dubbo, dubbothrift, tars and of the slice each TarsGo
reader is constructed on) no field parser is handed an open slice of the read buffer or the buffer itself: every
payload parser is constructed on the private copy of exactly the drained frame, every direct read is a closed slice
inside the frame. -/
theorem parsers_read_frame_only :
    viewOf "bolt" = .frameCopy ∧ viewOf "boltv2" = .frameCopy ∧ viewOf "dubbo" = .frameCopy ∧
    viewOf "thrift" = .frameCopy ∧ viewOf "tars" = .frameCopy := by decide +kernel

theorem hdrOf_stable (proto : String) (h : Bytes → Hdr) (hp : hdrOf proto = some h) : HdrStable h := by
  unfold hdrOf at hp
  split at hp <;> simp at hp <;> subst hp
  · exact boltHdr_stable false
  · exact boltHdr_stable true
  · exact dubboHdr_stable
  · exact thriftHdr_stable
  · exact tarsHdr_stable

theorem viewOf_frameCopy (proto : String) (h : Bytes → Hdr) (hp : hdrOf proto = some h) : viewOf proto = .frameCopy := by
  unfold hdrOf at hp
  split at hp <;> simp at hp
  · exact parsers_read_frame_only.1
  · exact parsers_read_frame_only.2.1
  · exact parsers_read_frame_only.2.2.1
  · exact parsers_read_frame_only.2.2.2.1
  · exact parsers_read_frame_only.2.2.2.2

/-- the content decoder of every xprotocol is prefix-stable, for every payload parser: all of
`segmentation_independent` applies to (frame bytes, decoded content) pairs -/
theorem stable_content {C : Type} (proto : String) (parse : Bytes → Option C) (d : Bytes → Step (Bytes × C))
    (hd : contentStep proto parse = some d) : Stable d := by
  unfold contentStep at hd
  cases hh : hdrOf proto with
  | none => simp [hh] at hd
  | some h =>
    simp only [hh, Option.map_some, Option.some.injEq] at hd
    subst hd
    rw [viewOf_frameCopy proto h hh]
    exact envelopeC_stable h (hdrOf_stable proto h hh) parse

/-- **content_local** (one Decode call, every buffer suffix): for every xprotocol, EVERY payload parser `parse`
(hessian2, thrift, TarsGo, KV block: any function of the bytes it is constructed on), every buffer `p` holding a
complete frame and EVERY suffix `e` buffered behind it — a complete neighbour, a neighbour cut inside a head, garbage —
Decode answers on `p ++ e` exactly what it answers on `p`: same verdict (a valid frame is never rejected because of what
follows it), same frame bytes, same decoded content. -/
theorem content_local {C : Type} (proto : String) (parse : Bytes → Option C) (d : Bytes → Step (Bytes × C))
    (hd : contentStep proto parse = some d) (p e : Bytes) (hp : d p ≠ .needMore) : d (p ++ e) = d p :=
  (stable_content proto parse d hd).final p e hp

/-- **content_local_stream**: a stream of frames `fs` (each complete by its own header: `h f = len |f|`, each parsed
alone to `val f`) followed by an incomplete tail, delivered in ANY chunking: the connection hands on, in order, each
once, the pairs (frame i, `val (frame i)`): the decoded content of frame `i` is a function of frame `i`'s bytes only —
nothing of a neighbour is attributed to it and no neighbour makes it fail. -/
theorem content_local_stream {C : Type} (proto : String) (parse : Bytes → Option C) (h : Bytes → Hdr)
    (d : Bytes → Step (Bytes × C)) (hh : hdrOf proto = some h) (hd : contentStep proto parse = some d)
    (val : Bytes → C) (fs : List Bytes) (t : Bytes)
    (hv : ∀ f ∈ fs, h f = .len f.length ∧ parse f = some (val f)) (ht : t = [] ∨ h t = .needMore)
    (chunks : List Bytes) (hc : chunks.flatten = fs.flatten ++ t) :
    run d chunks = { buf := t, out := fs.map (fun f => (f, val f)), failed := false } := by
  have hs := stable_content proto parse d hd
  have hst := hdrOf_stable proto h hh
  have hdv : d = envelopeC h .frameCopy parse := by
    unfold contentStep at hd
    simp only [hh, Option.map_some, Option.some.injEq] at hd
    rw [← hd, viewOf_frameCopy proto h hh]
  have key := run_frames d hs (fs.map fun f => (f, (f, val f))) t
    (fun g hg => by
      obtain ⟨f, hf, rfl⟩ := List.mem_map.mp hg
      simpa [hdv] using envelopeC_frame h hst parse f [] (val f) (hv f hf).1 (hv f hf).2)
    (ht.imp_right fun ht => by simp [hdv, envelopeC, ht]) chunks (by simpa [Function.comp_def] using hc)
  simpa [Function.comp_def] using key

/-- non-vacuity + **negation witness**: a parser that sees the SUFFIX (constructed on everything buffered, what
`codec.NewReader(data.Bytes()[4:])` does) makes the content of a frame depend on what follows it — here a two-frame tars
stream whose parser reports the last byte it can see: frame-local under `frameCopy`, the neighbour's byte under `buffered`;
and a parser that fails when it can see a truncated neighbour rejects the complete valid first frame. -/
def wf1 : Bytes := [0, 0, 0, 6, 0x10, 0x01]
def wf2 : Bytes := [0, 0, 0, 5, 0x77]
def lastByte (w : Bytes) : Option UInt8 := w.getLast?
def failsOnCutHead (w : Bytes) : Option Nat := if w.length == 6 then some 1 else none
example : envelopeC tarsHdr .frameCopy lastByte wf1 = .frame (wf1, 0x01) 6 := by decide +kernel
example : envelopeC tarsHdr .frameCopy lastByte (wf1 ++ wf2) = .frame (wf1, 0x01) 6 := by decide +kernel
example : envelopeC tarsHdr .buffered lastByte (wf1 ++ wf2) = .frame (wf1, 0x77) 6 := by decide +kernel
example : envelopeC tarsHdr .frameCopy failsOnCutHead (wf1 ++ wf2.take 2) = .frame (wf1, 1) 6 := by decide +kernel
example : envelopeC tarsHdr .buffered failsOnCutHead (wf1 ++ wf2.take 2) = .error := by decide +kernel
example : run (envelopeC tarsHdr .frameCopy lastByte) [wf1 ++ wf2] = run (envelopeC tarsHdr .frameCopy lastByte) [wf1, wf2] := by decide +kernel
example : (run (envelopeC tarsHdr .buffered lastByte) [wf1 ++ wf2]).out ≠ (run (envelopeC tarsHdr .buffered lastByte) [wf1, wf2]).out := by decide +kernel
example : contentStep "tars" lastByte = some (envelopeC tarsHdr .frameCopy lastByte) := by
  simp [contentStep, hdrOf, parsers_read_frame_only.2.2.2.2]

/-- the executable predicate of the `pkt` cases holds of the model's output -/
theorem spec_pkt_holds_on_model {C : Type} (proto : String) (parse : Bytes → Option C) (h : Bytes → Hdr)
    (d : Bytes → Step (Bytes × C)) (hh : hdrOf proto = some h) (hd : contentStep proto parse = some d)
    (val : Bytes → C) (show_ : C → String) (fs : List Bytes) (t : Bytes)
    (hv : ∀ f ∈ fs, h f = .len f.length ∧ parse f = some (val f)) (ht : t = [] ∨ h t = .needMore)
    (chunks : List Bytes) (hc : chunks.flatten = fs.flatten ++ t) :
    specPkt (fs.flatten ++ t).length (fs.map (fun f => (f.length, show_ (val f))))
      ((run d chunks).out.map (fun x => show_ x.2)) (run d chunks).buf.length (run d chunks).failed = true := by
  rw [content_local_stream proto parse h d hh hd val fs t hv ht chunks hc]
  have he : (fun x : Bytes => x.length) = List.length := rfl
  simp [specPkt, List.map_map, Function.comp_def, List.length_flatten, he, Nat.add_comm]

/-! ### ownership of delivered HTTP/2 bodies -/

/-- **h2_payload_copied**: in the current serverStreamConnection.handleFrame and clientStreamConnection.handleFrame
(regenerated: every use of the DATA payload variable, every right-hand side assigned to stream.recData, the body
argument of every OnReceive call) the payload — a window of the connection read buffer — is only measured, tested
against nil and WRITTEN INTO a freshly allocated buffer; what is handed to the receiver is that buffer. -/
theorem h2_payload_copied : passServer = .copy ∧ passClient = .copy := by decide +kernel

/-- **delivered_stable**: under the copy discipline, for EVERY initial memory, every sequence of DATA frames (windows
anywhere in the read buffer, single-frame and multi-frame bodies) interleaved with reads that rewrite the buffer, and
EVERY list of later reads: what the receiver finds in the body object it was handed is the same whatever the read
buffer holds by then. -/
theorem delivered_stable (m0 : Mem) (evs : List FrameOwn.Ev) (later : List Mem) (m1 m2 : Mem) :
    let s := later.foldl (fun s m => step .copy s (.refill m)) (run .copy m0 evs)
    s.delivered.map (Body.read m1) = (run .copy m0 evs).delivered.map (Body.read m2) := by
  intro s
  have hk : s.delivered = (run .copy m0 evs).delivered := refills_keep .copy _ later
  rw [hk]
  rcases run_copy_owned m0 evs with h | ⟨b, h⟩ <;> simp [h, Body.read]

/-- for the discipline the real handleFrame follows (both directions) -/
theorem delivered_stable_http2 (m0 : Mem) (evs : List FrameOwn.Ev) (later : List Mem) (m1 m2 : Mem) :
    (∀ p ∈ [passServer, passClient],
      let s := later.foldl (fun s m => step p s (.refill m)) (run p m0 evs)
      s.delivered.map (Body.read m1) = (run p m0 evs).delivered.map (Body.read m2)) := by
  intro p hp
  have : p = .copy := by
    rcases List.mem_cons.1 hp with h | h
    · rw [h]; exact h2_payload_copied.1
    · rw [List.mem_singleton.1 h]; exact h2_payload_copied.2
  subst this
  exact delivered_stable m0 evs later m1 m2

/-- non-vacuity + **negation witness for aliasing**: a single DATA frame with END_STREAM handed on as
`NewIoBufferBytes(data)`: the receiver first reads the body, after the next read it reads bytes of later frames. -/
def mem0 : Mem := [9, 9, 9, 1, 2, 3, 9]
def mem1 : Mem := [7, 7, 7, 7, 7, 7, 7]
example : (run .copy mem0 [.data 3 3 true]).delivered.map (Body.read mem0) = some [1, 2, 3] := by decide +kernel
example : (run .copy mem0 [.data 3 3 true, .refill mem1]).delivered.map (Body.read mem1) = some [1, 2, 3] := by decide +kernel
example : (run .alias mem0 [.data 3 3 true]).delivered.map (Body.read mem0) = some [1, 2, 3] := by decide +kernel
example : (run .alias mem0 [.data 3 3 true, .refill mem1]).delivered.map (Body.read mem1) = some [7, 7, 7] := by decide +kernel
example : (run .copy mem0 [.data 3 2 false, .refill mem1, .data 0 1 true]).delivered.map (Body.read mem1) = some [1, 2, 7] := by decide +kernel

end ContentOwnership

/-! ### HTTP/1: the connection reader as a byte queue (kind `h1seg`; Model/H1Seg over Gen/H1SegOps) -/
section Http1Queue
open MosnVerif.Model.H1Seg MosnVerif.Lemmas.H1Seg MosnVerif.Lemmas.H1SegStable

/-- regenerated from pkg/stream/http/stream.go: inside the loops of both `serve()` functions the connection's reader is
only handed to the fasthttp parser (no Reset / Discard / re-creation when the loop comes round), `.br` is assigned in
the two constructors only and used nowhere else, and the producer hands over every byte (`Read` drains what it copied,
`Dispatch` repeats until its buffer is empty, they are the only users of the hand-over channel). -/
theorem http1_queue_only_parsed :
    rstOf serverUses = false ∧ rstOf clientUses = false ∧ producerAppendsAll = true := by decide +kernel

/-- with the regenerated loop operations the serve loop over the queue IS the generic buffered dispatch loop -/
theorem http1_serve_refines_dispatch {F : Type} (resp : Bool) (d : Bytes → Step F) (chunks : List Bytes) :
    runQ (rstOf (if resp then clientUses else serverUses)) d chunks = run d chunks := by
  have h := http1_queue_only_parsed
  cases resp <;> simp [h.1, h.2.1, runQ_false]

/-- **http1_segmentation_independent**: for EVERY parser oracle that is prefix-stable (given the queue prefix it answers
need-more / a message consuming `n > 0` bytes / error, and a message or error is final on every extension), every byte
stream and EVERY chunking of it — requests on the server stream connection (`resp = false`) and responses on the client
stream connection — the serve loop ends with the same messages (count, boundaries, contents), the same unparsed rest
and the same failed flag as when the whole stream arrives in one read. -/
theorem http1_segmentation_independent {F : Type} (resp : Bool) (d : Bytes → Step F) (hs : Stable d) (chunks : List Bytes) :
    runQ (rstOf (if resp then clientUses else serverUses)) d chunks
      = runQ (rstOf (if resp then clientUses else serverUses)) d [chunks.flatten] := by
  rw [http1_serve_refines_dispatch, http1_serve_refines_dispatch]; exact segmentation_independent d hs chunks

/-- the reference framer of the generated message shapes (head up to CRLFCRLF, Content-Length, chunked) is such an oracle -/
theorem http1_reference_parser_stable (resp : Bool) : Stable (h1Step resp) := h1Step_stable resp

theorem http1_segmentation_independent_reference (resp : Bool) (c1 c2 : List Bytes) (h : c1.flatten = c2.flatten) :
    runQ (rstOf (if resp then clientUses else serverUses)) (h1Step resp) c1
      = runQ (rstOf (if resp then clientUses else serverUses)) (h1Step resp) c2 := by
  rw [http1_serve_refines_dispatch, http1_serve_refines_dispatch]
  exact segmentation_irrelevant _ (h1Step_stable resp) c1 c2 h

/-- a concatenation of complete messages plus an incomplete tail, in every chunking: exactly the messages, in order,
each once; the tail stays in the queue -/
theorem http1_valid_stream_delivered (resp : Bool) (d : Bytes → Step Bytes) (hs : Stable d) (fs : List Bytes) (t : Bytes)
    (hv : ∀ f ∈ fs, d f = .frame f f.length) (ht : TailOk d t)
    (chunks : List Bytes) (hc : chunks.flatten = fs.flatten ++ t) :
    runQ (rstOf (if resp then clientUses else serverUses)) d chunks = { buf := t, out := fs, failed := false } := by
  rw [http1_serve_refines_dispatch]; exact valid_stream_delivered d hs fs t hv ht chunks hc

/-- the executable predicate `specH1` holds of the model: in every chunking the model hands on what it hands on for the
whole stream, which is what the reference framer finds in the stream -/
theorem spec_h1seg_holds_on_model (resp : Bool) (chunks : List Bytes) (full : Bytes → String) :
    let rst := rstOf (if resp then clientUses else serverUses)
    let m := runQ rst (h1Step resp) chunks
    let w := runQ rst (h1Step resp) [chunks.flatten]
    specH1 resp chunks.flatten (w.out.map full) (m.out.map full) (m.out.map (descr resp))
      (if w.failed then "err" else "ok") (if m.failed then "err" else "ok") = true := by
  intro rst m w
  have hm : m = w := http1_segmentation_independent resp (h1Step resp) (h1Step_stable resp) chunks
  have hw : w = run (h1Step resp) [chunks.flatten] := http1_serve_refines_dispatch resp (h1Step resp) [chunks.flatten]
  simp [specH1, hm, hw]

-- non-vacuity and the negation witness: two pipelined requests `GET /a` `GET /b`
def h1A : Bytes := [71,69,84,32,47,97,32,72,84,84,80,47,49,46,49,13,10,13,10]
def h1B : Bytes := [71,69,84,32,47,98,32,72,84,84,80,47,49,46,49,13,10,13,10]
example : h1Step false h1A = .frame h1A h1A.length := by decide +kernel
example : h1Step false (h1A.take 17) = .needMore := by decide +kernel
example : (runQ false (h1Step false) [h1A ++ h1B.take 5, h1B.drop 5]).out = [h1A, h1B] := by decide +kernel
/-- reset-per-iteration (`conn.br.Reset(conn)` at the top of the loop) is NOT segmentation independent: when one read
carries request 1 and request 2, request 2 is destroyed with the queue; when it carries request 1 and the first 5 bytes
of request 2, parsing resumes in the middle of the request line (mis-framed: the second message is `b HTTP/1.1`). -/
example : (runQ true (h1Step false) [h1A ++ h1B]).out = [h1A] ∧ (runQ true (h1Step false) [h1A, h1B]).out = [h1A, h1B] := by
  decide +kernel
example : (runQ true (h1Step false) [h1A ++ h1B.take 5, h1B.drop 5]).out = [h1A, h1B.drop 5] := by decide +kernel
example : rstOf ["call:Reset", "arg:ReadLimitBody", "arg:ContinueReadBody"] = true ∧ rstOf ["assign", "arg:Read"] = true := by decide +kernel
-- a POST with Content-Length 3 and a chunked PUT (chunks `2`, `0`) are framed by the reference parser
def h1Post : Bytes := [80,79,83,84,32,47,120,32,72,84,84,80,47,49,46,49,13,10,67,111,110,116,101,110,116,45,76,101,110,103,116,104,58,32,51,13,10,13,10,97,98,99,71,69,84]
example : h1Hdr false h1Post = .len 42 := by decide +kernel
def h1Put : Bytes := [80,85,84,32,47,120,32,72,84,84,80,47,49,46,49,13,10,84,114,97,110,115,102,101,114,45,69,110,99,111,100,105,110,103,58,32,99,104,117,110,107,101,100,13,10,13,10,50,13,10,97,98,13,10,48,13,10,13,10,71,69]
example : h1Hdr false h1Put = .len 59 := by decide +kernel

end Http1Queue

/-! ### HTTP/1 `Expect: 100-continue`: the two-phase read of the server serve loop (kind `h1seg`, side `exp`;
Model/H1Continue over Gen/H1Continue) -/
section Http1Continue
open MosnVerif.Model.H1Seg MosnVerif.Model.H1Continue MosnVerif.Lemmas.H1Continue

/-- regenerated from `serverStreamConnection.serve`: the continue branch is conditional on `err == nil` and
`request.MayContinue()` ALONE (no other conjunct, no look at the reader such as `Buffered()`), nothing between
`ReadLimitBody` and `ContinueReadBody` destroys or replaces the connection's reader, `ContinueReadBody` is called once,
on `conn.br` — the reader `ReadLimitBody` was given — and its error reaches the `if err != nil { …; return }` that follows
the branch. -/
theorem http1_continue_two_phase_regenerated :
    contPlan.guarded = false ∧ contPlan.resetBetween = false ∧ contErrHandled = true := by decide +kernel

theorem http1_continue_plan_faithful : Faithful contPlan :=
  ⟨http1_continue_two_phase_regenerated.1, http1_continue_two_phase_regenerated.2.1⟩

/-- with the regenerated continue branch the two-phase loop over the reader queue (phase 1 may return behind the head,
phase 2 may find the body buffered, partly buffered or not yet there; serve() may be blocked inside `ContinueReadBody`
across reads) IS the generic dispatch loop of the composed parser, seen through `view` -/
theorem http1_continue_refines_dispatch {H B : Type} (p : Parser H B) (hp : PStable p) (chunks : List Bytes) :
    runC contPlan p chunks = view p (run (compose contPlan p) chunks) :=
  runC_view contPlan http1_continue_plan_faithful p hp chunks

/-- **http1_continue_segmentation_independent**: for EVERY pair of fasthttp oracles (`ReadLimitBody`: need more / error /
whole request / head only = `MayContinue`; `ContinueReadBody`: need more / error / body of `m ≥ 0` bytes) that is
prefix-stable, every byte stream of pipelined requests — any of them with `Expect: 100-continue` — and EVERY chunking of
it, the serve loop hands on the same requests (heads, bodies, which of them were continued, interim responses and
`Expect` deletions per request), ends with the same bytes in the reader, the same pending head (serve() inside
`ContinueReadBody`) and the same failed flag as when the whole stream arrives in one read.
Outside the contract (KNOWN_FINDINGS): the multiplicity of TRAILER header entries (fasthttp `ReadTrailer`), see
`trailer_multiplicity_depends_on_reads`. -/
theorem http1_continue_segmentation_independent {H B : Type} (p : Parser H B) (hp : PStable p) (chunks : List Bytes) :
    runC contPlan p chunks = runC contPlan p [chunks.flatten] := by
  rw [http1_continue_refines_dispatch p hp, http1_continue_refines_dispatch p hp,
    segmentation_independent _ (compose_stable contPlan p hp) chunks]

theorem http1_continue_segmentation_irrelevant {H B : Type} (p : Parser H B) (hp : PStable p) (c1 c2 : List Bytes)
    (h : c1.flatten = c2.flatten) : runC contPlan p c1 = runC contPlan p c2 := by
  rw [http1_continue_segmentation_independent p hp c1, http1_continue_segmentation_independent p hp c2, h]

/-- an Expect request whose head `hb` phase 1 accepts and whose body bytes `bb` phase 2 accepts is accepted as ONE message
consuming exactly `hb ++ bb`, whatever follows -/
theorem expect_request_accepted {H B : Type} (pl : Plan) (p : Parser H B) (hp : PStable p) (hb bb : Bytes) (h : H) (b : B)
    (h1 : p.rl hb = .head h hb.length) (h2 : p.cb h bb = .frame b bb.length) :
    compose pl p (hb ++ bb) = .frame (Msg.cont pl h b) (hb ++ bb).length := by
  unfold compose
  rw [hp.headExt hb h hb.length bb h1]
  simp [h2]

/-- **continue_body_attributed_to_its_request**: a stream made of requests each of which is accepted in isolation
consuming exactly its own bytes (an Expect request: head by phase 1 + body by phase 2, `expect_request_accepted`),
followed by an incomplete tail, delivered in ANY chunking — body in the read that carried the end of the head,
straddling reads, or later — yields exactly those requests with exactly their bodies, in order, each once: no body byte
is lost, handed on twice, or parsed as (part of) the next request's head; the loop ends standing on the tail (inside
`ContinueReadBody` when the tail is a complete Expect head). -/
theorem continue_body_attributed_to_its_request {H B : Type} (p : Parser H B) (hp : PStable p)
    (fs : List (Bytes × Msg H B)) (t : Bytes)
    (hv : ∀ f ∈ fs, compose contPlan p f.1 = .frame f.2 f.1.length)
    (ht : t = [] ∨ compose contPlan p t = .needMore)
    (chunks : List Bytes) (hc : chunks.flatten = (fs.map (·.1)).flatten ++ t) :
    runC contPlan p chunks =
      { buf := (split p t).2, pend := (split p t).1, out := fs.map (·.2), failed := false } := by
  have hs := compose_stable contPlan p hp
  rw [http1_continue_refines_dispatch p hp, run_frames _ hs fs t hv ht chunks hc]
  simp [view]

/-- **expect_removed_once**: for EVERY continue branch (plan), every oracle pair, every stream and chunking: a request
that is handed on had its `Expect` header deleted and an interim response written exactly when its continue phase ran —
once each when the branch contains the statement, never otherwise; a request read in one phase is untouched. -/
theorem expect_removed_once {H B : Type} (pl : Plan) (p : Parser H B) (chunks : List Bytes) :
    ∀ m ∈ (runC pl p chunks).out,
      (m.continued = false ∧ m.interims = 0 ∧ m.dels = 0) ∨
      (m.continued = true ∧ m.interims = (if pl.writes then 1 else 0) ∧ m.dels = (if pl.dels then 1 else 0)) :=
  runC_msgOk pl p chunks

/-- the reference parser of the generated shapes (head up to CRLFCRLF; `Expect` with the exact value `100-continue`;
Content-Length, chunked with trailers, no body header) is such an oracle pair -/
theorem http1_continue_reference_stable : PStable refParser := refParser_stable

/-- the executable predicate `specH1X` holds of the model: in every chunking the model hands on what it hands on for the
whole stream, which is what the reference finds in the stream -/
theorem spec_h1cont_holds_on_model (chunks : List Bytes) (full : Msg Bytes Bytes → String) :
    let m := runC contPlan refParser chunks
    let w := runC contPlan refParser [chunks.flatten]
    specH1X chunks.flatten (w.out.map full) (m.out.map full) (m.out.map descr4)
      (if w.failed then "err" else "ok") (if m.failed then "err" else "ok")
      (toString (w.tailInterims contPlan)) (toString (m.tailInterims contPlan)) = true := by
  intro m w
  have hm : m = w := http1_continue_segmentation_independent refParser refParser_stable chunks
  have hw : w = view refParser (run (compose contPlan refParser) [chunks.flatten]) :=
    http1_continue_refines_dispatch refParser refParser_stable [chunks.flatten]
  have hsame : connMap core (run (compose contPlan refParser) [chunks.flatten]) =
      connMap core (run (compose goodPlan refParser) [chunks.flatten]) := by
    rw [← run_map, ← run_map, compose_core contPlan goodPlan refParser]
  have hd : w.out.map descr4 = (run (compose goodPlan refParser) [chunks.flatten]).out.map descr4 := by
    have : ∀ l : List (Msg Bytes Bytes), l.map descr4 = (l.map core).map (fun c => descr4 ⟨c.1, c.2.1, c.2.2, 0, 0⟩) := by
      intro l; simp [core, descr4]
    rw [hw, view_out, this, this]
    exact congrArg _ (congrArg Conn.out hsame)
  have hf : w.failed = (run (compose goodPlan refParser) [chunks.flatten]).failed := by
    rw [hw, view_failed]; exact (congrArg Conn.failed hsame :)
  simp [specH1X, hm, hd, hf]

-- non-vacuity and the negation witnesses.  `POST /a` with `Expect: 100-continue`, `Content-Length: 2`, body `hi`,
-- followed by the pipelined `GET /b`
def xHead : Bytes := [80,79,83,84,32,47,97,32,72,84,84,80,47,49,46,49,13,10,69,120,112,101,99,116,58,32,49,48,48,45,99,111,110,116,105,110,117,101,13,10,67,111,110,116,101,110,116,45,76,101,110,103,116,104,58,32,50,13,10,13,10]
def xBody : Bytes := [104, 105]
def xMsg (pl : Plan) : Msg Bytes Bytes := Msg.cont pl xHead xBody
example : refParser.rl xHead = .head xHead xHead.length ∧ refParser.cb xHead xBody = .frame xBody 2 := by decide +kernel
example : refParser.rl (xHead ++ xBody ++ h1B) = .head xHead xHead.length := by decide +kernel
example : Faithful goodPlan := ⟨rfl, rfl⟩
-- the regenerated loop: body in the read of the head, straddling, later, one byte per read — always the same two requests
example : (runC goodPlan refParser [xHead ++ xBody ++ h1B]).out = [xMsg goodPlan, Msg.plain h1B []] := by decide +kernel
example : (runC goodPlan refParser [xHead ++ [104], [105] ++ h1B]).out = [xMsg goodPlan, Msg.plain h1B []] := by decide +kernel
example : (runC goodPlan refParser [xHead, xBody, h1B]).out = [xMsg goodPlan, Msg.plain h1B []] := by decide +kernel
example : (runC goodPlan refParser [xHead]).pend = some xHead ∧ (runC goodPlan refParser [xHead]).buf = [] ∧
    (runC goodPlan refParser [xHead]).tailInterims goodPlan = 1 := by decide +kernel
/-- a continue branch guarded by `conn.br.Buffered() == 0` is NOT segmentation independent: when one read holds head and
body, the request is handed on WITHOUT its body and the body bytes are parsed as the head of the next request (`hiGET /b`);
when the body comes in a later read everything is right. -/
def guardedPlan : Plan := { goodPlan with guarded := true }
example : (runC guardedPlan refParser [xHead ++ xBody ++ h1B]).out = [Msg.plain xHead [], Msg.plain (xBody ++ h1B) []] ∧
    (runC guardedPlan refParser [xHead, xBody ++ h1B]).out = [xMsg guardedPlan, Msg.plain h1B []] := by decide +kernel
/-- `conn.br.Reset(conn)` between the phases: a body that came in the read of the head is destroyed — serve() waits inside
`ContinueReadBody` for bytes that were already delivered, and takes the next request for the body -/
def resetPlan : Plan := { goodPlan with resetBetween := true }
example : (runC resetPlan refParser [xHead ++ xBody]).out = [] ∧ (runC resetPlan refParser [xHead ++ xBody]).pend = some xHead ∧
    (runC resetPlan refParser [xHead, xBody]).out = [xMsg resetPlan] := by decide +kernel
-- the classification of the regenerated statements sees both
example : opOf "call:Buffered" = .look ∧ opOf "call:Reset" = .destroy := by decide +kernel
-- `Expect: 100-Continue` (value in mixed case) is not continued by fasthttp; `expect:` in lower case is
example : expects (xHead.set 26 67) = false ∧ hasExpect (xHead.set 26 67) = true ∧ expects (xHead.set 18 101) = true := by decide +kernel

/-- fasthttp v1.40.0 `ReadTrailer` (KNOWN_FINDINGS): the trailer section `X: 1 CRLF CRLF` adds ONE header entry when it
arrives in one read and TWO when a read ends behind the first line — the header handed on depends on the segmentation. -/
def trailerSec : Bytes := [88, 58, 32, 49, 13, 10, 13, 10]
theorem trailer_multiplicity_depends_on_reads :
    trailerAppends trailerSec (attemptsOf 0 8 [8]) = 1 ∧ trailerAppends trailerSec (attemptsOf 0 8 [6, 8]) = 2 ∧
    trailerAppends trailerSec (attemptsOf 0 8 [3, 6, 7, 8]) = 3 := by decide +kernel

end Http1Continue

/-! ### bolt v1 frames on a boltv2 connection: a complete frame is handed on no matter what follows (kinds `seg` / `cuts`,
harness/c07/boltmix.go) -/
section BoltHandover
open MosnVerif.Model.FrameBytes MosnVerif.Model.FrameSteps MosnVerif.Lemmas.BoltHandover

/-- **boltv2_decodes_v1_frames_like_bolt**: over the regenerated guard, first-byte test and minimum lengths of both
`Decode` functions: on a boltv2 connection a non-empty buffer whose first byte is the bolt v1 protocol code gets exactly
the answer of the v1 codec — with v1's own minimum length (20), NOT boltv2's (22) — whatever its length. -/
theorem boltv2_decodes_v1_frames_like_bolt (b : Bytes) (hb : 0 < b.length) (h1 : u8 b 0 = 1) :
    frameStep_boltv2 b = frameStep_bolt b := frameStep_sibling true b hb 1 h1 boltSel_v1_on_v2

theorem bolt_decodes_v2_frames_like_boltv2 (b : Bytes) (hb : 0 < b.length) (h2 : u8 b 0 = 2) :
    frameStep_bolt b = frameStep_boltv2 b := frameStep_sibling false b hb 2 h2 boltSel_v2_on_v1

/-- **complete_v1_frame_delivered_whatever_follows**: a frame the v1 codec accepts is handed on by boltv2's `Decode` as
soon as it is complete: with nothing behind it (last data of the connection, or the read ended right behind it) and with
anything behind it. -/
theorem complete_v1_frame_delivered_whatever_follows (f : Bytes) (h1 : u8 f 0 = 1)
    (hf : frameStep_bolt f = .frame f f.length) (e : Bytes) : frameStep_boltv2 (f ++ e) = .frame f f.length := by
  have hpos := (stable_bolt.pos f f f.length hf).1
  have : frameStep_boltv2 f = .frame f f.length := by rw [boltv2_decodes_v1_frames_like_bolt f hpos h1]; exact hf
  exact stable_boltv2.ext f f f.length e this

/-- **mixed_bolt_stream_delivered**: a stream on a boltv2 connection made of v2 frames boltv2 accepts and v1 frames the
v1 codec accepts (of ANY length from 20 bytes on), followed by an incomplete frame, in any segmentation: exactly those
frames, in order, each once; the tail stays in the buffer.  In particular a short v1 frame at the END of the stream is
delivered. -/
theorem mixed_bolt_stream_delivered (fs : List Bytes) (t : Bytes)
    (hv : ∀ f ∈ fs, (u8 f 0 = 1 ∧ frameStep_bolt f = .frame f f.length) ∨ frameStep_boltv2 f = .frame f f.length)
    (ht : TailOk frameStep_boltv2 t) (chunks : List Bytes) (hc : chunks.flatten = fs.flatten ++ t) :
    run frameStep_boltv2 chunks = { buf := t, out := fs, failed := false } := by
  refine valid_stream_delivered frameStep_boltv2 stable_boltv2 fs t (fun f hf => ?_) ht chunks hc
  rcases hv f hf with ⟨h1, h2⟩ | h
  · simpa using complete_v1_frame_delivered_whatever_follows f h1 h2 []
  · exact h

-- a bolt v1 heartbeat acknowledgement: response, no class, no header, no content = 20 bytes
def v1resp20 : Bytes := [1, 0, 0, 0, 1, 0, 0, 0, 7, 1, 0, 0, 0, 0, 0, 0, 0, 0, 0, 0]
-- a boltv2 heartbeat request: 24 bytes
def v2req24 : Bytes := [2, 1, 1, 0, 0, 1, 0, 0, 0, 9, 1, 0, 0, 0, 0, 0, 0, 0, 0, 0, 0, 0, 0, 0]
example : frameStep_bolt v1resp20 = .frame v1resp20 20 ∧ u8 v1resp20 0 = 1 := by decide +kernel
example : frameStep_boltv2 v1resp20 = .frame v1resp20 20 ∧ frameStep_boltv2 (v1resp20.take 19) = .needMore := by decide +kernel
example : (run frameStep_boltv2 [v2req24 ++ v1resp20]).out = [v2req24, v1resp20] ∧
    (run frameStep_boltv2 [v2req24 ++ v1resp20]).buf = [] := by decide +kernel
/-- a hand-over placed BEHIND boltv2's own minimum length (`if data.Len() >= LessLen { if code == bolt.ProtocolCode … }`)
is not prompt: the complete 20-byte v1 frame is answered with "need more data" until two bytes of a LATER frame are
buffered behind it, and is never handed on when it is the last data of the connection. -/
def lateHdr (b : Bytes) : Hdr := if !MosnVerif.Gen.FrameLen.boltv2_enough b.length then .needMore else boltHdr true b
example : envelope lateHdr (boltOk true) v1resp20 = .needMore ∧
    envelope lateHdr (boltOk true) (v1resp20 ++ [2, 1]) = .frame v1resp20 20 := by decide +kernel
example : (run (envelope lateHdr (boltOk true)) [v2req24 ++ v1resp20]).out = [v2req24] ∧
    (run (envelope lateHdr (boltOk true)) [v2req24 ++ v1resp20]).buf = v1resp20 := by decide +kernel

end BoltHandover

/-! ## the selection theorems over the REGENERATED matchers (Gen/C08Matchers: the Go matcher bodies translated
statement by statement; `Lemmas/CheckedMatchEq.genMatcherOf_eq`: they are the hand model's functions) -/
section regenerated
open MosnVerif.Lemmas.CheckedMatchEq

/-- **match_monotone_gen**: every REGENERATED protocol matcher is monotone: an answer `success` or `failed` on a prefix
is final on every extension -/
theorem match_monotone_gen (name : String) (m : Bytes → MR) (h : genMatcherOf name = some m) : Monotone m :=
  match_monotone name m (by rw [← genMatcherOf_eq]; exact h)

/-- **select_failed_is_final_gen**: over the REGENERATED matchers of any scope, a failed selection is final on every
extension, for every stream -/
theorem select_failed_is_final_gen (names : List String) (p e : Bytes) (h : select (genScopeOf names) p = .failed) :
    select (genScopeOf names) (p ++ e) = .failed := by
  rw [genScopeOf_eq] at h ⊢
  exact select_failed_is_final names p e h

/-- … and so is a selected protocol on streams on which at most one matcher of the scope can ever succeed -/
theorem select_deterministic_gen_partial (names : List String) (p e : Bytes) (hx : Exclusive (genScopeOf names) p)
    (n : String) (h : select (genScopeOf names) p = .proto n) : select (genScopeOf names) (p ++ e) = .proto n := by
  rw [genScopeOf_eq] at hx h ⊢
  exact select_deterministic_partial names p e hx n h

-- non-vacuity: the regenerated tars matcher waits on 5 bytes, accepts a complete 6-byte package, refuses version 2
example : (genMatcherOf "tars").map (fun m => (m [0, 0, 0, 6, 0x10], m [0, 0, 0, 6, 0x10, 1], m [0, 0, 0, 6, 0x10, 2])) =
    some (.again, .success, .failed) := by decide +kernel
end regenerated

end MosnVerif.Props.C07
