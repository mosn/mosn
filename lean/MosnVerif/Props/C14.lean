import MosnVerif.Lemmas.FilterComplete
import MosnVerif.Gen.ProxyTerminate
import MosnVerif.Lemmas.FilterInst
import MosnVerif.Lemmas.FilterRegs
import MosnVerif.Lemmas.FilterFinish
import MosnVerif.Lemmas.Downstream.Backoff9  -- (the shared downstream machine, end of the file)
import MosnVerif.Lemmas.Downstream.TermInSetup10
/-!
# C14 — stream filters run in order, and a denied request is never forwarded (property theorems only)

Objects: `Cfg` = receiver chain (any length, any phase assignment, any script per filter = any verdict vector, also for
re-invocations), sender chain, environment (every route-match / host-choice result by invocation number, pool refusal,
one-way, the upstream event: response / reset / asynchronous TerminateStream, and the route's retry policy: retry_on,
retriable status codes, num_retries, the proxy_disable_retry variable).  `run c n init` = the state of the
stream's worker after `n` iterations of the `receive` loop; all statements hold for every `n` (every point of the
run), in particular for the finished run `trace c`.
-/
namespace MosnVerif.Props.C14
open MosnVerif.Gen.FilterPhase MosnVerif.Model.FilterChain MosnVerif.Model.FilterMachine MosnVerif.Model.FilterSpec

/-- **order**: in every receiver pass (one `RunReceiverFilter` call, recorded with its start cursor) the invoked filters
have strictly increasing indices, none below the start cursor, and every one of them is a configured filter registered
for the phase of the pass. -/
theorem order (c : Cfg) (n : Nat) (p : RPhase) (st : Nat) (invs : List Inv)
    (h : Ev.rpass p st invs ∈ (run c n init).trace) :
    ascFrom st invs ∧ ∀ iv ∈ invs, ∃ f, c.recv[iv.1]? = some f ∧ f.phase = p :=
  (run_Pinv c n init (init_Pinv c)).passes p st invs h

/-- **once (receiver side)**: each receiver filter is invoked at most once per pass of its phase. -/
theorem once_receive (c : Cfg) (n : Nat) (p : RPhase) (st : Nat) (invs : List Inv)
    (h : Ev.rpass p st invs ∈ (run c n init).trace) (i : Nat) :
    (invs.filter (fun iv => iv.1 == i)).length ≤ 1 :=
  ascFrom_count_le_one (order c n p st invs h).1 i

/-- **resume**: a receiver pass of the same phase as the previous one starts exactly where that pass left the cursor —
at the filter that asked for re-match-route / re-choose-host if it ended with such a request, at 0 otherwise — and a
pass of another phase always starts at the first filter (after the second `fix:`); together with `order` (no index below
the start cursor) earlier filters are not re-run. -/
theorem resume (c : Cfg) (n : Nat) : resumeOK 0 .BeforeRoute (run c n init).trace :=
  (run_Pinv c n init (init_Pinv c)).resume

/-- **deny_not_forwarded**: if any receiver-filter invocation answered the request (hijack / direct response) or
terminated it (termination status or `TerminateStream`), then no `connPool.NewStream` — admitted or refused — occurs
anywhere in the trace, AND the request is never handed to the retry path (`retried`: `processError` returned the
phase Retry, whose `doRetry` is another `NewStream`) — whatever the other filters return (continue, re-match,
re-choose, …), whatever the route's retry policy (retry_on, any status-code list, any budget: a 5xx or listed status
written by the denying filter is NOT a retriable upstream response) and whatever the environment does.  The proof
rests on the regenerated `processError` dropping the retry state when it takes the local reply. -/
theorem deny_not_forwarded (c : Cfg) (n : Nat) (p : RPhase) (st : Nat) (invs : List Inv) (iv : Inv)
    (h : Ev.rpass p st invs ∈ (run c n init).trace) (hiv : iv ∈ invs) (hd : iv.2.isDeny = true) :
    (∀ e ∈ (run c n init).trace, ∀ r, e ≠ Ev.up r) ∧ (run c n init).retried = false := by
  have hno := deny_noUp_noRetry c n ⟨_, h, by simp only [denyEv, List.any_eq_true]; exact ⟨iv, hiv, hd⟩⟩
  refine ⟨?_, hno.2⟩
  intro e he r heq
  subst heq
  have := hno.1 _ he
  simp [isUp] at this

/-- **once (sender side)**: at every point of the run the response side of the trace (sender passes and downstream
sender calls) is empty, or starts with ONE sender pass — from cursor 0, making exactly the invocations `sendRun`: filters
0,1,2,… in order, each once, up to and including the first that does not continue — followed only by the downstream
sender calls of one response (headers, ≤ 1 data, ≤ 1 trailers; no further sender pass): the sender filters run at most
once per stream (= per response) and before anything is written downstream. -/
theorem once_send (c : Cfg) (n : Nat) :
    backPart (run c n init).trace = [] ∨
    ∃ rest, backPart (run c n init).trace = .spass 0 (sendRun c.send 0) :: rest ∧ replyShape rest = true :=
  Ginv_SpOK c _ (run_Ginv c n init (init_Ginv c))

/-- … and `sendRun` invokes every sender filter exactly once, in configuration order, when they all continue -/
theorem sendRun_all (fs : List SFilter) (i : Nat) (h : ∀ f ∈ fs, continues (f.statusAt 0) = true) :
    (sendRun fs i).map (·.1) = List.range' i fs.length := by
  induction fs generalizing i with
  | nil => rfl
  | cons f r ih =>
    simp only [sendRun, h f (by simp), if_true, List.map_cons, List.length_cons, List.range'_succ]
    rw [ih (i + 1) (fun g hg => h g (by simp [hg]))]

/-- **the worker always returns**: the model run is finished after `fuel` iterations (the task of `OnReceive` returned) -/
theorem worker_returns (c : Cfg) : (final c).halted = true := final_halted c

/-- **never_abandoned** (the repaired task loop of `OnReceive`): at no point of any run — any chain, any verdict
vectors (a filter may ask for re-match-route / re-choose-host any number of times, for ever), any environment — has the worker
left with the stream unfinished: when the loop's budget of 10 calls of `receive` is used up, what follows the loop
(regenerated: `onReentryExhausted`) answers with the internal-error reply unless a local reply / the one-way clean up is
already pending, and every return of `receive` in the finishing pass is `End`.  (Before the repair `exhaustFinishes` is
regenerated as false and this theorem does not build.) -/
theorem never_abandoned (c : Cfg) (n : Nat) : (run c n init).exhausted = false := never_exhausted c n

/-- **single_reply** (no budget exclusion: `never_abandoned` discharges `exhausted = false`).
When a receiver filter answered the request (hijack / direct response), no filter returned the termination status and
the request is not one-way, then the finished stream's response side is exactly: one full run of the sender filters,
then the downstream sender calls of THE answer — the headers with the status code and, iff the answer has a body, one
data call — where the answer is the fold of the filters' handler calls in invocation order (`replyOf`: the last
hijack / direct response wins) — also when the filters asked for re-match / re-choose nine times or more before. -/
theorem single_reply (c : Cfg) (ha : answeredIn (trace c)) (hnt : ¬ terminatedIn (trace c))
    (hno : c.env.oneway = false) :
    ∃ r code, replyOf (recvVerdicts (trace c)) (none, none) = (some r, code) ∧
      backPart (trace c) = .spass 0 (sendRun c.send 0) :: replyEvs r code := by
  -- an answered request is never retried (deny_not_forwarded): the model run is complete
  have hrt : (final c).retried = false := (deny_noUp_noRetry c fuel (answeredIn_deny ha)).2
  exact single_reply_of c (final c) (run_Ginv c fuel init (init_Ginv c)) (final_halted c) ha hnt hno
    (never_exhausted c fuel) hrt

/-- **outcome_total** (C14's machine): every finished run that was not handed to the retry path (whose continuation is
C03/C17's machine) ended the stream — cleaned, and terminated by a filter, one-way, or answered with one complete reply
after one full run of the sender filters (`DoneOK c v` = `v.f.cleaned = true ∧ (terminatedIn v.trace ∨ c.env.oneway = true ∨
∃ r, v.f.resp = some r ∧ backPart v.trace = .spass 0 (sendRun c.send 0) :: replyEvs r v.f.statusVar)`).  No budget exclusion. -/
theorem outcome_total (c : Cfg) (hrt : (final c).retried = false) : DoneOK c (final c).view := by
  have hG : Ginv c (final c) := run_Ginv c fuel init (init_Ginv c)
  have hex : (final c).exhausted = false := never_exhausted c fuel
  rcases (hG.done (final_halted c)).2 with h | h | h
  · rw [hex] at h; cases h
  · rw [hrt] at h; cases h
  · exact h

/-- **reply_body_own** (two answering filters): whatever an earlier filter's answer left in the stream — the body of a
`SendHijackReplyWithBody`, or nothing — the answer of a LATER filter replaces it completely: after a header-only
`SendHijackReply` the stream holds no data and no trailers, after `SendHijackReplyWithBody` exactly that reply's own data,
after `SendDirectResponse(headers, nil, nil)` none.  The effects of the three handler calls on the held data / trailers are
regenerated (`Gen.ProxyReply`); together with `single_reply` (the reply sent is the last answer, with a data call
iff THAT answer has a body) every downstream data event belongs to the answer whose headers were sent. -/
theorem reply_body_own (s : FState) (earlier : Act) (k : Nat) :
    (applyAct (applyAct s earlier) (.hijack k false)).resp = some ⟨false, false⟩ ∧
    (applyAct (applyAct s earlier) (.hijack k true)).resp = some ⟨true, false⟩ ∧
    (applyAct (applyAct s earlier) .direct).resp = some ⟨false, false⟩ := by
  refine ⟨?_, ?_, ?_⟩ <;> simp [applyAct, sendHijack_eq]

/-- the asynchronous `TerminateStream` of this slice (`up = term<code>`, also with an in-flight upstream response landing
inside the call, and on a kept handler of an earlier request) is the call of the shared downstream machine: theorems
`stale_terminate_ignored` and `terminate_wins_or_loses_atomically` (Props/C03) are about the same regenerated step program,
whose refusal tests and claim are pinned here as well -/
theorem terminate_checks_in_order :
    Gen.ProxyTerminate.checks = [.responseHeaders, .cleaned, .generation, .claim] ∧ Gen.ProxyTerminate.claimKind = .cas := by
  decide

/-- **complete (no filter is skipped)**: the first invocation of a stream is of the first filter of its phase and the
earlier phases have no filters; inside a pass the next invocation is of the NEXT filter of the phase; when the phase
changes, a pass whose last filter continued had reached the last filter of its phase, the new pass starts at the FIRST
filter of its phase and the phases in between have no filters; and a request that reaches the pool has had all three
passes.  Holds unconditionally after the second `fix:` (the kept cursor only resumes a pass of the same phase). -/
theorem complete (c : Cfg) (n : Nat) : completeOK c (flat (run c n init).trace) = true := completeOK_run c n

/-- **the executable predicate holds of the model** (safety part: order / once / resume in their token-list form,
completeness, no receiver filter after the response side started, deny ⇒ not forwarded, sender-once) — at every point of every run.
`specSafety` is the function `mosnmodel` evaluates on the IMPLEMENTATION's tokens of every generated case. -/
theorem spec_safety_holds_on_model (c : Cfg) (n : Nat) : specSafety c (flat (run c n init).trace) = true :=
  specSafety_run c n

/-- **the whole executable predicate holds of the finished model run**, single_reply included, for every
configuration (the worker abandons none: `never_abandoned`) whose request is not handed to the retry path. -/
theorem spec_holds_on_model (c : Cfg) (hrt : (final c).retried = false) :
    spec c (flat (trace c)) = true :=
  spec_final c (never_exhausted c fuel) hrt

/-- **the model is closed**: its two escape hatches — the `unmodelled` marker (Retry phase, phase out of range, no
upstream request at DownRecvHeader) and a worker blocked forever in `waitNotify` — are unreachable for every
configuration; every theorem above therefore speaks about runs that stay inside the modelled fragment. -/
theorem model_is_closed (c : Cfg) (n : Nat) :
    (∀ e ∈ (run c n init).trace, ∀ p, e ≠ Ev.unmodelled p) ∧ (run c n init).blocked = false := by
  obtain ⟨h1, h2⟩ := run_Ginv_and (step_Uinv c) n init (init_Ginv c) ⟨(fun e he => by cases he), rfl⟩
  refine ⟨fun e he p hp => ?_, h2⟩
  subst hp
  have := h1 _ he
  cases this

/-- the verdict annotation `mosnmodel` recomputes from the scripts (by counting invocations) reproduces the verdicts
the model recorded — so the predicate evaluated by the driver on a token list that AGREES with the model is exactly the
predicate of the two theorems above: on the unchanged tree an `A` line is an `S` line. -/
theorem annot_reproduces_model (c : Cfg) (n : Nat) :
    annot c ((flat (run c n init).trace).map Obs.raw) = flat (run c n init).trace := annot_flat c n

theorem agree_implies_spec (c : Cfg) (impl : List Raw) (h : impl = (flat (final c).trace).map Obs.raw)
    (hrt : (final c).retried = false) : spec c (annot c impl) = true := by
  rw [h, annot_flat_final]; exact spec_final c (never_exhausted c fuel) hrt

/-! ### non-vacuity: concrete chains (the repaired defect, a re-match that resumes, a forwarded request) -/

def envOK : Env := { route := fun _ => .found, host := fun _ => true, poolFail := false, up := .resp 200 true false }

/-- filter 0 answers 403 and lets the chain continue, filter 1 (same phase) asks for re-match-route: DESIGN.md §6 #13 -/
def exDeny : Cfg :=
  { recv := [⟨.AfterRoute, [⟨.hijack 403 false, .Continue⟩]⟩, ⟨.AfterRoute, [⟨.none, .ReMatchRoute⟩, ⟨.none, .Continue⟩]⟩],
    send := [⟨[]⟩, ⟨[.Continue]⟩], env := envOK }

theorem exDeny_trace : trace exDeny =
    [.rpass .BeforeRoute 0 [],
     .rpass .AfterRoute 0 [(0, ⟨.hijack 403 false, .Continue⟩), (1, ⟨.none, .ReMatchRoute⟩)],
     .spass 0 [(0, .Continue), (1, .Continue)], .dh (some 403) true] := by decide +kernel

-- hypotheses of deny_not_forwarded / single_reply are satisfiable, and their conclusions are what one expects
example : Ev.rpass .AfterRoute 0 [(0, ⟨.hijack 403 false, .Continue⟩), (1, ⟨.none, .ReMatchRoute⟩)] ∈ trace exDeny ∧
    (⟨.hijack 403 false, .Continue⟩ : Verdict).isDeny = true := by rw [exDeny_trace]; decide
example : answeredIn (trace exDeny) ∧ ¬ terminatedIn (trace exDeny) ∧ exDeny.env.oneway = false ∧
    (final exDeny).exhausted = false := by
  refine ⟨?_, ?_, rfl, by decide +kernel⟩
  · rw [exDeny_trace]; exact ⟨⟨.hijack 403 false, .Continue⟩, by simp [recvVerdicts], rfl⟩
  · rw [exDeny_trace]; simp [terminatedIn, recvVerdicts]
example : backPart (trace exDeny) = .spass 0 (sendRun exDeny.send 0) :: replyEvs ⟨false, false⟩ (some 403) := by
  rw [exDeny_trace]; decide

/-- two answering filters in one pass: filter 0 answers 429 WITH a body and lets the chain go on, filter 1 denies with a
header-only 403: the client gets the 403 headers as the end of the stream — no data call carrying filter 0's body -/
def exTwoAnswers : Cfg :=
  { recv := [⟨.AfterRoute, [⟨.hijack 429 true, .Continue⟩]⟩, ⟨.AfterRoute, [⟨.hijack 403 false, .Stop⟩]⟩],
    send := [⟨[]⟩], env := envOK }

example : trace exTwoAnswers =
    [.rpass .BeforeRoute 0 [],
     .rpass .AfterRoute 0 [(0, ⟨.hijack 429 true, .Continue⟩), (1, ⟨.hijack 403 false, .Stop⟩)],
     .spass 0 [(0, .Continue)], .dh (some 403) true] := by decide +kernel

/-- … and the other way round the later answer's own body is the one that is sent -/
example : backPart (trace { exTwoAnswers with
      recv := [⟨.AfterRoute, [⟨.hijack 403 false, .Continue⟩]⟩, ⟨.AfterRoute, [⟨.hijack 429 true, .Stop⟩]⟩] }) =
    [.spass 0 [(0, .Continue)], .dh (some 429) false, .dd true] := by decide +kernel

/-- a route with retry_on (every 5xx retriable, budget 3), an upstream that would answer 503 -/
def envRetry : Env :=
  { route := fun _ => .found, host := fun _ => true, poolFail := false, up := .resp 503 false false,
    pol := { disabled := false, retryOn := true, codes := [], numRetries := 2 } }

/-- the seeded scenario: an AfterChooseHost filter answers 503 on that route — the retry state exists (chooseHost ran),
the status is retriable, budget is left; nothing is sent upstream, the client gets the 503 after the sender filters -/
def exDenyRetry : Cfg :=
  { recv := [⟨.AfterChooseHost, [⟨.hijack 503 false, .Stop⟩]⟩], send := [⟨[]⟩], env := envRetry }

example : trace exDenyRetry =
    [.rpass .BeforeRoute 0 [], .rpass .AfterRoute 0 [], .rpass .AfterChooseHost 0 [(0, ⟨.hijack 503 false, .Stop⟩)],
     .spass 0 [(0, .Continue)], .dh (some 503) true] ∧ (final exDenyRetry).retried = false ∧
    (final exDenyRetry).cleaned = true := by decide +kernel

/-- … the same with a status-code list (a listed 429 with body, filter continues), and a handler TerminateStream(503) -/
def exDenyRetryList : Cfg :=
  { recv := [⟨.AfterChooseHost, [⟨.hijack 429 true, .Continue⟩]⟩], send := [⟨[]⟩],
    env := { route := fun _ => .found, host := fun _ => true, poolFail := false, up := .resp 503 false false,
             pol := { disabled := false, retryOn := true, codes := [429], numRetries := 0 } } }
def exDenyRetryTerm : Cfg :=
  { recv := [⟨.AfterChooseHost, [⟨.terminate 503, .Continue⟩]⟩], send := [⟨[]⟩], env := envRetry }

example : (final exDenyRetryList).retried = false ∧ (final exDenyRetryTerm).retried = false ∧
    (∀ e ∈ trace exDenyRetryList, isUp e = false) ∧ (∀ e ∈ trace exDenyRetryTerm, isUp e = false) := by decide +kernel

/-- the retry path is real in this model: the same route WITHOUT the filter forwards the request, the upstream's 503 is
retried (the run stops where `doRetry` would call `NewStream` again) — so `retried = false` in `deny_not_forwarded` is
not vacuous -/
def exFwdRetry : Cfg := { recv := [], send := [⟨[]⟩], env := envRetry }

example : (final exFwdRetry).retried = true ∧
    trace exFwdRetry =
      [.rpass .BeforeRoute 0 [], .rpass .AfterRoute 0 [], .rpass .AfterChooseHost 0 [], .up false, .spass 0 [(0, .Continue)]] := by
  decide +kernel

/-- … and so is a retried pool connection failure (retried by default, even without retry_on) -/
def exFwdConnFail : Cfg :=
  { recv := [], send := [⟨[]⟩],
    env := { route := fun _ => .found, host := fun _ => true, poolFail := true, up := .resp 200 false false,
             resetReason := "ConnectionFailed", pol := { disabled := false } } }

example : (final exFwdConnFail).retried = true := by decide +kernel

/-- with `proxy_disable_retry` (the environments of the original slice) nothing is ever retried -/
def exFwdDisabled : Cfg :=
  { recv := [], send := [⟨[]⟩],
    env := { route := fun _ => .found, host := fun _ => true, poolFail := false, up := .resp 503 false false } }

example : (final exFwdDisabled).retried = false ∧ (final exFwdDisabled).cleaned = true := by decide +kernel

/-- a re-match that is honoured: filter 1 asks once, the next AfterRoute pass starts at filter 1 (filter 0 is not re-run),
then the request is forwarded and the upstream response (headers + data) is relayed after the sender filters -/
def exResume : Cfg :=
  { recv := [⟨.AfterRoute, []⟩, ⟨.AfterRoute, [⟨.none, .ReMatchRoute⟩, ⟨.none, .Continue⟩]⟩, ⟨.AfterChooseHost, []⟩],
    send := [⟨[]⟩], env := envOK }

example : trace exResume =
    [.rpass .BeforeRoute 0 [],
     .rpass .AfterRoute 0 [(0, {}), (1, ⟨.none, .ReMatchRoute⟩)],
     .rpass .AfterRoute 1 [(1, {})],
     .rpass .AfterChooseHost 0 [(2, {})],
     .up false, .spass 0 [(0, .Continue)], .dh (some 200) false, .dd true] := by decide +kernel

/-- the second repaired defect: a BeforeRoute filter (index 1) returns re-match-route, which the proxy honours only in
AfterRoute; the AfterRoute pass nevertheless starts at filter 0 (before the fix it started at index 1 and skipped it) -/
def exWrongPhase : Cfg :=
  { recv := [⟨.AfterRoute, []⟩, ⟨.BeforeRoute, [⟨.none, .ReMatchRoute⟩]⟩, ⟨.AfterRoute, []⟩], send := [], env := envOK }

example : trace exWrongPhase =
    [.rpass .BeforeRoute 0 [(1, ⟨.none, .ReMatchRoute⟩)],
     .rpass .AfterRoute 0 [(0, {}), (2, {})],
     .rpass .AfterChooseHost 0 [],
     .up false, .spass 0 [], .dh (some 200) false, .dd true] := by decide +kernel

/-- **the repaired defect** (finding → `fixed:`): a filter that asks nine times for re-match and then answers 403 is invoked
ten times; the tenth call of `receive` returns `UpFilter` to a task loop that has run out of iterations.  Before the repair
the task returned there (stream answered by nobody, never cleaned); now the finishing pass sends the 403. -/
def exExhaust : Cfg :=
  { recv := [⟨.AfterRoute, List.replicate 9 ⟨.none, .ReMatchRoute⟩ ++ [⟨.hijack 403 false, .Stop⟩]⟩],
    send := [⟨[]⟩], env := envOK }

example : (final exExhaust).exhausted = false ∧ (final exExhaust).cleaned = true ∧
    backPart (trace exExhaust) = [.spass 0 [(0, .Continue)], .dh (some 403) true] ∧
    (recvVerdicts (trace exExhaust)).length = 10 := by decide +kernel

/-- a filter that asks for re-match for ever: ten passes, then the internal-error reply (500) — after the sender filters,
nothing sent upstream, stream cleaned; the same for re-choose-host, and for a one-way request (cleaned, no reply) -/
def exForever : Cfg :=
  { recv := [⟨.AfterRoute, List.replicate 40 ⟨.none, .ReMatchRoute⟩⟩], send := [⟨[]⟩], env := envOK }

example : (final exForever).exhausted = false ∧ (final exForever).cleaned = true ∧
    backPart (trace exForever) = [.spass 0 [(0, .Continue)], .dh (some 500) true] ∧
    (recvVerdicts (trace exForever)).length = 10 ∧ (∀ e ∈ trace exForever, isUp e = false) := by decide +kernel

example : (final { exForever with recv := [⟨.AfterChooseHost, List.replicate 40 ⟨.none, .ReChooseHost⟩⟩] }).cleaned = true ∧
    backPart (trace { exForever with recv := [⟨.AfterChooseHost, List.replicate 40 ⟨.none, .ReChooseHost⟩⟩] }) =
      [.spass 0 [(0, .Continue)], .dh (some 500) true] ∧
    (final { exForever with env := { envOK with oneway := true } }).cleaned = true ∧
    backPart (trace { exForever with env := { envOK with oneway := true } }) = [] := by decide +kernel

/-- … on a route whose retry policy makes every 5xx retriable the internal-error reply is not retried either -/
example : (final { exForever with env := envRetry }).retried = false ∧ (final { exForever with env := envRetry }).cleaned = true ∧
    backPart (trace { exForever with env := envRetry }) = [.spass 0 [(0, .Continue)], .dh (some 500) true] := by decide +kernel

/-! ### the label `reset during UpFilter`

`Env.upfReset` adds to the schedules of this machine the event `upResetL` of the shared downstream machine (enabled while
`upfRunning`): the upstream stream of the accepted streamed response is reset while the worker runs
the sender filters; the `processError` that ends the UpFilter `case` finds it at `s.phase == UpFilter`.  Every theorem above
(`order`, `once_receive`, `resume`, `deny_not_forwarded`, `once_send`, `single_reply`, `outcome_total`, `never_abandoned`,
`complete`, the predicate theorems) is stated for every `Cfg` and therefore quantifies over the schedules containing it. -/

/-- the event needs an upstream stream; its enabling condition "no deny in the trace" is implied by "admitted upstream"
(`deny_not_forwarded`), i.e. the guard never suppresses an event that could happen -/
theorem upf_guard_redundant (c : Cfg) (n : Nat) (h : (run c n init).trace.any isUpAdmitted = true) :
    ¬ DenyIn (run c n init).trace := by
  intro hd
  have hno := deny_noUp c n hd
  obtain ⟨e, he, ha⟩ := List.any_eq_true.mp h
  have := hno e he
  cases e <;> simp [isUpAdmitted, isUp] at ha this

/-- a streamed 200 whose upstream stream is reset during the sender pass -/
def envUpf : Env :=
  { route := fun _ => .found, host := fun _ => true, poolFail := false, up := .resp 200 true false, upfReset := true }

/-- not retried (no retry policy): the error reply of the reset reason replaces the response — after the ONE sender pass, one
reply, stream cleaned (on the code before a3a21969e the worker left here without reply) -/
example : trace { recv := [⟨.AfterRoute, []⟩], send := [⟨[]⟩], env := envUpf } =
    [.rpass .BeforeRoute 0 [], .rpass .AfterRoute 0 [(0, {})], .rpass .AfterChooseHost 0 [], .up false,
     .spass 0 [(0, .Continue)], .dh (some 502) true] ∧
    (final { recv := [⟨.AfterRoute, []⟩], send := [⟨[]⟩], env := envUpf }).cleaned = true := by decide +kernel

/-- … with a retriable reason and a retry policy the request is handed to the retry path (nothing was sent downstream) -/
def envUpfRetry : Env :=
  { envUpf with resetReason := "ConnectionTermination", pol := { disabled := false, retryOn := true, numRetries := 1 } }

example : (final { recv := [], send := [⟨[]⟩], env := envUpfRetry }).retried = true := by decide +kernel

/-- … and after a deny the event does not exist: the filter's 403 is the reply -/
example : backPart (trace { recv := [⟨.AfterRoute, [⟨.hijack 403 false, .Stop⟩]⟩], send := [⟨[]⟩], env := envUpf }) =
    [.spass 0 [(0, .Continue)], .dh (some 403) true] := by decide +kernel

/-! ## many streams: filter INSTANCES and configuration UPDATES (`Model/FilterInst.lean`)

A history is any list of events `upd l cfg` (AddOrUpdateStreamFilterConfig) / `create s l` (NewStreamDetect of stream `s` on
listener `l`: its chain is created) / `run s` (OnReceive: its filters run); `p : P` fixes which filter types are
registered, which factories allocate per call, the phase of each filter and what each filter decides about each
stream's request. -/

/-- **factories_allocate_per_stream** (regenerated from EVERY `CreateFilterChain` under pkg/filter/stream): the filter object
handed to `AddStreamReceiverFilter` / `AddStreamSenderFilter` is allocated inside the call, never an object the factory keeps. -/
theorem factories_allocate_per_stream : Gen.FilterFactories.factories.all (fun f => f.2.1) = true := by decide

/-- **manager_update_is_replace** (regenerated from `UpdateFactory` / `AddOrUpdateStreamFilterConfig`): the store is unconditional. -/
theorem manager_update_is_replace :
    (∀ o n : List Nat, Gen.FilterFactories.updateFactory o n = n) ∧ Gen.FilterFactories.addOrUpdateShape = true :=
  ⟨fun _ _ => rfl, rfl⟩

/-- **chain_follows_latest_config**: after EVERY update history the chain published for a listener is the configuration of
the latest update of that listener (entries of unregistered types dropped) — also when that configuration is empty or
has only unknown types; a listener never updated has none. -/
theorem chain_follows_latest_config (p : Model.FilterInst.P) (hupd : p.upd = Gen.FilterFactories.updateFactory)
    (h : List Model.FilterInst.Ev) (l : Nat) :
    (Model.FilterInst.exec p h).pub l = (Model.FilterInst.lastCfg l h).map (fun c => c.filter p.known) := by
  rw [Lemmas.FilterInst.lastCfg_eq]
  exact Lemmas.FilterInst.foldl_pub p (by intro o n; rw [hupd]; rfl) l h {} none rfl

example : (Model.FilterInst.exec ⟨fun k => k != 7, fun _ => true, fun _ => 0, fun _ _ => none, Gen.FilterFactories.updateFactory⟩
    [.upd 0 [1, 7, 2], .upd 1 [3], .upd 0 [7]]).pub 0 = some [] := by decide

/-- negation witness (the seeded shape of UpdateFactory, an empty new list keeps the old one): the removed filter stays published -/
example : (Model.FilterInst.exec ⟨fun _ => true, fun _ => true, fun _ => 0, fun _ _ => none, Model.FilterInst.keepOnEmpty⟩
    [.upd 0 [1], .upd 0 []]).pub 0 = some [1] ∧ Model.FilterInst.lastCfg 0 [.upd 0 [1], .upd 0 []] = some [] := by decide

/-- **deny_not_forwarded_concurrent**: for ANY number of streams and ANY interleaving of updates, chain creations and filter
runs, when every factory allocates per call: a stream that ran has the reference outcome of ITS OWN chain on ITS OWN
request — it is forwarded only if no filter of its chain denies its request (a denied request is never forwarded), and a
local reply it gets is the verdict of a filter of its own chain about its own request (replies go to the stream that was
denied, nobody else). -/
theorem deny_not_forwarded_concurrent (p : Model.FilterInst.P) (hf : ∀ k, p.fresh k = true) (hph : ∀ k, p.phase k < 3)
    (evs : List Model.FilterInst.Ev) (s : Nat) (r : Model.FilterInst.Outcome)
    (h : (Model.FilterInst.exec p evs).st.out s = some r) :
    ∃ ch, (Model.FilterInst.exec p evs).st.chain s = some ch ∧ r = Model.FilterInst.expect p s (ch.map (·.1)) ∧
      (r.2 = none → ∀ k ∈ ch.map (·.1), p.deny s k = none) ∧
      (∀ c, r.2 = some c → ∃ k ∈ ch.map (·.1), p.deny s k = some c) := by
  have hi := Lemmas.FilterInst.inv_foldl p hf evs {} (Lemmas.FilterInst.inv_init p)
  obtain ⟨ch, h1, h2⟩ := hi.outc s r h
  refine ⟨ch, h1, h2, ?_, ?_⟩
  · intro hn k hk
    rw [h2] at hn
    exact Lemmas.FilterInst.expFrom_none p (p.deny s) _ _ [] hn k hk (Lemmas.FilterInst.phase_mem _ (hph k))
  · intro c hc
    rw [h2] at hc
    exact Lemmas.FilterInst.expFrom_deny p (p.deny s) _ _ [] c hc

/-- a non-trivial instance: two streams, both chains created before any filter runs, stream 0 denied and stream 1 not -/
example : let p : Model.FilterInst.P := ⟨fun _ => true, fun _ => true, fun k => k % 3, fun s k => if s = 0 ∧ k = 4 then some 403 else none, fun _ n => n⟩
    let w := Model.FilterInst.exec p [.upd 0 [4, 3], .create 0 0, .create 1 0, .run 1, .run 0]
    w.st.out 0 = some ([3, 4], some 403) ∧ w.st.out 1 = some ([3, 4], none) := by decide

/-- negation witness (one filter object shared by all streams, the seeded shape of ip_access's factory): the handler slot
holds the LAST created stream, so the denied stream 0 is forwarded and stream 1 gets the 403 it did not earn -/
example : let p : Model.FilterInst.P := ⟨fun _ => true, fun _ => false, fun _ => 0, fun s _ => if s = 0 then some 403 else none, fun _ n => n⟩
    let w := Model.FilterInst.exec p [.upd 0 [0], .create 0 0, .create 1 0, .run 0, .run 1]
    w.st.out 0 = some ([0], none) ∧ w.st.out 1 = some ([0], some 403) := by decide

/-- **stream_runs_latest_config**: a stream created on listener `l` after the history `h` — whatever happens later (further
updates included) — runs exactly the filters of the latest configuration of `l` in `h`, in phase order then configuration
order, up to the first that denies it. -/
theorem stream_runs_latest_config (p : Model.FilterInst.P) (hupd : p.upd = Gen.FilterFactories.updateFactory)
    (hf : ∀ k, p.fresh k = true) (h h2 : List Model.FilterInst.Ev) (s l : Nat)
    (hnew : (Model.FilterInst.exec p h).st.chain s = none) (r : Model.FilterInst.Outcome)
    (hr : (Model.FilterInst.exec p (h ++ .create s l :: h2)).st.out s = some r) :
    r = Model.FilterInst.expect p s (((Model.FilterInst.lastCfg l h).getD []).filter p.known) := by
  obtain ⟨ch, hch, hks⟩ := Lemmas.FilterInst.created_chain p hf h h2 s l hnew
  have hi : Lemmas.FilterInst.Inv p (Model.FilterInst.exec p (h ++ .create s l :: h2)).st :=
    Lemmas.FilterInst.inv_foldl p hf (h ++ .create s l :: h2) {} (Lemmas.FilterInst.inv_init p)
  obtain ⟨ch', h1, h2'⟩ := hi.outc s r hr
  rw [hch] at h1
  cases h1
  rw [h2', hks, chain_follows_latest_config p hupd h l]
  cases Model.FilterInst.lastCfg l h <;> rfl

/-- the hypotheses of `stream_runs_latest_config` on a concrete history: the stream is created after the listener's chain was
emptied and runs after a later update that adds a deny filter again — it is forwarded, running nothing -/
example : let p : Model.FilterInst.P := ⟨fun k => k != 7, fun _ => true, fun _ => 1, fun _ k => if k = 4 then some 403 else none, Gen.FilterFactories.updateFactory⟩
    (Model.FilterInst.exec p [.upd 0 [4], .upd 0 [7]]).st.chain 5 = none ∧
    (Model.FilterInst.exec p ([.upd 0 [4], .upd 0 [7]] ++ .create 5 0 :: [.upd 0 [4], .run 5])).st.out 5 = some ([], none) := by decide

/-! ## registrations: the chain is a list of (filter object, phase) pairs (`Model/FilterRegs.lean`)

A factory may hand ONE filter object to `AddStreamReceiverFilter` several times — for several receive phases
(pkg/filter/stream/dsl: BeforeRoute, AfterRoute, AfterChooseHost), in any order, with other objects' registrations in between —
and to `AddStreamSenderFilter` too.  `regs : List Reg` is ANY list of such calls (repeated objects, arbitrary phase order);
registration `i` decides by the script `sc i` (any verdict vector; for an object whose decisions are a function of
(object, phase, invocation) see `toChainObj_eq_toChain`). -/
section Registrations
open MosnVerif.Model.FilterRegs

/-- **registrations_kept** (regenerated `AddStreamReceiverFilter` / `AddStreamSenderFilter` bodies): after ANY sequence of
registration calls the chain holds exactly these registrations, in call order — every call adds one, whether or not the
object is in the chain already. -/
theorem registrations_kept (regs : List Reg) (sobjs : List Nat) :
    regsOf (build regs sobjs) = regs.map (fun r => (r.obj, phaseNum r.phase)) ∧
    (build regs sobjs).senderFilters = sobjs ∧
    (build regs sobjs).senderFiltersPhase = sobjs.map (fun _ => Gen.FilterRegs.BeforeSend) := by
  refine ⟨regsOf_build regs sobjs, ?_, ?_⟩ <;> rw [build_eq]

/-- **phase_test_is_equality** (regenerated test in front of the filter call of both run loops, whose shape — start at the
cursor, advance by one, no break — the extractor checks): a registration is skipped iff its phase differs from the phase of
the pass — what `recvLoop` of the model does; the only sender phase is BeforeSend, so a sender pass skips nothing. -/
theorem phase_test_is_equality (a b : RPhase) :
    Gen.FilterRegs.recvSkips (phaseNum a) (phaseNum b) = (a != b) ∧
    Gen.FilterRegs.senderFilterPhaseValues = [Gen.FilterRegs.BeforeSend] ∧
    Gen.FilterRegs.sendSkips Gen.FilterRegs.BeforeSend Gen.FilterRegs.BeforeSend = false := by
  refine ⟨?_, rfl, rfl⟩
  cases a <;> cases b <;> rfl

/-- registration `i` of the list is filter `i` of the chain, with the phase it was registered for -/
theorem registration_is_filter (regs : List Reg) (sc : Nat → List Verdict) (i : Nat) :
    (toChain regs sc)[i]? = (regs[i]?).map (fun r => (⟨r.phase, sc i⟩ : RFilter)) := toChain_getElem? regs sc i

/-- the filters of phase `p` of that chain are the registrations of phase `p`, in registration order -/
theorem ofPhase_toChain (p : RPhase) (regs : List Reg) (sc : Nat → List Verdict) :
    (ofPhase p (toChain regs sc) 0).map (·.1) = ((regs.zipIdx).filter (fun ri => ri.1.phase = p)).map (·.2) := by
  have gen : ∀ (k : Nat), (ofPhase p ((regs.zipIdx k).map (fun ri => (⟨ri.1.phase, sc ri.2⟩ : RFilter))) k).map (·.1) =
      ((regs.zipIdx k).filter (fun ri => ri.1.phase = p)).map (·.2) := by
    induction regs with
    | nil => intro k; simp [ofPhase]
    | cons r rest ih =>
      intro k
      simp only [List.zipIdx_cons, List.map_cons, ofPhase, List.filter_cons]
      by_cases h : r.phase = p
      · simp [h, ih (k + 1)]
      · simp [h, ih (k + 1)]
  exact gen 0

/-- **pass_runs_exactly_registrations**: one `RunReceiverFilter(p)` call from the first filter on — whatever the state of the
stream, whatever the filters do on their handlers — invokes exactly the registrations of phase `p`, in registration order,
each once, up to and including the first whose status does not let the chain go on (Stop, termination, re-match, re-choose). -/
theorem pass_runs_exactly_registrations (regs : List Reg) (sc : Nat → List Verdict) (p : RPhase) (s : FState)
    (h0 : s.cursor = 0) :
    (runRecv (toChain regs sc) p s).2 = cutAfter s.rcalls (ofPhase p (toChain regs sc) 0) := by
  rw [runRecv_invs, startOf_eq, h0]; simp

/-- … and when they all let the chain go on, every registration of the phase is invoked -/
theorem cutAfter_all (calls : Nat → Nat) (l : List (Nat × RFilter))
    (h : ∀ x ∈ l, continues (x.2.verdictAt (calls x.1)).status = true) : (cutAfter calls l).map (·.1) = l.map (·.1) := by
  induction l with
  | nil => rfl
  | cons x r ih =>
    obtain ⟨i, f⟩ := x
    have hx := h (i, f) (by simp)
    simp only [cutAfter, hx, if_true, List.map_cons]
    rw [ih (fun y hy => h y (List.mem_cons_of_mem _ hy))]

/-- **runs_exactly_registrations**: for every registration list (repeated objects, arbitrary phase order), every script per
registration, every sender chain and environment, at every point of the run of a request: each receiver pass is the exact
run of the registrations of its phase from its start cursor — none skipped, none twice, none of another phase, cut only by a
status that does not continue.  (Which passes there are and where they start — phases in the proxy's order, from the first
filter, resumed at the asking filter after an honoured re-match / re-choose — is `complete` / `resume`, which hold of this
chain as of any.) -/
theorem runs_exactly_registrations (regs : List Reg) (sc : Nat → List Verdict) (send : List SFilter) (env : Env) (n : Nat)
    (p : RPhase) (st : Nat) (invs : List Inv)
    (h : Ev.rpass p st invs ∈ (run ⟨toChain regs sc, send, env⟩ n init).trace) :
    ∃ calls, invs = cutAfter calls (ofPhase p ((toChain regs sc).drop st) st) :=
  run_PassesExact ⟨toChain regs sc, send, env⟩ n init (init_PassesExact _) p st invs h

/-- **deny_not_forwarded_registration**: the denying invocation may come through ANY registration of an object — the second
or third phase it registered for as well: it is a registration of the list for the phase of the pass, and the request is
neither sent upstream nor handed to the retry path. -/
theorem deny_not_forwarded_registration (regs : List Reg) (sc : Nat → List Verdict) (send : List SFilter) (env : Env) (n : Nat)
    (p : RPhase) (st : Nat) (invs : List Inv) (iv : Inv)
    (h : Ev.rpass p st invs ∈ (run ⟨toChain regs sc, send, env⟩ n init).trace) (hiv : iv ∈ invs) (hd : iv.2.isDeny = true) :
    (∃ r, regs[iv.1]? = some r ∧ r.phase = p) ∧
    (∀ e ∈ (run ⟨toChain regs sc, send, env⟩ n init).trace, ∀ r, e ≠ Ev.up r) ∧
    (run ⟨toChain regs sc, send, env⟩ n init).retried = false := by
  refine ⟨?_, deny_not_forwarded ⟨toChain regs sc, send, env⟩ n p st invs iv h hiv hd⟩
  obtain ⟨f, hf, hp⟩ := (order ⟨toChain regs sc, send, env⟩ n p st invs h).2 iv hiv
  have hf' : (toChain regs sc)[iv.1]? = some f := hf
  rw [toChain_getElem?] at hf'
  cases hr : regs[iv.1]? with
  | none => rw [hr] at hf'; cases hf'
  | some r =>
    rw [hr] at hf'
    simp only [Option.map_some, Option.some.injEq] at hf'
    exact ⟨r, rfl, by rw [← hp, ← hf']⟩

/-- an object whose decisions are a function of (object, phase, invocation) — one script per pair — is the special case in
which every registration of the pair carries that script -/
theorem toChainObj_eq_toChain (regs : List Reg) (sc : Nat → RPhase → List Verdict) :
    toChainObj regs sc = toChain regs (fun i => match regs[i]? with | some r => sc r.obj r.phase | none => []) := by
  apply List.ext_getElem?
  intro i
  rw [toChain_getElem?]
  simp only [toChainObj, List.getElem?_map]
  cases regs[i]? <;> rfl

/-- **destroy_once_per_registration** (regenerated `OnDestroy`: a range over each slice): when the stream is cleaned an object
gets one `OnDestroy` call per registration it made, receiver and sender — what the code does; a filter registered for
three phases must tolerate three calls. -/
theorem destroy_once_per_registration (regs : List Reg) (sobjs : List Nat) (o : Nat) :
    (Gen.FilterRegs.onDestroy (build regs sobjs)).count o = destroyCount regs sobjs o := by
  rw [build_eq]; simp [Gen.FilterRegs.onDestroy, destroyCount, List.count_append]

/-! non-vacuity: an auth filter that pre-checks before the route is matched and decides after it (one object, two phases) -/

def exAuth : List Reg := [⟨7, .BeforeRoute⟩, ⟨3, .AfterRoute⟩, ⟨7, .AfterRoute⟩, ⟨7, .AfterChooseHost⟩]
def exAuthSc : Nat → List Verdict := fun i => if i = 2 then [⟨.hijack 403 false, .Stop⟩] else []

example : regsOf (build exAuth [7, 7]) = [(7, 0), (3, 1), (7, 1), (7, 2)] ∧ destroyCount exAuth [7, 7] 7 = 5 := by decide

/-- the object's verdict in its SECOND phase denies the request: nothing is sent upstream -/
example : trace ⟨toChain exAuth exAuthSc, [], envOK⟩ =
    [.rpass .BeforeRoute 0 [(0, {})],
     .rpass .AfterRoute 0 [(1, {}), (2, ⟨.hijack 403 false, .Stop⟩)],
     .spass 0 [], .dh (some 403) true] := by decide +kernel

example : Ev.rpass .AfterRoute 0 [(1, {}), (2, ⟨.hijack 403 false, .Stop⟩)] ∈
    (run ⟨toChain exAuth exAuthSc, [], envOK⟩ fuel init).trace ∧
    [(1, ({} : Verdict)), (2, ⟨.hijack 403 false, .Stop⟩)] =
      cutAfter (fun _ => 0) (ofPhase .AfterRoute ((toChain exAuth exAuthSc).drop 0) 0) := by
  constructor
  · decide +kernel
  · decide

/-- **negation witness (the seeded shape)**: an `Add…` that skips an object already in the chain keeps only the object's
FIRST phase — the registration list is not kept … -/
example : regsOf (buildWith addDedup exAuth) = [(7, 0), (3, 1)] ∧
    regsOf (buildWith addDedup exAuth) ≠ exAuth.map (fun r => (r.obj, phaseNum r.phase)) := by decide

/-- … and on that chain the verdict of the later phase never happens: the request the filter denies is forwarded -/
example : trace ⟨toChain [⟨7, .BeforeRoute⟩, ⟨3, .AfterRoute⟩] (fun i => if i = 1 then [] else exAuthSc 0), [], envOK⟩ =
    [.rpass .BeforeRoute 0 [(0, {})], .rpass .AfterRoute 0 [(1, {})], .rpass .AfterChooseHost 0 [],
     .up false, .spass 0 [], .dh (some 200) false, .dd true] := by decide +kernel

end Registrations

/-! ### the asynchronous denial on the shared downstream machine (every schedule, the back-off included) -/

end MosnVerif.Props.C14

namespace MosnVerif.Props.C14
open MosnVerif.Model.Downstream

/-- **deny_not_forwarded_backoff**: the filter machine above delivers an asynchronous `TerminateStream` to the worker parked in
`waitNotify`; the shared downstream machine (`Model/Downstream.lean`: every schedule of the extended label type) also delivers
it while the worker is asleep in `doRetry`'s back-off — the attempt was given up for a retry, the response slot is free, the
call is accepted.  On EVERY schedule that leaves the worker in the back-off with the local reply of an accepted call pending —
whatever else landed during the rest of the sleep: the client's departure, the connection close, late frames of the given-up
attempt, the global timer … — the wake-up creates NO upstream attempt: no `ConnectionPool.NewStream`, admitted or refused, no
new client stream; the worker leaves the Retry phase with the reply (or, the client gone, cleans the stream).  The denied request
is not forwarded.  Rests on the regenerated `doRetry` (`Gen.ProxyBackoff.doRetry`: `if s.directResponse { return }` after the
sleep) and the regenerated `processError` / `TerminateStream`. -/
theorem deny_not_forwarded_backoff (c : Cfg) (ar aq : Nat) (l : List Label)
    (hb : backoff (run c (init ar aq) l) = true) (hacc : (run c (init ar aq) l).direct = true) :
    (run c (init ar aq) (l ++ [.work])).streams.length = (run c (init ar aq) l).streams.length ∧
    (run c (init ar aq) (l ++ [.work])).trace.filter attemptEv = (run c (init ar aq) l).trace.filter attemptEv ∧
    ((run c (init ar aq) (l ++ [.work])).running = false ∨ (run c (init ar aq) (l ++ [.work])).phase ≠ .Retry) := by
  have hi := inv_run c ar aq l
  obtain ⟨hcl, _, _, _, _, _, _, _, _, _, _, hdf⟩ := backoff_facts c ar aq _ hi hb
  have := wake_direct_no_attempt c (run c (init ar aq) l) hb hacc hcl (hdf hacc).2.1
  simpa [run, List.foldl_append, step, att] using this

/-- … and such a state is reached exactly by an accepted call: in the back-off (no local reply pending yet) `TerminateStream` is
accepted iff no response headers are stored and the response slot is free; an accepted call leaves its reply pending, the
worker asleep, the trace untouched -/
theorem terminate_in_backoff_accepted (c : Cfg) (ar aq : Nat) (l : List Label) (code : Nat)
    (hb : backoff (run c (init ar aq) l) = true) (hnd : (run c (init ar aq) l).direct = false) :
    backoff (run c (init ar aq) (l ++ [.terminate code])) = true ∧
    (run c (init ar aq) (l ++ [.terminate code])).trace = (run c (init ar aq) l).trace ∧
    ((run c (init ar aq) (l ++ [.terminate code])).direct = true ↔
      ((run c (init ar aq) l).resp.isSome = false ∧ (run c (init ar aq) l).urr = false)) := by
  have h := terminate_backoff_spec c ar aq (run c (init ar aq) l) code (inv_run c ar aq l) hb
  simp only [run, List.foldl_append, List.foldl_cons, List.foldl_nil, step]
  simp only [run] at h hnd
  refine ⟨h.2.2.1, h.1, ?_⟩
  rw [h.2.2.2.2.2.1]
  simp [hnd]

/-- non-vacuity: attempt 0 is reset (retried), TerminateStream(403) lands in the back-off, then the client's connection is
closed during the rest of the sleep; the wake-up: no attempt 1, no reply (the client is gone), the stream is cleaned -/
example : ((fun (s : S) => (s.trace, s.cleaned, s.upActive))
    (run { retryOn := true, numRetries := 2 } (init 0 0)
      (List.replicate 12 .work ++ [.upReset 0 .StreamConnectionFailed, .work, .terminate 403, .connClose, .work]))) =
    ([.un 0, .uh 0 true, .log 504 0x2000], true, 0) := by decide

/-- **deny_inside_retry_setup_not_forwarded** (defect reproduced on the real code and fixed by 4e7d4a7f0).
The worker has decided to retry (`retryState.retry` answered `ShouldRetry`) and is inside `setupRetry`; an asynchronous
`TerminateStream` of a receiver-filter handler lands THERE — at the worker's yield site after the mark, or after the swing of
`upstreamResponseReceived`.  Both calls are the regenerated step programs (`Gen.ProxyBackoff.setupRetry` with its two
interleaving points, `Gen.ProxyTerminate.terminateStream`).  After the swing the call is accepted whenever no response headers
are stored (the slot was just freed); after the mark whenever the slot is free (retry decided on an upstream reset).  A local
reply is then pending when the regenerated `processError` runs, and it ABANDONS the retry: it does not hand back the phase
`Retry` — the only phase besides the first `receiveHeaders` in which an attempt is created —, clears the mark, detaches the
given-up request.  The denied request is not forwarded. -/
theorem deny_inside_retry_setup_not_forwarded (c : Cfg) (s : S) (eos e : Bool) (code : Nat) (he : s.globalExpired = false)
    (hd : s.downReset = false) (hu : s.up.isSome = true) (hc : s.cleaned = false) (hr : s.resp.isSome = false) :
    (let x := (Gen.ProxyBackoff.setupRetry (srOps c) id (termCall c code) eos s).1
     x.direct = true ∧ (restOfPhase c x e).phase ≠ .Retry ∧ (restOfPhase c x e).setupRetry = false) ∧
    (s.urr = false →
     let x := (Gen.ProxyBackoff.setupRetry (srOps c) (termCall c code) id eos s).1
     x.direct = true ∧ (restOfPhase c x e).phase ≠ .Retry ∧ (restOfPhase c x e).setupRetry = false) := by
  -- with a local reply pending when `processError` runs, the retry is abandoned
  have fin : ∀ x : S, x.direct = true → x.downReset = false → x.up.isSome = true →
      x.direct = true ∧ (restOfPhase c x e).phase ≠ .Retry ∧ (restOfPhase c x e).setupRetry = false := fun x hdi hd hu =>
    have := direct_abandons_retry c { x with upReset := false } e hd hdi
    ⟨hdi, this.2.1, (finishOf_mark _).trans (this.2.2 hu)⟩
  constructor
  · simp only
    rw [gen_setupRetry_after c _ eos s he]
    simp only
    obtain ⟨f1, _, f3, _, _, _, _, f8, f9, f10⟩ := setupRetry_marked c s eos he
    have hacc : termCall c code (setupRetry c s eos).1 = terminateAcc c (setupRetry c s eos).1 code := by
      rw [termCall_eq, if_neg (by rw [f10]; simpa using hr), if_neg (by rw [f9]; simp [hc]), if_neg (by simp [f8])]
    rw [hacc]
    have ta := terminateAcc_frame c (setupRetry c s eos).1 code
    exact fin _ ta.1 (ta.2.1.trans (f1.trans hd)) (by rw [ta.2.2, f3]; exact hu)
  · intro hur
    simp only
    rw [gen_setupRetry_before c _ eos s he]
    simp only
    have hacc : termCall c code { s with setupRetry := true } = terminateAcc c { s with setupRetry := true } code := by
      rw [termCall_eq, if_neg (by simpa using hr), if_neg (by simp [hc]), if_neg (by simp [hur])]
    rw [hacc]
    have ta := terminateAcc_frame c { s with setupRetry := true } code
    obtain ⟨f1, f2, f3, _⟩ := srRest_frame c eos (terminateAcc c { s with setupRetry := true } code)
    exact fin _ (f2.trans ta.1) (f1.trans (ta.2.1.trans hd)) (by rw [f3, ta.2.2]; exact hu)

/-- the state in which the worker handles the reset of attempt 0 -/
def exSetupCfg : Cfg := { retryOn := true, numRetries := 2 }
def exSetupState : S := run exSetupCfg (init 0 0) (List.replicate 12 .work ++ [.upReset 0 .StreamConnectionFailed])

/-- non-vacuity: that state satisfies the hypotheses; TerminateStream(403) at either site is accepted and the worker goes on to
the response pass (UpFilter) with the reply, not to the Retry phase -/
example :
    (!exSetupState.globalExpired && !exSetupState.downReset && exSetupState.up.isSome && !exSetupState.cleaned &&
      !exSetupState.resp.isSome && !exSetupState.urr) = true ∧
    ((fun (x : S) => (x.phase, x.direct, x.respCode, x.setupRetry))
      (restOfPhase exSetupCfg (Gen.ProxyBackoff.setupRetry (srOps exSetupCfg) id (termCall exSetupCfg 403) true exSetupState).1 true)) =
      (.UpFilter, false, 403, false) ∧
    ((fun (x : S) => (x.phase, x.direct, x.respCode, x.setupRetry))
      (restOfPhase exSetupCfg (Gen.ProxyBackoff.setupRetry (srOps exSetupCfg) (termCall exSetupCfg 403) id true exSetupState).1 true)) =
      (.UpFilter, false, 403, false) := by decide

end MosnVerif.Props.C14
