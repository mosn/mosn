import MosnVerif.Lemmas.DownstreamProps
import MosnVerif.Lemmas.Downstream.Parked
import MosnVerif.Lemmas.Downstream.Prov
import MosnVerif.Lemmas.Downstream.Backoff9
import MosnVerif.Lemmas.Downstream.Timer10
import MosnVerif.Lemmas.Downstream.Budget10
import MosnVerif.Lemmas.Downstream.TimerObj10
import MosnVerif.Lemmas.Downstream.Window10
import MosnVerif.Lemmas.ReplyWrite
import MosnVerif.Lemmas.ReplyWriteMachine
import MosnVerif.Lemmas.XHijack
/-!
# C03 — every request ends exactly once, with one reply, in bounded time (property theorems only)

All theorems are about `Model/Downstream.lean` (the shared downstream machine regenerated in its decision tables and
control flow from `pkg/proxy/downstream.go`, `upstream.go`, `retrystate.go`, `pkg/types`), for **every** configuration
`c : Cfg` (one-way/two-way, body/trailers, every route outcome, every retry policy, every threshold), **every** ambient
load `ar aq`, and **every** schedule `l : List Label` — an arbitrary interleaving of worker steps (one phase each), upstream
responses (complete, or only the head of a streamed response whose body / trailers follow later), the end of a streamed
body, upstream resets with any reason (also after the response head was forwarded), pool failures, per-try and global
timer callbacks (also the global timer callback landing inside `setupRetry`: `gtInSetup`), downstream resets, connection closes and
asynchronous `TerminateStream` calls while the worker is parked or asleep in `doRetry`'s back-off — every label at every point, the
back-off sleep included.  Everything follows from `inv_run` (Lemmas/Downstream.lean) by induction on the schedule.
-/
namespace MosnVerif.Props.C03
open MosnVerif.Model.Downstream MosnVerif.Gen.ProxyPhase MosnVerif.Gen.ProxyReason

/-- the state after schedule `l` -/
abbrev reach (c : Cfg) (ar aq : Nat) (l : List Label) : S := run c (init ar aq) l

/-- **sender_once**: on every schedule the calls on the downstream sender respect the protocol accepted by the
declarative automaton `sndStep`: headers at most once and first, at most one end of stream, nothing after it, at
most one reset, never a reset after the end of stream, nothing after a reset — and no `ConnectionPool.NewStream` once
response headers went to the client (a partial response is never followed by a retry). -/
theorem sender_once (c : Cfg) (ar aq : Nat) (l : List Label) : senderOk (reach c ar aq l).trace = true := by
  have := (inv_run c ar aq l).k1
  simp only [senderOk, K1] at this ⊢
  simp [this]

/-- the same in plain counts: at most one `AppendHeaders`, and at most one terminal call (end of stream or reset) -/
theorem sender_counts (c : Cfg) (ar aq : Nat) (l : List Label) :
    ((reach c ar aq l).trace.filter isHeaders).length ≤ 1 ∧
    ((reach c ar aq l).trace.filter isEos).length + ((reach c ar aq l).trace.filter isReset).length ≤ 1 := by
  have := counts_of_ok (reach c ar aq l).trace Snd.init (inv_run c ar aq l).k1
  simpa [Snd.init] using this

/-- **no_attempt_after_headers**: on every schedule, once response headers were written to the client no further
upstream attempt is made — neither admitted nor refused: whatever happens to a partially forwarded response (upstream
reset with a retriable reason and retry budget left, timers, client reset), the request is not replayed upstream and
the client never sees the head of a second response (`sender_counts`). -/
theorem no_attempt_after_headers (c : Cfg) (ar aq : Nat) (l : List Label) (t1 t2 : List Ev) (st : Nat) (eos : Bool)
    (h : (reach c ar aq l).trace = t1 ++ Ev.dh st eos :: t2) : t2.any isNewStream = false := by
  have := (inv_run c ar aq l).k1
  simp only [K1] at this
  rw [h] at this
  exact no_attempt_after_headers_of_ok t1 t2 st eos this

/-- **partial_reset_completes**: from every reachable state in which an upstream reset is pending after the response
started (the head of a streamed response was forwarded, the rest was still in flight), at most two worker steps end the
exchange: the regenerated gate of `onUpstreamReset` refuses the retry whatever the reason and the retry budget, the
client stream is reset (`dr`), the stream is cleaned and logged — and nothing else is appended to the trace: no new
upstream attempt, no second response. -/
theorem partial_reset_completes (c : Cfg) (ar aq : Nat) (l : List Label)
    (hrun : (reach c ar aq l).running = true) (hur : (reach c ar aq l).upReset = true)
    (hrst : (reach c ar aq l).respStarted = true) :
    (reach c ar aq (l ++ [.work, .work])).cleaned = true ∧ (reach c ar aq (l ++ [.work, .work])).running = false ∧
    (reach c ar aq (l ++ [.work, .work])).trace =
      (reach c ar aq l).trace ++ [Ev.dr, Ev.log TimeoutExceptionCode (reach c ar aq l).flags] := by
  have := started_reset_run c ar aq _ (inv_run c ar aq l) hrun hur hrst
  simpa [reach, run, List.foldl_append, step] using this

/-- … and the reset of the open upstream stream of a streamed response, delivered while the worker waits for the body,
leads to exactly that state (when the proxy's upstream request still listens to the stream — it stops listening only
when it resets the stream itself) -/
theorem partial_reset_pending (c : Cfg) (ar aq : Nat) (l : List Label) (k : Nat) (r : Reason) (st : Stream)
    (hw : bodyWait (reach c ar aq l) = true) (hk : (reach c ar aq l).streams[k]? = some st)
    (hst : st.real = true ∧ st.live = true ∧ st.counted = true ∧ st.listening = true) :
    (reach c ar aq (l ++ [.upReset k r])).upReset = true ∧ (reach c ar aq (l ++ [.upReset k r])).respStarted = true ∧
    (reach c ar aq (l ++ [.upReset k r])).running = true ∧
    (reach c ar aq (l ++ [.upReset k r])).trace = (reach c ar aq l).trace := by
  obtain ⟨_, e⟩ := upReset_live (inv_run c ar aq l) k r st hk hst
  obtain ⟨_, _, hrst, _⟩ := bodyWait_facts c ar aq _ (inv_run c ar aq l) hw
  have hrun : (reach c ar aq l).running = true := by
    simp only [bodyWait, Bool.and_eq_true] at hw; exact hw.1.1.1
  simp only [reach, run, List.foldl_append, List.foldl_cons, List.foldl_nil] at e hrst hrun ⊢
  rw [e]
  exact ⟨rfl, hrst, hrun, rfl⟩

/-- **upfilter_reset_pending** — the machine label `reset during UpFilter`: in EVERY reachable state in which the
worker runs the sender filters of a response (`upfRunning`: phase UpFilter, before its `processError`), the reset of a client
stream that is still registered (the open stream of a streamed response whose head was accepted) raises `upstreamReset`
with nothing sent downstream yet; the `processError` that ends the phase handles it at `s.phase == UpFilter`.  So every
theorem of this file (`sender_once`, `outcome_total`, `clean_once`, `worker_returns_iff_cleaned`, …) and C10's
`ledger_exact` quantify over schedules that contain this event: `inv_run` covers it. -/
theorem upfilter_reset_pending (c : Cfg) (ar aq : Nat) (l : List Label) (k : Nat) (r : Reason) (st : Stream)
    (hw : upfRunning (reach c ar aq l) = true) (hk : (reach c ar aq l).streams[k]? = some st)
    (hst : st.real = true ∧ st.live = true ∧ st.counted = true ∧ st.listening = true) :
    (reach c ar aq (l ++ [.upReset k r])).upReset = true ∧ (reach c ar aq (l ++ [.upReset k r])).respStarted = false ∧
    (reach c ar aq (l ++ [.upReset k r])).trace = (reach c ar aq l).trace := by
  have hi := inv_run c ar aq l
  obtain ⟨hcl, e⟩ := upReset_live hi k r st hk hst
  simp only [upfRunning, Bool.and_eq_true, beq_iff_eq] at hw
  have hrst : (reach c ar aq l).respStarted = false := by
    have := (hi.k15 hcl (by simp [hw.2, upPhase])).2.2.2.2.1
    rw [this, hw.2]; decide
  simp only [reach, run, List.foldl_append, List.foldl_cons, List.foldl_nil] at e hrst ⊢
  rw [e]
  exact ⟨rfl, hrst, rfl⟩

/-- non-vacuity: the request is sent, the head of a streamed 200 arrives, the worker enters UpFilter — the label is enabled -/
example : upfRunning (reach {} 0 0 (List.replicate 12 .work ++ [.upRespS 0 200 true false, .work])) = true := by decide +kernel
/-- … the reset raised there is answered with the error reply of its reason and everything is given back (on the code before
the repair a3a21969e the worker returned here with `trace = [un 0, uh 0]`, not cleaned, the downstream gauge held) -/
example : ((fun (s : S) => (s.trace, s.hTok, s.cleaned, s.running, s.upActive, s.downActive))
    (reach {} 0 0 (List.replicate 12 .work ++ [.upRespS 0 200 true false, .work, .upReset 0 .StreamRemoteReset] ++
      List.replicate 3 .work))) =
    ([.un 0, .uh 0 true, .dh 502 true, .log 502 16], .loc, true, false, 0, 0) := by decide +kernel
/-- … and with a retry policy it is retried: nothing had been sent downstream -/
example : ((fun (s : S) => (s.trace, s.cleaned, s.upActive))
    (reach { retryOn := true, numRetries := 1 } 0 0 (List.replicate 12 .work ++
      [.upRespS 0 200 true false, .work, .upReset 0 .StreamConnectionTermination, .work, .work, .work, .upResp 1 200 false false] ++
      List.replicate 4 .work))) =
    ([.un 0, .uh 0 true, .un 1, .uh 1 true, .dh 200 true, .log 200 0], true, 0) := by decide +kernel

/-- **clean_once**: the body of `cleanStream` (witnessed by the access-log event inside it) has run exactly once when
the stream is cleaned and not at all before; it never runs twice. -/
theorem clean_once (c : Cfg) (ar aq : Nat) (l : List Label) :
    nLog (reach c ar aq l).trace = (if (reach c ar aq l).cleaned then 1 else 0) :=
  (inv_run c ar aq l).k4

/-- after the stream is cleaned no label changes the trace any more (I2): whatever arrives late is ignored -/
theorem clean_final (c : Cfg) (ar aq : Nat) (l : List Label) (late : Label) (h : (reach c ar aq l).cleaned = true) :
    (reach c ar aq (l ++ [late])).trace = (reach c ar aq l).trace ∧ (reach c ar aq (l ++ [late])).cleaned = true := by
  have := trace_frozen c ar aq (reach c ar aq l) late (inv_run c ar aq l) h
  simpa [reach, run, List.foldl_append] using this

/-- the worker goroutine has returned exactly when the stream was cleaned: it never leaves silently, and nothing
touches the stream after the clean-up -/
theorem worker_returns_iff_cleaned (c : Cfg) (ar aq : Nat) (l : List Label) :
    (reach c ar aq l).running = !(reach c ar aq l).cleaned :=
  (inv_run c ar aq l).k0

/-- **outcome_total**: in every reachable state in which the worker is quiescent (returned, parked in `waitNotify`, or
waiting for the rest of a streamed response) either the exchange is finished with exactly one classified outcome — a
complete response, a reset after the response had started, the client went away, one-way done; never `silent` — or
the worker is parked with the global timer armed and nothing pending (so `timeout_completes` applies), or the head of a
streamed response was forwarded and its upstream stream is still open (so its end or its reset is enabled:
`partial_reset_pending` / `partial_reset_completes`). -/
theorem outcome_total (c : Cfg) (ar aq : Nat) (l : List Label)
    (hq : (reach c ar aq l).running = false ∨ blocked (reach c ar aq l) = true ∨ bodyWait (reach c ar aq l) = true) :
    ((reach c ar aq l).cleaned = true ∧ outcome c (reach c ar aq l) ≠ .silent) ∨
    ((reach c ar aq l).cleaned = false ∧ blocked (reach c ar aq l) = true ∧ c.oneway = false ∧
      (reach c ar aq l).global = true) ∨
    ((reach c ar aq l).cleaned = false ∧ bodyWait (reach c ar aq l) = true ∧ c.oneway = false ∧
      (reach c ar aq l).respStarted = true ∧ 0 < liveCount (reach c ar aq l).streams) := by
  have h := inv_run c ar aq l
  by_cases hbw : bodyWait (reach c ar aq l) = true
  · obtain ⟨hcl, how, hrst, _, hpos, _, _⟩ := bodyWait_facts c ar aq _ h hbw
    exact Or.inr (Or.inr ⟨hcl, hbw, how, hrst, hpos⟩)
  by_cases hcl : (reach c ar aq l).cleaned = true
  · exact Or.inl ⟨hcl, outcome_of_cleaned h hcl⟩
  · simp only [Bool.not_eq_true] at hcl
    have hb : blocked (reach c ar aq l) = true := by
      rcases hq with hq | hq | hq
      · have := h.k0; simp only [K0, hq, hcl] at this; cases this
      · exact hq
      · exact absurd hq hbw
    have := blocked_facts c ar aq _ h hb
    exact Or.inr (Or.inl ⟨hcl, hb, this.2.1, this.2.2.1⟩)

/-- **parked_has_live_upstream**: in every reachable state in which the worker is parked in `waitNotify` with nothing
signalled, the request's current upstream attempt is live — its client stream is registered and counted: the request
holds exactly what it waits for (upActive ≥ 1), so an upstream event (or, failing that, the armed global timer:
`timeout_completes`) will wake it.  This is the Spec clause "an unfinished started exchange has upActive ≥ 1".
It rests on a second invariant (`inv2_run`): every live client stream is still listened to by the proxy's upstream
request, and a quiet forwarding phase has a live current attempt. -/
theorem parked_has_live_upstream (c : Cfg) (ar aq : Nat) (l : List Label) (hb : blocked (reach c ar aq l) = true) :
    0 < liveCount (reach c ar aq l).streams ∧ 1 ≤ (reach c ar aq l).upActive :=
  parked_live c ar aq _ (inv_run c ar aq l) (inv2_run c ar aq l) hb

/-- **timeout_completes**: from every reachable state in which the worker is parked (request sent, no event pending)
the firing of the global timer is enabled, and it is sufficient: three worker steps later the stream is cleaned, the
worker has returned, and the client has received the timeout reply — code and response flag come from the regenerated
tables `types.ConvertReasonToCode` / `streamResetReasonToResponseFlag`. -/
theorem timeout_completes (c : Cfg) (ar aq : Nat) (l : List Label) (hb : blocked (reach c ar aq l) = true) :
    (reach c ar aq l).global = true ∧
    (reach c ar aq (l ++ [.globalFire, .work, .work, .work])).cleaned = true ∧
    (reach c ar aq (l ++ [.globalFire, .work, .work, .work])).running = false ∧
    (reach c ar aq (l ++ [.globalFire, .work, .work, .work])).trace =
      ((reach c ar aq (l ++ [.globalFire])).trace ++ [Ev.dh (reasonToCode .UpstreamGlobalTimeout) true]) ++
        [Ev.log (reasonToCode .UpstreamGlobalTimeout) ((reach c ar aq l).flags ||| reasonToFlag .UpstreamGlobalTimeout)] := by
  have h := inv_run c ar aq l
  have hf := blocked_facts c ar aq _ h hb
  have := timeout_run c ar aq _ h hb
  refine ⟨hf.2.2.1, ?_⟩
  simpa [reach, run, List.foldl_append, step] using this

/-- **terminate_completes**: an asynchronous `TerminateStream(code)` called while the worker is parked and no response
headers are stored is accepted, and three worker steps later the stream is cleaned, the worker has returned, and the
client has received exactly the local reply `code` with the DownStreamTerminate flag in the access log. -/
theorem terminate_completes (c : Cfg) (ar aq : Nat) (l : List Label) (code : Nat) (hb : blocked (reach c ar aq l) = true)
    (hnr : (reach c ar aq l).resp.isSome = false) :
    (reach c ar aq (l ++ [.terminate code, .work, .work, .work])).cleaned = true ∧
    (reach c ar aq (l ++ [.terminate code, .work, .work, .work])).running = false ∧
    (reach c ar aq (l ++ [.terminate code, .work, .work, .work])).trace =
      ((reach c ar aq (l ++ [.terminate code])).trace ++ [Ev.dh code true]) ++
        [Ev.log code ((reach c ar aq l).flags ||| DownStreamTerminate)] := by
  have := terminate_run c ar aq _ code (inv_run c ar aq l) hb hnr
  simpa [reach, run, List.foldl_append, step] using this

/-- **error_reply_codes**: the MOSN-generated replies carry the codes and response flags of the regenerated tables:
timeouts 504 + UpstreamRequestTimeout, pool overflow 503 + UpstreamOverflow, connection failure and upstream resets
502 with their flags, a reason outside the table 500; no route 404 + NoRouteFound; no healthy upstream 502 +
NoHealthyUpstream. -/
theorem error_reply_codes :
    reasonToCode .UpstreamGlobalTimeout = TimeoutExceptionCode ∧ reasonToFlag .UpstreamGlobalTimeout = UpstreamRequestTimeout ∧
    reasonToCode .UpstreamPerTryTimeout = TimeoutExceptionCode ∧ reasonToFlag .UpstreamPerTryTimeout = UpstreamRequestTimeout ∧
    reasonToCode (failReason .overflow) = UpstreamOverFlowCode ∧ reasonToFlag (failReason .overflow) = UpstreamOverflow ∧
    reasonToCode (failReason .connfail) = NoHealthUpstreamCode ∧ reasonToFlag (failReason .connfail) = UpstreamConnectionFailure ∧
    reasonToCode .StreamRemoteReset = NoHealthUpstreamCode ∧ reasonToFlag .StreamRemoteReset = UpstreamRemoteReset ∧
    reasonToCode .StreamConnectionTermination = InternalErrorCode ∧
    reasonToFlag .StreamConnectionTermination = UpstreamConnectionTermination := by
  decide

/-- a reset that is not retried is answered with exactly the table's code and flag (when no response has started) -/
theorem reset_reply (c : Cfg) (s : S) (r : Reason) (h : s.respStarted = false) :
    (onUpstreamResetFinish c s r).respCode = reasonToCode r ∧ (onUpstreamResetFinish c s r).statusVar = some (reasonToCode r) ∧
    (onUpstreamResetFinish c s r).flags = s.flags ||| reasonToFlag r ∧ (onUpstreamResetFinish c s r).direct = true := by
  unfold onUpstreamResetFinish
  simp [resetNotReply_eq, h, sendHijack, orFlag]

/-- route outcomes without an upstream: no route ⇒ 404 + NoRouteFound, no healthy host ⇒ 502 + NoHealthyUpstream -/
theorem route_reply (c : Cfg) (s : S) :
    (c.route = .noRoute → (chooseHost c s).respCode = RouterUnavailableCode ∧ (chooseHost c s).flags = s.flags ||| NoRouteFound ∧
      (chooseHost c s).direct = true) ∧
    (c.route = .noHost → (chooseHost c s).respCode = NoHealthUpstreamCode ∧ (chooseHost c s).flags = s.flags ||| NoHealthyUpstream ∧
      (chooseHost c s).direct = true) := by
  constructor <;> (intro hr; simp [chooseHost, hr, sendHijack, orFlag])

/-- **reply_body_own**: in every reachable state the response the stream holds is ONE answer — held data and held trailers
belong to the answer of the held headers (an upstream attempt's response stores its three parts together; a local reply —
no route, no healthy host, the code of an upstream reset / timeout / pool refusal after any number of retried attempts, a
direct response, `TerminateStream` — stores its own headers and, by the REGENERATED effects of `sendHijackReply` /
`sendHijackReplyWithBody`, clears the held data / trailers or replaces them by its own: a retried attempt's body never
survives into the local reply that follows) — and once response headers went downstream no label, on any schedule, stores
anything any more: the data / trailers the later phases write are the parts that were held when the headers were written.
So every downstream data / trailers event belongs to the same answer as the headers event before it. -/
theorem reply_body_own (c : Cfg) (ar aq : Nat) (l : List Label) :
    okS (reach c ar aq l) ∧
    ((reach c ar aq l).respStarted = true → ∀ l' : List Label,
      store (reach c ar aq (l ++ l')) = store (reach c ar aq l) ∧ (reach c ar aq (l ++ l')).respStarted = true) := by
  refine ⟨okS_run c ar aq l, fun hr l' => ?_⟩
  have := store_frozen c ar aq (reach c ar aq l) l' (inv_run c ar aq l) hr
  simpa [reach, run, List.foldl_append] using this

/-- the local reply itself: whatever the stream held before (the body and trailers of a retried attempt), after
`sendHijackReply[WithBody]` it holds exactly this reply — its data iff it has a body, no trailers, all its own -/
theorem local_reply_own (s : S) (code : Nat) (body : Bool) :
    (sendHijack s code body).resp = some ⟨body, false⟩ ∧ (sendHijack s code body).hTok = .loc ∧
    (sendHijack s code body).dTok = (if body then .loc else .none) ∧ (sendHijack s code body).tTok = .none := by
  rw [sendHijack_eq]; exact ⟨rfl, rfl, rfl, rfl⟩

/-- **stale_terminate_ignored**: `TerminateStream` on a handler that was created for another generation of the pooled
`downStream` object (a filter of an EARLIER request that kept its handler and calls it late, after its request finished and
the object was handed to this request) changes nothing, in every state: the regenerated step program tests the
generation before it claims anything. -/
theorem stale_terminate_ignored (c : Cfg) (s : S) (g code : Nat) (h : g ≠ c.gen) :
    step c s (.terminateStale g code) = s := by
  simp only [step]
  rw [terminateStale_eq]
  have : (g == c.gen) = false := by simpa using h
  simp [this]

/-- the refusal tests of `TerminateStream` in program order, and the kind of its claim (regenerated): stored response
headers, cleaned, generation, then a compare-and-swap on `upstreamResponseReceived` -/
theorem terminate_checks_in_order :
    Gen.ProxyTerminate.checks = [.responseHeaders, .cleaned, .generation, .claim] ∧ Gen.ProxyTerminate.claimKind = .cas := by
  decide

/-- **terminate_wins_or_loses_atomically**: exactly one of {upstream response, terminate reply} is delivered.
(1) An upstream response frame that lands INSIDE an accepted `TerminateStream` — after its claim of the response slot, while it
resets the upstream request — is dropped: the call with the interleaved frame is the call without it, in every state.
(2) A response frame that lands after the call (before the worker woke up) is dropped as well.
(3) And the other way round: after an upstream response was accepted, `TerminateStream` is refused and changes nothing. -/
theorem terminate_wins_or_loses_atomically (c : Cfg) (s : S) (code k rc : Nat) (d t : Bool) :
    step c s (.terminateRaced code k d t) = step c s (.terminate code) ∧
    ((step c s (.terminate code)).urr = true → lateRecv (step c s (.terminate code)) k d t = step c s (.terminate code)) ∧
    ((step c s (.upResp k rc d t)).resp.isSome = true →
      step c (step c s (.upResp k rc d t)) (.terminate code) = step c s (.upResp k rc d t)) := by
  refine ⟨?_, ?_, ?_⟩
  · simp only [step]; exact terminateRaced_eq c s code k d t
  · intro h; exact lateRecv_of_urr _ _ _ _ h
  · intro h
    simp only [step] at h ⊢
    rw [terminateL_eq]
    simp [h]

/-- an accepted `TerminateStream` claims the response slot: on every reachable parked state without a stored response,
the state after the call has `upstreamResponseReceived = 1` (so (2) above applies), the reply stored is the terminate reply -/
theorem terminate_claims (c : Cfg) (ar aq : Nat) (l : List Label) (code : Nat) (hb : blocked (reach c ar aq l) = true)
    (hnr : (reach c ar aq l).resp.isSome = false) :
    (reach c ar aq (l ++ [.terminate code])).urr = true ∧ (reach c ar aq (l ++ [.terminate code])).resp = some ⟨false, false⟩ ∧
    (reach c ar aq (l ++ [.terminate code])).hTok = .loc ∧ (reach c ar aq (l ++ [.terminate code])).direct = true := by
  obtain ⟨hcl, _, _, hurr, _⟩ := blocked_facts c ar aq _ (inv_run c ar aq l) hb
  have hpk : parked (reach c ar aq l) = true := by simpa [blocked, parked] using hb
  simp only [reach, run, List.foldl_append, List.foldl_cons, List.foldl_nil, step]
  simp only [reach, run] at hpk hnr hcl hurr
  rw [terminateL_eq]
  simp [asleep, hpk, hnr, hcl, hurr, terminateAcc]

/-- **global_timer_spans_retries**: the global timer armed when the request was completely sent is neither stopped nor
re-armed by a retry.  (1) `setupRetry` (accepting a retry) stops the per-try timer only — regenerated from its body.
(2) In every reachable state in which the request has been sent and the worker is past the sending phases — in particular
in the retry phase — NO label arms a global timer: the count of timers armed so far (its generation) is constant.
(3) While a retry is still possible the timer is armed or has fired (or a terminate reply is pending): nothing stopped it. -/
theorem global_timer_spans_retries (c : Cfg) (ar aq : Nat) (l : List Label) :
    (∀ eos, (setupRetry c (reach c ar aq l) eos).1.global = (reach c ar aq l).global ∧
      (setupRetry c (reach c ar aq l) eos).1.gtGen = (reach c ar aq l).gtGen) ∧
    ((reach c ar aq l).reqSent = true → sendingPhase (reach c ar aq l).phase = false → ∀ lb : Label,
      (reach c ar aq (l ++ [lb])).gtGen = (reach c ar aq l).gtGen ∧ (reach c ar aq (l ++ [lb])).reqSent = true) ∧
    ((reach c ar aq l).cleaned = false → c.oneway = false → (reach c ar aq l).reqSent = true → (reach c ar aq l).rs.isSome = true →
      (reach c ar aq l).global = true ∨ (reach c ar aq l).globalExpired = true ∨ (reach c ar aq l).direct = true) := by
  refine ⟨fun eos => ⟨(setupRetry_global c _ eos).1, (setupRetry_global c _ eos).2.1⟩, fun hq hp lb => ?_, (inv_run c ar aq l).k24⟩
  have := no_rearm c ar aq (reach c ar aq l) lb (inv_run c ar aq l) hq hp
  simpa [reach, run, List.foldl_append] using this

/-- **backoff_detached**: in every reachable state in which the worker sleeps in `doRetry`'s back-off (phase `Retry`), the
upstream request that was given up is detached — the stream's current request owns no client stream and carries no
`setupRetry` mark (regenerated `processError`: op `detachRetried`, `Gen.ProxyError.detachFresh`) -/
theorem backoff_detached (c : Cfg) (ar aq : Nat) (l : List Label) (hb : backoff (reach c ar aq l) = true) :
    (reach c ar aq l).up = some none ∧ (reach c ar aq l).setupRetry = false ∧ liveCount (reach c ar aq l).streams = 0 := by
  obtain ⟨_, hsr, hup, _, _, _, _, _, _, hlc, _⟩ := backoff_facts c ar aq _ (inv_run c ar aq l) hb
  exact ⟨hup, hsr, hlc⟩

/-- **late_response_ignored**: on every schedule, a response frame of a client stream that is delivered while the worker
sleeps in the back-off (the attempt was given up for a retry with the frame already in flight: per-try timeout, upstream
reset, retriable status) changes NOTHING — it is not accepted, so it can neither be forwarded in place of the next
attempt's answer nor leave that attempt without anybody to reset it.  (Together with `sender_once`, `outcome_total`,
`clean_once` and C10's ledger theorems, which quantify over schedules containing the label.) -/
theorem late_response_ignored (c : Cfg) (ar aq : Nat) (l : List Label) (k : Nat) (d t : Bool) :
    reach c ar aq (l ++ [.lateResp k d t]) = reach c ar aq l := by
  simp only [reach, run, List.foldl_append, List.foldl_cons, List.foldl_nil, step]
  exact lateBackoff_noop c ar aq _ k d t (inv_run c ar aq l)

/-- a back-off state is reachable: per-try timeout of attempt 0 on a retrying route, the worker has handled the reset -/
example : backoff (reach { retryOn := true, numRetries := 1, tryTimeout := true } 0 0
    (List.replicate 12 .work ++ [.perTryFire, .work])) = true := by decide +kernel
/-- the frame of attempt 0 lands there, attempt 1 is created and answers: the client gets attempt 1's reply, everything is given back -/
example : ((fun (s : S) => (s.trace, s.hTok, s.cleaned, s.upActive))
    (reach { retryOn := true, numRetries := 1, tryTimeout := true } 0 0
      (List.replicate 12 .work ++ [.perTryFire, .work, .lateResp 0 true false, .work, .work, .upResp 1 200 false false] ++
        List.replicate 4 .work))) =
    ([.un 0, .uh 0 true, .ur 0, .un 1, .uh 1 true, .dh 200 true, .log 200 4], .att 1, true, 0) := by decide +kernel
/-- the guard is what protects: were the given-up request still the current one (as before the fix `detachRetriedRequest`:
`processError` only cleared its `setupRetry` mark), the frame WOULD be accepted in that state -/
example : ((fun (s : S) => (lateBackoff { s with up := some (some 0) } 0 true false).urr)
    (reach { retryOn := true, numRetries := 1, tryTimeout := true } 0 0 (List.replicate 12 .work ++ [.perTryFire, .work]))) = true := by
  decide +kernel

-- non-vacuity: concrete schedules reaching the situations the theorems talk about
/-- a parked worker exists: request sent, upstream silent -/
example : blocked (reach {} 0 0 (List.replicate 12 .work)) = true := by decide +kernel
/-- the timeout reply on that state -/
example : (reach {} 0 0 (List.replicate 12 .work ++ [.globalFire, .work, .work, .work])).trace =
    [.un 0, .uh 0 true, .ur 0, .dh 504 true, .log 504 4] := by decide +kernel
/-- a retry after a 503 and a final 200: one reply, cleaned once -/
example : (reach { retryOn := true, numRetries := 1, maxRetries := 1 } 0 0
    (List.replicate 12 .work ++ [.upResp 0 503 false false] ++ List.replicate 5 .work ++ [.upResp 1 200 true false] ++
      List.replicate 6 .work)).trace =
    [.un 0, .uh 0 true, .un 1, .uh 1 true, .dh 200 false, .dd true, .log 200 0] := by decide +kernel
/-- terminate while parked on a retried attempt: the upstream request is reset, one reply, cleaned -/
example : (reach { retryOn := true, numRetries := 1, maxRetries := 1 } 0 0
    (List.replicate 12 .work ++ [.upReset 0 .StreamConnectionFailed] ++ List.replicate 5 .work ++ [.terminate 418] ++
      List.replicate 3 .work)).trace =
    [.un 0, .uh 0 true, .un 1, .uh 1 true, .ur 1, .dh 418 true, .log 418 DownStreamTerminate] := by decide +kernel
/-- a partial response: the head of a streamed 200 (body in flight) is forwarded and the worker waits for the body … -/
example : bodyWait (reach { retryOn := true, numRetries := 2 } 0 0
    (List.replicate 12 .work ++ [.upRespS 0 200 true false] ++ List.replicate 3 .work)) = true ∧
    (reach { retryOn := true, numRetries := 2 } 0 0
      (List.replicate 12 .work ++ [.upRespS 0 200 true false] ++ List.replicate 3 .work)).trace =
    [.un 0, .uh 0 true, .dh 200 false] := by decide +kernel
/-- … the upstream connection is terminated (a retriable reason, retry budget left): no retry, the client is reset … -/
example : (reach { retryOn := true, numRetries := 2 } 0 0
    (List.replicate 12 .work ++ [.upRespS 0 200 true false] ++ List.replicate 3 .work ++
      [.upReset 0 .StreamConnectionTermination, .work, .work])).trace =
    [.un 0, .uh 0 true, .dh 200 false, .dr, .log 504 0] := by decide +kernel
/-- … or the body ends and the response is completed -/
example : (reach { retryOn := true, numRetries := 2 } 0 0
    (List.replicate 12 .work ++ [.upRespS 0 200 true true] ++ List.replicate 3 .work ++ [.upEnd 0, .work, .work])).trace =
    [.un 0, .uh 0 true, .dh 200 false, .dd false, .dt, .log 200 0] := by decide +kernel
/-- the hypotheses of `partial_reset_completes` are met on that schedule -/
example : ((fun (s : S) => (s.running, s.upReset, s.respStarted))
    (reach { retryOn := true, numRetries := 2 } 0 0
      (List.replicate 12 .work ++ [.upRespS 0 200 true false] ++ List.replicate 3 .work ++
        [.upReset 0 .StreamConnectionTermination]))) = (true, true, true) := by decide +kernel
/-- a streamed 503 on a retrying route is swallowed before anything reaches the client: the open stream is reset by the
proxy and the request retried (nothing was forwarded, so this retry is legitimate) -/
example : (reach { retryOn := true, numRetries := 1, maxRetries := 1 } 0 0
    (List.replicate 12 .work ++ [.upRespS 0 503 true false] ++ List.replicate 5 .work)).trace =
    [.un 0, .uh 0 true, .ur 0, .un 1, .uh 1 true] := by decide +kernel
/-- client gone while waiting: classified, not silent -/
example : outcome {} (reach {} 0 0 (List.replicate 12 .work ++ [.downReset .StreamConnectionTermination, .work])) = .clientGone := by
  decide +kernel
/-- attempt 0 answers a retriable 503 WITH a body, the retried attempt is reset by the peer: the local 502 goes out
header-only — the body of the abandoned exchange is gone — and its parts are the local reply's own -/
example : ((fun (s : S) => (s.trace, s.resp, s.hTok, s.dTok))
    (reach { retryOn := true, numRetries := 1 } 0 0
      (List.replicate 12 .work ++ [.upResp 0 503 true false] ++ List.replicate 5 .work ++ [.upReset 1 .StreamRemoteReset] ++
        List.replicate 5 .work))) =
    ([.un 0, .uh 0 true, .un 1, .uh 1 true, .dh 502 true, .log 502 16], some ⟨false, false⟩, .loc, .none) := by decide +kernel
/-- … while the retried response itself was stored as attempt 0's, all three parts -/
example : ((fun (s : S) => (s.resp, s.hTok, s.dTok, s.tTok))
    (reach { retryOn := true, numRetries := 1 } 0 0 (List.replicate 12 .work ++ [.upResp 0 503 true true]))) =
    (some ⟨true, true⟩, .att 0, .att 0, .att 0) := by decide +kernel
/-- a stale handler (generation 0, the request has generation 1) is ignored on a parked worker; one of this generation is not -/
example : (reach {} 0 0 (List.replicate 12 .work ++ [.terminateStale 0 419]) == reach {} 0 0 (List.replicate 12 .work)) = true ∧
    (reach {} 0 0 (List.replicate 12 .work ++ [.terminateStale 1 419])).direct = true := by decide +kernel
/-- the raced terminate on the parked worker: the in-flight 200 with body is dropped, the client gets the header-only 418 -/
example : (reach {} 0 0 (List.replicate 12 .work ++ [.terminateRaced 418 0 true false] ++ List.replicate 3 .work)).trace =
    [.un 0, .uh 0 true, .ur 0, .dh 418 true, .log 418 DownStreamTerminate] := by decide +kernel
/-- a retry after a per-try timeout: one global timer was armed (at the first request-sent), the retry armed none -/
example : ((fun (s : S) => (s.gtGen, s.global, s.perTry, s.trace))
    (reach { retryOn := true, numRetries := 1, tryTimeout := true } 0 0
      (List.replicate 12 .work ++ [.perTryFire] ++ List.replicate 5 .work))) =
    (1, true, true, [.un 0, .uh 0 true, .ur 0, .un 1, .uh 1 true]) := by decide +kernel
/-- … whereas a request whose first attempt was refused half-way is armed by its first retry (the only arming a retry does) -/
example : ((fun (s : S) => (s.gtGen, s.global))
    (reach { hasData := true } 0 0 ([.poolFail .connfail] ++ List.replicate 12 .work))) = (1, true) := by decide +kernel

/-! ## The back-off sleep of `doRetry` is a state of the machine

The worker asleep in `doRetry`'s back-off is the state `backoff` (phase `Retry`, not yet woken).  Every label may fire there —
the asynchronous `TerminateStream` (`terminate` / `terminateStale` / `terminateRaced`: delivered whenever the worker is
`asleep`), a late frame of the given-up attempt (`lateResp`), the global timer callback (`globalFire`; `gtInSetup` when it had
landed inside `setupRetry`), the client's departure (`downReset`, `connClose`), resets / answers of dead streams, `hostsGone`,
`poolFail` — and `work` in that state is the wake-up: the REGENERATED `doRetry` (`Gen.ProxyBackoff.doRetry`) with what it
re-checks after the sleep.  So `sender_once`, `clean_once`, `outcome_total`, `worker_returns_iff_cleaned`, … above and C10's
ledger theorems quantify over schedules with all these interleavings (`inv_run` is proved for the whole label type).  The
theorems below say what the wake-up does. -/

/-- **terminate_in_backoff_accepted_iff**: on every schedule that leaves the worker in `doRetry`'s back-off sleep, an
asynchronous `TerminateStream(code)` delivered there (label `terminate`: regenerated step program `Gen.ProxyTerminate`) is
accepted exactly when no response headers are stored (the attempt was given up for a reset / per-try timeout, not for its
status) and the response slot is free (neither the global timer nor an earlier call took it meanwhile); the call itself
writes nothing to the trace, the worker stays asleep, and an accepted call leaves the header-only local reply `code` pending. -/
theorem terminate_in_backoff_accepted_iff (c : Cfg) (ar aq : Nat) (l : List Label) (code : Nat)
    (hb : backoff (reach c ar aq l) = true) (hnd : (reach c ar aq l).direct = false) :
    (reach c ar aq (l ++ [.terminate code])).trace = (reach c ar aq l).trace ∧
    backoff (reach c ar aq (l ++ [.terminate code])) = true ∧
    ((reach c ar aq (l ++ [.terminate code])).direct = true ↔
      ((reach c ar aq l).resp.isSome = false ∧ (reach c ar aq l).urr = false)) ∧
    ((reach c ar aq (l ++ [.terminate code])).direct = true →
      (reach c ar aq (l ++ [.terminate code])).respCode = code ∧
      (reach c ar aq (l ++ [.terminate code])).resp = some ⟨false, false⟩) := by
  have h := terminate_backoff_spec c ar aq (reach c ar aq l) code (inv_run c ar aq l) hb
  simp only [reach, run, List.foldl_append, List.foldl_cons, List.foldl_nil, step]
  simp only [reach, run] at h hnd
  refine ⟨h.1, h.2.2.1, ?_, fun hd => ⟨(h.2.2.2.2.2.2 hnd hd).2.1, (h.2.2.2.2.2.2 hnd hd).2.2⟩⟩
  rw [h.2.2.2.2.2.1]
  simp [hnd]

/-- **terminate_in_backoff_not_forwarded** (C14: a denied request is never forwarded; C03: one reply): on every schedule that
leaves the worker in the back-off with a local reply pending — an asynchronous `TerminateStream` was ACCEPTED there, whatever
else landed during the rest of the sleep (the client's departure, the connection close, late frames, the global timer …) —
the wake-up (`work`: the regenerated `doRetry` returns at its test `if s.directResponse`, then `processError`) creates NO
upstream attempt — no `NewStream`, admitted or refused, no new client stream — and the worker leaves the Retry phase (the
pending reply goes to the response pass; or, the client gone, the stream is cleaned).  No hypothesis on `downstreamReset`. -/
theorem terminate_in_backoff_not_forwarded (c : Cfg) (ar aq : Nat) (l : List Label)
    (hb : backoff (reach c ar aq l) = true) (hacc : (reach c ar aq l).direct = true) :
    (reach c ar aq (l ++ [.work])).streams.length = (reach c ar aq l).streams.length ∧
    (reach c ar aq (l ++ [.work])).trace.filter attemptEv = (reach c ar aq l).trace.filter attemptEv ∧
    ((reach c ar aq (l ++ [.work])).running = false ∨ (reach c ar aq (l ++ [.work])).phase ≠ .Retry) := by
  have hi := inv_run c ar aq l
  obtain ⟨hcl, _, _, _, _, _, _, _, _, _, _, hdf⟩ := backoff_facts c ar aq _ hi hb
  have := wake_direct_no_attempt c (reach c ar aq l) hb hacc hcl (hdf hacc).2.1
  simpa [reach, run, List.foldl_append, step, att] using this

/-- **backoff_wake_no_attempt** (sensitivity: `doRetry` must re-check after its sleep): on every schedule that leaves the worker
in the back-off, when meanwhile the client left (`downstreamReset`), an upstream reset was raised (the global timer fired
during the sleep), a local reply became pending, or the expiry of the global timeout was recorded (its callback landed inside
`setupRetry`), the wake-up creates no upstream attempt.  Rests on the regenerated guards: `upstreamRequest.appendHeaders`
starts with `processDone()` = `upstreamProcessDone || downstreamReset == 1 || upstreamReset == 1`, `doRetry` tests
`directResponse` and `globalTimeoutExpired` after the sleep. -/
theorem backoff_wake_no_attempt (c : Cfg) (ar aq : Nat) (l : List Label) (hb : backoff (reach c ar aq l) = true)
    (h : (reach c ar aq l).downReset = true ∨ (reach c ar aq l).upReset = true ∨ (reach c ar aq l).direct = true ∨
      (reach c ar aq l).globalExpired = true) :
    (reach c ar aq (l ++ [.work])).trace.filter attemptEv = (reach c ar aq l).trace.filter attemptEv := by
  have hi := inv_run c ar aq l
  obtain ⟨_, _, hup, _⟩ := backoff_facts c ar aq _ hi hb
  have := wake_no_attempt c (reach c ar aq l) hb (by
    rcases h with h | h | h | h
    · exact Or.inr (Or.inr (Or.inl h))
    · exact Or.inr (Or.inr (Or.inr h))
    · exact Or.inl h
    · exact Or.inr (Or.inl ⟨h, by rw [hup]; rfl⟩))
  simpa [reach, run, List.foldl_append, step, att] using this

/-- the regenerated guards the two theorems above rest on, as the Go source has them -/
theorem backoff_guards_regenerated :
    Gen.ProxyPhase.retrySkipsOnDirect = true ∧ Gen.ProxyBackoff.appendHeadersChecksDone = true ∧
    Gen.ProxyBackoff.appendDataChecksDone = true ∧ Gen.ProxyBackoff.appendTrailersChecksDone = true ∧
    (∀ pd dr ur, Gen.ProxyBackoff.processDone pd dr ur = (pd || dr || ur)) := by
  refine ⟨by decide, by decide, by decide, by decide, ?_⟩
  intro pd dr ur; cases pd <;> cases dr <;> cases ur <;> rfl

/-- the machine's `processDone` is the regenerated one -/
theorem processDone_regenerated (s : S) :
    processDone s = Gen.ProxyBackoff.processDone s.procDone s.downReset s.upReset := by
  simp [processDone, Gen.ProxyBackoff.processDone]

/-- non-vacuity: attempt 0 reset (connection failed, retried), the worker sleeps, TerminateStream(418) lands, the worker wakes:
ONE attempt, the client gets the 418, everything is given back -/
example : ((fun (s : S) => (s.trace, s.cleaned, s.upActive, s.retries))
    (reach { retryOn := true, numRetries := 1, maxRetries := 1 } 0 0
      (List.replicate 12 .work ++ [.upReset 0 .StreamConnectionFailed, .work, .terminate 418] ++ List.replicate 4 .work))) =
    ([.un 0, .uh 0 true, .dh 418 true, .log 418 0x2000], true, 0, 0) := by decide +kernel
/-- … the same with the client leaving during the rest of the sleep: no attempt, no reply, the stream is cleaned -/
example : ((fun (s : S) => (s.trace, s.cleaned, s.upActive, s.retries))
    (reach { retryOn := true, numRetries := 1, maxRetries := 1 } 0 0
      (List.replicate 12 .work ++ [.upReset 0 .StreamConnectionFailed, .work, .terminate 418,
        .downReset .StreamConnectionTermination] ++ List.replicate 2 .work))) =
    ([.un 0, .uh 0 true, .log 504 0x2000], true, 0, 0) := by decide +kernel
/-- the client leaves during the back-off (no terminate): the wake-up creates no attempt 1 -/
example : ((fun (s : S) => (s.trace, s.cleaned, s.upActive))
    (reach { retryOn := true, numRetries := 1 } 0 0
      (List.replicate 12 .work ++ [.upReset 0 .StreamConnectionFailed, .work, .downReset .StreamConnectionTermination, .work]))) =
    ([.un 0, .uh 0 true, .log 504 0], true, 0) := by decide +kernel
/-- a retry because of the STATUS keeps the stale response headers: the call is refused, the retry goes on -/
example : (reach { retryOn := true, numRetries := 1 } 0 0
      (List.replicate 12 .work ++ [.upResp 0 503 false false] ++ List.replicate 3 .work ++ [.terminate 418])).direct = false ∧
    backoff (reach { retryOn := true, numRetries := 1 } 0 0
      (List.replicate 12 .work ++ [.upResp 0 503 false false] ++ List.replicate 3 .work)) = true := by decide +kernel

/-! ## The reply MOSN generates itself exists on the wire, for every xprotocol codec (Model/XHijack.lean) -/
section XHijack
open MosnVerif.Model.XHijack

/-- **local_reply_frame_exists**: for every codec, every request id and EVERY http-style code (in particular every code MOSN
generates: 404, 502, 503, 504, 500, the code of a stream filter's hijack / TerminateStream) the server stream has a frame to
write: Hijack does not return nil, Mapping / the status map (default branch included) yields a defined protocol status,
buildHijackResp goes through Mapping and endStream writes a non-nil frame. -/
theorem local_reply_frame_exists (c : Codec) (reqId code : Nat) : (wire c reqId code).isSome = true := by
  rw [MosnVerif.Lemmas.XHijack.wire_eq]; simp [MosnVerif.Lemmas.XHijack.status_isSome]

/-- **local_reply_decodes_and_correlates_partial**: the reply carries the REQUEST's id and both fields fit the codec's wire
fields (id below 2^idBits when the request's id is, status below 2^statusBits), so the field encoders of the codec models are
injective on them. Full statement (not proved here): `decode c (encode c reply) = reply` over the byte-level codec models of
C01 (Model/Bolt, Dubbo, Tars); the byte-level round trip is covered by the correspondence run only (dec=1: MOSN's codec
decodes the frame with this id and status). -/
theorem local_reply_decodes_and_correlates_partial (c : Codec) (reqId code : Nat) (r : Reply)
    (h : wire c reqId code = some r) : r.id = reqId ∧ r.status < 2 ^ statusBits c := by
  rw [MosnVerif.Lemmas.XHijack.wire_eq] at h
  cases hs : status c (code % two32) with
  | none => rw [hs] at h; cases h
  | some st =>
    rw [hs] at h
    simp only [Option.map_some, Option.some.injEq] at h
    subst h
    exact ⟨rfl, MosnVerif.Lemmas.XHijack.status_bounded c _ _ hs⟩

example : wire .tars 7 404 = some ⟨7, 4294967292⟩ := by decide +kernel
example : wire .bolt 4294967295 504 = some ⟨4294967295, 7⟩ := by decide +kernel
example : wire .dubbo 5 418 = some ⟨5, 70⟩ := by decide +kernel

/-- **mapping_total**: every code maps to a defined protocol status; a code outside the codec's table takes the default
branch (bolt / boltv2: ResponseStatusUnknown; dubbo: Response_SERVICE_ERROR; dubbo-thrift: the zero value of the unchecked
map lookup = UNKNOWN_APPLICATION_EXCEPTION; tars: TARSSERVERUNKNOWNERR). -/
theorem mapping_total (c : Codec) (code : Nat) :
    (∃ st, status c code = some st) ∧ ((table c).lookup code = none → statusName c code = dflt c) :=
  ⟨Option.isSome_iff_exists.mp (MosnVerif.Lemmas.XHijack.status_isSome c code), fun h => by simp [statusName, h]⟩

example : statusName .bolt 418 = "ResponseStatusUnknown" ∧ status .bolt 418 = some 3 := by decide +kernel
example : statusName .tars 418 = "TARSSERVERUNKNOWNERR" := by decide +kernel

/-- **oneway_never_answered**: a one-way request is never answered, whatever the cause and the code; a heartbeat is answered
by the stream layer's ack only (never by a hijack reply). -/
theorem oneway_never_answered (c : Codec) (up : Bool) (reqId code : Nat) :
    replies c .ow up reqId code = [] ∧ (replies c .hb up reqId code).all (·.1) = true := by
  constructor <;> rfl

/-- **two_way_answered_once**: a two-way request that MOSN ends itself is answered by exactly one frame -/
theorem two_way_answered_once (c : Codec) (up : Bool) (reqId code : Nat) : (replies c .tw up reqId code).length = 1 := by
  unfold replies
  cases up
  · have h := local_reply_frame_exists c reqId code
    cases hw : wire c reqId code with
    | none => rw [hw] at h; cases h
    | some r => simp
  · simp

/-- negation witness (the silence): with a Hijack that returns nil (tars before 3303a3fc8) nothing is written, for every code -/
example : ∀ code ∈ [404, 502, 503, 504, 500], hijackWith true true .tars 7 code = none := by decide +kernel

end XHijack

/-- **global_timeout_in_retry_setup**: the global timer callback that lands INSIDE `setupRetry` — after the test of
`globalTimeoutExpired`, with the given-up upstream request marked, before (`afterCas = false`) or after (`true`) the response
slot is swung back: label `gtInSetup` — has its reset dropped by the marked request, but records the expiry; on every schedule
the wake-up that follows creates NO further attempt (`doRetry` re-checks the expiry: fix fac205b27), and — nothing else
happening — three more worker steps answer the request with the timeout reply and clean the stream: the timeout is not lost. -/
theorem global_timeout_in_retry_setup (c : Cfg) (ar aq : Nat) (l : List Label) (b : Bool)
    (hb : backoff (reach c ar aq l) = true) (hg : (reach c ar aq l).global = true) :
    (reach c ar aq (l ++ [.gtInSetup b])).globalExpired = true ∧ (reach c ar aq (l ++ [.gtInSetup b])).global = false ∧
    backoff (reach c ar aq (l ++ [.gtInSetup b])) = true ∧
    (reach c ar aq (l ++ [.gtInSetup b, .work])).trace.filter attemptEv = (reach c ar aq l).trace.filter attemptEv := by
  have e : reach c ar aq (l ++ [.gtInSetup b]) =
      { reach c ar aq l with global := false, globalExpired := true, urr := (reach c ar aq l).urr || b } := by
    simp only [reach, run, List.foldl_append, List.foldl_cons, List.foldl_nil, step, gtInSetup]
    simp only [reach, run] at hb hg
    have hrec : globalCallbackRecordsExpiry = true := by decide +kernel
    simp [hb, hg, hrec]
  have hb2 : backoff (reach c ar aq (l ++ [.gtInSetup b])) = true := by rw [e]; simpa [backoff] using hb
  have hx : (reach c ar aq (l ++ [.gtInSetup b])).globalExpired = true := by rw [e]
  refine ⟨hx, by rw [e], hb2, ?_⟩
  have h2 := backoff_wake_no_attempt c ar aq _ hb2 (Or.inr (Or.inr (Or.inr hx)))
  have e2 : l ++ [Label.gtInSetup b, .work] = (l ++ [.gtInSetup b]) ++ [.work] := by simp
  rw [e2, h2, e]

/-- non-vacuity: attempt 0 reset and retried, the global timer fires inside `setupRetry` after the swing; the upstream stays
silent: the client gets the 504 (on the code before fac205b27 attempt 1 was created here and nothing ever answered) -/
example : ((fun (s : S) => (s.trace, s.cleaned, s.upActive))
    (reach { retryOn := true, numRetries := 1 } 0 0
      (List.replicate 12 .work ++ [.upReset 0 .StreamConnectionFailed, .work, .gtInSetup true] ++ List.replicate 4 .work))) =
    ([.un 0, .uh 0 true, .dh 504 true, .log 504 4], true, 0) := by decide +kernel
/-- … before the swing (retriable status): the same -/
example : ((fun (s : S) => (s.trace, s.cleaned))
    (reach { retryOn := true, numRetries := 1 } 0 0
      (List.replicate 12 .work ++ [.upResp 0 503 false false] ++ List.replicate 3 .work ++ [.gtInSetup false] ++
        List.replicate 4 .work))) =
    ([.un 0, .uh 0 true, .dh 504 true, .log 504 4], true) := by decide +kernel

/-- **streamed_reset_any_phase**: the reset of the open client stream of a streamed response (head accepted, body in flight)
is a label of the machine in EVERY state — also while the worker has not yet consumed the wake-up of the head, runs the
sender filters, or is about to forward the head: on every schedule, for every live, counted, listened client stream, the label
raises `upstreamReset` (unless one is pending), destroys the stream, and writes nothing downstream.  With `sender_once` /
`outcome_total` / `ledger_exact` quantifying over such schedules: before the head is forwarded the reset is answered or
retried like any reset, after it the client stream is reset (`partial_reset_completes`). -/
theorem streamed_reset_any_phase (c : Cfg) (ar aq : Nat) (l : List Label) (k : Nat) (r : Reason) (st : Stream)
    (hk : (reach c ar aq l).streams[k]? = some st)
    (hst : st.real = true ∧ st.live = true ∧ st.counted = true ∧ st.listening = true) :
    (reach c ar aq (l ++ [.upReset k r])).upReset = true ∧
    (reach c ar aq (l ++ [.upReset k r])).trace = (reach c ar aq l).trace ∧
    liveCount (reach c ar aq (l ++ [.upReset k r])).streams = 0 := by
  obtain ⟨hcl, e⟩ := upReset_live (inv_run c ar aq l) k r st hk hst
  have hi2 := inv_run c ar aq (l ++ [.upReset k r])
  simp only [reach, run, List.foldl_append, List.foldl_cons, List.foldl_nil] at e hcl hi2 ⊢
  rw [e] at hi2 ⊢
  exact ⟨rfl, rfl, hi2.k23 hcl (Or.inl rfl)⟩

/-- non-vacuity: the head of a streamed 200 is accepted, the worker has NOT yet run (wake-up pending in WaitNotify), the stream
is reset with a retriable reason and budget left: retried — nothing had gone downstream; the retried attempt answers -/
example : ((fun (s : S) => (s.trace, s.cleaned, s.upActive))
    (reach { retryOn := true, numRetries := 1 } 0 0 (List.replicate 12 .work ++
      [.upRespS 0 200 true false, .upReset 0 .StreamConnectionTermination, .work, .work, .work, .upResp 1 200 false false] ++
      List.replicate 4 .work))) =
    ([.un 0, .uh 0 true, .un 1, .uh 1 true, .dh 200 true, .log 200 0], true, 0) := by decide +kernel
/-- … at UpRecvHeader (the head about to be forwarded), no retry policy: the error reply of the reason, one reply -/
example : ((fun (s : S) => (s.phase, s.trace))
    (reach {} 0 0 (List.replicate 12 .work ++ [.upRespS 0 200 true false, .work, .work]))) = (.UpRecvHeader, [.un 0, .uh 0 true]) ∧
    ((fun (s : S) => (s.trace, s.cleaned, s.upActive))
    (reach {} 0 0 (List.replicate 12 .work ++ [.upRespS 0 200 true false, .work, .work, .upReset 0 .StreamRemoteReset] ++
      List.replicate 4 .work))) =
    ([.un 0, .uh 0 true, .dh 502 true, .log 502 16], true, 0) := by decide +kernel

/-- **cleaned_holds_nothing**: on every schedule, once the stream is cleaned it holds no upstream request — no client stream is
live, the upstream gauge is back at the ambient value 0, both timers are stopped: `cleanStream` resets the upstream request
whenever one exists that is not done (two-way), in EVERY phase (the regenerated condition `Gen.ProxyBackoff.cleanResets` reads
neither the phase nor the retry mark) — in particular when the client leaves while the wake-up from the back-off is sending
the next attempt. -/
theorem cleaned_holds_nothing (c : Cfg) (ar aq : Nat) (l : List Label) (h : (reach c ar aq l).cleaned = true) :
    liveCount (reach c ar aq l).streams = 0 ∧ (reach c ar aq l).upActive = 0 ∧ (reach c ar aq l).perTry = false ∧
    (reach c ar aq l).global = false ∧
    (∀ s : S, ∀ p m, Gen.ProxyBackoff.cleanResets (resetFlags c s) p m = (s.up.isSome && !s.procDone && !c.oneway)) := by
  have hi := inv_run c ar aq l
  obtain ⟨_, h1, h2, h3⟩ := hi.k13 h
  refine ⟨h1, ?_, h2, h3, fun s => cleanResets_regenerated c s⟩
  have := hi.k11
  simp only [K11, h1] at this
  simpa using this

/-- non-vacuity: a request with a body is retried; the client leaves after attempt 1 was sent by the wake-up: it is reset -/
example : ((fun (s : S) => (s.trace, s.cleaned, s.upActive))
    (reach { hasData := true, retryOn := true, numRetries := 1 } 0 0
      (List.replicate 12 .work ++ [.upReset 0 .StreamConnectionFailed, .work, .work, .downReset .StreamConnectionTermination, .work]))) =
    ([.un 0, .uh 0 false, .ud 0 true, .un 1, .uh 1 false, .ud 1 true, .ur 1, .log 504 0], true, 0) := by decide +kernel

/-- **global_timer_armed_once**: on EVERY schedule — retries, late frames, timer callbacks inside the retry set-up, the client's
departure, TerminateStream at any sleeping point — the global timer of a request is created at most once (`gtGen ≤ 1`), and not
before the request was completely sent.  The arm sites are regenerated: `onUpstreamRequestSent` is the only function of
pkg/proxy that assigns `responseTimer` a timer, `cleanUp` the only one that forgets it, and `onUpstreamRequestSent` is called by
`receiveHeaders` / `receiveData` / `receiveTrailers` (for the part that completes the request) and by `doRetry` (when no timer
object exists); the machine's `onUpstreamRequestSent` IS the regenerated step program. -/
theorem global_timer_armed_once (c : Cfg) (ar aq : Nat) (l : List Label) :
    (reach c ar aq l).gtGen ≤ 1 ∧ ((reach c ar aq l).reqSent = false → (reach c ar aq l).gtGen = 0) ∧
    Gen.ProxyBackoff.armSites = ["onUpstreamRequestSent"] ∧ Gen.ProxyBackoff.forgetSites = ["cleanUp"] ∧
    Gen.ProxyBackoff.requestSentCallers = ["doRetry", "receiveData", "receiveHeaders", "receiveTrailers"] ∧
    (∀ s : S, onUpstreamRequestSent c s = Gen.ProxyBackoff.onUpstreamRequestSent (sentOps c) s) := by
  have t := tinv_run c ar aq l
  exact ⟨t.once, t.unsent, global_timer_sites.1, global_timer_sites.2.1, global_timer_sites.2.2,
    onUpstreamRequestSent_regenerated c⟩

/-- **retry_setup_regenerated**: the pieces of the retry set-up the machine uses are the regenerated step programs of the Go
functions (`Gen.ProxyBackoff`): `setupRetry` (expiry test, mark, reset of the upstream request, per-try timer, swing of the
response slot — with the worker's two yield sites as interleaving points), the global timer callback (clean test, expiry
record, compare-and-swap, `onResponseTimeout`), `upstreamRequest.OnResetStream` (dropped when the request is marked), and the
condition under which `cleanStream` resets the upstream request (independent of the phase and of the mark). -/
theorem retry_setup_regenerated (c : Cfg) (s : S) :
    (∀ eos, setupRetry c s eos = Gen.ProxyBackoff.setupRetry (srOps c) id id eos s) ∧
    (globalFire c s = if !s.global then s else Gen.ProxyBackoff.globalCallback (gcOps c) { s with global := false }) ∧
    (∀ r, upOnResetStream s r = Gen.ProxyBackoff.onResetStream (rsOps r) s) ∧
    (∀ p m, Gen.ProxyBackoff.cleanResets (resetFlags c s) p m = (s.up.isSome && !s.procDone && !c.oneway)) :=
  ⟨setupRetry_regenerated c s, globalFire_regenerated c s, upOnResetStream_regenerated s, cleanResets_regenerated c s⟩

/-- non-vacuity: a request with a body whose first attempt is refused half-way arms its global timer at the first retry — once -/
example : ((fun (s : S) => (s.gtGen, s.global, s.gtObj))
    (reach { hasData := true, retryOn := true, numRetries := 2 } 0 0
      ([.poolFail .connfail] ++ List.replicate 12 .work ++ [.upReset 1 .StreamConnectionFailed] ++ List.replicate 4 .work))) =
    (1, true, true) := by decide +kernel

/-- **the label `gtInSetup` is the global timer callback run INSIDE the regenerated `setupRetry`** (window (a): between the
compare-and-swap of `setupRetry` and `processError` detaching the marked request).  `Gen.ProxyBackoff.setupRetry o w1 w2` is the
regenerated step program with the worker's two yield sites as interleaving points (`w1` after the mark, `w2` after the swing of
`upstreamResponseReceived`); `gtCallback` is the regenerated callback of a timer that has fired.  For every state in which the
worker calls `setupRetry` with the timer armed: run the callback at a site, finish `setupRetry`, then the rest of the worker's
phase (`restOfPhase`: `upstreamReset` cleared, `processError` detaches the marked request and hands back `Retry`) — the state the
worker goes to sleep in is the back-off state of the UN-interleaved run followed by the label `gtInSetup false` (site 1) resp.
`gtInSetup true` (site 2), up to `normL`: the listener registration of the client stream that is gone (which nothing reads).
At site 1 with the slot free the callback's own reset of the given-up request is covered for `setupRetry(true)` (retry after an
upstream reset: the client stream is gone); with the slot taken (retry on a response status) the callback only records the expiry. -/
theorem global_timeout_window_is_label (c : Cfg) (s : S) (eos e : Bool) (hc : s.cleaned = false) (he : s.globalExpired = false)
    (hu : s.up.isSome = true) (hd : s.downReset = false) (hdi : s.direct = false) (hg : s.global = true)
    (hrun : s.running = true) (hp : s.pass < Gen.ProxyPhase.loopBudget) :
    ((s.urr = true ∨ (eos = true ∧ ∀ k, curStream s = some k → streamLive s k = false)) →
      normL (restOfPhase c (Gen.ProxyBackoff.setupRetry (srOps c) (gtCallback c) id eos s).1 e) =
        normL (gtInSetup (restOfPhase c (setupRetry c s eos).1 e) false)) ∧
    ((∀ k, curStream (setupRetry c s eos).1 = some k → streamLive (setupRetry c s eos).1 k = false) →
      normL (restOfPhase c (Gen.ProxyBackoff.setupRetry (srOps c) id (gtCallback c) eos s).1 e) =
        normL (gtInSetup (restOfPhase c (setupRetry c s eos).1 e) true)) :=
  ⟨gtInSetup_after_mark c s eos e hc he hu hd hdi hg hrun hp, gtInSetup_after_swing c s eos e hc he hu hd hdi hg hrun hp⟩

/-- the two windows in closed form (no hypothesis on the client stream): after the swing the callback wins the slot, resets the
given-up request once more and its `OnResetStream` is dropped; after the mark it wins only a free slot, and `setupRetry` frees
the slot again -/
theorem global_timeout_windows_closed_form (c : Cfg) (s : S) (eos : Bool) (hc : s.cleaned = false) (he : s.globalExpired = false)
    (hu : s.up.isSome = true) :
    (Gen.ProxyBackoff.setupRetry (srOps c) id (gtCallback c) eos s).1 =
      resetUpstream c { (setupRetry c s eos).1 with global := false, globalExpired := true, urr := true } ∧
    (Gen.ProxyBackoff.setupRetry (srOps c) (gtCallback c) id eos s).1 =
      { (setupRetry c (if s.urr then s else resetUpstream c s) eos).1 with global := false, globalExpired := true } :=
  ⟨setupRetry_window_after_swing c s eos hc he hu, setupRetry_window_after_mark c s eos hc he hu⟩

/-- the state in which the worker handles the reset of attempt 0 (timer armed, slot free, client stream gone) -/
def exWinCfg : Cfg := { retryOn := true, numRetries := 1 }
def exWinState : S := reach exWinCfg 0 0 (List.replicate 12 .work ++ [.upReset 0 .StreamConnectionFailed])

/-- non-vacuity: that state satisfies every hypothesis, and there the interleaved run and the label agree up to `normL` but NOT
literally -/
example :
    (!exWinState.cleaned && !exWinState.globalExpired && exWinState.up.isSome && !exWinState.downReset && !exWinState.direct &&
      exWinState.global && exWinState.running && exWinState.pass == 0 && !exWinState.urr &&
      !(match curStream exWinState with | some k => streamLive exWinState k | none => false)) = true ∧
    (restOfPhase exWinCfg (Gen.ProxyBackoff.setupRetry (srOps exWinCfg) id (gtCallback exWinCfg) true exWinState).1 true ==
      gtInSetup (restOfPhase exWinCfg (setupRetry exWinCfg exWinState true).1 true) true) = false ∧
    (normL (restOfPhase exWinCfg (Gen.ProxyBackoff.setupRetry (srOps exWinCfg) id (gtCallback exWinCfg) true exWinState).1 true) ==
      normL (gtInSetup (restOfPhase exWinCfg (setupRetry exWinCfg exWinState true).1 true) true)) = true := by decide +kernel

/-- **the machine's `s.responseTimer != nil` is the pointer field**: `doRetry` arms both timers only when no timer object exists.
The machine reads that test as `hasTimerObj` (so that `inv_run` needs no fact about the pointer); on every schedule an armed
global timer has an object and an object exists only after the request was sent, hence `hasTimerObj` equals the field `gtObj`
(set where the timer is created — the regenerated arm site —, kept when the timer fires or is stopped, forgotten by `cleanUp`). -/
theorem timer_object_is_pointer (c : Cfg) (ar aq : Nat) (l : List Label) :
    hasTimerObj (reach c ar aq l) = (reach c ar aq l).gtObj ∧
    ((reach c ar aq l).global = true → (reach c ar aq l).gtObj = true) ∧
    ((reach c ar aq l).gtObj = true → (reach c ar aq l).reqSent = true) :=
  ⟨hasTimerObj_eq c ar aq l, (timer_object_run c ar aq l).1, (timer_object_run c ar aq l).2⟩

/-- **attempts_bounded** (on the shared machine, the back-off a state): on every schedule — whatever lands during the back-off
sleeps, inside the retry set-up, on a streamed response — the `ConnectionPool.NewStream` calls of one request (admitted `un` and
refused `uf`) are at most `1 + max 3 numRetries`: the first attempt, then one per unit of the retry budget `newRetryState`
starts with (`Gen.ProxyRetry.retriesFloor`, raised to the route's `NumRetries`).  From the regenerated `retryState.retry`
(every `ShouldRetry` takes a unit), `setupRetry` called only after `ShouldRetry`, `processError` handing back the phase `Retry`
only for a marked request, and `doRetry` creating at most one attempt per wake-up (`Lemmas/Downstream/Budget10.lean`). -/
theorem attempts_bounded (c : Cfg) (ar aq : Nat) (l : List Label) :
    (att (reach c ar aq l).trace).length ≤ 1 + max Gen.ProxyRetry.retriesFloor c.numRetries ∧
    (reach c ar aq l).streams.length = (att (reach c ar aq l).trace).length :=
  ⟨attempts_le_budget c ar aq l, (binv_run c ar aq l).w.cnt.symm⟩

set_option maxRecDepth 8192 in
/-- non-vacuity: the bound is attained — every attempt reset by the connection, `numRetries` 1 (below the floor 3) and 5 -/
example : (att (reach { retryOn := true, numRetries := 1 } 0 0 (List.replicate 12 .work ++
    (List.range 6).flatMap (fun k => [.upReset k .StreamConnectionFailed, .work, .work, .work]))).trace).length = 4 := by decide +kernel
set_option maxRecDepth 8192 in
example : (att (reach { retryOn := true, numRetries := 5 } 0 0 (List.replicate 12 .work ++
    (List.range 8).flatMap (fun k => [.upReset k .StreamConnectionFailed, .work, .work, .work]))).trace).length = 6 := by decide +kernel

end MosnVerif.Props.C03

/-! ## The reply write path can fail (`Model/ReplyWrite.lean`)

The machine above writes a reply part in one infallible step.  In the code each part goes through `appendHeaders(endStream)` /
`appendData(endStream)` / `appendTrailers()`, whose sender call can fail.  The theorems below are about the REGENERATED bodies
of the three functions (`Gen.ProxyReplyWrite`, closed vocabulary: an early `return` on the error path is a step) run inside
the regenerated callers' sequence (which part for which reply shape, the entry guards, the regenerated `processError` after
every part), for ALL reply shapes × ALL outcome vectors (ok / error per part) × ALL positions of a downstream stream reset
(between any two steps, in particular from inside the failing call, or never; delivered by the stream layer or by the proxy's
connection-close callback, which skips a stream whose `upstreamProcessDone` is already set) × ALL start states (client already gone or not,
upstream stream of a streamed response still open or not). -/
namespace MosnVerif.Props.C03
open MosnVerif.Model.ReplyWrite

/-- **reply_write_ends_once**: whatever the sender returns and wherever the client's reset lands, the write of a reply ends
with the worker returned and the stream cleaned, the BODY of `cleanStream` has run exactly once, `endStream` is entered at most
once and exactly once after a part that ends the stream (never without one); and when the client stays for the whole write
every part of the reply is handed to the sender in order — a failed non-final write does not stop the later parts —, the last
one ends the stream, `endStream` follows once. -/
theorem reply_write_ends_once (r : Reply) (o : Outs) (rp : Nat) (viaConn clientGone upLive : Bool) :
    (writeReply genProgs r o rp viaConn (start clientGone upLive)).returned = true ∧
    (writeReply genProgs r o rp viaConn (start clientGone upLive)).cleaned = true ∧
    cleans (writeReply genProgs r o rp viaConn (start clientGone upLive)) = 1 ∧
    ends (writeReply genProgs r o rp viaConn (start clientGone upLive)) ≤ 1 ∧
    endsAfterEos (writeReply genProgs r o rp viaConn (start clientGone upLive)).ev = true ∧
    (clientGone = false → 17 ≤ rp →
      (writeReply genProgs r o rp viaConn (start clientGone upLive)).ev.filter isCall = expectedCalls r o ∧
      ends (writeReply genProgs r o rp viaConn (start clientGone upLive)) = 1) := by
  obtain ⟨⟨h1, h2, h3, h4, h5⟩, _, stays, _⟩ := writeReply_facts r o rp viaConn clientGone upLive _ rfl
  have hlen := ops_length_le r
  exact ⟨h1, h2, h3, h4, h5, fun hc hrp => stays hc (by omega)⟩

/-- **header_only_reply_ends**: a header-only reply — every error reply MOSN generates itself (404 / 502 / 503 / 504, a hijack
without body, `TerminateStream`: `local_reply_header_only`), a header-only upstream answer — whose `AppendHeaders` is reached
(the client has not gone before the part is entered) is written with end of stream and followed by `endStream` at once, whether
the write succeeds or FAILS and wherever a reset lands afterwards: the stream is cleaned once, the active gauge given back, the
stream taken off the active list. -/
theorem header_only_reply_ends (o : Outs) (rp : Nat) (viaConn upLive : Bool) (hrp : 1 ≤ rp) :
    (writeReply genProgs ⟨false, false⟩ o rp viaConn (start false upLive)).ev.take 2 = [Ev.call .headers true o.h, Ev.endStream] ∧
    ends (writeReply genProgs ⟨false, false⟩ o rp viaConn (start false upLive)) = 1 ∧
    cleans (writeReply genProgs ⟨false, false⟩ o rp viaConn (start false upLive)) = 1 ∧
    (writeReply genProgs ⟨false, false⟩ o rp viaConn (start false upLive)).active = 0 ∧
    (writeReply genProgs ⟨false, false⟩ o rp viaConn (start false upLive)).listed = false := by
  obtain ⟨⟨_, _, h3, _, _⟩, ⟨h6, h7, _⟩, _, headerOnly⟩ := writeReply_facts ⟨false, false⟩ o rp viaConn false upLive _ rfl
  exact ⟨(headerOnly rfl rfl rfl hrp).1, (headerOnly rfl rfl rfl hrp).2, h3, h6, h7⟩

/-- the replies MOSN generates itself with `sendHijackReply` are header-only whatever the stream held before (regenerated
effects, `Gen.ProxyReply`); with `sendHijackReplyWithBody` they are headers + body, never trailers -/
theorem local_reply_header_only (heldData heldTrailers : Bool) :
    hijackShape false heldData heldTrailers = ⟨false, false⟩ ∧ hijackShape true heldData heldTrailers = ⟨true, false⟩ := by
  cases heldData <;> cases heldTrailers <;> decide

/-- **write_error_never_strands**: for every reply, every outcome vector — in particular every one with a failing write —,
every reset position and every start state, the worker never returns from the write leaving the stream half-ended: when it
has returned the stream is cleaned, `upstreamProcessDone` set, the active gauge at 0, the stream off the proxy's active list. -/
theorem write_error_never_strands (r : Reply) (o : Outs) (rp : Nat) (viaConn clientGone upLive : Bool) :
    (writeReply genProgs r o rp viaConn (start clientGone upLive)).returned = true ∧
    (writeReply genProgs r o rp viaConn (start clientGone upLive)).cleaned = true ∧
    (writeReply genProgs r o rp viaConn (start clientGone upLive)).procDone = true ∧
    (writeReply genProgs r o rp viaConn (start clientGone upLive)).active = 0 ∧
    (writeReply genProgs r o rp viaConn (start clientGone upLive)).listed = false := by
  obtain ⟨⟨h1, h2, _, _, _⟩, ⟨h6, h7, h8⟩, _, _⟩ := writeReply_facts r o rp viaConn clientGone upLive _ rfl
  exact ⟨h1, h2, h8, h6, h7⟩

/-- negation witness — `appendHeaders` with "reset and return" on the error path (`if err != nil { s.resetStream(); return }`):
for a header-only reply `upstreamProcessDone` is already true when the write fails, so `resetStream()` is a no-op, `endStream` is
skipped, `processError` sees the process done and the worker returns: NOT cleaned, gauge held, still on the active list -/
example : ((fun (f : RW) => (f.returned, f.cleaned, f.active, f.listed, f.ev))
    (writeReply earlyReturnHeaders ⟨false, false⟩ ⟨false, true, true⟩ 17 false (start false false))) =
    (true, false, 1, true, [Ev.call .headers true false]) := by decide +kernel
/-- … and nothing ends it afterwards: not the client's reset, not the connection close (`stranded_stays`) -/
example : ((fun (f : RW) => (f.cleaned, f.active, f.listed))
    (exec ⟨false, true, true⟩ (start false false) (ops earlyReturnHeaders ⟨false, false⟩ ++ [Op.reset, Op.connClose, Op.reset]))) =
    (false, 1, true) := by decide +kernel
/-- … while a reply WITH body survives that variant (the reset reaches the client stream, `processError` cleans up): the
defect shows on header-only replies only -/
example : ((fun (f : RW) => (f.cleaned, f.ev))
    (writeReply earlyReturnHeaders ⟨true, false⟩ ⟨false, true, true⟩ 17 false (start false false))) =
    (true, [Ev.call .headers false false, Ev.dr, Ev.clean]) := by decide +kernel
/-- negation witness — `appendData` that ends the stream only when the write succeeded: a failing last data write strands the stream -/
example : ((fun (f : RW) => (f.returned, f.cleaned, f.active, f.ev))
    (writeReply dataEndsOnlyOnSuccess ⟨true, false⟩ ⟨true, false, true⟩ 17 false (start false false))) =
    (true, false, 1, [Ev.call .headers false true, Ev.call .data true false]) := by decide +kernel
/-- the regenerated code on the same inputs: ended and cleaned once -/
example : ((fun (f : RW) => (f.cleaned, f.active, f.ev))
    (writeReply genProgs ⟨false, false⟩ ⟨false, true, true⟩ 17 false (start false false))) =
    (true, 0, [Ev.call .headers true false, Ev.endStream, Ev.clean]) := by decide +kernel
example : ((fun (f : RW) => (f.cleaned, f.active, f.ev))
    (writeReply genProgs ⟨true, false⟩ ⟨true, false, true⟩ 17 false (start false false))) =
    (true, 0, [Ev.call .headers false true, Ev.call .data true false, Ev.endStream, Ev.clean]) := by decide +kernel
/-- a reset delivered from inside the failing `AppendHeaders` of a reply with body and trailers, the upstream stream of the
streamed response still open: no further part is written, `processError` cleans up once and resets the upstream stream -/
example : (writeReply genProgs ⟨true, true⟩ ⟨false, true, true⟩ 3 false (start false true)).ev =
    [Ev.call .headers false false, Ev.ur, Ev.clean] := by decide +kernel
/-- the connection closes inside the failing LAST write: `upstreamProcessDone` is already set, the proxy's connection-close
callback skips the stream — nothing but the `endStream` that follows can end it, and it does -/
example : ((fun (f : RW) => (f.downReset, f.cleaned, f.ev))
    (writeReply genProgs ⟨true, false⟩ ⟨true, false, true⟩ 8 true (start false false))) =
    (false, true, [Ev.call .headers false true, Ev.call .data true false, Ev.endStream, Ev.clean]) := by decide +kernel
/-- a reset that lands between the last write and `endStream`: `endStream` still runs, the clean-up runs once (`clean_once`) -/
example : (writeReply genProgs ⟨true, false⟩ ⟨true, false, true⟩ 8 false (start false false)).ev =
    [Ev.call .headers false true, Ev.call .data true false, Ev.endStream, Ev.clean] := by decide +kernel

/-- **reply_write_clean_once** (any program): for ANY op list over the vocabulary — any bodies of the three functions, any
interleaving of stream resets and connection closes, any sender outcomes — from a reachable state of the downstream machine
(whose `clean_once` gives the starting count) the body of `cleanStream` has run exactly once iff the stream is cleaned, never
twice, and the stream is on the active list iff it is not cleaned: the compare-and-swap in `cleanStream` is what `endStream`,
`processError`'s `ResetStream` and a filter's termination all go through. -/
theorem reply_write_clean_once (c : Model.Downstream.Cfg) (ar aq : Nat) (l : List Model.Downstream.Label) (o : Outs) (w : List Op) :
    cleans (exec o (viewOf (reach c ar aq l).procDone (reach c ar aq l).cleaned (reach c ar aq l).downReset
      (reach c ar aq l).downLive (Model.Downstream.nLog (reach c ar aq l).trace)) w) =
      (if (exec o (viewOf (reach c ar aq l).procDone (reach c ar aq l).cleaned (reach c ar aq l).downReset
        (reach c ar aq l).downLive (Model.Downstream.nLog (reach c ar aq l).trace)) w).cleaned then 1 else 0) ∧
    (exec o (viewOf (reach c ar aq l).procDone (reach c ar aq l).cleaned (reach c ar aq l).downReset
      (reach c ar aq l).downLive (Model.Downstream.nLog (reach c ar aq l).trace)) w).listed =
      !(exec o (viewOf (reach c ar aq l).procDone (reach c ar aq l).cleaned (reach c ar aq l).downReset
        (reach c ar aq l).downLive (Model.Downstream.nLog (reach c ar aq l).trace)) w).cleaned := by
  have hv := viewOf_inv (reach c ar aq l).procDone (reach c ar aq l).cleaned (reach c ar aq l).downReset
    (reach c ar aq l).downLive (Model.Downstream.nLog (reach c ar aq l).trace) (clean_once c ar aq l)
  have := exec_cleanInv o w _ hv
  exact ⟨this.count, this.listed⟩

/-- **ok_write_is_machine_step**: the machine's infallible reply steps are the all-writes-succeed runs of the regenerated append
programs — from every reachable machine state that is not cleaned (so `clean_once` gives "no clean-up body so far"), the
successful run of `appendHeaders(eos)` / `appendData(eos)` / `appendTrailers()` on the write path's view of the state yields
the same `upstreamProcessDone`, `downstreamCleaned`, `downstreamReset`, number of clean-up bodies and gauge as the machine's
`dsAppendHeaders` / `dsAppendData` / `dsAppendTrailers`.  The theorems above extend these steps to failing writes and
interleaved departures of the client. -/
theorem ok_write_is_machine_step (c : Model.Downstream.Cfg) (ar aq : Nat) (l : List Model.Downstream.Label) (eos : Bool)
    (hc : (reach c ar aq l).cleaned = false) :
    common (okPart .headers eos (viewS (reach c ar aq l))) = commonS (Model.Downstream.dsAppendHeaders c (reach c ar aq l) eos) ∧
    common (okPart .data eos (viewS (reach c ar aq l))) = commonS (Model.Downstream.dsAppendData c (reach c ar aq l) eos) ∧
    common (okPart .trailers true (viewS (reach c ar aq l))) = commonS (Model.Downstream.dsAppendTrailers c (reach c ar aq l)) := by
  have h0 : Model.Downstream.nLog (reach c ar aq l).trace = 0 := by
    have := clean_once c ar aq l
    rw [hc] at this
    simpa using this
  exact ⟨ok_part_is_machine_step c _ .headers eos _ rfl nofun hc h0, ok_part_is_machine_step c _ .data eos _ rfl nofun hc h0,
    ok_part_is_machine_step c _ .trailers true .dt rfl (fun _ => rfl) hc h0⟩

/-- non-vacuity: the request is sent, a header-only 200 arrives, the worker is about to write it — not cleaned -/
example : (reach {} 0 0 (List.replicate 12 .work ++ [.upResp 0 200 false false, .work, .work])).cleaned = false ∧
    (reach {} 0 0 (List.replicate 12 .work ++ [.upResp 0 200 false false, .work, .work])).phase = .UpRecvHeader := by decide +kernel

/-- the worker has returned from the write exactly as `worker_returns_iff_cleaned` says of the machine: returned and cleaned -/
theorem reply_write_returns_cleaned (r : Reply) (o : Outs) (rp : Nat) (viaConn clientGone upLive : Bool) :
    (writeReply genProgs r o rp viaConn (start clientGone upLive)).returned =
      (writeReply genProgs r o rp viaConn (start clientGone upLive)).cleaned := by
  have := reply_write_ends_once r o rp viaConn clientGone upLive
  rw [this.1, this.2.1]

end MosnVerif.Props.C03
