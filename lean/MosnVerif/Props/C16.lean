import MosnVerif.Lemmas.HealthFlags
import MosnVerif.Lemmas.HealthRegistry
import MosnVerif.Lemmas.HealthCheck
import MosnVerif.Lemmas.HealthLoop
import MosnVerif.Lemmas.HealthDispatch
import MosnVerif.Lemmas.HealthLifecycleRef
import MosnVerif.Lemmas.HealthShare
/-!
# C16 — host health state is never lost, and thresholds are exact

Part A (`HealthFlags`): the shared flag word under every interleaving of the atomic accesses that
`SetHealthFlag`/`ClearHealthFlag` perform (step structure regenerated from health.go).
Part A' (`HealthRegistry`): the allocation of that word — host objects created concurrently for the same address obtain the
SAME word under every interleaving of the `healthStore` operations `GetHealthFlagPointer` performs (step program
regenerated from health.go), so Part A applies across host objects.
Part B (`HealthCheck`): the regenerated `HandleSuccess/HandleFailure` automaton against a run-length reference; how the
loop of `sessionChecker.Start` turns finished checks into handler calls (`HealthLoop`: the `checkID` bookkeeping;
`HealthDispatch`: the select branches as step programs, timers firing between any two steps).
Part C (`HealthLifecycle`): the life cycle — several clusters' session checkers sharing the word of an address, created and
dropped by host-set updates / `Stop` (effects of `startCheck`/`stopCheck`/… regenerated from healthchecker.go).
Part D (`HealthShare`): the cluster manager's operations over that world, clusters with and without a health checker.
-/
namespace MosnVerif.Props.C16
open MosnVerif.Model

section Flags
open MosnVerif.Model.HealthFlags

/-- **linearizable**: for EVERY initial word, EVERY set of threads (any number, any calls, any flag masks) and EVERY
schedule that runs them to completion, the final word is the result of applying the calls one after the other in the
order of their single atomic update (`log`), and that order contains each thread's calls exactly once, in the thread's
program order.  (Fairness-free: nothing is assumed about the schedule except that it completes; retries of a failed
CAS are part of the schedule.) -/
theorem linearizable (w0 : Word) (ops : List (List Op)) (s : List Nat)
    (hdone : ((Config.init w0 ops).run genP s).done = true) :
    ((Config.init w0 ops).run genP s).word = applyAll w0 ((Config.init w0 ops).log genP s) ∧
    ∀ j, proj j ((Config.init w0 ops).log genP s) = ops[j]?.getD [] := by
  rw [genP_cas] at hdone ⊢
  obtain ⟨hw, hp⟩ := run_cas (Config.init w0 ops) s
  refine ⟨hw, fun j => ?_⟩
  have := hp j
  rw [done_pendingAt _ hdone, List.append_nil, init_pendingAt] at this
  exact this

/-- the same invariant for every *prefix* of an execution (schedules that have not completed yet): what has been
logged explains the current word, nothing is lost and nothing is applied twice. -/
theorem linearizable_prefix (c : Config) (s : List Nat) :
    (c.run genP s).word = applyAll c.word (c.log genP s) ∧
    ∀ j, proj j (c.log genP s) ++ (c.run genP s).pendingAt j = c.pendingAt j := by
  rw [genP_cas]; exact run_cas c s

/-- **no bit lost, no bit invented**: after any complete schedule, every bit of the word is what the calls *naming that
bit* make of it, in linearization order — calls on other bits have no influence on it. -/
theorem bits_independent (w0 : Word) (ops : List (List Op)) (s : List Nat)
    (hdone : ((Config.init w0 ops).run genP s).done = true) (i : Nat) :
    ((Config.init w0 ops).run genP s).word.getLsbD i =
      bitRun i (w0.getLsbD i) (((Config.init w0 ops).log genP s).map (·.2)) := by
  rw [(linearizable w0 ops s hdone).1, applyAll_getLsbD]

/-- a condition nobody sets or clears keeps its initial value under every interleaving -/
theorem untouched_bit_kept (w0 : Word) (ops : List (List Op)) (s : List Nat)
    (hdone : ((Config.init w0 ops).run genP s).done = true) (i : Nat)
    (hno : ∀ l ∈ ops, ∀ op ∈ l, op.flag.getLsbD i = false) :
    ((Config.init w0 ops).run genP s).word.getLsbD i = w0.getLsbD i := by
  rw [bits_independent w0 ops s hdone]
  apply bitRun_untouched
  intro op hop
  obtain ⟨e, he, rfl⟩ := List.mem_map.mp hop
  -- e is in the log, hence in its thread's projection, hence in ops[e.1]
  have hin := mem_proj e _ he
  rw [(linearizable w0 ops s hdone).2 e.1] at hin
  cases hj : ops[e.1]? with
  | none => simp [hj] at hin
  | some l =>
    simp only [hj, Option.getD_some] at hin
    exact hno l (List.mem_of_getElem? hj) _ hin

/-- **a condition owned by one thread** (the situation of the statement: the active health checker owns
`FAILED_ACTIVE_HC`, the outlier detector owns `FAILED_OUTLIER_CHECK`, …): if only thread `t` issues calls naming bit `i`,
the final value of bit `i` is what `t`'s own calls make of it in `t`'s program order — whatever the other threads do,
under every interleaving. -/
theorem owned_condition (w0 : Word) (ops : List (List Op)) (s : List Nat)
    (hdone : ((Config.init w0 ops).run genP s).done = true) (i t : Nat)
    (hown : ∀ j, j ≠ t → ∀ op ∈ ops[j]?.getD [], op.flag.getLsbD i = false) :
    ((Config.init w0 ops).run genP s).word.getLsbD i = bitRun i (w0.getLsbD i) (ops[t]?.getD []) := by
  rw [bits_independent w0 ops s hdone, ← (linearizable w0 ops s hdone).2 t]
  apply bitRun_filter
  intro e he hb
  by_cases hne : e.1 = t
  · exact hne
  · exfalso
    have hin := mem_proj e _ he
    rw [(linearizable w0 ops s hdone).2 e.1] at hin
    rw [hown e.1 hne e.2 hin] at hb
    cases hb

/-- **Health ↔ word = 0**: the host is reported healthy exactly when no condition is set (regenerated `Health()`) -/
theorem health_iff (w : Word) : health w = true ↔ ∀ i, w.getLsbD i = false := by
  simp only [health, Gen.HealthFlags.health, decide_eq_true_eq]
  exact eq_zero_iff_getLsbD w

/-- `ContainHealthFlag f` (regenerated) is true exactly when the word and `f` share a bit -/
theorem contain_iff (w f : Word) : Gen.HealthFlags.containFlag w f = true ↔ ∃ i, w.getLsbD i = true ∧ f.getLsbD i = true := by
  simp only [Gen.HealthFlags.containFlag, decide_eq_true_eq, gt_iff_lt]
  refine ((BitVec.pos_iff_ne_zero _).trans (not_congr (eq_zero_iff_getLsbD _))).trans ?_
  simp [BitVec.getLsbD_and]

/-- **progress** (lock-freedom step): a CAS attempted with an up-to-date value succeeds — the thread's call takes effect
in that very step.  Hence a CAS can only fail because ANOTHER call took effect since the thread's load. -/
theorem cas_progress (w : Word) (op : Op) (rest : List Op) :
    (Thread.step genP w ⟨op :: rest, 1, w⟩).2.2 = some op ∧
    (Thread.step genP w ⟨op :: rest, 1, w⟩).1 = op.apply w ∧
    (Thread.step genP w ⟨op :: rest, 1, w⟩).2.1.ops = rest := by
  rw [genP_cas]; simp [Thread.step, casLoopP]

/-- a thread running alone completes a call in two steps (load, CAS): no schedule can make a lone caller spin -/
theorem solo_call_completes (w : Word) (op : Op) (rest : List Op) (r : Word) :
    (Config.run genP ⟨w, [⟨op :: rest, 0, r⟩]⟩ [0, 0]) = ⟨op.apply w, [⟨rest, 0, w⟩]⟩ := by
  rw [genP_cas]; simp [Config.run, Config.step, Thread.step, casLoopP, Thread.next]

/-- **a completing schedule always exists** (the hypothesis of `linearizable` is never vacuous, and no set of threads can
be wedged): from the initial configuration of ANY set of threads some schedule runs all of them to completion — built
by letting one thread at a time run alone, each call then completing within three steps (lock-freedom). -/
theorem complete_schedule_exists (w0 : Word) (ops : List (List Op)) :
    ∃ s, ((Config.init w0 ops).run genP s).done = true := by
  rw [genP_cas]; exact exists_complete_cas _ (init_WF w0 ops)

/-- the executable predicate evaluated on implementation traces is implied by the model: every complete run's trace of
words is accepted by the declarative linearizability checker. -/
theorem spec_holds_on_model_flags (w0 : Word) (ops : List (List Op)) (s : List Nat)
    (hdone : ((Config.init w0 ops).run genP s).done = true) :
    linCheck ops w0 ((Config.init w0 ops).trace genP s) = true := by
  rw [genP_cas] at hdone ⊢
  have := linCheck_trace_cas (Config.init w0 ops) s hdone
  have hp : (Config.init w0 ops).pending = ops := by
    simp [Config.pending, Config.init, Thread.init, Function.comp_def]
  rw [hp] at this
  exact this

-- non-vacuity: a concrete contended schedule of two threads on different bits completes (thread 1's first CAS fails
-- and is retried), and a three-thread one with a clear
example : ((Config.init 0 [[.set 1], [.set 2]]).run genP [0, 1, 0, 1, 1, 1]).done = true ∧
    ((Config.init 0 [[.set 1], [.set 2]]).run genP [0, 1, 0, 1, 1, 1]).word = 3 ∧
    (Config.init 0 [[.set 1], [.set 2]]).log genP [0, 1, 0, 1, 1, 1] = [(0, .set 1), (1, .set 2)] := by decide
example : ((Config.init 2 [[.set 1, .clear 1], [.clear 2], [.set 4]]).run genP [0, 1, 2, 2, 1, 1, 1, 0, 0, 0, 0, 0]).done = true := by decide

/-- **the load / modify / store shape is NOT linearizable** (DESIGN.md §6 row 11; the code before the `fix:` commit):
two threads setting different bits, schedule load₀ load₁ store₀ store₁ — the run completes, bit 1 is lost, and no
interleaving of the two calls explains the final word. -/
theorem load_store_loses_update :
    ((Config.init 0 [[.set 1], [.set 2]]).run loadStoreP [0, 1, 0, 1]).done = true ∧
    ((Config.init 0 [[.set 1], [.set 2]]).run loadStoreP [0, 1, 0, 1]).word = 2 ∧
    applyAll 0 [(0, .set 1), (1, .set 2)] = 3 ∧ applyAll 0 [(1, .set 2), (0, .set 1)] = 3 ∧
    linCheck [[.set 1], [.set 2]] 0 ((Config.init 0 [[.set 1], [.set 2]]).trace loadStoreP [0, 1, 0, 1]) = false := by
  decide

end Flags


section Allocation
open MosnVerif.Model.HealthFlags MosnVerif.Model.HealthRegistry

/-- **pointer_unique**: for EVERY well-formed initial `healthStore` (any known addresses with any words), EVERY set of
threads (each creating a host object for some address, then making any Set/Clear calls through it) and EVERY schedule —
complete or not, pointer lookups and flag updates interleaved arbitrarily — any two host objects of the SAME address that
have obtained their word hold the same word, and it is the word `healthStore` holds for the address (so every later
lookup gets it too). -/
theorem pointer_unique (reg : Reg) (heap : List Word) (hreg : RegOK reg heap) (specs : List (Addr × List Op))
    (s : List Nat) (i j : Nat) (ti tj : HThread) (x y : Nat)
    (hi : ((World.init reg heap specs).run genPP genP s).threads[i]? = some ti)
    (hj : ((World.init reg heap specs).run genPP genP s).threads[j]? = some tj)
    (ha : ti.addr = tj.addr) (hx : ti.ptr = some x) (hy : tj.ptr = some y) :
    x = y ∧ ((World.init reg heap specs).run genPP genP s).reg.lookup ti.addr = some x := by
  have inv := winv_run genPP genP genPP_safe _ (winv_init reg heap hreg specs) s
  have h1 := inv.ptr ti (List.mem_of_getElem? hi) x hx
  have h2 := inv.ptr tj (List.mem_of_getElem? hj) y hy
  rw [← ha, h1] at h2
  exact ⟨by cases h2; rfl, h1⟩

/-- host objects of DIFFERENT addresses never share a word (a condition of one address is never reported for another) -/
theorem pointer_separate (reg : Reg) (heap : List Word) (hreg : RegOK reg heap) (specs : List (Addr × List Op))
    (s : List Nat) (i j : Nat) (ti tj : HThread) (x y : Nat)
    (hi : ((World.init reg heap specs).run genPP genP s).threads[i]? = some ti)
    (hj : ((World.init reg heap specs).run genPP genP s).threads[j]? = some tj)
    (ha : ti.addr ≠ tj.addr) (hx : ti.ptr = some x) (hy : tj.ptr = some y) : x ≠ y := by
  have inv := winv_run genPP genP genPP_safe _ (winv_init reg heap hreg specs) s
  have h1 := inv.ptr ti (List.mem_of_getElem? hi) x hx
  have h2 := inv.ptr tj (List.mem_of_getElem? hj) y hy
  intro he; subst he
  exact ha (inv.inj _ _ _ h1 h2)

/-- an address keeps its word: once `healthStore` maps an address to a word, no step of any thread changes that entry -/
theorem registry_stable (w : World) (s : List Nat) (a : Addr) (id : Nat) (h : w.reg.lookup a = some id) :
    (w.run genPP genP s).reg.lookup a = some id :=
  reg_stable_run genPP genP genPP_safe w s a id h

/-- **hosts_refine_one_word** (this is what makes Part A apply across host objects): under every schedule of the world,
what the host objects of address `a` do is exactly a run of the one-word model of Part A — the calls of all host
objects of `a` as threads over the ONE word of `a` — under the sub-schedule of the accesses of that word; pointer lookups,
registrations of other addresses and updates of other addresses' words are invisible to it. -/
theorem hosts_refine_one_word (reg : Reg) (heap : List Word) (hreg : RegOK reg heap) (specs : List (Addr × List Op))
    (s : List Nat) (a : Addr) :
    ((World.init reg heap specs).run genPP genP s).view a =
      (Config.init ((World.init reg heap specs).wordOf a) (callsOf specs a)).run genP
        ((World.init reg heap specs).flagSched genPP genP a s) := by
  rw [view_run genPP genP genPP_safe _ (winv_init reg heap hreg specs) a s, init_view]

/-- **linearizable_across_hosts**: for every initial `healthStore`, every set of host-creating threads and every schedule
that runs them to completion, the final word of EVERY address is the result of applying, one after the other in the
order of their single atomic update, the calls made through ALL host objects of that address, each host object's calls
exactly once and in its program order; calls made through host objects of other addresses do not occur in it. -/
theorem linearizable_across_hosts (reg : Reg) (heap : List Word) (hreg : RegOK reg heap) (specs : List (Addr × List Op))
    (s : List Nat) (a : Addr) (hdone : ((World.init reg heap specs).run genPP genP s).done = true) :
    ((World.init reg heap specs).run genPP genP s).wordOf a =
      applyAll ((World.init reg heap specs).wordOf a)
        ((Config.init ((World.init reg heap specs).wordOf a) (callsOf specs a)).log genP
          ((World.init reg heap specs).flagSched genPP genP a s)) ∧
    ∀ j, proj j ((Config.init ((World.init reg heap specs).wordOf a) (callsOf specs a)).log genP
          ((World.init reg heap specs).flagSched genPP genP a s)) = (callsOf specs a)[j]?.getD [] := by
  have hv := hosts_refine_one_word reg heap hreg specs s a
  have hd := done_view _ hdone a
  rw [hv] at hd
  obtain ⟨h1, h2⟩ := linearizable _ _ _ hd
  refine ⟨?_, h2⟩
  rw [← h1, ← hv]; rfl

/-- a condition no host object of the address sets or clears keeps its value — also when the host objects are created
concurrently (Part A's `untouched_bit_kept` through the refinement) -/
theorem untouched_bit_kept_across_hosts (reg : Reg) (heap : List Word) (hreg : RegOK reg heap)
    (specs : List (Addr × List Op)) (s : List Nat) (a : Addr)
    (hdone : ((World.init reg heap specs).run genPP genP s).done = true) (i : Nat)
    (hno : ∀ sp ∈ specs, sp.1 = a → ∀ op ∈ sp.2, op.flag.getLsbD i = false) :
    (((World.init reg heap specs).run genPP genP s).wordOf a).getLsbD i =
      ((World.init reg heap specs).wordOf a).getLsbD i := by
  have hv := hosts_refine_one_word reg heap hreg specs s a
  have hd := done_view _ hdone a
  rw [hv] at hd
  have := untouched_bit_kept _ _ _ hd i (by
    intro l hl op hop
    simp only [callsOf, List.mem_map] at hl
    obtain ⟨sp, hsp, rfl⟩ := hl
    by_cases h : sp.1 = a
    · simp only [h, if_true] at hop; exact hno sp hsp h op hop
    · simp [h] at hop)
  rw [← hv] at this
  exact this

/-- the executable predicate evaluated on the implementation's observations is implied by the model: for every initial
`healthStore`, every set of host-creating threads and every completing schedule, what a harness observes afterwards
through the host objects (every word, every `Health()`, and a probe condition set through each host object in turn)
satisfies `HealthRegistry.holds` — all host objects of an address agree, nothing is lost or invented, healthy ⇔ no
condition. -/
theorem spec_holds_on_model_alloc (reg : Reg) (heap : List Word) (hreg : RegOK reg heap) (specs : List (Addr × List Op))
    (s : List Nat) (hdone : ((World.init reg heap specs).run genPP genP s).done = true) :
    holds specs (fun a => match reg.lookup a with
        | some id => heap[id]?.getD 0
        | none => 0) ((World.init reg heap specs).run genPP genP s).observe = true := by
  apply holds_observe specs _ _ (winv_run genPP genP genPP_safe _ (winv_init reg heap hreg specs) s) hdone
  · rw [run_addr, init_addr]
  · intro a
    obtain ⟨h1, h2⟩ := linearizable_across_hosts reg heap hreg specs s a hdone
    rw [h1, init_wordOf]
    exact seqCheck_of_log _ _ _ h2

/-- **a completing schedule always exists** (the hypothesis `done` of the theorems above is never vacuous, and no set of
host-creating threads can be wedged): from EVERY well-formed initial `healthStore` and every set of threads some
schedule runs all of them to completion — one thread at a time obtains its word within the length of the pointer
program, then completes each call within three steps. -/
theorem complete_schedule_exists_alloc (reg : Reg) (heap : List Word) (hreg : RegOK reg heap)
    (specs : List (Addr × List Op)) : ∃ s, ((World.init reg heap specs).run genPP genP s).done = true := by
  rw [genP_cas]
  exact exists_complete_world genPP genPP_safe genPP_term _ (ready_init reg heap hreg specs)

-- non-vacuity: a well-formed non-empty `healthStore`; a contended (round-robin) schedule of three host-creating threads
-- (two for the fresh address 7, one for the known address 3) that completes with the two hosts of address 7 sharing one
-- word.  (Steps of a finished thread are no-ops, so the schedule also completes for pointer programs with two steps.)
example : RegOK [(3, 0)] [5] := ⟨by intro a id; simp [List.lookup]; split <;> simp_all, by
  intro a b id; simp only [List.lookup]; split <;> split <;> simp_all⟩
example :
    ((World.init [(3, 0)] [5] [(7, [.set 1]), (7, [.set 2]), (3, [.clear 4])]).run genPP genP
      [0, 1, 2, 0, 1, 2, 0, 1, 2, 0, 1, 2, 0, 1, 2, 0, 1, 2, 0, 1, 2, 0, 1, 2]).done = true ∧
    ((World.init [(3, 0)] [5] [(7, [.set 1]), (7, [.set 2]), (3, [.clear 4])]).run genPP genP
      [0, 1, 2, 0, 1, 2, 0, 1, 2, 0, 1, 2, 0, 1, 2, 0, 1, 2, 0, 1, 2, 0, 1, 2]).threads.map (·.ptr)
        = [some 1, some 1, some 0] ∧
    ((World.init [(3, 0)] [5] [(7, [.set 1]), (7, [.set 2]), (3, [.clear 4])]).run genPP genP
      [0, 1, 2, 0, 1, 2, 0, 1, 2, 0, 1, 2, 0, 1, 2, 0, 1, 2, 0, 1, 2, 0, 1, 2]).heap = [1, 3] := by decide

/-- **the "Load, and on a miss allocate + Store" shape does NOT give one word per address**: two threads create a host
object for the same not-yet-known address, schedule Load₀ Load₁ Store₀ Store₁ (both miss, both allocate, the later Store
wins the map); thread 0 then sets a condition through its host object.  The run completes, the two host objects hold
DIFFERENT words, the condition is lost for host object 1 — it keeps reporting healthy — and for every later lookup, and
the executable predicate rejects the observation. -/
theorem load_then_store_splits :
    ((World.init [] [] [(7, [.set 1]), (7, [])]).run loadThenStorePP genP [0, 1, 0, 1, 0, 0]).done = true ∧
    ((World.init [] [] [(7, [.set 1]), (7, [])]).run loadThenStorePP genP [0, 1, 0, 1, 0, 0]).threads.map (·.ptr)
      = [some 0, some 1] ∧
    ((World.init [] [] [(7, [.set 1]), (7, [])]).run loadThenStorePP genP [0, 1, 0, 1, 0, 0]).observe.words
      = [(1, false), (0, true)] ∧
    ((World.init [] [] [(7, [.set 1]), (7, [])]).run loadThenStorePP genP [0, 1, 0, 1, 0, 0]).wordOf 7 = 0 ∧
    holds [(7, [.set 1]), (7, [])] (fun _ => 0)
      ((World.init [] [] [(7, [.set 1]), (7, [])]).run loadThenStorePP genP [0, 1, 0, 1, 0, 0]).observe = false := by
  decide

-- the same threads under the current source (round-robin): one word, the condition is seen through both host objects
example :
    ((World.init [] [] [(7, [.set 1]), (7, [])]).run genPP genP [0, 1, 0, 1, 0, 1, 0, 1]).done = true ∧
    ((World.init [] [] [(7, [.set 1]), (7, [])]).run genPP genP [0, 1, 0, 1, 0, 1, 0, 1]).observe.words
      = [(1, false), (1, false)] ∧
    holds [(7, [.set 1]), (7, [])] (fun _ => 0)
      ((World.init [] [] [(7, [.set 1]), (7, [])]).run genPP genP [0, 1, 0, 1, 0, 1, 0, 1]).observe = true := by
  decide

end Allocation

section Thresholds
open MosnVerif.Model.HealthCheck

/-- `newHealthChecker` never stores a zero threshold (zero → regenerated default, which is ≥ 1) -/
theorem thresholds_positive (cfg : Nat) :
    1 ≤ Gen.HealthCheck.effUnhealthyThreshold cfg ∧ 1 ≤ Gen.HealthCheck.effHealthyThreshold cfg := by
  rw [effUnhealthyThreshold_eq, effHealthyThreshold_eq]
  constructor <;> split <;> omega

/-- **threshold_exact**: for all thresholds `u, h ≥ 1`, every initial state of the host's flag and EVERY finite
sequence of results (success / failure / timeout), the regenerated `HandleSuccess/HandleFailure` automaton produces
exactly the run-length reference `spec`: the host is marked unhealthy exactly by the check that completes `u`
consecutive failures while it is not failing, marked healthy again exactly by the check that completes `h` consecutive
successes while it is failing, `changed` is reported to the callbacks at exactly those checks and at no other, and
`isHealthy` is the result of the check. -/
theorem threshold_exact (u h : Nat) (hu : 1 ≤ u) (hh : 1 ≤ h) (flag0 : Bool) (rs : List Result) :
    run u h (St.init flag0) rs = spec u h flag0 [] rs :=
  run_eq_spec u h hu hh (St.init flag0) [] rs (inv_init u h hu hh flag0)

/-- the same for the checker as configured (a zero threshold means the default) -/
theorem threshold_exact_cfg (cfgU cfgH : Nat) (flag0 : Bool) (rs : List Result) :
    runCfg cfgU cfgH flag0 rs =
      spec (if cfgU = 0 then 1 else cfgU) (if cfgH = 0 then 1 else cfgH) flag0 [] rs := by
  rw [runCfg, effUnhealthyThreshold_eq, effHealthyThreshold_eq]
  exact threshold_exact _ _ (by split <;> omega) (by split <;> omega) flag0 rs

/-- pointwise reading of `threshold_exact`: at check number `i`, with `before` = the host's flag before that check and
`hist` = the results up to and including it (latest first), the callback arguments and the flag afterwards are given
by the two run lengths alone. -/
theorem threshold_pointwise (u h : Nat) (hu : 1 ≤ u) (hh : 1 ≤ h) (flag0 : Bool) (rs : List Result) (i : Nat)
    (r : Result) (hr : rs[i]? = some r) :
    let outs := run u h (St.init flag0) rs
    let before := ((flag0 :: outs.map (·.flagAfter))[i]?).getD false
    let hist := (rs.take (i + 1)).reverse
    let changed := (!before && r.bad && trail Result.bad hist == u) || (before && r.ok && trail Result.ok hist == h)
    outs[i]? = some ⟨changed, r.ok, if changed then !before else before⟩ := by
  rw [threshold_exact u h hu hh]
  simpa using spec_pointwise u h r rs flag0 [] i hr

/-- `changed` is reported exactly at the transitions: a check reports `changed` iff the host's flag after it differs
from the flag before it -/
theorem changed_iff_transition (u h : Nat) (hu : 1 ≤ u) (hh : 1 ≤ h) (flag0 : Bool) (rs : List Result) (i : Nat)
    (o : Out) (ho : (run u h (St.init flag0) rs)[i]? = some o) :
    o.changed = (o.flagAfter != ((flag0 :: (run u h (St.init flag0) rs).map (·.flagAfter))[i]?).getD false) := by
  have hi : i < rs.length := by
    rw [← spec_length u h flag0 [] rs, ← threshold_exact u h hu hh]
    exact (List.getElem?_eq_some_iff.mp ho).1
  have hp := threshold_pointwise u h hu hh flag0 rs i rs[i] (List.getElem?_eq_getElem hi)
  simp only at hp
  rw [ho] at hp
  injection hp with hp
  subst hp
  simp only
  generalize ((flag0 :: (run u h (St.init flag0) rs).map (·.flagAfter))[i]?).getD false = b
  generalize ((!b && rs[i].bad && trail Result.bad (rs.take (i + 1)).reverse == u) ||
    (b && rs[i].ok && trail Result.ok (rs.take (i + 1)).reverse == h)) = c
  cases b <;> cases c <;> rfl

/-- the counters never exceed their thresholds (so the `uint32` counters of the Go code cannot wrap and the unbounded
integers of the regenerated functions are faithful) -/
theorem counters_bounded (u h : Nat) (hu : 1 ≤ u) (hh : 1 ≤ h) (flag0 : Bool) (rs : List Result) :
    0 ≤ (finalSt u h (St.init flag0) rs).unHealthCount ∧ (finalSt u h (St.init flag0) rs).unHealthCount ≤ u ∧
    0 ≤ (finalSt u h (St.init flag0) rs).healthCount ∧ (finalSt u h (St.init flag0) rs).healthCount ≤ h :=
  (inv_finalSt u h hu hh _ [] rs (inv_init u h hu hh flag0)).2.2

-- non-vacuity: u = 2, h = 3, a history with an interrupted failure run, a timeout counting as a failure, and an
-- interrupted recovery
example : run 2 3 (St.init false) [.failure, .success, .failure, .timeout, .failure, .success, .success, .failure,
      .success, .success, .success, .success] =
    [⟨false, false, false⟩, ⟨false, true, false⟩, ⟨false, false, false⟩, ⟨true, false, true⟩, ⟨false, false, true⟩,
     ⟨false, true, true⟩, ⟨false, true, true⟩, ⟨false, false, true⟩, ⟨false, true, true⟩, ⟨false, true, true⟩,
     ⟨true, true, false⟩, ⟨false, true, false⟩] := by decide
example : (1 : Nat) ≤ 2 ∧ (1 : Nat) ≤ 3 := by decide

end Thresholds

section CheckerLoop
open MosnVerif.Model.HealthLoop MosnVerif.Model.HealthCheck

/-- **loop_exact**: with the regenerated `checkID` bookkeeping of `sessionChecker.Start`, for EVERY sequence of
environment events (check timers firing, `CheckHealth` returning, timeout timers firing, timed-out checks answering
late at any moment, the loop goroutine being scheduled whenever) the handler calls are exactly those of the reference:
every issued check is handled exactly once, as a success/failure if it answered before its timeout and as a timeout
otherwise — late answers of earlier checks have no effect whatsoever. -/
theorem loop_exact (evs : List Ev) :
    (HealthLoop.run genPolicy (Loop.init genPolicy) evs).log = (refRun Ref.init evs).log := by
  rw [genPolicy_new]; exact (sim_run _ _ evs sim_init).log

/-- end to end: the callbacks of the active health checker, for every event sequence and all thresholds ≥ 1, are the
run-length reference applied to the true outcomes of the issued checks. -/
theorem checker_exact (u h : Nat) (hu : 1 ≤ u) (hh : 1 ≤ h) (flag0 : Bool) (evs : List Ev) :
    HealthCheck.run u h (St.init flag0) (HealthLoop.run genPolicy (Loop.init genPolicy) evs).log.reverse =
      spec u h flag0 [] (refRun Ref.init evs).log.reverse := by
  rw [loop_exact, threshold_exact u h hu hh]

/-- **the bookkeeping before the `fix:` commit drops a good answer**: check 1 times out, check 2 is issued, check 1
answers late (expired, but the loop advances `checkID` for it), check 2 answers healthy — its answer is now taken for
an expired one too, and check 2 ends as a timeout failure.  The reference handles check 2 as a success. -/
theorem old_policy_drops_answer :
    (HealthLoop.run oldPolicy (Loop.init oldPolicy) [.top, .issue, .timeout, .top, .issue, .late 1 true, .answer true, .timeout]).log
      = [.timeout, .timeout] ∧
    (refRun Ref.init [.top, .issue, .timeout, .top, .issue, .late 1 true, .answer true, .timeout]).log = [.success, .timeout] := by
  decide

/-- the same bookkeeping armed the next check's timer BEFORE advancing `checkID`: a timer firing before the loop goroutine
reaches the top of its next iteration stamps the check with the old id and its answer is dropped. -/
theorem old_policy_arm_race :
    (HealthLoop.run oldPolicy (Loop.init oldPolicy) [.issue, .top, .answer true, .timeout]).log = [.timeout] ∧
    (refRun Ref.init [.issue, .top, .answer true, .timeout]).log = [.success] := by
  decide

-- non-vacuity: under the current bookkeeping the two event sequences above are handled correctly
example : (HealthLoop.run genPolicy (Loop.init genPolicy) [.top, .issue, .timeout, .top, .issue, .late 1 true, .answer true, .timeout]).log
    = [.success, .timeout] := by decide
example : (HealthLoop.run genPolicy (Loop.init genPolicy) [.issue, .top, .answer true, .timeout]).log = [.success] := by decide

end CheckerLoop

section Dispatch
open MosnVerif.Model.HealthDispatch MosnVerif.Model.HealthCheck

/-- **one_check_one_result**: the dispatch loop of `sessionChecker.Start` as regenerated from the source (ordered actions
of every select branch, the id comparison of the timeout case, the id the timeout timer carries), for EVERY schedule of
interval-timer firings, timeout-timer firings (possible between ANY two steps of the loop goroutine: also between the
receive of an answer and the `checkTimeout.Stop()` that follows it, and during handlers of any duration; a fired timer is
not taken back by a later Stop, its send stays parked on the unbuffered `c.timeout`), answers (of the check in flight or of
older ones, in any order), receives of parked expiries (in any order relative to answers: a select with both ready may take
either), loop progress and Stop: the handler calls, tagged with the check they are accounted to, have strictly increasing
check ids (NO check produces two results: an answered check's timeout is never counted as well, neither for that check nor
for the next one), every one is an event the loop really accepted for a check that was really performed, every check was
issued once, every performed check whose turn is over (`id < checkID`) has produced its result, and every expiry still
parked on the channel belongs to a performed check (never to a future one).
No atomicity of "receive + first action of the branch" is assumed. -/
theorem one_check_one_result (evs : List HealthDispatch.Ev) :
    let s := HealthDispatch.run genProg (D.init genProg) evs
    (ids s).Pairwise (· > ·) ∧ s.issued.Pairwise (· > ·) ∧
    (∀ e ∈ s.log, e ∈ s.outcomes ∧ e.1 ∈ s.issued) ∧
    (∀ i ∈ s.issued, i < s.checkID → i ∈ ids s) ∧ (∀ k ∈ s.parked, k ∈ s.issued ∧ k ≤ s.checkID) := by
  rw [genProg_real]
  have h := inv_run _ evs inv_init
  exact ⟨h.log_sorted, h.issued_sorted, fun e he => ⟨h.log_out e he, h.log_issued e he⟩, h.complete,
    fun k hk => ⟨(h.parked_ok k hk).1, (h.parked_ok k hk).2.1⟩⟩

/-- **stale_timeout_ignored**: in every reachable state, when the loop's select receives a parked expiry whose id is not the
awaited check's id (the timer of an answered check that fired before it was stopped), no handler runs, nothing is accepted,
the interval timer and the id counter are untouched and the expiry is gone from the channel. -/
theorem stale_timeout_ignored (evs : List HealthDispatch.Ev) (k : Nat) (rest : List Nat) :
    let s := HealthDispatch.run genProg (D.init genProg) evs
    s.exited = false → s.todo = [] → s.parked = k :: rest → k ≠ s.currentID →
    let s' := HealthDispatch.step genProg s .recvTimeout
    s'.log = s.log ∧ s'.outcomes = s.outcomes ∧ s'.parked = rest ∧ s'.checkID = s.checkID ∧
      (s.stopReq = false → s'.armed = s.armed ∧ s'.tmo = s.tmo ∧ s'.todo = []) := by
  rw [genProg_real]
  intro s hx ht hp hk
  rw [step_recvTimeout realProg s k rest hx ht hp]
  by_cases hs : s.stopReq = true <;> simp [realProg, enter, finish, perform, hk, hs]

/-- **timeout_not_lost**: the id comparison never drops the timeout of the awaited check: in every reachable state in which
the loop waits in its select for a check that was performed, that check's timeout timer is still running or its expiry is
parked on the channel — and a received expiry that carries the awaited id is accepted as that check's (network-failure)
result. -/
theorem timeout_not_lost (evs : List HealthDispatch.Ev) :
    let s := HealthDispatch.run genProg (D.init genProg) evs
    s.exited = false → s.todo = [] → s.checkID ∈ s.issued →
    (s.tmo = some s.checkID ∨ s.checkID ∈ s.parked) ∧ s.currentID = s.checkID ∧
    (∀ rest, s.parked = s.checkID :: rest →
      (HealthDispatch.step genProg s .recvTimeout).outcomes = (s.checkID, .timeout) :: s.outcomes ∧
      (HealthDispatch.step genProg s .recvTimeout).todo = genProg.onTimeout) := by
  rw [genProg_real]
  intro s hx ht hi
  have h := inv_run _ evs inv_init
  have hc := h.cur_id ht hx
  refine ⟨h.pending ht hx hi, hc, ?_⟩
  intro rest hp
  have hc' : s.currentID = s.checkID := hc
  rw [step_recvTimeout realProg s s.checkID rest hx ht hp]
  simp [realProg, enter, finish, hc']

/-- **dispatch_threshold_exact**: `threshold_exact` lifted from handler sequences to real executions of the loop: for every
schedule and all thresholds ≥ 1, what the callbacks see is the run-length reference applied to the per-check results
(one per check, by `one_check_one_result`). -/
theorem dispatch_threshold_exact (u h : Nat) (hu : 1 ≤ u) (hh : 1 ≤ h) (flag0 : Bool) (evs : List HealthDispatch.Ev) :
    HealthCheck.run u h (St.init flag0) (results (HealthDispatch.run genProg (D.init genProg) evs)) =
      spec u h flag0 [] (results (HealthDispatch.run genProg (D.init genProg) evs)) :=
  threshold_exact u h hu hh flag0 _

/-- **negation witness, the loop before the repair** (`case <-c.timeout:` without the id comparison) under the finer step
semantics: check 1 is answered healthy, its timeout timer fires between the receive of the answer and the Stop; the loop
handles the answer, arms check 2 — and its next select finds the parked expiry: check 1 is counted twice (success, then
network failure) and the armed check 2 is cancelled (`armed` is false after the `stopCheck` of the timeout branch).
Reproduced on the real code: `hl 1 1 0 r => 2o5 w=1` (harness/c16/dispatch.go, letter r). -/
theorem unguarded_timeout_counts_twice :
    let s := HealthDispatch.run unguardedProg (D.init unguardedProg)
      [.fireCheck, .answer 1 true, .fireTimeout, .act, .act, .act, .act, .recvTimeout, .act, .act, .act]
    s.log = [(1, .timeout), (1, .success)] ∧ s.armed = false ∧ s.issued = [1] := by decide

/-- the same when both channels are ready at one select and Go takes the answer: the timer fired BEFORE the answer was received -/
theorem unguarded_select_race_counts_twice :
    (HealthDispatch.run unguardedProg (D.init unguardedProg)
      [.fireCheck, .fireTimeout, .answer 1 true, .act, .act, .act, .act, .recvTimeout, .act, .act, .act]).log
      = [(1, .timeout), (1, .success)] := by decide

/-- **negation witness, stop after the handlers**: check 1 is answered healthy in time, its timeout timer fires while the
handler runs, the loop stops it afterwards: with the id comparison the parked expiry is ignored, but without it
(`guard := false`) check 1 is counted twice. With the comparison the late Stop is harmless for THIS clause — the expiry is
stale by then — which is why the comparison, not the position of Stop, carries the proof. -/
theorem late_stop_counts_twice :
    (HealthDispatch.run { lateStopProg with guard := false } (D.init lateStopProg)
      [.fireCheck, .answer 1 true, .act, .fireTimeout, .act, .act, .act, .recvTimeout, .act, .act, .act, .act, .act]).log
      = [(1, .timeout), (1, .success)] := by decide

/-- **negation witness, next check armed before the handlers** (again without the id comparison): the interval timer
fires while the handler of check 1 runs, check 2 is issued and its timeout expires while the loop is still busy (parked);
the loop then accepts the answer of check 2 AND the parked expiry: check 2 is counted twice. -/
theorem early_arm_counts_twice :
    (HealthDispatch.run { earlyArmProg with guard := false } (D.init earlyArmProg)
      [.fireCheck, .answer 1 true, .act, .act, .act, .fireCheck, .fireTimeout, .act, .answer 2 true, .act, .act, .act, .act,
       .recvTimeout, .act, .act, .act, .act, .act]).log = [(2, .timeout), (2, .success), (1, .success)] := by decide

-- non-vacuity: the same schedules on the current program count check 1 once (the parked expiry is received and ignored),
-- check 2 is still armed; and a timed-out check is counted once, by its own timeout
example :
    let s := HealthDispatch.run genProg (D.init genProg)
      [.fireCheck, .answer 1 true, .fireTimeout, .act, .act, .act, .act, .recvTimeout, .act, .act, .act]
    s.log = [(1, .success)] ∧ s.armed = true ∧ s.parked = [] := by decide
example : (HealthDispatch.run genProg (D.init genProg)
      [.fireCheck, .fireTimeout, .answer 1 true, .act, .act, .act, .act, .recvTimeout, .act, .act, .act]).log = [(1, .success)] := by decide
example : (HealthDispatch.run genProg (D.init genProg)
    [.fireCheck, .fireTimeout, .recvTimeout, .act, .act, .act, .act, .act, .answer 1 true, .fireCheck, .answer 2 false,
     .act, .act, .act, .act]).log = [(2, .failure), (1, .timeout)] := by decide
-- the hypotheses of stale_timeout_ignored / timeout_not_lost are reachable
example :
    let s := HealthDispatch.run genProg (D.init genProg) [.fireCheck, .answer 1 true, .fireTimeout, .act, .act, .act, .act]
    s.exited = false ∧ s.todo = [] ∧ s.parked = [1] ∧ 1 ≠ s.currentID := by decide
example :
    let s := HealthDispatch.run genProg (D.init genProg) [.fireCheck, .fireTimeout]
    s.exited = false ∧ s.todo = [] ∧ s.checkID ∈ s.issued ∧ s.parked = [s.checkID] := by decide

end Dispatch

section Lifecycle
open MosnVerif.Model.HealthLifecycle MosnVerif.Model.HealthCheck MosnVerif.Gen.HealthLifecycle

/-- **stop_preserves_health**: in EVERY state, a life-cycle operation — a cluster's host-set update
(`SetHealthCheckerHostSet`: `startCheck` of the new addresses, `stopCheck` of the deleted ones), `Stop`
(`StopHealthChecking`: `stopCheck` of every listed host), the replacement of a cluster — changes NO health word of any
address and delivers no callback: starting or stopping a session checker never heals or fails a host.
(Holds because the regenerated effect lists of `startCheck` / `stopCheck` contain no flag operation.) -/
theorem stop_preserves_health (w : World) (op : HealthLifecycle.Op) (h : op.isLifecycle = true) :
    (HealthLifecycle.step w op).1.words = w.words ∧ (HealthLifecycle.step w op).2 = none :=
  ⟨step_lifecycle_words w op h, step_lifecycle_out w op h⟩

/-- **healthy_only_by_successes**: for every configuration of clusters, all initial words and EVERY operation list
(host-set updates, stops, cluster replacements, check results of any cluster's session checker for any address, other
conditions' writers), whenever the next operation clears `FAILED_ACTIVE_HC` of an address `a`, that operation is a
SUCCESSFUL check of a running session checker `c` of some cluster `k` for `a`, and it completes at least
`healthy_threshold(k)` consecutive successes handled by THAT session checker since it was created (`c.rev` = its own
history).  In particular no stop / start / host-set operation and no failure ever makes a host healthy. -/
theorem healthy_only_by_successes (cfg : Cid → Nat × Nat) (words0 : Addr → Word) (ops : List HealthLifecycle.Op)
    (op : HealthLifecycle.Op) (a : Addr)
    (hb : ((runOps (World.init cfg words0) ops).words a).active = true)
    (ha : ((HealthLifecycle.step (runOps (World.init cfg words0) ops) op).1.words a).active = false) :
    ∃ k c, op = .result k a .success ∧ (runOps (World.init cfg words0) ops).chk k a = some c ∧ c.running = true ∧
      ((runOps (World.init cfg words0) ops).thr k).2 ≤ trail Result.ok (.success :: c.rev) := by
  obtain ⟨k, r, c, rfl, hk, hrun, ⟨rfl, _, hle⟩ | ⟨_, hb', _⟩⟩ :=
    active_changed_by _ (good_runOps ops _ (good_init cfg words0)) op a (by rw [ha, hb]; nofun)
  · exact ⟨k, c, rfl, hk, hrun, hle⟩
  · rw [hb] at hb'; cases hb'

/-- dually, `FAILED_ACTIVE_HC` is set only by a failed / timed-out check that completes at least `unhealthy_threshold`
consecutive failures of the session checker it is handed to -/
theorem unhealthy_only_by_failures (cfg : Cid → Nat × Nat) (words0 : Addr → Word) (ops : List HealthLifecycle.Op)
    (op : HealthLifecycle.Op) (a : Addr)
    (hb : ((runOps (World.init cfg words0) ops).words a).active = false)
    (ha : ((HealthLifecycle.step (runOps (World.init cfg words0) ops) op).1.words a).active = true) :
    ∃ k c r, op = .result k a r ∧ r.bad = true ∧ (runOps (World.init cfg words0) ops).chk k a = some c ∧ c.running = true ∧
      ((runOps (World.init cfg words0) ops).thr k).1 ≤ trail Result.bad (r :: c.rev) := by
  obtain ⟨k, r, c, rfl, hk, hrun, ⟨_, hb', _⟩ | ⟨hbad, _, hle⟩⟩ :=
    active_changed_by _ (good_runOps ops _ (good_init cfg words0)) op a (by rw [ha, hb]; nofun)
  · rw [hb] at hb'; cases hb'
  · exact ⟨k, c, r, rfl, hbad, hk, hrun, hle⟩

/-- **lifecycle_threshold_exact**: when cluster `k` is the only cluster that ever lists address `a` (in the whole list
`all`, of which `ops` is a prefix), then after ANY operations — including removing and re-adding the host, stopping the
checker, replacing the cluster — a result handed to `k`'s session checker `c` for `a` flips the condition EXACTLY when it
completes `unhealthy_threshold` consecutive failures while not failing / `healthy_threshold` consecutive successes while
failing, counted over the session checker's own history `c.rev` since its creation; `changed` is reported exactly then. -/
theorem lifecycle_threshold_exact (cfg : Cid → Nat × Nat) (words0 : Addr → Word) (all ops : List HealthLifecycle.Op)
    (hsub : ∀ op ∈ ops, op ∈ all) (k : Cid) (a : Addr) (r : Result) (c : Checker)
    (hso : soleOwner all k a = true) (hc : (runOps (World.init cfg words0) ops).chk k a = some c) :
    let w := runOps (World.init cfg words0) ops
    let before := (w.words a).active
    let changed := (!before && r.bad && trail Result.bad (r :: c.rev) == (w.thr k).1) ||
                   (before && r.ok && trail Result.ok (r :: c.rev) == (w.thr k).2)
    (HealthLifecycle.step w (.result k a r)).2 = some ⟨changed, r.ok, if changed then !before else before⟩ ∧
    ((HealthLifecycle.step w (.result k a r)).1.words a).active = (if changed then !before else before) :=
  have hs := sim_runOps all ops _ _ (sim_init all cfg words0) hsub
  result_exact _ k a r c hc (hs.good _ _ _ hc).1 (hs.pos k) ((hs.sole k a hso).2 c hc)

/-- the checkers of the model are those of the hand-written reference (which session checkers exist is a matter of the
host sets alone), each with its own history -/
theorem lifecycle_refines (cfg : Cid → Nat × Nat) (words0 : Addr → Word) (ops : List HealthLifecycle.Op) (k : Cid) (a : Addr) :
    ((Ref.init cfg).run ops).live k a = ((runOps (World.init cfg words0) ops).chk k a).map (·.rev) :=
  (sim_runOps ops ops _ _ (sim_init ops cfg words0) (fun _ h => h)).live k a

/-- the model's observations always satisfy the property predicate the driver applies to the implementation -/
theorem spec_holds_on_model_lc (n : Nat) (cfg : Cid → Nat × Nat) (words0 : Addr → Word) (ops : List HealthLifecycle.Op) :
    holds n cfg words0 ops (trace (World.init cfg words0) ops) = true :=
  holdsFrom_trace n ops ops _ _ (sim_init ops cfg words0) (fun _ h => h)

/-- a `stopCheck` that also clears the condition ("do not leave a stale failure behind") -/
def clearingStop : CheckProg := ⟨.present, [], [.stopSession, .delChecker, .flag (.clear .activeHC), .localHealthy (-1)], []⟩

/-- **such a stopCheck violates the property**: two clusters (thresholds 1/2) share address 0; one failed check marks it
unhealthy; cluster 1 drops the host.  With `clearingStop` the host is healthy again with ZERO successful checks, and the
surviving checker — whose failure counter already sits at the threshold — never marks it unhealthy again however many
checks fail; the predicate rejects what is seen at the stop. -/
theorem clearing_stopCheck_heals_without_success :
    let cfg : Cid → Nat × Nat := fun _ => (1, 2)
    let w1 := runOps (World.init cfg (fun _ => ⟨false, false⟩)) [.setHosts 0 [0], .setHosts 1 [0], .result 0 0 .failure]
    let w2 := runCheckProg clearingStop 1 0 w1
    let w3 := runOps w2 [.result 0 0 .failure, .result 0 0 .timeout, .result 0 0 .failure]
    (w1.words 0).active = true ∧ (w2.words 0).active = false ∧ (w3.words 0).active = false ∧
    noFlag clearingStop = false ∧
    holdsStep 1 [] ((Ref.init cfg).run [.setHosts 0 [0], .setHosts 1 [0], .result 0 0 .failure]) w1.words w2.words none
      (.setHosts 1 []) = false ∧
    -- the regenerated stopCheck leaves the host failing
    ((stopCheck 1 0 w1).words 0).active = true := by
  decide

/-- why exactness is stated for an address that ONE cluster lists (`lifecycle_threshold_exact`): in the code as it is, two
clusters' session checkers on one address write the same condition with their own counters and an `==` threshold test.
Thresholds 1/1: cluster 0's check fails (host marked), cluster 1's check succeeds (host healed — by ITS threshold), then
cluster 0's checks keep failing: its counter has passed the threshold (2, 3, … ≠ 1) and it never marks the host again
until one of its checks succeeds.  `healthy_only_by_successes` / `unhealthy_only_by_failures` still hold (every
transition is a threshold-completing result of the checker that made it).  Reproduced on the real clusters by the
correspondence run (case `lc 1:1,1:1 0 h0=0,h1=0,r00f,r10s,r00f`); outside the property's statement, which speaks of
one checker's result sequence. -/
theorem shared_address_not_exact :
    let w := runOps (World.init (fun _ => (1, 1)) (fun _ => ⟨false, false⟩))
      [.setHosts 0 [0], .setHosts 1 [0], .result 0 0 .failure, .result 1 0 .success, .result 0 0 .failure, .result 0 0 .failure]
    (w.words 0).active = false ∧ (w.chk 0 0).map (·.un) = some 3 ∧ (w.thr 0).1 = 1 := by
  decide

-- non-vacuity: a host shared by two clusters (thresholds u = 2, h = 2), driven unhealthy by cluster 0's checker, cluster 1
-- drops it (nothing changes), removed and re-added in cluster 0 (new checker, counters restart, flag kept), healed by two
-- consecutive successes of the new checker
example :
    (trace (World.init (fun _ => (2, 2)) (fun _ => ⟨false, false⟩))
      [.setHosts 0 [0], .setHosts 1 [0], .result 0 0 .failure, .result 1 0 .failure, .result 0 0 .failure,
       .setHosts 1 [], .setHosts 0 [], .setHosts 0 [0], .result 0 0 .success, .result 0 0 .failure,
       .result 0 0 .success, .result 0 0 .success]).map (fun o => ((o.words 0).toNat, o.cb)) =
    [(0, none), (0, none), (0, some ⟨false, false, false⟩), (0, some ⟨false, false, false⟩), (1, some ⟨true, false, true⟩),
     (1, none), (1, none), (1, none), (1, some ⟨false, true, true⟩), (1, some ⟨false, false, true⟩),
     (1, some ⟨false, true, true⟩), (0, some ⟨true, true, false⟩)] := by decide
example : soleOwner [HealthLifecycle.Op.setHosts 0 [0, 1], .setHosts 1 [0], .result 0 1 .failure] 0 1 = true ∧
    ((runOps (World.init (fun _ => (1, 1)) (fun _ => ⟨false, false⟩)) [.setHosts 0 [0, 1], .setHosts 1 [0]]).chk 0 1).isSome = true := by
  decide
example : (HealthLifecycle.Op.setHosts 0 [1]).isLifecycle = true := rfl

end Lifecycle

section Share
open MosnVerif.Model.HealthLifecycle (Addr Cid Word World Checker runOps soleOwner fresh effThr)
open MosnVerif.Model.HealthCheck MosnVerif.Model.HealthShare

/-! ## Part D — one health word per ADDRESS for the whole process, health checkers per CLUSTER

`GetHealthFlagPointer(addr)` hands every host object of an address — in whichever cluster — the same word
(`gen_word_by_address`), a cluster may have no health checker at all, and a cluster update creates a new health checker
for the inherited host set.  The process model (Model/HealthShare) runs the cluster manager's operations over the
life-cycle world; which flag operations `simpleCluster.UpdateHosts` and `NewSimpleHost` perform and which counters a new
session checker starts with are REGENERATED (Gen/HealthShare), so an edit there changes what these theorems talk about. -/

/-- **share_refines_lifecycle**: for every configuration (which clusters have a health checker, thresholds), all initial
words and EVERY list of cluster-manager operations, the process run is the life-cycle run of the compiled cluster-level
operations: host updates of clusters WITHOUT a health checker compile to nothing at all.  (Holds because the regenerated
`updateHostsWrites` / `newHostWrites` are empty and new session checkers start with both counters zero.) -/
theorem share_refines_lifecycle (checked : Cid → Bool) (cfg : Cid → Nat × Nat) (words0 : Addr → Word) (ops : List SOp) :
    (HealthShare.run (HealthShare.St.init checked cfg words0) ops).w =
      runOps (World.init cfg words0) (compileAll (Cfg.init checked) ops) :=
  run_eq _ ops

/-- **host_and_cluster_updates_preserve_health**: in EVERY state, `UpdateClusterHosts / AppendClusterHosts /
RemoveClusterHosts / AddOrUpdatePrimaryCluster` of ANY cluster — with a health checker, without one, gaining or losing
one — change no health word of any address and deliver no callback: removing and re-adding a host does not reset the
word of its address, a cluster that does not check the address cannot heal a host another cluster's checker marked. -/
theorem host_and_cluster_updates_preserve_health (s : HealthShare.St) (op : SOp) (h : isHostOp op = true) :
    (HealthShare.step s op).1.w.words = s.w.words ∧ (HealthShare.step s op).2 = none :=
  hostOp_preserves s op h

/-- **active_hc_bit_owned_by_checkers**: over EVERY history of the process, whenever an operation changes
`FAILED_ACTIVE_HC` of an address `a`, that operation is a check result handed to a live session checker `c` that SOME
cluster `k` keeps for `a` (so `k` has a health checker and lists `a`), and the result completes a threshold-long run of
THAT session checker: a success completing ≥ healthy_threshold(k) consecutive successes clears it, a failure / timeout
completing ≥ unhealthy_threshold(k) consecutive failures sets it.  No operation of a cluster without a checker, no host
update, no cluster update, no other condition's writer ever does. -/
theorem active_hc_bit_owned_by_checkers (checked : Cid → Bool) (cfg : Cid → Nat × Nat) (words0 : Addr → Word)
    (ops : List SOp) (op : SOp) (a : Addr)
    (hne : ((HealthShare.run (HealthShare.St.init checked cfg words0) ops).w.words a).active ≠
           ((HealthShare.step (HealthShare.run (HealthShare.St.init checked cfg words0) ops) op).1.w.words a).active) :
    ∃ k r c, op = .result k a r ∧ (HealthShare.run (HealthShare.St.init checked cfg words0) ops).c.checked k = true ∧
      (HealthShare.run (HealthShare.St.init checked cfg words0) ops).w.chk k a = some c ∧ c.running = true ∧
      ((r = .success ∧ ((HealthShare.run (HealthShare.St.init checked cfg words0) ops).w.words a).active = true ∧
          ((HealthShare.run (HealthShare.St.init checked cfg words0) ops).w.thr k).2 ≤ trail Result.ok (.success :: c.rev)) ∨
       (r.bad = true ∧ ((HealthShare.run (HealthShare.St.init checked cfg words0) ops).w.words a).active = false ∧
          ((HealthShare.run (HealthShare.St.init checked cfg words0) ops).w.thr k).1 ≤ trail Result.bad (r :: c.rev))) := by
  have hg := good_run checked cfg words0 ops
  have hn := noChk_run _ ops (noChk_init checked cfg words0)
  generalize HealthShare.run (HealthShare.St.init checked cfg words0) ops = s at hne hg hn ⊢
  have hck : ∀ k c, s.w.chk k a = some c → s.c.checked k = true := by
    intro k c hc
    cases h : s.c.checked k with
    | true => rfl
    | false => rw [hn k h a] at hc; cases hc
  -- the operation acts on the world as the life-cycle operation `o`
  have key := fun (o : HealthLifecycle.Op) (ho : (HealthShare.step s op).1.w = (HealthLifecycle.step s.w o).1) =>
    HealthLifecycle.active_changed_by s.w hg o a (ho ▸ hne.symm)
  cases op with
  | result k' a' r' =>
    obtain ⟨k, r, c, e, rest⟩ := key (.result k' a' r') (step_result s k' a' r').1
    cases e
    exact ⟨_, _, c, rfl, hck _ c rest.1, rest⟩
  | outlier a' on =>
    obtain ⟨k, r, c, e, _⟩ := key (.outlier a' on) (step_outlier s a' on)
    cases e
  | _ => exact absurd (by rw [(hostOp_preserves s _ rfl).1]) hne

/-- **single_checker_exact_across_clusters**: when cluster `k` is the only cluster that lists address `a` WHILE HAVING A
HEALTH CHECKER in the whole history `ops ++ rest` (`soleOwner` of the compiled list: other clusters may list, update,
drop and re-add `a` as often as they like as long as they have no health checker then), the threshold clause of the
property holds for `k`'s session checker `c` whatever the other clusters do: the condition flips EXACTLY at the
`unhealthy_threshold`-th consecutive failure while not failing / the `healthy_threshold`-th consecutive success while
failing, over the checker's own history since its creation, and `changed` is reported exactly then. -/
theorem single_checker_exact_across_clusters (checked : Cid → Bool) (cfg : Cid → Nat × Nat) (words0 : Addr → Word)
    (ops rest : List SOp) (k : Cid) (a : Addr) (r : Result) (c : Checker)
    (hso : soleOwner (compileAll (Cfg.init checked) (ops ++ rest)) k a = true)
    (hc : (HealthShare.run (HealthShare.St.init checked cfg words0) ops).w.chk k a = some c) :
    let s := HealthShare.run (HealthShare.St.init checked cfg words0) ops
    let before := (s.w.words a).active
    let changed := (!before && r.bad && trail Result.bad (r :: c.rev) == (s.w.thr k).1) ||
                   (before && r.ok && trail Result.ok (r :: c.rev) == (s.w.thr k).2)
    (HealthShare.step s (.result k a r)).2 = some ⟨changed, r.ok, if changed then !before else before⟩ ∧
    ((HealthShare.step s (.result k a r)).1.w.words a).active = (if changed then !before else before) := by
  have hw := share_refines_lifecycle checked cfg words0 ops
  have hsub : ∀ op ∈ compileAll (Cfg.init checked) ops, op ∈ compileAll (Cfg.init checked) (ops ++ rest) := by
    intro op h
    rw [compileAll_append]
    exact List.mem_append_left _ h
  rw [hw] at hc
  have := lifecycle_threshold_exact cfg words0 _ _ hsub k a r c hso hc
  intro s
  rw [(step_result s k a r).1, (step_result s k a r).2]
  show _ ∧ _
  simp only [s, hw]
  exact this

/-- **recreated_checker_starts_fresh**: a cluster update (`AddOrUpdatePrimaryCluster` with a health_check section), in
EVERY state — whatever the old session checker had counted, whether or not the address is marked: the word of no
address changes, no callback is delivered, and the new health checker keeps for every inherited address a NEW running
session checker with empty history and both counters zero, under the new thresholds. -/
theorem recreated_checker_starts_fresh (s : HealthShare.St) (k : Cid) (u h : Nat) (a : Addr) (ha : a ∈ s.c.mem k) :
    let s' := (HealthShare.step s (.reconf k (some (u, h)))).1
    s'.w.chk k a = some fresh ∧ s'.w.words = s.w.words ∧ (HealthShare.step s (.reconf k (some (u, h)))).2 = none ∧
    s'.w.thr k = effThr u h := by
  have hp := hostOp_preserves s (.reconf k (some (u, h))) rfl
  refine ⟨?_, hp.1, hp.2, ?_⟩
  · rw [step_eq]
    simp only [compile, runLc, List.foldl_cons, List.foldl_nil, HealthLifecycle.step]
    rw [HealthLifecycle.setHosts_chk]
    simp [HealthLifecycle.upd_apply, ha, HealthLifecycle.freshOr]
  · rw [step_eq]
    simp only [compile, runLc, List.foldl_cons, List.foldl_nil, HealthLifecycle.step]
    rw [HealthLifecycle.setHosts_thr]
    simp [HealthLifecycle.upd_apply]

/-- **recreated_checker_no_spurious_change**: the first result the re-created checker handles is handled exactly as by a
session checker without any history (`HealthCheck.step` from zero counters and the CURRENT flag of the address): it
reports `changed` only when it really flips the condition, which needs the new threshold to be 1 and the result to
oppose the flag — a cluster update never announces a transition that did not happen, and never swallows one. -/
theorem recreated_checker_no_spurious_change (s : HealthShare.St) (k : Cid) (u h : Nat) (a : Addr) (ha : a ∈ s.c.mem k) (r : Result) :
    let s' := (HealthShare.step s (.reconf k (some (u, h)))).1
    let before := (s.w.words a).active
    let changed := (!before && r.bad && decide ((effThr u h).1 = 1)) || (before && r.ok && decide ((effThr u h).2 = 1))
    (HealthShare.step s' (.result k a r)).2 = some ⟨changed, r.ok, if changed then !before else before⟩ ∧
    ((HealthShare.step s' (.result k a r)).1.w.words a).active = (if changed then !before else before) := by
  intro s'
  obtain ⟨hc, hw, _, ht⟩ := recreated_checker_starts_fresh s k u h a ha
  have hpos : 1 ≤ (s'.w.thr k).1 ∧ 1 ≤ (s'.w.thr k).2 := ht ▸ HealthLifecycle.effThr_pos u h
  -- a new session checker has no history: its counters are the (empty) run lengths
  have := HealthLifecycle.result_exact s'.w k a r fresh hc rfl hpos (HealthCheck.inv_init _ _ hpos.1 hpos.2 _)
  rw [(step_result s' k a r).1, (step_result s' k a r).2]
  rw [show s'.w.words = _ from hw, show s'.w.thr k = _ from ht] at this
  -- with no history a run of length `n` is completed by this result exactly when `n = 1`
  have key : ∀ (p : Result → Bool) (n : Nat), (p r && trail p (r :: fresh.rev) == n) = (p r && decide (n = 1)) := fun p n => by
    rw [HealthCheck.trail_cons]; cases p r <;> simp [fresh, trail]
    rw [Bool.eq_iff_iff, beq_iff_eq, decide_eq_true_iff]; exact eq_comm
  simpa only [Bool.and_assoc, key] using this

/-- the model's observations always satisfy the property predicate the driver applies to the implementation (kind sh),
for every configuration, all initial words and EVERY list of cluster-manager operations -/
theorem spec_holds_on_model_sh (m n : Nat) (checked : Cid → Bool) (cfg : Cid → Nat × Nat) (words0 : Addr → Word) (ops : List SOp) :
    HealthShare.holds m n checked cfg words0 ops (HealthShare.trace m (HealthShare.St.init checked cfg words0) ops) = true :=
  HealthShare.holdsFrom_trace m n _ ops (HealthShare.St.init checked cfg words0) _
    (HealthLifecycle.sim_init _ cfg words0) (fun _ h => h)

/-- **unchecked_update_clearing_heals_without_success** (negation witness for class (i)) -/
theorem unchecked_update_clearing_heals_without_success :
    -- NEGATION WITNESS for class (i): cluster 0 (thresholds 1/2) marks address 0 with one failed check; cluster 1 has NO
    -- health checker and lists the same address.  If its host update cleared FAILED_ACTIVE_HC "as a stale mark"
    -- (what is SEEN is word 0 after `update 1 [0]`), the host would be healthy again with zero successful checks:
    -- the predicate rejects it, while it accepts what the current code shows (word stays 1)
    let ck : Cid → Bool := fun k => k == 0
    let cfg : Cid → Nat × Nat := fun _ => (1, 2)
    let ops : List SOp := [.update 0 [0], .update 1 [0], .result 0 0 .failure, .update 1 [0]]
    let good := HealthShare.trace 2 (HealthShare.St.init ck cfg (fun _ => ⟨false, false⟩)) ops
    let healed : List HealthShare.Seen := good.take 3 ++ [⟨fun _ => ⟨false, false⟩, none, [[(0, true)], [(0, true)]]⟩]
    HealthShare.holds 2 1 ck cfg (fun _ => ⟨false, false⟩) ops good = true ∧
    HealthShare.holds 2 1 ck cfg (fun _ => ⟨false, false⟩) ops healed = false ∧
    (good.map (fun o => (o.words 0).toNat)) = [0, 0, 1, 1] := by
  decide

-- non-vacuity of single_checker_exact_across_clusters: cluster 1 WITHOUT a checker lists, re-lists, drops and re-adds the
-- address cluster 0 checks, and is itself re-configured (still without a checker): cluster 0 is the sole checking owner
example :
    soleOwner (compileAll (Cfg.init (fun k => k == 0))
      [.update 0 [0], .update 1 [0], .result 0 0 .failure, .update 1 [0], .remove 1 0, .append 1 0, .reconf 1 none,
       .result 0 0 .success]) 0 0 = true ∧
    ((HealthShare.run (HealthShare.St.init (fun k => k == 0) (fun _ => (1, 1)) (fun _ => ⟨false, false⟩))
      [.update 0 [0], .update 1 [0], .result 0 0 .failure, .update 1 [0]]).w.chk 0 0).isSome = true := by decide
-- … and it fails, as it must, once cluster 1 gains a health checker while listing the address (class (iii), the stated
-- exception `shared_address_not_exact` of Part C)
example :
    soleOwner (compileAll (Cfg.init (fun k => k == 0)) [.update 0 [0], .update 1 [0], .reconf 1 (some (1, 1))]) 0 0 = false := by
  decide
-- a cluster update while the address is marked (thresholds 1/2 → 2/2): flag kept, counters restart, first success silent,
-- the second one heals and reports `changed`
example :
    (HealthShare.trace 1 (HealthShare.St.init (fun _ => true) (fun _ => (1, 2)) (fun _ => ⟨false, false⟩))
      [.update 0 [0], .result 0 0 .failure, .reconf 0 (some (2, 2)), .result 0 0 .success, .result 0 0 .success]).map
      (fun o => ((o.words 0).toNat, o.cb)) =
    [(0, none), (1, some ⟨true, false, true⟩), (1, none), (1, some ⟨false, true, true⟩), (0, some ⟨true, true, false⟩)] := by
  decide
example : isHostOp (.reconf 1 none) = true ∧ isHostOp (.update 1 [0]) = true := by decide

end Share

end MosnVerif.Props.C16
