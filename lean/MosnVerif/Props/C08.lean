import MosnVerif.Lemmas.FrameChk
import MosnVerif.Lemmas.FrameRefine
import MosnVerif.Model.FrameSpec
import MosnVerif.Lemmas.FrameH2
import MosnVerif.Lemmas.FrameHpack
import MosnVerif.Lemmas.HpackAt
import MosnVerif.Lemmas.H2Lock
import MosnVerif.Lemmas.DispatchLoop
import MosnVerif.Model.DispatchCodec
import MosnVerif.Lemmas.PoolRecover
import MosnVerif.Lemmas.H2ReadLoop
import MosnVerif.Model.DubboMeta
import MosnVerif.Lemmas.H1Serve
import MosnVerif.Lemmas.H2ClientSettings
import MosnVerif.Lemmas.NeedMoreLive
import MosnVerif.Lemmas.H2Trailers
import MosnVerif.Lemmas.CheckedMatch
import MosnVerif.Lemmas.CheckedH2Parse
import MosnVerif.Model.CheckedWire
import MosnVerif.Lemmas.H2Alloc
import MosnVerif.Lemmas.HpackNoPanic
import MosnVerif.Lemmas.StreamAlloc
import MosnVerif.Lemmas.CheckedMatchEq
import MosnVerif.Lemmas.HpackRead
/-!
# C08 — malformed input is contained (property theorems only)

`chk_P` is `XProtocol.Decode` of protocol `P` written with **checked access** (Model/FrameChk.lean): every index and
slice expression of decoder.go / protocol.go is mirrored by a primitive that answers `oob` when it leaves the received
bytes (Go: index/slice out of range panic).  Offsets, length tests and `Drain` arguments are regenerated.
The theorems hold for EVERY byte string.
-/
namespace MosnVerif.Props.C08
open MosnVerif.Model.Framing MosnVerif.Model.FrameBytes MosnVerif.Model.KVBlock MosnVerif.Model.FrameChk
open MosnVerif.Model.FrameSpec

theorem good_of (proto : String) (oracle : Bytes → Bool) (chk : Bytes → Res) (h : chkOf proto oracle = some chk)
    (b : Bytes) : Good b.length (b.length + b.length / 8) (chk b) := by
  unfold chkOf at h
  split at h <;> simp at h <;> subst h
  · exact chkBolt_good false b
  · exact chkBolt_good true b
  · exact good_mono _ _ _ _ (chkDubbo_good oracle b) (by omega)
  · exact good_mono _ _ _ _ (chkThrift_good oracle b) (by omega)
  · exact good_mono _ _ _ _ (chkTars_good oracle b) (by omega)

/-- **classify_total**: on every byte string, each decoder (bolt, boltv2, dubbo, dubbothrift, tars; for every behaviour
of the payload black boxes) asks for more data, yields a frame or fails — it never reads outside the received bytes. -/
theorem classify_total (proto : String) (oracle : Bytes → Bool) (chk : Bytes → Res) (h : chkOf proto oracle = some chk)
    (b : Bytes) : (chk b).out ≠ .oob :=
  (good_of proto oracle chk h b).noOob

/-- **no_overread**: a frame drains a positive number of bytes, never more than were received; so does a failure
that had already drained (bolt: header-block error after `Drain`). -/
theorem no_overread (proto : String) (oracle : Bytes → Bool) (chk : Bytes → Res) (h : chkOf proto oracle = some chk)
    (b : Bytes) : (∀ n, (chk b).out = .frame n → 0 < n ∧ n ≤ b.length) ∧ (∀ k, (chk b).out = .error k → k ≤ b.length) :=
  ⟨(good_of proto oracle chk h b).frame, (good_of proto oracle chk h b).error⟩

/-- **alloc_bounded**: what a decoder allocates (frame copy, header table slots) is bounded by what was received —
never by an announced length whose bytes have not arrived. -/
theorem alloc_bounded (proto : String) (oracle : Bytes → Bool) (chk : Bytes → Res) (h : chkOf proto oracle = some chk)
    (b : Bytes) : (chk b).alloc ≤ b.length + b.length / 8 :=
  (good_of proto oracle chk h b).alloc

/-- **checked_refines_frameStep**: the checked-access decoder of every protocol classifies every buffer exactly as the
`frameStep` that C07's segmentation theorems are about (same frame bytes, same drained length, `error` for both kinds
of failure): C07 and C08 talk about one and the same decoder. -/
theorem checked_refines_frameStep (proto : String) (oracle : Bytes → Bool) (chk : Bytes → Res) (d : Bytes → Step Bytes)
    (h : chkOf proto oracle = some chk) (hd : MosnVerif.Model.FrameSteps.frameStepOf proto oracle = some d) (b : Bytes) :
    (chk b).out.toStep b = d b := by
  unfold chkOf at h
  unfold MosnVerif.Model.FrameSteps.frameStepOf at hd
  split at h <;> simp at h hd <;> subst h <;> subst hd
  · exact chkBolt_refines false b
  · exact chkBolt_refines true b
  · exact chkDubbo_refines oracle b
  · exact chkThrift_refines oracle b
  · exact chkTars_refines oracle b

/-- **kv_no_oob**: `xprotocol.DecodeHeader` (validation + `header.DecodeHeader`) never reads outside the block,
for every block. -/
theorem kv_no_oob (b : Bytes) : safe b ≠ .oob := safe_no_oob b

/-- a validated block is decoded without out-of-range reads, at every position of the walk -/
theorem kv_validated_decode_safe (fuel : Nat) (b : Bytes) (i k : Nat) (h : check fuel b i = true) :
    decode fuel b i k ≠ .oob := decode_no_oob fuel b i k h

/-- each decoded pair consumed at least 8 bytes of the block: the table never has more slots than bytes/8 -/
theorem kv_alloc_bounded (b : Bytes) (p : Nat) (h : safe b = .ok p) : 8 * p ≤ b.length := safe_pairs b p h

/-- **http2_no_overread_partial**: the HTTP/2 frame extraction (`ReadPreface`, `MFramer.ReadFrame` incl.
HEADERS+CONTINUATION groups) never reports an item that drains nothing or more than was received, in either state, on
every byte string, for every behaviour of the payload parsers and HPACK.
Partial: this is the drained-length half of the statement; the HTTP/2 model reads with total accessors guarded by the
regenerated length tests, not with checked access, so "no out-of-range read" is not separately proved for it, and the
frame-type payload parsers / HPACK decoder are oracles (exercised by the correspondence run under panic recovery). -/
theorem http2_no_overread_partial (maxRead : Nat) (parseOk groupOk : Bytes → Bool) (st : Bool) (b : Bytes)
    (f : Option Bytes × Bool) (n : Nat)
    (h : MosnVerif.Model.FrameH2.h2Step maxRead parseOk groupOk st b = .frame f n) : 0 < n ∧ n ≤ b.length :=
  (MosnVerif.Model.FrameH2.h2Step_stable maxRead parseOk groupOk).pos st b f n h

/-- **http2_stream_error_consumes_frame**: what a failing `ReadFrame` consumes — nothing, or, for a StreamError (which
does not end the connection), exactly the complete frame resp. the complete HEADERS+CONTINUATION group that answered it
(the stream-error `Drain` calls regenerated from ReadFrame) — is never more than was received, on every byte string. -/
theorem http2_stream_error_consumes_frame (maxRead : Nat) (parseOk : Bytes → Bool) (b : Bytes) (n : Nat)
    (h : n ∈ MosnVerif.Model.FrameH2.errDrains maxRead parseOk b) : n ≤ b.length := by
  unfold MosnVerif.Model.FrameH2.errDrains at h
  rcases List.mem_cons.1 h with rfl | h
  · omega
  · split at h
    · rcases List.mem_append.1 h with h | h
      · split at h
        · rename_i hh ho
          simp only [List.mem_singleton] at h
          subst h
          have := (MosnVerif.Model.FrameH2.one_ok_bound maxRead (fun _ => true) b 0 hh ho).2.1
          omega
        · cases h
      · split at h
        · rename_i k hk
          simp only [List.mem_singleton] at h
          subst h
          exact ((MosnVerif.Model.FrameH2.h2Hdr_stable maxRead parseOk).pos b _ hk).2
        · cases h
    · cases h

-- a WINDOW_UPDATE of 13 bytes whose parser answers a stream error (increment 0) is consumed whole
example : MosnVerif.Model.FrameH2.errDrains 16384 (fun _ => true) [0,0,4, 8, 0, 0,0,0,1, 0,0,0,0, 7] = [0, 13, 13] := by
  decide +kernel

/-- **hpack_varint_no_overread**: an HPACK integer (`readVarInt`, every prefix size) that decodes consumed at least
one byte and only bytes of the input (what remains is a proper suffix); otherwise the decoder asks for more or reports
an overflow — on every byte string (the loop stops after at most 10 bytes). -/
theorem hpack_varint_no_overread (n : Nat) (p : Bytes) (v : Nat) (r : Bytes)
    (h : MosnVerif.Model.FrameHpack.readVarInt n p = .ok v r) : ∃ k, 0 < k ∧ k ≤ p.length ∧ r = p.drop k :=
  MosnVerif.Model.FrameHpack.readVarInt_suffix n p v r h

/-- **hpack_string_bounded**: a raw HPACK string is materialised only when all its announced bytes have arrived
(never an allocation for an announced-but-absent length), is shorter than the input, and respects `maxStrLen`. -/
theorem hpack_string_bounded (maxStrLen : Nat) (p s r : Bytes)
    (h : MosnVerif.Model.FrameHpack.readString maxStrLen p = .ok s r) :
    s.length + r.length < p.length ∧ (maxStrLen ≠ 0 → s.length ≤ maxStrLen) := by
  revert h
  fun_cases MosnVerif.Model.FrameHpack.readString maxStrLen p with
  | case7 x xs strLen r0 hmax hlen hh hv =>
    simp only [hv, if_neg hmax, if_neg hlen, if_neg hh]
    intro h
    obtain ⟨rfl, rfl⟩ := MosnVerif.Model.FrameHpack.StrRes.ok.inj h
    obtain ⟨k, hk0, hkl, rfl⟩ := MosnVerif.Model.FrameHpack.readVarInt_suffix 7 _ strLen r0 hv
    simp only [List.length_take, List.length_drop] at hlen ⊢
    exact ⟨by omega, fun hm => by have : ¬ strLen > maxStrLen := fun hc => hmax ⟨hm, hc⟩; omega⟩
  | case1 => nofun
  | _ => simp [*]

/-- **hpack_at_no_oob**: `hpack.Decoder.at` — its comparisons, the integer type each is made in (uint64 vs int), its
conversions and its two index expressions regenerated from hpack.go (Gen/HpackAt) and evaluated with checked access —
never indexes outside the static or the dynamic table, for EVERY value of its uint64 argument (every index `readVarInt`
can deliver, 2^63 and above included) and every dynamic table: it returns an entry, or no entry (`InvalidIndexError`)
exactly for 0 and for indices beyond the last entry; and the entry is the one of `Model/HpackTable.Dec.at` (the lookup
the table-synchronisation theorems of C18 are about).  (`length + 61 < 2^63`: Go slice lengths are ints.) -/
theorem hpack_at_no_oob (d : MosnVerif.Model.HpackTable.Dec) (i : Nat) (hi : i < 2 ^ 64)
    (hlen : d.tab.ents.length + MosnVerif.Model.HpackTable.staticLen < 2 ^ 63) :
    MosnVerif.Model.HpackAt.lookup d i ≠ .oob ∧
    (MosnVerif.Model.HpackAt.lookup d i = .none ↔ (i = 0 ∨ d.tab.ents.length + MosnVerif.Model.HpackTable.staticLen < i)) ∧
    MosnVerif.Model.HpackAt.lookup d i = MosnVerif.Model.HpackAt.Look.ofOption (d.at i) :=
  ⟨MosnVerif.Lemmas.HpackAt.lookup_no_oob d i hi hlen, MosnVerif.Lemmas.HpackAt.lookup_none_iff d i hi hlen,
   MosnVerif.Lemmas.HpackAt.lookup_eq d i hi hlen⟩

/-- the same at the level of the regenerated function: every uint64 against table lengths `sl`, `dl` -/
theorem hpack_at_spec (sl dl i : Int) (hs : 0 ≤ sl) (hd : 0 ≤ dl) (hsum : sl + dl < 2 ^ 63) (hi0 : 0 ≤ i) (hi : i < 2 ^ 64) :
    MosnVerif.Gen.HpackAt.tableAt sl dl i =
      if i = 0 ∨ sl + dl < i then .none
      else if i ≤ sl then .entry .static (i - 1).toNat else .entry .dyn (dl - (i - sl)).toNat :=
  MosnVerif.Lemmas.HpackAt.tableAt_spec sl dl i hs hd hsum hi0 hi

-- the maximal 10-byte varint `ff ff ff ff ff ff ff ff ff 7f` (2^63 + 126) and 2^64 - 1 are refused, 61 / 62 are the last
-- static and the newest dynamic entry
example : MosnVerif.Gen.HpackAt.tableAt 61 3 9223372036854775934 = .none := by decide +kernel
example : MosnVerif.Gen.HpackAt.tableAt 61 3 18446744073709551615 = .none := by decide +kernel
example : MosnVerif.Gen.HpackAt.tableAt 61 3 61 = .entry .static 60 := by decide +kernel
example : MosnVerif.Gen.HpackAt.tableAt 61 3 62 = .entry .dyn 2 := by decide +kernel
example : MosnVerif.Gen.HpackAt.tableAt 61 3 64 = .entry .dyn 0 := by decide +kernel
example : MosnVerif.Gen.HpackAt.tableAt 61 3 65 = .none := by decide +kernel
-- the class the theorem excludes: the static-table test made on `int(i)` sends every index ≥ 2^63 into
-- `staticTable.ents[i-1]` — out of range
example : MosnVerif.Gen.HpackAt.chkIdx .static 61 (MosnVerif.Gen.HpackAt.wrapU64 (9223372036854775934 - 1)) = .oob ∧
    decide (MosnVerif.Gen.HpackAt.wrapS64 9223372036854775934 ≤ 61) = true := by decide +kernel

/-! ## "never wedge the proxy": the connection mutex of the HTTP/2 stream connections (Model/H2Lock.lean) -/
section h2lock
open MosnVerif.Gen.H2Lock MosnVerif.Model.H2Lock MosnVerif.Lemmas.H2Lock

/-- **no_self_deadlock**: on EVERY control-flow path of EVERY method of clientStreamConnection / clientStream (and of
serverStreamConnection.handleError) — the paths, their Lock / Unlock / `defer Unlock` positions, the calls made in between
and the set of methods that take `conn.mutex` (`ResetStream` unless `connReset`, `handleError`, `endStream`, …,
`conn.conn.Close` through the synchronous close event) all regenerated from stream.go — no call that acquires
`conn.mutex` is made while the goroutine holds it, nothing is unlocked that is not held in that mode, and the mutex is
free again when the method returns. -/
theorem no_self_deadlock :
    (∀ p ∈ clientPaths, checkOps none (flatten clientAcquires p.acts) = none) ∧
    (∀ p ∈ serverPaths, checkOps none (flatten serverAcquires p.acts) = none) := by
  have h : (clientPaths.all (disciplined clientAcquires) && serverPaths.all (disciplined serverAcquires)) = true := by
    decide +kernel
  simp only [Bool.and_eq_true, List.all_eq_true, disciplined, beq_iff_eq] at h
  exact h

/-- **no_wedge**: any number of goroutines, each running any method of the client family along any of its paths, under
ANY schedule: no reachable state is stuck (somebody can always move while somebody is unfinished), and from every
reachable state all of them finish after exactly the remaining number of mutex operations — the connection's read
goroutine always gets back to reading and a later request always gets through `endStream`. -/
theorem no_wedge (ps : List Path) (hp : ∀ p ∈ ps, p ∈ clientPaths) (sched : List Nat) :
    let s := (Sys.start (ps.map (fun p => flatten clientAcquires p.acts))).run sched
    s.stuck = false ∧ ∃ rest, rest.length = s.remaining ∧ (s.run rest).allDone = true := by
  intro s
  have hg : Good s := run_good sched _ (good_start _ ps fun p hpm => no_self_deadlock.1 p (hp p hpm))
  exact ⟨not_stuck s hg, completes s.remaining s hg rfl⟩

/-- the same for ANY set of disciplined paths (not only the regenerated ones): discipline is what excludes the wedge -/
theorem disciplined_never_stuck (acq : List (String × Bool)) (ps : List Path) (hp : ∀ p ∈ ps, disciplined acq p = true)
    (sched : List Nat) : ((Sys.start (ps.map (fun p => flatten acq p.acts))).run sched).stuck = false :=
  not_stuck _ (run_good sched _ (good_start _ ps fun p hpm => by simpa [disciplined] using hp p hpm))

-- non-vacuity: the StreamError branch of handleError exists, locks, unlocks and THEN calls ResetStream, which locks
example : (findPath clientPaths "handleError" ["case http2.StreamError", "s != nil"]).map (·.acts) =
    some [.lock, .unlock, .call "ResetStream" false, .ret] := by decide +kernel
example : acquiresNow clientAcquires "ResetStream" false = true ∧ acquiresNow clientAcquires "ResetStream" true = false ∧
    acquiresNow clientAcquires "connClose" false = true := by decide +kernel
-- Reset holds the mutex while it resets every stream: accepted only because it sets connReset first
example : (clientPaths.filter (fun p => p.fn == "Reset")).map (·.acts) =
    [[.lock, .deferUnlock, .ret], [.lock, .deferUnlock, .call "ResetStream" true, .ret],
     [.lock, .deferUnlock, .call "ResetStream" true, .call "ResetStream" true, .ret]] := by decide +kernel

/-- the `defer` shape of the StreamError branch -/
def deferShape : Path :=
  { fn := "handleError", conds := ["case http2.StreamError", "s != nil"],
    acts := [.lock, .deferUnlock, .call "ResetStream" false, .ret] }

/-- **defer_unlock_self_deadlocks** (machine-checked witness): with `conn.mutex.Lock(); defer conn.mutex.Unlock()` around
the lookup, `s.ResetStream` is called with the mutex held: the path is not disciplined (self-deadlock); the read
goroutine stops in front of its second Lock, a later request's `endStream` stops in front of its first, and the system
of the two is stuck under every continuation — the stream is never reset, the connection never read again. -/
theorem defer_unlock_self_deadlocks :
    checkOps none (flatten clientAcquires deferShape.acts) = some .selfDeadlock ∧
    (let s := (Sys.start [flatten clientAcquires deferShape.acts, [.acq true, .rel true]]).run [0, 1, 0, 1, 1, 0];
     s.stuck = true ∧ s.remaining = 5) := by decide +kernel

end h2lock

def toOutcome : Out → Outcome
  | .needMore => .needMore 0
  | .frame n => .frame n
  | .error k => .error k
  | .oob => .panic

/-- the executable predicate `specContained` (evaluated on implementation outcomes) holds of the model -/
theorem spec_holds_on_model (proto : String) (oracle : Bytes → Bool) (chk : Bytes → Res)
    (h : chkOf proto oracle = some chk) (b : Bytes) : specContained b.length (toOutcome (chk b).out) = true := by
  have g := good_of proto oracle chk h b
  cases ho : (chk b).out with
  | needMore => simp [toOutcome, specContained]
  | frame n => have := g.frame n ho; simp [toOutcome, specContained]; omega
  | error k => have := g.error k ho; simp [toOutcome, specContained]; omega
  | oob => exact absurd ho g.noOob

-- the defect that was repaired (DESIGN.md §6 row 4): without the validation, a block with dangling bytes, or a key
-- without a value, reads out of range
example : unsafeDecode [0,0,0,1,97, 0,0,0,1,98, 0] = .oob := by decide +kernel
example : unsafeDecode [0,0,0,1,97] = .oob := by decide +kernel
example : safe [0,0,0,1,97, 0,0,0,1,98, 0] = .err := by decide +kernel
example : safe [0,0,0,1,97, 0,0,0,1,98] = .ok 1 := by decide +kernel
example : safe [255,255,255,255, 0,0,0,1,97, 0,0,0,0] = .ok 1 := by decide +kernel
-- non-vacuity: each outcome class is reachable
def boltReq : Bytes := [1,1,0,1,1,0,0,0,7,1,0,0,3,232, 0,1, 0,10, 0,0,0,2, 99, 0,0,0,1,97,0,0,0,1,98, 120,121]
example : chkBolt false boltReq = ⟨.frame 35, 36⟩ := by decide +kernel
example : (chkBolt false (boltReq.take 30)).out = .needMore := by decide +kernel
example : (chkBolt false (boltReq.set 17 11 ++ [0])).out = .error 36 := by decide +kernel
example : (chkBolt false (boltReq.set 1 9)).out = .error 0 := by decide +kernel
example : (chkThrift (fun _ => true) [0,0,0,2,0xda,0xbc]).out = .error 0 := by decide +kernel
-- an announced package length below the prefix itself (PACKAGE_ERROR) is a decode error since the tars fix
example : (chkTars (fun _ => true) [0,0,0,3,1,2,3]).out = .error 0 := by decide +kernel
example : (chkTars (fun _ => true) [0,0,0,9,1,2,3]).out = .needMore := by decide +kernel

-- HPACK: a 10-byte continuation run overflows, a length beyond the received bytes asks for more (DecodeFull: error)
example : MosnVerif.Model.FrameHpack.readVarInt 7 [0x7f, 0x83, 0x01] = .ok 258 [] := by decide +kernel
example : MosnVerif.Model.FrameHpack.readVarInt 7 [0x7f,0x80,0x80,0x80,0x80,0x80,0x80,0x80,0x80,0x80,0x01] = .overflow := by decide +kernel
example : MosnVerif.Model.FrameHpack.decodeFull 0 [0x10, 1, 97, 2, 98, 99] = .ok [(1, 2)] := by decide +kernel
example : MosnVerif.Model.FrameHpack.decodeFull 0 [0x10, 1, 97, 0x7f, 0xff, 0xff, 0x03, 98] = .err := by decide +kernel

/-! ## No unbounded loop: the decode loop of `streamConn.Dispatch` (control structure regenerated: Gen/C08Loop) -/
section dispatch
open MosnVerif.Model.DispatchLoop MosnVerif.Lemmas.DispatchLoop

/-- the loop as written returns after an empty buffer, need-more, a decode error (behind handleError) and a frame of
the wrong Go type; it goes round again only after a frame -/
theorem dispatch_policy_safe : xPolicy.Safe ∧ xPolicy.againFrame = true ∧ MosnVerif.Gen.C08Loop.decodesEmpty = 0 ∧
    MosnVerif.Gen.C08Loop.errorHandled = true := by decide +kernel

/-- **dispatch_terminates**: for EVERY read buffer and EVERY decoder whose successes drain at least one byte, one
`Dispatch` returns (the small-step loop has a terminating run: the buffer length is the variant), after at most
`|buffer|` (hence `≤ |buffer| + 1`) Decode calls, and it never grows the buffer. -/
theorem dispatch_terminates (dec : List UInt8 → DStep) (hd : Progress dec) (b : List UInt8) :
    ∃ c', Returns xPolicy dec ⟨b, 0⟩ c' ∧ c'.calls ≤ b.length ∧ c'.calls ≤ b.length + 1 ∧ c'.buf.length ≤ b.length := by
  obtain ⟨c', hr, hc, hl⟩ := run_terminates xPolicy dec dispatch_policy_safe.1 hd b.length ⟨b, 0⟩ (Nat.le_refl _)
  refine ⟨c', run_sound _ _ _ _ _ hr, ?_, ?_, hl⟩ <;> simp at hc <;> omega

/-- the executable loop the driver runs needs no more fuel than `|buffer| + 1` -/
theorem dispatch_run_total (dec : List UInt8 → DStep) (hd : Progress dec) (b : List UInt8) :
    (run xPolicy dec (b.length + 1) ⟨b, 0⟩).isSome = true := by
  obtain ⟨c', hr, _⟩ := run_terminates xPolicy dec dispatch_policy_safe.1 hd b.length ⟨b, 0⟩ (Nat.le_refl _)
  simp [hr]

/-- **error_ends_dispatch**: a failed Decode is the LAST Decode call of that Dispatch (zero further calls), whatever
it drained — in particular when it drained nothing (bolt unknown command type, dubbo / thrift / tars decodeFrame). -/
theorem error_ends_dispatch (dec : List UInt8 → DStep) (c : Cfg) (k : Nat) (hne : c.buf.isEmpty = false)
    (he : dec c.buf = .error k) : Returns xPolicy dec c ⟨c.buf.drop k, c.calls + 1⟩ := by
  have h2 : (turn xPolicy dec c).2 = false := by simp [turn, hne, he]; decide
  have h1 : (turn xPolicy dec c).1 = ⟨c.buf.drop k, c.calls + 1⟩ := by simp [turn, hne, he]
  have := Returns.done (p := xPolicy) (dec := dec) (c := c) h2
  rwa [h1] at this

/-- every modelled codec (checked-access decoders of bolt, boltv2, dubbo, dubbothrift, tars; every payload oracle)
is a decoder `dispatch_terminates` applies to -/
theorem codecs_progress (proto : String) (oracle : Bytes → Bool) (chk : Bytes → Res) (h : chkOf proto oracle = some chk) :
    Progress (decOf chk) := by
  intro b n hb
  unfold decOf at hb
  cases ho : (chk b).out with
  | needMore => simp [ho, ofOut] at hb
  | error k => simp [ho, ofOut] at hb
  | oob => simp [ho, ofOut] at hb
  | frame m =>
    simp [ho, ofOut] at hb
    subst hb
    exact ((no_overread proto oracle chk h b).1 m ho).1

/-- negation witness: a loop that CONTINUES behind handleError never returns on a decoder whose failure drains
nothing (one buffered byte suffices): the configuration repeats for ever -/
theorem continue_after_error_diverges :
    ¬ ∃ c', Returns { xPolicy with againError := true } (fun _ => DStep.error 0) ⟨[1], 0⟩ c' := by
  rintro ⟨c', h⟩
  exact fixed_point_diverges { xPolicy with againError := true } (fun _ => DStep.error 0) [1]
    (fun k => by simp [turn]) _ _ h rfl

-- non-vacuity: a pipelined buffer (two 3-byte frames, then a failure that drains nothing) — 3 calls, 2 bytes left
example : run xPolicy (fun b => if b.length > 2 then .frame 3 else .error 0) 9 ⟨[1,2,3,4,5,6,7,8], 0⟩
    = some ⟨[7,8], 3⟩ := by decide +kernel
example : Progress (fun b => if b.length > 2 then DStep.frame 3 else .error 0) := by
  intro b n h
  have h' : (if b.length > 2 then DStep.frame 3 else DStep.error 0) = DStep.frame n := h
  split at h' <;> simp at h'; omega
-- the same script under continue-after-error burns all its fuel
example : run { xPolicy with againError := true } (fun b => if b.length > 2 then .frame 3 else .error 0) 50
    ⟨[1,2,3,4,5,6,7,8], 0⟩ = none := by decide +kernel
end dispatch

/-! ## No panic escapes: every goroutine a read turn may run in recovers (tables regenerated: Gen/C08Recover) -/
section recover
open MosnVerif.Model.PoolRecover MosnVerif.Lemmas.PoolRecover MosnVerif.Gen.C08Recover

/-- **panic_contained**: for each of `Schedule`, `ScheduleAlways`, `ScheduleAuto`, EVERY pool state at every select
statement (worker parked or not, slot free or not — including the saturated pool) and WHICHEVER ready clause Go picks,
the goroutine the task runs in has a recover: a panicking task never ends the process. -/
theorem panic_contained (name : String) (api : Selects) (h : apiOf name = some api) (st : Nat → PoolState) :
    ∀ a ∈ outcomes st 0 api, survives a = true := by
  have hall : allSurvive api = true := by
    unfold apiOf at h
    split at h
    · cases h; decide
    · split at h
      · cases h; decide
      · split at h
        · cases h; decide
        · cases h
  exact outcomes_survive st api 0 hall

/-- the netpoll read turn (eventloop.go readCallback: onRead → filters → Dispatch → Decode) goes through a pool method
that is in the table, and the non-netpoll read and write loops are started with a recover -/
theorem read_path_contained :
    (netpollTaskRecovers = true ∨ ∃ api, apiOf netpollReadVia = some api ∧ allSurvive api = true) ∧
    (∀ l ∈ rwLoops, l.2 = true) ∧ ("startReadLoop", true) ∈ rwLoops := by
  refine ⟨Or.inr ⟨scheduleAuto, by decide, by decide⟩, by decide, by decide⟩

-- the saturated pool: Schedule blocks, ScheduleAlways / ScheduleAuto use the temporary goroutine
example : verdicts schedule ⟨false, false⟩ = ["blocked"] := by decide +kernel
example : verdicts scheduleAuto ⟨false, false⟩ = ["survived"] := by decide +kernel
example : verdicts scheduleAlways ⟨true, true⟩ = ["survived", "survived"] := by decide +kernel
example : verdicts scheduleAuto ⟨false, true⟩ = ["survived"] := by decide +kernel
-- negation witness: the same table with a bare `go task()` in the default clause loses the process when saturated
example : (outcomes (fun _ => ⟨false, false⟩) 0
    [[("work", "handoff"), ("default", "none")], [("work", "handoff"), ("sem", "spawn"), ("default", "bare")]]).map survives
    = [false] := by decide +kernel
end recover

/-! ## The HTTP/2 read path: `MFramer.ReadFrame` with checked access and the two `Dispatch` loops
(slice bounds, indices, offsets and the loop structure regenerated: Gen/C08H2Loop; length tests: Gen/FrameLen) -/
section h2loop
open MosnVerif.Model.H2ReadLoop MosnVerif.Lemmas.H2ReadLoop

/-- both loops as written return after ErrAGAIN and after a connection error (which handleFrame → handleError has seen);
they go round again after a frame and after a StreamError -/
theorem h2_policy_safe : srvPolicy.Safe ∧ cliPolicy.Safe ∧
    srvPolicy.againFrame = true ∧ cliPolicy.againFrame = true ∧ srvPolicy.againStream = true ∧ cliPolicy.againStream = true ∧
    MosnVerif.Gen.C08H2Loop.srvHandledConnErr = true ∧ MosnVerif.Gen.C08H2Loop.cliHandledConnErr = true ∧
    MosnVerif.Gen.C08H2Loop.srvHandledStreamErr = true ∧ MosnVerif.Gen.C08H2Loop.cliHandledStreamErr = true := by decide +kernel

theorem safe_of_h2_policy {p : Policy} (hp : p = srvPolicy ∨ p = cliPolicy) : p.Safe := by
  rcases hp with rfl | rfl
  · exact h2_policy_safe.1
  · exact h2_policy_safe.2.1

/-- **h2_readframe_no_overread**: for EVERY buffer content, EVERY offset, every read limit and every behaviour of the
payload parsers / header-block validation: `readFrameHeader` (slice `data.Bytes()[off:]`, the indices 0..4, the 4-byte
read at 5), the payload slice of `ReadFrame` and every nested read of `readMetaFrame` (any start offset, any stream, any
number of CONTINUATION frames) stay inside the buffered bytes (checked access never answers `oob`); and a top-level
`ReadFrame` that delivers a frame or a StreamError drained at least one whole frame header (9 bytes) and never more than
was buffered. -/
theorem h2_readframe_no_overread (mx : Nat) (o : Orc) (b : List UInt8) :
    (∀ off, readHdr b off ≠ .oob ∧ one mx o b off ≠ .oob) ∧
    (∀ off0 sid fuel ms, contLoop mx o b off0 sid fuel ms ≠ .oob) ∧
    readFrame mx o b ≠ .oob ∧
    (∀ k, (readFrame mx o b = .frame k ∨ readFrame mx o b = .stream k) → 9 ≤ k ∧ k ≤ b.length) :=
  ⟨fun off => ⟨(readHdr_spec b off).1, (one_spec mx o b off).1⟩,
   fun off0 sid fuel ms => (contLoop_spec mx o b off0 sid fuel ms).1,
   (readFrame_spec mx o b).1, (readFrame_spec mx o b).2⟩

/-- **h2_dispatch_terminates**: `serverStreamConnection.Dispatch` and `clientStreamConnection.Dispatch`, for EVERY read
buffer and EVERY (possibly stateful) decoder whose frames and stream errors consume ≥ 9 buffered bytes, return — after
at most `|buffer|/9 + 1` Decode calls, never enlarging the buffer (small-step loop without fuel; the buffer length is
the variant). -/
theorem h2_dispatch_terminates (p : Policy) (hp : p = srvPolicy ∨ p = cliPolicy) (dec : Nat → List UInt8 → DStep)
    (hd : Progress dec) (b : List UInt8) :
    ∃ c', Returns p dec ⟨b, 0⟩ c' ∧ c'.calls ≤ b.length / 9 + 1 ∧ c'.buf.length ≤ b.length := by
  obtain ⟨c', hr, hc, hl⟩ := run_terminates p dec (safe_of_h2_policy hp) hd (b.length / 9) ⟨b, 0⟩ (Nat.le_refl _)
  exact ⟨c', run_sound _ _ _ _ _ hr, by simpa using hc, hl⟩

/-- … in particular with the framer itself as the decoder (`clientCodec.Decode`; `serverCodec.Decode` behind the
preface): every read limit, every behaviour of the parsers and of the header-block validation -/
theorem h2_dispatch_terminates_framer (p : Policy) (hp : p = srvPolicy ∨ p = cliPolicy) (mx : Nat) (o : Orc) (b : List UInt8) :
    ∃ c', Returns p (frameDec mx o) ⟨b, 0⟩ c' ∧ c'.calls ≤ b.length / 9 + 1 ∧ c'.buf.length ≤ b.length :=
  h2_dispatch_terminates p hp (frameDec mx o) (frameDec_progress mx o) b

/-- every turn that goes round again drained ≥ 9 bytes that were buffered -/
theorem h2_again_turn_drains (p : Policy) (hp : p = srvPolicy ∨ p = cliPolicy) (dec : Nat → List UInt8 → DStep)
    (hd : Progress dec) (c : Cfg) (ha : (turn p dec c).2 = true) :
    (turn p dec c).1.buf.length + 9 ≤ c.buf.length ∧ 9 ≤ (dec c.calls c.buf).drained :=
  turn_measure p dec (safe_of_h2_policy hp) hd c ha

/-- ErrAGAIN and a connection error END the Dispatch: that Decode call is its last one -/
theorem h2_again_connerr_end_dispatch (p : Policy) (hp : p = srvPolicy ∨ p = cliPolicy) (dec : Nat → List UInt8 → DStep)
    (c : Cfg) (k : Nat) (he : dec c.calls c.buf = .again k ∨ dec c.calls c.buf = .conn k) :
    Returns p dec c ⟨c.buf.drop k, c.calls + 1⟩ := by
  have hs := safe_of_h2_policy hp
  have h2 : (turn p dec c).2 = false := by
    rcases he with he | he <;> simp [turn, he, Policy.again, hs.1, hs.2]
  have h1 : (turn p dec c).1 = ⟨c.buf.drop k, c.calls + 1⟩ := by
    rcases he with he | he <;> simp [turn, he, DStep.drained]
  have := Returns.done (p := p) (dec := dec) (c := c) h2
  rwa [h1] at this

/-- negation witness: a loop that CONTINUES after a connection error never returns (a connection error drains nothing) -/
theorem h2_continue_after_connerr_diverges :
    ¬ ∃ c', Returns { srvPolicy with againConn := true } (fun _ _ => DStep.conn 0) ⟨[1], 0⟩ c' := by
  rintro ⟨c', h⟩
  exact MosnVerif.Lemmas.H2ReadLoop.fixed_point_diverges { srvPolicy with againConn := true } (fun _ _ => DStep.conn 0) [1]
    (fun k => by simp [turn, DStep.drained, Policy.again]) _ _ h rfl

-- non-vacuity. A PING (8 bytes payload) behind which 3 bytes of the next header wait: frame, then ErrAGAIN
def h2Ping : List UInt8 := [0,0,8, 6, 0, 0,0,0,0, 1,2,3,4,5,6,7,8]
def okOrc : Orc := ⟨fun _ => .ok, fun _ => .ok⟩
example : readFrame 16384 okOrc (h2Ping ++ [0,0,0]) = .frame 17 := by decide +kernel
example : run srvPolicy (frameDec 16384 okOrc) 3 ⟨h2Ping ++ [0,0,0], 0⟩ = some ⟨[0,0,0], 2⟩ := by decide +kernel
-- HEADERS (stream 1, no END_HEADERS, 1 byte) + CONTINUATION (END_HEADERS, 2 bytes): one group of 21 bytes
def h2Group : List UInt8 := [0,0,1, 1, 0, 0,0,0,1, 0x82,  0,0,2, 9, 4, 0,0,0,1, 0x84, 0x86]
example : readFrame 16384 okOrc h2Group = .frame 21 := by decide +kernel
-- the same with only 0..8 bytes of the CONTINUATION header buffered: ErrAGAIN, nothing read out of range
example : (List.range 9).all (fun n => readFrame 16384 okOrc (h2Group.take (10 + n)) == .again) = true := by decide +kernel
-- the class the theorem excludes: a completeness test that forgets the offset (`data.Len() < frameHeaderLen`) lets the
-- header read at offset 10 run past the 12 buffered bytes
example : hdrOf ((h2Group.take 12).drop 10) = .oob := by decide +kernel
-- payload length at / one above the read limit; a stream error consumes its frame, the loop goes on
example : readFrame 8 okOrc h2Ping = .frame 17 ∧ readFrame 7 okOrc h2Ping = .conn := by decide +kernel
example : run cliPolicy (frameDec 16384 ⟨fun _ => .stream, fun _ => .ok⟩) 4 ⟨h2Ping ++ h2Ping, 0⟩ = some ⟨[], 3⟩ := by decide +kernel
-- continue-after-connection-error burns all its fuel
example : run { srvPolicy with againConn := true } (frameDec 7 okOrc) 50 ⟨h2Ping, 0⟩ = none := by decide +kernel
end h2loop

/-! ## dubbo service-aware metadata: every risky site of the hessian walk lies behind the deferred recover
(sites and domination regenerated from the AST of getServiceAwareMeta: Gen/C08DubboMeta) -/
section dubbometa
open MosnVerif.Model.DubboMeta MosnVerif.Gen.C08DubboMeta

/-- **dubbo_meta_sites_recovered**: getServiceAwareMeta has a deferred recover and EVERY unchecked type assertion,
index / bounded slice expression and call of a function of the package in it is dominated by that defer statement
(it is a direct statement of a block and the site lies in a later statement of the same block). -/
theorem dubbo_meta_sites_recovered : recoverPresent = true ∧ ∀ s ∈ riskySites, s.2.2 = true := by decide +kernel

/-- **dubbo_meta_walk_no_panic**: for EVERY sequence of decoded fields (string, nil, any other type, decode error at
every position), every announced argument count, both kinds of listener: the walk ends in `ok` or a decode error —
never in a panic that leaves the function. -/
theorem dubbo_meta_walk_no_panic (aware : Bool) (f : Nat → Fld) (nargs : Nat) : walk aware f nargs ≠ .panic := by
  have hk : ∀ (x : Fld) (b : Bool) (k : WOut), k ≠ .panic → needStr x b k ≠ .panic := by
    intro x b k hk
    cases x <;> cases b <;> simp [needStr, hk]
  have hs : ∀ (n p : Nat) (k : WOut), k ≠ .panic → skipArgs f p n k ≠ .panic := by
    intro n
    induction n with
    | zero => intro p k hk; simpa [skipArgs] using hk
    | succ n ih =>
      intro p k hk
      unfold skipArgs
      split
      · simp
      · exact ih _ _ hk
  have ht : typesNonString ≠ .panic := by decide
  unfold walk
  refine hk _ _ _ (hk _ _ _ (hk _ _ _ (hk _ _ _ ?_)))
  cases aware
  · simp
  · simp only [Bool.not_true, Bool.false_eq_true, if_false]
    cases f 4
    · apply hs; split <;> simp
    · exact ht
    · exact ht
    · simp

-- non-vacuity: an int where the argument-type descriptor is expected is an error on an aware listener and never looked
-- at on another one; a missing version (nil) is accepted; two arguments are skipped whatever their type
example : walk true (fun i => if i = 4 then .other else .str) 0 = .err ∧
    walk false (fun i => if i = 4 then .other else .str) 0 = .ok := by decide +kernel
example : walk true (fun i => if i = 2 then .null else if i = 5 ∨ i = 6 then .other else .str) 2 = .ok := by decide +kernel
example : walk true (fun i => if i < 6 then .str else .derr) 2 = .err := by decide +kernel
example : riskySites.length = 2 ∧ uncheckedStringAsserts = 1 := by decide +kernel
end dubbometa

/-! ## HTTP/1 (pkg/stream/http/stream.go): the serve loop behind the Dispatch pipe, the pipe itself, the limits -/
section http1
open MosnVerif.Model.H1Serve MosnVerif.Gen.C08H1Loop MosnVerif.Lemmas.H1Serve

/-- For EVERY finite input and EVERY parser (fasthttp is an oracle) whose messages consume at least one byte of what they
were given, `serverStreamConnection.serve()` and `clientStreamConnection.serve()` (what a turn does per class of parser
answer regenerated: Gen/C08H1Loop) stop turning after at most |input| + 1 parse calls, and they end blocked in Read waiting
for more bytes or with the failure acted upon (server: connection closed; client: waiting stream reset) — never gone
without anybody having been told (`Fin.dead`), also when the parser panics. -/
theorem http1_serve_terminates_per_input (parse : List UInt8 → PStep) (hp : Progress parse) (input : List UInt8)
    (p : Policy) (hpol : p = srvPolicy ∨ p = cliPolicy) :
    ∃ c' f, Returns p parse ⟨input, 0, []⟩ c' f ∧ c'.calls ≤ input.length + 1 ∧ 0 < c'.calls ∧
      (f = .waiting ∨ f = .closed) := by
  have hc : p.Contained := by cases hpol with
    | inl h => rw [h]; decide
    | inr h => rw [h]; decide
  obtain ⟨c', f, hr, h1, h2⟩ := returns_of_progress p hc.1 parse hp input.length ⟨input, 0, []⟩ rfl
  exact ⟨c', f, hr, by simpa using h1, by omega, returns_fin_contained p hc parse hr⟩

-- non-vacuity: a parser that takes 3 bytes per message and fails on a short rest: two requests answered, then 400 + close
example : run srvPolicy (fun b => if b.length ≥ 3 then .msg 3 false false else if b.isEmpty then .needMore false else .err false)
    9 ⟨[1, 2, 3, 4, 5, 6, 7], 0, []⟩ = some (⟨[7], 3, [.q, .r, .q, .r, .b, .x]⟩, .closed) := by decide +kernel
example : Progress (fun b => if b.length ≥ 3 then .msg 3 false false else .err false) := by
  intro b n c k h
  dsimp only at h
  split at h
  · cases h; omega
  · cases h
-- a parser panic (fasthttp on a Content-Length above 2^31) is answered and the connection closed
example : run srvPolicy (fun _ => .panic false) 3 ⟨[1], 0, []⟩ = some (⟨[1], 1, [.b, .x]⟩, .closed) := by decide +kernel
example : run cliPolicy (fun _ => .panic false) 3 ⟨[1], 0, []⟩ = some (⟨[1], 1, [.t]⟩, .closed) := by decide +kernel

/-- machine-checked witness for the seeded mistake: a serve loop that goes round again behind a parse error never stops
when the parser fails without consuming (fasthttp discards nothing on a header error) -/
theorem http1_continue_after_error_diverges (parse : List UInt8 → PStep) (he : ∀ b, parse b = .err false)
    (c c' : Cfg) (f : Fin) : ¬ Returns { srvPolicy with errAgain := true } parse c c' f :=
  fun h => spins _ rfl parse he h

/-- `Dispatch` never blocks behind a parse error (or a parser panic) on a server connection: the error turn calls Close,
the connection's close event reaches `Reset` (the stream connection listens, OnEvent -> Reset), Reset closes `bufChan`,
and a send on the closed channel panics under Dispatch's deferred recover: Dispatch returns, whatever it still holds.
The same Reset releases a serve goroutine blocked in Read (closed channel -> error -> serve returns). -/
theorem http1_dispatch_never_blocks_after_error (len : Nat) :
    dispatchOn h1_dispatchRecovers (srvPipeAfter srvPolicy.errCloses srvPolicy.errAgain) len = .returns ∧
    dispatchOn h1_dispatchRecovers (srvPipeAfter srvPolicy.panicCloses false) len = .returns ∧
    readReleasedByReset = true := by
  have h1 : srvPipeAfter srvPolicy.errCloses srvPolicy.errAgain = ⟨true, false⟩ := by decide
  have h2 : srvPipeAfter srvPolicy.panicCloses false = ⟨true, false⟩ := by decide
  have hr : h1_dispatchRecovers = true := by decide
  refine ⟨?_, ?_, by decide⟩
  · rw [h1, hr]; unfold dispatchOn; split <;> simp
  · rw [h2, hr]; unfold dispatchOn; split <;> simp

/-- what the code does on the CLIENT side, exactly: a failed response read resets the waiting stream and serve returns
WITHOUT closing the connection (h1_cliErrCloses = 0): a Dispatch that still holds bytes stays blocked until the owner of
the connection (the pool: activeClient.OnResetStream marks it, OnDestroyStream closes it) closes it; then it returns. -/
theorem http1_client_dispatch_released_by_close (len : Nat) (h : 0 < len) :
    dispatchOn h1_dispatchRecovers ⟨false, cliPolicy.errAgain⟩ len = .blockedUntilClose ∧
    dispatchOn h1_dispatchRecovers ⟨h1_resetCloses.contains "bufChan", false⟩ len = .returns := by
  have hr : h1_dispatchRecovers = true := by decide
  have ha : cliPolicy.errAgain = false := by decide
  have hc : h1_resetCloses.contains "bufChan" = true := by decide
  rw [hr, ha, hc]
  unfold dispatchOn
  have : ¬ len = 0 := by omega
  simp [this]

-- non-vacuity: a pipe nobody reads from and nobody closed blocks; without the recover the send would panic
example : dispatchOn true ⟨false, false⟩ 5 = .blockedUntilClose ∧ dispatchOn false ⟨true, false⟩ 5 = .panics := by decide +kernel

theorem headRead_large (size headLen avail : Nat) (h : effReader size < headLen) :
    (headRead size headLen avail).1 ≠ .parsed ∧ (headRead size headLen avail).2 ≤ effReader size ∧
    (effReader size ≤ avail → (headRead size headLen avail).1 = .tooLarge) := by
  unfold headRead
  dsimp only
  by_cases ha : avail < effReader size
  · have h1 : ¬ headLen ≤ avail := by omega
    have h2 : ¬ avail = effReader size := by omega
    simp only [ha, if_true, h1, h2, if_false]
    refine ⟨by simp, by omega, by omega⟩
  · have h1 : ¬ headLen ≤ effReader size := by omega
    simp only [ha, if_false, h1, if_true]
    refine ⟨by simp, by omega, fun _ => trivial⟩

/-- The limits, exactly as the code sets them. HEAD: the bufio.Reader of a server connection has the configured
MaxHeaderSize (default `defaultMaxHeaderSize` = 8192; bufio's minimum is 16), the client's the configured
max_header_size or the default; a message head LARGER than that reader is never parsed, never more than the reader's size
is buffered for it, and as soon as that many bytes have arrived the parser fails loudly (ErrSmallBuffer) — which serve
answers with 400 + Close and returns (client: stream reset).  BODY: the server hands the configured MaxRequestBodySize to
ReadLimitBody / ContinueReadBody; its DEFAULT IS 0 = NO LIMIT, and the client reads responses with no limit at all
(fasthttp then allocates for the announced Content-Length: not bounded by this code). -/
theorem http1_limits_enforced (cfg headLen avail : Nat) (h : effReader (h1_srvReaderSize cfg) < headLen) :
    (headRead (h1_srvReaderSize cfg) headLen avail).1 ≠ .parsed ∧
    (headRead (h1_srvReaderSize cfg) headLen avail).2 ≤ effReader (h1_srvReaderSize cfg) ∧
    (effReader (h1_srvReaderSize cfg) ≤ avail → (headRead (h1_srvReaderSize cfg) headLen avail).1 = .tooLarge) ∧
    (0 < srvPolicy.errW400 ∧ 0 < srvPolicy.errCloses ∧ srvPolicy.errAgain = false) ∧
    (0 < cliPolicy.errResets ∧ cliPolicy.errAgain = false) ∧
    h1_srvReaderSize h1_defaultMaxHeaderSize = 8192 ∧ h1_cliReaderSize 0 = 8192 ∧
    (∀ b, h1_srvBodyLimit b = b) ∧ h1_defaultMaxRequestBodySize = 0 ∧ h1_cliBodyLimit = 0 := by
  obtain ⟨a, b, c⟩ := headRead_large (h1_srvReaderSize cfg) headLen avail h
  exact ⟨a, b, c, by decide, by decide, by decide, by decide, fun _ => rfl, by decide, by decide⟩

-- non-vacuity: default reader, heads of 8192 / 8193 bytes fully arrived; a head that never ends
example : (headRead 8192 8192 9000).1 = .parsed ∧ (headRead 8192 8193 9000) = (.tooLarge, 8192) ∧
    (headRead 8192 100000 5000) = (.needMore, 5000) ∧ (headRead 3 17 40) = (.tooLarge, 16) := by decide +kernel
end http1

/-! ## SETTINGS of an upstream are validated before they are applied; the request writers' loops end -/
section settings
open MosnVerif.Model.H2ClientSettings MosnVerif.Lemmas.H2ClientSettings MosnVerif.Gen

/-- the tie of this section, decided on the regenerated structure: on BOTH sides (MServerConn via the embedded
serverConn.processSetting, MClientConn via its callback) the function handed to `ForeachSetting` returns the error of
`s.Valid()` before it assigns anything; MAX_FRAME_SIZE is stored in the field the writers read; the HEADERS loop has the
shape the model is written from and its callers pass that field. -/
theorem settings_validated_before_applied :
    C08H2Settings.clientValidatesFirst = true ∧ C08H2Settings.serverValidatesFirst = true ∧
    stores C08H2Settings.clientApplies 5 "cc.maxFrameSize" = true ∧
    stores C08H2Settings.serverApplies 5 "sc.maxFrameSize" = true ∧
    C08H2Settings.headersLoopShape = ["len(hdrs)>0", "chunk:=hdrs", "cut:chunk=chunk[:maxFrameSize]", "hdrs=hdrs[len(chunk):]"] ∧
    C08H2Settings.headersMaxArgs.all (fun a => a == "int(cc.maxFrameSize)" || a == "int(cc.conn.maxFrameSize)") = true ∧
    0 < C08H2Settings.dataFragMax := by decide +kernel

/-- **client_settings_keep_frame_size_in_range**: whatever SETTINGS frames an upstream sends (EVERY list of
(id, value) pairs, every id and every 32-bit or larger value), if `processSettings` (regenerated: validates first,
assignments) accepts them the stored MAX_FRAME_SIZE is inside [16384, 2^24-1]. -/
theorem client_settings_keep_frame_size_in_range (ss : List (Nat × Nat)) (c0 c : Conn) (h0 : c0.Ok)
    (h : processSettings C08H2Settings.clientValidatesFirst C08H2Settings.clientApplies c0 ss = .ok c) : c.Ok := by
  have hv : C08H2Settings.clientValidatesFirst = true := by decide
  rw [hv] at h
  exact processSettings_ok _ ss c0 c h0 h

/-- **client_request_writers_terminate** (no unbounded loop on the goroutine that writes a request): after ANY accepted
sequence of SETTINGS, for EVERY header block length and EVERY body length covered by the send window, the
HEADERS/CONTINUATION loop of `writeHeaders` and the DATA loop of `writeDataAndTrailer` end within (length) turns, every
frame carries at least one octet (progress), header fragments are at most the peer's frame size, and the fragments add
up to what was to be written. -/
theorem client_request_writers_terminate (ss : List (Nat × Nat)) (c : Conn)
    (h : processSettings C08H2Settings.clientValidatesFirst C08H2Settings.clientApplies init ss = .ok c)
    (hlen b avail : Nat) (hb : b ≤ avail) :
    (∃ fs, headerFrames c.maxFrameSize (hlen + 1) hlen = some fs ∧ sumI fs = hlen ∧
      (∀ f ∈ fs, 0 < f ∧ f ≤ (c.maxFrameSize : Int)) ∧ (fs.length : Int) ≤ hlen) ∧
    (∃ fs, dataFrames c.maxFrameSize (b + 1) avail b = some fs ∧ sumI fs = b ∧ ∀ f ∈ fs, 0 < f) := by
  have hok := client_settings_keep_frame_size_in_range ss init c init_ok h
  have hm : (0 : Int) < (c.maxFrameSize : Int) := by have := hok.1; omega
  exact ⟨headerFrames_terminates _ hm hlen hlen (by omega) (by omega),
    dataFrames_terminates _ hm b avail b (by omega) (by omega) (by omega)⟩

/-- the model's outcome of EVERY `h2set` case satisfies the executable predicate (the request ends; every frame makes
progress) — for every setting id, every value, every header block and every body covered by the initial window -/
theorem h2set_spec_holds_on_model (id val hdr hlen b : Nat) (hb : b ≤ 65535) :
    h2setSpec (h2setModel C08H2Settings.clientValidatesFirst C08H2Settings.clientApplies id val hdr hlen b) = true := by
  unfold h2setModel
  split
  · exact request_spec _ _ _ _ _ (by decide) (by decide) hb
  · rename_i c hc
    split
    · decide
    · have hok := client_settings_keep_frame_size_in_range _ init c init_ok hc
      exact request_spec _ _ _ _ _ (by decide) (by have := hok.1; omega) hb

/-- machine-checked witness of the defect that was repaired (fix: MClientConn.processSettings calls Valid first): a
callback that does NOT validate accepts MAX_FRAME_SIZE = 0, and then neither loop ever ends, whatever the fuel — for every
non-empty header block and every non-empty body. -/
theorem unvalidated_settings_wedge :
    ∃ c, processSettings false C08H2Settings.clientApplies init [(5, 0)] = .ok c ∧
      (∀ fuel (rest : Int), 0 < rest → headerFrames c.maxFrameSize fuel rest = none) ∧
      (∀ fuel (avail rest : Int), 0 < rest → 0 < avail → dataFrames c.maxFrameSize fuel avail rest = none) := by
  refine ⟨{ init with maxFrameSize := 0 }, by rfl, ?_, ?_⟩
  · intro fuel rest hr; exact headerFrames_diverges 0 (by omega) fuel rest hr
  · intro fuel avail rest hr ha; exact dataFrames_diverges fuel avail rest hr ha

-- non-vacuity: a SETTINGS frame that is accepted and changes the frame size; 40019 octets of header block in 3 frames
example : processSettings C08H2Settings.clientValidatesFirst C08H2Settings.clientApplies init [(4, 70000), (5, 20000)]
    = .ok { init with maxFrameSize := 20000, initialWindow := 70000 } := by rfl
example : headerFrames 20000 40020 40019 = some [20000, 20000, 19] := by decide +kernel
example : dataFrames 20000 30001 65535 30000 = some [16384, 3616, 10000] := by decide +kernel
example : processSettings C08H2Settings.clientValidatesFirst C08H2Settings.clientApplies init [(5, 0)] = .error 1 := by rfl
example : headerFrames 0 40 5 = none := by decide +kernel
end settings

/-! ## "need more data" is honest: no connection waits for ever on bytes that can never become a frame -/
section needmore
open MosnVerif.Model.FrameSteps MosnVerif.Model.NeedMoreLive MosnVerif.Lemmas.NeedMoreLive MosnVerif.Gen.FrameConsts

/-- **needmore_is_live_partial**: for dubbo, dubbothrift and tars (either payload oracle) and EVERY byte string the
decoder answers "need more data" on, there is a continuation on which it answers a frame or an error: the connection is
never stuck whatever the peer sends next.  (tars: since the fix that maps TarsGo's PACKAGE_ERROR to a decode error —
regenerated flag `tars_packageErrorFails`; with the flag false the statement is false, see the witness below.)
Full statement: the same for bolt and boltv2 (their selection on the first bytes is not done here). -/
theorem needmore_is_live_partial (proto : String) (oracle : Bytes → Bool) (step : Bytes → Step Bytes)
    (hp : proto = "dubbo" ∨ proto = "thrift" ∨ proto = "tars") (hs : frameStepOf proto oracle = some step)
    (b : Bytes) (h : step b = .needMore) : ∃ e, step (b ++ e) ≠ .needMore := by
  rcases hp with rfl | rfl | rfl <;> simp only [frameStepOf, Option.some.injEq] at hs <;> subst hs
  · exact envelope_live _ _ dubboHdr_live b h
  · exact envelope_live _ _ thriftHdr_live b h
  · exact envelope_live _ _ tarsHdr_live b h

/-- the checked tars decoder (the one the `dec` / `disp` cases are compared with) never answers need-more on a buffer
the declarative reference calls hopeless (announced package length < 4 or > 10 MiB): the predicate added to kinds
`dec` and `disp` holds of the model -/
theorem tars_needmore_never_hopeless (oracle : Bytes → Bool) (b : Bytes)
    (h : (chkTars oracle b).out.toStep b = .needMore) : hopeless "tars" b = false := by
  rw [MosnVerif.Model.FrameChk.chkTars_refines] at h
  exact tarsHdr_needMore_not_hopeless b (envelope_needMore.1 h)

/-- witness of the repaired defect: a decoder that maps PACKAGE_ERROR to "need more data" (the code before the fix)
waits for ever on the prefix 00 00 00 00 — whatever follows -/
theorem tars_package_error_as_needmore_is_stuck (e : Bytes) :
    (fun (b : Bytes) => if b.length < 4 then Hdr.needMore else
      if be b 0 4 < 4 ∨ be b 0 4 > 10485760 then Hdr.needMore else
      if b.length < be b 0 4 then Hdr.needMore else Hdr.len (be b 0 4)) ([0, 0, 0, 0] ++ e) = .needMore := by
  have h : be ([0, 0, 0, 0] ++ e) 0 4 = 0 := by
    rw [MosnVerif.Model.FrameSteps.be_append [0, 0, 0, 0] e 0 4 (by simp)]; decide
  simp only [h]; simp

-- non-vacuity: buffers tars answers need-more on (short prefix; 6 announced, 5 buffered) and their completions
example : frameStep_tars (fun _ => true) [0, 0] = .needMore ∧ frameStep_tars (fun _ => true) [0, 0, 0, 6, 16] = .needMore ∧
    frameStep_tars (fun _ => true) ([0, 0, 0, 6, 16] ++ [1]) = .frame [0, 0, 0, 6, 16, 1] 6 := by decide +kernel
example : frameStep_tars (fun _ => true) [0, 0, 0, 3] = .error ∧ frameStep_tars (fun _ => true) [0xff, 0xff, 0xff, 0xff, 1] = .error ∧
    hopeless "tars" [0, 0, 0, 3] = true ∧ hopeless "tars" [0, 0, 0, 4] = false ∧ hopeless "tars" [0, 0xa0, 0, 1] = true := by decide +kernel
end needmore

/-! ## trailers: a second HEADERS frame on a request stream never reaches a nil trailer object -/
section trailers
open MosnVerif.Model.H2Trailers MosnVerif.Lemmas.H2Trailers MosnVerif.Gen

/-- the facts read off the regenerated structure (Gen/C08H2Trailers): processHeaders refuses HEADERS for a stream that
is half-closed(remote) BEFORE mprocessTrailerHeaders; handleFrame allocates the trailer object of every request that
is not ended by its HEADERS frame; mprocessTrailerHeaders has the order of tests the model is written from -/
theorem trailers_cfg_safe : Cfg.Safe cfgGen ∧
    C08H2Trailers.srvTrailerSteps = ["sc:=st.sc", "if st.gotTrailerHeader", "st.gotTrailerHeader=true",
      "if !f.StreamEnded()", "if len(f.PseudoFields())>0", "if st.trailer!=nil", "st.state=stateHalfClosedRemote"] :=
  ⟨⟨by decide +kernel, rfl⟩, rfl⟩

/-- **trailers_never_nil_deref**: for EVERY sequence of HEADERS (request head / trailers, with or without END_STREAM,
declared `Trailer` or not, pseudo or forbidden fields) and DATA frames a client sends on a stream, the server's
handleFrame never assigns through a nil `stream.trailer` (no panic on the connection's read goroutine), and a
registered stream that is still open always has its trailer object. -/
theorem trailers_never_nil_deref (evs : List Ev) :
    (run cfgGen {} evs).panicked = false ∧
    ((run cfgGen {} evs).reg = true → (run cfgGen {} evs).ms = .open → (run cfgGen {} evs).tobj = true) :=
  run_inv cfgGen trailers_cfg_safe.1 evs {} ⟨rfl, by intro h; cases h⟩

/-- the model's outcome of EVERY `h2trail` case satisfies the predicate -/
theorem h2trail_spec_holds_on_model (evs : List Ev) :
    h2trailSpec (if (run cfgGen {} evs).panicked then "panic" else "ret") = true := by
  rw [(trailers_never_nil_deref evs).1]; decide

/-- witness of the repaired defect: WITHOUT the half-closed(remote) test, HEADERS(END_STREAM) followed by trailers
HEADERS(END_STREAM) — a request that already ended has no trailer object — is a nil dereference -/
theorem trailers_without_state_check_panic :
    (run { cfgGen with stateCheck := false } {} [.headers .head false true, .headers .trail false true]).panicked = true := by
  decide

-- non-vacuity: legitimate trailers are delivered; trailers after the end of the request are refused with a reset
example : (run cfgGen {} [.headers .head true false, .data false, .headers .trail false true]).del = ["hbt"] := by decide +kernel
example : let s := run cfgGen {} [.headers .head false true, .headers .trail false true]
    s.del = ["h"] ∧ s.resets = 1 ∧ s.rst = 1 ∧ s.closed = false ∧ s.panicked = false := by decide +kernel
end trailers

/-! ## protocol matchers and HTTP/2 frame payload parsers as regenerated checked-access programs
(Gen/C08Matchers, Gen/C08H2Parse: the Go function bodies translated statement by statement, every index / slice /
big-endian read a checked primitive of Model/CheckedGo); allocation structure of the HTTP/2 read path (Gen/C08H2Alloc) -/
section checked
open MosnVerif.Model.CheckedGo MosnVerif.Model.CheckedWire MosnVerif.Gen.C08H2Parse
open MosnVerif.Lemmas.CheckedMatch MosnVerif.Lemmas.CheckedH2Parse

/-- every registered matcher is safe (no out-of-range access) and answers a MatchResult -/
theorem matcher_safe (name : String) (m : MosnVerif.Model.CheckedGo.Bytes → Chk MR) (h : matcherOf name = some m)
    (b : MosnVerif.Model.CheckedGo.Bytes) : (m b).Safe (fun _ => True) :=
  let ⟨r, hr⟩ := matcher_ok name m h b
  ⟨r, hr, trivial⟩

/-- **matchers_no_oob**: for EVERY byte string (empty, 1..N bytes, any content) NO registered protocol matcher —
`boltMatcher`, `boltv2Matcher`, `dubboMatcher`, `thriftMatcher`, `tarsMatcher` incl. TarsGo's `TarsRequest` (the
functions the codecs hand out in `ProtocolMatch()`), `ProtocolMatch` of the HTTP/1 and HTTP/2 stream factories, each
regenerated statement by statement with checked access — reads at or beyond the length it was given (Go: index / slice
bounds out of range panic; with spare capacity behind the peeked bytes: a read of bytes that were not received). -/
theorem matchers_no_oob (name : String) (m : MosnVerif.Model.CheckedGo.Bytes → Chk MR) (h : matcherOf name = some m)
    (b : MosnVerif.Model.CheckedGo.Bytes) : m b ≠ .oob :=
  Safe.ne_oob (matcher_safe name m h b)

/-- **matchers_total**: on every byte string every matcher answers, and the answer is one of MatchFailed / MatchAgain /
MatchSuccess -/
theorem matchers_total (name : String) (m : MosnVerif.Model.CheckedGo.Bytes → Chk MR) (h : matcherOf name = some m)
    (b : MosnVerif.Model.CheckedGo.Bytes) : ∃ r, m b = .ok r ∧ (r = .failed ∨ r = .again ∨ r = .success) := by
  obtain ⟨r, hr, _⟩ := matcher_safe name m h b
  exact ⟨r, hr, by cases r <;> simp⟩

/-- `streamConnFactory.ProtocolMatch` hands the matcher's verdict on unchanged: success ↦ nil, again ↦ EAGAIN, failed ↦ FAILED -/
theorem xfactory_result_faithful (r : MR) : errToMR (MosnVerif.Gen.C08Matchers.xfactory_result r) = r ∧
    MosnVerif.Gen.C08Matchers.xfactory_noMatcher = Err.failed := by
  cases r <;> decide

/-- **gen_matchers_eq_model** (one matcher semantics for C07 and C08): for every registered matcher and EVERY byte string
the regenerated checked-access program answers exactly what the hand-written matcher model of C07 (Model/Match.lean:
the functions `match_monotone`, `scope_monotone`, `select_*` are about) answers, and never `oob`; the two tables have the
same names (`genMatcherOf_eq`, `genScopeOf_eq` in Lemmas/CheckedMatchEq: C07's `matcherOf` / `scopeOf` ARE the regenerated
functions). -/
theorem gen_matchers_eq_model (name : String) (g : MosnVerif.Model.CheckedGo.Bytes → Chk MR)
    (m : List UInt8 → MosnVerif.Model.Match.MR) (hg : matcherOf name = some g)
    (hm : MosnVerif.Model.Match.matcherOf name = some m) (b : List UInt8) :
    g b = .ok (MosnVerif.Lemmas.CheckedMatchEq.toMR (m b)) ∧
    MosnVerif.Lemmas.CheckedMatchEq.genMatcherOf name = MosnVerif.Model.Match.matcherOf name :=
  ⟨MosnVerif.Lemmas.CheckedMatchEq.gen_eq name g m hg hm b, MosnVerif.Lemmas.CheckedMatchEq.genMatcherOf_eq name⟩

-- non-vacuity: all seven names are matchers; boundary answers of the regenerated programs
example : matcherNames.all (fun n => (matcherOf n).isSome) = true := by decide +kernel
example : (matcherNames.map (fun n => ((matcherOf n).map (fun m => matchTok (m []))).getD "-")) =
    ["again", "again", "again", "again", "again", "again", "again"] := by decide +kernel
example : (matcherOf "tars").map (fun m => matchTok (m [0, 0, 0, 6, 0x10, 1])) = some "success" := by decide +kernel
example : (matcherOf "tars").map (fun m => matchTok (m [0, 0, 0, 6, 0x10])) = some "again" := by decide +kernel
example : (matcherOf "http1").map (fun m => matchTok (m [71, 69, 84])) = some "success" := by decide +kernel
example : (matcherOf "http2").map (fun m => matchTok (m [80, 82, 73, 32, 42])) = some "again" := by decide +kernel
-- the class the theorem excludes: an index one past a length test
example : idx [1, 2, 3, 4] 4 = .oob ∧ slc [1, 2, 3, 4] 2 5 = .oob ∧ slc [1, 2, 3, 4] 3 2 = .oob ∧ beU 4 [1, 2, 3] = .oob := by decide +kernel

/-- **h2_payload_parsers_no_oob**: for EVERY frame header (any type incl. unknown ones, any flags incl. every
PADDED / PRIORITY / ACK combination, any stream id, any announced length) and EVERY payload, the payload parser
`typeFrameParser(fh.Type)` picks (`parseDataFrame`, `parseHeadersFrame`, `parsePriorityFrame`, `parseRSTStreamFrame`,
`parseSettingsFrame` with `Value` / `Setting` / `NumSettings`, `parsePushPromise`, `parsePingFrame`, `parseGoAwayFrame`,
`parseWindowUpdateFrame`, `parseContinuationFrame`, `parseUnknownFrame`; `readByte`, `readUint32`, `Flags.Has`),
regenerated with checked access, makes no access outside `[0, len payload)`. -/
theorem h2_payload_parsers_no_oob (fh : FH) (payload : MosnVerif.Model.CheckedGo.Bytes) : h2p_parse fh payload ≠ .oob :=
  Safe.ne_oob (parse_spec fh payload)

/-- what the parsers hand on lies inside the payload: an error comes with no frame; a frame's byte-slice fields (data,
header block fragment, debug data, settings, opaque payload) are never longer than the payload -/
theorem h2_fragments_within_payload (fh : FH) (payload : MosnVerif.Model.CheckedGo.Bytes) (f : Frm) (e : Err)
    (h : h2p_parse fh payload = .ok (f, e)) :
    (e ≠ .nil → f = Frm.nil) ∧ (e = .nil → f.isNil = false ∧ ∀ d ∈ f.bs, d.length ≤ payload.length) := by
  have hs := Safe.value (parse_spec fh payload) h
  refine ⟨hs.1, fun he => ⟨(hs.2 he).1, fun d hd => ?_⟩⟩
  have := (hs.2 he).2 d hd
  simp only [len] at this
  omega

/-- **h2_padding_checked**: DATA, HEADERS (with or without PRIORITY) and PUSH_PROMISE, for EVERY header and payload:
the parser answers (no panic), and a frame is delivered only together with ONE fragment for which
`|fragment| + (1 + pad length, if PADDED) + fixed fields = |payload|` — so a pad length larger than what remains behind
the pad-length octet and the fixed fields (5 with PRIORITY, 4 for the promised stream id) is ALWAYS an error, never a
negative or overlong slice bound. -/
theorem h2_padding_checked (fh : FH) (p : MosnVerif.Model.CheckedGo.Bytes) :
    let padded := decide (land fh.Flags 8 = 8)
    let over : Int := if padded then 1 + byteAt p 0 else 0
    (∃ f e, h2p_parseDataFrame fh p = .ok (f, e) ∧ (len p < over → e ≠ .nil) ∧
      (e = .nil → ∃ d, f.bs = [d] ∧ len d + over = len p)) ∧
    (∃ f e, h2p_parseHeadersFrame fh p = .ok (f, e) ∧ (len p < over + (if land fh.Flags 32 = 32 then 5 else 0) → e ≠ .nil) ∧
      (e = .nil → ∃ d, f.bs = [d] ∧ len d + over + (if land fh.Flags 32 = 32 then 5 else 0) = len p)) ∧
    (∃ f e, h2p_parsePushPromise fh p = .ok (f, e) ∧ (len p < over + 4 → e ≠ .nil) ∧
      (e = .nil → ∃ d, f.bs = [d] ∧ len d + over + 4 = len p)) := by
  intro padded over
  exact ⟨by simpa only [Int.add_zero] using PadSpec.answer (data_spec fh p),
    PadSpec.answer (headers_spec fh p), PadSpec.answer (push_spec fh p)⟩

-- non-vacuity: padded DATA on stream 1: pad 2 of 3 remaining bytes; pad 3 = all of them; pad 4 > remaining: error
example : parseTok (h2p_parseDataFrame ⟨4, 0, 8, 1⟩ [2, 7, 0, 0]) = "ok:07:_" := by decide +kernel
example : parseTok (h2p_parseDataFrame ⟨4, 0, 8, 1⟩ [3, 7, 0, 0]) = "ok:-:_" := by decide +kernel
example : parseTok (h2p_parseDataFrame ⟨4, 0, 8, 1⟩ [4, 7, 0, 0]) = "conn:1" := by decide +kernel
-- HEADERS with PADDED and PRIORITY: 1 + 5 fixed octets; 6 bytes with pad 0: empty fragment; 5 bytes: unexpected EOF
example : parseTok (h2p_parseHeadersFrame ⟨6, 1, 40, 1⟩ [0, 128, 0, 0, 3, 9]) = "ok:-:1,3,9" := by decide +kernel
example : parseTok (h2p_parseHeadersFrame ⟨5, 1, 40, 1⟩ [0, 128, 0, 0, 3]) = "eof" := by decide +kernel
example : parseTok (h2p_parseHeadersFrame ⟨7, 1, 40, 1⟩ [2, 128, 0, 0, 3, 9, 0]) = "stream:1" := by decide +kernel
-- SETTINGS: INITIAL_WINDOW_SIZE 2^31 is refused, a 7-byte payload is a frame size error
example : parseTok (h2p_parse ⟨6, 4, 0, 0⟩ [0, 4, 128, 0, 0, 0]) = "conn:3" := by decide +kernel
example : parseTok (h2p_parse ⟨7, 4, 0, 0⟩ [0, 4, 0, 0, 0, 0, 0]) = "conn:6" := by decide +kernel

section h2path
open MosnVerif.Model.H2ReadLoop MosnVerif.Lemmas.H2ReadLoop

/-- the out-of-range case of the parser oracle is dead: on the bytes of every frame the regenerated parser answers -/
theorem genParse_defined (frame : List UInt8) : genParse? frame ≠ none := by
  unfold genParse?
  split
  · rename_i h _
    have hs := parse_spec (fhOf h) (frame.drop 9)
    obtain ⟨⟨f, e⟩, hr, _⟩ := hs
    rw [hr]
    cases e <;> simp
  · simp

/-- **http2_no_overread** (lifts `http2_no_overread_partial`): the HTTP/2 read path `MFramer.ReadFrame` with its payload
parsers being the REGENERATED ones (`genOrc`: no oracle for them) — for EVERY buffer content, offset, read limit and
EVERY verdict function of the header-block validation:
(1) `readFrameHeader`, the payload slice and every nested read of `readMetaFrame` stay inside the buffered bytes;
(2) every payload parser, on every header and payload, stays inside the payload, and the parser oracle of the loop model
never takes its out-of-range branch;
(3) a frame or a StreamError drained ≥ 9 bytes and never more than were buffered.
The ONLY parameter left is the verdict (ok / connection error / StreamError) on a COMPLETE header block.  What that
verdict reads of the buffer it reads through the HPACK decoder: `hpack_block_no_oob` below (every table access, for every
block, callback and bounded decoder state) with `hpack_varint_no_overread` / `hpack_string_bounded` (its byte reads) — a
hand-written mirror of hpack.go (only `Decoder.at` is regenerated), compared with the real decoder by kinds hpack /
hpackx on exact-capacity buffers; the rest of the verdict (field validation) sees decoded fields only. -/
theorem http2_no_overread (mx : Nat) (group : List UInt8 → PRes) (b : List UInt8) :
    (∀ off, readHdr b off ≠ .oob ∧ one mx (genOrc group) b off ≠ .oob) ∧
    (∀ off0 sid fuel ms, contLoop mx (genOrc group) b off0 sid fuel ms ≠ .oob) ∧
    readFrame mx (genOrc group) b ≠ .oob ∧
    (∀ fh payload, h2p_parse fh payload ≠ .oob) ∧ (∀ frame, genParse? frame ≠ none) ∧
    (∀ k, (readFrame mx (genOrc group) b = .frame k ∨ readFrame mx (genOrc group) b = .stream k) → 9 ≤ k ∧ k ≤ b.length) :=
  let ⟨h1, h2, h3, h4⟩ := h2_readframe_no_overread mx (genOrc group) b
  ⟨h1, h2, h3, h2_payload_parsers_no_oob, genParse_defined, h4⟩

-- non-vacuity: a 13-byte WINDOW_UPDATE with increment 0 on stream 1 is a StreamError of the REGENERATED parser and is
-- drained whole; a padded DATA frame whose pad length exceeds the payload is a connection error
example : readFrame 16384 (genOrc (fun _ => .ok)) [0,0,4, 8, 0, 0,0,0,1, 0,0,0,0] = .stream 13 := by decide +kernel
example : readFrame 16384 (genOrc (fun _ => .ok)) [0,0,2, 0, 8, 0,0,0,1, 5,0] = .conn := by decide +kernel
example : readFrame 16384 (genOrc (fun _ => .ok)) [0,0,2, 0, 8, 0,0,0,1, 1,0] = .frame 11 := by decide +kernel

open MosnVerif.Model.HpackEmit MosnVerif.Lemmas.HpackEmit in
/-- **hpack_block_no_oob** (the last stage of the HTTP/2 read path): `hpack.Decoder.Write` + `Close` on the header block a
HEADERS+CONTINUATION group delivers — EVERY block, EVERY emit callback (whatever `readMetaFrame`'s callback keeps and
whenever it switches emitting off), from EVERY decoder state whose dynamic table is consistent and within 32 bits (what
`NewDecoder` / SETTINGS establish and every representation preserves) — never indexes the static or the dynamic table out
of range (`Decoder.at`, regenerated with Go's integer types and checked access: Gen/HpackAt); the indices it is given come
out of `readVarInt` (< 2^64).  Together with `hpack_varint_no_overread` / `hpack_string_bounded` (the decoder's byte reads)
this covers what the header-block verdict of `http2_no_overread` reads: the verdict oracle left there decides only
ok / connection error / StreamError from DECODED fields (field validation, pseudo-header rules) and reads no buffer. -/
theorem hpack_block_no_oob {σ : Type} (cb : Callback σ) (d : DecE) (st : σ) (block : List UInt8) (hb : Bounded d.base) :
    d.decodeFullP codePolicy cb st block ≠ .error .panic :=
  MosnVerif.Lemmas.HpackNoPanic.decodeFullP_no_panic codePolicy cb d st block hb

open MosnVerif.Model.HpackEmit MosnVerif.Lemmas.HpackEmit MosnVerif.Model.HpackTable in
-- non-vacuity: a fresh decoder is bounded; an indexed field with the maximal 10-byte index (2^63 + 126) is refused, not a panic
example : Bounded (DecE.new 4096).base := bounded_new 4096 (by decide)
open MosnVerif.Model.HpackEmit MosnVerif.Model.HpackTable in
example : (match (DecE.new 4096).decodeFullP codePolicy (fun (_ : Unit) _ => ((), false)) ()
      [0xff, 0xff, 0xff, 0xff, 0xff, 0xff, 0xff, 0xff, 0xff, 0x7f] with
    | .error (.dec _) => true | _ => false) = true := by decide +kernel

open MosnVerif.Model.H2Alloc MosnVerif.Lemmas.H2Alloc MosnVerif.Gen.C08H2Alloc in
/-- **h2_alloc_bounded**: (1) `MFramer.readFrameHeader` / `ReadFrame` allocate NOTHING in front of the payload slice
(no make / new / append / &T{} / buffer call), the test "payload not buffered yet ⇒ ErrAGAIN" precedes the slice and the
parser call, the payload is a view of the read buffer, and the whole function allocates nothing itself (all regenerated);
in the loop model a payload parser runs only on a frame whose 9 + announced-length bytes have all arrived;
(2) the header list `mh.Fields` built by `readMetaFrame` — the emit callback run as the regenerated step program on EVERY
sequence of decoded fields — never holds fields of more than `fr.maxHeaderListSize()` (regenerated; what both connection
constructors configure: 1 MiB; ≤ 16 MiB whatever is configured ≤ that) in total size, hence at most limit/32 entries. -/
theorem h2_alloc_bounded :
    (h2a_allocBeforePayload = [] ∧ h2a_waitPrecedesSlice = true ∧ h2a_payloadIsView = true ∧ h2a_readFrameAllocs = []) ∧
    (∀ mx o b off h, (one mx o b off = .ok h ∨ one mx o b off = .stream h) → off + 9 + h.len ≤ b.length) ∧
    (∀ c ∈ h2a_configured, 0 ≤ h2a_maxHeaderListSize c ∧ h2a_maxHeaderListSize c ≤ 16777216) ∧
    (∀ (limit : Int), 0 ≤ limit → ∀ fields : List (Nat × Nat),
      let s := emitAll h2a_emitOps limit fields
      MosnVerif.Model.H2Alloc.sum s.kept ≤ limit ∧ 32 * (s.kept.length : Int) ≤ limit) := by
  refine ⟨by decide, fun mx o b off h hh => ?_, by decide, fun limit hl fields => ?_⟩
  · have := (one_spec mx o b off).2 h hh
    simp only [MosnVerif.Gen.FrameLen.h2_size] at this
    omega
  · obtain ⟨h0, h1, h2⟩ := emitAll_inv limit hl fields
    show MosnVerif.Model.H2Alloc.sum (emitAll h2a_emitOps limit fields).kept ≤ limit ∧
      32 * ((emitAll h2a_emitOps limit fields).kept.length : Int) ≤ limit
    constructor <;> omega

open MosnVerif.Model.H2Alloc MosnVerif.Gen.C08H2Alloc in
-- non-vacuity: budget 100: fields of size 40 (3+5+32), 40, 40: two are kept, the third truncates; later fields are dropped
example : let s := emitAll h2a_emitOps 100 [(3, 5), (3, 5), (3, 5), (0, 0)]
    s.kept = [40, 40] ∧ s.remain = 20 ∧ s.truncated = true ∧ s.enabled = false := by decide +kernel
open MosnVerif.Model.H2Alloc in
-- the class the theorem excludes: appending before the test overshoots the budget
example : (emitAll ["size", "append", "test", "take"] 50 [(20, 20)]).kept = [72] := by decide +kernel
end h2path

section streamalloc
open MosnVerif.Model.StreamAlloc MosnVerif.Lemmas.StreamAlloc MosnVerif.Gen.C08StreamAlloc

/-- **stream_alloc_bounded** (allocation, STREAM layer): (1) every sized buffer allocation on the stream-layer receive
paths (pkg/stream/http2/stream.go both `handleFrame`s; pkg/stream/http/stream.go and pkg/stream/xprotocol/{conn,stream}.go
have none) — `buffer.GetIoBuffer(n)` / `NewIoBuffer` / `NewPipeBuffer` / `GetBytes` / `make([]byte, n)` / `Grow(n)`, regenerated
with the provenance of `n` — is sized by a constant or by the length of RECEIVED bytes, never by an announced value;
(2) for EVERY announced content-length (any integer: huge, negative, what a non-numeric header parses to) and EVERY
sequence of DATA payload lengths, the buffer that collects the request (server side) resp. response (client side) body —
first allocation of the regenerated size, then `Write` per payload — holds exactly what arrived, in a capacity of at most
`8 · received + 4096` bytes: a function of the bytes that ARRIVED only;
(3) the pipe of streaming mode is sized by the received payload as well, the buffer of an empty body is a constant. -/
theorem stream_alloc_bounded :
    (sa_sites.all (fun s => s.2.2.2 == "received-length" || s.2.2.2 == "constant") = true) ∧
    (∀ (ann : Int) (chunks : List Nat) (b : Buf), collect sa_srv_collect ann chunks = some b →
      b.len = total chunks ∧ b.cap ≤ capBound (total chunks)) ∧
    (∀ (ann : Int) (chunks : List Nat) (b : Buf), collect sa_cli_collect ann chunks = some b →
      b.len = total chunks ∧ b.cap ≤ capBound (total chunks)) ∧
    (∀ recv ann : Int, sa_srv_pipe recv ann = recv ∧ sa_cli_pipe recv ann = recv ∧ sa_srv_empty recv ann = 0 ∧
      sa_cli_empty recv ann = 0) :=
  ⟨by decide,
   fun ann chunks b h => collect_bounded sa_srv_collect (fun _ _ => rfl) ann chunks b h,
   fun ann chunks b h => collect_bounded sa_cli_collect (fun _ _ => rfl) ann chunks b h,
   fun _ _ => ⟨rfl, rfl, rfl, rfl⟩⟩

-- non-vacuity: content-length 268435456 announced, one byte arrives: a 64-byte slot; 65 + 1000 bytes: 128, then 2048
example : collect sa_srv_collect 268435456 [1] = some ⟨64, 1⟩ := by decide +kernel
example : collect sa_cli_collect (-5) [65, 1000] = some ⟨2048, 1065⟩ := by decide +kernel
example : sa_sites.length = 6 := by decide +kernel
-- the class the theorem excludes: a collecting buffer sized by the announcement holds 1 byte in 256 MiB
example : (collect (fun recv ann => if ann > recv then ann else recv) 268435456 [1]).map (·.cap) = some 268435456 := by
  decide +kernel
example : parseInt64 "99999999999999999999" = 9223372036854775807 ∧ parseInt64 "abc" = 0 ∧ parseInt64 "-5" = -5 := by decide +kernel
end streamalloc

/-- **hpack_varint_gen_no_overread** (HPACK byte reads, regenerated): `readVarInt` of hpack.go translated statement by
statement (Gen/C08HpackRead: `p[0]`, `p[1:]` checked; the continuation loop with its state; `panic("bad n")`), for every
prefix size the decoder uses (1..8) and EVERY byte string: no access outside the bytes given, no panic, the loop ends;
success consumed ≥ 1 byte and never more than were given; an error (need-more, overflow) consumed nothing.
This is `hpack_varint_no_overread` re-proved over the regenerated program instead of the hand-written mirror.
NOT yet regenerated (still the mirror of Model/HpackInt / HpackEmit): `Decoder.readString`, `parseHeaderFieldRepr` and the
three `parseField…` functions; Huffman decoding of the string body stays a named oracle. -/
theorem hpack_varint_gen_no_overread (n : Int) (p : MosnVerif.Model.CheckedGo.Bytes) (h1 : 1 ≤ n) (h8 : n ≤ 8) :
    MosnVerif.Gen.C08HpackRead.hpk_readVarInt n p ≠ .oob ∧
    ∀ v r e, MosnVerif.Gen.C08HpackRead.hpk_readVarInt n p = .ok (v, r, e) →
      (e = Err.nil → len r < len p) ∧ (e ≠ Err.nil → r = p) := by
  have hs := MosnVerif.Lemmas.HpackRead.readVarInt_spec n p h1 h8
  refine ⟨Safe.ne_oob hs, fun v r e h => ?_⟩
  have hv : MosnVerif.Lemmas.HpackRead.VarIntSpec p (v, r, e) := Safe.value hs h
  exact hv

-- non-vacuity: 7-bit prefix: 10 fits the prefix; 127 + 0x9a 0x0a = 1337 (RFC 7541 C.1.2 with a 7-bit prefix); truncated: need more
example : MosnVerif.Gen.C08HpackRead.hpk_readVarInt 7 [10, 99] = .ok (10, [99], Err.nil) := by decide +kernel
example : MosnVerif.Gen.C08HpackRead.hpk_readVarInt 5 [31, 154, 10, 7] = .ok (1337, [7], Err.nil) := by decide +kernel
example : MosnVerif.Gen.C08HpackRead.hpk_readVarInt 5 [31, 154] = .ok (0, [31, 154], Err.again) := by decide +kernel
end checked

end MosnVerif.Props.C08
