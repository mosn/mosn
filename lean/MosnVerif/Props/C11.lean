import MosnVerif.Lemmas.Transfer
import MosnVerif.Lemmas.Shutdown
import MosnVerif.Lemmas.StageManager
import MosnVerif.Lemmas.H2GoAway
import MosnVerif.Lemmas.ShutdownVirtual
import MosnVerif.Lemmas.TransferLookup
import MosnVerif.Lemmas.UpgTiming
import MosnVerif.Lemmas.UpgHandshake
import MosnVerif.Lemmas.HandoverQueue
import MosnVerif.Lemmas.HandoverStream
import MosnVerif.Lemmas.H1Drain
import MosnVerif.Lemmas.H2GoAwaySend
import MosnVerif.Lemmas.TlsHandover
/-!
# C11 — graceful shutdown and hot upgrade lose no requests (property theorems only; level `other`)

What is proved is the logical part: the listener state machine, the drain loop, the event machine of one listener with
its connections (the signal is one label of the schedule), the stage manager's order, and the connection-transfer
message codec.  Real signal delivery, fd passing between two processes and kernel accept queues are outside any model.
-/
namespace MosnVerif.Props.C11
open MosnVerif.Model.Shutdown MosnVerif.Model.Transfer
open MosnVerif.Gen.Shutdown

/-! ## connection-transfer codec -/

/-- **transfer_roundtrip**: for ALL byte strings (buffered read bytes, TLS bytes — lengths below 2^32, the width of the
header fields) and whatever follows on the stream, the receiver reconstructs exactly what the sender handed over and
leaves the rest of the stream untouched. -/
theorem transfer_roundtrip (data tls rest : Bytes) (h1 : data.length < 4294967296) (h2 : tls.length < 4294967296) :
    decodeRead (encodeRead data tls ++ rest) = some (data, tls, rest) := by
  have hh : recvHead (encodeRead data tls ++ rest) = some (data.length, tls.length, data ++ tls ++ rest) := by
    have := recvHead_buildHead data.length tls.length h1 h2 (data ++ tls ++ rest)
    simpa [encodeRead_eq, List.append_assoc] using this
  rw [decodeRead_of_head _ _ _ _ hh, ← List.length_append, recvMsg_append]
  simp only [Option.map_some, slice_data, slice_tls]

/-- the write-buffer message: (connection id, bytes) round-trips the same way -/
theorem transfer_write_roundtrip (id : Nat) (data rest : Bytes) (hid : id < 4294967296) (hd : data.length < 4294967296) :
    decodeWrite (encodeWrite id data ++ rest) = some (id, data, rest) := by
  have hh : recvHead (encodeWrite id data ++ rest) = some (data.length, id, data ++ rest) := by
    have := recvHead_buildHead data.length id hd hid (data ++ rest)
    simpa [encodeWrite_eq, List.append_assoc] using this
  exact decodeWrite_some_of _ _ _ _ _ _ hh (recvMsg_append data rest)

/-- the connection-id reply round-trips -/
theorem transfer_id_roundtrip (id : Nat) (h : id < 4294967296) : decodeID (encodeID id) = id :=
  -- with the regenerated lengths (4 and 4) both sides unfold: the message is `putU32 id`, read back whole
  show getU32 (putU32 id ++ []) = id from getU32_putU32 id h []

/-- an incomplete message is never delivered as a (different) message: every proper prefix makes the receiver fail -/
theorem transfer_prefix_fails (data tls : Bytes) (h1 : data.length < 4294967296) (h2 : tls.length < 4294967296)
    (n : Nat) (hn : n < (encodeRead data tls).length) : decodeRead ((encodeRead data tls).take n) = none := by
  rw [encodeRead_length] at hn
  by_cases h8 : n < 8
  · apply decodeRead_short_head
    rw [List.length_take]; omega
  · have hsplit : (encodeRead data tls).take n = buildHead data.length tls.length ++ (data ++ tls).take (n - 8) := by
      simp only [encodeRead_eq, List.append_assoc]
      rw [List.take_append, buildHead_length]
      rw [List.take_of_length_le (by rw [buildHead_length]; omega)]
    rw [hsplit]
    apply decodeRead_short_payload _ _ h1 h2
    rw [List.length_take, List.length_append]; omega

/-- **buffered bytes intact**: the connection the new process creates starts with exactly the bytes the old process had
read and not yet consumed (and the same TLS bytes), so a request half received before the hand-over is completed by
the bytes that arrive after it. -/
theorem handover_buffer_intact (buffered tls : Bytes) (h1 : buffered.length < 4294967296) (h2 : tls.length < 4294967296) :
    handover buffered tls = some (buffered, tls) := by
  have := transfer_roundtrip buffered tls [] h1 h2
  simp only [List.append_nil] at this
  simp [handover, this]

/-- with the regenerated allocation of the inherited buffer no amount of buffered bytes makes the new process drop
the connection it has just taken over (before the fix: 64, 128, 256, … bytes did) -/
theorem adopted_connection_survives (n : Nat) : adoptedSurvives n = true := by
  simp [adoptedSurvives, Gen.Transfer.inheritedBufferSpare]

/-- the type byte tells a read transfer (with fd) from a write transfer -/
theorem transfer_type_distinguishes : recvIsWrite (typeByte false) = true ∧ recvIsWrite (typeByte true) = false := by decide +kernel

-- non-vacuity: a message whose payload itself looks like a header, with TLS bytes and trailing bytes
example : decodeRead (encodeRead [0, 0, 0, 1, 0, 0, 0, 2, 255] [7, 7] ++ [9]) = some ([0, 0, 0, 1, 0, 0, 0, 2, 255], [7, 7], [9]) := by decide +kernel
example : encodeRead [1, 2, 3] [4] = [0, 0, 0, 3, 0, 0, 0, 1, 1, 2, 3, 4] := by decide +kernel
example : decodeRead ((encodeRead [1, 2, 3] [4]).take 11) = none := by decide +kernel

/-! ## which listener of the new process adopts a handed-over connection (`Model/TransferLookup.lean`) -/
section lookup
open MosnVerif.Model.TransferLookup MosnVerif.Lemmas.TransferLookup

/-- **handover_finds_listener**: for EVERY list of listeners of the new process and every connection whose local
address was accepted by some listener `L` of the list — `L` configured on exactly that address, or on the IPv4 or the
IPv6 wildcard of its port (either opens a dual-stack socket: IPv6 AND IPv4 peers, whose local address is IPv4) — the
regenerated look-up of `transferFindListen` returns a listener; it is a listener of the list, of the connection's
network, configured on the connection's address or on a wildcard of its port; and unless the list holds another
wildcard listener of that port it is `L` (its address) or a listener on exactly the connection's address. -/
theorem handover_finds_listener (ls : List Lst) (L : Lst) (a : Local) (hm : L ∈ ls) (hacc : accepted L a) :
    ∃ R, find ls a = some R ∧ R ∈ ls ∧ accepted R a ∧
      ((∀ M ∈ ls, M.network = a.network → (M.addr = v4wild a ∨ M.addr = v6wild a) → M.addr = L.addr) →
        R.addr = L.addr ∨ R.addr = a.str) := by
  obtain ⟨R, hR⟩ := findWith_isSome candidates ls a L hm hacc.1 ((mem_candidates a L.addr).2 hacc.2)
  obtain ⟨h1, h2, h3⟩ := findWith_some candidates ls a R hR
  refine ⟨R, hR, h1, ⟨h2, (mem_candidates a R.addr).1 h3⟩, ?_⟩
  intro huniq
  rcases (mem_candidates a R.addr).1 h3 with h | ⟨_, h⟩
  · exact Or.inr h
  · exact Or.inl (huniq R h1 h2 h)

/-- a listener configured on exactly the connection's local address (e.g. the `bind_port: false` listener a
`use_original_dst` listener handed the connection to) is preferred to the wildcard listener that owns the socket: the
adopted connection is served by the same configuration as before the upgrade -/
theorem handover_prefers_exact (ls : List Lst) (L : Lst) (a : Local) (hm : L ∈ ls) (hn : L.network = a.network)
    (he : L.addr = a.str) : ∃ R, find ls a = some R ∧ R ∈ ls ∧ R.network = a.network ∧ R.addr = a.str := by
  obtain ⟨tl, htl⟩ := candidates_head a
  obtain ⟨R, hR⟩ := findByAddress_of_mem ls L hm
  rw [hn, he] at hR
  refine ⟨R, ?_, findByAddress_some ls a.network a.str R hR⟩
  simp [find, findWith, htl, hR]

/-- **the connection is adopted with its buffered bytes**: under the same hypotheses the new process creates the
connection on that listener with exactly the bytes the old process had read and not consumed (and the TLS bytes), and
the id it answers is the new connection's id, never `transferErr` -/
theorem handover_adopts_with_buffer (ls : List Lst) (L : Lst) (a : Local) (hm : L ∈ ls) (hacc : accepted L a)
    (buffered tls : Bytes) (h1 : buffered.length < 4294967296) (h2 : tls.length < 4294967296) (newId : Nat) :
    (∃ R, adopt ls a buffered tls = some (R, buffered, tls) ∧ R ∈ ls ∧ accepted R a) ∧ answeredId ls a newId = newId := by
  obtain ⟨R, hR, hmem, hs, _⟩ := handover_finds_listener ls L a hm hacc
  refine ⟨⟨R, ?_, hmem, hs⟩, ?_⟩
  · simp [adopt, hR, handover_buffer_intact buffered tls h1 h2]
  · simp [answeredId, hR]

/-- a connection no listener of the new configuration serves is not adopted: the old process is told `transferErr` -/
theorem handover_unserved_refused (ls : List Lst) (a : Local) (h : ∀ M ∈ ls, ¬ accepted M a) (newId : Nat) :
    find ls a = none ∧ answeredId ls a newId = Gen.Transfer.transferErr := by
  have hn : find ls a = none := by
    cases hf : find ls a with
    | none => rfl
    | some R =>
      obtain ⟨h1, h2, h3⟩ := findWith_some candidates ls a R hf
      exact absurd ⟨h2, (mem_candidates a R.addr).1 h3⟩ (h R h1)
  exact ⟨hn, by simp [answeredId, hn, Gen.TransferLookup.noListenerAnswersErr]⟩

-- non-vacuity: an IPv4 peer on a dual-stack `[::]` listener, next to a distractor and a listener on another port
example : accepted ⟨"tcp", "[::]:2045"⟩ ⟨false, "tcp", "127.0.0.1:2045", "2045", true⟩ := by decide +kernel
example : find [⟨"tcp", "0.0.0.0:80"⟩, ⟨"udp", "[::]:2045"⟩, ⟨"tcp", "[::]:2045"⟩] ⟨false, "tcp", "127.0.0.1:2045", "2045", true⟩
    = some ⟨"tcp", "[::]:2045"⟩ := by decide +kernel
-- an exact-address listener (e.g. one that binds no port) is preferred to the wildcard that accepted the connection
example : find [⟨"tcp", "0.0.0.0:80"⟩, ⟨"tcp", "127.0.0.1:80"⟩] ⟨false, "tcp", "127.0.0.1:80", "80", true⟩ = some ⟨"tcp", "127.0.0.1:80"⟩ := by decide +kernel
example : find [⟨"unix", "/tmp/a.sock"⟩] ⟨true, "unix", "/tmp/a.sock", "", false⟩ = some ⟨"unix", "/tmp/a.sock"⟩ := by decide +kernel
-- the witness for the rule "one wildcard, chosen by the connection's address family": the IPv4 peer of a dual-stack
-- listener finds nothing, the new process answers id 0 and the connection is lost
example : findWith singleWildcard [⟨"tcp", "[::]:2045"⟩] ⟨false, "tcp", "127.0.0.1:2045", "2045", true⟩ = none := by decide +kernel
-- why the last clause needs its hypothesis: with both wildcards of one port configured, the IPv4 one is found first
example : find [⟨"tcp", "[::]:80"⟩, ⟨"tcp", "0.0.0.0:80"⟩] ⟨false, "tcp", "[::1]:80", "80", false⟩ = some ⟨"tcp", "0.0.0.0:80"⟩ := by decide +kernel
end lookup

/-! ## listener -/

/-- **no_accept_after_stop (listener)**: after `Shutdown`, at whatever upgrade stage and from whatever listener state,
no sequence of operations without a `Start` makes the listener accept again — in particular every later probe is
not accepted. -/
theorem listener_no_accept_after_shutdown (l : Lis) (stage : Int) (ops : List LOp)
    (hs : ∀ op ∈ ops, op.isStart = false) : accepting (lisRun (lisShutdown l stage).1 ops) = false :=
  accepting_false_of_state _ (lisRun_off ops _ (lisShutdown_not_running l stage) (.inl hs)).2

/-- outside the upgrade stage `Shutdown` closes the listening socket of a bound listener (new connections are refused);
in the upgrade stage it leaves the socket open for the new process and only stops accepting. -/
theorem shutdown_closes_unless_upgrading (l : Lis) (stage : Int) (hb : l.bind = true) (hr : l.hasRaw = true)
    (ho : l.sockOpen = true) (hst : l.state ≠ ListenerClosed) :
    (lisShutdown l stage).1.sockOpen = (decide (stage = Upgrading)) := by
  unfold lisShutdown shutdownOnlyStops
  by_cases h : stage = Upgrading
  · simp [h, ho]
  · simp only [h, decide_false, Bool.false_eq_true, ↓reduceIte]
    unfold lisClose closeStep
    simp [hst, hb, hr]

/-- a running bound listener always runs the go-away broadcast and the drain on `Shutdown`, in every stage -/
theorem shutdown_always_drains (l : Lis) (stage : Int) (hb : l.bind = true) (hs : l.state = ListenerRunning) :
    (lisShutdown l stage).2.shutdownCb = 1 :=
  lisShutdown_cb l stage (by rw [hs]; decide) (by rw [hs]; decide)

-- non-vacuity: a restart brings a closed listener back, which is why the hypothesis "no Start" is needed
example : accepting (lisRun (lisShutdown (lisInit true true) Running).1 [.start true]) = true := by decide +kernel
example : accepting (lisRun (lisInit true true) [.start false]) = true := by decide +kernel
example : probeResult (lisRun (lisInit true true) [.start false, .shutdown Upgrading]) = "pend" := by decide +kernel
example : probeResult (lisRun (lisInit true true) [.start false, .shutdown GracefulStopping]) = "ref" := by decide +kernel

/-! ## drain loop -/

/-- **drain_waits (loop)**: `waitConnectionsClose` sleeps exactly while requests are active and the drain time is not
exceeded, and leaves at the first sample with no active request or with the drain time exceeded. -/
theorem drain_loop_exit (maxWait : Int) (samples : List (Int × Int)) (n : Nat) (r w : Int)
    (h : drainLoop maxWait samples = (n, some (r, w))) :
    samples[n]? = some (r, w) ∧ (r ≤ 0 ∨ w > maxWait) ∧
    ∀ i, i < n → ∃ ri wi, samples[i]? = some (ri, wi) ∧ ri > 0 ∧ wi ≤ maxWait := by
  rw [drainLoop_eq, Prod.mk.injEq] at h
  obtain ⟨hn, he⟩ := h
  rw [hn] at he
  obtain ⟨hlt, hget⟩ := List.getElem?_eq_some_iff.1 he
  obtain ⟨h1, h2⟩ := (List.findIdx_eq hlt).1 hn
  rw [hget] at h1
  refine ⟨he, drainContinue_false _ _ _ (by simpa using h1), fun i hi => ?_⟩
  have := drainContinue_true _ _ _ (by simpa using h2 i hi)
  exact ⟨_, _, List.getElem?_eq_getElem (Nat.lt_trans hi hlt), this.1, this.2⟩

example : drainLoop 150 [(2, 0), (1, 10), (1, 20), (0, 30)] = (3, some (0, 30)) := by decide +kernel
example : drainLoop 20 [(1, 0), (1, 10), (1, 20), (1, 30), (0, 40)] = (3, some (1, 30)) := by decide +kernel

/-! ## the event machine: one listener, its connections, the gauge, the drain -/

/-- **no_accept_after_stop**: for every event list, once the graceful stop began no connect label succeeds any more:
whatever events follow, the set of connections does not grow. -/
theorem no_accept_after_stop (s0 : Sys) (h0 : s0.stopBegan = false) (es es' : List Ev)
    (hb : (run s0 es).stopBegan = true) :
    (run (run s0 es) es').conns.length = (run s0 es).conns.length := by
  have inv : stopInv (run s0 es) := run_stopInv s0 es (fun h => by simp [h0] at h)
  exact run_conns_length _ es' (inv hb)

/-- **drain_waits**: for every event list, the exit label (the drain loop returns, a stopping process goes on to exit)
can only have fired when no request was active or the drain time had elapsed. -/
theorem drain_waits (s0 : Sys) (h0 : s0.exited = false) (es : List Ev) (hx : (run s0 es).exited = true) :
    (run s0 es).gauge ≤ 0 ∨ (run s0 es).waited > (run s0 es).maxWait :=
  run_exitInv s0 es (fun h => by simp [h0] at h) hx

/-- **inflight_completes**: for every event list — that is, wherever the signal falls in the label sequence of the
request — a request that MOSN has decoded (it is counted in `request_active`) and not yet answered is never cut off by
the exit unless the drain time has elapsed.  Equivalently: if it completes within the drain time, it completes. -/
theorem inflight_completes (s0 : Sys) (hwf : s0.wf) (h0 : s0.exited = false) (es : List Ev) (i : Nat)
    (hx : (run s0 es).exited = true) (ha : phaseAt (run s0 es).conns i = some .active) :
    (run s0 es).waited > (run s0 es).maxWait := by
  have hg := run_wf s0 es hwf
  have hp := phaseAt_active_pos _ i ha
  rcases drain_waits s0 h0 es hx with h | h
  · unfold Sys.wf at hg; omega
  · exact h

/-- the go-away broadcast reaches every existing connection exactly once per `Shutdown` that runs the callback -/
theorem goaway_broadcast (s : Sys) (stage : Int) (hx : s.exited = false)
    (hcb : (lisShutdown s.lis stage).2.shutdownCb > 0) :
    (step s (.signal stage)).conns =
      s.conns.map (fun c => { c with goAway := c.goAway + 1, notified := c.notified + (if s.notifies then 1 else 0) })
    ∧ (step s (.signal stage)).draining = true ∧ (step s (.signal stage)).waited = 0 := by
  simp [step, hx, hcb, onShutdownWaits, onShutdownBroadcasts]

/-- regenerated facts about the stream layers' go-away behaviour that the hand-written event machine and the driver
rely on: HTTP/2 ignores streams begun after its GOAWAY *and discards their DATA frames* (so such a stream cannot take
the connection — and the streams in flight on it — down), the GOAWAY names the last processed stream (the refused
request is retryable), xprotocol sends the codec's go-away frame, HTTP/1 has no notification, and only xprotocol
connections are handed over to the new process. -/
theorem goaway_facts :
    h2IgnoresNewStreamsAfterGoAway = true ∧ h2DiscardsDataAboveLastStream = true ∧ h2GoAwayCarriesLastStream = true ∧
    xprotocolSendsGoAwayFrame = true ∧ http1GoAwayIsNoop = true ∧
    transferableXprotocol = true ∧ transferableHttp1 = false ∧ transferableHttp2 = false := by decide +kernel

/-- the part of the statement MOSN does NOT guarantee on a plain graceful stop (machine-checked witness of the
finding): a request whose bytes have only partly arrived is not counted by the drain loop, so the exit label is enabled
immediately — here with 15 s of drain time left — while that request is still incomplete. -/
theorem incomplete_request_unprotected :
    let s := run (sysInit drainDefaultMs false false) [.connect, .bytes 0, .signal GracefulStopping, .exit]
    s.exited = true ∧ phaseAt s.conns 0 = some .incomplete ∧ s.waited = 0 ∧ s.maxWait = 15000 := by decide +kernel

-- non-vacuity of the hypotheses: a decoded request holds the exit back until it is answered or the time is up
example : (run (sysInit 150 false false) [.connect, .decoded 0, .signal GracefulStopping, .tick 10, .exit]).exited = false := by decide +kernel
example : (run (sysInit 150 false false) [.connect, .decoded 0, .signal GracefulStopping, .tick 10, .respDone 0, .exit]).exited = true := by decide +kernel
example : (run (sysInit 150 false false) [.connect, .decoded 0, .signal GracefulStopping, .tick 160, .exit]).exited = true := by decide +kernel
example : (run (sysInit 150 false false) [.connect, .signal Upgrading, .connect, .connect]).conns.length = 1 := by decide +kernel
example : (sysInit 150 false false).wf := by unfold Sys.wf; decide
-- HTTP/2 traits: a stream that exists at the signal completes, a stream begun after the GOAWAY is refused (retryable)
example : ((run (sysInit 150 true true) [.connect, .decoded 0, .signal GracefulStopping, .respDone 0]).conns.map (·.served)) = [1] := by decide +kernel
example : ((run (sysInit 150 true true) [.connect, .bytes 0, .signal GracefulStopping, .decoded 0]).conns.map (fun c => (c.refusedReq, c.notified))) = [(1, 1)] := by decide +kernel

/-! ## listeners that bind no port (`bind_port: false`, fed by a `use_original_dst` listener) -/

/-- a listener that binds no port is never Running, whatever is done to it (`Start` ignores it, a restart too): the
graceful stop must not depend on the listener having been Running -/
theorem virtual_never_running (inherit : Bool) (ops : List LOp) :
    (lisRun (lisInit false inherit) ops).state ≠ ListenerRunning ∧ accepting (lisRun (lisInit false inherit) ops) = false := by
  have h := (lisRun_off ops (lisInit false inherit) (by simp [lisInit, ListenerInited, ListenerRunning]) (.inr rfl)).2
  exact ⟨h, accepting_false_of_state _ h⟩

/-- **virtual_listener_drains**: `Shutdown` of an initialised listener that is neither Closed nor already Stopped
invokes the shutdown callback (go-away broadcast + drain) exactly once — in EVERY stage (hot upgrade: through the
regenerated early return of `stopAccept`; SIGTERM: through the close branch), whether or not it binds a port, whatever
its state (Inited for a listener that binds no port, Running for one that does). -/
theorem virtual_listener_drains (l : Lis) (stage : Int) (hc : l.state ≠ ListenerClosed) (hs : l.state ≠ ListenerStopped) :
    (lisShutdown l stage).2.shutdownCb = 1 :=
  lisShutdown_cb l stage hc hs

/-- outside the upgrade stage (SIGTERM: GracefulStopping) the callback runs whatever the listener's state and kind -/
theorem shutdown_outside_upgrade_drains (l : Lis) (stage : Int) (h : stage ≠ Upgrading) :
    (lisShutdown l stage).2.shutdownCb = 1 :=
  lisShutdown_cb_close l stage (by simp [shutdownOnlyStops, h])

/-- the event machine of a listener that binds no port: whatever happened before (any event list without a signal
leaves it Inited), the first signal — in any stage — reaches every existing connection with the go-away and starts the
drain; so `drain_waits` / `inflight_completes` protect the requests in flight on it. -/
theorem virtual_goaway_broadcast (s : Sys) (stage : Int) (hx : s.exited = false)
    (hc : s.lis.state ≠ ListenerClosed) (hs : s.lis.state ≠ ListenerStopped) :
    (step s (.signal stage)).conns =
      s.conns.map (fun c => { c with goAway := c.goAway + 1, notified := c.notified + (if s.notifies then 1 else 0) })
    ∧ (step s (.signal stage)).draining = true ∧ (step s (.signal stage)).waited = 0 :=
  goaway_broadcast s stage hx (by rw [virtual_listener_drains s.lis stage hc hs]; decide)

-- non-vacuity: the virtual listener of the model is Inited, binds nothing; the hot-upgrade Shutdown and the SIGTERM
-- Shutdown both run the callback; a second Shutdown in the upgrade stage does not (already Stopped)
example : lisVirtual.state = ListenerInited ∧ lisVirtual.bind = false := by decide +kernel
example : (lisShutdown lisVirtual Upgrading).2.shutdownCb = 1 ∧ (lisShutdown lisVirtual GracefulStopping).2.shutdownCb = 1 := by decide +kernel
example : (lisShutdown (lisShutdown lisVirtual Upgrading).1 Upgrading).2.shutdownCb = 0 := by decide +kernel
-- a request waiting for the upstream on a long-lived connection of a virtual listener holds the exit back in the
-- upgrade stage, the connections (bolt with go-away) are notified
example : let s := run (sysVirtual 150 true false 2) [.decoded 1, .signal Upgrading, .tick 10, .exit]
    s.exited = false ∧ s.conns.map (·.notified) = [1, 1] ∧ s.lis.state = ListenerStopped := by decide +kernel
example : (run (sysVirtual 150 true false 2) [.decoded 1, .signal Upgrading, .tick 10, .respDone 1, .exit]).exited = true := by decide +kernel
-- the rule "only a Running listener stops accepting" (not MOSN's) skips exactly these listeners
example : let stopOnlyRunning (st : Int) : Int × Bool := if st != ListenerRunning then (st, false) else (ListenerStopped, true)
    (stopOnlyRunning lisVirtual.state).2 = false ∧ (stopAccept lisVirtual.state lisVirtual.bind false).2 = true := by decide +kernel

/-! ## HTTP/2: the streams in flight when the graceful GOAWAY goes out (`Model/H2GoAway.lean`) -/
section h2goaway
open MosnVerif.Model MosnVerif.Lemmas.H2GoAway
open MosnVerif.Model.H2GoAway (getS setS bodyFrames stepWith runWith dropAllRule Out)

/-- **inflight_h2_body_completes**: on every reachable state `c0` of an HTTP/2 server connection that has not sent a
GOAWAY, let the HEADERS of a new request (odd id above every earlier one, optional content-length) arrive, followed by
ANY event list `evs` in which the frames of that stream are exactly the rest of its request — DATA frames of any sizes
within the declared length, ended by END_STREAM on the last one or by trailers — and everything else is arbitrary:
frames of other streams, and the graceful shutdown (`GoAway()`) **at any position, any number of times**: before the
first DATA frame, between two DATA frames, between the last DATA frame and the trailers, after the end.  Unless a
protocol violation on another stream tears the connection down, the request is handed to the proxy with its complete
body.  (The guards of `processData` / `processHeaders` enter through `Gen.H2GoAway.dataDiscarded` / `headersIgnored`.) -/
theorem inflight_h2_body_completes (pre evs : List H2GoAway.Ev) (id : Nat) (decl : Option Nat) (tr : Bool) (chunks : List Nat) :
    let c0 := (H2GoAway.run H2GoAway.Conn.initial pre).1
    c0.dead = false → c0.inGoAway = false → id % 2 = 1 → getS c0 id = none → c0.maxId < id →
    evs.filter (fun e => !e.other id) = bodyFrames id tr chunks →
    (∀ d, decl = some d → chunks.sum ≤ d) → (tr = true ∨ chunks ≠ []) →
    (H2GoAway.run c0 (.headers id false decl :: evs)).1.dead = false →
    Out.deliver id chunks.sum ∈ (H2GoAway.run c0 (.headers id false decl :: evs)).2 := by
  intro c0 hd hg hodd hnone hmax hp hdecl hend hfin
  obtain ⟨ho, hk⟩ := open_keeps c0 id decl hd hg hodd hnone hmax
  rw [run_cons] at hfin ⊢
  rw [ho]
  have := inflight_walk id decl tr hodd evs chunks _ 0 hk hp (by intro d h; have := hdecl d h; omega) |>.2 hfin hend
  simpa using this

/-- **inflight_h2_goaway_between_frames**: the statement without any survival hypothesis, for a connection that carries
this request only: HEADERS, then the body frames with `GoAway()` invoked at ANY position `n` among them (before the
first DATA frame, between any two, before the trailers, after the end) — the connection stays open and the request is
delivered with its complete body. -/
theorem inflight_h2_goaway_between_frames (id : Nat) (decl : Option Nat) (tr : Bool) (chunks : List Nat) (n : Nat)
    (hodd : id % 2 = 1) (hdecl : ∀ d, decl = some d → chunks.sum ≤ d) (hend : tr = true ∨ chunks ≠ []) :
    let evs := H2GoAway.Ev.headers id false decl ::
      ((bodyFrames id tr chunks).take n ++ [H2GoAway.Ev.shutdown] ++ (bodyFrames id tr chunks).drop n)
    (H2GoAway.run H2GoAway.Conn.initial evs).1.dead = false ∧
    Out.deliver id chunks.sum ∈ (H2GoAway.run H2GoAway.Conn.initial evs).2 := by
  intro evs
  have hbody := body_other id tr chunks
  let tl := (bodyFrames id tr chunks).take n ++ [H2GoAway.Ev.shutdown] ++ (bodyFrames id tr chunks).drop n
  have hall : ∀ e ∈ tl, e = H2GoAway.Ev.shutdown ∨ H2GoAway.Ev.other id e = false := by
    intro e he
    simp only [tl, List.mem_append, List.mem_singleton] at he
    rcases he with (he | he) | he
    · exact Or.inr (hbody e (List.mem_of_mem_take he))
    · exact Or.inl he
    · exact Or.inr (hbody e (List.mem_of_mem_drop he))
  have hfilter : tl.filter (fun e => !H2GoAway.Ev.other id e) = bodyFrames id tr chunks := by
    have hf : ∀ l : List H2GoAway.Ev, (∀ e ∈ l, H2GoAway.Ev.other id e = false) →
        l.filter (fun e => !H2GoAway.Ev.other id e) = l := by
      intro l hl
      apply List.filter_eq_self.2
      intro e he; simp [hl e he]
    simp only [tl, List.filter_append]
    rw [hf _ (fun e he => hbody e (List.mem_of_mem_take he)), hf _ (fun e he => hbody e (List.mem_of_mem_drop he))]
    simp [H2GoAway.Ev.other, List.take_append_drop]
  obtain ⟨ho, hk⟩ := open_keeps H2GoAway.Conn.initial id decl rfl rfl hodd rfl (show (0 : Nat) < id by omega)
  show (H2GoAway.run H2GoAway.Conn.initial (.headers id false decl :: tl)).1.dead = false ∧
    Out.deliver id chunks.sum ∈ (H2GoAway.run H2GoAway.Conn.initial (.headers id false decl :: tl)).2
  rw [run_cons, ho]
  obtain ⟨h1, h2⟩ := inflight_walk id decl tr hodd tl chunks _ 0 hk hfilter (by intro d h; have := hdecl d h; omega)
  -- what closes the connection is a frame of another stream: none occurs in `tl`
  have ha : (H2GoAway.run _ tl).1.dead = false := Bool.eq_false_iff.2 fun hd =>
    let ⟨e, he, hoth, hne⟩ := h1 hd
    (hall e he).elim hne fun hs => nomatch hoth.symm.trans hs
  exact ⟨ha, by simpa using h2 ha hend⟩

/-- the rule owed by `processData` and `processHeaders`, as regenerated: after a graceful GOAWAY nothing of a stream at
or below the last stream id is dropped; after it no new stream is opened (its id would exceed the last stream id) -/
theorem h2_goaway_rule (code : Int) (id last : Nat) (h : id ≤ last) :
    Gen.H2GoAway.dataDiscarded true Gen.H2GoAway.gracefulCode id last = false ∧
    Gen.H2GoAway.headersIgnored true Gen.H2GoAway.gracefulCode id last = false ∧
    Gen.H2GoAway.dataDiscarded false code id last = false ∧
    (last < id → Gen.H2GoAway.headersIgnored true code id last = true) :=
  have k := kept_inflight true Gen.H2GoAway.gracefulCode id last (fun _ => rfl) h
  ⟨k.1, k.2, (kept_inflight false code id last (fun h => Bool.noConfusion h) h).1, fun h' => by omega⟩

/-- **refused_stream_harmless**: a stream the client begins after the GOAWAY (its id is above the last stream id; the
client may not have seen the GOAWAY yet) cannot disturb the connection: its HEADERS, DATA and RST_STREAM frames are
dropped without any effect — no connection error, so the requests in flight survive it. -/
theorem refused_stream_harmless (c : H2GoAway.Conn) (j n : Nat) (es : Bool) (d : Option Nat)
    (hg : c.inGoAway = true) (hj : c.maxId < j) :
    H2GoAway.step c (.headers j es d) = (c, []) ∧ H2GoAway.step c (.data j n es) = (c, []) ∧
    H2GoAway.step c (.rst j) = (c, []) :=
  -- each of the three is a frame of stream `j`
  have dropped (e : H2GoAway.Ev) := refused_stream_step c e j hg hj
  ⟨dropped _ (bne_self_eq_false j), dropped _ (bne_self_eq_false j), dropped _ (bne_self_eq_false j)⟩

-- non-vacuity / the mutator's description "goaway between data frames": HEADERS, DATA(100), GoAway(), DATA(200, END_STREAM)
example : (H2GoAway.run H2GoAway.Conn.initial [.headers 1 false (some 300), .data 1 100 false, .shutdown, .data 1 200 true]).2 =
    [Out.goAway 1 0, Out.deliver 1 300] := by decide +kernel
-- ... between the last DATA frame and the trailers; and a stream begun after the GOAWAY is ignored, its DATA discarded
example : (H2GoAway.run H2GoAway.Conn.initial [.headers 1 false none, .data 1 100 false, .shutdown, .headers 3 false none, .data 3 5 true,
    .headers 1 true none]).2 = [Out.goAway 1 0, Out.deliver 1 100] := by decide +kernel
-- the witness for the rule "drop DATA whenever a GOAWAY has been sent": the half-received request is never delivered
example : (runWith dropAllRule H2GoAway.Conn.initial [.headers 1 false (some 300), .data 1 100 false, .shutdown, .data 1 200 true]).2 =
    [Out.goAway 1 0] := by decide +kernel
-- an error GOAWAY (here: DATA on an idle stream) does discard everything and the connection is closed
example : (H2GoAway.run H2GoAway.Conn.initial [.headers 1 false none, .data 7 1 false, .data 1 5 true]).2 =
    [Out.goAway 1 1, Out.closed] := by decide +kernel
end h2goaway

/-! ## HTTP/2: responses in flight when the graceful GOAWAY goes out (send side, control frames; `Model/H2GoAwaySend.lean`) -/
section H2GoAwaySendProps
open MosnVerif.Model MosnVerif.Lemmas.H2GoAwaySend MosnVerif.Lemmas.Flow

/-- **goaway_keeps_inflight_progress**: for EVERY event list of an HTTP/2 server connection — graceful shut-downs
(`GoAway()` of the proxy, a GOAWAY of the peer) at any positions, any number of times, interleaved with requests being
answered, sender passes, WINDOW_UPDATE on streams and on the connection, SETTINGS (initial window, max frame size),
PING, PRIORITY — the flow-control state reached is EXACTLY the state of the flow model of C18 under the same schedule
without the go-aways (only requests begun after the GOAWAY are refused): the GOAWAY takes no credit, no SETTINGS and
no wake-up away from the streams in flight.  Hence (composition with C18) the DATA written never exceeds the peer's
windows, and a response body of ANY size completes once a conformant peer has granted its rest on the stream and on
the connection — however the grants are interleaved with the GOAWAY.  The go-away tests of processWindowUpdate /
processSettings / processPing / processHeaders are the regenerated ones. -/
theorem goaway_keeps_inflight_progress (evs : List H2GoAwaySend.Ev) (hw : ∀ e ∈ evs, e.wf = true) (i : Nat) :
    let s := (H2GoAwaySend.run H2GoAwaySend.St.initial evs).flow
    s = Flow.run (Flow.St.initial .server) (H2GoAwaySend.labelsFrom false evs) ∧
    Flow.peerOk s.trace = true ∧ s.panicked = false ∧
    ((Flow.peerOf s.trace).conformant = true → i < s.count →
      ((s.strm i).rem : Int) ≤ (Flow.peerOf s.trace).w i → ((s.strm i).rem : Int) ≤ (Flow.peerOf s.trace).connW →
      ((Flow.pump s i (s.strm i).rem).strm i).rem = 0 ∧
      Flow.sentOn i (Flow.pump s i (s.strm i).rem).trace = Flow.sentOn i s.trace + (s.strm i).rem) := by
  intro s
  have ht : s = Flow.run (Flow.St.initial .server) (H2GoAwaySend.labelsFrom false evs) :=
    run_transparent evs H2GoAwaySend.St.initial false agree_initial
  have hl := labelsFrom_wf evs false hw
  have hinv : Inv s := by rw [ht]; exact inv_run _ _ hl (inv_initial .server)
  have hex : Exact s := by rw [ht]; exact exact_run _ _ hl (inv_initial .server) (exact_initial .server)
  exact ⟨ht, hinv.ok, hinv.nopanic, pump_completes_granted s i hinv hex⟩

/-- after a graceful GOAWAY (any event list, the connection alive) PING is still answered, SETTINGS are still applied
and acknowledged, WINDOW_UPDATE (stream and connection level) still adds its credit -/
theorem goaway_control_frames_processed (evs : List H2GoAwaySend.Ev) (l : Flow.Label) :
    let s := H2GoAwaySend.run H2GoAwaySend.St.initial evs
    s.flow.closed = false →
    (H2GoAwaySend.step s .ping).pingAcks = s.pingAcks + 1 ∧
    (H2GoAwaySend.step s (.flow l)).flow = Flow.step s.flow l ∧
    (H2GoAwaySend.isSettings l = true → (Flow.step s.flow l).closed = false →
      (H2GoAwaySend.step s (.flow l)).settingsAcks = s.settingsAcks + 1) := by
  intro s hcl
  obtain ⟨g, hc, _⟩ := run_agree evs H2GoAwaySend.St.initial false agree_initial
  have hc' : s.code = Gen.H2GoAway.gracefulCode := hc
  refine ⟨?_, (step_flow s l hc').1, ?_⟩
  · simp [H2GoAwaySend.step, H2GoAwaySend.stepWith, H2GoAwaySend.codeRules, hcl, hc', ping_graceful]
  · intro hs hnc
    have hnw : H2GoAwaySend.isWu l = false := by cases l <;> simp_all [H2GoAwaySend.isWu, H2GoAwaySend.isSettings]
    simp [H2GoAwaySend.step, H2GoAwaySend.stepWith, H2GoAwaySend.codeRules, hc', settings_graceful, hcl, hs, hnw, hnc]

-- non-vacuity and the negation witness: a response of 70000 bytes, 65535 of them written when the GOAWAY goes out;
-- the client then grants credit on the stream and on the connection
def h2gwDemo : List H2GoAwaySend.Ev :=
  [.open 70000, .flow (.send 0), .flow (.send 0), .flow (.send 0), .flow (.send 0), .flow (.send 0), .shutdown, .ping,
   .flow (.wuStream 0 70000), .flow (.wuConn 70000), .flow (.send 0), .flow (.send 0)]
example : ∀ e ∈ h2gwDemo, e.wf = true := by decide +kernel
example : let s := H2GoAwaySend.run H2GoAwaySend.St.initial h2gwDemo
    (s.flow.strm 0).rem = 0 ∧ Flow.sentOn 0 s.flow.trace = 70000 ∧ s.pingAcks = 1 ∧ s.inGoAway = true ∧ s.goAways = 1 := by decide +kernel
example : ((H2GoAwaySend.run H2GoAwaySend.St.initial (h2gwDemo.take 6)).flow.strm 0).rem = 4465 := by decide +kernel
-- a request begun after the GOAWAY is refused, one begun before it is not
example : (H2GoAwaySend.run H2GoAwaySend.St.initial [.open 10, .shutdown, .open 10]).flow.count = 1 := by decide +kernel
/-- negation witness (the seeded defect class: WINDOW_UPDATE ignored once a GOAWAY was sent): the rest of the body is
never written although the client granted the credit -/
theorem goaway_ignoring_window_update_stalls :
    ((H2GoAwaySend.runWith H2GoAwaySend.ignoreWuRules H2GoAwaySend.St.initial h2gwDemo).flow.strm 0).rem = 4465 := by decide +kernel

end H2GoAwaySendProps


/-! ## the drain mark of an HTTP/1 server connection (hot upgrade: `Connection: close` on the next response) -/
section H1DrainProps
open MosnVerif.Model MosnVerif.Lemmas.H1Drain

/-- **h1_goaway_sticky**: for EVERY interleaving of the mark (the transfer event of the old process's read loop) with
request-parse and response-write events — `pre` is whatever happened on the connection before the mark (idle, a request
outstanding, several keep-alive requests served), `post` whatever happens after it (the rest of a half-received request
is parsed, the upstream answers, further requests arrive): the mark is never cleared, and after the mark the
connection writes at most ONE more response — it carries `Connection: close` and the connection is closed right after
it (or nothing is written and the connection stays open, still marked).  The assignment rules are the regenerated
`markUpdate` / `parseUpdate`, the close decision the regenerated `respCloses`. -/
theorem h1_goaway_sticky (pre post : List H1Drain.Ev) :
    let c := (H1Drain.run H1Drain.Conn.initial (pre ++ [H1Drain.Ev.mark])).1
    c.flag = true ∧ (H1Drain.run c post).1.flag = true ∧
    (c.closed = false →
      ((H1Drain.run c post).2 = [] ∧ (H1Drain.run c post).1.closed = false) ∨
      ((H1Drain.run c post).2 = [H1Drain.Out.resp true, H1Drain.Out.closed] ∧ (H1Drain.run c post).1.closed = true)) ∧
    (c.closed = true → (H1Drain.run c post).2 = []) := by
  intro c
  have hf : c.flag = true := by
    show (H1Drain.run H1Drain.Conn.initial (pre ++ [H1Drain.Ev.mark])).1.flag = true
    rw [run_append, run_cons, run_nil]
    exact mark_sets (H1Drain.run H1Drain.Conn.initial pre).1.flag
  exact ⟨hf, run_flag c post hf, fun hc => run_marked c post hf hc, fun hc => (run_closed c post hc).2⟩

/-- the first response after the mark IS written with `Connection: close`: whether a request was outstanding at the
mark (`cur = some rc`: parsed and waiting for the upstream) and its response ends, or the connection was idle / a
request half received and the (rest of the) request is parsed and answered — each followed by anything. -/
theorem h1_first_response_after_mark_closes (pre rest : List H1Drain.Ev) (rc : Bool) :
    let c := (H1Drain.run H1Drain.Conn.initial (pre ++ [H1Drain.Ev.mark])).1
    c.closed = false →
    (c.cur.isSome = true → (H1Drain.run c (H1Drain.Ev.respond :: rest)).2 = [H1Drain.Out.resp true, H1Drain.Out.closed]) ∧
    (c.cur = none → (H1Drain.run c (H1Drain.Ev.parse rc :: H1Drain.Ev.respond :: rest)).2 = [H1Drain.Out.resp true, H1Drain.Out.closed]) := by
  intro c hc
  have hf : c.flag = true := (h1_goaway_sticky pre []).1
  constructor
  · intro hcur
    obtain ⟨r, hr⟩ := Option.isSome_iff_exists.mp hcur
    have h1 := respond_marked c r hr hf hc
    rw [run_cons, h1.1, (run_closed _ rest h1.2).2]; rfl
  · intro hcur
    have hp : (H1Drain.step c (H1Drain.Ev.parse rc)).2 = [] ∧ (H1Drain.step c (H1Drain.Ev.parse rc)).1.closed = false ∧
        (H1Drain.step c (H1Drain.Ev.parse rc)).1.cur = some rc := by
      refine ⟨?_, ?_, ?_⟩ <;> simp [H1Drain.step, H1Drain.stepWith, hc, hcur]
    have h1 := respond_marked _ rc hp.2.2 (step_flag c _ hf) hp.2.1
    rw [run_cons, hp.1, run_cons, h1.1, (run_closed _ rest h1.2).2]; rfl

-- non-vacuity: a keep-alive connection serves requests without `Connection: close` until it is marked; the mark while
-- idle, while a request waits for the upstream, and while the response is being written (ordered after that respond)
example : (H1Drain.run H1Drain.Conn.initial [.parse false, .respond, .parse false, .respond]).2 = [.resp false, .resp false] := by decide +kernel
example : (H1Drain.run H1Drain.Conn.initial [.parse false, .respond, .mark, .parse false, .respond, .parse false, .respond]).2 =
    [.resp false, .resp true, .closed] := by decide +kernel
example : (H1Drain.run H1Drain.Conn.initial [.parse false, .mark, .respond, .parse false]).2 = [.resp true, .closed] := by decide +kernel
example : (H1Drain.run H1Drain.Conn.initial [.parse false, .respond, .mark]).1.closed = false := by decide +kernel
/-- negation witness (the seeded defect class: the mark overwritten by every parsed request): a keep-alive client whose
connection was marked while idle is never told to reconnect -/
theorem h1_overwrite_loses_mark :
    (H1Drain.runWith H1Drain.overwriteRules H1Drain.Conn.initial [.parse false, .respond, .mark, .parse false, .respond, .parse false, .respond]).2 =
    [.resp false, .resp false, .resp false] := by decide +kernel

end H1DrainProps


/-! ## stage manager -/

/-- **stage order monotone**: for every event list the environment can produce (Reload/Upgrade notices only once `Run`
has returned; an init-stage callback only gives a stop notice), the values stored in the manager's state never go down
in rank — start-up stages in order, Running ⇄ StartingNewServer/Upgrading at the rank of Running, then
GracefulStopping, Stopping, AfterStop, Stopped; in particular a manager that began stopping never returns to Running. -/
theorem stage_order_monotone (fromUpgrade : Bool) (es : List SMEv) (h : guarded (smInit fromUpgrade) es) :
    monoRev (smRun (smInit fromUpgrade) es).hist :=
  (smRun_inv _ es (smInit_inv fromUpgrade) h).good.mono

/-- the regenerated `SetState` orders of `Run` and `Stop` ascend strictly through the regenerated enum -/
theorem run_then_stop_ascending :
    (runSeq ++ stopSeqGraceful).Pairwise (· < ·) ∧ (runSeq ++ stopSeqDirect).Pairwise (· < ·) := by decide +kernel

/-- when the Application is shut down by the graceful-stop stage the state is GracefulStopping, which makes the
listeners close their sockets; inside the upgrade handler it is Upgrading, which makes them only stop accepting. -/
theorem stage_selects_listener_mode :
    shutdownOnlyStops GracefulStopping = false ∧ shutdownOnlyStops Running = false ∧ shutdownOnlyStops Upgrading = true ∧
    gracefulSetsStateFirst = true ∧ gracefulPrefix = [GracefulStopping] := by decide +kernel

-- non-vacuity: a guarded history with an upgrade that fails, resumes, and a later SIGTERM
example : guarded (smInit false)
    ((List.replicate 6 (SMEv.boot none false false)) ++ [.notice actUpgrade (some false) false, .notice actGracefulStop none false, .mainStop false]) := by decide +kernel
example : (smRun (smInit false)
    ((List.replicate 6 (SMEv.boot none false false)) ++ [.notice actUpgrade (some false) false, .notice actGracefulStop none false, .mainStop false])).hist.reverse
    = [1, 2, 3, 4, 5, 6, 13, 6, 8, 9, 10, 11] := by decide +kernel
-- without the guard the claim is false: an Upgrade notice during start-up lets the state go down again
example : ¬ monoRev (smRun (smInit false) [.boot none false false, .boot none false false, .notice actUpgrade none false, .boot none false false]).hist := by decide +kernel


/-! ## hot upgrade: long-lived connections are handed over before the old process exits -/
section UpgTimingProps
open MosnVerif.Model.UpgTiming MosnVerif.Gen.UpgTiming

/-- **start_aligns_transfer_timeout**: on EVERY start path (cold or inherited; `setOnStart` is the regenerated path
condition of the call in `Mosn.TransferConnection`) and for every configured graceful_timeout (0 = absent),
`network.TransferTimeout` ends up equal to `server.GracefulTimeout`. -/
theorem start_aligns_transfer_timeout (inherited : Bool) (cfg : Nat) :
    transferTimeoutAfterStart inherited cfg = graceful cfg :=
  transferTimeout_eq_graceful inherited cfg

/-- **handover_before_exit**: for every graceful timeout (unbounded), every read timeout `R`, every start path and
every random draw `r` of the read loop, a transferable connection is handed over strictly before the old process's
exit timer `WaitConnectionsDone(GracefulTimeout)` fires — even when the stop signal and the expiry of the hand-over
timer are each noticed a full read timeout late. -/
theorem handover_before_exit (inherited : Bool) (cfg R r : Nat)
    (hr : r < randBound (transferTimeoutAfterStart inherited cfg)) :
    handoverLatest (transferTimeoutAfterStart inherited cfg) r R < lifetime (graceful cfg) R := by
  rw [transferTimeout_eq_graceful] at *
  unfold handoverLatest lifetime transferInstant waitConnectionsDone
  unfold randBound at hr
  omega

example : (5 : Nat) < randBound (transferTimeoutAfterStart false 5000) := by decide +kernel
example : handoverLatest (transferTimeoutAfterStart false 5000) 4999 15000 = 39999 ∧ lifetime (graceful 5000) 15000 = 40000 := by decide +kernel

/-- the executable form used by the driver agrees: every start fits -/
theorem start_fits (inherited : Bool) (cfg R : Nat) :
    fits (transferTimeoutAfterStart inherited cfg) (graceful cfg) R = true := by
  have hp := graceful_pos cfg
  rw [transferTimeout_eq_graceful]
  unfold fits handoverLatest lifetime transferInstant waitConnectionsDone randBound
  simp
  omega

/-- **default_schedule_misses_exit** (negation witness for a start that leaves the 30 s default in place): with a
graceful timeout below 15 s some draw of the read loop lands at or after the exit even if nothing is noticed late. -/
theorem default_schedule_misses_exit (g : Nat) (hg : g < 15000) :
    ∃ r, r < randBound defaultTransferTimeoutMs ∧
      lifetime g defaultConnReadTimeoutMs ≤ transferInstant defaultTransferTimeoutMs r := by
  refine ⟨2 * g, ?_, ?_⟩ <;>
    simp only [randBound, defaultTransferTimeoutMs, lifetime, waitConnectionsDone, defaultConnReadTimeoutMs, transferInstant] <;> omega

example : fits defaultTransferTimeoutMs 5000 defaultConnReadTimeoutMs = false := by decide +kernel

end UpgTimingProps

/-! ## hot upgrade: writes issued while a connection is being handed over -/
section HandoverQueueProps
open MosnVerif.Model.HandoverQueue MosnVerif.Gen.HandoverQueue

/-- **handover_writes_preserved**: for EVERY sequence of writes the old process issues on a connection that is being
handed over (any number, far beyond the queue's capacity) and EVERY schedule of the writer and the forwarding loop
(including any number of writer turns before the loop has started: the window before `transferRead` returned), with
the enqueue form and the capacity regenerated from `writeDirectly`: no write is given up, and what was forwarded to
the new process, what is queued and what the writer has not yet written is, in this order, exactly the writer's
sequence.  Assumption of the `blockingTimeout` form: the forwarding loop starts before the timer fires. -/
theorem handover_writes_preserved {α : Type} (ws : List α) (sched : List MosnVerif.Model.HandoverQueue.Ev) :
    (runG ws sched).forwarded ++ (runG ws sched).queue ++ (runG ws sched).pending = ws ∧ (runG ws sched).dropped = [] :=
  run_inv enqueueMode (by decide) writeBufferCap ws sched { pending := ws } ⟨by simp, rfl⟩

/-- hence: once the writer is through and the queue is empty, the new process received all writes, in order -/
theorem handover_writes_complete {α : Type} (ws : List α) (sched : List MosnVerif.Model.HandoverQueue.Ev)
    (hp : (runG ws sched).pending = []) (hq : (runG ws sched).queue = []) : (runG ws sched).forwarded = ws := by
  have h := (handover_writes_preserved ws sched).1
  rw [hp, hq] at h
  simpa using h

/-- non-vacuous: 10 writes in the window (8 fit, the 9th waits), then the loop runs — all arrive -/
example : (runG (List.range 10) (harnessWindow 10 ++ harnessRest 10)).pending = []
    ∧ (runG (List.range 10) (harnessWindow 10 ++ harnessRest 10)).queue = []
    ∧ (runG (List.range 10) (harnessWindow 10 ++ harnessRest 10)).forwarded = List.range 10 := by decide +kernel
example : ((runG (List.range 17) (harnessWindow 17)).queue.length, (runG (List.range 17) (harnessWindow 17)).pending.length) = (8, 9) := by decide +kernel

/-- negation witness for the give-up-when-full enqueue: the 9th write of the window is lost -/
example : (run .dropWhenFull 8 { pending := List.range 9 } (harnessWindow 9 ++ harnessRest 9)).dropped = [8]
    ∧ (run .dropWhenFull 8 { pending := List.range 9 } (harnessWindow 9 ++ harnessRest 9)).forwarded = List.range 8 := by decide +kernel

end HandoverQueueProps

/-! ## hot upgrade: a write IN PROGRESS when the connection is handed over (`Model/HandoverStream.lean`) -/
section HandoverStreamProps
open MosnVerif.Model.HandoverStream MosnVerif.Gen.HandoverLock

/-- the step lists the proofs are about are the regenerated ones: `notifyTransfer` takes the mutex `writeDirectly`
holds from before its mark test until after `doWrite` -/
theorem handover_steps_regenerated : writeSteps = realW ∧ handoverSteps = realH ∧ sameMutex = true := by decide +kernel

/-- **handover_stream_intact**: for EVERY list of writes of the old process (each any number `k` of partial writes),
EVERY list of writes of the new process and EVERY schedule of the old writer, the hand-over thread and the new
process's writer - with the step order of `writeDirectly`, of `notifyTransfer` and of `connection.transfer` regenerated -
the socket's chunk sequence is intact: every write is contiguous (its chunks adjacent and in order, the next write
begins only after the previous one is complete: no interleaving of two writes) and no chunk of the old process follows
a chunk of the new process. -/
theorem handover_stream_intact (ws news : List Wr) (sched : List MosnVerif.Model.HandoverStream.Ev) :
    intactR (runG ws news sched).rsock = true := by
  have h := inv_runG ws news sched
  simp [intactR, h.Wl, h.Q]

/-- in words of the two processes: the stream is the old process's chunks followed by the new process's (`rsock` is
newest first) -/
theorem handover_old_before_new (ws news : List Wr) (sched : List MosnVerif.Model.HandoverStream.Ev) :
    ∃ a b, (runG ws news sched).rsock = a ++ b ∧ (∀ e ∈ a, e.side = .new) ∧ (∀ e ∈ b, e.side = .old) :=
  sortedR_split _ (inv_runG ws news sched).Q

/-- **handover_waits_for_write**: when the descriptor has left for the new process, no write of the old process is
between its mark test and the end of its `doWrite` (the hand-over queued behind the write in progress), and none ever
will be: the mark is set. -/
theorem handover_waits_for_write (ws news : List Wr) (sched : List MosnVerif.Model.HandoverStream.Ev)
    (hfd : (runG ws news sched).fdSent = true) :
    (runG ws news sched).mark = true ∧ (runG ws news sched).oidx = 0
      ∧ ∀ w, (runG ws news sched).ocur = some w → ¬ ((runG ws news sched).opc = 2 ∨ (runG ws news sched).opc = 3) := by
  have h := inv_runG ws news sched
  have hm := h.F hfd
  exact ⟨hm, h.oidx_zero_of_mark hm, h.J hm⟩

/-- **handover_writes_split** (composition with `handover_writes_preserved`): for every schedule the old writer's
sequence is, in order: the writes that went to the socket directly, the diverted ones - of which, for every schedule
of the forwarding loop, what was forwarded, what is queued and what is not yet enqueued is again the sequence, nothing
dropped -, the write not yet at its mark test, and the writes not yet begun. -/
theorem handover_writes_split (ws news : List Wr) (sched : List MosnVerif.Model.HandoverStream.Ev)
    (qsched : List MosnVerif.Model.HandoverQueue.Ev) :
    let s := runG ws news sched
    let q := MosnVerif.Model.HandoverQueue.runG s.diverted qsched
    s.direct ++ ((q.forwarded ++ q.queue ++ q.pending) ++ (unclassified s ++ s.opend)) = ws ∧ q.dropped = [] := by
  intro s q
  have h : Acc ws s := acc_run ws sched (init ws news) (acc_init ws news)
  have hq : q.forwarded ++ q.queue ++ q.pending = s.diverted ∧ q.dropped = [] :=
    handover_writes_preserved s.diverted qsched
  exact ⟨by rw [hq.1]; exact h.P, hq.2⟩

/-- the harness's schedule: write 1 (4 partial writes) blocked after 2 of them, the hand-over tries, the client reads -/
def hwlSched : List MosnVerif.Model.HandoverStream.Ev :=
  List.replicate 6 .o ++ List.replicate 4 .h ++ [.n, .n] ++ List.replicate 4 .o ++ List.replicate 4 .h ++ [.n, .n] ++ List.replicate 12 .o

/-- non-vacuous: on that schedule the hand-over waits, write 1 is completed, then the new process's frame, and the two
later writes of the old process are diverted -/
example : (runG [⟨1, 4⟩, ⟨3, 1⟩, ⟨4, 1⟩] [⟨2, 1⟩] hwlSched).rsock.reverse
      = [⟨.old, 1, 0, 4⟩, ⟨.old, 1, 1, 4⟩, ⟨.old, 1, 2, 4⟩, ⟨.old, 1, 3, 4⟩, ⟨.new, 2, 0, 1⟩]
    ∧ (runG [⟨1, 4⟩, ⟨3, 1⟩, ⟨4, 1⟩] [⟨2, 1⟩] hwlSched).diverted = [⟨3, 1⟩, ⟨4, 1⟩]
    ∧ (runG [⟨1, 4⟩, ⟨3, 1⟩, ⟨4, 1⟩] [⟨2, 1⟩] (hwlSched.take 10)).fdSent = false
    ∧ (runG [⟨1, 4⟩, ⟨3, 1⟩, ⟨4, 1⟩] [⟨2, 1⟩] hwlSched).fdSent = true := by decide +kernel

/-- negation witness, mark without the lock (`notifyTransfer` = a plain store): the descriptor leaves while write 1 is
inside `doWrite`, the new process's frame lands between its chunks -/
example : (run realW [.setMark, .sendFd] (init [⟨1, 4⟩] [⟨2, 1⟩]) hwlSched).rsock.reverse
      = [⟨.old, 1, 0, 4⟩, ⟨.old, 1, 1, 4⟩, ⟨.new, 2, 0, 1⟩, ⟨.old, 1, 2, 4⟩, ⟨.old, 1, 3, 4⟩]
    ∧ intactR (run realW [.setMark, .sendFd] (init [⟨1, 4⟩] [⟨2, 1⟩]) hwlSched).rsock = false
    ∧ (run realW [.setMark, .sendFd] (init [⟨1, 4⟩] [⟨2, 1⟩]) (hwlSched.take 10)).fdSent = true := by decide +kernel

/-- negation witness, `writeDirectly` releasing the mutex between appendBuffer and doWrite: the same -/
example : intactR (run [.lock, .check, .append, .unlock, .io] realH (init [⟨1, 4⟩] [⟨2, 1⟩]) hwlSched).rsock = false := by decide +kernel

end HandoverStreamProps

/-! ## hot upgrade: the hand-shake never leaves a listener without an acceptor -/
section UpgHandshakeProps
open MosnVerif.Model.UpgHandshake MosnVerif.Gen.UpgHandshake

/-- **upgrade_always_one_acceptor**: with the old process's step order regenerated from `ReconfigureHandler` and the
new process's ack deadline / give-up rule from `transferConnectionHandler`: for EVERY drain time (unbounded), EVERY set
of requests in flight (their remaining durations), every instant `tReady` at which the new process reports ready, every
length of `WaitConnectionsDone` and EVERY instant `t`, the old or the new process accepts on the shared listeners. -/
theorem upgrade_always_one_acceptor (tReady drainTime wd : Nat) (inflight : List Nat) (t : Nat) :
    oldAccepts (upgrade tReady drainTime inflight wd) t = true ∨
      newAccepts (upgrade tReady drainTime inflight wd) tReady t = true := by
  by_cases h : tReady ≤ readyDeadlineMs
  · rw [upgrade_ready _ _ _ _ h]
    simp only [oldAccepts, newAccepts, gaveUpAt, newGivesUpWithoutAck, newAcceptsBeforeReady, ackDeadlineMs]
    by_cases ht : t < tReady + 3000
    · left; simp [ht]
    · right; simp; omega
  · left; rw [upgrade_aborted _ _ _ _ h]; rfl

/-- **new_never_gives_up**: when the old process is healthy (the ready byte arrives within its read deadline) the new
process gets its ack in time, whatever the drain takes -/
theorem new_never_gives_up (tReady drainTime wd : Nat) (inflight : List Nat) (h : tReady ≤ readyDeadlineMs) :
    gaveUpAt (upgrade tReady drainTime inflight wd) tReady = none := by
  rw [upgrade_ready _ _ _ _ h]
  simp [gaveUpAt, ackDeadlineMs]

/-- the ack is written before `stopAccept`, and the old process exits only after the drain and `WaitConnectionsDone` -/
theorem ack_before_stop_accept (tReady drainTime wd : Nat) (inflight : List Nat) (h : tReady ≤ readyDeadlineMs) :
    ∃ a s e, (upgrade tReady drainTime inflight wd).ackAt = some a ∧ (upgrade tReady drainTime inflight wd).stopAt = some s ∧
      (upgrade tReady drainTime inflight wd).exitAt = some e ∧ a ≤ s ∧ s + shutdownDur drainTime inflight + wd ≤ e := by
  rw [upgrade_ready _ _ _ _ h]
  exact ⟨_, _, _, rfl, rfl, rfl, Nat.le_add_right .., Nat.le_refl _⟩

example : (200 : Nat) ≤ readyDeadlineMs := by decide +kernel
example : (upgrade 200 15000 [20000, 40] 60000).stopAt = some 3200 ∧ (upgrade 200 15000 [20000, 40] 60000).exitAt = some 78200 := by decide +kernel

/-- negation witness (shutdown before the ack, drain longer than the ack deadline): the new process gives up while the
old one is already deaf — at that instant nobody accepts -/
example :
    let o := runOld [.sendListeners, .readReady, .stopService, .shutdown, .writeAck, .sleep 3000, .waitDone, .exit]
      100 (shutdownDur 5000 [20000]) 60000
    gaveUpAt o 100 = some 3100 ∧ oldAccepts o 3100 = false ∧ newAccepts o 100 3100 = false := by decide +kernel

end UpgHandshakeProps

/-! ## hot upgrade end to end: the schedule the two-process run (kind up2) is judged against -/
section UpgradeEndToEnd
open MosnVerif.Model.UpgHandshake MosnVerif.Gen.UpgHandshake MosnVerif.Model.UpgTiming MosnVerif.Gen.UpgTiming

/-- **upgrade_exit_window**: for EVERY configured graceful timeout (0 = absent), drain time, set of requests in flight
and ready instant within the old process's read deadline, the old process — step list regenerated from
`ReconfigureHandler`, exit timer regenerated from `WaitConnectionsDone` — exits by itself, not before
`ready + 3 s + 2·graceful + 2·readTimeout` and not after that plus the drain time.  (The literal window of the up2
cases; an old process that leaves earlier — e.g. without `WaitConnectionsDone` — or later is outside it.) -/
theorem upgrade_exit_window (tReady drainTime cfg : Nat) (inflight : List Nat) (h : tReady ≤ readyDeadlineMs) :
    ∃ e, (upgrade tReady drainTime inflight (lifetime (graceful cfg) defaultConnReadTimeoutMs)).exitAt = some e ∧
      tReady + 3000 + 2 * graceful cfg + 30000 ≤ e ∧ e ≤ tReady + 3000 + drainTime + 2 * graceful cfg + 30000 := by
  rw [upgrade_ready _ _ _ _ h]
  have hd : shutdownDur drainTime inflight ≤ drainTime := Nat.min_le_left _ _
  refine ⟨_, rfl, ?_, ?_⟩ <;>
    simp only [lifetime, waitConnectionsDone, defaultConnReadTimeoutMs] <;> omega

/-- **upgrade_handover_inside_lifetime**: in that schedule every transferable connection — whatever the read loop
draws, the stop and the expiry of its timer each noticed up to a read timeout late, the old process started cold or
itself born from an upgrade — is handed over strictly before the old process exits, and from the ready instant to the
exit (and beyond) somebody accepts on the shared listeners. -/
theorem upgrade_handover_inside_lifetime (tReady drainTime cfg r : Nat) (inherited : Bool) (inflight : List Nat)
    (h : tReady ≤ readyDeadlineMs) (hr : r < randBound (transferTimeoutAfterStart inherited cfg)) :
    ∃ s e, (upgrade tReady drainTime inflight (lifetime (graceful cfg) defaultConnReadTimeoutMs)).stopAt = some s ∧
      (upgrade tReady drainTime inflight (lifetime (graceful cfg) defaultConnReadTimeoutMs)).exitAt = some e ∧
      s + shutdownDur drainTime inflight
        + handoverLatest (transferTimeoutAfterStart inherited cfg) r defaultConnReadTimeoutMs < e ∧
      ∀ t, oldAccepts (upgrade tReady drainTime inflight (lifetime (graceful cfg) defaultConnReadTimeoutMs)) t = true ∨
        newAccepts (upgrade tReady drainTime inflight (lifetime (graceful cfg) defaultConnReadTimeoutMs)) tReady t = true := by
  have hb := handover_before_exit inherited cfg defaultConnReadTimeoutMs r hr
  have hacc := upgrade_always_one_acceptor tReady drainTime (lifetime (graceful cfg) defaultConnReadTimeoutMs) inflight
  refine ⟨tReady + 3000, tReady + 3000 + shutdownDur drainTime inflight + lifetime (graceful cfg) defaultConnReadTimeoutMs, ?_, ?_, ?_, hacc⟩
  · rw [upgrade_ready _ _ _ _ h]
  · rw [upgrade_ready _ _ _ _ h]
  · omega

/-- non-vacuous: graceful_timeout 2 s, drain 2 s, requests in flight for the whole drain: exit 39 s after ready -/
example : (upgrade 0 2000 [2000] (lifetime (graceful 2000) defaultConnReadTimeoutMs)).exitAt = some 39000
    ∧ (upgrade 0 2000 [] (lifetime (graceful 2000) defaultConnReadTimeoutMs)).exitAt = some 37000 := by decide +kernel
example : (1999 : Nat) < randBound (transferTimeoutAfterStart false 2000) := by decide +kernel
/-- negation witness: an old process that skips `WaitConnectionsDone` is gone before the earliest hand-over -/
example : (runOld [.sendListeners, .readReady, .writeAck, .stopService, .sleep 3000, .shutdown, .exit] 0 2000
      (lifetime (graceful 2000) defaultConnReadTimeoutMs)).exitAt = some 5000
    ∧ 5000 < 3000 + 2000 + transferInstant (transferTimeoutAfterStart false 2000) 0 := by decide +kernel

end UpgradeEndToEnd

/-! ## hand-over of a TLS connection: the record-layer state (`Model/TlsHandover.lean`, kinds `tg`, `tx`) -/
section TlsState
open MosnVerif.Model.TlsHandover MosnVerif.Lemmas.TlsHandover

/-- **tls_state_roundtrip** (extends `transfer_roundtrip` to the TLS bytes it carries): for EVERY record-layer state of
an established connection — any key material, any sequence numbers, ANY buffered undecrypted bytes (nothing, one
byte, a header, a partial record, whole unread records) and any undelivered plaintext — restore ∘ serialise of the
regenerated `GetTLSInfo` / `TransferTLSConn` is the identity: the new process's connection has the same keys, the
same sequence numbers and exactly the same buffered bytes, and knows its version. -/
theorem tls_state_roundtrip {κ : Type} (st : RecState κ) (hv : st.haveVers = true) : tlsHandover st = some st := by
  obtain ⟨hs, hb, hk, hh⟩ := code_flags
  cases st with
  | mk keys inSeq outSeq rawInput input haveVers =>
    simp only at hv
    subst hv
    simp only [tlsHandover, tlsHandoverWith, restoreWith, serialiseWith, hs, hb, hk, hh, if_true]
    rw [copyOut_getD _ _ rawInput code_rawCopied code_rawPreLen, copyOut_getD _ _ input code_inputCopied code_inputPreLen]

/-- **handed_over_stream_same**: whatever the record-layer decryption is, and whatever still arrives on the socket, the
reader in the new process gets exactly the plaintext the reader in the old process would have got: no buffered byte of
a request is lost, reordered or preceded by anything. -/
theorem handed_over_stream_same {κ : Type} (dec : κ → Nat → Bytes → Option Bytes) (st : RecState κ)
    (hv : st.haveVers = true) (wire : Bytes) :
    (tlsHandover st).bind (fun st' => futurePlain dec st' wire) = futurePlain dec st wire := by
  rw [tls_state_roundtrip st hv]; rfl

/-- the serialised state carries the buffered bytes themselves — nothing in front of them -/
theorem tls_serialise_exact {κ : Type} (st : RecState κ) :
    (serialise st).rawInput.getD [] = st.rawInput ∧ (serialise st).input.getD [] = st.input ∧
    (serialise st).inSeq = st.inSeq ∧ (serialise st).outSeq = st.outSeq ∧ (serialise st).keys = some st.keys := by
  obtain ⟨hs, _, hk, _⟩ := code_flags
  refine ⟨copyOut_getD _ _ st.rawInput code_rawCopied code_rawPreLen,
    copyOut_getD _ _ st.input code_inputCopied code_inputPreLen, ?_, ?_, ?_⟩ <;>
  simp [serialise, serialiseWith, hs, hk]

-- non-vacuous: a header and a half of a record buffered, two plaintext bytes undelivered
example : tlsHandover (⟨7, 2, 1, [23, 3, 3, 0, 40, 9, 9], [65, 66], true⟩ : RecState Nat)
    = some ⟨7, 2, 1, [23, 3, 3, 0, 40, 9, 9], [65, 66], true⟩ := by decide +kernel
example : futurePlain (fun _ _ b => some b) (⟨7, 2, 1, [1, 2], [65], true⟩ : RecState Nat) [3] = some [65, 1, 2, 3] := by decide +kernel
/-- negation witness (the code before its repair: `bytes.NewBuffer(make([]byte, n))`): `n` zero bytes in front of the
buffered bytes; only an empty buffer survives -/
example : tlsHandoverWith zeroPrefixCode (⟨7, 2, 1, [23, 3, 3], [], true⟩ : RecState Nat)
    = some ⟨7, 2, 1, [0, 0, 0, 23, 3, 3], [], true⟩ := by decide +kernel
example : tlsHandoverWith zeroPrefixCode (⟨7, 2, 1, [], [65], true⟩ : RecState Nat) = some ⟨7, 2, 1, [], [0, 65], true⟩ := by decide +kernel
example : tlsHandoverWith zeroPrefixCode (⟨7, 2, 1, [], [], true⟩ : RecState Nat) = some ⟨7, 2, 1, [], [], true⟩ := by decide +kernel
/-- negation witnesses: keys recorded before the handshake ⇒ the new process refuses every connection;
`haveVers` not set ⇒ the first record after the hand-over is rejected -/
example : tlsHandoverWith earlyKeysCode (⟨7, 2, 1, [], [], true⟩ : RecState Nat) = none := by decide +kernel
example : (tlsHandoverWith noHaveVersCode (⟨7, 2, 1, [], [], true⟩ : RecState Nat)).bind
    (fun s => futurePlain (fun _ _ b => some b) s [1]) = none := by decide +kernel

end TlsState

end MosnVerif.Props.C11
