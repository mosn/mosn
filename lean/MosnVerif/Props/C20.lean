import MosnVerif.Lemmas.Redact
import MosnVerif.Lemmas.RawJson
import MosnVerif.Lemmas.RedactGuards
/-!
# C20 — the admin config dump never leaks TLS private keys

`G` is the type graph **regenerated** from pkg/config/v2 + configmanager.effectiveConfig, `entryChecks` the closed
Boolean that every dump entry point (regenerated tables of `DumpJSON`/`redactedCopy`, `getMOSNConfigRedacted`,
admin `ConfigDump`) goes through a redaction whose visit *covers* every `PrivateKey` string and every hole that is
not on the explicit plain-hole list, never redacts through a shared container, and relies on the emptiness
invariant only where `SetMosnConfig` establishes it.  A new field of a TLS-bearing type, a new untyped hole, a new
section or parameter form that is not covered makes `graph_covered` (hence every theorem below) fail to check.
-/
namespace MosnVerif.Props.C20
open MosnVerif.Model MosnVerif.Model.Redact MosnVerif.Model.GoTypes
open MosnVerif.Gen.ConfigGraph (endpoints sections redactedCopyFields)

/-- a TLS context holding `k` -/
private def tlsOf (k : String) : Val := .struct "TLSConfig" [("PrivateKey", .str k), ("CertChain", .str "cert")]
private def filterOf (k : String) : Val :=
  .struct "Filter" [("Type", .str "x"), ("Config", .hole (.obj [("tls_context", .obj [("Private_Key", .str k)])]))]
private def listenerOf (n : String) : Val :=
  .struct "Listener" [("ListenerConfig", .struct "ListenerConfig" [("Name", .str n),
    ("FilterChains", .list [.struct "FilterChain" [("TLSContexts", .list [tlsOf "K1"]),
      ("FilterChainConfig", .struct "FilterChainConfig" [("TLSConfig", .list [tlsOf "K2"]), ("TLSConfigs", .list [tlsOf "K3", tlsOf ""]),
        ("Filters", .list [filterOf "H1"])])]]),
    ("StreamFilters", .list [filterOf "H2"])])]
private def mosnOf : Val :=
  .struct "MOSNConfig" [("ClusterManager", .struct "ClusterManagerConfig" [("ClusterManagerConfigJson",
      .struct "ClusterManagerConfigJson" [("TLSContext", tlsOf "K4"),
        ("ClustersJson", .list [.struct "Cluster" [("Name", .str "c0"), ("TLS", tlsOf "K5")]])])]),
    ("Extends", .list [.struct "ExtendConfig" [("Type", .str "e0"), ("Config", .hole (.obj [("private_key", .str "H0")]))]]),
    ("Servers", .list [.struct "ServerConfig" [("ServerName", .str "s"), ("Listeners", .list [listenerOf "l0"])]])]
private def exOps : List Op :=
  [.setMosn mosnOf, .setListener (listenerOf "l1"),
   .setCluster (.struct "Cluster" [("Name", .str "c1"), ("TLS", tlsOf "K6")]),
   .setExtend "tunnel_agent" (.obj [("tls_context", .obj [("private_key", .str "H3")])]),
   .setCMTLS (tlsOf "K7"), .persist]

private def withField (sn : String) (f : Field) : Graph :=
  G.map (fun d => if d.name == sn then { d with fields := d.fields ++ [f] } else d)

/-- Everything in this file that is decided by walking the regenerated graph, in ONE evaluation: the three checks
(coverage of the entry points, the raw holes, the subjects of the guards) and the test vectors of "non-vacuity and
sensitivity" below.  They look up the same structs and fields, and the kernel remembers what it has evaluated only
within one declaration: stated one by one, each vector would turn the names of the graph into bytes and compare them again. -/
private theorem graph_walks :
    (entryChecks &&
      (RawJson.rawHoles.all (fun h => plainHoles.contains h || h == ("ExtendConfig", "Config")) &&
        RawJson.rawHoles.contains ("ExtendConfig", "Config")) &&
      (RedactGuards.fnsRead && RedactGuards.typedGuards.all (fun r => (RedactGuards.classify r).benign))) = true ∧
    exOps.all Op.wtArg = true ∧
    ((dumpOut (run exOps) .full).isSome = true ∧ (dumpOut (run exOps) (.param "listener" "l1")).isSome = true ∧
      (dumpOut (run exOps) (.param "nosuch" "")).isNone = true) ∧
    clean G true true fiTop (run exOps).toVal = false ∧
    covers (withField "ListenerConfig" ⟨"AdminTLS", "admin_tls", true, false, .named "TLSConfig"⟩) fuel fiTop
      (.map (.named "Listener")) redactedListenersV = false ∧
    covers (withField "ListenerConfig" ⟨"Extra", "extra", true, false, .hole "map[string]interface{}"⟩) fuel fiTop
      (.map (.named "Listener")) redactedListenersV = false ∧
    covers G fuel fiTop (.named "effectiveConfig")
      (.fields [("MosnConfig", redactedMosnConfigV), ("Listener", redactedListenersV), ("ExtendConfigs", extendsV)]) = false := by
  decide +kernel

/-- the coverage check on the regenerated graph and entry-point tables -/
theorem graph_covered : entryChecks = true := by
  have h := graph_walks.1
  simp only [Bool.and_eq_true] at h
  exact h.1.1

private theorem respects_full (s : State) (hinv : respects redactedMosnConfigV s.mosn = true) :
    respects redactedCopyV s.toVal = true := by
  have hc := graph_covered
  simp only [entryChecks, Bool.and_eq_true] at hc
  have htbl := List.all_eq_true.mp hc.1.1.2
  rw [State.toVal, redactedCopyV, respects, respectsF_iff]
  intro (k, c) hm
  rcases lookupV_map (fun fn => (visitOfFn fn).getD .skip) k redactedCopyFields with h | ⟨fn, hfn, h⟩
  · rw [h]; cases c <;> rfl
  · have hok := htbl (k, fn) hfn
    cases hv : visitOfFn fn with
    | none => simp [hv] at hok
    | some vis =>
      simp only [hv] at hok
      rw [h, hv]
      exact respects_row s hinv fn k vis c hv hm hok

/-- what `graph_covered` says of the full dump -/
private theorem fullDump_checked : fullDumpV = redactedCopyV ∧
    covers G fuel fiTop (.named "effectiveConfig") redactedCopyV = true ∧ noInPlace redactedCopyV = true := by
  have hc := graph_covered
  simp only [entryChecks, Bool.and_eq_true] at hc
  exact ⟨by simp [fullDumpV, hc.1.1.1.1.1.1.2], hc.1.1.1.1.2, hc.1.1.1.2⟩

/-- a section query reads a field `fld : T` of the effective config and hands it to the visit of a row of the
regenerated table of `getMOSNConfigRedacted`; `graph_covered` holds `sectionOK` of every row: the visit writes no shared
cell, and on a state of the graph that keeps the invariant its output is clean -/
private theorem section_checked (s : State) (typ : String) (v : Val) (vis : Visit)
    (h : sectionInput s typ = some (v, vis)) :
    noInPlace vis = true ∧
    ∀ ck ch, wt G (.named "effectiveConfig") s.toVal = true → respects redactedMosnConfigV s.mosn = true →
      clean G ck ch fiTop (apply vis v) = true := by
  have hc := graph_covered
  simp only [entryChecks, Bool.and_eq_true] at hc
  have hroot : MosnVerif.Gen.ConfigGraph.root = "effectiveConfig" := by simpa using hc.1.1.1.1.1.2
  simp only [sectionInput, sectionOf] at h
  cases hrow : sections.find? (fun x => x.1 == typ) with
  | none => simp [hrow] at h
  | some row =>
    obtain ⟨typ', fn, fld⟩ := row
    have hok := List.all_eq_true.mp hc.1.2 _ (List.mem_of_find?_eq_some hrow)
    cases hv : visitOfFn fn with
    | none => simp [hrow, hv] at h
    | some vis' =>
      cases hg : getF s.toVal.fieldsOf fld with
      | none => simp [hrow, hv, hg] at h
      | some v' =>
        simp only [hrow, hv, hg, Option.map_some, Option.some.injEq, Prod.mk.injEq] at h
        obtain ⟨rfl, rfl⟩ := h
        simp only [sectionOK, hv, hroot] at hok
        cases hT : G.fieldTy "effectiveConfig" fld with
        | none => simp [hT] at hok
        | some T =>
          simp only [hT, Bool.and_eq_true] at hok
          refine ⟨hok.1.2, fun ck ch hwt hinv => ?_⟩
          obtain ⟨T', hT', hwv⟩ := wtF_getF G "effectiveConfig" fld v' _ (wtF_fieldsOf hwt) hg
          rw [hT] at hT'; cases hT'
          exact cs G ck ch fuel v' vis' fiTop T hok.1.1 hwv (respects_row s hinv fn fld vis' v' hv (getF_mem hg) hok.2)

/-- **the dump-safety statement, for key strings (`ck`) and holes (`ch`) at once.** -/
theorem dump_clean (ck ch : Bool) (s : State) (hwt : wt G (.named "effectiveConfig") s.toVal = true)
    (hinv : respects redactedMosnConfigV s.mosn = true) (q : Query) (out : Val) (h : dumpOut s q = some out) :
    clean G ck ch fiTop out = true := by
  cases q with
  | full =>
    simp only [dumpOut, Option.some.injEq, fullDump_checked.1] at h
    subst h
    exact cs G ck ch fuel s.toVal redactedCopyV fiTop _ fullDump_checked.2.1 hwt (respects_full s hinv)
  | param p arg =>
    simp only [dumpOut] at h
    cases he : endpoints.find? (fun e => e.1 == p) with
    | none => simp [he] at h
    | some e =>
      obtain ⟨p', typ, single⟩ := e
      simp only [he] at h
      cases hsi : sectionInput s typ with
      | none => simp [hsi] at h
      | some vv =>
        obtain ⟨v, vis⟩ := vv
        simp only [hsi] at h
        have hcl := (section_checked s typ v vis hsi).2 ck ch hwt hinv
        cases single with
        | false => simp only [Bool.false_eq_true, if_false, Option.some.injEq] at h; subst h; exact hcl
        | true =>
          -- a by-name lookup answers with one element of the redacted map, or the zero value
          simp only [if_true] at h
          cases ha : apply vis v with
          | map kvs =>
            simp only [ha, Option.some.injEq] at h
            rw [ha, clean] at hcl
            subst h
            cases hgk : getF kvs arg with
            | none => rfl
            | some c => exact cleanM_iff.1 hcl (arg, c) (getF_mem hgk)
          | _ => simp [ha] at h

/-- **no_key**: for every value of the regenerated graph that satisfies the invariant of the effective config, and
every dump entry point (full dump, each section, each single-object query, any argument), every string at a
`PrivateKey` position of the dumped value is empty or the placeholder. -/
theorem no_key (s : State) (hwt : wt G (.named "effectiveConfig") s.toVal = true)
    (hinv : respects redactedMosnConfigV s.mosn = true) (q : Query) (out : Val) (h : dumpOut s q = some out) :
    clean G true false fiTop out = true := dump_clean true false s hwt hinv q out h

/-- **holes**: the same for untyped holes — every hole of the dumped value that is not on the explicit plain-hole
list (`Filter.Config`, `ExtendConfig.Config`, and any hole added later) holds no non-empty, non-placeholder string
under a key that folds to `private_key`, at any depth. -/
theorem holes (s : State) (hwt : wt G (.named "effectiveConfig") s.toVal = true)
    (hinv : respects redactedMosnConfigV s.mosn = true) (q : Query) (out : Val) (h : dumpOut s q = some out) :
    clean G false true fiTop out = true := dump_clean false true s hwt hinv q out h

/-- the JSON walk itself (`redactJSONValue`), for every JSON document: the result is clean, clean input is returned
unchanged (so the Go code keeps the original map / bytes), and the walk is idempotent. -/
theorem hole_walk (j : Json) :
    cleanJ false (redJ false j) = true ∧ (cleanJ false j = true → redJ false j = j) ∧ redJ false (redJ false j) = redJ false j :=
  ⟨redJ_clean false j, redJ_of_clean false j, redJ_idem false j⟩

/-- **history**: after any sequence of runtime updates (`SetMosnConfig`, listener / cluster / host / router / extend /
cluster-manager-TLS updates, cluster removal, persisting dumps, reset) whose arguments are values of the Go types the
configmanager API takes, every dump entry point is free of private keys, in typed positions and in holes alike: the
effective config stays a value of the regenerated graph (`run_wt`) and keeps the invariant the redactor relies on
(`respects_run`). -/
theorem no_key_history (ops : List Op) (hops : ∀ op ∈ ops, op.wtArg = true)
    (q : Query) (out : Val) (h : dumpOut (run ops) q = some out) :
    clean G true false fiTop out = true ∧ clean G false true fiTop out = true :=
  ⟨dump_clean true false _ (run_wt ops hops) (respects_run ops) q out h,
   dump_clean false true _ (run_wt ops hops) (respects_run ops) q out h⟩

/-- **frame**: no dump entry point writes a cell shared with the live configuration — for every state, whether or
not it satisfies the invariant, and every query. -/
theorem frame (s : State) (q : Query) : dumpWrites s q = 0 := by
  cases q with
  | full =>
    simp only [dumpWrites, fullDump_checked.1]
    exact fr s.toVal redactedCopyV fullDump_checked.2.2
  | param p arg =>
    simp only [dumpWrites]
    cases endpoints.find? (fun e => e.1 == p) with
    | none => rfl
    | some e =>
      obtain ⟨p', typ, single⟩ := e
      cases hsi : sectionInput s typ with
      | none => simp only [hsi]
      | some vv =>
        simp only [hsi]
        exact fr vv.1 vv.2 (section_checked s typ vv.1 vv.2 hsi).1

/-! ## non-vacuity and sensitivity -/

/-- the hypotheses of `no_key_history` are satisfiable by a state with keys at every kind of position, the dump is
produced, and it really differs from the live value (keys were replaced) -/
example : exOps.all Op.wtArg = true := graph_walks.2.1
example : (dumpOut (run exOps) .full).isSome = true ∧ (dumpOut (run exOps) (.param "listener" "l1")).isSome = true ∧
    (dumpOut (run exOps) (.param "nosuch" "")).isNone = true := graph_walks.2.2.1
example : clean G true true fiTop (run exOps).toVal = false := graph_walks.2.2.2.1

/-- **before the fix**: `redactedMosnConfig` redacted the servers' listeners through the arrays shared with the live
config — the old visit writes shared cells (here the `FilterChains` and `StreamFilters` headers of the live listener) on a config whose `Servers[0].Listeners` was filled by
`transferConfig`; the fixed one writes none. -/
example : sharedWrites true redactedMosnConfigV_old mosnOf = 2 ∧ sharedWrites true redactedMosnConfigV mosnOf = 0 := by decide +kernel

/-- **sensitivity**: give `ListenerConfig` one more field of the TLS-bearing type (or an unlisted untyped hole) and
the coverage check over the graph fails; so does a `redactedCopy` that forgets the clusters. -/
example : covers (withField "ListenerConfig" ⟨"AdminTLS", "admin_tls", true, false, .named "TLSConfig"⟩) fuel fiTop
    (.map (.named "Listener")) redactedListenersV = false := graph_walks.2.2.2.2.1
example : covers (withField "ListenerConfig" ⟨"Extra", "extra", true, false, .hole "map[string]interface{}"⟩) fuel fiTop
    (.map (.named "Listener")) redactedListenersV = false := graph_walks.2.2.2.2.2.1
example : covers G fuel fiTop (.named "effectiveConfig")
    (.fields [("MosnConfig", redactedMosnConfigV), ("Listener", redactedListenersV), ("ExtendConfigs", extendsV)]) = false :=
  graph_walks.2.2.2.2.2.2

/-! ## the raw-bytes level: `redactedRawJSON`

An extend config is a `json.RawMessage`: the bytes of the file, decoded only by its consumer.  The statements
above are about the DECODED document of a hole; the ones below close the gap to the bytes: `rawProg` is the
statement structure of `redactedRawJSON` **regenerated** from redact.go (`Gen.RawRedact.steps`: every early
`return raw` with its condition, then the decode / walk / encode pipeline), `raw_checks` the closed Boolean that it is
the bare pipeline behind `len(raw) == 0`, that it is what `redactedExtends` applies to every `ExtendConfig.Config`,
that the key constant is only ever compared with a decoded key, and that every raw hole of the regenerated graph
is that one or on the plain list.  A guard that looks at the raw bytes (the "fast path" `!bytes.Contains(
bytes.ToLower(raw), "private_key")`) makes `raw_checks`, hence every theorem below, fail to check. -/
section Raw
open MosnVerif.Model.RawJson

/-- the regenerated structure of `redactedRawJSON`, its call sites and the raw holes of the graph -/
theorem raw_checks : rawChecks = true := by
  -- the regenerated call sites, key test and caller bodies are the expected tables literally; the raw holes: `graph_walks`
  have h := graph_walks.1
  simp only [rawChecks, Bool.and_eq_true, beq_iff_eq] at h ⊢
  exact ⟨⟨⟨⟨⟨⟨⟨by decide +kernel, by decide +kernel⟩, rfl⟩, rfl⟩, rfl⟩, rfl⟩, h.1.2.1⟩, h.1.2.2⟩

private theorem rawProg_bare : rawProg.bare = true := by
  have h := raw_checks
  simp only [rawChecks, Bool.and_eq_true] at h
  simp only [Prog.bare, Bool.and_eq_true]
  exact ⟨h.1.1.1.1.1.1.1, h.1.1.1.1.1.1.2⟩

/-- **redaction is a function of the decoded document, never of its spelling**: the output is the raw text itself
when the decoded first value holds nothing to redact (or nothing decodes), and otherwise the encoding of
`redactJSONValue` of the decoded value — for every text, every verdict of unrecognised conditions, every encoder. -/
theorem raw_refines_walk (unk : String → Text → Bool) (enc : Json → Option Text) (raw : Text) :
    redactedRaw rawProg unk enc raw = walkOut enc raw (parseFirst raw) :=
  redactedRaw_bare rawProg rawProg_bare unk enc raw

/-- **raw_hole_clean**: for every raw text (every spelling of every key, valid JSON or not): whenever the output of
`redactedRawJSON` is a JSON document at all (otherwise json.Marshal of the dump fails: no body), the document a
consumer decodes from it holds, under every key that decodes and folds to `private_key`, at any depth, nothing but
the empty string or the placeholder. `enc` = json.Marshal on decoded trees, any function with the contract `EncOK`. -/
theorem raw_hole_clean (unk : String → Text → Bool) (enc : Json → Option Text) (henc : EncOK enc) (raw : Text)
    (j' : Json) (h : parseDoc (redactedRaw rawProg unk enc raw) = some j') : cleanJ false j' = true := by
  rw [raw_refines_walk] at h
  exact walkOut_clean enc henc raw j' h

/-- two texts that decode alike are treated alike: both are returned as they are, or both become the same bytes -/
theorem raw_spelling_irrelevant (unk : String → Text → Bool) (enc : Json → Option Text) (r1 r2 : Text)
    (h : parseFirst r1 = parseFirst r2) :
    (redactedRaw rawProg unk enc r1 = r1 ∧ redactedRaw rawProg unk enc r2 = r2) ∨
    redactedRaw rawProg unk enc r1 = redactedRaw rawProg unk enc r2 := by
  rw [raw_refines_walk, raw_refines_walk, ← h]
  cases hf : parseFirst r1 with
  | none => exact Or.inl ⟨rfl, rfl⟩
  | some j =>
    simp only [walkOut]
    by_cases hc : cleanJ false j = true
    · simp [hc]
    · simp only [hc, Bool.false_eq_true, if_false]
      cases he : enc (redJ false j) with
      | none => exact Or.inl ⟨rfl, rfl⟩
      | some t => exact Or.inr rfl

/-- every legal spelling of a key — each character written as itself, as `\uXXXX` with hex digits of either case,
or as a short escape — decodes to the key -/
theorem key_spellings_decode (sps : List Sp) (h : sps.all Sp.ok = true) (rest : Text) :
    decStr (spell sps ++ '"' :: rest) [] = some (sps.map Sp.char, rest) := decStr_spell sps h rest

/-- the document `{"<key>":"<value>"}` in **every** spelling of a key that folds to `private_key` and of a value that
is a real key: the output is the encoding of the document holding the placeholder — never the raw text. -/
theorem spelled_key_redacted (unk : String → Text → Bool) (enc : Json → Option Text) (henc : EncOK enc)
    (ks vs : List Sp) (hk : ks.all Sp.ok = true) (hv : vs.all Sp.ok = true)
    (hpk : isPK (String.ofList (ks.map Sp.char)) = true) (hval : keyOk (String.ofList (vs.map Sp.char)) = false) :
    enc (.obj [(String.ofList (ks.map Sp.char), .str placeholder)]) =
      some (redactedRaw rawProg unk enc (keyDoc ks vs)) := by
  rw [raw_refines_walk, parseFirst_keyDoc ks vs hk hv]
  exact walkOut_pk enc henc _ _ _ hpk hval

/-! ### non-vacuity and the witness for a raw-bytes guard -/

private def encR : Json → Option Text := fun j => some (render j)
private def noUnk : String → Text → Bool := fun _ _ => false

/-- an encoder with the contract exists (the constant one); the concrete compact renderer `render` is exercised on the
documents below -/
example : EncOK (fun _ => some "null".toList) := by
  refine ⟨fun _ => rfl, ?_⟩
  intro j t j' he hp
  simp only [Option.some.injEq] at he
  subst he
  have : j' = .null := by
    have : parseDoc "null".toList = some .null := by rfl
    rw [this] at hp; simpa using hp.symm
  subst this
  simp [pkStrings]

/-- the key spelled with an escape for `_`, for `p`, for every character, in mixed case with escapes, with the
KELVIN SIGN for `k`: all decode to a key that folds to `private_key` -/
private def spUnderscore : List Sp :=
  [.plain 'p', .plain 'r', .plain 'i', .plain 'v', .plain 'a', .plain 't', .plain 'e', .uni '_' false false false true,
   .plain 'k', .plain 'e', .plain 'y']
private def spAll : List Sp := "Private_KEY".toList.map (fun c => Sp.uni c true false true false)
private def spKelvin : List Sp := "private_".toList.map Sp.plain ++ [.uni (Char.ofNat 0x212A) false false false true, .plain 'e', .plain 'y']
example : spell spUnderscore = "private\\u005Fkey".toList ∧ spUnderscore.all Sp.ok = true ∧
    isPK (String.ofList (spUnderscore.map Sp.char)) = true := by decide +kernel
example : spAll.all Sp.ok = true ∧ isPK (String.ofList (spAll.map Sp.char)) = true ∧
    spKelvin.all Sp.ok = true ∧ isPK (String.ofList (spKelvin.map Sp.char)) = true := by decide +kernel

private def docEsc : Text := "{\"servers\":[{\"tls_context\":{\"status\":true,\"\\u0070rivate\\u005fkey\":\"KEY\"}}]}".toList
private def docPlain : Text := "{\"servers\":[{\"tls_context\":{\"status\":true,\"Private_Key\":\"KEY\"}}]}".toList

/-- **witness for the byte-test fast path**: with the extra guard `!bytes.Contains(bytes.ToLower(raw), "private_key")`
in front of the decode, the check over the regenerated structure fails, the plain and case-variant spelling is still
redacted, and the escaped spelling comes back as the raw text, whose decoding shows the key. -/
private def fastPathSteps : Steps :=
  ("return-if", ["len0", "raw"]) :: ("return-if", ["not-contains-lower:private_key", "raw"]) :: pipeline

/-- the two documents under the regenerated program and under the fast path, in one evaluation: each is decoded from its
literal, parsed and rendered once (the regenerated program is taken through `raw_refines_walk`, so that the evaluation
does not depend on the regenerated list) -/
private theorem raw_docs :
    ((parseDoc (redactedRaw rawProg noUnk encR docEsc)).map (cleanJ false) = some true ∧
      (parseDoc (redactedRaw rawProg noUnk encR docPlain)).map (cleanJ false) = some true ∧
      redactedRaw rawProg noUnk encR docEsc ≠ docEsc) ∧
    ((parseDoc (redactedRaw (progOf fastPathSteps) noUnk encR docPlain)).map (cleanJ false) = some true ∧
      redactedRaw (progOf fastPathSteps) noUnk encR docEsc = docEsc ∧
      (parseDoc (redactedRaw (progOf fastPathSteps) noUnk encR docEsc)).map (cleanJ false) = some false) := by
  simp only [raw_refines_walk]
  decide +kernel

/-- on the regenerated program both spellings are redacted, and the output decodes clean -/
example : (parseDoc (redactedRaw rawProg noUnk encR docEsc)).map (cleanJ false) = some true ∧
    (parseDoc (redactedRaw rawProg noUnk encR docPlain)).map (cleanJ false) = some true ∧
    redactedRaw rawProg noUnk encR docEsc ≠ docEsc := raw_docs.1

example : (progOf fastPathSteps).bare = false ∧ (progOf fastPathSteps).piped = true := by decide +kernel
example : (parseDoc (redactedRaw (progOf fastPathSteps) noUnk encR docPlain)).map (cleanJ false) = some true ∧
    redactedRaw (progOf fastPathSteps) noUnk encR docEsc = docEsc ∧
    (parseDoc (redactedRaw (progOf fastPathSteps) noUnk encR docEsc)).map (cleanJ false) = some false := raw_docs.2

/-! ### copy on write inside a decoded hole

`frame` treats the replacement of a hole as one step; the walker below it works on a tree of maps and slices that a
filter's `Config` SHARES with the live configuration.  `walkCfg` is read off the regenerated list of the walker's
stores: a store whose container is not allocated by the same call (`x[i] = ne` instead of `cp[i] = ne`) sets a flag. -/

/-- every store of `redactJSONValue` goes to a container the call allocated with `make` -/
theorem walk_checks : walkChecks = true := by decide +kernel

/-- **the walk writes no cell of the tree it is given** — for every document: redacted elements of arrays and members
of objects are stored into copies, so the live filter config (and what is persisted from it) keeps its keys. -/
theorem hole_walk_frame (j : Json) : wWrites walkCfg j = 0 := by
  have h := walk_checks
  simp only [walkChecks, beq_iff_eq] at h
  rw [h]; exact wWrites_cow j

/-- witness: a walker whose array clause stores the redacted element back into the slice it was given writes the
live tree exactly where a key sits below an array (and only there) -/
private def docArr : Json := .obj [("servers", .arr [.obj [("tls_context", .obj [("private_key", .str "KEY")])], .str "x"])]
private def docNoArr : Json := .obj [("tls_context", .obj [("private_key", .str "KEY")])]
example : walkCfgOf [("[]interface{}", "x", "x[i] = ne"), ("map[string]interface{}", "cp", "cp[k] = ne")]
    ["cp = make(map[string]interface{}, len(x))"] = ⟨false, true, false⟩ := by decide +kernel
example : wWrites ⟨false, true, false⟩ docArr = 1 ∧ wWrites ⟨false, true, false⟩ docNoArr = 0 ∧
    cleanJ false docArr = false := by decide +kernel

end Raw

/-! ## totality of the walker: no attribute of an element exempts it from redaction

The visit terms of `Model.Redact` redact every element **unconditionally**.  `Gen.RedactGuards.redactGuards` is the
regenerated list of every control construct (if / continue / early return / loop subject / switch) of every
redaction function of pkg/configmanager; `guardChecks` decides that each one is of a kind under which *skipping is
the same as redacting* (empty container or nil pointer, unchanged JSON walk, empty key, loop over the whole
container), that the subject of every emptiness test is a container of the regenerated type graph and the redact
calls inside the guarded block are applied to that container, that the JSON walker has exactly the constructs the
model `redJ` is written after, and that the list of redact calls is the one the visit terms are written after.
A test of an ATTRIBUTE of the element in front of a redact call (`l.Network == "udp"`, `!tls.Status`,
`c.ClusterType == …`, `c.ClusterManagerTLS`, a name …) is of no such kind: `guard_checks` stops checking. -/
section Guards
open MosnVerif.Model.RedactGuards

/-- every control construct of the regenerated redaction functions is benign; calls and walker structure as modelled -/
theorem guard_checks : guardChecks = true := by
  -- the walker's rows and the redact calls are the expected tables literally; the classification: `graph_walks`
  have h := graph_walks.1
  simp only [guardChecks, Bool.and_eq_true, beq_iff_eq] at h ⊢
  exact ⟨⟨h.2, rfl⟩, rfl⟩

/-- **redaction_total**: (1) every guard of every typed redaction function of redact.go (regenerated) is of a
benign kind; (2) a guard of a benign kind is transparent for the redaction it stands in front of — for every value
the guarded code returns what the unconditional redaction of the model returns, and a skipped value is already
what its redaction would be; hence whatever is dump-safe after the unconditional redaction is dump-safe after the
guarded one; (3) composed with `no_key` / `holes`: after every history of updates every dump entry point is free
of private keys, whatever the attributes (network, type, status flags, names …) of the elements: the model
redacts each element kind of the regenerated type graph unconditionally (`graph_covered`). -/
theorem redaction_total :
    (∀ r ∈ typedGuards, (classify r).benign = true) ∧
    (∀ r ∈ typedGuards, ∀ vis, benignFor (classify r) vis = true → ∀ v,
        applyG (classify r) vis v = apply vis v ∧
        ((classify r).skips v = true → apply vis v = v) ∧
        (∀ g ck ch fi, clean g ck ch fi (apply vis v) = true → clean g ck ch fi (applyG (classify r) vis v) = true)) ∧
    (∀ (ops : List Op), (∀ op ∈ ops, op.wtArg = true) → ∀ q out, dumpOut (run ops) q = some out →
        clean G true false fiTop out = true ∧ clean G false true fiTop out = true) := by
  refine ⟨?_, ?_, fun ops hops q out h => no_key_history ops hops q out h⟩
  · have h := guard_checks
    simp only [guardChecks, Bool.and_eq_true] at h
    exact fun r hr => (List.all_eq_true.mp h.1.1.2) r hr
  · intro r _ vis hb v
    refine ⟨guard_transparent _ vis hb v, skip_is_identity _ vis hb v, ?_⟩
    intro g ck ch fi hc
    rw [guard_transparent _ vis hb v]; exact hc

/-! ### non-vacuity and the negation witness for a network-guarded skip -/

private def listenerNet (net : String) : Val :=
  .struct "Listener" [("ListenerConfig", .struct "ListenerConfig" [("Name", .str "l0"), ("Network", .str net),
    ("FilterChains", .list [.struct "FilterChain" [("TLSContexts", .list [tlsOf "K1"]),
      ("FilterChainConfig", .struct "FilterChainConfig" [("TLSConfig", .list [tlsOf "K2"]), ("Filters", .list [filterOf "H1"])])]]),
    ("StreamFilters", .list [filterOf "H2"])])]

/-- `if l.Network == "udp" { dst[k] = l; continue }` in front of `redactListener(&l)` -/
private def netGuard : GKind := .attr ["ListenerConfig", "Network"] "udp"

/-- the benign kinds really skip something, and what they skip is returned unchanged by the redaction -/
example : GKind.emptySkip.skips (.list []) = true ∧ GKind.unchangedSkip.skips (.hole (.obj [("private_key", .str "")])) = true ∧
    GKind.keyEmptySkip.skips (tlsOf "") = true ∧ GKind.keyEmptySkip.skips (tlsOf "K") = false ∧
    GKind.unchangedSkip.skips (.hole (.obj [("Private_Key", .str "K")])) = false := by decide +kernel

/-- **witness**: the network guard is of no benign kind; on a tcp listener the guarded code redacts like the model;
on a udp listener — a well-typed value of the graph with keys at every position of a tcp one — the model's output is
clean and the guarded output is not (every key is still there). -/
example : netGuard.benign = false ∧ wt G (.named "Listener") (listenerNet "udp") = true ∧
    clean G true true fiTop (listenerNet "tcp") = false ∧
    clean G true true fiTop (applyG netGuard redactListenerV (listenerNet "tcp")) = true ∧
    clean G true true fiTop (apply redactListenerV (listenerNet "udp")) = true ∧
    clean G true false fiTop (applyG netGuard redactListenerV (listenerNet "udp")) = false ∧
    clean G false true fiTop (applyG netGuard redactListenerV (listenerNet "udp")) = false := by decide +kernel

/-- the rows the extractor prints for attribute guards (network, TLS status, cluster type, cluster-manager TLS flag,
a type switch with a default, a loop over a sub-slice) are all classified `unknown`: `guard_checks` fails on them -/
example : [("redactedListeners", "if-continue", "cond:l.Network == \"udp\"", ""),
           ("redactedListeners", "if-then", "cond:l.Network != \"udp\"", "l"),
           ("redactTLSConfig", "if-return", "cond:!tls.Status", ""),
           ("redactedClusters", "if-continue", "cond:c.ClusterType == v2.ORIGINAL_DST_CLUSTER", ""),
           ("redactedClusters", "if-then", "cond:!c.ClusterManagerTLS", "c.TLS"),
           ("redactListener", "if-then", "nonempty:fc.TLSContexts", "fc.TLSConfig"),
           ("redactListener", "range", "l.FilterChains[1:]", "i"),
           ("redactListener", "switch", "l.Type", "v2.INGRESS|default"),
           ("redactedFilters", "branch", "continue", "")].all (fun r => classify r == .unknown) = true := by decide +kernel

end Guards

end MosnVerif.Props.C20
