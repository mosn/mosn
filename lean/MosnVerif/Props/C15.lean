import MosnVerif.Lemmas.Subset
import MosnVerif.Lemmas.SubsetRequest
import MosnVerif.Lemmas.SubsetSlice
import MosnVerif.Lemmas.SubsetKeys
import MosnVerif.Lemmas.CriteriaFlow
/-!
# C15 — subset load balancing honours metadata and its fallback policy (property theorems only)

Objects (see `Model/Subset.lean`): `hosts : List Host` with metadata association lists, `raw : List (List Key)` the
configured selectors (any order, repeated keys, repeated or empty selectors), `policy : Nat` the configured
`fall_back_policy` byte, `dflt : Path` the default subset, `c : Path` the request's match criteria, sorted by key as
the router builds them (`strictSorted`).  `lbF` is the balancer of the filtering builder (`NewSubsetLoadBalancer`),
`lbPS grow shuf` the one of the pre-index builder (`NewSubsetLoadBalancerPreIndex`) under an arbitrary Go map iteration
order `shuf` and an arbitrary capacity policy `grow` of `append` (the builder's combination prefix is a Go slice:
backing array, len, cap — `Model/SubsetSlice.lean`; the statements extending it are the regenerated
`Gen.SubsetSlice.comboExtend`).  `inner` is any inner load balancer meeting the contract `InnerOK` (a chosen host is a healthy member;
some host is chosen when a healthy member exists — property C05); `rrChoose`, the round-robin balancer as written,
is proved to meet it.  `d1`, `d2` are arbitrary states of the subset's and the fallback's inner balancers.
-/
namespace MosnVerif.Props.C15
open MosnVerif MosnVerif.Model.Subset MosnVerif.Model.SubsetSlice

/-- the regenerated policy constants are the values the declarative reference `specFallbackPool` is written with. -/
theorem policy_constants :
    Gen.Subset.noFallBack = 0 ∧ Gen.Subset.anyEndPoint = 1 ∧ Gen.Subset.defaultSubset = 2 := by decide

/-- **find_refines**: for criteria sorted by key, in the trie of *either* builder `findSubset` yields an active entry
exactly when a configured selector has the criteria's key set and some host's metadata contains the criteria, and
that entry's hosts are exactly `{h | metadata h ⊇ criteria}` (in host order); otherwise it yields nothing usable
(no entry, or an entry without load balancer). -/
theorem find_refines (hosts : List Host) (raw : List (List Key)) (dflt : Path) (grow : Grow)
    (shuf : List Val → List Val) (hshuf : ∀ l v, v ∈ shuf l ↔ v ∈ l)
    (c : Path) (hs : strictSorted (c.map (·.1)) = true) :
    let sels := generateSubsetKeys raw
    let expected := if selectorExists raw c = true then hosts.filter (contains · c) else []
    (((findSubset (buildFilter hosts sels) c).bind Trie.lb).getD [] = expected ∧
     ((findSubset (buildFilter hosts sels) c).elim false entryActive = true ↔ expected ≠ [])) ∧
    (((findSubset (buildPreS grow (mkIndex hosts (mergeKeys sels dflt)) shuf hosts sels) c).bind Trie.lb).getD [] = expected ∧
     ((findSubset (buildPreS grow (mkIndex hosts (mergeKeys sels dflt)) shuf hosts sels) c).elim false entryActive = true
        ↔ expected ≠ [])) := by
  intro sels expected
  rw [buildPreS_eq]
  have key : ∀ root, activeHosts root c = expected →
      ((findSubset root c).bind Trie.lb).getD [] = expected ∧
      ((findSubset root c).elim false entryActive = true ↔ expected ≠ []) := fun root h => by
    obtain ⟨_, _, _, h4, _, h6⟩ := findSubset_data root c
    exact h ▸ ⟨h4, h6⟩
  exact ⟨key _ ((activeHosts_lbF hosts raw 0 dflt c).trans (refHosts_sorted hosts raw c hs)),
    key _ ((activeHosts_lbP shuf hshuf hosts raw 0 dflt c).trans (refHosts_sorted hosts raw c hs))⟩

/-- **find_refines_any_path**: without assuming sorted criteria — at *every* path `q` both tries hold the hosts
`{h | metadata h ⊇ q}` when `q`'s key list is one of the normalised (sorted, deduplicated) selectors and nothing
otherwise. -/
theorem find_refines_any_path (hosts : List Host) (raw : List (List Key)) (dflt : Path) (grow : Grow)
    (shuf : List Val → List Val) (hshuf : ∀ l v, v ∈ shuf l ↔ v ∈ l) (q : Path) :
    let sels := generateSubsetKeys raw
    activeHosts (buildFilter hosts sels) q =
        (if q ≠ [] ∧ q.map (·.1) ∈ sels then hosts.filter (contains · q) else []) ∧
    activeHosts (buildPreS grow (mkIndex hosts (mergeKeys sels dflt)) shuf hosts sels) q =
        (if q ≠ [] ∧ q.map (·.1) ∈ sels then hosts.filter (contains · q) else []) := by
  intro sels
  rw [buildPreS_eq]
  exact ⟨activeHosts_lbF hosts raw 0 dflt q, activeHosts_lbP shuf hshuf hosts raw 0 dflt q⟩

/-- the normalised selectors are exactly the configured key *sets*: sorted, duplicate-free, each configured selector
represented. -/
theorem selectors_normalised (raw : List (List Key)) (s : List Key) :
    s ∈ generateSubsetKeys raw ↔ ∃ r ∈ raw, s = initSet r ∧ strictSorted s = true ∧ ∀ k, k ∈ s ↔ k ∈ r := by
  rw [mem_generateSubsetKeys]
  constructor
  · rintro ⟨r, hr, rfl⟩
    exact ⟨r, hr, rfl, (strictSorted_iff _).mpr (initSet_sorted r), fun k => mem_initSet r k⟩
  · rintro ⟨r, hr, e, _⟩
    exact ⟨r, hr, e⟩

/-- **combinations_independent** (no aliasing between sibling combinations): with the statements the builder is written
with (`Gen.SubsetSlice.comboExtend`, regenerated: a fresh allocation + copy before the append), the combinations
`metadataCombinations` hands to `createSubsets` — slices, read after the whole product has been built — are exactly the
declarative cartesian product of the indexed values, key by key, for EVERY selector length, EVERY capacity policy of
`append`, every index and every map iteration order; in particular a path is among them iff it names the selector's keys
in order with an indexed value each. -/
theorem combinations_independent (grow : Grow) (ix : Index) (shuf : List Val → List Val) (keys : List Key) :
    combosSl grow ix shuf keys =
        (if keys = [] then [] else cartesian (keys.map (fun k => (k, shuf (vals ix k))))) ∧
    ((∀ l v, v ∈ shuf l ↔ v ∈ l) → ∀ q, q ∈ combosSl grow ix shuf keys ↔
        keys ≠ [] ∧ q.map (·.1) = keys ∧ ∀ kv ∈ q, kv.2 ∈ vals ix kv.1) := by
  refine ⟨by rw [combosSl_eq, combos_cartesian], fun hshuf q => ?_⟩
  rw [combosSl_eq, mem_combos ix shuf hshuf]

/-- what makes it so: the regenerated extension only ever ADDS a backing array to the store (it never writes into an
array that existed before) and hands on a slice denoting `prefix ++ [pair]`. -/
theorem extension_is_fresh : FreshExt Gen.SubsetSlice.comboExtend Gen.SubsetSlice.comboResult := comboExtend_fresh

/-- **builders_equiv**: for every host set, selector configuration, default subset, fallback policy, Go map
iteration order and capacity policy of `append`, the two builders' tries are equal as maps from paths to active host
lists (hence host sets), and the two balancers are observationally equal: same `ChooseHost` for every query and every
inner-balancer state, same `HostNum`, same `IsExistsHosts`.  (Rests on `combinations_independent`, i.e. on the
regenerated shape of the statement that extends the combination prefix.) -/
theorem builders_equiv (hosts : List Host) (raw : List (List Key)) (policy : Nat) (dflt : Path) (grow : Grow)
    (shuf : List Val → List Val) (hshuf : ∀ l v, v ∈ shuf l ↔ v ∈ l) (inner : Inner) :
    (∀ q, activeHosts (lbF hosts raw policy dflt).subsets q = activeHosts (lbPS grow shuf hosts raw policy dflt).subsets q) ∧
    (∀ q d1 d2, chooseHost inner (lbF hosts raw policy dflt) q d1 d2 =
        chooseHost inner (lbPS grow shuf hosts raw policy dflt) q d1 d2) ∧
    (∀ c, hostNum (lbF hosts raw policy dflt) c = hostNum (lbPS grow shuf hosts raw policy dflt) c) ∧
    (∀ c, isExists (lbF hosts raw policy dflt) c = isExists (lbPS grow shuf hosts raw policy dflt) c) := by
  rw [lbPS_eq]
  have hact : ∀ q, activeHosts (lbF hosts raw policy dflt).subsets q =
      activeHosts (lbP shuf hosts raw policy dflt).subsets q := fun q => by
    rw [activeHosts_lbF, activeHosts_lbP shuf hshuf]
  exact ⟨hact, observe_congr inner _ _ (by rw [full_lbF, full_lbP]) (fallback_lbP shuf hosts raw policy dflt).symm hact⟩

/-- **choose_exact** (`ChooseHost` against the reference): a chosen host is one of `specTargets` — the healthy hosts
containing the criteria when a selector for the key set exists and such a host exists, otherwise the healthy hosts the
fallback policy allows — and a host *is* chosen whenever `specTargets` is non-empty. -/
theorem choose_exact (inner : Inner) (hin : InnerOK inner) (hosts : List Host) (raw : List (List Key))
    (policy : Nat) (dflt : Path) (c : Path) (hs : strictSorted (c.map (·.1)) = true) (d1 d2 : Nat) :
    (∀ h, chooseHost inner (lbF hosts raw policy dflt) (.crit c) d1 d2 = some h →
        h ∈ specTargets hosts raw policy dflt c) ∧
    (specTargets hosts raw policy dflt c ≠ [] →
        ∃ h, chooseHost inner (lbF hosts raw policy dflt) (.crit c) d1 d2 = some h) :=
  chooseHost_lbF_choice inner hin hosts raw policy dflt c hs d1 d2

/-- **fallback_exact**: when no selector has the criteria's key set, or no healthy host contains the criteria
(in particular: no host at all does), the configured fallback applies exactly — `none` (0): no host;
`any-endpoint` (1): some healthy host of the cluster, any of them; `default-subset` (2): only healthy hosts containing
the default subset (all hosts when the default subset is empty); an undefined policy value: no host. -/
theorem fallback_exact (inner : Inner) (hin : InnerOK inner) (hosts : List Host) (raw : List (List Key))
    (policy : Nat) (dflt : Path) (c : Path) (hs : strictSorted (c.map (·.1)) = true) (d1 d2 : Nat)
    (hno : selectorExists raw c = false ∨ ∀ h ∈ hosts, contains h c = true → h.healthy = false) :
    let pool : List Host := match policy with
      | 1 => hosts
      | 2 => hosts.filter (contains · dflt)
      | _ => []
    (∀ h, chooseHost inner (lbF hosts raw policy dflt) (.crit c) d1 d2 = some h → h ∈ pool ∧ h.healthy = true) ∧
    ((∃ h ∈ pool, h.healthy = true) → ∃ h, chooseHost inner (lbF hosts raw policy dflt) (.crit c) d1 d2 = some h) := by
  intro pool
  have hpool : pool = specFallbackPool hosts policy dflt := rfl
  have htargets : specTargets hosts raw policy dflt c = pool.filter (·.healthy) := by
    rw [specTargets_eq, hpool]
    refine if_neg fun ⟨hsel, hm⟩ => ?_
    rcases hno with h | h
    · rw [h] at hsel; cases hsel
    · exact hm (List.filter_eq_nil_iff.mpr fun x hx hxh => by
        simp [h x (List.mem_filter.mp hx).1 (List.mem_filter.mp hx).2] at hxh)
  obtain ⟨h1, h2⟩ := choose_exact inner hin hosts raw policy dflt c hs d1 d2
  rw [htargets] at h1 h2
  exact ⟨fun h hh => List.mem_filter.mp (h1 h hh),
    fun ⟨x, hx1, hx2⟩ => h2 (List.ne_nil_of_mem (List.mem_filter.mpr ⟨hx1, hx2⟩))⟩

/-- **subset_only**: a request whose criteria's key set has a selector, and whose subset has a healthy host, is only
ever sent to hosts whose metadata contain all the criteria's key/value pairs (and it is sent somewhere). -/
theorem subset_only (inner : Inner) (hin : InnerOK inner) (hosts : List Host) (raw : List (List Key))
    (policy : Nat) (dflt : Path) (c : Path) (hs : strictSorted (c.map (·.1)) = true) (d1 d2 : Nat)
    (hsel : selectorExists raw c = true) (hhost : ∃ h ∈ hosts, contains h c = true ∧ h.healthy = true) :
    (∀ h, chooseHost inner (lbF hosts raw policy dflt) (.crit c) d1 d2 = some h →
        h ∈ hosts ∧ contains h c = true ∧ h.healthy = true) ∧
    ∃ h, chooseHost inner (lbF hosts raw policy dflt) (.crit c) d1 d2 = some h := by
  obtain ⟨x, hx, hxc, hxh⟩ := hhost
  have hm : (hosts.filter (contains · c)).filter (·.healthy) ≠ [] :=
    List.ne_nil_of_mem (List.mem_filter.mpr ⟨List.mem_filter.mpr ⟨hx, hxc⟩, hxh⟩)
  obtain ⟨h1, h2⟩ := choose_exact inner hin hosts raw policy dflt c hs d1 d2
  rw [specTargets_eq, if_pos ⟨hsel, hm⟩] at h1 h2
  refine ⟨fun h hh => ?_, h2 hm⟩
  obtain ⟨hc, hhe⟩ := List.mem_filter.mp (h1 h hh)
  exact ⟨(List.mem_filter.mp hc).1, (List.mem_filter.mp hc).2, hhe⟩

/-- `HostNum` and `IsExistsHosts` speak about the matching subset when a selector exists and a host (healthy or
not) is in it, about the fallback pool otherwise. -/
theorem hostnum_exact (hosts : List Host) (raw : List (List Key)) (policy : Nat) (dflt : Path) (c : Path)
    (hs : strictSorted (c.map (·.1)) = true) :
    hostNum (lbF hosts raw policy dflt) (some c) = ((specPool hosts raw policy dflt c).length : Int) ∧
    isExists (lbF hosts raw policy dflt) (some c) = decide ((specPool hosts raw policy dflt c).length > 0) := by
  rw [hostNum_crit, isExists_crit, activeHosts_lbF, refHosts_sorted hosts raw c hs, specPool_eq, fallbackNum_eq,
    fallbackExists_eq, fallbackPool_lbF]
  by_cases he : selectorExists raw c = true
  · by_cases hm : hosts.filter (contains · c) = []
    · simp [he, hm]
    · simp [he, hm, List.length_pos_iff]
  · simp [he]

/-- requests without match criteria use the whole cluster; requests without context use the fallback entry. -/
theorem no_criteria (inner : Inner) (hin : InnerOK inner) (hosts : List Host) (raw : List (List Key))
    (policy : Nat) (dflt : Path) (d1 d2 : Nat) :
    (∀ h, chooseHost inner (lbF hosts raw policy dflt) .nilCrit d1 d2 = some h → h ∈ hosts ∧ h.healthy = true) ∧
    ((∃ h ∈ hosts, h.healthy = true) → ∃ h, chooseHost inner (lbF hosts raw policy dflt) .nilCrit d1 d2 = some h) ∧
    (∀ h, chooseHost inner (lbF hosts raw policy dflt) .nilCtx d1 d2 = some h →
        h ∈ specFallbackPool hosts policy dflt ∧ h.healthy = true) := by
  obtain ⟨h1, h2⟩ := chooseHost_lbF_nilCrit_choice inner hin hosts raw policy dflt d1 d2
  refine ⟨fun h hh => List.mem_filter.mp (h1 h hh),
    fun ⟨x, hx, hxe⟩ => h2 (List.ne_nil_of_mem (List.mem_filter.mpr ⟨hx, hxe⟩)), fun h hh => ?_⟩
  rw [chooseHost_nilCtx, fallbackChoice_eq hin, fallbackPool_lbF] at hh
  exact hin.sound _ _ _ hh

/-- **criteria_sorted**: the criteria list the router builds from a criteria map (pairs in any iteration order, keys
unique) is sorted by key and has exactly the map's pairs — the hypothesis `strictSorted` of the theorems above. -/
theorem criteria_sorted (kvs : Path) (hnd : (kvs.map (·.1)).Nodup) :
    strictSorted ((mkCriteria kvs).map (·.1)) = true ∧ ∀ kv, kv ∈ mkCriteria kvs ↔ kv ∈ kvs :=
  ⟨mkCriteria_sorted kvs hnd, mem_mkCriteria kvs⟩

/-- **request_exact** (the statement end to end, no sortedness hypothesis): for a request carrying the criteria *map*
`kvs` (any iteration order), a chosen host is among the reference targets of `kvs`, a host is chosen when there is a
target, and `HostNum`/`IsExistsHosts` describe the reference pool — for the filtering builder and, by
`builders_equiv`, for the pre-index builder. -/
theorem request_exact (inner : Inner) (hin : InnerOK inner) (hosts : List Host) (raw : List (List Key))
    (policy : Nat) (dflt : Path) (grow : Grow) (shuf : List Val → List Val) (hshuf : ∀ l v, v ∈ shuf l ↔ v ∈ l)
    (kvs : Path) (hnd : (kvs.map (·.1)).Nodup) (d1 d2 : Nat) :
    (∀ lb, (lb = lbF hosts raw policy dflt ∨ lb = lbPS grow shuf hosts raw policy dflt) →
      (∀ h, chooseHost inner lb (.crit (mkCriteria kvs)) d1 d2 = some h → h ∈ specTargets hosts raw policy dflt kvs) ∧
      (specTargets hosts raw policy dflt kvs ≠ [] → ∃ h, chooseHost inner lb (.crit (mkCriteria kvs)) d1 d2 = some h) ∧
      hostNum lb (some (mkCriteria kvs)) = ((specPool hosts raw policy dflt kvs).length : Int) ∧
      isExists lb (some (mkCriteria kvs)) = decide ((specPool hosts raw policy dflt kvs).length > 0)) := by
  have hs := mkCriteria_sorted kvs hnd
  have hF := choose_exact inner hin hosts raw policy dflt (mkCriteria kvs) hs d1 d2
  have hN := hostnum_exact hosts raw policy dflt (mkCriteria kvs) hs
  rw [specTargets_congr hosts raw policy dflt _ kvs (mem_mkCriteria kvs)] at hF
  rw [specPool_congr hosts raw policy dflt _ kvs (mem_mkCriteria kvs)] at hN
  obtain ⟨_, hch, hnum, hex⟩ := builders_equiv hosts raw policy dflt grow shuf hshuf inner
  rintro lb (rfl | rfl)
  · exact ⟨hF.1, hF.2, hN.1, hN.2⟩
  · rw [← hch, ← hnum, ← hex]
    exact ⟨hF.1, hF.2, hN.1, hN.2⟩

/-- the round-robin inner balancer, as written in `roundRobinLoadBalancer.ChooseHost`, meets the inner contract. -/
theorem round_robin_ok : InnerOK rrChoose := rrChoose_ok

/-- **spec_holds_on_model** (the executable predicate evaluated on implementation outputs is implied by the model):
with the round-robin inner balancer, the set of hosts `ChooseHost` returns over all balancer states is exactly
`specTargets`, for both builders; `HostNum`/`IsExistsHosts` are `specPool`'s size / non-emptiness. -/
theorem spec_holds_on_model (hosts : List Host) (raw : List (List Key)) (policy : Nat) (dflt : Path)
    (grow : Grow) (shuf : List Val → List Val) (hshuf : ∀ l v, v ∈ shuf l ↔ v ∈ l)
    (c : Path) (hs : strictSorted (c.map (·.1)) = true) (h : Host) :
    ((∃ d1 d2, chooseHost rrChoose (lbF hosts raw policy dflt) (.crit c) d1 d2 = some h) ↔
        h ∈ specTargets hosts raw policy dflt c) ∧
    ((∃ d1 d2, chooseHost rrChoose (lbPS grow shuf hosts raw policy dflt) (.crit c) d1 d2 = some h) ↔
        h ∈ specTargets hosts raw policy dflt c) ∧
    hostNum (lbPS grow shuf hosts raw policy dflt) (some c) = ((specPool hosts raw policy dflt c).length : Int) ∧
    isExists (lbPS grow shuf hosts raw policy dflt) (some c) = decide ((specPool hosts raw policy dflt c).length > 0) := by
  obtain ⟨_, hch, hnum, hex⟩ := builders_equiv hosts raw policy dflt grow shuf hshuf rrChoose
  have hF : (∃ d1 d2, chooseHost rrChoose (lbF hosts raw policy dflt) (.crit c) d1 d2 = some h) ↔
      h ∈ specTargets hosts raw policy dflt c := by
    refine ⟨fun ⟨d1, d2, hh⟩ => (choose_exact rrChoose rrChoose_ok hosts raw policy dflt c hs d1 d2).1 h hh,
      fun hmem => ?_⟩
    -- pick the balancer state that makes round-robin start at `h`
    rw [specTargets_eq] at hmem
    by_cases hc : selectorExists raw c = true ∧ (hosts.filter (contains · c)).filter (·.healthy) ≠ []
    · obtain ⟨d, hd⟩ := rrChoose_sweeps _ h (if_pos hc ▸ hmem)
      exact ⟨d, 0, by rw [chooseHost_lbF_char rrChoose rrChoose_ok hosts raw policy dflt c hs, if_pos hc, hd]⟩
    · obtain ⟨d, hd⟩ := rrChoose_sweeps _ h (if_neg hc ▸ hmem)
      exact ⟨0, d, by rw [chooseHost_lbF_char rrChoose rrChoose_ok hosts raw policy dflt c hs, if_neg hc, hd]⟩
  refine ⟨hF, ?_, ?_, ?_⟩
  · simp only [← hch]; exact hF
  · rw [← hnum]; exact (hostnum_exact hosts raw policy dflt c hs).1
  · rw [← hex]; exact (hostnum_exact hosts raw policy dflt c hs).2

/-! ### non-vacuity and the health interaction (design section 6, row 16) -/

def exHosts : List Host :=
  [ { name := "h0", md := [("a", "1"), ("b", "1")], healthy := true },
    { name := "h1", md := [("a", "1")], healthy := true },
    { name := "h2", md := [("a", "2"), ("b", "1")], healthy := false },
    { name := "h3", md := [("b", "2")], healthy := true } ]

/-- configured selectors: unsorted with a repeated key, a duplicate up to order, a single key, an empty selector -/
def exRaw : List (List Key) := [["b", "a", "b"], ["a", "b"], ["a"], []]

example : generateSubsetKeys exRaw = [["a", "b"], ["a"], []] := by decide +kernel
example : strictSorted ([("a", "1"), ("b", "1")].map (·.1)) = true ∧ selectorExists exRaw [("a", "1"), ("b", "1")] = true ∧
    (∃ h ∈ exHosts, contains h [("a", "1"), ("b", "1")] = true ∧ h.healthy = true) := by decide +kernel
-- both builders, equal criteria: exactly the matching host; strict subset [a=1]: selector [a] exists: h0, h1
example : (activeHosts (lbF exHosts exRaw 1 []).subsets [("a", "1"), ("b", "1")]).map (·.name) = ["h0"] ∧
    (activeHosts (lbP id exHosts exRaw 1 []).subsets [("a", "1"), ("b", "1")]).map (·.name) = ["h0"] ∧
    (activeHosts (lbP List.reverse exHosts exRaw 1 []).subsets [("a", "1")]).map (·.name) = ["h0", "h1"] := by decide +kernel
-- criteria [b=1]: hosts contain it but no selector has key set {b}: fallback (any endpoint: the healthy hosts)
example : selectorExists exRaw [("b", "1")] = false ∧
    (specTargets exHosts exRaw 1 [] [("b", "1")]).map (·.name) = ["h0", "h1", "h3"] ∧
    (specTargets exHosts exRaw 0 [] [("b", "1")]) = [] ∧
    (specTargets exHosts exRaw 2 [("b", "2")] [("b", "1")]).map (·.name) = ["h3"] := by decide +kernel
example : (chooseHost rrChoose (lbF exHosts exRaw 2 [("b", "2")]) (.crit [("b", "1")]) 0 0).map (·.name) = some "h3" ∧
    chooseHost rrChoose (lbP id exHosts exRaw 0 []) (.crit [("b", "1")]) 0 0 = none := by decide +kernel
example : InnerOK rrChoose := round_robin_ok
-- a criteria map in reversed iteration order: the router's list is sorted and hits the [a, b] subset
example : (([("b", "1"), ("a", "1")] : Path).map (·.1)).Nodup ∧ mkCriteria [("b", "1"), ("a", "1")] = [("a", "1"), ("b", "1")] ∧
    (specTargets exHosts exRaw 0 [] [("b", "1"), ("a", "1")]).map (·.name) = ["h0"] := by decide +kernel

/-- **health interaction, decided as inside the statement's fallback clause** ("no host in it" is read as "no host a
load balancer can return"): the subset for `a=2` exists and contains only the unhealthy `h2`; with the any-endpoint
policy the request is sent to a host that does *not* contain the criteria, while `HostNum`/`IsExistsHosts` still
describe the subset.  `subset_only` therefore needs its hypothesis "the subset has a *healthy* host". -/
example : selectorExists exRaw [("a", "2")] = true ∧
    (∃ h ∈ exHosts, contains h [("a", "2")] = true) ∧
    (chooseHost rrChoose (lbF exHosts exRaw 1 []) (.crit [("a", "2")]) 0 0).map (·.name) = some "h1" ∧
    (chooseHost rrChoose (lbF exHosts exRaw 1 []) (.crit [("a", "2")]) 0 0).map (contains · [("a", "2")]) = some false ∧
    hostNum (lbF exHosts exRaw 1 []) (some [("a", "2")]) = 1 ∧
    isExists (lbF exHosts exRaw 1 []) (some [("a", "2")]) = true := by decide +kernel

/-! ### the combination prefix as a Go slice: non-vacuity, and the witness against a bare `append(kvs, pair)` -/

/-- a selector with FOUR keys whose last key (in sorted order) has two values on one prefix -/
def wideHosts : List Host :=
  [ { name := "h0", md := [("a", "1"), ("b", "1"), ("c", "1"), ("d", "1")], healthy := true },
    { name := "h1", md := [("a", "1"), ("b", "1"), ("c", "1"), ("d", "2")], healthy := true } ]

def wideIx : Index := mkIndex wideHosts ["a", "b", "c", "d"]

def wideD1 : Path := [("a", "1"), ("b", "1"), ("c", "1"), ("d", "1")]
def wideD2 : Path := [("a", "1"), ("b", "1"), ("c", "1"), ("d", "2")]

-- the regenerated extension is the three-statement fresh copy; under Go's doubling policy both combinations come out
example : Gen.SubsetSlice.comboExtend =
    [.make 1 (.len 0) (.add (.len 0) (.lit 1)), .copy 1 (.var 0), .appendPair 1 (.var 1)] ∧
    Gen.SubsetSlice.comboResult = 1 := by decide +kernel
example : combosSl goGrow wideIx id ["a", "b", "c", "d"] = [wideD1, wideD2] ∧
    cartesian (["a", "b", "c", "d"].map (fun k => (k, vals wideIx k))) = [wideD1, wideD2] := by decide +kernel
example : (activeHosts (lbPS goGrow id wideHosts [["d", "c", "b", "a"]] 1 []).subsets wideD1).map (·.name) = ["h0"] ∧
    (activeHosts (lbPS exactGrow List.reverse wideHosts [["d", "c", "b", "a"]] 1 []).subsets wideD2).map (·.name) = ["h1"] := by
  decide +kernel

/-- the pre-index balancer as it would be with the bare extension `newkvs := append(kvs, pair)` -/
def bareLB (grow : Grow) (policy : Int) (sels : List (List Key)) : LB :=
  { full := wideHosts
    fallback := fallbackOf policy wideHosts wideHosts
    subsets := buildPreWith bareExtend 1 grow wideIx id wideHosts sels }

/-- **a bare append loses combinations**: under Go's doubling policy the prefix of length 3 has capacity 4,
so the two sibling combinations of the 4-key selector share one backing array and both read `d=2` once the product is
complete; the subset `d=1` is never built, a request for `d=1` — selector exists, `h0` matches — is sent to `h1`
(any-endpoint), which does not carry `d=1`, or nowhere (no fallback), and the two builders differ.  The same shape is
harmless for 3 and 5 keys and under a policy without spare capacity — which is why the capacity policy is a
parameter. -/
example :
    combosWith bareExtend 1 goGrow wideIx id ["a", "b", "c", "d"] = [wideD2, wideD2] ∧
    combosWith bareExtend 1 goGrow wideIx id ["a", "b", "c", "d"] ≠ combos wideIx id ["a", "b", "c", "d"] ∧
    activeHosts (bareLB goGrow 1 [["a", "b", "c", "d"]]).subsets wideD1 = [] ∧
    (activeHosts (lbF wideHosts [["a", "b", "c", "d"]] 1 []).subsets wideD1).map (·.name) = ["h0"] ∧
    (chooseHost rrChoose (bareLB goGrow 1 [["a", "b", "c", "d"]]) (.crit wideD1) 0 0).map (·.name) = some "h1" ∧
    chooseHost rrChoose (bareLB goGrow 0 [["a", "b", "c", "d"]]) (.crit wideD1) 0 0 = none ∧
    (specTargets wideHosts [["a", "b", "c", "d"]] 1 [] wideD1).map (·.name) = ["h0"] ∧
    hostNum (bareLB goGrow 1 [["a", "b", "c", "d"]]) (some wideD1) = 2 ∧
    combosWith bareExtend 1 goGrow wideIx id ["a", "b", "d"] = combos wideIx id ["a", "b", "d"] ∧
    combosWith bareExtend 1 goGrow wideIx id ["a", "b", "c", "a", "d"] = combos wideIx id ["a", "b", "c", "a", "d"] ∧
    combosWith bareExtend 1 goGrow wideIx id ["a", "b", "c", "a", "b", "d"] ≠ combos wideIx id ["a", "b", "c", "a", "b", "d"] ∧
    combosWith bareExtend 1 exactGrow wideIx id ["a", "b", "c", "d"] = combos wideIx id ["a", "b", "c", "d"] := by decide +kernel

/-- the bare extension is not fresh: with spare capacity it writes into the array it received. -/
example : ¬ FreshExt bareExtend 1 := by
  intro h
  obtain ⟨ext, h1, _, _⟩ := h goGrow ⟨0, 0, 1⟩ ("k", "v") [[zeroKV]] (Nat.zero_le _)
  have h2 : (extendWith bareExtend 1 goGrow ⟨0, 0, 1⟩ ("k", "v") [[zeroKV]]).2 = [[("k", "v")]] := by decide +kernel
  rw [h2] at h1
  simp [zeroKV] at h1

/-! ## The request path: criteria assembly per request, sequences of requests on one route

Objects (see `Model/SubsetRequest.lean`): `rc : Option Meta` the `metadata_match` map the route (or its weighted
cluster) is configured with (`none`: the route owns no criteria object), whose criteria object — shared by every
request matching the route — is `rc.map mkCriteria`; `reqs : List (Option Meta)` a sequence of requests, each with its
per-request criteria map (`types.VarRouterMeta`; `none`: unset); `assemble` = `downStream.MetadataMatchCriteria` as
regenerated; `runSeq` threads the shared object through the sequence; `proxyChoose` = the cluster manager's
`HostNum(criteria) == 0 ⇒ no host, else ChooseHost`. -/

open MosnVerif.Model.SubsetRequest

/-- the criteria objects of the router: `NewMetadataMatchCriteriaImpl` returns a *new* object holding the map's pairs
sorted by key; a route owns one iff its `metadata_match` is non-empty, a weighted cluster always. -/
theorem criteria_objects (md : Meta) :
    newImpl md = some (mkCriteria md) ∧
    routeObject md = (if md = [] then none else some (mkCriteria md)) ∧
    weightedObject md = some (mkCriteria md) :=
  ⟨newImpl_eq md, routeObject_eq md, weightedObject_eq md⟩

/-- **criteria_history_independent**: for every criteria object of the route and every sequence of requests with
arbitrary per-request criteria, the criteria used for request `k` are `merge(route, request k)` — the assembly applied
to the route's *configured* object and that request alone — and the route's shared object is the configured one before
and after every request. -/
theorem criteria_history_independent (route : Option Path) (reqs : List (Option Meta)) :
    runSeq route reqs = reqs.map (assemble route) ∧
    (∀ k (hk : k < reqs.length), ((runSeq route reqs)[k]?).map (·.used) = some (assemble route reqs[k]).used) ∧
    (∀ x ∈ runSeq route reqs, x.route = route) := by
  refine ⟨runSeq_eq route reqs, fun k hk => ?_, fun x hx => ?_⟩
  · rw [runSeq_eq, List.getElem?_map, List.getElem?_eq_getElem hk]; rfl
  · rw [runSeq_eq] at hx
    obtain ⟨r, _, rfl⟩ := List.mem_map.mp hx
    exact assemble_route route r

/-- **criteria_assembled** (what `merge(route, request)` is): without per-request criteria the route's object itself;
with per-request criteria `m` a new object, sorted by key, holding exactly `m`'s pairs and the route's pairs for the
keys `m` does not set (the request wins key by key). -/
theorem criteria_assembled (rc : Option Meta) (hrc : ∀ r, rc = some r → (r.map (·.1)).Nodup) :
    (assemble (rc.map mkCriteria) none).used = rc.map mkCriteria ∧
    ∀ m : Meta, (m.map (·.1)).Nodup →
      ∃ c, (assemble (rc.map mkCriteria) (some m)).used = some c ∧ strictSorted (c.map (·.1)) = true ∧
        ∀ kv, kv ∈ c ↔ kv ∈ m ∨ (kv ∈ rc.getD [] ∧ kv.1 ∉ m.map (·.1)) := by
  refine ⟨by rw [assemble_none], fun m hm => ?_⟩
  obtain ⟨h1, h2⟩ := effList_spec rc m hrc hm
  exact ⟨_, by rw [assemble_some], mkCriteria_sorted _ h1, fun kv => by rw [mem_mkCriteria, h2 kv]⟩

/-- the proxy's host choice for criteria built from a map: `request_exact` behind the cluster manager's
`HostNum == 0` gate (the gate never changes the outcome). -/
theorem proxy_criteria_exact (inner : Inner) (hin : InnerOK inner) (hosts : List Host) (raw : List (List Key))
    (policy : Nat) (dflt : Path) (grow : Grow) (shuf : List Val → List Val) (hshuf : ∀ l v, v ∈ shuf l ↔ v ∈ l)
    (kvs : Path) (hnd : (kvs.map (·.1)).Nodup) (d1 d2 : Nat) :
    ∀ lb, (lb = lbF hosts raw policy dflt ∨ lb = lbPS grow shuf hosts raw policy dflt) →
      (∀ h, proxyChoose inner lb (some (mkCriteria kvs)) d1 d2 = some h → h ∈ specTargets hosts raw policy dflt kvs) ∧
      (specTargets hosts raw policy dflt kvs ≠ [] → ∃ h, proxyChoose inner lb (some (mkCriteria kvs)) d1 d2 = some h) := by
  intro lb hlb
  obtain ⟨ha, hb, hn, _⟩ := request_exact inner hin hosts raw policy dflt grow shuf hshuf kvs hnd d1 d2 lb hlb
  refine proxyChoose_choice ⟨ha, hb⟩ fun hz => ?_
  rw [hn] at hz
  exact specTargets_nil_of_pool_nil hosts raw policy dflt kvs (List.eq_nil_of_length_eq_zero (by omega))

/-- the proxy's host choice for a request without any criteria: a healthy host of the cluster, whenever there is one. -/
theorem proxy_no_criteria_exact (inner : Inner) (hin : InnerOK inner) (hosts : List Host) (raw : List (List Key))
    (policy : Nat) (dflt : Path) (grow : Grow) (shuf : List Val → List Val) (hshuf : ∀ l v, v ∈ shuf l ↔ v ∈ l) (d1 d2 : Nat) :
    ∀ lb, (lb = lbF hosts raw policy dflt ∨ lb = lbPS grow shuf hosts raw policy dflt) →
      (∀ h, proxyChoose inner lb none d1 d2 = some h → h ∈ hosts.filter (·.healthy)) ∧
      (hosts.filter (·.healthy) ≠ [] → ∃ h, proxyChoose inner lb none d1 d2 = some h) := by
  obtain ⟨_, hch, hnum, _⟩ := builders_equiv hosts raw policy dflt grow shuf hshuf inner
  have hF : ChoiceAmong (proxyChoose inner (lbF hosts raw policy dflt) none d1 d2) (hosts.filter (·.healthy)) :=
    proxyChoose_choice (chooseHost_lbF_nilCrit_choice inner hin hosts raw policy dflt d1 d2) fun hz => by
      have : hosts = [] := by simpa [hostNum, full_lbF] using hz
      rw [this]; rfl
  rintro lb (rfl | rfl)
  · exact hF
  · rw [← proxyChoose_congr inner _ _ none d1 d2 hch hnum]
    exact hF

/-- **request_path_exact** (the statement per request, independent of the history of earlier requests): on a route
configured with the criteria map `rc`, for every sequence of requests with arbitrary per-request criteria, request `k`
is sent — by either builder's balancer, behind the cluster manager's gate, whatever the inner balancer states — only to
a host among `requestTargets … rc (request k)`: the reference targets of exactly that request's pairs (its own and the
route's for the keys it does not set), and it is sent somewhere whenever that set is non-empty. -/
theorem request_path_exact (inner : Inner) (hin : InnerOK inner) (hosts : List Host) (raw : List (List Key))
    (policy : Nat) (dflt : Path) (grow : Grow) (shuf : List Val → List Val) (hshuf : ∀ l v, v ∈ shuf l ↔ v ∈ l)
    (rc : Option Meta) (hrc : ∀ r, rc = some r → (r.map (·.1)).Nodup)
    (reqs : List (Option Meta)) (hreqs : ∀ m, some m ∈ reqs → (m.map (·.1)).Nodup)
    (k : Nat) (hk : k < reqs.length) (d1 d2 : Nat) :
    ∀ lb, (lb = lbF hosts raw policy dflt ∨ lb = lbPS grow shuf hosts raw policy dflt) →
      ∃ res, (runSeq (rc.map mkCriteria) reqs)[k]? = some res ∧ res.route = rc.map mkCriteria ∧
        (∀ h, proxyChoose inner lb res.used d1 d2 = some h → h ∈ requestTargets hosts raw policy dflt rc reqs[k]) ∧
        (requestTargets hosts raw policy dflt rc reqs[k] ≠ [] → ∃ h, proxyChoose inner lb res.used d1 d2 = some h) := by
  intro lb hlb
  refine ⟨assemble (rc.map mkCriteria) reqs[k], ?_, assemble_route _ _, ?_⟩
  · rw [runSeq_eq, List.getElem?_map, List.getElem?_eq_getElem hk]; rfl
  have hmem : reqs[k] ∈ reqs := List.getElem_mem hk
  generalize reqs[k] = req at hmem
  cases req with
  | none =>
    rw [assemble_none]
    cases rc with
    | none => exact proxy_no_criteria_exact inner hin hosts raw policy dflt grow shuf hshuf d1 d2 lb hlb
    | some r => exact proxy_criteria_exact inner hin hosts raw policy dflt grow shuf hshuf r (hrc r rfl) d1 d2 lb hlb
  | some m =>
    rw [assemble_some]
    obtain ⟨h1, h2⟩ := effList_spec rc m hrc (hreqs m hmem)
    have := proxy_criteria_exact inner hin hosts raw policy dflt grow shuf hshuf _ h1 d1 d2 lb hlb
    rw [specTargets_congr hosts raw policy dflt _ (m ++ (rc.getD []).filter fun kv => !(m.map (·.1)).contains kv.1)
      fun kv => by simp [h2 kv, List.mem_append, List.mem_filter]] at this
    exact this

/-! ### non-vacuity of the request path, and the witness against an in-place merge -/

def zoneHosts : List Host :=
  [ { name := "h0", md := [("version", "v1"), ("zone", "a")], healthy := true },
    { name := "h1", md := [("version", "v2"), ("zone", "b")], healthy := true },
    { name := "h2", md := [("version", "v1"), ("zone", "b")], healthy := true } ]

/-- route `metadata_match {zone: a}`, selector `[zone]`; request 1 carries `{version: v2}`, request 2 nothing -/
def zoneReqs : List (Option Meta) := [some [("version", "v2")], none, some [("zone", "b")], some []]

example : routeObject [("zone", "a")] = some [("zone", "a")] ∧ routeObject [] = none ∧ weightedObject [] = some [] := by decide +kernel
-- hypotheses of `request_path_exact` hold for the example
example : (∀ r, some [("zone", "a")] = some r → (r.map (·.1)).Nodup) ∧ (∀ m, some m ∈ zoneReqs → (m.map (·.1)).Nodup) := by
  refine ⟨fun r h => by cases h; decide, fun m hm => ?_⟩
  simp [zoneReqs] at hm
  rcases hm with rfl | rfl | rfl <;> decide
-- the model as regenerated: every request sees the configured route object; request 2 is looked up with `zone=a` alone
example : (runSeq (routeObject [("zone", "a")]) zoneReqs).map (·.used) =
      [some [("version", "v2"), ("zone", "a")], some [("zone", "a")], some [("zone", "b")], some [("zone", "a")]] ∧
    (runSeq (routeObject [("zone", "a")]) zoneReqs).map (·.route) = List.replicate 4 (some [("zone", "a")]) := by decide +kernel
example : (requestTargets zoneHosts [["zone"]] 1 [] (some [("zone", "a")]) none).map (·.name) = ["h0"] ∧
    (requestTargets zoneHosts [["zone"]] 0 [] (some [("zone", "a")]) (some [("version", "v2")])) = [] ∧
    (requestTargets zoneHosts [["zone"]] 1 [] (some [("zone", "a")]) (some [("zone", "b")])).map (·.name) = ["h1", "h2"] ∧
    (requestTargets zoneHosts [["zone"]] 1 [] none none).map (·.name) = ["h0", "h1", "h2"] := by decide +kernel

/-- **an in-place merge violates history independence and the property** (`MergeMatchCriteria` as it is written merges
into its receiver: `Gen.SubsetRequest.mergeMatchRecv = 1`): had `downStream.MetadataMatchCriteria` returned
`routerMeta.MergeMatchCriteria(varMeta)`, request 1's `version=v2` would stay in the route's shared object, request 2
(route criteria only, selector `[zone]` exists, `h0` matches) would be looked up with `version=v2;zone=a`, find no
subset and be sent to `h1` (any-endpoint), which does not carry `zone=a` — or to no host at all (no fallback). -/
example :
    Gen.SubsetRequest.mergeMatchRecv = 1 ∧ Gen.SubsetRequest.mergeMatchRet = 1 ∧
    (runSeqInPlace (routeObject [("zone", "a")]) zoneReqs).map (·.used) ≠
      zoneReqs.map (fun r => (assembleInPlace (routeObject [("zone", "a")]) r).used) ∧
    ((runSeqInPlace (routeObject [("zone", "a")]) zoneReqs)[1]?).map (·.used) =
      some (some [("version", "v2"), ("zone", "a")]) ∧
    (proxyChoose rrChoose (lbF zoneHosts [["zone"]] 1 []) (some [("version", "v2"), ("zone", "a")]) 0 0).map (·.name) = some "h1" ∧
    (requestTargets zoneHosts [["zone"]] 1 [] (some [("zone", "a")]) none).map (·.name) = ["h0"] ∧
    proxyChoose rrChoose (lbF zoneHosts [["zone"]] 0 []) (some [("version", "v2"), ("zone", "a")]) 0 0 = none ∧
    (requestTargets zoneHosts [["zone"]] 0 [] (some [("zone", "a")]) none).map (·.name) = ["h0"] := by decide +kernel

/-! ## one request, several host selections: the criteria are recomputed at EVERY selection

`Model/CriteriaFlow.lean`: a request is a list of steps — a filter stores / edits / unsets the request-level variable, the
route entry is replaced, `select` (= `chooseHost` after a re-choose-host, `doRetry`). `runGen` runs them with the regenerated
facts: `Gen.CriteriaFlow.memoized` (does `downStream.MetadataMatchCriteria` keep a result across calls), and
`Gen.SubsetRequest.varCopiedBeforeMerge` (the route's pairs go into a copy of the variable's map). Every element of
`runGen s steps` is (the state current at that selection, the criteria handed to the balancer). -/
section EverySelection
open MosnVerif.Model.CriteriaFlow

/-- **criteria_flow_discipline**: `MetadataMatchCriteria` reads only the stream context (the variable), the request info (the
route entry) and the current cluster, writes no field of the stream (nothing is kept across calls), merges into a copy of
the variable's map; hosts are selected by `chooseHost` and `doRetry`, both with the stream itself as balancer context, which
`initializeUpstreamConnectionPool` hands on to the cluster manager. -/
theorem criteria_flow_discipline :
    Gen.CriteriaFlow.memoized = false ∧ Gen.SubsetRequest.varCopiedBeforeMerge = true ∧
    Gen.CriteriaFlow.reads = [.cluster, .context, .requestInfo] ∧
    Gen.CriteriaFlow.selectionSites = [("chooseHost", "s"), ("doRetry", "s")] ∧ Gen.CriteriaFlow.contextPassedOn = true := by
  decide +kernel

/-- **criteria_fresh_every_selection**: for EVERY start state and EVERY sequence of steps, selection number `k` uses exactly
`merge(route entry current at k, variable current at k)` — never the result of an earlier selection — and a selection
leaves the variable and the route's object as they were. -/
theorem criteria_fresh_every_selection (s : S) (steps : List Step) :
    (∀ x ∈ runGen s steps, x.2 = (assemble x.1.route x.1.var).used) ∧
    (∀ t : S, ((select Gen.CriteriaFlow.memoized Gen.SubsetRequest.varCopiedBeforeMerge t).2.var,
               (select Gen.CriteriaFlow.memoized Gen.SubsetRequest.varCopiedBeforeMerge t).2.route) = (t.var, t.route)) := by
  have hm : Gen.CriteriaFlow.memoized = false := criteria_flow_discipline.1
  have hc : Gen.SubsetRequest.varCopiedBeforeMerge = true := criteria_flow_discipline.2.1
  unfold runGen
  rw [hm, hc]
  exact ⟨run_fresh true steps s, select_keeps⟩

/-- **request_exact_every_selection**: composition with `request_path_exact` (hence `choose_exact` / `fallback_exact`): at
every selection of every step sequence, when the current route entry is configured with the map `rc` and the variable
holds `vm` (unique keys), the host the cluster manager hands back is among `requestTargets … rc vm` — the reference targets
of exactly the pairs current at THAT selection — and a host is found whenever that set is non-empty. -/
theorem request_exact_every_selection (inner : Inner) (hin : InnerOK inner) (hosts : List Host) (raw : List (List Key))
    (policy : Nat) (dflt : Path) (grow : Grow) (shuf : List Val → List Val) (hshuf : ∀ l v, v ∈ shuf l ↔ v ∈ l)
    (s : S) (steps : List Step) (d1 d2 : Nat) :
    ∀ x ∈ runGen s steps, ∀ (rc : Option Meta), x.1.route = rc.map mkCriteria →
      (∀ r, rc = some r → (r.map (·.1)).Nodup) → (∀ m, x.1.var = some m → (m.map (·.1)).Nodup) →
      ∀ lb, (lb = lbF hosts raw policy dflt ∨ lb = lbPS grow shuf hosts raw policy dflt) →
        (∀ h, proxyChoose inner lb x.2 d1 d2 = some h → h ∈ requestTargets hosts raw policy dflt rc x.1.var) ∧
        (requestTargets hosts raw policy dflt rc x.1.var ≠ [] → ∃ h, proxyChoose inner lb x.2 d1 d2 = some h) := by
  intro x hx rc hroute hrc hvar lb hlb
  have hu := (criteria_fresh_every_selection s steps).1 x hx
  obtain ⟨res, hres, _, h1, h2⟩ := request_path_exact inner hin hosts raw policy dflt grow shuf hshuf rc hrc [x.1.var]
    (by intro m hm; simp only [List.mem_singleton] at hm; exact hvar m hm.symm) 0 (by simp) d1 d2 lb hlb
  simp only [runSeq, List.getElem?_cons_zero, Option.some.injEq] at hres
  subst hres
  rw [hu, hroute]
  exact ⟨h1, h2⟩

-- non-vacuity: the request carries zone=a, is sent to h0; a filter stores zone=b before the retry: the retry is looked up
-- with zone=b. Route zone=a with version=v1 in the variable, then the route entry is replaced by one with zone=b.
example : (runGen { var := some [("zone", "a")], route := none } [.select, .store (some [("zone", "b")]), .select]).map (·.2) =
    [some [("zone", "a")], some [("zone", "b")]] := by decide +kernel
example : (runGen { var := some [("version", "v1")], route := routeObject [("zone", "a")] }
    [.select, .route (routeObject [("zone", "b")]), .select]).map (·.2) =
    [some [("version", "v1"), ("zone", "a")], some [("version", "v1"), ("zone", "b")]] := by decide +kernel

/-- **stale_criteria_witness** (negative witnesses): (1) a per-stream cache of the merged criteria makes the
second selection use the FIRST selection's pairs: the request now carries zone=b and is looked up with zone=a — `h0`, which
is not among the targets of zone=b; (2) merging in place (no copy) leaves the old route's zone=a in the variable's map, and
it wins over the new route entry's zone=b. -/
theorem stale_criteria_witness :
    (run true true { var := some [("zone", "a")], route := none } [.select, .store (some [("zone", "b")]), .select]).map (·.2) =
      [some [("zone", "a")], some [("zone", "a")]] ∧
    (proxyChoose rrChoose (lbF zoneHosts [["zone"]] 1 []) (some [("zone", "a")]) 0 0).map (·.name) = some "h0" ∧
    (requestTargets zoneHosts [["zone"]] 1 [] none (some [("zone", "b")])).map (·.name) = ["h1", "h2"] ∧
    (run false false { var := some [("version", "v1")], route := routeObject [("zone", "a")] }
      [.select, .route (routeObject [("zone", "b")]), .select]).map (·.2) =
      [some [("version", "v1"), ("zone", "a")], some [("version", "v1"), ("zone", "a")]] := by decide +kernel

end EverySelection

/-! ### selector keys: `GenerateSubsetKeys` as regenerated (`Gen.SubsetKeys`) -/

/-- **keys_exact**: the key lists `GenerateSubsetKeys` (regenerated statement by statement: normalise with `InitSet`,
compare with every list kept so far, append when none is equal) hands to both builders are, as a set of key lists,
exactly the configured selectors' sorted key lists — for arbitrary key strings (empty, prefixes or concatenations of
one another, containing any separator): a list is in the result iff it is strictly sorted and has the key set of some
configured selector; every configured selector's sorted key list occurs exactly once; nothing occurs twice. -/
theorem keys_exact (raw : List (List Key)) :
    let ks := Gen.SubsetKeys.generateSubsetKeys initSet raw
    (∀ s, s ∈ ks ↔ strictSorted s = true ∧ ∃ r ∈ raw, ∀ k, k ∈ s ↔ k ∈ r) ∧
    (∀ r ∈ raw, ∃ s, ks.count s = 1 ∧ strictSorted s = true ∧ ∀ k, k ∈ s ↔ k ∈ r) ∧
    ks.Nodup := by
  rw [genKeys_eq raw]
  intro _
  refine ⟨fun s => ⟨fun h => ?_, fun ⟨hs, r, hr, h⟩ => ?_⟩, fun r hr => ?_, generateSubsetKeys_nodup raw⟩
  · obtain ⟨r, hr, _, h2, h3⟩ := (selectors_normalised raw s).mp h
    exact ⟨h2, r, hr, h3⟩
  · exact (sorted_mem_generateSubsetKeys raw s hs).mpr ⟨r, hr, fun k => (h k).symm⟩
  · have hm : initSet r ∈ generateSubsetKeys raw := (mem_generateSubsetKeys raw _).mpr ⟨r, hr, rfl⟩
    exact ⟨initSet r, by rw [(generateSubsetKeys_nodup raw).count, if_pos hm],
      (strictSorted_iff _).mpr (initSet_sorted r), fun k => mem_initSet r k⟩

/-- **selector_request_confined** (`keys_exact` composed with `find_refines` / `fallback_exact` through both builders):
a request whose criteria's key set equals the key set of ANY configured selector `r` (whatever the other selectors
are and whatever strings the keys are) finds its key list among the regenerated subset keys, and on the balancers
built from them — filtering builder and pre-index builder — it is confined to the healthy hosts whose metadata contain
all its pairs whenever there is one (and is sent to one); only when there is none does the fallback pool apply. -/
theorem selector_request_confined (inner : Inner) (hin : InnerOK inner) (hosts : List Host) (raw : List (List Key))
    (policy : Nat) (dflt : Path) (grow : Grow) (shuf : List Val → List Val) (hshuf : ∀ l v, v ∈ shuf l ↔ v ∈ l)
    (c : Path) (hs : strictSorted (c.map (·.1)) = true) (d1 d2 : Nat)
    (r : List Key) (hr : r ∈ raw) (hne : c ≠ []) (hk : ∀ k, k ∈ r ↔ k ∈ c.map (·.1)) :
    let keys := Gen.SubsetKeys.generateSubsetKeys initSet raw
    let lbs : List LB := [newFilter hosts (policy : Int) dflt keys, newPreS grow shuf hosts (policy : Int) dflt keys]
    c.map (·.1) ∈ keys ∧
    ∀ lb ∈ lbs,
      ((∃ h ∈ hosts, contains h c = true ∧ h.healthy = true) →
        (∀ h, chooseHost inner lb (.crit c) d1 d2 = some h → h ∈ hosts ∧ contains h c = true ∧ h.healthy = true) ∧
        ∃ h, chooseHost inner lb (.crit c) d1 d2 = some h) ∧
      ((∀ h ∈ hosts, contains h c = true → h.healthy = false) →
        ∀ h, chooseHost inner lb (.crit c) d1 d2 = some h →
          h ∈ specFallbackPool hosts policy dflt ∧ h.healthy = true) := by
  rw [genKeys_eq raw]
  intro keys lbs
  have hsel : selectorExists raw c = true := (selectorExists_iff raw c).mpr ⟨hne, r, hr, hk⟩
  refine ⟨(sorted_mem_generateSubsetKeys raw _ hs).mpr ⟨r, hr, hk⟩, fun lb hlb => ?_⟩
  · -- the two balancers of the list are `lbF` and `lbPS`, which choose alike
    have hch : chooseHost inner lb (.crit c) d1 d2 = chooseHost inner (lbF hosts raw policy dflt) (.crit c) d1 d2 := by
      simp only [lbs, List.mem_cons, List.mem_nil_iff, or_false] at hlb
      rcases hlb with rfl | rfl
      · rfl
      · exact ((builders_equiv hosts raw policy dflt grow shuf hshuf inner).2.1 (.crit c) d1 d2).symm
    rw [hch]
    exact ⟨fun hh => subset_only inner hin hosts raw policy dflt c hs d1 d2 hsel hh,
      fun hno => (fallback_exact inner hin hosts raw policy dflt c hs d1 d2 (Or.inr hno)).1⟩

/-- adversarial selector configuration: keys that concatenate to the same string, a key containing the separator, the
empty key, a permuted duplicate -/
def advRaw : List (List Key) := [["version", "app"], ["appversion"], ["a,b"], ["a", "b"], ["", "ab"], ["ab"], ["app", "version"]]
def advHosts : List Host :=
  [ { name := "h0", md := [("app", "x"), ("version", "1")], healthy := true },
    { name := "h1", md := [("appversion", "1")], healthy := true },
    { name := "h2", md := [("a,b", "1"), ("ab", "1")], healthy := true } ]

example : Gen.SubsetKeys.generateSubsetKeys initSet advRaw =
    [["app", "version"], ["appversion"], ["a,b"], ["a", "b"], ["", "ab"], ["ab"]] := by decide +kernel
-- the hypotheses of `selector_request_confined` at the second selector, and what it yields on both balancers
example : strictSorted ([("appversion", "1")].map (·.1)) = true ∧ ["appversion"] ∈ advRaw ∧
    (∃ h ∈ advHosts, contains h [("appversion", "1")] = true ∧ h.healthy = true) := by decide +kernel
example :
    let keys := Gen.SubsetKeys.generateSubsetKeys initSet advRaw
    (chooseHost rrChoose (newFilter advHosts 0 [] keys) (.crit [("appversion", "1")]) 0 0).map (·.name) = some "h1" ∧
    (chooseHost rrChoose (newPreS goGrow id advHosts 0 [] keys) (.crit [("a,b", "1")]) 0 0).map (·.name) = some "h2" := by
  decide +kernel

/-- `GenerateSubsetKeys` as it would be with a seen-map keyed by `strings.Join(keys, sep)` (what the extractor would
regenerate for that shape: state = result list × stored map keys) -/
def joinKeyed (sep : String) (raw : List (List Key)) : List (List Key) :=
  (raw.foldl (fun (st : List (List Key) × List String) ks =>
    let s := initSet ks
    let id := String.intercalate sep s
    if st.2.contains id then st else (st.1 ++ [s], st.2 ++ [id])) ([], [])).1

/-- **de-duplicating by a joined string loses selectors**: with the empty separator `[app version]` and
`[appversion]` collide, with `","` `[a b]` and `[a,b]` do; the later selector is dropped (so `keys_exact` fails), no
subset is built for it, and a request for `appversion=1` — a configured selector, `h1` carries the pair — gets no host
under NoFallBack and `h0`, which does not carry the pair, under AnyEndPoint. -/
example :
    ["appversion"] ∈ advRaw ∧ ["appversion"] ∉ joinKeyed "" advRaw ∧
    ["a", "b"] ∈ advRaw ∧ ["a", "b"] ∉ joinKeyed "," advRaw ∧
    chooseHost rrChoose (newFilter advHosts 0 [] (joinKeyed "" advRaw)) (.crit [("appversion", "1")]) 0 0 = none ∧
    (chooseHost rrChoose (newPreS goGrow id advHosts 1 [] (joinKeyed "" advRaw)) (.crit [("appversion", "1")]) 0 2).map (·.name)
      = some "h0" ∧
    (specTargets advHosts advRaw 0 [] [("appversion", "1")]).map (·.name) = ["h1"] := by decide +kernel

end MosnVerif.Props.C15
