import MosnVerif.Lemmas.TlsSelect
import MosnVerif.Lemmas.TlsMatch
import MosnVerif.Lemmas.TlsUpdate
import MosnVerif.Model.TlsTrust
import MosnVerif.Model.TlsConnect
import MosnVerif.Lemmas.TlsSds
import MosnVerif.Lemmas.TlsShare
import MosnVerif.Lemmas.TlsAccept
import MosnVerif.Lemmas.TlsConnect
/-!
# C13 — TLS policy is enforced as configured (property theorems only)

The objects are the model of pkg/mtls in `Model/TlsSelect.lean`; `walkStep/walkFinish` (GetConfigForClient),
`getClientAuth`, `clientVerify`, `connDecision`, `requiresClientCert`, `alpnSupported` and the ClientAuthType constants
are regenerated from the Go source on every check (`Gen/TlsPolicy.lean`).  The selection code itself — `buildMatch`,
`MatchedServerName`, `MatchedALPN`, the ALPN filter of `tlsConfigTemplate` and the whole of `GetConfigForClient` — is
regenerated statement by statement (`Gen/TlsMatch.lean`); the `gen_*_eq_model` theorems below prove the model's functions
equal to the regenerated ones, so every theorem about `select` / `matchedServerName` / `buildMatch` is a theorem about
the regenerated code.
-/
namespace MosnVerif.Props.C13
open MosnVerif MosnVerif.Model.TlsSelect MosnVerif.Gen.TlsPolicy
open MosnVerif.Lemmas.TlsMatch (provs NamespacesApart certKeys)
open MosnVerif.Model.TlsMatchBase (X509 Prov)

/-- **gen_buildMatch_eq_model**: the regenerated `buildMatch` (over the context's certificate, the NextProtos the
regenerated ALPN filter of `tlsConfigTemplate` keeps, and the server_name) stores exactly the model's key set. -/
theorem gen_buildMatch_eq_model (c : Ctx) :
    Gen.TlsMatch.buildMatch [some ⟨c.cn, c.sans⟩] (Gen.TlsMatch.alpnFilter c.alpnCfg) c.serverName = buildMatch c := by
  rw [Lemmas.TlsMatch.gen_buildMatch_spec, Lemmas.TlsMatch.gen_alpnFilter_eq]
  simp [certKeys, buildMatch, Ctx.alpn]

/-- the regenerated `buildMatch` for ANY certificate list (certificates that do not parse are skipped), NextProtos and
server_name: which strings enter `matches`, lower-cased, never the empty string for CN / SAN / server_name. -/
theorem gen_buildMatch_keys (certs : List (Option X509)) (protos : List Name) (sn : Name) :
    Gen.TlsMatch.buildMatch certs protos sn =
      certs.flatMap certKeys ++ protos.map lower ++ (if sn.length > 0 then [lower sn] else []) :=
  Lemmas.TlsMatch.gen_buildMatch_spec certs protos sn

/-- the regenerated ALPN filter of `tlsConfigTemplate` is the model's `parseALPN`. -/
theorem gen_alpnFilter_eq_model (cfg : Name) : Gen.TlsMatch.alpnFilter cfg = parseALPN cfg :=
  Lemmas.TlsMatch.gen_alpnFilter_eq cfg

/-- **gen_matchedServerName_eq_model**: the regenerated `MatchedServerName` (lower-casing, the trailing-dot loop, the
exact lookup, the label-by-label wildcard walk) is the model's, for every key set, every string, and however much fuel
beyond their termination measures the two loops are given. -/
theorem gen_matchedServerName_eq_model (m : List Name) (sn : Name) (fuel : Nat) :
    Gen.TlsMatch.matchedServerName m sn fuel = matchedServerName m sn :=
  Lemmas.TlsMatch.gen_matchedServerName_eq m sn fuel

theorem gen_matchedALPN_eq_model (m : List Name) (protos : List Name) :
    Gen.TlsMatch.matchedALPN m protos = matchedALPN m protos :=
  Lemmas.TlsMatch.gen_matchedALPN_eq m protos

/-- **gen_select_eq_model**: the regenerated `GetConfigForClient` (whole function: the provider loop with its `Ready()`
test, default / server-name / ALPN bookkeeping, the early return, and the tail), run on the providers of the contexts
`ps` (position, readiness, regenerated key set), is the model's `select`. -/
theorem gen_select_eq_model (ps : List Ctx) (sni : Name) (protos : List Name) (fuel : Nat) :
    Gen.TlsMatch.getConfigForClient (provs ps 0) sni protos fuel = select ps sni protos := by
  unfold Gen.TlsMatch.getConfigForClient select
  dsimp only
  exact Lemmas.TlsMatch.rangeLoop_walk sni protos fuel _ (fun _ _ _ => rfl)
    (fun W => match W with
      | Model.TlsMatchBase.Flow.ret r => r
      | Model.TlsMatchBase.Flow.next st => Lemmas.TlsMatch.finish st.1 st.2) (fun _ => rfl) (fun _ _ => rfl) ps 0 none none

/-- **select_precedence**: for EVERY provider list and EVERY ClientHello (SNI, ALPN list), `GetConfigForClient` returns
the first ready provider whose match set matches the SNI, else the first ready provider whose match set contains a
client ALPN entry, else the first ready provider, else `ErrorNoCertConfigure`. -/
theorem select_precedence (ps : List Ctx) (sni : Name) (protos : List Name) :
    select ps sni protos =
      ofOpt (orElse' (ps.findIdx? (fun c => c.ready && c.sniMatch sni))
        (orElse' (ps.findIdx? (fun c => c.ready && c.alpnMatch protos)) (ps.findIdx? (fun c => c.ready)))) := by
  unfold select
  rw [walk_eq]
  simp [orElse'_eq_or, List.findIdx?]

/-- `select_precedence` spelled out over the regenerated functions only: the regenerated `GetConfigForClient` returns the
first ready context whose regenerated key set (regenerated `buildMatch` over the regenerated ALPN filter) the regenerated
`MatchedServerName` accepts for the SNI, else the first ready one the regenerated `MatchedALPN` accepts, else the first
ready context, else the error. -/
theorem gen_select_precedence (ps : List Ctx) (sni : Name) (protos : List Name) (fuel : Nat) :
    Gen.TlsMatch.getConfigForClient (provs ps 0) sni protos fuel =
      ofOpt (orElse'
        (ps.findIdx? (fun c => c.ready && Gen.TlsMatch.matchedServerName
          (Gen.TlsMatch.buildMatch [some ⟨c.cn, c.sans⟩] (Gen.TlsMatch.alpnFilter c.alpnCfg) c.serverName) sni fuel))
        (orElse'
          (ps.findIdx? (fun c => c.ready && Gen.TlsMatch.matchedALPN
            (Gen.TlsMatch.buildMatch [some ⟨c.cn, c.sans⟩] (Gen.TlsMatch.alpnFilter c.alpnCfg) c.serverName) protos))
          (ps.findIdx? (fun c => c.ready)))) := by
  simp only [gen_select_eq_model, select_precedence, gen_buildMatch_eq_model, gen_matchedServerName_eq_model,
    gen_matchedALPN_eq_model]
  rfl

/-- `findIdx?` is "the first": index `i` is returned iff the predicate holds at `i` and at no smaller index (core lemma,
restated so that `select_precedence` can be read without the library). -/
theorem first_means_first (ps : List Ctx) (p : Ctx → Bool) (i : Nat) :
    ps.findIdx? p = some i ↔ ∃ h : i < ps.length, p ps[i] = true ∧ ∀ j (hj : j < i), ¬ p (ps[j]'(Nat.lt_trans hj h)) = true :=
  List.findIdx?_eq_some_iff_getElem

/-- the walk never dereferences a nil provider, and fails exactly when no provider is ready. -/
theorem select_error_iff (ps : List Ctx) (sni : Name) (protos : List Name) :
    select ps sni protos ≠ Outcome.config none ∧
    (select ps sni protos = Outcome.errNoCert ↔ ∀ c ∈ ps, c.ready = false) := by
  rw [select_precedence]
  constructor
  · generalize orElse' _ _ = o; cases o <;> simp [ofOpt]
  · -- no winner at all iff not even the default rule finds a ready provider
    have hof : ∀ o, ofOpt o = Outcome.errNoCert ↔ o = none := fun o => by cases o <;> simp [ofOpt]
    simp only [hof, orElse'_eq_or, Option.or_eq_none_iff, List.findIdx?_eq_none_iff]
    exact ⟨fun h => h.2.2, fun h => ⟨fun c hc => by rw [h c hc]; rfl, fun c hc => by rw [h c hc]; rfl, h⟩⟩

/-- **matched_server_name**: `MatchedServerName` over ANY match set and ANY SNI string: true iff the lower-cased SNI
without trailing dots is in the set ("exact"), or for some dot of it the string `*.` + (what follows that dot) is in the
set ("some wildcard-label generalisation": a non-empty run of leading labels replaced by one `*`). -/
theorem matched_server_name (m : List Name) (sn : Name) :
    matchedServerName m sn = true ↔
      normSni sn ∈ m ∨ ∃ pre suf, normSni sn = pre ++ '.' :: suf ∧ ('*' :: '.' :: suf) ∈ m :=
  matchedServerName_iff m sn

/-- `MatchedALPN`: true iff some client entry, lower-cased, is in the set. -/
theorem matched_alpn (m : List Name) (protos : List Name) :
    matchedALPN m protos = true ↔ ∃ q ∈ protos, lower q ∈ m :=
  matchedALPN_iff m protos

/-- `select_statement` for the model's `select`: where names and ALPN tokens cannot be confused, the shared match set
gives the statement's two rules. -/
theorem select_eq_specSelect (ps : List Ctx) (sni : Name) (protos : List Name) (hns : NamespacesApart ps sni protos) :
    select ps sni protos = ofOpt (specSelect ps sni protos) := by
  -- the two rules are looked at for ready contexts only
  have hc (f g : Ctx → Bool) (h : ∀ c ∈ ps, c.ready = true → f c = g c) :
      ps.findIdx? (fun c => c.ready && f c) = ps.findIdx? (fun c => c.ready && g c) :=
    findIdx?_congr ps _ _ fun c hc => by
      cases hr : c.ready
      · rfl
      · exact congrArg (true && ·) (h c hc hr)
  rw [select_precedence]
  unfold specSelect
  rw [hc _ _ fun c hc hr => sniMatch_eq_nameRule c sni (hns c hc hr).1,
    hc _ _ fun c hc hr => alpnMatch_eq_alpnRule c protos (hns c hc hr).2]

/-- **select_statement**: the FULL statement of the property for the regenerated `GetConfigForClient`: for EVERY ordered
list of contexts (any certificate names incl. empty and wildcard ones, any alpn / server_name strings, any readiness)
and EVERY ClientHello, the context that answers is the first ready context whose certificate names or server_name
match the SNI exactly or by wildcard label, else the first ready context whose ALPN list intersects the client's, else
the first ready context (else ErrorNoCertConfigure) — `specSelect`, written with separate name and ALPN namespaces —
under the single hypothesis `NamespacesApart`: "no configured name equals an ALPN token and vice versa" as far as this
ClientHello can tell (the SNI is not an ALPN token of a ready context, no offered ALPN entry is a name of a ready
context).  Without it the statement FAILS (MOSN keeps names and ALPN tokens in ONE set): recorded finding, key `xns`,
machine-checked witnesses `select_statement_exception_*` below. -/
theorem select_statement (ps : List Ctx) (sni : Name) (protos : List Name) (fuel : Nat)
    (hns : NamespacesApart ps sni protos) :
    Gen.TlsMatch.getConfigForClient (provs ps 0) sni protos fuel = ofOpt (specSelect ps sni protos) := by
  rw [gen_select_eq_model]
  exact select_eq_specSelect ps sni protos hns

/-- the exception, machine-checked (1): an SNI equal to an ALPN token selects the context offering that token although
no name matches and the client offers no ALPN — the statement selects the first ready context. -/
theorem select_statement_exception_sni_is_token :
    ∃ ps sni protos, ¬ NamespacesApart ps sni protos ∧
      Gen.TlsMatch.getConfigForClient (provs ps 0) sni protos 0 ≠ ofOpt (specSelect ps sni protos) :=
  ⟨[⟨true, "c.net".toList, [], [], []⟩, ⟨true, "a.com".toList, ["*.a.com".toList], "h2".toList, []⟩], "h2".toList, [],
    by decide +kernel, by decide +kernel⟩

/-- the exception, machine-checked (2): a client ALPN entry equal to a certificate name counts as an ALPN intersection. -/
theorem select_statement_exception_proto_is_name :
    ∃ ps sni protos, ¬ NamespacesApart ps sni protos ∧
      Gen.TlsMatch.getConfigForClient (provs ps 0) sni protos 0 ≠ ofOpt (specSelect ps sni protos) :=
  ⟨[⟨true, "c.net".toList, [], [], []⟩, ⟨true, "a.com".toList, ["*.a.com".toList], "h2".toList, []⟩], "zzz".toList,
    ["a.com".toList], by decide +kernel, by decide +kernel⟩

/-- **wildcard_labels** (MOSN's wildcard semantics, over the regenerated walk, for ALL suffixes and ALL host strings):
a key `*.suffix` matches the host h iff h (lower-cased, trailing dots removed) is `l₁.l₂.….lₖ.suffix` with k ≥ 1
dot-free labels — ONE OR MORE labels (RFC 6125 allows exactly one; MOSN walks every label boundary). -/
theorem wildcard_labels (suf h : Name) (fuel : Nat) :
    Gen.TlsMatch.matchedServerName ['*' :: '.' :: suf] h fuel = true ↔
      ∃ ls : List Name, ls ≠ [] ∧ (∀ l ∈ ls, '.' ∉ l) ∧ normSni h = joinDot (ls ++ [suf]) := by
  rw [gen_matchedServerName_eq_model, matchedServerName_iff]
  simp only [List.mem_singleton, List.cons.injEq, true_and]
  constructor
  · rintro (he | ⟨pre, suf', e, hs⟩)
    · exact ⟨[['*']], by simp, by simp, by rw [he]; rfl⟩
    · subst hs
      refine ⟨splitOn '.' pre, splitOn_ne_nil _ _, Lemmas.TlsMatch.splitOn_no_sep '.' pre, ?_⟩
      rw [Lemmas.TlsMatch.joinDot_append_singleton _ _ (splitOn_ne_nil _ _), joinDot_splitOn, e]
  · rintro ⟨ls, hne, _, e⟩
    rw [Lemmas.TlsMatch.joinDot_append_singleton _ _ hne] at e
    exact Or.inr ⟨joinDot ls, suf, e, rfl⟩

/-- never a partial label, never the bare suffix: if the host is `pre ++ suffix` where `pre` does not end in a dot
(`pre` empty = the bare suffix; `xa.com` against `*.a.com`), the key `*.suffix` does not match it. -/
theorem wildcard_never_inside_a_label (suf pre h : Name) (fuel : Nat) (e : normSni h = pre ++ suf)
    (hp : ¬ ∃ p, pre = p ++ ['.']) :
    Gen.TlsMatch.matchedServerName ['*' :: '.' :: suf] h fuel = false := by
  rw [Bool.eq_false_iff, Ne, gen_matchedServerName_eq_model, matchedServerName_iff]
  simp only [List.mem_singleton, List.cons.injEq, true_and]
  rintro (he | ⟨pre', suf', e', hs⟩)
  · rw [e] at he
    have : pre ++ suf = ['*', '.'] ++ suf := he
    exact hp ⟨['*'], List.append_cancel_right this⟩
  · subst hs
    rw [e] at e'
    have : pre ++ suf' = (pre' ++ ['.']) ++ suf' := by simpa using e'
    exact hp ⟨pre', List.append_cancel_right this⟩

theorem wildcard_never_bare_suffix (suf h : Name) (fuel : Nat) (e : normSni h = suf) :
    Gen.TlsMatch.matchedServerName ['*' :: '.' :: suf] h fuel = false :=
  wildcard_never_inside_a_label suf [] h fuel (by simpa using e) (by rintro ⟨p, hp⟩; simp at hp)

/-- **client_auth_table**: verify_client / require_client_cert ↦ tls.ClientAuthType, all four combinations, with the
numeric values of crypto/tls. -/
theorem client_auth_table (req ver : Bool) : getClientAuth req ver = specClientAuth req ver := by
  cases req <;> cases ver <;> decide

/-- the handshake is mutually authenticated (RequireAndVerifyClientCert) iff both flags are set. -/
theorem require_and_verify_iff (req ver : Bool) :
    getClientAuth req ver = RequireAndVerifyClientCert ↔ (req = true ∧ ver = true) := by
  cases req <;> cases ver <;> decide

/-- **server_trust_table**: with the regenerated table, `requiresClientCert` and the thresholds of the forked handshake,
the server-side handshake result for every flag combination and every peer kind is the statement's. -/
theorem server_trust_table (req ver : Bool) (p : Peer) :
    serverAccepts (getClientAuth req ver) p = specServerAccepts req ver p := by
  cases req <;> cases ver <;> cases p <;> decide

/-- **mutual_tls**: with verify_client and require_client_cert the handshake succeeds only for a peer that presents a
certificate chaining to the configured CA and proves possession of its key. -/
theorem mutual_tls (p : Peer) : serverAccepts (getClientAuth true true) p = true ↔ p = Peer.rightCA := by
  cases p <;> decide

/-- **client_verify**: on the client side verification is skipped (InsecureSkipVerify without a verify hook) iff
`insecure_skip` is set — whatever the extension hook returns. -/
theorem client_verify (hookVerify insecureSkip : Bool) :
    verifySkipped (clientVerify hookVerify insecureSkip) = insecureSkip := by
  cases hookVerify <;> cases insecureSkip <;> decide

/-- **upstream_verified**: with the default hooks an upstream handshake succeeds iff insecure_skip is set, or a
server_name is configured and the upstream certificate chains to the configured CA for that name. -/
theorem upstream_verified (insecureSkip serverNameSet : Bool) (s : ServerCert) (hookOK : Bool) :
    clientAccepts false insecureSkip serverNameSet s hookOK = true ↔
      (insecureSkip = true ∨ (serverNameSet = true ∧ s = ServerCert.rightCA)) := by
  rw [clientAccepts_eq_spec]
  cases insecureSkip <;> simp [specClientAccepts]

/-- **inspector**: on a TCP connection of a TLS-enabled listener whose first byte `b` was read, plaintext is served iff
inspector mode is on and `b ≠ 0x16`; otherwise a TLS server connection is returned. For every byte value. -/
theorem inspector (insp : Bool) (b : Nat) :
    (servesPlain (connDecision true true insp false b) = true ↔ (insp = true ∧ b ≠ 0x16)) ∧
    (servesPlain (connDecision true true insp false b) = false →
      connDecision true true insp false b = ConnResult.tls ∨ connDecision true true insp false b = ConnResult.tlsPeeked) := by
  cases insp <;> by_cases h : b = 0x16 <;> simp [connDecision, servesPlain, h]

/-- without inspector mode an enabled listener never serves plaintext on a TCP connection, whatever arrives. -/
theorem no_plaintext_without_inspector (peekFailed : Bool) (b : Nat) :
    servesPlain (connDecision true true false peekFailed b) = false := by
  simp [connDecision, servesPlain]

/-- what `Conn` does outside `ReadyTcp` (the code, described completely): the connection is returned untouched. -/
theorem passthrough_outside_ready_tcp (tcp en ins pf : Bool) (b : Nat) (h : ¬ ReadyTcp tcp en) :
    connDecision tcp en ins pf b = ConnResult.raw := by
  unfold ReadyTcp at h
  cases tcp <;> cases en <;> simp_all [connDecision]

/-- **spec_holds_on_model**: the executable predicates the driver evaluates on implementation outputs hold of the
model's outputs, for every input (`auth`, `trust`, `cv`; `trustc` for a ready provider; `insp` for a listener that is
either TCP with a ready context or in inspector mode — see `plaintext_only_when_inspector_allows` and its exceptions); for
`sel`/`hs`/`msn`/`mal` this is `select_statement` under `NamespacesApart`. -/
theorem spec_holds_on_model :
    (∀ req ver, getClientAuth req ver = specClientAuth req ver) ∧
    (∀ req ver p, serverAccepts (getClientAuth req ver) p = specServerAccepts req ver p) ∧
    (∀ hook ins, specCv hook ins (clientVerify hook ins) = true) ∧
    (∀ hook ins sn s hok, clientAccepts hook ins sn s hok = specClientAccepts hook ins sn s hok) ∧
    (∀ hook ins sn s hok, specClientConn hook ins sn s hok (clientConn true hook ins sn s hok) = true) ∧
    (∀ tcp cfgd en ins pf b, (en = true → cfgd = true) → (cfgd = true → (tcp = true ∧ en = true) ∨ ins = true) →
      specConn tcp cfgd en ins pf b (connDecision tcp en ins pf b) = true) := by
  refine ⟨client_auth_table, server_trust_table, ?_, clientAccepts_eq_spec, ?_, ?_⟩
  · intro hook ins; cases hook <;> cases ins <;> decide
  · intro hook ins sn s hok
    simp only [clientConn, clientAccepts_eq_spec, specClientAccepts, specClientConn]
    cases ins
    · generalize (if hook = true then hok else sn && s == .rightCA) = x
      cases x <;> rfl
    · rfl
  · intro tcp cfgd en ins pf b h1 h2
    cases cfgd
    · -- no TLS contexts: nothing is enabled, the connection passes through
      have he : en = false := Bool.eq_false_iff.mpr (fun h => absurd (h1 h) (by decide))
      rw [he]
      cases tcp <;> rfl
    · by_cases hr : ReadyTcp tcp en
      · obtain ⟨rfl, rfl⟩ := hr
        cases ins
        · rfl
        cases pf
        · by_cases hb : b = 22 <;> simp [connDecision, servesPlain, specConn, specPlain, hb]
        · rfl
      · -- outside ReadyTcp the connection passes through, which the predicate allows under inspector mode only
        have hi : ins = true := (h2 rfl).resolve_left hr
        rw [passthrough_outside_ready_tcp tcp en ins pf b hr, hi]
        unfold ReadyTcp at hr
        cases tcp
        · rfl
        cases en
        · rfl
        · exact absurd ⟨rfl, rfl⟩ hr

/-- **plaintext_only_when_inspector_allows**: the FULL statement "plaintext is served on a TLS listener only when inspector
mode allows it", for every connection of a listener with TLS contexts, every inspector flag, every outcome of the peek
and every first byte — under the one hypothesis `ReadyTcp` (the connection is TCP and some context is ready): plaintext
is served iff inspector mode is on, the first byte could be read and is not 0x16; and the driver's predicate `specConn`
holds of the regenerated decision. Outside `ReadyTcp` lie the two recorded findings (no context ready: sds secret
pending; transport not TCP), machine-checked in `plaintext_exception_pending` / `plaintext_exception_not_tcp`. -/
theorem plaintext_only_when_inspector_allows (tcp en ins pf : Bool) (b : Nat) (h : ReadyTcp tcp en) :
    (servesPlain (connDecision tcp en ins pf b) = true ↔ (ins = true ∧ pf = false ∧ b ≠ 0x16)) ∧
    specConn tcp true en ins pf b (connDecision tcp en ins pf b) = true := by
  obtain ⟨rfl, rfl⟩ := h
  refine ⟨by simpa using servesPlain_connDecision true true ins pf b, ?_⟩
  exact spec_holds_on_model.2.2.2.2.2 true true true ins pf b (fun _ => rfl) (fun _ => Or.inl ⟨rfl, rfl⟩)

/-- the exception, machine-checked (1): a listener with TLS contexts whose contexts are all pending serves plaintext on a
TCP connection although inspector mode is off (finding `insp … pending`). -/
theorem plaintext_exception_pending :
    ∃ tcp en ins pf b, ¬ ReadyTcp tcp en ∧ tcp = true ∧ ins = false ∧ servesPlain (connDecision tcp en ins pf b) = true ∧
      specConn tcp true en ins pf b (connDecision tcp en ins pf b) = false :=
  ⟨true, false, false, false, 0x47, by decide, rfl, rfl, by decide, by decide⟩

/-- the exception, machine-checked (2): on a transport that is not TCP plaintext is served with a ready context and
inspector mode off (finding `insp … nontcp`). -/
theorem plaintext_exception_not_tcp :
    ∃ tcp en ins pf b, ¬ ReadyTcp tcp en ∧ en = true ∧ ins = false ∧ servesPlain (connDecision tcp en ins pf b) = true ∧
      specConn tcp true en ins pf b (connDecision tcp en ins pf b) = false :=
  ⟨false, true, false, false, 0x47, by decide, rfl, rfl, by decide, by decide⟩

/-- **upstream_tls_unless_pending**: the upstream side of the same clause: with a ready provider the upstream connection is
never left in plaintext and succeeds exactly per the statement's table; the exception (provider pending: plaintext,
finding `trustc pending`) is machine-checked in `upstream_exception_pending`. -/
theorem upstream_tls_unless_pending (hook ins sn : Bool) (s : ServerCert) (hok : Bool) :
    clientConn true hook ins sn s hok ≠ ClientResult.notls ∧
    specClientConn hook ins sn s hok (clientConn true hook ins sn s hok) = true := by
  refine ⟨?_, spec_holds_on_model.2.2.2.2.1 hook ins sn s hok⟩
  unfold clientConn
  cases clientAccepts hook ins sn s hok <;> decide

theorem upstream_exception_pending :
    ∃ hook ins sn s hok, clientConn false hook ins sn s hok = ClientResult.notls ∧
      specClientConn hook ins sn s hok (clientConn false hook ins sn s hok) = false :=
  ⟨false, false, true, .selfSigned, false, by decide, by decide⟩

def exA : Ctx := ⟨true, "a.com".toList, ["*.a.com".toList], "h2".toList, []⟩
def exB : Ctx := ⟨true, [], ["b.org".toList], "http/1.1,h2".toList, "b.org".toList⟩
def exN : Ctx := ⟨false, "n.io".toList, [], [], []⟩

/-! ### listener updates: the policy in force is the last accepted configuration's

`Gen.TlsUpdate` (regenerated from `connHandler.AddOrUpdateListener`, `newActiveListener` and
`NewTLSServerContextManager`) says which expression supplies the name, the inspector flag and the TLS contexts of the
configuration the replacement context manager is built from, what is written into the stored configuration, and
whether the manager is installed. -/
section Update
open MosnVerif.Model.TlsUpdate MosnVerif.Gen.TlsUpdate

/-- **update_policy_current**: after ANY sequence of AddOrUpdateListener calls for one listener name (accepted or
rejected, any inspector flags, any context lists) the listener exists iff some call was accepted, its stored
configuration is the last accepted call's, and its LIVE context manager is the one `NewTLSServerContextManager` builds
from exactly that configuration: inspector flag and provider list are those of the last accepted update. -/
theorem update_policy_current (ops : List Op) (n : String) (hn : ∀ op ∈ ops, op.lc.name = n) :
    run ops = (lastAccepted ops).map (fun lc => (⟨lc, newManager lc⟩ : LState)) := by
  have h := foldl_apply_coherent n ops hn none (by intro lc h; cases h)
  rw [specLast_eq] at h
  simp only [Option.map_none, Option.or_none] at h
  exact h

/-- the live manager's inspector flag and provider list, spelled out. -/
theorem update_live_fields (ops : List Op) (n : String) (hn : ∀ op ∈ ops, op.lc.name = n) (st : LState)
    (h : run ops = some st) :
    ∃ lc, lastAccepted ops = some lc ∧ st.stored = lc ∧ st.live.inspector = lc.inspector ∧
      st.live.providers = lc.contexts ∧ st.live.name = n := by
  rw [update_policy_current ops n hn] at h
  cases hl : lastAccepted ops with
  | none => simp [hl] at h
  | some lc =>
    simp only [hl, Option.map_some, Option.some.injEq] at h
    subst h
    refine ⟨lc, rfl, rfl, rfl, rfl, ?_⟩
    -- the last accepted call is one of the calls, all of which carry the name n
    obtain ⟨op, hg, he⟩ := Option.map_eq_some_iff.mp hl
    simpa [newManager, he] using hn op (List.mem_filter.mp (List.mem_of_getLast? hg)).1

/-- a rejected call (its context manager cannot be built) changes nothing, whatever it carries. -/
theorem rejected_update_no_trace (s : Option LState) (lc : LCfg) : apply s ⟨lc, false⟩ = s := by
  cases s <;> rfl

/-- **inspector_current**: hence the `inspector` theorem applies to the CURRENT policy: after any sequence of calls, on
a listener whose last accepted configuration has a ready context, plaintext is served on a TCP connection with first
byte `b` iff that configuration's inspector flag is set and `b ≠ 0x16` — never the flag of a configuration that was
replaced. -/
theorem inspector_current (ops : List Op) (n : String) (hn : ∀ op ∈ ops, op.lc.name = n) (lc : LCfg)
    (hl : lastAccepted ops = some lc) (hen : lc.contexts.any (·.2.ready) = true) (b : Nat) :
    ∃ st, run ops = some st ∧ st.stored = lc ∧
      (servesPlain (st.conn b) = true ↔ (lc.inspector = true ∧ b ≠ 0x16)) := by
  refine ⟨⟨lc, newManager lc⟩, ?_, rfl, ?_⟩
  · rw [update_policy_current ops n hn, hl]; rfl
  · have he : (newManager lc).enabled = true := hen
    rw [LState.conn, he]
    exact (inspector lc.inspector b).1

/-- **certificate_current**: the context answering a ClientHello after any sequence of calls is the one
`select_precedence` picks among the contexts of the last accepted configuration. -/
theorem certificate_current (ops : List Op) (n : String) (hn : ∀ op ∈ ops, op.lc.name = n) (st : LState)
    (h : run ops = some st) (sni : Name) (protos : List Name) :
    ∃ lc, lastAccepted ops = some lc ∧ st.select sni protos = select (lc.contexts.map (·.2)) sni protos := by
  obtain ⟨lc, hl, _, _, hp, _⟩ := update_live_fields ops n hn st h
  exact ⟨lc, hl, by simp [LState.select, hp]⟩

/-- **upd_spec_holds_on_model**: the predicate the driver evaluates on `upd` lines (plaintext served iff the last
accepted configuration has no ready context or allows it by inspector mode; stored inspector flag and context count are
the last accepted configuration's) holds of the model's listener, for every call sequence and first byte. -/
theorem upd_spec_holds_on_model (ops : List Op) (n : String) (hn : ∀ op ∈ ops, op.lc.name = n) (st : LState)
    (h : run ops = some st) (b : Nat) :
    ∃ lc, specLast none ops = some lc ∧ servesPlain (st.conn b) = specPlainServed lc b ∧
      st.stored.inspector = lc.inspector ∧ st.stored.contexts.length = lc.contexts.length := by
  obtain ⟨lc, hl, hs, hi, hp, _⟩ := update_live_fields ops n hn st h
  refine ⟨lc, by rw [specLast_eq, hl]; rfl, ?_, by rw [hs], by rw [hs]⟩
  simp only [LState.conn, Manager.enabled, hi, hp, specPlainServed]
  rw [Bool.eq_iff_iff, servesPlain_connDecision]
  simp

/-! resumption: the second handshake is judged by the trust table on the peer class as it is NOW (tied to the forked
crypto/tls differentially only — kind `res`) -/

/-- **resumed_trust_table**: for every flag combination, every change between the two handshakes and every peer kind
the model's verdict on the second handshake is the statement's trust table applied to the current peer class. -/
theorem resumed_trust_table (req ver : Bool) (ch : Change) (p : Peer) :
    secondAccepts (getClientAuth req ver) ch p = specServerAccepts req ver (peerAfter ch p) :=
  server_trust_table req ver (peerAfter ch p)

/-- **mutual_tls_resumed**: with verify_client and require_client_cert a second handshake — abbreviated or full —
succeeds only for a certificate that chains to the configured CA and is valid NOW. -/
theorem mutual_tls_resumed (ch : Change) (p : Peer) :
    secondAccepts (getClientAuth true true) ch p = true ↔ peerAfter ch p = Peer.rightCA :=
  mutual_tls (peerAfter ch p)

/-- a certificate accepted by the full handshake is refused afterwards once it expired or the CA was replaced, under
both verifying modes. -/
theorem expiry_and_ca_swap_revoke (req : Bool) :
    serverAccepts (getClientAuth req true) Peer.rightCA = true ∧
    secondAccepts (getClientAuth req true) Change.clock Peer.rightCA = false ∧
    secondAccepts (getClientAuth req true) Change.caSwap Peer.rightCA = false := by
  cases req <;> decide

-- non-vacuity: a three-call history with a rejected call in the middle
def exL (i : Bool) (t : Nat) : LCfg := ⟨"l", i, [(t, exA), (t, exB)]⟩
example : (∀ op ∈ [(⟨exL true 0, true⟩ : Op), ⟨exL false 1, false⟩, ⟨exL false 2, true⟩], op.lc.name = "l") := by decide +kernel
example : lastAccepted [⟨exL true 0, true⟩, ⟨exL false 1, false⟩, ⟨exL false 2, true⟩] = some (exL false 2) := by decide +kernel
example : (run [⟨exL true 0, true⟩, ⟨exL false 1, false⟩, ⟨exL false 2, true⟩]).map (fun st => servesPlain (st.conn 0x47)) = some false := by decide +kernel
example : (run [⟨exL true 0, true⟩, ⟨exL false 1, false⟩]).map (fun st => servesPlain (st.conn 0x47)) = some true := by decide +kernel
example : (run [⟨exL true 0, true⟩, ⟨exL false 2, true⟩]).bind (fun st => st.presented "b.org".toList []) = some (2, 1) := by decide +kernel
-- what a manager lagging one update behind would do (inspector read from the replaced configuration): it differs
example : servesPlain (connDecision true true (exL true 0).inspector false 0x47) ≠
    servesPlain (connDecision true true (exL false 1).inspector false 0x47) := by decide +kernel
example : peerAfter .clock .rightCA = .expired ∧ peerAfter .caSwap .otherCA = .rightCA ∧
    secondAccepts (getClientAuth true true) .caSwap .otherCA = true := by decide +kernel

end Update

/-! ### trust anchors: a configured ca_cert is the ONLY anchor

`Gen.TlsPool` (regenerated from `defaultConfigHooks.GetX509Pool` and `newTLSContext`) says what the pool starts from
(`x509.NewCertPool` / `x509.SystemCertPool`), what is appended to it, whether an unconfigured ca_cert yields a nil pool,
and which pool is installed as `RootCAs` / `ClientCAs`. `sys` = the content of the host's root store, `cfg` = the
authorities of the configured ca_cert — both arbitrary. -/
section Trust
open MosnVerif.Model.TlsTrust MosnVerif.Gen.TlsPool

/-- the anchors of a pool of ANY shape (base constructor, appended items), for a configured ca_cert: an authority is an
anchor iff the base is the system pool and the host's store lists it, or the configured certificates are appended and
it is one of them. -/
theorem pool_anchor_iff (nw : Bool) (base : Base) (items : List Item) (sys cfg : List CA) (ca : CA) (h : cfg ≠ []) :
    ca ∈ effective (poolOf nw base items sys cfg) sys ↔
      ((base = Base.system ∧ ca ∈ sys) ∨ (Item.configured ∈ items ∧ ca ∈ cfg)) := by
  have hc : cfg.isEmpty = false := by cases cfg <;> simp_all
  have hx : (∃ x, x ∈ items) ↔ Item.configured ∈ items :=
    ⟨fun ⟨x, hx⟩ => by cases x; exact hx, fun h => ⟨_, h⟩⟩
  cases base <;> simp [poolOf, hc, effective, List.mem_flatMap, hx]

/-- as the source stands (`Gen.TlsPool`), `ClientCAs` and `RootCAs` both hold the hook's pool: the configured
authorities and nothing else, or nil — the host's store — without a ca_cert. -/
theorem anchors_eq_spec (sys cfg : List CA) :
    listenerAnchors sys cfg = specAnchors sys cfg ∧ upstreamAnchors sys cfg = specAnchors sys cfg := by
  cases cfg <;> simp [listenerAnchors, upstreamAnchors, fieldOf, clientCAsSrc, rootCAsSrc, hookPool, poolOf,
    poolNilWhenUnconfigured, poolBase, poolItems, effective, specAnchors]

/-- **trust_exact**: for EVERY content of the host's root store and EVERY configured set of authorities (ca_cert
present), in both directions (a listener verifying clients: `ClientCAs`; a cluster verifying its upstream: `RootCAs`),
an authority is a trust anchor iff it is one of the CONFIGURED ones. -/
theorem trust_exact (sys cfg : List CA) (ca : CA) (h : cfg ≠ []) :
    (ca ∈ listenerAnchors sys cfg ↔ ca ∈ cfg) ∧ (ca ∈ upstreamAnchors sys cfg ↔ ca ∈ cfg) := by
  have hc : specAnchors sys cfg = cfg := by cases cfg <;> simp_all [specAnchors]
  rw [(anchors_eq_spec sys cfg).1, (anchors_eq_spec sys cfg).2, hc]
  exact ⟨Iff.rfl, Iff.rfl⟩

/-- without a ca_cert the pool is nil and crypto/x509 uses the host's root store (what newTLSContext documents). -/
theorem unconfigured_uses_host_store (sys : List CA) :
    listenerAnchors sys [] = sys ∧ upstreamAnchors sys [] = sys :=
  anchors_eq_spec sys []

/-- **listener_trust_exact**: with verify_client and require_client_cert and a configured ca_cert a handshake succeeds
iff the peer presents a certificate that was issued by a CONFIGURED authority, is currently valid, and whose key the
peer holds — whatever the host's root store contains. -/
theorem listener_trust_exact (sys cfg : List CA) (p : Option Cert) (h : cfg ≠ []) :
    listenerAccepts sys cfg true true p = true ↔
      ∃ c, p = some c ∧ c.issuer ∈ cfg ∧ c.expired = false ∧ c.possession = true := by
  have ha : ∀ ca, ca ∈ listenerAnchors sys cfg ↔ ca ∈ cfg := fun ca => (trust_exact sys cfg ca h).1
  cases p with
  | none => simp [listenerAccepts, serverAccepts2, getClientAuth, RequestClientCert, RequireAndVerifyClientCert,
      requiresClientCert, RequireAnyClientCert]
  | some c =>
    simp only [listenerAccepts, serverAccepts2, getClientAuth, RequestClientCert, RequireAndVerifyClientCert,
      VerifyClientCertIfGiven, chainOK, Option.some.injEq, exists_eq_left']
    simp
    grind

/-- **upstream_trust_exact**: with the default hooks, insecure_skip off and a configured ca_cert an upstream handshake
succeeds iff a server_name is configured and the upstream's certificate was issued by a CONFIGURED authority, is valid
and carries that name — whatever the host's root store contains. -/
theorem upstream_trust_exact (sys cfg : List CA) (sn : Bool) (s : SCert) (h : cfg ≠ []) :
    upstreamAccepts sys cfg false false sn s = true ↔
      (sn = true ∧ s.cert.issuer ∈ cfg ∧ s.cert.expired = false ∧ s.nameOK = true) := by
  have ha : ∀ ca, ca ∈ upstreamAnchors sys cfg ↔ ca ∈ cfg := fun ca => (trust_exact sys cfg ca h).2
  simp [upstreamAccepts, clientAccepts2, clientVerify, chainOK, ha]
  grind

/-- **trust_spec_holds_on_model**: the predicates the driver evaluates on `trust2` / `trustc2` lines (the statement's
trust tables over arbitrary stores and configured sets, the sni_verify extension included) hold of the model, for every
store, configured set (present or not), flag combination and peer. -/
theorem trust_spec_holds_on_model (sys cfg : List CA) :
    (∀ req ver p, listenerAccepts sys cfg req ver p = specListenerAccepts sys cfg req ver p) ∧
    (∀ hook ins sn s, upstreamAccepts sys cfg hook ins sn s = specUpstreamAccepts sys cfg hook ins sn s) := by
  obtain ⟨hl, hu⟩ := anchors_eq_spec sys cfg
  constructor
  · intro req ver p
    rw [listenerAccepts, hl]
    cases req <;> cases ver <;> cases p <;> rfl
  · intro hook ins sn s
    rw [upstreamAccepts, hu]
    cases hook <;> cases ins <;>
      simp [clientAccepts2, specUpstreamAccepts, specTrusted, chainOK, clientVerify, Bool.and_assoc]

/-- **system_base_leaks** (the negation, for the OTHER base constructor): a pool that starts from the system pool and
appends the configured certificates trusts every authority of the host's store, configured or not. -/
theorem system_base_leaks (sys cfg : List CA) (ca : CA) (h : ca ∈ sys) :
    ca ∈ effective (poolOf true Base.system [Item.configured] sys cfg) sys := by
  cases cfg <;> simp [poolOf, effective, h]

-- non-vacuity: store {3}, configured {0, 1}; authority 2 is private and not configured, 9 = a self-signed certificate
example : ([0, 1] : List CA) ≠ [] := by decide +kernel
example : listenerAnchors [3] [0, 1] = [0, 1] ∧ upstreamAnchors [3] [0] = [0] ∧ listenerAnchors [3] [] = [3] := by decide +kernel
example : listenerAccepts [3] [0, 1] true true (some ⟨1, false, true⟩) = true ∧
    listenerAccepts [3] [0, 1] true true (some ⟨3, false, true⟩) = false ∧
    listenerAccepts [3] [0, 1] true true (some ⟨0, true, true⟩) = false ∧
    listenerAccepts [3] [0, 1] true true (some ⟨0, false, false⟩) = false ∧
    listenerAccepts [3] [0, 1] false true none = true ∧
    listenerAccepts [3] [] true true (some ⟨3, false, true⟩) = true := by decide +kernel
example : upstreamAccepts [3] [0] false false true ⟨⟨0, false, true⟩, true, false⟩ = true ∧
    upstreamAccepts [3] [0] false false true ⟨⟨3, false, true⟩, true, false⟩ = false ∧
    upstreamAccepts [3] [0] true false false ⟨⟨0, false, true⟩, false, true⟩ = true ∧
    upstreamAccepts [3] [0] true false false ⟨⟨3, false, true⟩, false, true⟩ = false := by decide +kernel
-- NEGATION WITNESS: with the system pool as the base, authority 3 of the host's store is an anchor of a context whose
-- ca_cert configures authority 0 only — `trust_exact` fails for that shape
example : ∃ sys cfg ca, cfg ≠ [] ∧ ca ∈ effective (poolOf true Base.system [Item.configured] sys cfg) sys ∧ ca ∉ cfg :=
  ⟨[3], [0], 3, by decide +kernel⟩
example : serverAccepts2 (getClientAuth true true) (effective (poolOf true Base.system [Item.configured] [3] [0]) [3])
    (some ⟨3, false, true⟩) = true := by decide +kernel

end Trust

/-! ### non-vacuity and the machine-checked witnesses of the shared-namespace discrepancy -/

-- the hypothesis of `select_statement` is satisfiable by a non-trivial case (wildcard match on the 2nd rule, a context
-- with an EMPTY SAN in the list)
def exE : Ctx := ⟨true, [], [[], "e.org".toList], [], []⟩
example : NamespacesApart [exN, exE, exB, exA] "x.y.A.com.".toList ["h2".toList] := by decide +kernel
example : Gen.TlsMatch.getConfigForClient (provs [exN, exE, exB, exA] 0) "x.y.A.com.".toList ["h2".toList] 0 = .config (some 3) := by decide +kernel
example : select [exN, exB, exA] "x.y.A.com.".toList ["h2".toList] = .config (some 2) := by decide +kernel
example : select [exN, exB, exA] "c.net".toList ["h2".toList] = .config (some 1) := by decide +kernel   -- ALPN rule
example : select [exN, exB, exA] "c.net".toList [] = .config (some 1) := by decide +kernel              -- default skips the non-ready
example : select [exN] "n.io".toList [] = .errNoCert := by decide +kernel
-- an SNI-less ClientHello falls to the ALPN rule / default (after the fixes of the empty server_name / empty SAN keys)
example : select [exA, exB] [] ["http/1.1".toList] = .config (some 1) := by decide +kernel
example : select [exE, exA, exB] [] ["http/1.1".toList] = .config (some 2) := by decide +kernel
example : buildMatch exE = ["e.org".toList] := by decide +kernel
-- the regenerated buildMatch: which strings enter `matches` (lower-cased; unsupported ALPN tokens and empty names never)
example : Gen.TlsMatch.buildMatch [some ⟨"Cn.X".toList, ["A.b".toList, [], "*.C".toList]⟩, none] (Gen.TlsMatch.alpnFilter "H2,bogus,,sofa".toList) "Sn".toList =
    ["cn.x", "a.b", "*.c", "h2", "sofa", "sn"].map String.toList := by decide +kernel
-- wildcard_labels instances: one OR MORE labels, empty labels count, never the bare suffix, never a partial label
example : Gen.TlsMatch.matchedServerName ["*.a.com".toList] "x.a.com".toList 0 = true ∧
    Gen.TlsMatch.matchedServerName ["*.a.com".toList] "y.x.A.COM..".toList 0 = true ∧
    Gen.TlsMatch.matchedServerName ["*.a.com".toList] ".a.com".toList 0 = true ∧
    Gen.TlsMatch.matchedServerName ["*.a.com".toList] "*.a.com".toList 0 = true ∧
    Gen.TlsMatch.matchedServerName ["*.a.com".toList] "a.com".toList 0 = false ∧
    Gen.TlsMatch.matchedServerName ["*.a.com".toList] "xa.com".toList 0 = false ∧
    Gen.TlsMatch.matchedServerName ["*.a.com".toList] "x.a.com.b".toList 0 = false := by decide +kernel
example : normSni "y.x.A.COM..".toList = joinDot (["y".toList, "x".toList] ++ ["a.com".toList]) := by decide +kernel
example : normSni "xa.com".toList = "x".toList ++ "a.com".toList ∧ ¬ ∃ p, "x".toList = p ++ ['.'] := by
  refine ⟨by decide +kernel, ?_⟩; rintro ⟨p, hp⟩; cases p <;> simp at hp
-- NEGATION WITNESS 1 (SNI = ALPN token): SNI `h2` selects the context offering ALPN h2 although no name matches and the
-- client offers no ALPN: the statement selects the first ready context
example : select [exB, exA] "h2".toList [] = .config (some 0) ∧ specSelect [⟨true, "c.net".toList, [], [], []⟩, exA] "h2".toList [] = some 0 ∧
    select [⟨true, "c.net".toList, [], [], []⟩, exA] "h2".toList [] = .config (some 1) := by decide +kernel
-- NEGATION WITNESS 2 (client ALPN entry = name): a client ALPN entry `a.com` "intersects" the context named a.com
example : specSelect [⟨true, "c.net".toList, [], [], []⟩, exA] "zzz".toList ["a.com".toList] = some 0 ∧
    select [⟨true, "c.net".toList, [], [], []⟩, exA] "zzz".toList ["a.com".toList] = .config (some 1) := by decide +kernel
example : ∃ ps sni protos, select ps sni protos ≠ ofOpt (specSelect ps sni protos) :=
  ⟨[⟨true, "c.net".toList, [], [], []⟩, exA], "h2".toList, [], by decide +kernel⟩
-- NEGATION WITNESSES of the pass-through: inspector off, TLS contexts configured, plaintext served
example : servesPlain (connDecision true false false false 0x47) = true ∧ specConn true true false false false 0x47 (connDecision true false false false 0x47) = false := by decide +kernel
example : servesPlain (connDecision false true false false 0x47) = true := by decide +kernel
example : clientConn false false false true .selfSigned false = .notls ∧ specClientConn false false true .selfSigned false .notls = false := by decide +kernel
-- client-auth / trust / verification / inspector instances
example : getClientAuth true false = RequestClientCert ∧ getClientAuth false true = VerifyClientCertIfGiven := by decide +kernel
example : serverAccepts (getClientAuth true true) .stolenKey = false ∧ serverAccepts (getClientAuth false false) .none = true := by decide +kernel
example : clientVerify true false = (true, true) ∧ clientVerify true true = (true, false) := by decide +kernel
example : connDecision true true true false 0x47 = .plainPeeked ∧ connDecision true true true false 0x16 = .tlsPeeked := by decide +kernel

/-! ## No downgrade to plaintext (upstream connect, downstream accept)

`tryConnect`, `clientMngConn`, `mngFallback`, `acceptDecision` are regenerated from pkg/network/connection.go,
pkg/mtls/tls_context_manager.go and pkg/server/handler.go (`Gen/TlsConnect.lean`); the guard of the plaintext re-dial is
rendered as a boolean expression over the manager's fallback flag and named predicates of the handshake error. -/
section NoDowngrade
open MosnVerif.Model.TlsConnect MosnVerif.Lemmas.TlsConnect MosnVerif.Gen.TlsConnect MosnVerif.Gen.TlsPolicy

/-- **connect_meets_spec**: for every cluster TLS configuration, every handshake outcome and every outcome of the two
dials, the regenerated `tryConnect` (over the regenerated `clientContextManager.Conn` / `Fallback`) ends where the
statement says, and opens exactly the connections the statement allows. -/
theorem connect_meets_spec (c : Cfg) (hs : Hs) (d1 d2 : Bool) :
    reached (connect c hs d1 d2) = specReached c hs d1 d2 ∧ (connect c hs d1 d2).dials = specDials c hs d1 ∧
    ((connect c hs d1 d2).event = .connected ↔ specReached c hs d1 d2 ≠ .failed) := by
  refine ⟨reached_connect c hs d1 d2, dials_connect c hs d1 d2, ?_⟩
  rw [connect_eq]
  unfold specReached
  cases d1
  · simp
  cases c.tls
  · simp
  cases hs == Hs.ok
  · cases c.fallback <;> cases d2 <;> simp [dialEvent]
  · simp

/-- **no_downgrade_without_fallback**: for EVERY failing handshake outcome (bad certificate, alert, reset, EOF, timeout,
other), a connect ends in a plaintext connection iff the first dial succeeded and (TLS is not configured, or `fallback`
is set and the re-dial succeeded). No predicate of the error takes part. -/
theorem no_downgrade_without_fallback (c : Cfg) (hs : Hs) (d1 d2 : Bool) (hne : hs ≠ .ok) :
    reached (connect c hs d1 d2) = .plainConnected ↔
      d1 = true ∧ (c.tls = false ∨ (c.fallback = true ∧ d2 = true)) := by
  have hok : (hs == Hs.ok) = false := beq_false_of_ne hne
  rw [reached_connect, specReached, hok]
  cases d1 <;> cases c.tls <;> cases c.fallback <;> cases d2 <;> simp

/-- **tls_only_never_plain**: TLS configured, `fallback` off: whatever the upstream does, the connect never ends in
plaintext, MOSN dials exactly once (no second, plaintext connection is ever opened), and a failed handshake is reported
as a failed connect. -/
theorem tls_only_never_plain (c : Cfg) (htls : c.tls = true) (hfb : c.fallback = false) (hs : Hs) (d1 d2 : Bool) :
    reached (connect c hs d1 d2) ≠ .plainConnected ∧ (connect c hs d1 d2).dials = 1 ∧
    (hs ≠ .ok → (connect c hs d1 d2).failed = true ∧ (connect c hs d1 d2).event ≠ .connected) := by
  refine ⟨?_, ?_, fun hne => ?_⟩
  · rw [reached_connect, specReached, htls, hfb]
    cases d1 <;> cases hs == Hs.ok <;> simp
  · rw [dials_connect, specDials, hfb]
    simp
  · rw [connect_eq, htls, hfb, beq_false_of_ne hne]
    cases d1 <;> simp

/-- **redial_guard_is_fallback**: the second (plaintext) dial happens iff the first dial succeeded, TLS is configured,
the handshake failed and the `fallback` flag of the cluster's TLS configuration is set. -/
theorem redial_guard_is_fallback (c : Cfg) (hs : Hs) (d1 d2 : Bool) :
    (connect c hs d1 d2).dials = 2 ↔ (d1 = true ∧ c.tls = true ∧ hs ≠ .ok ∧ c.fallback = true) := by
  rw [dials_connect, specDials]
  simp [and_assoc]

/-- a completed handshake gives a TLS connection (never plaintext), with or without `fallback` -/
theorem handshake_ok_is_tls (c : Cfg) (htls : c.tls = true) (d2 : Bool) :
    reached (connect c .ok true d2) = .tlsConnected := by
  rw [reached_connect, specReached, htls]
  rfl

/-- **accept_plain_iff**: an accepted downstream connection is served in plaintext iff the listener has no TLS manager,
or the connection was handed over by the old process (it is wrapped there), or it is not TCP / no context is ready (the
two known pass-through findings), or inspector mode is on and the first byte read is not 0x16. For every first byte. -/
theorem accept_plain_iff (hasMng tr tcp en ins pf : Bool) (b : Nat) :
    accepted hasMng tr tcp en ins pf b = .plain ↔
      (hasMng = false ∨ tr = true ∨ tcp = false ∨ en = false ∨ (ins = true ∧ pf = false ∧ b ≠ 0x16)) := by
  rw [accepted_plain, servesPlain_connDecision]

/-- **tls_only_listener_never_plain**: a TCP listener with a ready TLS context and inspector off serves every accepted
connection through a TLS server connection: no first byte, no peek outcome leads to plaintext; an error of the
manager closes the connection. -/
theorem tls_only_listener_never_plain (pf : Bool) (b : Nat) :
    accepted true false true true false pf b = .tls ∧
    (∀ tr tcp en ins, accepted true tr tcp en ins pf b = .closed → (ins = true ∧ pf = true)) := by
  refine ⟨rfl, fun tr tcp en ins h => ?_⟩
  have h := (accepted_closed true tr tcp en ins pf b).mp h
  exact ⟨h.2.2.2.2.1, h.2.2.2.2.2⟩

-- instances: every failing outcome without fallback fails; with fallback it re-dials in plaintext
example : Hs.all.map (fun hs => reached (connect ⟨true, true, false⟩ hs true true)) =
    [.tlsConnected, .failed, .failed, .failed, .failed, .failed, .failed] := by decide +kernel
example : Hs.all.map (fun hs => reached (connect ⟨true, true, true⟩ hs true true)) =
    [.tlsConnected, .plainConnected, .plainConnected, .plainConnected, .plainConnected, .plainConnected, .plainConnected] := by decide +kernel
example : (connect ⟨true, true, true⟩ .timeout true false).dials = 2 ∧ reached (connect ⟨true, true, true⟩ .timeout true false) = .failed := by decide +kernel
-- hypotheses of tls_only_never_plain are satisfiable
example : (⟨true, true, false⟩ : Cfg).tls = true ∧ (⟨true, true, false⟩ : Cfg).fallback = false := by decide +kernel
/-- NEGATION WITNESS: the guard of the re-dial with one more disjunct (`fallback ∨ the error is a net.Error timeout`,
"the peer does not speak TLS") -/
def connectTimeoutDowngrade (c : Cfg) (hs : Hs) (dial1 dial2 : Bool) : Try :=
  let m := clientMngConn true c.enabled (hs == .ok)
  tryConnect dial1 c.hasMng m.1 m.2 hs.isEOF hs.isNetError hs.isTimeout
    (mngFallback c.fallback || (hs.isNetError && hs.isTimeout)) dial2
example : reached (connectTimeoutDowngrade ⟨true, true, false⟩ .timeout true true) = .plainConnected ∧
    (connectTimeoutDowngrade ⟨true, true, false⟩ .timeout true true).dials = 2 ∧
    reached (connectTimeoutDowngrade ⟨true, true, false⟩ .timeout true true) ≠ specReached ⟨true, true, false⟩ .timeout true true := by decide +kernel
example : accepted true false true true true false 0x47 = .plain ∧ accepted true false true true true false 0x16 = .tls ∧
    accepted true false true true true true 0 = .closed ∧ accepted false false true true false false 0x16 = .plain := by decide +kernel
end NoDowngrade
/-! ## sds-backed contexts under configuration updates (pkg/mtls/secret_manager.go; `Gen/TlsSds.lean`) -/
section SdsUpdate
open MosnVerif.Model.TlsSds MosnVerif.Lemmas.TlsSds MosnVerif.Gen.TlsSds

/-- **sds_context_follows_latest_config**: for EVERY initial configuration, EVERY secret the pem provider may already
hold, EVERY sequence of configuration updates (listener / cluster updates through NewProvider → updateConfig, whatever
the value `g` of a guard around the rebuild), secret pushes and empty pushes, the TLS context in force is built from the
LATEST configuration and the LATEST secret (none before the first secret), and the stored configuration / secret are
the latest ones. `updateConfig`'s store and rebuild, the rebuild of a push and `update()`'s guard are regenerated. -/
theorem sds_context_follows_latest_config {κ σ : Type} (cfg0 : κ) (s0 : Option σ) (g : Bool) (ops : List (SOp κ σ)) :
    (run cfg0 s0 g ops).ctx = specCtx cfg0 s0 ops ∧
    (run cfg0 s0 g ops).config = latestCfg cfg0 ops ∧ (run cfg0 s0 g ops).secret = latestSecret s0 ops := by
  have hc := foldl_coherent ops _ (create_coherent cfg0 s0 g)
  have hf := foldl_fields ops (create cfg0 s0 g)
  rw [(create_fields cfg0 s0 g).1, (create_fields cfg0 s0 g).2] at hf
  refine ⟨?_, hf.1, hf.2⟩
  unfold Coherent at hc
  unfold run specCtx
  rw [hc, hf.1, hf.2]

/-- **sds_context_current_at_every_point**: the same after every prefix of the history (a handshake made between any
two operations meets the context of the latest configuration). -/
theorem sds_context_current_at_every_point {κ σ : Type} (cfg0 : κ) (s0 : Option σ) (g : Bool) (ops : List (SOp κ σ)) (n : Nat) :
    (run cfg0 s0 g (ops.take n)).ctx = specCtx cfg0 s0 (ops.take n) :=
  (sds_context_follows_latest_config cfg0 s0 g (ops.take n)).1

/-- a policy-only update takes effect at once: after `update cfg` the context (if a secret is there) carries `cfg` -/
theorem sds_update_takes_effect {κ σ : Type} (cfg0 : κ) (s0 : Option σ) (g g' : Bool) (ops : List (SOp κ σ)) (cfg : κ) (s : σ)
    (hs : latestSecret s0 ops = some s) :
    (run cfg0 s0 g (ops ++ [.update cfg g'])).ctx = some (cfg, s) := by
  rw [(sds_context_follows_latest_config cfg0 s0 g _).1]
  simp [specCtx, latestCfg_append, latestSecret_append, latestCfg, latestSecret, hs]

/-- the listener of the run answers as the statement says for EVERY policy, SNI and peer: its contexts have no ALPN
and the client offers none, so names and ALPN tokens cannot be confused. -/
theorem listenerPick_eq_spec (pol : Option LPol) (sni : Name) (peer : Peer) :
    listenerPick pol sni peer = specListenerPick pol sni peer := by
  have hns : NamespacesApart (listenerCtxs (pol.map (fun q => (q, 0)))) sni [] := by
    intro c hc _
    have ha : c.alpn = [] := by
      cases pol <;> simp only [listenerCtxs, Option.map, List.mem_cons, List.not_mem_nil, or_false] at hc <;>
        rcases hc with rfl | rfl <;> rfl
    rw [ha]
    exact ⟨List.not_mem_nil, fun q hq => nomatch hq⟩
  unfold listenerPick specListenerPick
  rw [select_eq_specSelect _ _ _ hns]
  cases specSelect (listenerCtxs (pol.map (fun q => (q, 0)))) sni [] with
  | none => rfl
  | some i =>
    cases i with
    | zero => simp only [ofOpt, server_trust_table, specServerAccepts]
    | succ j => cases pol <;> simp only [ofOpt, server_trust_table]

/-- **sdsu_listener_spec_holds_on_model** / **sdsu_cluster_spec_holds_on_model**: what a handshake observes on the model's context is what the statement's tables give
for the same context — listener side for every policy over the run's server names, every SNI of the run and every peer
class; cluster side for every policy, server certificate class and hook verdict. -/
theorem sdsu_listener_spec_holds_on_model (pol : Option LPol) (sni : Name) (peer : Peer)
    (hp : ∀ q, pol = some q → q.sname ∈ [[], snA, snB]) (hs : sni ∈ [sdsCN, snA, snB, snNone, defaultCN]) :
    listenerPick pol sni peer = specListenerPick pol sni peer :=
  listenerPick_eq_spec pol sni peer

theorem sdsu_cluster_spec_holds_on_model (ctx : Option (CPol × Nat)) (cert : ServerCert) (hookOK : Bool) :
    clusterObs ctx cert hookOK = specClusterObs ctx cert hookOK := by
  cases ctx with
  | none => rfl
  | some c =>
    obtain ⟨⟨i, s, h⟩, k⟩ := c
    simp only [clusterObs, specClusterObs, Option.map, clientAccepts_eq_spec]

-- instances: a listener that turns on require_client_cert + verify_client after its secret arrived
example : (run (⟨false, false, []⟩ : LPol) none true [.push 1, .update ⟨true, true, []⟩ true]).ctx = some (⟨true, true, []⟩, 1) := by decide +kernel
example : listenerObs (some (⟨true, true, []⟩, 1)) sdsCN .none = some (some 1, false) ∧
    listenerObs (some (⟨false, false, []⟩, 1)) sdsCN .none = some (some 1, true) ∧
    listenerObs (some (⟨false, false, snA⟩, 1)) snA .none = some (some 1, true) ∧
    listenerObs (some (⟨false, false, snB⟩, 1)) snA .none = some (none, true) ∧
    listenerObs none sdsCN .stolenKey = some (none, true) := by decide +kernel
example : clusterObs (some (⟨false, true, false⟩, 2)) .otherCA false = some (2, false) ∧
    clusterObs (some (⟨true, true, false⟩, 2)) .otherCA false = some (2, true) := by decide +kernel
/-- NEGATION WITNESS: `updateConfig` that rebuilds only when the tls.Config template changed (`g` = it changed): a
policy-only update (g = false) leaves the old context in force until the next push — a listener that just turned on
require_client_cert / verify_client still accepts a client without certificate. -/
def stepTemplateOnly {κ σ : Type} (p : Prov κ σ) : SOp κ σ → Prov κ σ
  | .update cfg g => let p' := { p with config := cfg }; if g then rebuild p' else p'
  | op => step p op
example :
    let ops : List (SOp LPol Nat) := [.push 1, .update ⟨true, true, []⟩ false]
    let p := ops.foldl stepTemplateOnly (create ⟨false, false, []⟩ none true)
    p.ctx = some (⟨false, false, []⟩, 1) ∧ p.ctx ≠ specCtx ⟨false, false, []⟩ none ops ∧
    listenerObs p.ctx sdsCN .none = some (some 1, true) ∧
    specListenerObs (specCtx ⟨false, false, []⟩ none ops) sdsCN .none = some (some 1, false) ∧
    ((ops ++ [SOp.pushEmpty]).foldl stepTemplateOnly (create (⟨false, false, []⟩ : LPol) none true)).ctx = some ((⟨true, true, []⟩ : LPol), 1) := by decide +kernel
end SdsUpdate
/-! ## sds contexts that share secret names (pkg/mtls/tls_context_manager.go, secret_manager.go; `Gen/TlsShare.lean`)

The provider cache is keyed by (validation secret name, certificate secret name, index); `Gen.TlsShare.serverIndex` is the
index `NewTLSServerContextManager` gives the context at a position of a listener (regenerated), `cacheKey` the regenerated
key. -/
section SharedSecrets
open MosnVerif.Model.TlsShare MosnVerif.Lemmas.TlsShare MosnVerif.Gen.TlsShare

/-- **provider_index_injective**: the regenerated provider index determines listener name AND position: no two contexts of
one listener, and no two listeners, share a provider index; a cluster's index is never a listener's. -/
theorem provider_index_injective (name name' : Name) (n n' : Nat) :
    (serverIndex name n = serverIndex name' n' → name = name' ∧ n = n') ∧
    (∀ c, clientIndex c ≠ serverIndex name n) ∧ (∀ c c', clientIndex c = clientIndex c' → c = c') :=
  ⟨serverIndex_injective name name' n n', fun c => clientIndex_ne_serverIndex c name n, clientIndex_injective⟩

/-- **update_policy_current_shared** (`update_policy_current` / `sds_context_follows_latest_config` for contexts that share
secret names): after ANY history of listener builds (any listeners, any context lists, contexts naming the same or
different certificate / validation secrets in any pattern, static contexts in between), cluster builds and secret
deliveries, the tls context in force at EVERY position of the latest build of a listener is built from THAT position's
own configuration and the latest complete secret of the names it uses — never from another context's configuration. -/
theorem update_policy_current_shared {κ : Type} (ops : List (COp κ)) (name : Name) (cs : List (Option (SCtx κ)))
    (h : lastBuild ops name = some cs) (i : Nat) (c : SCtx κ) (hc : cs[i]? = some (some c)) :
    ctxAt (run ops) name i c.ref = specCtxAt (run ops) c := by
  obtain ⟨h1, h2⟩ := foldl_inv ops _ _ (empty_inv (κ := κ))
  obtain ⟨p, hp, hcfg⟩ := h2 name cs h i c hc
  obtain ⟨hco, hsec⟩ := h1 _ p hp
  unfold ctxAt specCtxAt
  show (((run ops).provs (serverKey name i c.ref)).bind (·.ctx)) = _
  unfold run
  rw [hp]
  simp only [Option.bind_some]
  rw [hco, hsec, hcfg, pemOf_serverKey]

/-- the contexts the live manager selects among ARE the configured ones, each with its own configuration. -/
theorem manager_view_is_configured (names : Name → Nat → Name × List Name) (statics : Nat → Ctx) (ops : List (COp LCfg))
    (name : Name) (cs : List (Option (SCtx LCfg))) (h : lastBuild ops name = some cs) :
    managerView names statics (run ops) name cs = specView names statics (run ops) cs := by
  unfold managerView specView
  apply viewFrom_congr
  intro i c hc
  simp only [Nat.zero_add]
  rw [update_policy_current_shared ops name cs h i c hc]

/-- **select_statement_shared**: `select_statement` for a listener whose sds contexts share secret names in any pattern:
the regenerated `GetConfigForClient`, run on the providers the live manager holds, selects by the statement's rule among
the CONFIGURED contexts (own server_name / alpn, the certificate names of the latest secret; not ready while the secret
is incomplete), under `NamespacesApart`. -/
theorem select_statement_shared (names : Name → Nat → Name × List Name) (statics : Nat → Ctx) (ops : List (COp LCfg))
    (name : Name) (cs : List (Option (SCtx LCfg))) (h : lastBuild ops name = some cs)
    (sni : Name) (protos : List Name) (fuel : Nat)
    (hns : NamespacesApart (specView names statics (run ops) cs) sni protos) :
    Gen.TlsMatch.getConfigForClient (provs (managerView names statics (run ops) name cs) 0) sni protos fuel =
      ofOpt (specSelect (specView names statics (run ops) cs) sni protos) := by
  rw [manager_view_is_configured names statics ops name cs h]
  exact select_statement _ sni protos fuel hns

/-- **client_auth_table_shared**: `client_auth_table` for such a listener: the ClientAuthType in force at every position is
the statement's table on THAT position's verify_client / require_client_cert (once its secret is complete). -/
theorem client_auth_table_shared (ops : List (COp LCfg)) (name : Name) (cs : List (Option (SCtx LCfg)))
    (h : lastBuild ops name = some cs) (i : Nat) (c : SCtx LCfg) (hc : cs[i]? = some (some c)) :
    authOf (ctxAt (run ops) name i c.ref) =
      (pemSecret (run ops) (c.ref.val, c.ref.cert)).map (fun _ => specClientAuth c.cfg.require c.cfg.verify) := by
  rw [update_policy_current_shared ops name cs h i c hc]
  unfold specCtxAt
  cases pemSecret (run ops) (c.ref.val, c.ref.cert) with
  | none => rfl
  | some s => simp [authOf, client_auth_table]

/-- **client_auth_table_every_kind**: `client_auth_table` / `require_and_verify_iff` for EVERY kind of context — static with
ca_cert, static without (host root store), sds with a validation secret, sds WITHOUT a validation secret (host root store)
— ready or pending: a built context's ClientAuthType is the statement's table on ITS verify_client / require_client_cert
and nothing else (RequireAndVerifyClientCert iff both are set; a pending context has none and is never selected).
Regenerated: the fields GetClientAuth reads are exactly the two flags, and every context's tls.Config.ClientAuth is set,
unconditionally, from GetClientAuth of its own configuration. -/
theorem client_auth_table_every_kind (k : CtxKind) (req ver : Bool) :
    getClientAuthReads = ["RequireClientCert", "VerifyClient"] ∧ clientAuthFromHookForEveryContext = true ∧
    ctxClientAuth k true req ver = some (specClientAuth req ver) ∧
    (ctxClientAuth k true req ver = some RequireAndVerifyClientCert ↔ (req = true ∧ ver = true)) ∧
    ctxClientAuth k false req ver = none := by
  refine ⟨by decide, by decide, ?_, ?_, rfl⟩
  · simp [ctxClientAuth, client_auth_table]
  · simp only [ctxClientAuth, ↓reduceIte, Option.some.injEq]
    exact require_and_verify_iff req ver

/-- **server_trust_every_kind**: hence the server-side handshake result of every kind of context is the statement's trust
table on its flags and the peer's class relative to ITS trust anchor (the configured CA, or the host's root store for a
context without ca_cert / validation secret — `unconfigured_uses_host_store`): with verify_client and require_client_cert
only a peer proving possession of a certificate of that anchor gets through, whatever the kind. -/
theorem server_trust_every_kind (k : CtxKind) (req ver : Bool) (p : Peer) :
    (ctxClientAuth k true req ver).map (fun a => serverAccepts a p) = some (specServerAccepts req ver p) ∧
    ((ctxClientAuth k true true true).map (fun a => serverAccepts a p) = some true ↔ p = Peer.rightCA) := by
  refine ⟨by simp [ctxClientAuth, server_trust_table], ?_⟩
  simp only [ctxClientAuth, ↓reduceIte, Option.map_some, Option.some.injEq]
  exact mutual_tls p

example : CtxKind.all.map (fun k => ctxClientAuth k true true true) = [some 4, some 4, some 4, some 4] ∧
    ctxClientAuth .sdsWithoutValidation true false true = some 3 ∧ ctxClientAuth .sdsWithoutValidation false true true = none := by decide +kernel
-- NEGATION WITNESS (the seeded class): verify_client read as false for an sds context without validation secret turns
-- verify+require into RequestClientCert and lets a peer without trusted certificate through
example : getClientAuth true false = RequestClientCert ∧ serverAccepts (getClientAuth true false) .selfSigned = true ∧
    specServerAccepts true true .selfSigned = false ∧ serverAccepts (getClientAuth false false) .none = true ∧
    specServerAccepts false true .otherCA = false := by decide +kernel

def shA : SCtx LCfg := ⟨⟨true, true, "a.com".toList, []⟩, ⟨"rootca".toList, "default".toList⟩⟩
def shB : SCtx LCfg := ⟨⟨false, false, "b.org".toList, "h2".toList⟩, ⟨"rootca".toList, "default".toList⟩⟩
def shNames : Name → Nat → Name × List Name := fun c _ => (c, [c])
def shOps : List (COp LCfg) := [.build "l".toList [some shA, none, some shB] true, .complete ("rootca".toList, "default".toList) 1,
  .build "m".toList [some shB] true, .complete ("rootca".toList, "default".toList) 2]
-- two contexts of ONE listener naming the same secrets keep their own policies; a later listener and a rotation do not disturb them
example : lastBuild shOps "l".toList = some [some shA, none, some shB] := by decide +kernel
example : ctxAt (run shOps) "l".toList 0 shA.ref = some (shA.cfg, 2) ∧ ctxAt (run shOps) "l".toList 2 shB.ref = some (shB.cfg, 2) := by decide +kernel
example : authOf (ctxAt (run shOps) "l".toList 0 shA.ref) = some 4 ∧ authOf (ctxAt (run shOps) "l".toList 2 shB.ref) = some 0 := by decide +kernel
example : serverIndex "l".toList 12 = "server_12_l".toList ∧ clientIndex "c".toList = "client_c".toList := by decide +kernel
-- NEGATION WITNESS (the repaired defect: every context of a listener had the index server_<listener>): two contexts behind
-- ONE cache key — the configuration of the last one is the configuration of both
example : ((addOrUpdate (addOrUpdate (Cache.empty : Cache LCfg) (cacheKey shA.ref.val shA.ref.cert "server_l".toList) shA.cfg true)
    (cacheKey shB.ref.val shB.ref.cert "server_l".toList) shB.cfg true).provs (cacheKey shA.ref.val shA.ref.cert "server_l".toList)).map (·.config) =
    some shB.cfg := by decide +kernel
end SharedSecrets

/-! ## the accept path with use_original_dst (pkg/server/handler.go, originaldst listener filter; `Gen/TlsAccept.lean`) -/
section AcceptPath
open MosnVerif.Model.TlsAccept MosnVerif.Lemmas.TlsAccept MosnVerif.Gen.TlsAccept MosnVerif.Gen.TlsConnect

/-- **every_accepted_connection_passes_its_listeners_tls**: for EVERY table of listeners (which of the accepting listener
A, the listener B matching the original destination and the fallback-ip listener C have a TLS manager, which managers
fail), every outcome of the original-destination lookup (read or not, B exists or not, C exists or not), with and
without use_original_dst, transferred or not: the path from the raw accept ends in `newConnection` of the listener that
must own the connection (B, else C, else A) and on the way the connection went through `tlsMng.Conn` of exactly that
listener, exactly once, and of no other (not at all when the owner has no manager or the old process already wrapped
it) — or the owner's manager failed and the connection was closed. The guard around the TLS block, the filter's three
answers, the end of the filter chain and the three branches of UseOriginalDst are regenerated. -/
theorem every_accepted_connection_passes_its_listeners_tls (e : Env) (useOrig : Bool) (htcp : e.isTCP = true) :
    let tr := accept e 3 .self useOrig
    let o := specOwner useOrig e.lookupOk e.matched e.localMatched
    (tr.getLast? = some (.serve o) ∧ wraps tr = (if e.mng o && !e.transferred then [o] else [])) ∨
    (tr = [.closed o] ∧ e.mng o = true ∧ e.transferred = false ∧ e.mngErr o = true) := by
  dsimp only
  rw [accept_eq_owner e 1 useOrig htcp, accept_direct]
  generalize specOwner useOrig e.lookupOk e.matched e.localMatched = o
  cases e.mng o
  · simp [wraps]
  cases e.transferred
  · cases e.mngErr o <;> simp [wraps]
  · simp [wraps]

/-- **tls_listener_with_original_dst_never_raw**: a listener with a TLS manager never serves a freshly accepted TCP
connection that did not go through its `tlsMng.Conn` — whichever way the connection reached it. -/
theorem tls_listener_with_original_dst_never_raw (e : Env) (useOrig : Bool) (htcp : e.isTCP = true) (hnt : e.transferred = false)
    (t : Target) (hs : (accept e 3 .self useOrig).getLast? = some (.serve t)) (hm : e.mng t = true) :
    wraps (accept e 3 .self useOrig) = [t] := by
  have h := every_accepted_connection_passes_its_listeners_tls e useOrig htcp
  simp only at h
  rcases h with ⟨h1, h2⟩ | ⟨h1, _⟩
  · rw [h1] at hs
    have : specOwner useOrig e.lookupOk e.matched e.localMatched = t := by simpa using hs
    rw [this] at h2
    simpa [hm, hnt] using h2
  · rw [h1] at hs; simp at hs

-- instances: the three outcomes, the failed lookup, a listener without use_original_dst
def exAll : Env := ⟨fun _ => true, fun _ => false, false, true, true, true, true⟩
example : accept exAll 3 .self true = [.wrap .matched, .serve .matched] := by decide +kernel
example : accept { exAll with matched := false } 3 .self true = [.wrap .localFallback, .serve .localFallback] := by decide +kernel
example : accept { exAll with matched := false, localMatched := false } 3 .self true = [.wrap .self, .serve .self] := by decide +kernel
example : accept { exAll with lookupOk := false } 3 .self true = [.wrap .self, .serve .self] := by decide +kernel
example : accept exAll 3 .self false = [.wrap .self, .serve .self] := by decide +kernel
example : accept { exAll with mngErr := fun _ => true, matched := false } 3 .self true = [.closed .localFallback] := by decide +kernel
example : exAll.isTCP = true := rfl
/-- NEGATION WITNESS 1: the 'nothing matches' branch of UseOriginalDst serving the connection directly
(`arc.activeListener.newConnection(ctx, arc.rawc)`, "avoid accepting twice"): a listener with TLS contexts serves the
raw socket. -/
def acceptDirectSelf (e : Env) (useOrig : Bool) : List Ev :=
  let pre := if acceptWrapGuard useOrig && e.mng .self && !e.transferred then [Ev.wrap .self] else []
  if acceptAddsOrigDst useOrig then
    match origDstFilter true e.lookupOk e.isTCP with
    | .redirect addrSet =>
      if addrSet && e.matched then pre ++ accept e 2 .matched false
      else if addrSet && e.localMatched then pre ++ accept e 2 .localFallback false
      else pre ++ [.serve .self]
    | _ => pre ++ [.serve .self]
  else pre ++ [.serve .self]
example : acceptDirectSelf { exAll with matched := false, localMatched := false } true = [.serve .self] ∧
    wraps (acceptDirectSelf { exAll with matched := false, localMatched := false } true) = [] ∧
    acceptDirectSelf exAll true = [.wrap .matched, .serve .matched] := by decide +kernel
/-- NEGATION WITNESS 2 (the repaired defect): the filter answering a failed lookup with Continue -/
def origDstFilterOld (useOrig lookupOk : Bool) : FilterOut :=
  if !useOrig then .continue else if !lookupOk then .continue else .redirect true
example : origDstFilterOld true false = .continue ∧ chainEnd = .serve .self ∧ acceptWrapGuard true = false := by decide +kernel
end AcceptPath
end MosnVerif.Props.C13
