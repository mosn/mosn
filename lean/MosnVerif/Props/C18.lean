import MosnVerif.Lemmas.Flow
import MosnVerif.Lemmas.FlowWake
import MosnVerif.Lemmas.HpackInt
import MosnVerif.Lemmas.H2Frame
import MosnVerif.Lemmas.HpackTable
import MosnVerif.Lemmas.HpackWire
import MosnVerif.Lemmas.HpackEmit
import MosnVerif.Lemmas.H2Limits
import MosnVerif.Lemmas.HuffWalk
import MosnVerif.Lemmas.H2Payload
/-!
# C18 — HTTP/2 wire compatibility and flow control

Flow control (`Model/Flow.lean`, `Model/FlowWake.lean`): the regenerated `flow.add/available/take` and `awaitFlowControl`
amount under every interleaving of sender passes with the peer's WINDOW_UPDATE / SETTINGS frames, for both of MOSN's senders
(`MClientConn`, `MServerConn`), and the Broadcasts that wake a parked sender.
Wire format: HPACK integers, strings, dynamic table and Huffman coding; the frame header and the payload of every frame type,
written and read back; the limits MOSN advertises against those it enforces.
-/
namespace MosnVerif.Props.C18
open MosnVerif.Gen.Flow MosnVerif.Model.Flow MosnVerif.Lemmas.Flow

/-! ## flow control -/

/-- **flow_add_correct**: on int32 operands `flow.add` returns true iff the mathematical sum fits an int32; then the
window is the sum, otherwise it is unchanged.  (For a non-negative window or increment — every WINDOW_UPDATE — the
lower bound is automatic: true iff the sum ≤ 2^31-1; see `flow_add_increment`.) -/
theorem flow_add_correct (w n : Int) (hw : -2147483648 ≤ w ∧ w ≤ 2147483647) (hn : -2147483648 ≤ n ∧ n ≤ 2147483647) :
    ((add w n).2 = true ↔ (-2147483648 ≤ w + n ∧ w + n ≤ 2147483647)) ∧
    ((add w n).2 = true → (add w n).1 = w + n) ∧ ((add w n).2 = false → (add w n).1 = w) :=
  add_spec w n hw hn

/-- a WINDOW_UPDATE increment (1..2^31-1) is accepted iff the mathematical sum is ≤ 2^31-1 -/
theorem flow_add_increment (w inc : Int) (hw : -2147483648 ≤ w ∧ w ≤ 2147483647) (hi : 1 ≤ inc ∧ inc ≤ 2147483647) :
    (add w inc).2 = true ↔ w + inc ≤ 2147483647 := by
  have := (add_spec w inc hw (by omega)).1
  constructor
  · intro h; exact (this.1 h).2
  · intro h; exact this.2 ⟨by omega, h⟩

example : add 2147483647 1 = (2147483647, false) := by decide
example : add 2147483646 1 = (2147483647, true) := by decide
example : add (-5) 2147483647 = (2147483642, true) := by decide
-- the one way `add` refuses although the sum is ≤ 2^31-1: int32 underflow (never reached, see `sender_respects_windows`)
example : add (-2147483648) (-1) = (-2147483648, false) := by decide

/-- **flow_take_correct**: `take n` with `0 ≤ n ≤ available` never panics and debits stream and connection. -/
theorem flow_take_correct (w cw n : Int) (hw : -2147483648 ≤ w ∧ w ≤ 2147483647) (hc : -2147483648 ≤ cw ∧ cw ≤ 2147483647)
    (hn : 0 ≤ n ∧ n ≤ available w true cw) : take w true cw n = some (w - n, cw - n) := by
  rw [available_eq] at hn
  exact take_ok w cw n hw hc (by omega)

/-- the amount of one sender pass is min(stream window, connection window, remaining, max frame size) -/
theorem take_is_min (side : Side) (w cw rem mf : Int) (ha : 0 < available w true cw ∧ available w true cw ≤ 2147483647)
    (hr : 0 < rem) (hm : 1 ≤ mf ∧ mf ≤ 2147483647) :
    takeAmount side (available w true cw) rem mf = min (min w cw) (min rem mf) := by
  rw [takeAmount_spec side _ rem mf ha hr hm, available_eq]

/-- **sender_respects_windows**: for either sender, for EVERY schedule (any interleaving of sender passes on any
streams with WINDOW_UPDATE / SETTINGS_INITIAL_WINDOW_SIZE / SETTINGS_MAX_FRAME_SIZE / stream openings) the observable
trace passes the peer's bookkeeping: every batch of DATA written on a stream is within the stream window
(initial window in force + Σ stream increments + SETTINGS deltas − bytes already sent), within the connection window
(65535 + Σ connection increments − bytes sent on all streams), and every DATA frame is ≤ the advertised maximum
frame size.  No Go panic (`took too much`, bad slice) is reachable. -/
theorem sender_respects_windows (side : Side) (sched : List Label) (hw : ∀ l ∈ sched, l.wf = true) :
    peerOk (run (St.initial side) sched).trace = true ∧ (run (St.initial side) sched).panicked = false :=
  let h := inv_run _ sched hw (inv_initial side)
  ⟨h.ok, h.nopanic⟩

/-- the invariant behind it: on a live connection MOSN's window of every stream still in its stream table is at most
the peer's book value (initial window in force + Σ increments + SETTINGS deltas − bytes sent), and likewise for the
connection — MOSN can only under-, never over-estimate what it may send. -/
theorem sent_le_granted (side : Side) (sched : List Label) (hw : ∀ l ∈ sched, l.wf = true) (i : Nat)
    (hlive : (run (St.initial side) sched).closed = false) (hi : tracked (run (St.initial side) sched) i = true) :
    ((run (St.initial side) sched).strm i).n ≤ (peerOf (run (St.initial side) sched).trace).w i ∧
    (run (St.initial side) sched).cn ≤ (peerOf (run (St.initial side) sched).trace).connW :=
  let h := inv_run _ sched hw (inv_initial side)
  ⟨((h.live hlive).strm i hi).1, (h.live hlive).cn_le⟩

/-- **progress**: in every reachable state, if stream `i` still has body bytes and both its window and the
connection window are positive, a sender pass is enabled and writes ≥ 1 byte — exactly
min(stream window, connection window, remaining, max frame size) bytes. -/
theorem progress (side : Side) (sched : List Label) (hw : ∀ l ∈ sched, l.wf = true) (i : Nat) :
    let s := run (St.initial side) sched
    s.closed = false → i < s.count → 0 < (s.strm i).rem → 0 < (s.strm i).n → 0 < s.cn →
    let t := min (min (s.strm i).n s.cn) (min ((s.strm i).rem : Int) s.maxFrame)
    1 ≤ t ∧ (sendStep s i).trace = s.trace ++ [Obs.data i (splitFrames t.toNat)] ∧
    ((splitFrames t.toNat).sum : Int) = t ∧ ((sendStep s i).strm i).rem = (s.strm i).rem - t.toNat := by
  intro s hc hi hr hn hcn t
  have h : Inv s := inv_run _ sched hw (inv_initial side)
  have hmf := (h.live hc).mf_range
  have ht1 : 1 ≤ t := by omega
  refine ⟨ht1, ?_, ?_, ?_⟩
  · rw [sendStep_fire s i h hc hi hr (by omega)]
  · rw [sum_split]; omega
  · rw [sendStep_fire s i h hc hi hr (by omega)]; simp only [upd, ↓reduceIte]; rfl

/-- **progress (completion)**: in every reachable state, once stream window and connection window cover the rest of
the body, repeating the sender pass delivers the complete body: `rem` reaches 0 and exactly the remaining bytes are
written as DATA, without the connection being torn down. -/
theorem body_completes (side : Side) (sched : List Label) (hw : ∀ l ∈ sched, l.wf = true) (i : Nat) :
    let s := run (St.initial side) sched
    s.closed = false → i < s.count → ((s.strm i).rem : Int) ≤ (s.strm i).n → ((s.strm i).rem : Int) ≤ s.cn →
    ((pump s i (s.strm i).rem).strm i).rem = 0 ∧
    sentOn i (pump s i (s.strm i).rem).trace = sentOn i s.trace + (s.strm i).rem := by
  intro s hc hi hn hcn
  have h : Inv s := inv_run _ sched hw (inv_initial side)
  have := pump_completes i (s.strm i).rem s h hc hi (Nat.le_refl _) hn hcn
  exact ⟨this.1, this.2.1⟩

/-- **windows are exact against a conformant peer**: if the peer itself never lets a window exceed 2^31-1 and sends
only valid increments/settings (RFC 7540 §6.9.1, §6.5.2), MOSN's stream and connection windows EQUAL the peer's books
after every schedule and the connection is never torn down — so `body_completes` applies as soon as the peer has
granted the rest of the body ("delivers the complete body as window updates arrive"). -/
theorem windows_exact (side : Side) (sched : List Label) (hw : ∀ l ∈ sched, l.wf = true)
    (hconf : (peerOf (run (St.initial side) sched).trace).conformant = true) :
    let s := run (St.initial side) sched
    s.closed = false ∧ s.cn = (peerOf s.trace).connW ∧ ∀ i, tracked s i = true → (s.strm i).n = (peerOf s.trace).w i :=
  exact_run _ sched hw (inv_initial side) (exact_initial side) hconf

/-- the body completes once a conformant peer has granted at least the rest of it on the stream and the connection -/
theorem body_completes_when_granted (side : Side) (sched : List Label) (hw : ∀ l ∈ sched, l.wf = true) (i : Nat)
    (hconf : (peerOf (run (St.initial side) sched).trace).conformant = true) :
    let s := run (St.initial side) sched
    i < s.count → ((s.strm i).rem : Int) ≤ (peerOf s.trace).w i → ((s.strm i).rem : Int) ≤ (peerOf s.trace).connW →
    ((pump s i (s.strm i).rem).strm i).rem = 0 := by
  intro s hi hw1 hw2
  exact (pump_completes_granted s i (inv_run _ sched hw (inv_initial side))
    (exact_run _ sched hw (inv_initial side) (exact_initial side)) hconf hi hw1 hw2).1

-- non-vacuity: a schedule with two streams, a window of 0, shrinking and growing SETTINGS, all labels well-formed,
-- the peer conformant; the first body is blocked by its stream window (0), later by the connection window
example : (∀ l ∈ demoSchedule, l.wf = true) := by decide
example : (peerOf (run (St.initial .client) demoSchedule).trace).conformant = true := by decide
example : (run (St.initial .client) demoSchedule).trace =
    [.sInit 0, .opened, .wuS 0 20000, .data 0 [16384], .data 0 [3616], .sMax 32768, .sInit 30000, .opened, .data 1 [10],
     .data 0 [16384, 13616], .wuS 0 20000, .data 0 [15525], .wuC 100000, .data 0 [4475]] := by decide
example : ((run (St.initial .client) demoSchedule).strm 0).rem = 0 ∧ (run (St.initial .client) demoSchedule).cn = 95525 := by decide
-- a peer that overflows the connection window gets a connection error, after which nothing is sent
example : (run (St.initial .server) [.openStream 5, .wuConn 2147483647, .send 0]).trace =
    [.opened, .wuC 2147483647, .connError] := by decide

/-! ## wake-up discipline (senders parked in `cond.Wait()`; `Model/FlowWake.lean`) -/
section wake
open MosnVerif.Model.FlowWake MosnVerif.Lemmas.FlowWake

/-- **no_lost_wakeup**: with the Broadcast conditions regenerated from `processWindowUpdate` / `processSettings` of
either connection, for EVERY schedule (sender goroutines scheduled at arbitrary points between WINDOW_UPDATE /
SETTINGS frames and stream openings): a sender that sleeps in `cond.Wait()` with no Broadcast pending never has a
positive available window — whenever a parked sender's window became positive, the step that made it so (or an
earlier one since it parked) executed `cond.Broadcast()`. -/
theorem no_lost_wakeup (side : Side) (sched : List Label) (hw : ∀ l ∈ sched, l.wf = true) (i : Nat) :
    let w := wrun (codePolicy side) (WSt.initial side) sched
    w.base.closed = false → asleep w i = true →
    enabled w.base.side (available (w.base.strm i).n true w.base.cn) = false ∧ lostWakeup w i = false := by
  intro w hc hs
  have h : WInv w := winv_run _ (codePolicy_ok side) _ sched hw (winv_initial side)
  have he := not_enabled_of_le w.base.side (h.quiet i hs hc)
  exact ⟨he, by simp [lostWakeup, he]⟩

/-- **parking_refines**: the model with explicit parking and Broadcasts writes exactly what the model of enabled sends
writes, for every schedule — so `sender_respects_windows`, `progress`, `body_completes`, `windows_exact` hold of the
parking senders as well (this is where the wake-up discipline enters: under a policy that loses a wake-up it fails,
see `lazy_broadcast_loses_wakeup`). -/
theorem parking_refines (side : Side) (sched : List Label) (hw : ∀ l ∈ sched, l.wf = true) :
    (wrun (codePolicy side) (WSt.initial side) sched).base = run (St.initial side) sched :=
  wrun_base _ (codePolicy_ok side) _ sched hw (winv_initial side)

/-- **body_completes_with_parking**: in every reachable state, once stream and connection window cover the rest of the
body, scheduling the (possibly parked) sender of stream `i` delivers the complete body. -/
theorem body_completes_with_parking (side : Side) (sched : List Label) (hw : ∀ l ∈ sched, l.wf = true) (i : Nat) :
    let s := run (St.initial side) sched
    s.closed = false → i < s.count → ((s.strm i).rem : Int) ≤ (s.strm i).n → ((s.strm i).rem : Int) ≤ s.cn →
    ((wrun (codePolicy side) (WSt.initial side) (sched ++ List.replicate (s.strm i).rem (.send i))).base.strm i).rem = 0 := by
  intro s hc hi hn hcn
  have hw' : ∀ l ∈ sched ++ List.replicate (s.strm i).rem (Label.send i), l.wf = true := by
    intro l hl
    rcases List.mem_append.1 hl with h | h
    · exact hw l h
    · rw [(List.mem_replicate.1 h).2]; rfl
  rw [parking_refines side _ hw', run_append, run_replicate_send]
  exact (body_completes side sched hw i hc hi hn hcn).1

/-- **lazy_broadcast_loses_wakeup** (machine-checked witness): "Broadcast only if the window was exactly 0 before the
increment" violates the obligation, and the violation is reachable: after the peer lowered
SETTINGS_INITIAL_WINDOW_SIZE mid-body the stream window is negative, the WINDOW_UPDATE that makes it positive is not
announced, the writer sleeps with 4565 bytes of window and 4465 bytes of body left, and no number of further scheduling
attempts or positive-window WINDOW_UPDATEs completes the body. -/
theorem lazy_broadcast_loses_wakeup :
    (∀ l ∈ lostSchedule, l.wf = true) ∧
    (peerOf (wrun lazyPolicy (WSt.initial .server) lostSchedule).base.trace).conformant = true ∧
    lostWakeup (wrun lazyPolicy (WSt.initial .server) lostSchedule) 0 = true ∧
    ((wrun lazyPolicy (WSt.initial .server) lostSchedule).base.strm 0).n = 5565 ∧
    ((wrun lazyPolicy (WSt.initial .server) (lostSchedule ++ [.send 0, .wuStream 0 5, .send 0, .send 0])).base.strm 0).rem = 4465 ∧
    ((wrun (codePolicy .server) (WSt.initial .server) lostSchedule).base.strm 0).rem = 0 := by decide

example : ¬ lazyPolicy.Ok := lazyPolicy_not_ok
-- non-vacuity of no_lost_wakeup: a reachable state with a sender asleep (window 0 after 65535 bytes)
example : asleep (wrun (codePolicy .server) (WSt.initial .server) [.openStream 70000, .send 0, .send 0, .send 0, .send 0, .send 0]) 0 = true ∧
    (wrun (codePolicy .server) (WSt.initial .server) [.openStream 70000, .send 0, .send 0, .send 0, .send 0, .send 0]).base.closed = false := by decide
end wake

/-! ## HPACK primitive representations -/
section hpack
open MosnVerif.Model.HpackInt MosnVerif.Lemmas.HpackInt

/-- **int_roundtrip**: for every prefix size `n ∈ 1..8`, every flag pattern above the prefix, every value the decoder
admits (`i - (2^n-1) < 2^63`, which includes every index, length and uint32 table size) and any following bytes,
`readVarInt` returns exactly the value `appendVarInt` wrote and consumes exactly its bytes. -/
theorem int_roundtrip (n i flags : Nat) (rest : Bytes) (hn1 : 1 ≤ n) (hn8 : n ≤ 8)
    (hf : flags % 2 ^ n = 0) (hfl : flags < 256) (hi : i < 2 ^ 63 + (2 ^ n - 1)) :
    readVarInt n (orFirst flags (appendVarInt n i) ++ rest) = .ok (i, rest) :=
  int_roundtrip' n i flags rest hn8 hf hfl hi

/-- the remaining uint64 values are refused with `errVarintOverflow` — never decoded to a different number -/
theorem int_overflow (n i : Nat) (rest : Bytes) (hn8 : n ≤ 8) (hi : 2 ^ 63 + (2 ^ n - 1) ≤ i) :
    readVarInt n (appendVarInt n i ++ rest) = .error .overflow := by
  have hpow := pow_le_256 n hn8
  have hpos : 1 ≤ 2 ^ n := Nat.one_le_two_pow
  have hik : ¬ i < 2 ^ n - 1 := by omega
  have hval := prefix_read n (2 ^ n - 1) 0 hn8 (by omega) (Nat.zero_mod _) (by decide)
  unfold appendVarInt
  simp only [hik, if_false, List.cons_append, readVarInt]
  rw [Nat.add_zero] at hval
  rw [hval]
  simp only [Nat.lt_irrefl, if_false]
  rw [readCont_closed _ _ 0 rest rfl (by omega), if_neg (by omega)]

example : appendVarInt 5 1337 = [31, 154, 10] := by simp [appendVarInt, contBytes]   -- RFC 7541 C.1.2
example : readVarInt 5 [31, 154, 10, 7] = .ok (1337, [7]) := by decide
example : readVarInt 8 [255, 0] = .ok (255, []) := by decide

/-- **string_roundtrip**: every octet string written as a plain (non-Huffman) literal is read back identically,
with the bytes after it untouched, under every `maxStrLen` that admits it. -/
theorem string_roundtrip (s rest : Bytes) (maxLen : Nat) (hl : s.length < 2 ^ 63 + 127)
    (hm : maxLen = 0 ∨ s.length ≤ maxLen) :
    readStringRaw maxLen (appendStringPlain s ++ rest) = .ok (false, s, rest) :=
  string_roundtrip' s rest maxLen hl hm

example : readStringRaw 0 ([2, 104, 105] ++ [1]) = .ok (false, [104, 105], [1]) := by decide
example : readStringRaw 1 [2, 104, 105] = .error .strLen := by decide
end hpack

/-! ## HPACK dynamic table: encoder and decoder stay synchronised -/
section table
open MosnVerif.Model.HpackTable MosnVerif.Lemmas.HpackTable MosnVerif.Model.HpackInt

/-- **table_sync (one field)**: with equal dynamic tables and no size update pending, `WriteField` emits exactly one
representation; the decoder turns it back into the same field (name, value, sensitivity) and both sides end with
EQUAL tables whose size is the sum of the entry sizes and ≤ the maximum — whatever the field, whatever the table. -/
theorem table_sync_field (e : Enc) (d : Dec) (f : Field) (htab : d.tab = e.tab) (hflag : e.tableSizeUpdate = false)
    (hmax : d.maxStrLen = 0) (hc : Consistent e.tab) (hle : e.tab.size ≤ e.tab.maxSize) :
    ∃ r d', (e.plan f).2 = [r] ∧ d.apply r = .ok (d', some f) ∧ d'.tab = (e.plan f).1.tab ∧
      Consistent (e.plan f).1.tab ∧ (e.plan f).1.tab.size ≤ (e.plan f).1.tab.maxSize := by
  obtain ⟨r, hr, ok⟩ := field_sync e d f htab hflag hmax hc hle
  obtain ⟨d', ha, ht, _⟩ := ok.applied
  exact ⟨r, d', hr, ha, ht, ok.cons, ok.le⟩

/-- **table_sync**: for EVERY sequence of header blocks interleaved with table-size changes
(`SetMaxDynamicTableSize`, the peer's SETTINGS_HEADER_TABLE_SIZE, any values, any number between two blocks), starting
from fresh encoder and decoder: every block decodes to exactly the header list that was encoded, and the
between-blocks relation holds at the end — the tables are EQUAL when no size update is pending, otherwise the
encoder's table is the decoder's evicted to the smallest size set since the last block (which the next block
announces first, RFC 7541 §4.2); sizes are consistent and within the maximum. -/
theorem table_sync (ops : List Op) :
    ∃ e d, runOps Enc.new (Dec.new 4096) ops = .ok (e, d, blocksOf ops) ∧ Rel e d :=
  runOps_sync ops Enc.new (Dec.new 4096) rel_initial

/-- after a non-empty block nothing is pending: the tables are equal -/
theorem table_sync_block (e : Enc) (d : Dec) (fs : List Field) (h : Rel e d) (hne : fs ≠ []) :
    ∃ d', d.applyAll (planBlock e fs).2 = .ok (d', fs) ∧ d'.tab = (planBlock e fs).1.tab ∧
      d'.tab.size ≤ d'.tab.maxSize := by
  obtain ⟨d', ha, hrel, heq⟩ := block_sync e d fs h
  exact ⟨d', ha, (heq hne).1, hrel.led⟩

/-- **rep_roundtrip**: the bytes of an indexed field, of a table size update and of every literal representation
(all three kinds, indexed or new name) whose strings are written without Huffman coding are parsed back to the same
representation with the following bytes untouched — so on such header lists `table_sync` holds of the BYTES.
(Huffman-coded strings: `huffman_roundtrip` below is the round trip of their payload through the tree-walking decoder.) -/
theorem rep_roundtrip_indexed (i : Nat) (rest : Bytes) (hi : i < 2 ^ 63) :
    parseOne 0 (serialize (.indexed i) ++ rest) = .ok (.indexed i, rest) := by
  obtain ⟨b, tl, hb, h1, h2, hrt⟩ := Lemmas.HpackInt.flagged_int 7 i 0x80 rest (by omega) (by norm_num) (by omega) (by omega)
  simp only [serialize] at hb ⊢
  rw [hb]
  simp only [parseOne]
  have : b.toNat / 128 % 2 = 1 := by
    have : (2:Nat) ^ 7 = 128 := by norm_num
    omega
  simp only [this, if_true, hrt]

theorem rep_roundtrip_size_update (v : Nat) (rest : Bytes) (hv : v < 2 ^ 63) :
    parseOne 0 (serialize (.sizeUpdate v) ++ rest) = .ok (.sizeUpdate v, rest) := by
  obtain ⟨b, tl, hb, h1, h2, hrt⟩ := Lemmas.HpackInt.flagged_int 5 v 0x20 rest (by omega) (by norm_num) (by omega) (by omega)
  simp only [serialize] at hb ⊢
  rw [hb]
  simp only [parseOne]
  have h32 : (2:Nat) ^ 5 = 32 := by norm_num
  have c1 : ¬ (b.toNat / 128 % 2 = 1) := by omega
  have c2 : ¬ (b.toNat / 64 = 1) := by omega
  have c3 : ¬ (b.toNat / 16 = 0) := by omega
  have c4 : ¬ (b.toNat / 16 = 1) := by omega
  have c5 : b.toNat / 32 = 1 := by omega
  simp only [c1, c2, c3, c4, c5, if_true, if_false, hrt]

theorem rep_roundtrip_literal (k : LitKind) (idx : Nat) (name value rest : Bytes) (hi : idx < 2 ^ 63)
    (hname : if idx = 0 then MosnVerif.Lemmas.HpackWire.NoHuff name else name = [])
    (hv : MosnVerif.Lemmas.HpackWire.NoHuff value) :
    parseOne 0 (serialize (.literal k idx name value) ++ rest) = .ok (.literal k idx name value, rest) := by
  obtain ⟨kb1, kb2, kb3, kb4⟩ := Lemmas.HpackWire.kind_bits k
  rw [Lemmas.HpackWire.serialize_literal, List.append_assoc]
  obtain ⟨b, tl, hb, h1, h2, hrt⟩ := Lemmas.HpackInt.flagged_int k.prefixBits idx k.typeByte
    (((if idx = 0 then appendString name else []) ++ appendString value) ++ rest) (by omega) kb1 kb2 (by omega)
  rw [hb]
  rw [Lemmas.HpackWire.dispatch_literal k b tl h1 h2]
  by_cases h0 : idx = 0
  · subst h0
    simp only [if_true, List.append_assoc] at hname hrt
    simp only [parseLiteral, hrt, Nat.lt_irrefl, gt_iff_lt, if_false, Lemmas.HpackWire.readString_plain name _ hname,
      Lemmas.HpackWire.readString_plain value rest hv]
  · simp only [h0, if_false, List.nil_append] at hname hrt
    subst hname
    simp only [parseLiteral, hrt, gt_iff_lt, Nat.pos_of_ne_zero h0, if_true, Lemmas.HpackWire.readString_plain value rest hv]

example : MosnVerif.Lemmas.HpackWire.NoHuff [0xff, 0xfe, 0x00] := by
  constructor <;> decide

-- non-vacuity: repeated and sensitive fields, an entry evicted by a shrink, two size updates opening a block
example : (planBlock Enc.new [⟨[120, 45, 97], [49], false⟩, ⟨[120, 45, 97], [49], false⟩]).2 =
    [.literal .incremental 0 [120, 45, 97] [49], .indexed 62] := by decide +kernel
example : (match runOps Enc.new (Dec.new 4096) demoOps with
    | .ok (e, d, outs) => outs == blocksOf demoOps && e.tab == d.tab && e.tab.ents.length == 1
    | .error _ => false) = true := by decide +kernel
end table

/-! ## HPACK dynamic table while emitting is switched off (`SetEmitEnabled(false)`, Model/HpackEmit.lean) -/
section emit
open MosnVerif.Model.HpackTable MosnVerif.Lemmas.HpackTable MosnVerif.Model.HpackEmit MosnVerif.Lemmas.HpackEmit
open MosnVerif.Model.HpackAt

/-- **table_sync_emit_disabled**: for EVERY sequence of header blocks and table-size changes in which the framer's emit
callback switches emitting off at an arbitrary point of any block (`cut`: at its k-th call — header list beyond
MAX_HEADER_LIST_SIZE, invalid field — or never; `readMetaFrame` re-enables it at the next block), with `wantStr`, the
guard of `dynTab.add` and the guard of `d.emit` regenerated from parseFieldLiteral / callEmit and table lookups through
the regenerated, checked `Decoder.at`: no block fails or panics, the callback is handed exactly the fields up to the
cut, and after every block the decoder's dynamic table stands in the between-blocks relation to the encoder's
(EQUAL when no size update is pending) — literals with incremental indexing that arrive after the cut-off are in the
table with their real strings. -/
theorem table_sync_emit_disabled (ops : List OpE) :
    ∃ e d, runOpsE codePolicy Enc.new (DecE.new 4096) ops = .ok (e, d, emittedOf ops) ∧ Rel e d.base :=
  let ⟨e, d, h, hr, _⟩ := runOpsE_sync ops Enc.new (DecE.new 4096) rel_initial (bounded_new 4096 (by decide))
  ⟨e, d, h, hr⟩

/-- one block: equal tables afterwards wherever the cut is (block non-empty, so nothing is pending) -/
theorem table_sync_emit_disabled_block (e : Enc) (d : DecE) (fs : List Field) (cut : Option Nat) (h : Rel e d.base)
    (hb : Bounded d.base) (hne : fs ≠ []) :
    ∃ d', d.startBlock.applyAllP codePolicy cut (planBlock e fs).2 = .ok (d', emittedPrefix true cut fs) ∧
      d'.base.tab = (planBlock e fs).1.tab := by
  obtain ⟨b1, ha, _, heq⟩ := block_sync e d.base fs h
  have hstart : d.startBlock = { base := d.base, emit := true } := by
    simp [DecE.startBlock, MosnVerif.Gen.HpackEmit.blockStartsEnabled]
  obtain ⟨em, hE, _, _⟩ := applyAll_refines (planBlock e fs).2 { base := d.base, emit := true } cut b1 fs hb h.maxStr ha
  exact ⟨{ base := b1, emit := em }, by rw [hstart]; exact hE, (heq hne).1⟩

/-- the literal cases of parseHeaderFieldRepr (mask, value, prefix size, index type) are the model's `LitKind`s -/
theorem literal_cases_are_model : MosnVerif.Gen.HpackEmit.literalCases = modelLiteralCases := by decide

-- non-vacuity: emitting is switched off at the first field of block 1, a new indexed literal follows, block 2
-- references it: the callback gets 1 field of block 1, all of block 2, and the tables are equal (2 entries)
example : (match runOpsE codePolicy Enc.new (DecE.new 4096) cutDemoOps with
    | .ok (e, d, outs) => outs == [[⟨[120, 45, 97], [49], false⟩], [⟨[120, 45, 98], [50, 50], false⟩]] &&
        e.tab == d.base.tab && e.tab.ents.length == 2 && !d.emit == false
    | .error _ => false) = true := by decide +kernel

/-- **dropped `indexed()`** (machine-checked witness): with `wantStr := d.emitEnabled` the indexed literal that follows
the cut-off is stored with EMPTY strings and the wrong size; the tables differ after block 1 and block 2, which the
encoder writes as one indexed field, decodes to an empty header instead of `x-b: 22`. -/
theorem dropped_indexed_desyncs :
    (match runOpsE dropIndexedPolicy Enc.new (DecE.new 4096) cutDemoOps with
     | .ok (e, d, outs) => e.tab != d.base.tab && d.base.tab.ents == [([120, 45, 97], [49]), ([], [])] &&
         outs == [[⟨[120, 45, 97], [49], false⟩], [⟨[], [], false⟩]]
     | .error _ => false) = true := by decide +kernel

end emit

/-! ## Huffman coding (`Model/Huffman.lean`, `Model/HuffTree.lean`; code table and every expression of huffman.go regenerated) -/
section huffman
open MosnVerif.Model.Huffman MosnVerif.Model.HuffTree
open MosnVerif.Lemmas.HuffCode (codeBits eosBits)

/-- **huffman_prefix_free**: no code of the table is a prefix of the code of another symbol, EOS included — the
bit-level decoder is unambiguous.  (The regenerated table is canonical: listed by code length the codes, read as
intervals of 30-bit strings, lie one after the other — one pass by the kernel, `Lemmas.HuffCode.chain_byLen`.) -/
theorem huffman_prefix_free : prefixFree codes = true := Lemmas.HuffCode.prefix_free

/-- 257 codes of 5..30 bits, each within its length -/
theorem huffman_table_wf : tableWf codes = true := Lemmas.HuffCode.table_wf

/-- Kraft equality: the code is complete, so every octet string of Huffman payload decodes or ends in a prefix of a
code (which the decoder then compares with the EOS padding) -/
theorem huffman_complete : kraftComplete codes = true := by decide +kernel

/-- **huffman_tree_is_code_table**: the tree `buildRootHuffmanNode` builds — `addDecoderNode` (loop guard, decrement,
both index expressions, shift and fill range regenerated, uint8 / uint32 wrap-around included) folded over the
regenerated table, evaluated by the kernel — panics nowhere, and every child slot of every internal node is what the
table prescribes: a leaf `(sym, r)` sits exactly where the code of `sym` is the node's path followed by the first `r`
bits of the index; a pointer leads to the internal node of the extended path; the only nil slots are those whose path
starts with EOS; no code is a prefix of the path of an internal node. -/
theorem huffman_tree_is_code_table :
    buildRoot.bad = false ∧ (0, 0, 0) ∈ Lemmas.HuffTreeCheck.nodePaths ∧
    ∀ n d pv, (n, d, pv) ∈ Lemmas.HuffTreeCheck.nodePaths →
      pv < 2 ^ (8 * d) ∧ d < 4 ∧ (∀ s, s < 256 → isPrefixCode (codeOf s, lenOf s) (pv, 8 * d) = false) ∧
      ∀ idx, idx < 256 →
        Lemmas.HuffTreeCheck.entOk codeOf lenOf Lemmas.HuffTreeCheck.nodePaths d pv idx (huffTree.child n idx) = true :=
  ⟨Lemmas.HuffTreeCheck.build_ok, Lemmas.HuffTreeCheck.root_mem, Lemmas.HuffTreeCheck.node_ok⟩

/-- **huffman_tree_walker_refines**: `huffmanDecode` (8-bit steps through the built tree, `cur` / `cbits` / `sbits`
bookkeeping, the trailing loop, the `sbits > 7` and EOS-mask tests, the `maxLen` guard — every expression regenerated)
returns, for EVERY byte string and every `maxLen`, exactly what the declarative bit-level decoder returns: the same
string, or the same error (ErrInvalidHuffman / ErrStringLength). -/
theorem huffman_tree_walker_refines (maxLen : Nat) (v : Bytes) : walk maxLen v = decodeSpecMax maxLen v := by
  rw [Lemmas.HuffWalk.walk_unfold, Lemmas.HuffSpec.decodeSpecMax_eq]
  exact Lemmas.HuffWalk.feed_ok maxLen _
    (fun st d pv hrel h8 => Lemmas.HuffWalk.tail_ok maxLen 9 st d pv hrel h8 (by omega)) v WSt.init 0 0
    ⟨Lemmas.HuffTreeCheck.root_mem, rfl⟩ (by decide)

/-- **huffman_roundtrip**: for ALL byte strings `s` (no length bound): the declarative decoder and the tree walker
return `s` on the encoder's output, under every `maxLen` that admits `s`; one byte more than `maxLen` is ErrStringLength. -/
theorem huffman_roundtrip (s : Bytes) :
    decodeSpec (encode s) = some s ∧
    (∀ maxLen, maxLen = 0 ∨ s.length ≤ maxLen → walk maxLen (encode s) = .ok s) ∧
    (∀ maxLen, maxLen ≠ 0 → maxLen < s.length → walk maxLen (encode s) = .error .strLen) := by
  refine ⟨Lemmas.HuffSpec.decodeSpec_encode s, fun maxLen h => ?_, fun maxLen h0 hl => ?_⟩
  · rw [huffman_tree_walker_refines]; exact Lemmas.HuffSpec.decodeSpecMax_encode maxLen s h
  · rw [huffman_tree_walker_refines, Lemmas.HuffSpec.decodeSpecMax_eq, Lemmas.HuffSpec.bytesToBits_encode]
    exact Lemmas.HuffSpec.specRun_encode_too_long maxLen s _ [] h0 (Nat.zero_le _) (by simpa using hl)

/-- **huffman_encoded_len_exact**: the encoder emits exactly `⌈Σ codeLen / 8⌉` bytes, and `HuffmanEncodeLength` (uint64
arithmetic regenerated) — the length the string literal header announces — is that number. -/
theorem huffman_encoded_len_exact (s : Bytes) :
    (encode s).length = encodeLen s ∧ (s.length < 2 ^ 58 → goEncodeLen s = encodeLen s) :=
  ⟨Lemmas.HuffSpec.length_encode s, Lemmas.HuffWalk.goEncodeLen_eq s⟩

/-- **huffman_decode_iff**: the decoder accepts exactly the encoder's outputs — `v` decodes to `s` iff `v = encode s`. -/
theorem huffman_decode_iff (v s : Bytes) : walk 0 v = .ok s ↔ v = encode s := by
  rw [huffman_tree_walker_refines]; exact Lemmas.HuffSpec.decodeSpecMax_ok_iff v s

/-- **huffman_injective**: two different strings never encode to the same bytes -/
theorem huffman_injective (s₁ s₂ : Bytes) (h : encode s₁ = encode s₂) : s₁ = s₂ := by
  have h1 := Lemmas.HuffSpec.decodeSpec_encode s₁
  rw [h, Lemmas.HuffSpec.decodeSpec_encode s₂] at h1
  exact (Option.some.inj h1).symm

/-- **huffman_padding_rejects** (the three decoding errors RFC 7541 §5.2 / x/net name), for every payload `v` whose bits
are the codes of any string `s` followed by: (1) 8 or more one-bits — padding longer than 7 bits; (2) trailing bits that
are no complete code and not all ones — padding that is not a prefix of EOS; (3) the 30 bits of EOS and anything — EOS
inside the string: `huffmanDecode` returns ErrInvalidHuffman. -/
theorem huffman_padding_rejects (v s : Bytes) :
    (∀ k, 8 ≤ k → bytesToBits v = encodeBits s ++ List.replicate k true → walk 0 v = .error .invalid) ∧
    (∀ p, matchSym p = none → p.all id = false → bytesToBits v = encodeBits s ++ p → walk 0 v = .error .invalid) ∧
    (∀ rest, bytesToBits v = encodeBits s ++ (eosBits ++ rest) → walk 0 v = .error .invalid) := by
  refine ⟨fun k hk hb => ?_, fun p hp hz hb => ?_, fun rest hb => ?_⟩
  · rw [huffman_tree_walker_refines, Lemmas.HuffSpec.decodeSpecMax_eq, hb]
    exact Lemmas.HuffSpec.reject_long_padding 0 s k hk [] (Or.inl rfl)
  · rw [huffman_tree_walker_refines, Lemmas.HuffSpec.decodeSpecMax_eq, hb]
    exact Lemmas.HuffSpec.reject_bad_padding 0 s p hp hz [] (Or.inl rfl)
  · rw [huffman_tree_walker_refines, Lemmas.HuffSpec.decodeSpecMax_eq, hb]
    exact Lemmas.HuffSpec.reject_eos 0 s rest [] (Or.inl rfl)

-- non-vacuity: "www" (RFC 7541 C.4.1 fragment), its encoding, and instances of the three rejected shapes
example : bytesToBits [0xf1, 0xe3, 0xc7] = encodeBits [119, 119, 119] ++ List.replicate 3 true := by decide
-- (1) `[]` followed by 8 one-bits; "w" followed by 1 + 8 one-bits
example : bytesToBits [0xff] = encodeBits [] ++ List.replicate 8 true := by decide
example : bytesToBits [0xf1, 0xff] = encodeBits [119] ++ List.replicate 9 true := by decide
-- (2) "w" followed by the bit 0: no code, not all ones
example : bytesToBits [0xf0] = encodeBits [119] ++ [false] := by decide
-- (3) EOS (30 one-bits) and two more bits
example : bytesToBits [0xff, 0xff, 0xff, 0xff] = encodeBits [] ++ (eosBits ++ [true, true]) := by decide

end huffman

/-! ## frame header, DATA / HEADERS payload arithmetic -/
section frame
open MosnVerif.Model.H2Frame MosnVerif.Lemmas.H2Frame MosnVerif.Gen.H2Frame

/-- **frame_header_roundtrip**: every header MOSN can write (length < 2^24, one-byte type and flags, 32-bit stream
id) is parsed back field by field; the reserved bit of the stream id is dropped. -/
theorem frame_header_roundtrip (h : FrameHeader) (hl : h.length < 2 ^ 24) (ht : h.type < 256) (hf : h.flags < 256)
    (hs : h.streamID < 2 ^ 32) :
    (encodeHeader h).bind parseHeader = some { h with streamID := h.streamID % 2 ^ 31 } :=
  frame_header_roundtrip' h hl ht hf hs

/-- a frame of 2^24 bytes or more is refused by the writer -/
theorem frame_too_large (h : FrameHeader) (hl : 2 ^ 24 ≤ h.length) : encodeHeader h = none := by
  unfold encodeHeader writeTooLarge
  rw [if_pos (by omega)]

example : encodeHeader ⟨16384, 0, 1, 5⟩ = some [0, 64, 0, 0, 1, 0, 0, 0, 5] := by decide
example : parseHeader [0, 64, 0, 0, 1, 128, 0, 0, 5] = some ⟨16384, 0, 1, 5⟩ := by decide
example : parseHeader [0, 64, 0, 0, 1, 128, 0, 0] = none := by decide

/-- **data_padding**: a DATA payload with any pad length 0..255 parses to exactly the data; without the PADDED
flag the payload is the data. -/
theorem data_padding (flags : Nat) (data : Bytes) (k : Nat) (hk : k < 256) (hf : hasFlag flags flagDataPadded = true) :
    parseData flags (encodeData data (some k)) = .ok data :=
  data_roundtrip_padded flags data k hk hf

theorem data_plain (flags : Nat) (data : Bytes) (hf : hasFlag flags flagDataPadded = false) :
    parseData flags (encodeData data none) = .ok data :=
  data_roundtrip_plain flags data hf

/-- **headers_padding_priority**: a HEADERS payload with any pad length, with or without the 5 priority bytes, and
ANY header block fragment — including the empty one (block carried by CONTINUATION frames) — parses to exactly the
priority and the fragment. -/
theorem headers_padding_priority (flags : Nat) (frag : Bytes) (padLength : Nat) (prio : Option Priority)
    (hp : padLength < 256) (hpr : ∀ pr, prio = some pr → pr.streamDep < 2 ^ 31 ∧ pr.weight < 256)
    (hf1 : hasFlag flags flagHeadersPadded = decide (padLength ≠ 0))
    (hf2 : hasFlag flags flagHeadersPriority = prio.isSome) :
    parseHeaders flags (encodeHeaders frag padLength prio) = .ok (prio, frag) :=
  headers_roundtrip' flags frag padLength prio hp hpr hf1 hf2

example : parseHeaders 0x0c [3, 0, 0, 0] = .ok (none, []) := by decide          -- padded, empty fragment
example : parseHeaders 0x24 [128, 0, 0, 7, 200, 9] = .ok (some ⟨7, true, 200⟩, [9]) := by decide +kernel
example : parseData 8 [5, 1, 2] = .error .protocol := by decide      -- pad length beyond the payload
example : parseHeaders 8 [] = .error .short := by decide
end frame

/-! ## frame payload codecs of every frame type (`Model/H2Payload.lean`; writers and parsers regenerated, `Gen.H2Payload`) -/
section payload
open MosnVerif.Model.H2Payload MosnVerif.Lemmas.H2Payload
open MosnVerif.Model.H2Frame (FrameHeader Priority Bytes)

/-- **all_frame_types_roundtrip**: for EVERY frame `f` of the sum type (the arguments of `Framer.WriteData[Padded] / WriteHeaders /
WritePriority / WriteRSTStream / WriteSettings / WriteSettingsAck / WritePushPromise / WritePing / WriteGoAway /
WriteWindowUpdate / WriteContinuation / WriteRawFrame`) that is well-formed (`WF`: the value ranges of the Go types, 31-bit
stream ids, zero padding, below 2^24 octets, an extension type for a raw frame), with or without `AllowIllegalWrites`: the
writer accepts it, and what it writes — refusal tests, frame type, flag bits, stream id, the byte layout of the payload
(fields, widths, masks, order) all regenerated from the Write* bodies — is read back (stream id through `readFrameHeader`'s
mask, payload through the frame type's parser with every guard, error and field expression regenerated) as exactly `f`. -/
theorem all_frame_types_roundtrip (a : Bool) (f : Frame) (hwf : WF f) : roundTrip a f = some (.ok f) := by
  cases f with
  | data sid es d pad =>
    obtain ⟨h0, hs, hp, hd⟩ := hwf
    cases pad with
    | none => exact rt_data_plain a sid es d h0 hs (by omega)
    | some p' =>
      obtain ⟨e, hl⟩ := hp p' rfl
      rw [e]
      exact rt_data_padded a sid es d p'.length h0 hs hl hd
  | headers sid es eh pl pr frag =>
    obtain ⟨h0, hs, hpl, hd, hw, hf⟩ := hwf
    exact rt_headers a sid es eh pl pr frag h0 hs hpl hd hw hf
  | priority sid p => obtain ⟨h0, hs, hd, hw⟩ := hwf; exact rt_priority a sid p h0 hs hd hw
  | rst sid code => obtain ⟨h0, hs, hc⟩ := hwf; exact rt_rst a sid code h0 hs hc
  | settings ss => obtain ⟨hr, hl⟩ := hwf; exact rt_settings a ss hr hl
  | settingsAck => exact rt_settingsAck a
  | pushPromise sid pr eh pl frag =>
    obtain ⟨h0, hs, hp0, hp, hpl, hf⟩ := hwf
    exact rt_pushPromise a sid pr eh pl frag h0 hs hp0 hp hpl hf
  | ping ack d => exact rt_ping a ack d hwf
  | goAway last code dbg => obtain ⟨hl, hc, hd⟩ := hwf; exact rt_goAway a last code dbg hl hc hd
  | windowUpdate sid incr => obtain ⟨hs, h0, hi⟩ := hwf; exact rt_windowUpdate a sid incr hs h0 hi
  | continuation sid eh frag => obtain ⟨h0, hs, hf⟩ := hwf; exact rt_continuation a sid eh frag h0 hs hf
  | raw t fl sid pl => obtain ⟨ht, _, _, hs, hp⟩ := hwf; exact rt_raw a t fl sid pl ht hs hp

theorem frame_roundtrip_settings (a : Bool) (ss : List (Nat × Nat))
    (hr : ∀ s ∈ ss, s.1 < 2 ^ 16 ∧ s.2 < 2 ^ 32 ∧ (s.1 = 4 → s.2 < 2 ^ 31)) (hl : 6 * ss.length < 2 ^ 24) :
    roundTrip a (.settings ss) = some (.ok (.settings ss)) := rt_settings a ss hr hl

theorem frame_roundtrip_settings_ack (a : Bool) : roundTrip a .settingsAck = some (.ok .settingsAck) := rt_settingsAck a

theorem frame_roundtrip_ping (a ack : Bool) (d : Bytes) (hd : d.length = 8) :
    roundTrip a (.ping ack d) = some (.ok (.ping ack d)) := rt_ping a ack d hd

theorem frame_roundtrip_goaway (a : Bool) (last code : Nat) (dbg : Bytes) (hl : last < 2 ^ 31) (hc : code < 2 ^ 32)
    (hd : dbg.length + 8 < 2 ^ 24) : roundTrip a (.goAway last code dbg) = some (.ok (.goAway last code dbg)) :=
  rt_goAway a last code dbg hl hc hd

theorem frame_roundtrip_rst_stream (a : Bool) (sid code : Nat) (h0 : 0 < sid) (hs : sid < 2 ^ 31) (hc : code < 2 ^ 32) :
    roundTrip a (.rst sid code) = some (.ok (.rst sid code)) := rt_rst a sid code h0 hs hc

theorem frame_roundtrip_window_update (a : Bool) (sid incr : Nat) (hs : sid < 2 ^ 31) (h0 : 0 < incr) (hi : incr < 2 ^ 31) :
    roundTrip a (.windowUpdate sid incr) = some (.ok (.windowUpdate sid incr)) := rt_windowUpdate a sid incr hs h0 hi

theorem frame_roundtrip_priority (a : Bool) (sid : Nat) (p : Priority) (h0 : 0 < sid) (hs : sid < 2 ^ 31)
    (hd : p.streamDep < 2 ^ 31) (hw : p.weight < 256) : roundTrip a (.priority sid p) = some (.ok (.priority sid p)) :=
  rt_priority a sid p h0 hs hd hw

theorem frame_roundtrip_push_promise (a : Bool) (sid pr : Nat) (eh : Bool) (pl : Nat) (frag : Bytes) (h0 : 0 < sid)
    (hs : sid < 2 ^ 31) (hp0 : 0 < pr) (hp : pr < 2 ^ 31) (hpl : pl < 256) (hf : frag.length + 260 < 2 ^ 24) :
    roundTrip a (.pushPromise sid pr eh pl frag) = some (.ok (.pushPromise sid pr eh pl frag)) :=
  rt_pushPromise a sid pr eh pl frag h0 hs hp0 hp hpl hf

theorem frame_roundtrip_continuation (a : Bool) (sid : Nat) (eh : Bool) (frag : Bytes) (h0 : 0 < sid) (hs : sid < 2 ^ 31)
    (hf : frag.length < 2 ^ 24) : roundTrip a (.continuation sid eh frag) = some (.ok (.continuation sid eh frag)) :=
  rt_continuation a sid eh frag h0 hs hf

/-- unknown frame types are carried as opaque payloads -/
theorem frame_roundtrip_unknown (a : Bool) (t fl sid : Nat) (pl : Bytes) (ht : 10 ≤ t) (hs : sid < 2 ^ 31) (hp : pl.length < 2 ^ 24) :
    roundTrip a (.raw t fl sid pl) = some (.ok (.raw t fl sid pl)) := rt_raw a t fl sid pl ht hs hp

/-- DATA / HEADERS through the regenerated `WriteDataPadded` / `WriteHeaders` (the parse arithmetic is `data_padding`,
`headers_padding_priority`) -/
theorem frame_roundtrip_data (a : Bool) (sid : Nat) (es : Bool) (d : Bytes) (k : Nat) (h0 : 0 < sid) (hs : sid < 2 ^ 31)
    (hk : k ≤ 255) (hd : d.length + 256 < 2 ^ 24) :
    roundTrip a (.data sid es d none) = some (.ok (.data sid es d none)) ∧
    roundTrip a (.data sid es d (some (List.replicate k 0))) = some (.ok (.data sid es d (some (List.replicate k 0)))) :=
  ⟨rt_data_plain a sid es d h0 hs (by omega), rt_data_padded a sid es d k h0 hs hk hd⟩

theorem frame_roundtrip_headers (a : Bool) (sid : Nat) (es eh : Bool) (pl : Nat) (pr : Priority) (frag : Bytes) (h0 : 0 < sid)
    (hs : sid < 2 ^ 31) (hpl : pl < 256) (hd : pr.streamDep < 2 ^ 31) (hw : pr.weight < 256) (hf : frag.length + 262 < 2 ^ 24) :
    roundTrip a (.headers sid es eh pl pr frag) = some (.ok (.headers sid es eh pl pr frag)) :=
  rt_headers a sid es eh pl pr frag h0 hs hpl hd hw hf

/-- **mframer_writes_what_framer_writes**: the frames MOSN's connections actually write — `MFramer.writeSettings /
writeWindowUpdate / sendData / writeContinuation / writeHeaders` and the SETTINGS ack, PING, RST_STREAM, GOAWAY frames
`MServerConn` / `MClientConn` write in line (statement by statement regenerated) — are byte for byte what `Framer.Write*`
writes for the same arguments; so `all_frame_types_roundtrip` holds of them. -/
theorem mframer_writes_what_framer_writes (server : Bool) (f : Frame) (w : FrameHeader × Bytes) (h : f.mwrite server = some w) :
    f.write true = some w := by
  -- type, flags, stream id and payload of each `m*` writer unfold to those of the `w*` writer; only the refusal tests differ:
  -- the MOSN writers refuse at least what `Framer.Write*` refuses with AllowIllegalWrites (`finishWrite_mono`)
  open Gen.H2Payload in
  cases f with
  | data sid es d pad =>
    cases pad with
    | some p' => simp [Frame.mwrite] at h
    | none =>
      refine finishWrite_mono (mDataRefuse sid es d) _ _ _ _ _ w (by simp [wDataRefuse]) ?_
      simpa [Frame.mwrite, mDataType, mDataFlags, mDataSid, mDataPayload, wDataType, wDataFlags, wDataSid, wDataPayload] using h
  | headers sid es eh pl pr frag =>
    exact finishWrite_mono (mHeadersRefuse sid es eh pl (prioZero pr) pr.streamDep pr.exclusive pr.weight frag) _ _ _ _ _ w
      (by simp [wHeadersRefuse]) h
  | priority sid p => simp [Frame.mwrite] at h
  | rst sid code =>
    refine finishWrite_mono false _ _ _ _ _ w (by simp [wRstRefuse]) ?_
    cases server <;> exact h
  | settings ss => exact h
  | settingsAck => cases server <;> exact h
  | pushPromise sid pr eh pl frag => simp [Frame.mwrite] at h
  | ping ack d =>
    cases server
    · exact h
    · cases ack
      · simp [Frame.mwrite] at h
      · exact h
  | goAway last code dbg =>
    cases server
    · simp [Frame.mwrite] at h
    · exact h
  | windowUpdate sid incr => exact finishWrite_mono (mWindowUpdateRefuse sid incr) _ _ _ _ _ w (by simp [wWindowUpdateRefuse]) h
  | continuation sid eh frag =>
    exact finishWrite_mono (mContinuationRefuse sid eh frag) _ _ _ _ _ w (by simp [wContinuationRefuse]) h
  | raw t fl sid pl => simp [Frame.mwrite] at h

/-- **reserved_bit_ignored**: the reserved high bit of every 31-bit field is masked by the reader — the frame header's stream
id, the WINDOW_UPDATE increment, GOAWAY's last stream id, PUSH_PROMISE's promised stream id: the parse of any 32-bit word
`v` is the parse of `v mod 2^31`; in PRIORITY the bit is the exclusive flag and the dependency is `v mod 2^31`. -/
theorem reserved_bit_ignored (h : FrameHeader) (v : Nat) (hv : v < 2 ^ 32) :
    readHdr { h with streamID := h.streamID % 2 ^ 31 + 2 ^ 31 } = readHdr h ∧
    parseWindowUpdate h (Gen.H2Payload.u32be v) = parseWindowUpdate h (Gen.H2Payload.u32be (v % 2 ^ 31)) ∧
    (∀ c dbg, c < 2 ^ 32 → parseGoAway h (Gen.H2Payload.u32be v ++ Gen.H2Payload.u32be c ++ dbg) =
        parseGoAway h (Gen.H2Payload.u32be (v % 2 ^ 31) ++ Gen.H2Payload.u32be c ++ dbg)) ∧
    (∀ frag, Gen.H2Payload.flagsHas h.flags 8 = false →
        parsePushPromise h (Gen.H2Payload.u32be v ++ frag) = parsePushPromise h (Gen.H2Payload.u32be (v % 2 ^ 31) ++ frag)) ∧
    (∀ w, h.streamID ≠ 0 → w < 256 →
        parsePriority h (Gen.H2Payload.u32be v ++ Gen.H2Payload.u8be w) = .ok (.priority ⟨v % 2 ^ 31, decide (v % 2 ^ 31 ≠ v), w⟩)) :=
  ⟨hdr_reserved h, wu_reserved h v hv, fun c dbg hc => goAway_reserved h v c dbg hv hc,
   fun frag hf => push_reserved h v frag hv hf, fun w hs hw => parsePriority_ok h v w hs hv hw⟩

/-- **frame_parse_total**: for every frame header (type ≥ 2: every type but DATA / HEADERS, whose outcomes are
`read_outcome_matches_reference`) and EVERY payload of the announced length, the parser gives exactly one of: a frame, a
connection error with a code, a stream error with a code (or, for a PUSH_PROMISE too short for its fields, the I/O error) —
and that answer agrees with the declarative table of RFC 7540 §6 (`Model.H2Payload.rfcViolations`, written from the RFC): it
is a frame iff no rule is violated, and an error is one the table lists for a violated rule. -/
theorem frame_parse_total (h : FrameHeader) (p : Bytes) (hl : h.length = p.length) (hf : h.flags < 256) (ht : 2 ≤ h.type) :
    Agrees (parsePayload h p) (rfcViolations h.type h.flags h.streamID p) := by
  by_cases h10 : 10 ≤ h.type
  · exact total_unknown h p h10
  · have : h.type = 2 ∨ h.type = 3 ∨ h.type = 4 ∨ h.type = 5 ∨ h.type = 6 ∨ h.type = 7 ∨ h.type = 8 ∨ h.type = 9 := by omega
    rw [parsePayload_eq]
    rcases this with t | t | t | t | t | t | t | t <;> rw [t]
    · exact total_priority h p
    · exact total_rst h p
    · exact total_settings h p hl hf
    · exact total_pushPromise h p hf
    · exact total_ping h p
    · exact total_goAway h p
    · exact total_windowUpdate h p
    · exact total_continuation h p

theorem frame_parse_total_settings (h : FrameHeader) (p : Bytes) (hl : h.length = p.length) (hf : h.flags < 256) :
    Agrees (parseSettings h p) (rfcViolations 4 h.flags h.streamID p) := total_settings h p hl hf
theorem frame_parse_total_ping (h : FrameHeader) (p : Bytes) : Agrees (parsePing h p) (rfcViolations 6 h.flags h.streamID p) :=
  total_ping h p
theorem frame_parse_total_goaway (h : FrameHeader) (p : Bytes) : Agrees (parseGoAway h p) (rfcViolations 7 h.flags h.streamID p) :=
  total_goAway h p
theorem frame_parse_total_rst_stream (h : FrameHeader) (p : Bytes) : Agrees (parseRst h p) (rfcViolations 3 h.flags h.streamID p) :=
  total_rst h p
theorem frame_parse_total_window_update (h : FrameHeader) (p : Bytes) :
    Agrees (parseWindowUpdate h p) (rfcViolations 8 h.flags h.streamID p) := total_windowUpdate h p
theorem frame_parse_total_priority (h : FrameHeader) (p : Bytes) : Agrees (parsePriority h p) (rfcViolations 2 h.flags h.streamID p) :=
  total_priority h p
theorem frame_parse_total_push_promise (h : FrameHeader) (p : Bytes) (hf : h.flags < 256) :
    Agrees (parsePushPromise h p) (rfcViolations 5 h.flags h.streamID p) := total_pushPromise h p hf
theorem frame_parse_total_continuation (h : FrameHeader) (p : Bytes) :
    Agrees (parseContinuation h p) (rfcViolations 9 h.flags h.streamID p) := total_continuation h p
theorem frame_parse_total_unknown (h : FrameHeader) (p : Bytes) (ht : 10 ≤ h.type) :
    Agrees (parsePayload h p) (rfcViolations h.type h.flags h.streamID p) := total_unknown h p ht

-- non-vacuity: well-formed frames of several types; what the writers produce; rejected payloads with the table's verdict
example : WF (.settings [(3, 100), (4, 65535), (4, 2147483647), (5, 16384)]) := by
  refine ⟨?_, by decide⟩
  intro s hs
  simp only [List.mem_cons, List.not_mem_nil, or_false] at hs
  rcases hs with h | h | h | h <;> subst h <;> decide
example : WF (.windowUpdate 0 2147483647) ∧ WF (.goAway 2147483647 2 [1, 2]) ∧ WF (.ping true [1, 2, 3, 4, 5, 6, 7, 8]) ∧
    WF (.priority 3 ⟨1, true, 255⟩) ∧ WF (.pushPromise 1 2 true 3 [9]) ∧ WF (.raw 10 255 7 [1]) := by
  refine ⟨?_, ?_, ?_, ?_, ?_, ?_⟩ <;> simp [WF]
example : (Frame.goAway 5 2 [7]).write false = some (⟨9, 7, 0, 0⟩, [0, 0, 0, 5, 0, 0, 0, 2, 7]) := by decide
example : (Frame.priority 3 ⟨1, true, 255⟩).write false = some (⟨5, 2, 0, 3⟩, [128, 0, 0, 1, 255]) := by decide
example : (Frame.windowUpdate 1 0).write false = none ∧ (Frame.windowUpdate 1 2147483648).write false = none := by decide
example : parsePing ⟨7, 6, 0, 0⟩ [1, 2, 3, 4, 5, 6, 7] = .error (.conn 6) ∧
    rfcViolations 6 0 0 [1, 2, 3, 4, 5, 6, 7] = [.conn FRAME_SIZE_ERROR] := by decide
example : parseWindowUpdate ⟨4, 8, 0, 5⟩ [128, 0, 0, 0] = .error (.stream 5 1) ∧
    parseWindowUpdate ⟨4, 8, 0, 0⟩ [0, 0, 0, 0] = .error (.conn 1) ∧
    parseWindowUpdate ⟨4, 8, 0, 5⟩ [128, 0, 0, 9] = .ok (.windowUpdate 9) := by decide
example : parseSettings ⟨6, 4, 1, 0⟩ [0, 3, 0, 0, 0, 100] = .error (.conn 6) ∧
    parseSettings ⟨5, 4, 0, 0⟩ [0, 3, 0, 0, 0] = .error (.conn 6) ∧
    parseSettings ⟨6, 4, 0, 0⟩ [0, 4, 128, 0, 0, 0] = .error (.conn 3) := by decide

end payload

/-! ## limits: what MOSN advertises in SETTINGS is what its framer and connections enforce (RFC 7540 §4.2, §6.5.2, §6.9)

`Gen.H2Limits` holds EVERY limit comparison of the re-implemented framer and of the server / client connection, regenerated
from the Go source; `Model.H2Limits.readOutcome` is `MFramer.ReadFrame` built from them, `refOutcome` the RFC. -/
section limits
open Model.H2Limits (Frame Out readOutcome refOutcome setMaxRead settingCode refSettingCode windowUpdate refWindowUpdate iLen)

/-- **limits_match_reference**: each regenerated comparison equals the reference predicate of RFC 7540, for ALL values:
ReadFrame's size test, header / payload completeness tests, the SetMaxReadFrameSize clamp, the fixed lengths of
PRIORITY / RST_STREAM / PING / WINDOW_UPDATE / GOAWAY / SETTINGS, the zero-increment test, the three padding tests
(`pad length > remaining payload`), the header list size test, the concurrent streams test, the SETTINGS value ranges
of server and client (INITIAL_WINDOW_SIZE ≤ 2^31-1, MAX_FRAME_SIZE ∈ [16384, 2^24-1], ENABLE_PUSH ∈ {0,1}) with their
error codes, and the WINDOW_UPDATE overflow test (window + increment > 2^31-1). -/
theorem limits_match_reference :
    (∀ len lim : Nat, Gen.H2Limits.readTooLarge (iLen len) (iLen lim) = true ↔ len > lim) ∧
    (∀ avail : Nat, Gen.H2Limits.readHeaderIncomplete (iLen avail) 0 = true ↔ avail < 9) ∧
    (∀ len avail : Nat, Gen.H2Limits.readPayloadIncomplete (iLen len) (iLen avail) 0 = true ↔ avail < 9 + len) ∧
    (∀ v : Nat, setMaxRead v = min v (2 ^ 24 - 1)) ∧
    (∀ n : Nat, Gen.H2Limits.priorityBadLength (iLen n) = decide (n ≠ 5)) ∧
    (∀ n : Nat, Gen.H2Limits.rstBadLength (iLen n) = decide (n ≠ 4)) ∧
    (∀ n : Nat, Gen.H2Limits.pingBadLength (iLen n) = decide (n ≠ 8)) ∧
    (∀ n : Nat, Gen.H2Limits.windowUpdateBadLength (iLen n) = decide (n ≠ 4)) ∧
    (∀ n : Nat, Gen.H2Limits.goAwayBadLength (iLen n) = decide (n < 8)) ∧
    (∀ n : Nat, Gen.H2Limits.settingsBadLength (iLen n) = decide (n % 6 ≠ 0)) ∧
    (∀ (a : Bool) (n : Nat), Gen.H2Limits.settingsAckWithPayload a (iLen n) = (a && decide (n > 0))) ∧
    (∀ inc : Nat, Gen.H2Limits.windowUpdateZero (iLen inc) = decide (inc = 0)) ∧
    (∀ pad n : Nat, Gen.H2Frame.dataPadTooBig (iLen pad) (iLen n) = decide (pad > n)) ∧
    (∀ n pad : Nat, Gen.H2Frame.headersPadTooBig (iLen n) (iLen pad) = decide (pad > n)) ∧
    (∀ pad n : Nat, Gen.H2Limits.pushPadTooBig (iLen pad) (iLen n) = decide (pad > n)) ∧
    (∀ size remain : Nat, Gen.H2Limits.headerListOver (iLen size) (iLen remain) = decide (size > remain)) ∧
    (∀ cur adv : Nat, Gen.H2Limits.tooManyStreams (iLen cur) (iLen adv) = decide (cur ≥ adv)) ∧
    (∀ (server : Bool) (id val : Nat), settingCode server id val = refSettingCode server id val) ∧
    (∀ (w : Int) (inc : Nat), -2147483648 ≤ w ∧ w ≤ 2147483647 → inc ≤ 2147483647 →
        windowUpdate w inc = refWindowUpdate w inc) := by
  open Lemmas.H2Limits in
  refine ⟨readTooLarge_iff, readHeaderIncomplete_iff, readPayloadIncomplete_iff, setMaxRead_eq, priorityBadLength_eq,
    rstBadLength_eq, pingBadLength_eq, windowUpdateBadLength_eq, goAwayBadLength_eq, settingsBadLength_eq,
    settingsAckWithPayload_eq, windowUpdateZero_eq, dataPadTooBig_eq, headersPadTooBig_eq, pushPadTooBig_eq,
    headerListOver_eq, tooManyStreams_eq, settingCode_eq, ?_⟩
  intro w inc hw hi
  unfold windowUpdate refWindowUpdate
  rw [windowUpdateZero_eq]
  by_cases h0 : inc = 0
  · simp [h0, Gen.H2Limits.errCodeProtocol]
  · have hacc := flow_add_increment w (iLen inc) hw (by unfold iLen; omega)
    simp only [h0, decide_false, Bool.false_eq_true, if_false]
    cases hb : (add w (iLen inc)).2
    · have : w + (inc : Int) > 2147483647 := by
        rw [hb] at hacc; unfold iLen at hacc; simp only [Bool.false_eq_true, false_iff] at hacc; omega
      simp [this, Gen.H2Limits.errCodeFlowControl]
    · have : ¬ (w + (inc : Int) > 2147483647) := by have := hacc.1 hb; unfold iLen at this; omega
      simp [this, (add_spec w (iLen inc) hw (by unfold iLen; omega)).2.1 hb, iLen]

/-- **read_outcome_matches_reference**: for every frame header (type, flags, stream id, length), pad length octet, read
limit and number of buffered octets, `MFramer.ReadFrame` (size test, completeness tests and the payload parser's length,
padding and stream-id tests, in the order of the code) answers what RFC 7540 prescribes. -/
theorem read_outcome_matches_reference (limit avail : Nat) (f : Frame) :
    readOutcome limit avail f = refOutcome limit avail f := by
  open Lemmas.H2Limits in
  simp only [readOutcome, refOutcome, parse_eq_ref, Gen.H2Limits.readSizeTestFirst, if_true, readHeaderIncomplete_iff,
    readTooLarge_iff, readPayloadIncomplete_iff]

/-- **frame_size_limit_exact**: once its 9-octet header is buffered, a frame is refused with ErrFrameTooLarge iff its
PAYLOAD length exceeds the limit — whatever its type, flags, stream id or content. -/
theorem frame_size_limit_exact (limit avail : Nat) (f : Frame) (h : 9 ≤ avail) :
    readOutcome limit avail f = .tooLarge ↔ f.len > limit := by
  rw [read_outcome_matches_reference]
  unfold refOutcome
  have h9 : ¬ avail < 9 := by omega
  simp only [h9, if_false]
  by_cases b : f.len > limit
  · simp [b]
  · simp only [b, if_false]
    constructor
    · intro e
      split at e
      · cases e
      · exact absurd e (Lemmas.H2Limits.refParse_ne_tooLarge f)
    · intro e; exact e.elim

example : readOutcome 1048576 (9 + 1048576) ⟨0, 0, 1, 1048576, 0, 1⟩ = .ok 1048576 := by decide +kernel
example : readOutcome 1048576 9 ⟨0, 0, 1, 1048577, 0, 1⟩ = .tooLarge := by decide +kernel
example : readOutcome 1048576 9 ⟨0, 0, 1, 1048576, 0, 1⟩ = .again := by decide +kernel

/-- negation witness: the variant that counts the 9-octet header against the limit (`fh.Length+frameHeaderLen > maxReadSize`)
is NOT the reference predicate — it refuses a frame that fills the advertised maximum exactly. -/
theorem header_counted_variant_refuted :
    ¬ (∀ len lim : Nat, decide (iLen len + 9 > iLen lim) = true ↔ len > lim) := by
  intro h
  have := (h 1048576 1048576).1 (by decide)
  omega

/-- **advertised_is_enforced**: the values of MOSN's first SETTINGS frame (regenerated from MServerConn.Init /
MClientConn.WriteInitFrame) are the values its own framer and connection are configured with (regenerated from
NewServerConn / NewClientConn): MAX_FRAME_SIZE = the read limit after the SetMaxReadFrameSize clamp, MAX_HEADER_LIST_SIZE
= Framer.MaxHeaderListSize, MAX_CONCURRENT_STREAMS = advMaxStreams; every advertised value is valid by the rules the
server applies to its peer; the client advertises no MAX_FRAME_SIZE (RFC default 16384) and reads up to a larger limit. -/
theorem advertised_is_enforced :
    Gen.H2Limits.serverAdvertised.lookup Gen.H2Limits.settingMaxFrameSize = some (setMaxRead Gen.H2Limits.serverReadSizeArg) ∧
    Gen.H2Limits.serverAdvertised.lookup Gen.H2Limits.settingMaxHeaderListSize = some Gen.H2Limits.serverMaxHeaderListSize ∧
    Gen.H2Limits.serverAdvertised.lookup Gen.H2Limits.settingMaxConcurrentStreams = some Gen.H2Limits.serverAdvMaxStreams ∧
    (∀ p ∈ Gen.H2Limits.serverAdvertised ++ Gen.H2Limits.clientAdvertised, refSettingCode true p.1 p.2 = 0) ∧
    Gen.H2Limits.clientAdvertised.lookup Gen.H2Limits.settingMaxFrameSize = none ∧
    Gen.H2Limits.initialMaxFrameSize ≤ setMaxRead Gen.H2Limits.clientReadSizeArg ∧
    Gen.H2Limits.clientAdvertised.lookup Gen.H2Limits.settingMaxHeaderListSize = some Gen.H2Limits.clientMaxHeaderListSize := by
  decide +kernel

end limits

end MosnVerif.Props.C18
