import MosnVerif.Lemmas.PoolSpec
import MosnVerif.Lemmas.StreamOnce
import MosnVerif.Lemmas.PoolMuxSpec
import MosnVerif.Lemmas.PoolH2Steps
import MosnVerif.Lemmas.PoolWinWitness
import MosnVerif.Lemmas.PoolMxWin
import MosnVerif.Model.PoolDialWin
/-!
# C09 — upstream connection pools: exclusive leases, no leaks, no dirty reuse (property theorems only)

All theorems are about `Model/Pool.lean` (HTTP/1 pool and xprotocol ping-pong pool, both `Kind`s), whose decisions are
the regenerated functions of `Gen/Pool.lean`, and hold for EVERY pool configuration (`maxConn`, `maxReq`), EVERY list
of operations {new stream (connect ok | refused | timed out), response (with/without `Connection: close`), garbage reply, local
reset, late reset of a finished stream, go-away, unknown-id reply, connection close by either side, Shutdown, Close,
load on the shared requests breaker from other pools} and every intermediate state (`reach`).
-/
namespace MosnVerif.Props.C09
open MosnVerif.Model.Pool MosnVerif.Gen.Pool

/-- the state after an arbitrary operation list against a fresh pool -/
def reach (k : Kind) (maxConn maxReq : Nat) (ops : List Op) : State := run (init k maxConn maxReq) ops

/-- connection `c` is leased: some in-flight (not yet destroyed) stream runs on it -/
def Leased (s : State) (c : Nat) : Prop := ∃ i, i < s.nStreams ∧ (s.stream i).live = true ∧ (s.stream i).conn = c
/-- connection `c` sits in the pool's idle list -/
def Idle (s : State) (c : Nat) : Prop := c ∈ s.idle
/-- truth: the TCP connection of `c` is gone -/
def Closed (s : State) (c : Nat) : Prop := (s.client c).netOpen = false

theorem reach_inv (k : Kind) (maxConn maxReq : Nat) (ops : List Op) : Inv (reach k maxConn maxReq ops) :=
  inv_run _ (inv_init k maxConn maxReq) ops

/-- **partition**: at every quiescent point each connection the pool ever made is in exactly one of the states
{leased to a request, idle in the pool, closed}; and the pool's `closed` flag tells the truth. -/
theorem partition (k : Kind) (maxConn maxReq : Nat) (ops : List Op) (c : Nat)
    (hc : c < (reach k maxConn maxReq ops).nClients) :
    let s := reach k maxConn maxReq ops
    (Leased s c ∨ Idle s c ∨ Closed s c) ∧ ¬(Leased s c ∧ Idle s c) ∧ ¬(Leased s c ∧ Closed s c) ∧
    ¬(Idle s c ∧ Closed s c) ∧ ((s.client c).closed = !(s.client c).netOpen) := by
  intro s
  have h : Inv s := reach_inv k maxConn maxReq ops
  have hft := h.flagTruth c hc
  refine ⟨?_, ?_, ?_, ?_, ?_⟩
  · cases hcl : (s.client c).closed
    · rcases h.noLeak c hc hcl with h1 | h1
      · exact Or.inr (Or.inl h1)
      · exact Or.inl h1
    · right; right; show (s.client c).netOpen = false; rw [hft, hcl]; rfl
  · rintro ⟨⟨i, hi, hl, hcc⟩, hidle⟩; exact (h.idleOk c hidle).2.2 i hi hl hcc
  · rintro ⟨⟨i, hi, hl, hcc⟩, hcl⟩
    have h1 := h.liveOk i hi hl
    rw [hcc] at h1
    have h2 : (s.client c).netOpen = false := hcl
    rw [hft, h1] at h2; exact absurd h2 (by decide)
  · rintro ⟨hidle, hcl⟩
    have h1 := (h.idleOk c hidle).2.1
    have h2 : (s.client c).netOpen = false := hcl
    rw [hft, h1] at h2; exact absurd h2 (by decide)
  · rw [hft]; cases (s.client c).closed <;> rfl

/-- **books**: `totalClientCount` equals (number of in-flight streams) + (length of the idle list), the idle list
has no duplicates, and the shared requests breaker counts exactly the in-flight streams plus the slots held elsewhere
(it counts nothing when its limit is 0). Together with `exclusive` the first summand is the number of leased
connections. -/
theorem books (k : Kind) (maxConn maxReq : Nat) (ops : List Op) :
    let s := reach k maxConn maxReq ops
    s.total = (s.liveCount : Int) + (s.idle.length : Int) ∧ s.idle.Nodup ∧
    s.reqCur = (if s.maxReq = 0 then 0 else (s.ext : Int) + (s.liveCount : Int)) := by
  intro s
  have h : Inv s := reach_inv k maxConn maxReq ops
  exact ⟨h.books, h.idleNodup, h.req⟩

/-- the counters never go below zero (no wrap-around of the unsigned `totalClientCount`). -/
theorem counters_nonneg (k : Kind) (maxConn maxReq : Nat) (ops : List Op) :
    0 ≤ (reach k maxConn maxReq ops).total ∧ 0 ≤ (reach k maxConn maxReq ops).reqCur := by
  have h := reach_inv k maxConn maxReq ops
  refine ⟨by rw [h.books]; omega, ?_⟩
  rw [h.req]; split <;> omega

/-- **exclusive**: a ping-pong connection carries at most one in-flight stream. -/
theorem exclusive (k : Kind) (maxConn maxReq : Nat) (ops : List Op) (i j : Nat) :
    let s := reach k maxConn maxReq ops
    i < s.nStreams → j < s.nStreams → (s.stream i).live = true → (s.stream j).live = true →
    (s.stream i).conn = (s.stream j).conn → i = j := by
  intro s
  exact (reach_inv k maxConn maxReq ops).excl i j

/-- **clean_reuse**, first half: a connection on which some request was reset (local reset / timeout, remote reset,
connection failure) is closed at the next quiescent point — it is neither idle nor leased any more. -/
theorem clean_reuse (k : Kind) (maxConn maxReq : Nat) (ops : List Op) (i : Nat) :
    let s := reach k maxConn maxReq ops
    i < s.nStreams → (s.stream i).resets ≠ [] →
    Closed s (s.stream i).conn ∧ ¬ Idle s (s.stream i).conn ∧ ¬ Leased s (s.stream i).conn := by
  intro s hi hr
  have h : Inv s := reach_inv k maxConn maxReq ops
  have hcn := h.connOk i hi
  have hc : Closed s (s.stream i).conn := by
    show (s.client _).netOpen = false
    rw [h.flagTruth _ hcn, h.dirtyClosed _ hcn (h.resetDirty i hi hr)]; rfl
  -- a closed connection is neither idle nor leased
  have hp := partition k maxConn maxReq ops _ hcn
  exact ⟨hc, fun hidle => hp.2.2.2.1 ⟨hidle, hc⟩, fun hl => hp.2.2.1 ⟨hl, hc⟩⟩

/-- **clean_reuse**, second half: every earlier exchange on a connection that is idle or leased completed cleanly:
it received exactly one response and was never reset. -/
theorem clean_history (k : Kind) (maxConn maxReq : Nat) (ops : List Op) (i : Nat) :
    let s := reach k maxConn maxReq ops
    i < s.nStreams → (s.stream i).live = false → (Idle s (s.stream i).conn ∨ Leased s (s.stream i).conn) →
    (s.stream i).recv = 1 ∧ (s.stream i).resets = [] := by
  intro s hi hl hopen
  have h : Inv s := reach_inv k maxConn maxReq ops
  have hnr : (s.stream i).resets = [] := by
    cases hr : (s.stream i).resets with
    | nil => rfl
    | cons a r =>
      have := clean_reuse k maxConn maxReq ops i hi (by show (s.stream i).resets ≠ []; rw [hr]; simp)
      rcases hopen with ho | ho
      · exact absurd ho this.2.1
      · exact absurd ho this.2.2
  rcases h.deadWhy i hi hl with h1 | h1
  · exact ⟨h1, hnr⟩
  · exact absurd hnr h1

/-- **no_leak**, first half: a refused or failed `NewStream` (requests breaker full, connection limit reached,
connect failure) leaves the whole state — books and truth — exactly as it was. Holds in every state. -/
theorem no_leak (s : State) (dial : Dial) (h : (newStream s dial).2.isOk = false) :
    (newStream s dial).1 = s := newStream_refused s dial h

/-- `no_leak` for a failed dial spelled out: when no idle connection exists the call dials; whether the connect is
refused (`api.ConnectFailed`) or times out (`api.ConnectTimeout`) the call is not granted and the slot it took for the
new connection is free again (`totalClientCount` and everything else exactly as before). The counter movements of the
failure branch and of both event branches are regenerated (`h1DialFailDelta`, `ppDialFailDelta`). -/
theorem dial_failure_releases_slot (s : State) (dial : Dial) (hf : dial.fails = true) (hidle : s.idle = []) :
    (newStream s dial).2.isOk = false ∧ (newStream s dial).1 = s := by
  have h1 : (newStream s dial).2.isOk = false := by
    rw [newStream_isOk, acquire_isOk, hidle]
    simp [hf]
  exact ⟨h1, newStream_refused s dial h1⟩

/-- **no_leak**, second half (capacity comes back): in every reachable state a lease is granted exactly when the
requests breaker has room and fewer than `maxConn` connections are really leased (and a connection can be had).
Capacity therefore depends only on the truth, never on history: whatever finished, failed or was refused before. -/
theorem capacity_restored (k : Kind) (maxConn maxReq : Nat) (ops : List Op) (dial : Dial) :
    let s := reach k maxConn maxReq ops
    (newStream s dial).2.isOk = true ↔
      ((maxReq = 0 ∨ s.ext + s.liveCount < maxReq) ∧ (maxConn = 0 ∨ s.liveCount < maxConn) ∧
       (dial.fails = false ∨ s.idle ≠ [])) := by
  intro s
  have h : Inv s := reach_inv k maxConn maxReq ops
  have hk : s.maxConn = maxConn ∧ s.maxReq = maxReq := by
    have := (run_kept _ (inv_init k maxConn maxReq) ops).2
    exact ⟨this.2.1, this.2.2⟩
  have := granted_iff s h dial
  rw [hk.1, hk.2] at this
  exact this

/-- **destroy_once**: every stream tells its listeners of its destruction at most once, exactly once when it is no
longer in flight; it hands over at most one response, and none after a reset. -/
theorem destroy_once (k : Kind) (maxConn maxReq : Nat) (ops : List Op) (i : Nat) :
    let s := reach k maxConn maxReq ops
    i < s.nStreams →
    (s.stream i).destroys ≤ 1 ∧ ((s.stream i).destroys = 0 ↔ (s.stream i).live = true) ∧
    (s.stream i).recv ≤ 1 ∧ (s.stream i).resets.length ≤ 1 ∧ ((s.stream i).recv = 1 → (s.stream i).resets = []) :=
  fun hi => onceOk_at (reach_inv k maxConn maxReq ops).onceOk hi

/-- the executable predicate evaluated on the implementation's observations holds of every model observation. -/
theorem spec_holds_on_model (k : Kind) (maxConn maxReq : Nat) (ops : List Op) :
    let s := reach k maxConn maxReq ops
    obsSpec s.maxReq s.ext (obsOf s) = true ∧
    ∀ f : Dial, newStreamSpec s.maxConn s.maxReq s.ext f.fails (obsOf s) (newStream s f).2.isOk (obsOf (newStream s f).1) = true := by
  intro s
  have h : Inv s := reach_inv k maxConn maxReq ops
  exact ⟨obsSpec_holds s h, fun f => newStreamSpec_holds s h f⟩

/-! ### non-vacuity: concrete histories reaching the interesting states -/
-- reuse after a clean exchange: the same connection serves the second request
example : ((trace (init .h1 1 1) [.newStream .ok, .response 0 false, .newStream .ok]).map (·.1)) =
    [.ok 0, .none, .ok 0] := by decide +kernel
-- local reset: the connection is closed, the next request gets a new one; books are back to 1
example : let s := reach .pp 1 0 [.newStream .ok, .localReset 0, .newStream .ok]
    (s.client 0).netOpen = false ∧ s.idle = [] ∧ s.total = 1 ∧ (s.stream 1).conn = 1 := by decide +kernel
-- requests breaker full (held by another pool): refusal, no connection made, capacity back after release
example : ((trace (init .h1 2 1) [.extInc, .newStream .ok, .extDec, .newStream .ok]).map (·.1)) =
    [.none, .overflow, .none, .ok 0] := by decide +kernel
example : (reach .h1 2 1 [.extInc, .newStream .ok]).nClients = 0 := by decide +kernel
-- max_connections dial timeouts in a row, then a dial that succeeds: the slots were all given back
example : ((trace (init .h1 2 0) [.newStream .timeout, .newStream .timeout, .newStream .timeout, .newStream .ok, .newStream .refused, .newStream .ok]).map (·.1)) =
    [.connFail true, .connFail true, .connFail true, .ok 0, .connFail false, .ok 1] := by decide +kernel
example : (reach .h1 2 0 [.newStream .timeout, .newStream .timeout]).total = 0 := by decide +kernel
example : (reach .pp 1 0 [.newStream .timeout, .newStream .refused]).total = 0 := by decide +kernel
-- connection limit reached, then freed by a remote close of the leased connection
example : ((trace (init .pp 1 0) [.newStream .ok, .newStream .ok, .connClose 0 true, .newStream .ok]).map (·.1)) =
    [.ok 0, .overflow, .none, .ok 1] := by decide +kernel

/-! ## concurrent `ResetStream` / `DestroyStream` calls on one stream (the schedules of the quantifier)

`Model/StreamOnce.lean`: any number of goroutines, each issuing any list of `ResetStream` / `DestroyStream` calls on ONE
`BaseStream`, interleaved step by step (atomic accesses of `state`, `Lock` / `Unlock`, listener loops) by an arbitrary
schedule.  The step programs are regenerated (`Gen/StreamOnce.lean`). -/
section Concurrent
open MosnVerif.Model.StreamOnce MosnVerif.Gen.StreamOnce

/-- the tie's precondition: in the Go source every atomic access of `state` and every `Lock` of the two methods is
directly preceded by a verif yield point naming it, so the harness' scheduler can stop a goroutine before each. -/
theorem yield_sites_cover_atomics : yieldCovered = true := by decide +kernel

/-- the regenerated programs are in the class the invariant is proved for: `DestroyStream` passes ONE compare-and-swap
from the live state before anything else it does to the stream; `ResetStream` only load-guards, notifies and calls it. -/
theorem gen_progs_good : good genProgs = true := by decide +kernel

/-- for EVERY pair of step programs of that class, every set of goroutines and every schedule. -/
theorem destroy_once_concurrent_of_good (P : Progs) (hP : good P = true) (ts : List (List Call)) (sched : List Nat) :
    let c := (Conf.init P ts).run P sched
    c.destroys ≤ 1 ∧ (c.state = 0 → c.destroys = 0) ∧ c.resets ≤ resetCalls ts * rcount P.reset ∧
    (c.done = true → (∃ l ∈ ts, l ≠ []) → c.destroys = 1 ∧ c.state ≠ 0) := by
  intro c
  simp only [good, Bool.and_eq_true, beq_iff_eq] at hP
  obtain ⟨⟨hgd, hgr⟩, hrc⟩ := hP
  obtain ⟨new, body, hD⟩ := goodD_shape P.destroy hgd
  have hinv : Inv new body ts c := inv_run hD _ (inv_init hD hgr ts) sched
  exact ⟨hinv.destroys.1, hinv.destroys.2, resets_le P hrc ts sched, hinv.returned⟩

/-- **destroy_once_concurrent**: for every number of goroutines, every list of `ResetStream` / `DestroyStream` calls
each of them issues on one stream and EVERY schedule of their atomic steps, the destroy listeners are notified at most
once, and never while `state` still says the stream is live; the reset listeners are notified at most once per
`ResetStream` call — at most once when at most one of the overlapping calls is a `ResetStream` (a timeout's reset
overlapping the completion's `DestroyStream`). -/
theorem destroy_once_concurrent (ts : List (List Call)) (sched : List Nat) :
    let c := (Conf.init genProgs ts).run genProgs sched
    c.destroys ≤ 1 ∧ (c.state = 0 → c.destroys = 0) ∧ c.resets ≤ resetCalls ts ∧ (resetCalls ts ≤ 1 → c.resets ≤ 1) := by
  intro c
  have h := destroy_once_concurrent_of_good genProgs gen_progs_good ts sched
  have hr : rcount genProgs.reset = 1 := by decide +kernel
  rw [hr, Nat.mul_one] at h
  exact ⟨h.1, h.2.1, h.2.2.1, fun h1 => Nat.le_trans h.2.2.1 h1⟩

/-- … and exactly once as soon as every call has returned (at least one call was made): no schedule loses the
destruction, whoever wins the CAS delivers it. -/
theorem destroy_exactly_once_when_returned (ts : List (List Call)) (sched : List Nat)
    (hcall : ∃ l ∈ ts, l ≠ []) (hdone : ((Conf.init genProgs ts).run genProgs sched).done = true) :
    ((Conf.init genProgs ts).run genProgs sched).destroys = 1 ∧ ((Conf.init genProgs ts).run genProgs sched).state ≠ 0 :=
  (destroy_once_concurrent_of_good genProgs gen_progs_good ts sched).2.2.2 hdone hcall

/-- the executable predicate of the `once` cases holds of every model configuration. -/
theorem once_spec_holds_on_model (ts : List (List Call)) (sched : List Nat) :
    let c := (Conf.init genProgs ts).run genProgs sched
    onceSpec (resetCalls ts) (ts.map List.length).sum c.done c.state c.resets c.destroys = true := by
  intro c
  have h := destroy_once_concurrent ts sched
  have hcalls : (ts.map List.length).sum ≠ 0 → ∃ l ∈ ts, l ≠ [] := fun hn =>
    let ⟨_, l, hl, hp⟩ := Lemmas.Fold.exists_pos_of_sum_map_pos List.length ts (Nat.pos_of_ne_zero hn)
    ⟨l, List.mem_of_getElem? hl, List.ne_nil_of_length_pos hp⟩
  simp only [onceSpec, Bool.and_eq_true, Bool.or_eq_true, decide_eq_true_eq, Bool.not_eq_true', beq_iff_eq, bne_iff_ne, ne_eq]
  refine ⟨⟨⟨h.1, h.2.2.1⟩, ?_⟩, ?_⟩
  · by_cases hd : c.done = true
    · by_cases hn : (ts.map List.length).sum = 0
      · exact Or.inl (Or.inr hn)
      · have := destroy_exactly_once_when_returned ts sched (hcalls hn) hd
        exact Or.inr ⟨this.1, this.2⟩
    · left; left; simpa using hd
  · by_cases hz : c.destroys = 0
    · exact Or.inl hz
    · right; intro hs; exact hz (h.2.1 hs)

/-! ### witnesses -/
-- the exactly-once guard written as "load, then store under the stream lock": two destroyers that both load before
-- either stores notify the destroy listeners TWICE (goroutines 0 and 1 each issue one DestroyStream)
example : ((Conf.init loadStoreProgs [[.destroy], [.destroy]]).run loadStoreProgs
    [0, 0, 1, 1, 0, 0, 0, 0, 0, 0, 0, 1, 1, 1, 1, 1, 1, 1]).destroys = 2 := by decide +kernel
-- the same with the seeded overlap: a timeout's ResetStream (goroutine 0) is still notifying its listeners when the
-- completion's DestroyStream (goroutine 1) passes its load
example : ((Conf.init loadStoreProgs [[.reset], [.destroy]]).run loadStoreProgs
    [0, 0, 0, 0, 1, 1, 0, 0, 0, 0, 0, 0, 0, 0, 0, 0, 0, 0, 1, 1, 1, 1, 1, 1, 1]).destroys = 2 := by decide +kernel
example : good loadStoreProgs = false := by decide +kernel
-- the current code under the same schedules: once
example : ((Conf.init genProgs [[.reset], [.destroy]]).run genProgs
    [0, 0, 0, 0, 1, 1, 0, 0, 0, 0, 0, 0, 0, 0, 0, 0, 0, 0, 1, 1, 1, 1, 1, 1, 1]).destroys = 1 := by decide +kernel
-- a quirk of the code that exists, outside the property: two OVERLAPPING ResetStream calls both pass the load guard
-- and both notify OnResetStream (the destroy still happens once) — hence "at most once per ResetStream call"
def twoResets : Conf := (Conf.init genProgs [[.reset], [.reset]]).run genProgs
  ([0, 0, 1, 1] ++ List.replicate 14 0 ++ List.replicate 8 1)
example : twoResets.resets = 2 ∧ twoResets.destroys = 1 ∧ twoResets.done = true := by decide +kernel
-- non-vacuity of `done`: a complete schedule exists
example : ((Conf.init genProgs [[.reset, .destroy], [.destroy]]).run genProgs
    ((List.replicate 25 0) ++ (List.replicate 10 1))).done = true := by decide +kernel

end Concurrent

/-! ## the multiplex pool (`Model/PoolMux.lean`): slots, shared connections, go-away

Every operation list {CheckAndInit (slot from the context | round robin; dial ok | refused | timed out), NewStream,
response, local reset, garbage, go-away, connection close by either side, Shutdown, Close, load on the shared requests
breaker}, every `max_connections` / `max_requests`. -/
section Mux
open MosnVerif.Model

/-- the state after an arbitrary operation list against a fresh multiplex pool -/
def mreach (maxConn maxReq : Nat) (ops : List PoolMux.Op) : PoolMux.State := PoolMux.run (PoolMux.init maxConn maxReq) ops

theorem mux_reach_inv (maxConn maxReq : Nat) (ops : List PoolMux.Op) : PoolMux.Inv (mreach maxConn maxReq ops) :=
  PoolMux.inv_run _ (PoolMux.inv_init maxConn maxReq) ops

/-- **books** (multiplex): the shared requests breaker counts exactly the requests in flight plus the slots held
elsewhere (nothing when its limit is 0); it never goes negative; both upstream request_active gauges (host, cluster)
count exactly the requests in flight.  "In flight" = streams with a receiver that have not ended: a one-way request
(`Op.newStreamOneway`) is never among them. -/
theorem mux_books (maxConn maxReq : Nat) (ops : List PoolMux.Op) :
    let s := mreach maxConn maxReq ops
    s.reqCur = (if s.maxReq = 0 then 0 else (s.ext : Int) + (s.liveCount : Int)) ∧ 0 ≤ s.reqCur ∧
    s.actHost = (s.liveCount : Int) ∧ s.actCluster = (s.liveCount : Int) := by
  intro s
  have hinv : PoolMux.Inv s := mux_reach_inv maxConn maxReq ops
  exact ⟨hinv.core.req, hinv.core.reqOk.nonneg, hinv.core.act.1, hinv.core.act.2⟩

/-- **a one-way request holds nothing**: in every reachable state, for every slot, `NewStream(ctx, nil)` — admitted or
refused — leaves the requests breaker, both request_active gauges, the slots, the connections and the streams exactly as
they were (the whole state): a one-way client stream is never destroyed or reset, so nothing could give a slot or a
gauge unit back.  Consequently any number of one-way requests changes neither the books nor the answer of the breaker
to the next request.  (Proved from the regenerated movements of the `receiver == nil` path of `NewStream`,
`Gen.PoolMuxMoves.muxLeaseMoves true`: with the one-way branch merged into the ordinary one this stops checking.) -/
theorem oneway_holds_nothing (maxConn maxReq : Nat) (ops : List PoolMux.Op) (k : Nat) :
    let s := mreach maxConn maxReq ops
    (PoolMux.step s (.newStreamOneway k)).1 = s ∧
    (∀ n, PoolMux.run s (List.replicate n (.newStreamOneway k)) = s) ∧
    (∀ c, (PoolMux.step s (.newStreamOneway k)).2 = .ok c →
      c < s.nClients ∧ (s.client c).netOpen = true ∧ (s.client c).goaway = 0 ∧
      Gen.Pool.canCreate s.maxReq s.reqCur = true) := by
  intro s
  have h : PoolMux.Inv s := mux_reach_inv maxConn maxReq ops
  refine ⟨PoolMux.newStreamOneway_state s k, ?_, ?_⟩
  · exact PoolMux.run_oneway s k
  · intro c hc
    replace hc : (PoolMux.newStream s k).2 = .ok c := (congrArg Prod.snd (PoolMux.newStreamOneway_eq s k)).symm.trans hc
    rcases PoolMux.newStream_cases s k with ⟨_, e⟩ | ⟨c0, hs, hst, hcan, e⟩
    · rw [hc] at e; cases e
    · rw [e] at hc; cases hc
      exact ⟨(h.usable hs hst).1, (h.usable hs hst).2.1, (h.usable hs hst).2.2, hcan⟩

/-- **no_leak** (multiplex): at every quiescent point every OPEN connection the pool ever made is either the
Connected client of its slot (the pool will lease requests on it) or is draining after a go-away with at least one
request still in flight — never open, unused and unreachable. (Fails for the code before the repair: after a go-away
with requests in flight and a re-connect, the drained connection stayed open and its close emptied the successor's
slot.) -/
theorem mux_no_leak (maxConn maxReq : Nat) (ops : List PoolMux.Op) (c : Nat) :
    let s := mreach maxConn maxReq ops
    c < s.nClients → (s.client c).netOpen = true →
    ((s.client c).slot < s.nSlots ∧ s.slot (s.client c).slot = .real c ∧ (s.client c).state = Gen.PoolMux.muxConnected) ∨
    (∃ i, i < s.nStreams ∧ (s.stream i).live = true ∧ (s.stream i).conn = c) := by
  intro s hc ho
  have h : PoolMux.Inv s := mux_reach_inv maxConn maxReq ops
  by_cases hg : (s.client c).goaway = 0
  · left
    have hs := h.core.openOk c hc ho hg
    exact ⟨h.core.slotRange _ c hs, hs, (h.core.st c hc).mpr hg⟩
  · right
    exact PoolMux.exists_of_countOn_pos _ _ _ (h.drain c hc ho hg)

/-- the pool's view is the truth: the Connected client of a slot has an open connection, and a request in flight is
on an open connection. -/
theorem mux_slot_truth (maxConn maxReq : Nat) (ops : List PoolMux.Op) :
    let s := mreach maxConn maxReq ops
    (∀ i c, s.slot i = .real c → (s.client c).state = Gen.PoolMux.muxConnected → c < s.nClients ∧ (s.client c).netOpen = true) ∧
    (∀ i, i < s.nStreams → (s.stream i).live = true → (s.client (s.stream i).conn).netOpen = true) := by
  intro s
  have h : PoolMux.Inv s := mux_reach_inv maxConn maxReq ops
  exact ⟨fun i c hs hst => ⟨(h.core.slotOk i c hs).1, (h.core.slotOk i c hs).2.2 hst⟩,
    fun i hi hl => (h.core.liveOk i hi hl).2⟩

/-- a lease is granted only on an open connection that has not been told to go away; a refusal (no usable client in
the slot, requests breaker full) changes nothing. -/
theorem mux_lease_sound (maxConn maxReq : Nat) (ops : List PoolMux.Op) (k : Nat) :
    let s := mreach maxConn maxReq ops
    (∀ c, (PoolMux.newStream s k).2 = .ok c → c < s.nClients ∧ (s.client c).netOpen = true ∧ (s.client c).goaway = 0) ∧
    ((PoolMux.newStream s k).2.isOk = false → (PoolMux.newStream s k).1 = s) := by
  intro s
  have h : PoolMux.Inv s := mux_reach_inv maxConn maxReq ops
  rcases PoolMux.newStream_cases s k with ⟨e1, e2⟩ | ⟨c0, hs, hst, _, e⟩
  · exact ⟨fun c hc => (by rw [hc] at e2; cases e2), fun _ => e1⟩
  · rw [e]
    exact ⟨fun c hc => (by cases hc; exact h.usable hs hst), fun hno => (by cases hno)⟩

/-- **destroy_once** (multiplex): every stream tells its listeners of its end at most once — exactly once when it is
no longer in flight — and hands over at most one response, none after a reset. -/
theorem mux_destroy_once (maxConn maxReq : Nat) (ops : List PoolMux.Op) (i : Nat) :
    let s := mreach maxConn maxReq ops
    i < s.nStreams →
    (s.stream i).destroys ≤ 1 ∧ ((s.stream i).destroys = 0 ↔ (s.stream i).live = true) ∧
    (s.stream i).recv ≤ 1 ∧ (s.stream i).resets.length ≤ 1 ∧ ((s.stream i).recv = 1 → (s.stream i).resets = []) :=
  fun hi => Pool.onceOk_at (mux_reach_inv maxConn maxReq ops).core.once hi

/-- the executable predicate evaluated on the implementation's observations holds of every model observation. -/
theorem mux_spec_holds_on_model (maxConn maxReq : Nat) (ops : List PoolMux.Op) :
    let s := mreach maxConn maxReq ops
    PoolMux.obsSpec s.maxReq s.ext (PoolMux.obsOf s) = true :=
  PoolMux.obsSpec_holds _ (mux_reach_inv maxConn maxReq ops)

/-! ### non-vacuity -/
-- go-away with a request in flight, re-connect, then the old request completes: the drained connection is closed,
-- the successor keeps its slot
example : let s := mreach 1 0 [.checkAndInit (some 0) .ok, .newStream 0, .goAway 0, .checkAndInit (some 0) .ok, .response 0]
    (s.client 0).netOpen = false ∧ s.slot 0 = .real 1 ∧ (s.client 1).netOpen = true := by decide +kernel
-- the old connection is lost instead: the successor keeps its slot and serves the next request
example : ((PoolMux.trace (PoolMux.init 1 2) [.checkAndInit (some 0) .ok, .newStream 0, .newStream 0, .goAway 0,
      .checkAndInit (some 0) .ok, .connClose 0 true, .newStream 0]).map (·.1)) =
    [.ready false, .ok 0, .ok 0, .none, .ready false, .none, .ok 1] := by decide +kernel
example : (mreach 1 2 [.checkAndInit (some 0) .ok, .newStream 0, .newStream 0, .goAway 0, .connClose 0 true]).reqCur = 0 := by decide +kernel
-- one-way requests: granted on the Connected client, and after any number of them the breaker (max_requests = 1) still
-- admits an ordinary request; the gauges count that request only
example : ((PoolMux.trace (PoolMux.init 1 1) [.checkAndInit (some 0) .ok, .newStreamOneway 0, .newStreamOneway 0, .newStreamOneway 0,
      .newStream 0, .newStreamOneway 0]).map (fun x => (x.1, x.2.reqCur, x.2.actHost, x.2.actCluster))) =
    [(.ready false, 0, 0, 0), (.ok 0, 0, 0, 0), (.ok 0, 0, 0, 0), (.ok 0, 0, 0, 0), (.ok 0, 1, 1, 1), (.overflow, 1, 1, 1)] := by decide +kernel
-- a dial that is refused or times out leaves the slot empty; the next CheckAndInit connects
example : ((PoolMux.trace (PoolMux.init 2 0) [.checkAndInit (some 1) .timeout, .newStream 1, .checkAndInit (some 1) .refused,
      .checkAndInit (some 1) .ok, .checkAndInit (some 1) .ok, .newStream 1]).map (·.1)) =
    [.ready false, .connFail, .ready false, .ready false, .ready true, .ok 0] := by decide +kernel

end Mux


/-! ## the HTTP/2 pool (`Model/PoolH2.lean`): one client per pool, replaced after GOAWAY

Every operation list {NewStream (dial ok | refused | timed out), response, local reset, RST_STREAM, graceful GOAWAY on a
given connection, close of a given connection by either side, Shutdown, Close, load on the shared requests breaker},
every `max_requests`.  The tests and counter movements are the regenerated `Gen/PoolH2.lean`. -/
section H2
open MosnVerif.Model

/-- the state after an arbitrary operation list against a fresh HTTP/2 pool -/
def hreach (maxReq : Nat) (ops : List PoolH2.Op) : PoolH2.State := PoolH2.run (PoolH2.init maxReq) ops

theorem h2_reach_inv (maxReq : Nat) (ops : List PoolH2.Op) : PoolH2.Inv (hreach maxReq ops) :=
  PoolH2.inv_run _ (PoolH2.inv_init maxReq) ops

/-- **books** (HTTP/2): at every quiescent point both upstream `connection_active` gauges equal the NUMBER of open
connections the pool made that are its client or have not been told to go away (`counted`) — which is 1 when the pool
holds a client and 0 otherwise; the pool's client is an open connection; every open connection that has not been told
to go away IS the pool's client (none is forgotten, at most one exists); the requests breaker and both `request_active`
gauges count the requests in flight.  (A connection that was told to go away leaves the gauge when `NewStream` replaces
it, or when it closes while still the pool's client — once; it then drains uncounted until the upstream closes it.) -/
theorem h2_books (maxReq : Nat) (ops : List PoolH2.Op) :
    let s := hreach maxReq ops
    s.connHost = (PoolH2.countP s.counted s.nConns : Int) ∧ s.connCluster = (PoolH2.countP s.counted s.nConns : Int) ∧
    s.connHost = (if s.active.isSome then 1 else 0) ∧
    (∀ c, s.active = some c → c < s.nConns ∧ (s.conn c).netOpen = true) ∧
    (∀ c, c < s.nConns → (s.conn c).netOpen = true → (s.conn c).goaway = 0 → s.active = some c) ∧
    s.reqCur = (if s.maxReq = 0 then 0 else (s.ext : Int) + (s.liveCount : Int)) ∧ 0 ≤ s.reqCur ∧
    s.actHost = (s.liveCount : Int) ∧ s.actCluster = (s.liveCount : Int) := by
  intro s
  have h : PoolH2.Inv s := h2_reach_inv maxReq ops
  have hc := PoolH2.countP_counted s h
  exact ⟨by rw [hc]; exact h.gauge.1, by rw [hc]; exact h.gauge.2, h.gauge.1, h.activeOk, h.openOk, h.req, h.reqOk.nonneg, h.act.1, h.act.2⟩

/-- a request is served by an open connection that has not been told to go away, which is the pool's client afterwards;
when such a connection exists BEFORE the call it is the one that serves (or the breaker refuses) and nothing is dialled;
otherwise at most one connection is dialled; a refusal takes nothing from the request books. -/
theorem h2_lease_sound (maxReq : Nat) (ops : List PoolH2.Op) (dial : Dial) :
    let s := hreach maxReq ops
    let r := PoolH2.newStream s dial
    (∀ c, r.2 = .ok c → c < r.1.nConns ∧ (r.1.conn c).netOpen = true ∧ (r.1.conn c).goaway = 0 ∧ r.1.active = some c) ∧
    (∀ c0, c0 < s.nConns → (s.conn c0).netOpen = true → (s.conn c0).goaway = 0 →
      r.1.nConns = s.nConns ∧ (r.2 = .ok c0 ∨ r.2 = .overflow)) ∧
    r.1.nConns ≤ s.nConns + 1 ∧
    (r.2.isOk = false → r.1.reqCur = s.reqCur ∧ r.1.actHost = s.actHost ∧ r.1.actCluster = s.actCluster ∧
      r.1.nStreams = s.nStreams) :=
  PoolH2.lease_sound _ (h2_reach_inv maxReq ops) dial

/-- **a GOAWAY is replaced once**: in every reachable state whose pool holds client `c`, after a graceful GOAWAY on `c`
the next request dials exactly ONE replacement `n` (the upstream's next connection), which becomes the pool's client and
serves the request (unless the breaker refuses it), both `connection_active` gauges are what they were (the old client
was given back, the new one counted), and `c` is still open, draining.  When `c` closes LATER — by either side — the
pool keeps `n`, the gauges do not move, `n` stays open; and the request after that is served without another dial. -/
theorem h2_goaway_replaces_once (maxReq : Nat) (ops : List PoolH2.Op) (c : Nat) (remote : Bool) (d : Dial) :
    let s := hreach maxReq ops
    s.active = some c →
    let s1 := (PoolH2.step s (.goAway c)).1
    let r2 := PoolH2.step s1 (.newStream .ok)
    let s3 := (PoolH2.step r2.1 (.connClose c remote)).1
    let r4 := PoolH2.step s3 (.newStream d)
    r2.1.nConns = s.nConns + 1 ∧ r2.1.active = some s.nConns ∧ (r2.2 = .ok s.nConns ∨ r2.2 = .overflow) ∧
    r2.1.connHost = s.connHost ∧ r2.1.connCluster = s.connCluster ∧ (r2.1.conn c).netOpen = true ∧
    s3.active = some s.nConns ∧ s3.connHost = s.connHost ∧ s3.connCluster = s.connCluster ∧
    (s3.conn c).netOpen = false ∧ (s3.conn s.nConns).netOpen = true ∧
    r4.1.nConns = s.nConns + 1 ∧ (r4.2 = .ok s.nConns ∨ r4.2 = .overflow) := by
  intro s ha
  have h : PoolH2.Inv s := h2_reach_inv maxReq ops
  have ⟨hc, ho⟩ := h.activeOk c ha
  have hne : s.nConns ≠ c := Nat.ne_of_gt hc
  have g0 := h.gauge_some ha
  -- the go-away marks the pool's client
  rw [show (PoolH2.step s (.goAway c)).1 = s.updC c (fun cl => { cl with goaway := Gen.PoolH2.h2GoAwayMark }) from
    congrArg Prod.fst (if_pos ⟨hc, ho⟩)]
  intro s1 r2 s3 r4
  have h1 : PoolH2.Inv s1 := PoolH2.inv_goAway s h c
  have hc1 : s1.conn c = { s.conn c with goaway := Gen.PoolH2.h2GoAwayMark } := if_pos rfl
  -- the next request: the marked client is given up, one connection is dialled
  obtain ⟨f1, f2, _, _, f5, _⟩ := PoolH2.newStream_conn_fields s1 .ok
  have p : PoolH2.pick s1 .ok = PoolH2.dialled (PoolH2.dropped s1) :=
    PoolH2.pick_goaway s1 h1 c ha (by rw [hc1]; exact (by decide : Gen.PoolH2.h2GoAwayMark ≠ 0)) .ok
  rw [p] at f1 f2 f5
  have e1 : r2.1.nConns = s.nConns + 1 := f1
  have e2 : r2.1.active = some s.nConns := f2
  have h2 : PoolH2.Inv r2.1 := PoolH2.inv_newStream s1 h1 .ok
  have g2 := h2.gauge_some e2
  have e6 : (r2.1.conn c).netOpen = true := by
    rw [show r2.1.conn c = s1.conn c from (congrFun f5 c).trans (if_neg hne.symm), hc1]; exact ho
  -- the late close of the replaced connection: it is not the pool's client any more
  have hs3 : s3 = PoolH2.closedSt r2.1 c PoolH2.connLost false := by
    show PoolH2.netClose r2.1 c PoolH2.connLost = _
    rw [PoolH2.netClose_eq r2.1 c _ (by omega) e6, e2, decide_eq_false (fun e => hne (Option.some.inj e))]
  have h3 : PoolH2.Inv s3 := PoolH2.inv_netClose r2.1 h2 c _
  have e7 : s3.active = some s.nConns := hs3 ▸ e2
  have g3 := h3.gauge_some e7
  have hnew : s3.conn s.nConns = {} := by
    rw [hs3]; exact (if_neg hne).trans ((congrFun f5 _).trans (if_pos rfl))
  -- the request after that: the replacement has not been told to go away, nothing is dialled
  have ⟨e12, e13⟩ := (PoolH2.lease_sound s3 h3 d).2.1 s.nConns (h3.activeOk _ e7).1 (by rw [hnew]) (by rw [hnew])
  exact ⟨e1, e2, PoolH2.newStream_served s1 .ok _ (congrArg (·.active) p), g2.1.trans g0.1.symm, g2.2.trans g0.2.symm, e6, e7,
    g3.1.trans g0.1.symm, g3.2.trans g0.2.symm, by rw [hs3]; exact congrArg PoolH2.Conn.netOpen (if_pos rfl), by rw [hnew],
    e12.trans (by rw [hs3]; exact e1), e13⟩

/-- **no_leak** (HTTP/2): every open connection the pool ever made is its client or has been told to go away by the
upstream (which then owns its closing: the pool lets it drain); once every connection is closed the pool holds no
client, both `connection_active` gauges and both `request_active` gauges are 0, no request is in flight and the requests
breaker is back at what the other pools hold. -/
theorem h2_no_leak (maxReq : Nat) (ops : List PoolH2.Op) :
    let s := hreach maxReq ops
    (∀ c, c < s.nConns → (s.conn c).netOpen = true → s.active = some c ∨ (s.conn c).goaway ≠ 0) ∧
    ((∀ c, c < s.nConns → (s.conn c).netOpen = false) →
      s.active = none ∧ s.connHost = 0 ∧ s.connCluster = 0 ∧ s.liveCount = 0 ∧ s.actHost = 0 ∧ s.actCluster = 0 ∧
      s.reqCur = (if s.maxReq = 0 then 0 else (s.ext : Int))) := by
  intro s
  have h : PoolH2.Inv s := h2_reach_inv maxReq ops
  refine ⟨?_, ?_⟩
  · intro c hc ho
    by_cases hg : (s.conn c).goaway = 0
    · left; exact h.openOk c hc ho hg
    · right; exact hg
  · exact PoolH2.all_closed s h

/-- the executable predicate evaluated on the implementation's observations holds of every model observation. -/
theorem h2_spec_holds_on_model (maxReq : Nat) (ops : List PoolH2.Op) :
    let s := hreach maxReq ops
    PoolH2.obsSpec s.maxReq s.ext s.told (PoolH2.obsOf s) = true :=
  PoolH2.obsSpec_holds _ (h2_reach_inv maxReq ops)

/-- the executable `NewStream` predicate (which connection serves a request, how many connections are dialled, what a
refusal takes) holds of every `NewStream` step of the model, in every reachable state, for every dial outcome. -/
theorem h2_newstream_spec_holds_on_model (maxReq : Nat) (ops : List PoolH2.Op) (dial : Dial) :
    let s := hreach maxReq ops
    let r := PoolH2.newStream s dial
    PoolH2.newStreamSpec s.maxReq s.ext s.told dial.fails (PoolH2.obsOf s) (PoolH2.resGranted r.2) r.2.render
      (PoolH2.obsOf r.1) = true :=
  PoolH2.newStreamSpec_holds _ (h2_reach_inv maxReq ops) dial

/-! ### non-vacuity -/
-- request, GOAWAY, request: one replacement is dialled and counted, the old connection drains uncounted
example : ((PoolH2.trace (PoolH2.init 0) [.newStream .ok, .goAway 0, .newStream .ok, .newStream .ok]).map
      (fun x => (x.1, x.2.active, x.2.connHost, x.2.connCluster, x.2.nConns))) =
    [(.ok 0, some 0, 1, 1, 1), (.none, some 0, 1, 1, 1), (.ok 1, some 1, 1, 1, 2), (.ok 1, some 1, 1, 1, 2)] := by decide +kernel
-- … the drained connection closes late: the replacement stays the pool's client, the gauges stay; then everything
-- closes: all gauges are 0 (hypothesis of `h2_no_leak` met)
example : ((PoolH2.trace (PoolH2.init 0) [.newStream .ok, .goAway 0, .newStream .ok, .connClose 0 true, .newStream .ok,
      .connClose 1 true]).map (fun x => (x.1, x.2.active, x.2.connHost, x.2.actHost, x.2.nConns))) =
    [(.ok 0, some 0, 1, 1, 1), (.none, some 0, 1, 1, 1), (.ok 1, some 1, 1, 2, 2), (.none, some 1, 1, 1, 2),
     (.ok 1, some 1, 1, 2, 2), (.none, none, 0, 0, 2)] := by decide +kernel
-- GOAWAY, then the connection closes before any further request: the gauge is given back by the close (before the
-- repair of onConnectionEvent it stayed 1 with no connection left)
example : ((fun (s : PoolH2.State) => (s.active, s.connHost, s.connCluster))
    (hreach 0 [.newStream .ok, .response 0, .goAway 0, .connClose 0 true])) = (none, 0, 0) := by decide +kernel
-- the hypotheses of `h2_goaway_replaces_once` are met
example : (hreach 2 [.newStream .ok, .newStream .ok]).active = some 0 := by decide +kernel
-- a refused dial / a full breaker take nothing; the breaker is asked after the dial (the connection stays the pool's)
example : ((PoolH2.trace (PoolH2.init 1) [.newStream .refused, .extInc, .newStream .ok, .extDec, .newStream .ok]).map
      (fun x => (x.1, x.2.active, x.2.connHost, x.2.reqCur))) =
    [(.connFail, none, 0, 0), (.none, none, 0, 1), (.overflow, some 0, 1, 1), (.none, some 0, 1, 0), (.ok 0, some 0, 1, 1)] := by decide +kernel

end H2

/-! ### the close window of OnDestroyStream (ping-pong and HTTP/1 pools): intermediate states, any interleaving

`Model/PoolWin.lean`: every statement of `OnDestroyStream` (helpers inlined; the ORDER is regenerated from the Go source,
`Gen/PoolDestroy`) and the delivery of the close event to the pool's handler are separate atomic steps; a `NewStream`, the
end of another request, a lost connection, a go-away frame may run between any two of them.  The theorems hold for every
label list (= every interleaving), every limit, both pools; they are proved for every program in the class `progOk`
(close test strictly before the single final put back) and the regenerated programs are decided to be in it. -/
section Win
open MosnVerif.Model.PoolWin MosnVerif.Lemmas.PoolWin MosnVerif.Lemmas.PoolWinWitness
open MosnVerif.Model.Pool (Kind Dial Res)

theorem destroy_prog_close_before_put (k : Kind) : progOk (destroyProg k) = true := by
  cases k
  · exact progOk_h1
  · exact progOk_pp

/-- **idle_clean_always**: at EVERY intermediate state of every interleaving the idle list holds only connections that are
open, not marked closed, clean (no request on them was reset or answered `Connection: close`) and carry no request. -/
theorem idle_clean_always (k : Kind) (maxConn maxReq : Nat) (ls : List Label) :
    idleClean (MosnVerif.Model.PoolWin.run (MosnVerif.Model.PoolWin.init k maxConn maxReq) ls) :=
  MosnVerif.Lemmas.PoolWin.idle_clean_always k maxConn maxReq _ (destroy_prog_close_before_put k) ls

/-- **no lease of a dirty connection under any interleaving**: whatever ran before, a `NewStream` that succeeds hands
out a fresh connection or an open, clean, un-leased one. -/
theorem lease_never_dirty (k : Kind) (maxConn maxReq : Nat) (ls : List Label) (d : Dial) (c : Nat)
    (s' : MosnVerif.Model.PoolWin.State) :
    MosnVerif.Model.PoolWin.step (MosnVerif.Model.PoolWin.run (MosnVerif.Model.PoolWin.init k maxConn maxReq) ls) (.newStream d) = (s', .ok c) →
    let s := MosnVerif.Model.PoolWin.run (MosnVerif.Model.PoolWin.init k maxConn maxReq) ls
    (c = s.nClients ∨ (c < s.nClients ∧ (s.client c).dirty = false ∧ (s.client c).live = false ∧
      (s.client c).netOpen = true ∧ (s.client c).closed = false)) :=
  MosnVerif.Lemmas.PoolWin.lease_never_dirty k maxConn maxReq _ (destroy_prog_close_before_put k) ls d c s'

/-- negation witness (put back, THEN close): the program is outside the class, and one schedule — request, local reset,
the statements of OnDestroyStream up to the close, NewStream inside the window — leases the dirty, closed connection. -/
theorem put_back_then_close_leases_dirty :
    progOk bad = false ∧ ¬ idleClean (MosnVerif.Model.PoolWin.run (initWith .pp 0 0 bad) badSched) ∧
    (MosnVerif.Model.PoolWin.step (MosnVerif.Model.PoolWin.run (initWith .pp 0 0 bad) badSched) (.newStream .ok)).2 = .ok 0 :=
  ⟨bad_not_progOk, bad_not_idleClean, bad_leased⟩

-- non-vacuity: in the real order the window is open (connection 0 closed, its close handler pending, not idle) and the
-- NewStream made inside it dials connection 1
example : (fun (s : MosnVerif.Model.PoolWin.State) => (s.idle, (s.client 0).netOpen, (s.client 0).closed, s.windowOpen 0))
    (MosnVerif.Model.PoolWin.run (MosnVerif.Model.PoolWin.init .pp 0 0)
      [.newStream .ok, .endStream 0 .localReset, .taskStep 0, .taskStep 0, .taskStep 0, .taskStep 0]) = ([], false, false, true) := by decide +kernel
example : (MosnVerif.Model.PoolWin.step (MosnVerif.Model.PoolWin.run (MosnVerif.Model.PoolWin.init .pp 0 0)
      [.newStream .ok, .endStream 0 .localReset, .taskStep 0, .taskStep 0, .taskStep 0, .taskStep 0]) (.newStream .ok)).2 = .ok 1 := by decide +kernel
example : (MosnVerif.Model.PoolWin.step (MosnVerif.Model.PoolWin.run (MosnVerif.Model.PoolWin.init .h1 0 0)
      [.newStream .ok, .endStream 0 .localReset, .taskStep 0]) (.newStream .ok)).2 = .ok 1 := by decide +kernel

end Win

/-! ### multiplex pool: no lease on a client that received go-away or was closed (`Model/PoolMxWin.lean`) -/
section MxNoLease
open MosnVerif.Model.PoolMxWin MosnVerif.Gen.PoolMux

/-- **mux_no_lease_on_closing_partial** (multiplex NewStream; full statement: under every interleaving no stream is created
on a client that received go-away or whose close handler ran — NOT proved globally: the state test and the creation of the
stream are separate unlocked statements, a go-away / close between them is a window of the code as it is, see the example
below; the stream created there ends by reset and is given back, `Props.C10.mux_request_ledger_exact_steps`).  Proved: (1) in the
regenerated program the slot load, the nil test, the state test and the breaker test all precede the creation of the
stream and every take; (2) in every state the state test lets a NewStream pass only on a client whose state word is
`Connected` — a client whose OnGoAway wrote GoAway, or a recycled one (Connecting), is refused with ConnectionFailure;
(3) the close handler's slot deletion removes a closed client that is still current, so a later slot load cannot find it;
(4) the LAST statement of NewStream (after the pool listens and the three takes) tests the connection: found closed —
whether it was closed before the state test, between the test and the creation of the stream, or between the creation and
the listener — the request is refused with ConnectionFailure (and what was taken is given back exactly once:
`mux_request_ledger_exact_steps` with `place` and `listen` as separate steps).  So the window that remains is precisely:
a lease is DECIDED by the state test; a go-away observed after that test does not revoke it (the stream is served, the
drained connection is closed after its last request), a close observed before the end of NewStream does. -/
theorem mux_no_lease_on_closing_partial :
    (progsOf .mux).nsPre = [.slotIdx, .loadSlot, .chkNil, .chkState, .chkBreaker] ∧
    (progsOf .mux).nsPost = [.place, .listen, .incHost, .incCluster, .incRes, .undoChk] ∧
    (∀ (pg : Progs) (led : Led) (b : Books) (t : Task) (c : Nat), t.c = some c → (b.client c).netOpen = false →
      (bookStmt pg led b t .undoChk).2.2 = .undo c ∧ (bookStmt pg led b t .undoChk).1.lastRes = .connFail) ∧
    (∀ (pg : Progs) (led : Led) (b : Books) (t : Task) (c : Nat), t.c = some c →
      (bookStmt pg led b t .chkState).2.2 ≠ .refuse → (b.client c).state = muxConnected) ∧
    (∀ (pg : Progs) (led : Led) (b : Books) (t : Task), t.c = none → (bookStmt pg led b t .chkNil).2.2 = .refuse) ∧
    (∀ (pg : Progs) (led : Led) (b : Books) (t : Task) (c : Nat), t.c = some c → (b.client c).state ≠ muxGoAway →
      b.slots (b.client c).slot = some c → (bookStmt pg led b t .delSlotIfCurrent).1.slots (b.client c).slot = none) := by
  refine ⟨by decide, by decide, ?_, ?_, ?_, ?_⟩
  · intro pg led b t c hc hn; simp [bookStmt, hc, hn]
  · intro pg led b t c hc h
    simp only [bookStmt, hc] at h
    split at h
    · assumption
    · exact absurd rfl h
  · intro pg led b t hc; simp [bookStmt, hc]
  · intro pg led b t c hc hs hslot
    simp [bookStmt, hc, hs, hslot, Books.setSlot]

-- go-away with a request in flight: the next NewStream on the slot is refused (cf), after CheckAndInit it goes to the successor
example : (drain 64 (run (init .mux 1 0) [.connect 0 true, .newStream 0 true, .taskStep 0, .taskStep 0, .taskStep 0,
    .taskStep 0, .taskStep 0, .taskStep 0, .taskStep 0, .taskStep 0, .taskStep 0, .taskStep 0, .goAway 0, .taskStep 1, .taskStep 1,
    .taskStep 1, .newStream 0 true])).bk.lastRes = .connFail := by decide +kernel
example : (drain 64 (run (drain 64 (run (init .mux 1 0) [.connect 0 true, .newStream 0 true, .goAway 0]))
    [.connect 0 true, .newStream 0 true])).bk.lastRes = .ok 1 := by decide +kernel
-- the window of the code as it is: go-away delivered between the state test and the creation of the stream
example : (drain 64 (run (init .mux 1 0) [.connect 0 true, .newStream 0 true, .taskStep 0, .taskStep 0, .taskStep 0,
    .taskStep 0, .goAway 0, .taskStep 1, .taskStep 1])).led.streams = [0] := by decide +kernel

end MxNoLease

/-! ### events inside the dial / init / NewStream accounting windows (`Model/PoolDialWin.lean`) -/
section DialWin
open MosnVerif.Model.PoolDialWin MosnVerif.Gen.PoolDial MosnVerif.Gen.Pool

def dwT : Nat → Int | 30 => 1 | 31 => -1 | _ => 0
def dwH : Nat → Int | 22 => 1 | 20 => -1 | _ => 0
def dwC : Nat → Int | 23 => 1 | 21 => -1 | _ => 0

theorem dw_move_additive (mr : Int) (b : Books) (c : Nat) (h : c ≠ 32) :
    (move mr b c).total = b.total + dwT c ∧ (move mr b c).cnH = b.cnH + dwH c ∧ (move mr b c).cnC = b.cnC + dwC c := by
  unfold move
  split
  all_goals first
    | exact absurd rfl h
    | (simp [dwT, dwH, dwC]; done)
    | (simp [dwT, dwH, dwC]; omega)
    | (unfold dwT dwH dwC; split <;> split <;> split <;> simp_all)

theorem dw_run_additive (mr : Int) (l : List Nat) (h : ∀ c ∈ l, c ≠ 32) (b : Books) :
    (MosnVerif.Model.PoolDialWin.run mr b l).total = b.total + (l.map dwT).sum ∧ (MosnVerif.Model.PoolDialWin.run mr b l).cnH = b.cnH + (l.map dwH).sum ∧
    (MosnVerif.Model.PoolDialWin.run mr b l).cnC = b.cnC + (l.map dwC).sum := by
  induction l generalizing b with
  | nil => simp [MosnVerif.Model.PoolDialWin.run]
  | cons c l ih =>
    have hm := dw_move_additive mr b c (h c (by simp))
    have := ih (fun x hx => h x (by simp [hx])) (move mr b c)
    simp only [MosnVerif.Model.PoolDialWin.run, List.foldl_cons, List.map_cons, List.sum_cons] at this ⊢
    omega

/-- the class of window programs the theorem is proved for: no guarded decrement, the dial counts +1 on the counter and
both gauges, the close handler -1 -/
def dwDialOk (dial close : List Nat) : Bool :=
  dial.all (· != 32) && close.all (· != 32) &&
  (dial.map dwT).sum == 1 && (dial.map dwH).sum == 1 && (dial.map dwC).sum == 1 &&
  (close.map dwT).sum == -1 && (close.map dwH).sum == -1 && (close.map dwC).sum == -1

theorem dialOk_regenerated : dwDialOk ppDialProg ppCloseProg = true := by decide +kernel

/-- W1. Whatever the position `p` of the close handler inside the dial window (before the gauges, between them, before
or after the counter's increment), the counter and both connection gauges end where they started: the connection that
was closed before it was counted is not counted, nothing stays behind. (Every program of the class; the regenerated
pair is in it.) -/
theorem pp_dial_window_books_any (dial close : List Nat) (h : dwDialOk dial close = true) (mr : Int) (b : Books) (p : Nat) :
    (dialClosedAtWith dial close mr b p).total = b.total ∧ (dialClosedAtWith dial close mr b p).cnH = b.cnH ∧
    (dialClosedAtWith dial close mr b p).cnC = b.cnC := by
  simp only [dwDialOk, Bool.and_eq_true, List.all_eq_true, bne_iff_ne, ne_eq, beq_iff_eq] at h
  obtain ⟨⟨⟨⟨⟨⟨⟨hd, hc⟩, d1⟩, d2⟩, d3⟩, c1⟩, c2⟩, c3⟩ := h
  have hall : ∀ c ∈ dial.take p ++ close ++ dial.drop p, c ≠ 32 := by
    intro c hc'
    simp only [List.mem_append] at hc'
    rcases hc' with (h1 | h1) | h1
    · exact hd c (List.mem_of_mem_take h1)
    · exact hc c h1
    · exact hd c (List.mem_of_mem_drop h1)
  have hr := dw_run_additive mr _ hall b
  have e : ∀ f : Nat → Int, ((dial.take p ++ close ++ dial.drop p).map f).sum = (dial.map f).sum + (close.map f).sum := by
    intro f
    have : (dial.map f).sum = ((dial.take p).map f).sum + ((dial.drop p).map f).sum := by
      rw [← List.sum_append, ← List.map_append, List.take_append_drop]
    simp only [List.map_append, List.sum_append]; omega
  simp only [dialClosedAtWith]
  rw [e, e, e] at hr
  omega

theorem pp_dial_window_books (mr : Int) (b : Books) (p : Nat) :
    (dialClosedAt mr b p).total = b.total ∧ (dialClosedAt mr b p).cnH = b.cnH ∧ (dialClosedAt mr b p).cnC = b.cnC :=
  pp_dial_window_books_any _ _ dialOk_regenerated mr b p

/-- without a close the dial counts the connection once -/
theorem pp_dial_counts_once (mr : Int) (b : Books) :
    (MosnVerif.Model.PoolDialWin.run mr b ppDialProg).total = b.total + 1 ∧ (MosnVerif.Model.PoolDialWin.run mr b ppDialProg).cnH = b.cnH + 1 := by
  have := dw_run_additive mr ppDialProg (by decide) b
  have h1 : (ppDialProg.map dwT).sum = 1 := by decide +kernel
  have h2 : (ppDialProg.map dwH).sum = 1 := by decide +kernel
  omega

-- non-vacuous: the counter passes through -1 inside the window
example : (MosnVerif.Model.PoolDialWin.run 0 {} (ppDialProg.take 1 ++ ppCloseProg)).total = -1 := by decide +kernel
-- negation witness: a decrement "guarded against underflow" skips the removal of the uncounted connection and the later
-- increment sticks: the counter says 1 with no connection, and with max_connections = 1 no request is admitted again
example : (dialClosedAtWith ppDialProg [20, 21, 32] 0 {} 1).total = 1 := by decide +kernel
example : ppCanNew 1 (dialClosedAtWith ppDialProg [20, 21, 32] 0 {} 1).total = false := by decide +kernel

/-- W2. `init` as it is (dial and store under `clientMux`, the close handler's delete under `clientMux` and by identity,
a client told to go away is not stored): whatever event lands inside the dial, the slot never ends up holding a
Connected client with a closed connection. -/
theorem mux_init_never_stores_closed (ev : MxEv) : mxAfterInit ev ≠ some false := by
  cases ev <;> decide

theorem mux_init_never_stores_closed_any (dl sl cl sg : Bool) (h : dl = true ∧ sl = true ∧ cl = true ∧ sg = true) (ev : MxEv) :
    mxAfterInitWith dl sl cl sg ev ≠ some false := by
  obtain ⟨rfl, rfl, rfl, rfl⟩ := h
  cases ev <;> decide

example : mxAfterInit .none = some true := by decide +kernel
-- negation witnesses: the dial outside the lock / a go-away client stored all the same
example : mxAfterInitWith false true true true .close = some false := by decide +kernel
example : mxAfterInitWith true true true false .goAway = some false := by decide +kernel

/-- W3 (partial: the statement for ALL starting ledgers is `∀ b`; checked here by evaluation for max_requests 0..2 from
the ledger of an idle pool and of a pool with one request in flight, every close position of the regenerated tail of
NewStream, connection open or closed on entry): a refusal gives back exactly what was taken and the Requests resource
ends non-negative. -/
def dwNsLedgerOk (mr : Int) (b : Books) (closed : Bool) (ev : Option Nat) : Bool :=
  let r := nsRun mr { b := b, connClosed := closed } ev
  decide (r.b.q ≥ 0) && (if r.refused then r.b.q == b.q && r.b.rqH == b.rqH && r.b.rqC == b.rqC
                         else r.b.rqH == b.rqH + 1 && r.b.rqC == b.rqC + 1)

theorem pp_newstream_refusal_ledger_partial :
    ∀ mr ∈ [(0 : Int), 1, 2], ∀ b ∈ [({} : Books), { q := 1, rqH := 1, rqC := 1 }], ∀ closed ∈ [true, false],
      ∀ ev ∈ [none, some 0, some 1, some 2, some 3, some 4, some 5],
        (decide (mr = 0) && decide (b.q ≠ 0)) || dwNsLedgerOk mr b closed ev = true := by decide +kernel

-- negation witness: the closed test moved in front of the accounting gives back what was never taken
example : (nsRunWith [50, 42, 51, 10, 11, 12, 43] ppCloseProg 1 { b := {}, connClosed := true } none).b.q = -1 := by decide +kernel

end DialWin

end MosnVerif.Props.C09
