import MosnVerif.Lemmas.BoltSpec
import MosnVerif.Lemmas.Dubbo
import MosnVerif.Lemmas.DubboThrift
import MosnVerif.Lemmas.Tars
import MosnVerif.Lemmas.HttpUri
import MosnVerif.Lemmas.Relay
import MosnVerif.Model.Http1Msg
import MosnVerif.Lemmas.RelayStart
import MosnVerif.Model.Http1Method
import MosnVerif.Model.Http1Framing
import MosnVerif.Lemmas.Reencode
import MosnVerif.Model.ReencodeSpec
import MosnVerif.Lemmas.EncodeState
import MosnVerif.Lemmas.H2Fwd
import MosnVerif.Lemmas.H2Spec
/-!
# C01 — forwarding fidelity (property theorems only)

One section per codec or path: bolt / boltv2 and the key/value header block they share, dubbo, dubbo-thrift, tars, the
HTTP/1 request target, method and framing, the TCP relay, encoding a frame again, HTTP/2 and the cross-protocol pairings.
The bolt theorems are about the models in `Model/Bolt*.lean`, whose offsets, widths, header lengths, protocol codes,
`RequestIdIndex`, header writers and refusal test are the regenerated `Gen.C01Bolt` / `Gen.C01BoltV2` definitions; the
other sections name their model where they begin.
Every statement quantifies over all byte strings / all frame values: no bound on any length.
-/
namespace MosnVerif.Props.C01
open MosnVerif.Model MosnVerif.Model.Bytes MosnVerif.Model.Bolt

/-! ## the key/value header block -/

/-- **decode_encode**: for every list of pairs whose key and value lengths fit the 4-byte length (and are not the
`0xFFFFFFFF` marker), decoding the encoded block gives the list back — any number of pairs, empty keys and values,
arbitrary bytes. -/
theorem kv_decode_encode (kvs : List BoltHeader.KV) (hw : BoltHeader.wf kvs) :
    BoltHeader.decode (BoltHeader.encode kvs) = .ok kvs := BoltHeader.decode_encode kvs hw

/-- `GetHeaderEncodeLength` is the length of what `EncodeHeader` writes: Σ (8 + |k| + |v|). -/
theorem kv_encode_length (kvs : List BoltHeader.KV) : (BoltHeader.encode kvs).length = BoltHeader.encodeLen kvs :=
  BoltHeader.encode_length kvs

example : BoltHeader.wf [([], []), ([0x6b], [0, 255, 7]), ([0x6b], [])] := by
  intro kv h; simp at h; rcases h with rfl | rfl | rfl <;> decide
example : BoltHeader.decode (BoltHeader.encode [([], []), ([0x6b], [0, 255, 7]), ([0x6b], [])])
    = .ok [([], []), ([0x6b], [0, 255, 7]), ([0x6b], [])] := by decide +kernel

/-! ## bolt / boltv2: the fast path -/

/-- **fast_identity** (bolt and boltv2, request / response / one-way, through either codec's `Decode`):
whenever `Decode` returns a frame, the frame forwarded after `SetRequestId i` is the received frame
`b.take n` with the 4 bytes at `RequestIdIndex` overwritten by `i` — for every value of every other byte, hence of
every fixed field, and every class / header / content length; `n` is the header length plus the three length
fields, the id window lies inside the frame, and the read buffer is not referenced (the result is a function of
`b.take n` only). -/
theorem bolt_fast_identity (c : Codec) (b : Bytes) (f : Frame) (n i : Nat) (h : decode c b = .frame f n) :
    encode (setId f i) = some (patch (b.take n) (kindOf f.kind).idIdx (be 4 i)) ∧
    (kindOf f.kind).idIdx + 4 ≤ n ∧ n ≤ b.length ∧
    n = (kindOf f.kind).hdrLen + f.classLen + f.headerLen + f.contentLen :=
  fast_identity_proto c b f n h i

/-- the patched frame has the length of the received one and differs from it only inside `[idIdx, idIdx+4)`,
where it carries the new id. -/
theorem bolt_fast_only_id_changes (c : Codec) (b : Bytes) (f : Frame) (n i : Nat) (h : decode c b = .frame f n) :
    ∃ out, encode (setId f i) = some out ∧ out.length = n ∧
      (∀ j, j < (kindOf f.kind).idIdx ∨ (kindOf f.kind).idIdx + 4 ≤ j → out[j]? = (b.take n)[j]?) ∧
      slice out (kindOf f.kind).idIdx ((kindOf f.kind).idIdx + 4) = be 4 i := by
  obtain ⟨he, hin, hle, _⟩ := fast_identity_proto c b f n h i
  have hl : (b.take n).length = n := by simp; omega
  have hw : (kindOf f.kind).idIdx + (be 4 i).length ≤ (b.take n).length := by simp [hl]; omega
  refine ⟨_, he, ?_, ?_, ?_⟩
  · rw [patch_length _ _ _ hw, hl]
  · intro j hj
    exact patch_getElem?_outside _ _ _ _ hw (by simpa using hj)
  · have := slice_patch_window (b.take n) (be 4 i) (kindOf f.kind).idIdx hw
    simpa using this

/-- the request-id index and header lengths the theorems talk about are the regenerated Go constants -/
theorem bolt_layout_constants :
    (kindOf .v1req).idIdx = Gen.C01Bolt.RequestIdIndex ∧ (kindOf .v1resp).idIdx = Gen.C01Bolt.RequestIdIndex ∧
    (kindOf .v2req).idIdx = Gen.C01BoltV2.RequestIdIndex ∧ (kindOf .v2resp).idIdx = Gen.C01BoltV2.RequestIdIndex ∧
    (kindOf .v1req).hdrLen = Gen.C01Bolt.RequestHeaderLen ∧ (kindOf .v1resp).hdrLen = Gen.C01Bolt.ResponseHeaderLen ∧
    (kindOf .v2req).hdrLen = Gen.C01BoltV2.RequestHeaderLen ∧ (kindOf .v2resp).hdrLen = Gen.C01BoltV2.ResponseHeaderLen := by
  decide

/-! ## bolt / boltv2: the slow path -/

/-- **slow_roundtrip**: any frame value that takes the slow path (built locally, or `Changed` / `ContentChanged` set)
whose fixed fields are ones a decoder produces and whose class, header pairs and body are representable
(class ≤ 65535 bytes, encoded header block ≤ 65535 bytes, body < 2³² bytes) re-encodes to bytes that either codec
decodes — consuming all of them — to exactly the same fixed fields, class, pair list and body, with the three length
fields equal to the section lengths. -/
theorem bolt_slow_roundtrip (c : Codec) (m : Frame) (ow : Bool) (hs : slowPath m)
    (hw : metaWF m.kind m.fx ow) (hrep : Ref.representable m = true) :
    ∃ out, encode m = some out ∧
      decode c out = .frame
        { kind := m.kind, fx := m.fx, classLen := m.cls.length, headerLen := BoltHeader.encodeLen m.kvs,
          contentLen := m.content.length, cls := m.cls, kvs := m.kvs, content := m.content,
          raw := some out, hdrChanged := false, contentChanged := false } out.length :=
  slow_roundtrip_proto c m ow hs hw hrep

/-- **slow_refuses**: if the class, the encoded header block or the body does not fit its length field, `Encode`
returns an error instead of a truncated frame. -/
theorem bolt_slow_refuses (m : Frame) (hs : slowPath m) (hrep : Ref.representable m = false) : encode m = none := by
  rw [encode_slow m hs]; exact encodeSlow_none _ m hrep

/-- **modified_roundtrip** — the property's sentence about modified frames, end to end: take any frame either codec
decoded from any bytes, apply any list of header `Set` / `Del`, `SetData`, and `SetRequestId`; if that marked the
frame dirty then either the modified message is representable and the output decodes (with the same codec, consuming
everything) to exactly the modified class / pairs / body and the original fixed fields with the new id, or it is not
and `Encode` refuses. -/
theorem bolt_modified_roundtrip (c : Codec) (b : Bytes) (f : Frame) (n : Nat) (h : decode c b = .frame f n)
    (ops : List Op) (i : Nat)
    (hdirty : (modify ops f).hdrChanged = true ∨ (modify ops f).contentChanged = true) :
    let m := setId (modify ops f) i
    (Ref.representable m = true ∧ ∃ out, encode m = some out ∧
      decode c out = .frame
        { kind := f.kind, fx := { f.fx with reqId := i % 2 ^ 32 }, classLen := m.cls.length,
          headerLen := BoltHeader.encodeLen m.kvs, contentLen := m.content.length, cls := m.cls, kvs := m.kvs,
          content := m.content, raw := some out, hdrChanged := false, contentChanged := false } out.length)
    ∨ (Ref.representable m = false ∧ encode m = none) := by
  intro m
  obtain ⟨m_kind, m_fx, _, ow, hw⟩ := modified_frame h ops i
  have hs : slowPath m := Or.inr hdirty
  cases hrep : Ref.representable m with
  | true =>
    obtain ⟨out, ho, hd⟩ := bolt_slow_roundtrip c m ow hs hw hrep
    exact Or.inl ⟨rfl, out, ho, by rw [hd, m_kind, m_fx]⟩
  | false => exact Or.inr ⟨rfl, bolt_slow_refuses m hs hrep⟩

/-- **bolt_local_frames_roundtrip**: the frames MOSN builds itself — heartbeat `Trigger`, heartbeat `Reply`, `Hijack` reply with
any status code and any id the stream layer sets — have no raw frame, are encoded by the slow path, and what is written
decodes (through either codec) to exactly their fixed fields with empty class / header block / body. -/
theorem bolt_local_frames_roundtrip (c : Codec) (v2 : Bool) (id status : Nat) :
    ∀ m ∈ [trigger v2 id, reply v2 id, setId (hijack v2 status) id],
      ∃ out, encode m = some out ∧
        decode c out = .frame { m with raw := some out } out.length := by
  intro m hm
  simp only [List.mem_cons, List.mem_nil_iff, or_false] at hm
  have h32 : id % 2 ^ 32 < 4294967296 := Nat.mod_lt _ (by decide)
  have h16 : status % 65536 < 65536 := Nat.mod_lt _ (by decide)
  rcases hm with rfl | rfl | rfl
  · refine localFrame_roundtrip c _ _ false ?_
    cases v2 <;> simp [metaWF, owOK, Gen.C01Bolt.ProtocolCode, Gen.C01BoltV2.ProtocolCode,
      Gen.C01Bolt.CmdTypeRequest, Gen.C01Bolt.CmdCodeHeartbeat] <;> omega
  · refine localFrame_roundtrip c _ _ false ?_
    cases v2 <;> simp [metaWF, owOK, Gen.C01Bolt.ProtocolCode, Gen.C01BoltV2.ProtocolCode,
      Gen.C01Bolt.CmdTypeResponse, Gen.C01Bolt.CmdCodeHeartbeat] <;> omega
  · refine localFrame_roundtrip c _ _ false (metaWF_setId _ _ _ _ ?_)
    cases v2 <;> simp [hijack, localFrame, metaWF, owOK, Gen.C01Bolt.ProtocolCode, Gen.C01BoltV2.ProtocolCode,
      Gen.C01Bolt.CmdTypeResponse, Gen.C01Bolt.CmdCodeRpcResponse] <;> omega

/-- the refusal test of the model is the regenerated `lengthsFit` of `bolt/encoder.go` -/
theorem bolt_representable_is_lengthsFit (m : Frame) :
    Ref.representable m = Gen.C01Bolt.lengthsFit m.cls.length (BoltHeader.encodeLen m.kvs) m.content.length := by
  rw [Bool.eq_iff_iff, lengthsFit_iff]
  simp only [Ref.representable, Bool.and_eq_true, decide_eq_true_eq, and_assoc]

/-! ## the executable predicate used on implementation outputs -/

/-- **spec_holds_on_model**: on every input, for every codec, modification list and id, what the model does satisfies
the reference predicate `Ref.holds` that `mosnmodel` evaluates on the implementation's outputs. -/
theorem bolt_spec_holds_on_model (c : Codec) (inp : Bytes) (ops : List Op) (id : Nat) :
    (∀ f n, decode c inp = .frame f n →
      Ref.holds (isV2 c) inp (modify ops) id true n (encode (setId (modify ops f) id)) = true) ∧
    ((∀ f n, decode c inp ≠ .frame f n) →
      ∀ acc k out, Ref.holds (isV2 c) inp (modify ops) id acc k out = true) :=
  ⟨fun f n h => holds_frame c inp ops id f n h, fun h acc k out => holds_noframe c inp _ id h acc k out⟩

/-! ## non-vacuity: concrete frames -/

/-- a bolt request: cmdcode 1, ver2 1, id 0x01020304, codec 1, timeout 3000, class "ab", one pair ("k","v"), body 3 bytes -/
def exReq : Bytes :=
  [1, 1, 0, 1, 1, 1, 2, 3, 4, 1, 0, 0, 0x0b, 0xb8, 0, 2, 0, 10, 0, 0, 0, 3,
   0x61, 0x62, 0, 0, 0, 1, 0x6b, 0, 0, 0, 1, 0x76, 9, 8, 7]

example : (match decode .bolt (exReq ++ [0xAA, 0xBB]) with
    | .frame f n => n == 37 && f.kind == .v1req && f.fx.reqId == 0x01020304 && f.fx.timeout == 3000 &&
        f.cls == [0x61, 0x62] && f.kvs == [([0x6b], [0x76])] && f.content == [9, 8, 7]
    | _ => false) = true := by decide +kernel

-- forwarded unmodified with id 0xAABBCCDD: only bytes 5..8 change
example : (match decode .bolt (exReq ++ [0xAA, 0xBB]) with
    | .frame f _ => encode (setId f 0xAABBCCDD) == some (exReq.take 5 ++ [0xAA, 0xBB, 0xCC, 0xDD] ++ exReq.drop 9)
    | _ => false) = true := by decide +kernel

-- a header Set marks the frame dirty and the slow path is taken; the message stays representable
example : (match decode .bolt exReq with
    | .frame f _ => let m := setId (modify [.set [0x6b] [1, 2], .set [] []] f) 7
        m.hdrChanged && Ref.representable m &&
        (match encode m with
         | some out => (match decode .boltv2 out with
            | .frame f' n' => n' == out.length && f'.kvs == [([0x6b], [1, 2]), ([], [])] && f'.fx.reqId == 7 && f'.headerLen == 19
            | _ => false)
         | none => false)
    | _ => false) = true := by decide +kernel

-- the same frame through the boltv2 codec (hand-over on the first byte), and a boltv2 one-way frame
example : (match decode .boltv2 exReq with | .frame f n => f.kind == .v1req && n == 37 | _ => false) = true := by decide +kernel
example : (match decode .bolt [2, 1, 2, 0, 1, 1, 0, 0, 0, 9, 1, 0, 0, 0, 0, 0, 0, 0, 0, 0, 0, 0, 0, 1, 0x55] with
    | .frame f n => f.kind == .v2req && f.fx.cmdType == 2 && n == 25 && f.content == [0x55] | _ => false) = true := by decide +kernel

-- hypotheses of `bolt_slow_roundtrip` are satisfiable by a locally built heartbeat (no raw frame)
def exHeartbeat : Frame :=
  { kind := .v1req,
    fx := { proto := 1, cmdType := 1, cmdCode := 0, version := 1, reqId := 5, codec := 1, timeout := 4294967295 },
    classLen := 0, headerLen := 0, contentLen := 0, cls := [], kvs := [], content := [],
    raw := none, hdrChanged := false, contentChanged := false }
example : slowPath exHeartbeat := Or.inl rfl
example : metaWF exHeartbeat.kind exHeartbeat.fx false := by simp [metaWF, owOK, exHeartbeat]
example : Ref.representable exHeartbeat = true := by decide +kernel
example : encode exHeartbeat = some [1, 1, 0, 0, 1, 0, 0, 0, 5, 1, 255, 255, 255, 255, 0, 0, 0, 0, 0, 0, 0, 0] := by decide +kernel

-- a non-representable modification exists (so `bolt_slow_refuses` is not vacuous): a 65536-byte class
example : Ref.representable { exHeartbeat with cls := List.replicate 65536 0, hdrChanged := true } = false := by
  simp only [Ref.representable, List.length_replicate]; decide

/-! ## dubbo: 8-byte id at offset 4 -/

/-- **dubbo_fast_identity**: for every hessian-parsing verdict `svcOK`, whenever `Decode` returns a frame the frame
forwarded after `SetRequestId i` is the received frame `b.take n` (`n = 16 + dataLen`) with the 8 bytes at `IdIdx = 4`
overwritten by `i`; nothing of the read buffer beyond `b.take n` is used. -/
theorem dubbo_fast_identity (svcOK : Bytes → Bool) (b : Bytes) (f : Dubbo.Frame) (n i : Nat)
    (h : Dubbo.decode svcOK b = .frame f n) :
    Dubbo.encode (Dubbo.setId f i) = patch (b.take n) Gen.C01Dubbo.IdIdx (be Gen.C01Dubbo.IdLen i) ∧
    n = Gen.C01Dubbo.HeaderLen + f.dataLen ∧ Gen.C01Dubbo.IdIdx + Gen.C01Dubbo.IdLen ≤ n ∧ n ≤ b.length := by
  obtain ⟨hn, hle, h16, _, _, hdl, _⟩ := Dubbo.decode_frame h
  refine ⟨Dubbo.encode_fast h i, ?_, ?_, hle⟩
  · rw [hdl, hn]; rfl
  · show 4 + 8 ≤ n; omega

/-- **dubbo_body_roundtrip**: after `SetData d` (body < 4 GiB) on a decoded frame, the re-encoded frame decodes —
consuming everything — to the same magic / flag / status, the new id, `DataLen = |d|` and payload `d`. -/
theorem dubbo_body_roundtrip (svcOK svcOK' : Bytes → Bool) (b : Bytes) (f : Dubbo.Frame) (n : Nat)
    (h : Dubbo.decode svcOK b = .frame f n) (d : Bytes) (i : Nat) (hd : 16 + d.length < 4294967296)
    (hsvc : (!Dubbo.isEvent f.flag && Dubbo.isRequest f.flag) = true → svcOK' d = true) :
    let out := Dubbo.encode (Dubbo.setId (Dubbo.setData f d) i)
    Dubbo.decode svcOK' out =
      .frame { f with id := i % 2 ^ 64, dataLen := d.length, payload := d, raw := some out } out.length := by
  obtain ⟨_, _, _, _, _, _, _, hfl, hst, _, hm0, hm1, hreq⟩ := Dubbo.decode_frame h
  have b0 : f.magic0 < 256 := hm0 ▸ Dubbo.byteAt_lt b 0
  have b1 : f.magic1 < 256 := hm1 ▸ Dubbo.byteAt_lt b 1
  have b2 : f.flag < 256 := hfl ▸ getBE_one_lt b 2
  have b3 : f.status < 256 := hst ▸ getBE_one_lt b 3
  have b4 : i % 2 ^ 64 < 18446744073709551616 := Nat.mod_lt _ (by decide)
  have hdm : d.length % 2 ^ 32 = d.length := Nat.mod_eq_of_lt (by omega)
  intro out
  have hout : out = fields [1, 1, 1, 1, 8, 4] [f.magic0, f.magic1, f.flag, f.status, i % 2 ^ 64, d.length] ++ d := by
    simp [out, Dubbo.encode, Dubbo.setId, Dubbo.setData, hdm, Dubbo.encodeHeader_layout]
  rw [hout]
  obtain ⟨b5, g1, g2, hmod, g3⟩ : d.length < 4294967296 ∧ 16 + d.length ≥ 16 ∧ 16 + d.length ≥ 16 + d.length ∧
      (16 + d.length) % 4294967296 = 16 + d.length ∧ ¬ (16 + d.length < 16) := by omega
  unfold Dubbo.decode Dubbo.decodeFrame
  -- the reads of the header
  simp only [Gen.C01Dubbo.frameLen, Gen.C01Dubbo.HeaderLen, Gen.C01Dubbo.DataLenIdx, Gen.C01Dubbo.DataLenSize,
    Gen.C01Dubbo.dec_DataLen, Gen.C01Dubbo.dec_Flag, Gen.C01Dubbo.dec_Status, Gen.C01Dubbo.dec_Id, Gen.C01Dubbo.dec_Magic,
    ← getBE_one, getBE_fields_hit, getBE_fields_skip, Nat.reduceLeDiff, Nat.reduceSub, Nat.reduceAdd, Nat.reducePow,
    Nat.mod_eq_of_lt b0, Nat.mod_eq_of_lt b1, Nat.mod_eq_of_lt b2, Nat.mod_eq_of_lt b3, Nat.mod_eq_of_lt b4, Nat.mod_eq_of_lt b5]
  generalize hH : fields [1, 1, 1, 1, 8, 4] _ = H
  have hl : H.length = 16 := hH ▸ fields_length _ _
  have hlen : (H ++ d).length = 16 + d.length := by rw [List.length_append, hl]
  simp only [hlen, hmod, g1, g2, g3, if_true, if_false, List.take_of_length_le (Nat.le_of_eq hlen), List.drop_left' hl]
  by_cases hr : (!Dubbo.isEvent f.flag && Dubbo.isRequest f.flag) = true
  · have hs := (hreq hr).1
    have hv := hsvc hr
    simp [hr, hs, hv]
  · simp [hr]

/-- **dubbo_spec_holds_on_model_partial**: the model satisfies the reference predicate for untouched frames and for
frames whose body was replaced.  Full statement (also for `Set`/`Del` on the header map: `Encode` must refuse) is
false of the code — see KNOWN_FINDINGS and the witness below. -/
theorem dubbo_spec_holds_on_model_partial (ok : Bool) (inp : Bytes) (body : Option Bytes) (id : Nat)
    (hbody : ∀ d, body = some d → 16 + d.length < 4294967296) :
    (∀ f n, Dubbo.decode (fun _ => ok) inp = .frame f n →
      EnvelopeRef.Dubbo.holds inp ok { hdrOps := false, body := body } id true n
        (some (Dubbo.encode (Dubbo.setId (Dubbo.withBody f body) id))) = true) ∧
    ((∀ f n, Dubbo.decode (fun _ => ok) inp ≠ .frame f n) →
      ∀ m acc k out, EnvelopeRef.Dubbo.holds inp ok m id acc k out = true) :=
  ⟨fun f n h => Dubbo.holds_frame ok inp body id hbody f n h, fun h m acc k out => Dubbo.holds_noframe ok inp m id h acc k out⟩

/-- a dubbo heartbeat event (flag 0xe2), id 7, two payload bytes -/
def exDubbo : Bytes := [0xda, 0xbb, 0xe2, 0, 0, 0, 0, 0, 0, 0, 0, 7, 0, 0, 0, 2, 0x4e, 0x4e]

example : (match Dubbo.decode (fun _ => false) (exDubbo ++ [1, 2, 3]) with
    | .frame f n => n == 18 && f.id == 7 && f.payload == [0x4e, 0x4e] &&
        Dubbo.encode (Dubbo.setId f 0x0102030405060708) == exDubbo.take 4 ++ [1, 2, 3, 4, 5, 6, 7, 8] ++ exDubbo.drop 12
    | _ => false) = true := by decide +kernel

-- negation witness of the unrestricted statement: a header-map change is forwarded silently, the reference wants a refusal
example : EnvelopeRef.Dubbo.holds exDubbo true { hdrOps := true } 7 true 18 (some exDubbo) = false := by decide +kernel

/-! ## dubbo-thrift: 8-byte id at `4 + headerLength - 8` -/

/-- **thrift_fast_identity**: for every verdict of thrift's message parser, whenever `Decode` returns a frame whose
announced header length is ≥ 4, the forwarded frame is `b.take n` with 8 bytes overwritten at
`MessageLenSize + HeaderLength − IdLen`; when the announced header length is the true one (`21 + |service|`) that
window is exactly the request-id field `Decode` read. (Announced header length < 4: the uint16 index wraps — see
`DubboThrift.encode`; such frames are not well-formed.) -/
theorem thrift_fast_identity (msgOK : Bytes → Bool) (b : Bytes) (f : DubboThrift.Frame) (n i : Nat)
    (h : DubboThrift.decode msgOK b = .frame f n) (h4 : 4 ≤ f.headerLength) :
    DubboThrift.encode (DubboThrift.setId f i) = .ok (patch (b.take n) (f.headerLength - 4) (be 8 i)) ∧
    f.headerLength - 4 + 8 ≤ n ∧ n ≤ b.length ∧
    (f.headerLength = 21 + f.svc.length →
      f.headerLength - 4 = 17 + f.svc.length ∧ getBE (b.take n) (17 + f.svc.length) (17 + f.svc.length + 8) = f.id) := by
  obtain ⟨he, hle⟩ := DubboThrift.encode_fast h i h4
  exact ⟨he, hle, (DubboThrift.decode_frame h).n_le, fun ht => DubboThrift.id_window h ht⟩

/-- **thrift_slow_parse**: the frame rebuilt by the slow path (reply / hijack, or after `SetData` with a new buffer) is
well-formed for the reference: both length fields and the header length are consistent, and it carries the service
name, id and payload it was built from. -/
theorem thrift_slow_parse (f : DubboThrift.Frame) (hs : f.svc.length ≤ 65514) (hid : f.id < 18446744073709551616)
    (htot : 25 + f.svc.length + f.payload.length < 4294967296) :
    EnvelopeRef.Thrift.parse (DubboThrift.encodeSlow f) = some
      { total := (DubboThrift.encodeSlow f).length, svc := f.svc, idPos := 17 + f.svc.length, id := f.id, payload := f.payload } :=
  DubboThrift.parse_encodeSlow f hs hid htot

/-- **thrift_spec_holds_on_model_partial** (header-map operations excluded: finding). -/
theorem thrift_spec_holds_on_model_partial (ok : Bool) (inp : Bytes) (body : Option Bytes) (id : Nat) :
    (∀ f n, DubboThrift.decode (fun _ => ok) inp = .frame f n →
      (∀ d, body = some d → 25 + f.svc.length + d.length < 4294967296) →
      match DubboThrift.encode (DubboThrift.setId (DubboThrift.withBody f body) id) with
      | .ok o => EnvelopeRef.Thrift.holds inp ok { hdrOps := false, body := body } id true n (some o) = true
      | .panic => EnvelopeRef.Thrift.parse inp = none) ∧
    ((∀ f n, DubboThrift.decode (fun _ => true) inp ≠ .frame f n) →
      ∀ m acc k out, EnvelopeRef.Thrift.holds inp ok m id acc k out = true) :=
  ⟨fun f n h hb => DubboThrift.holds_frame ok inp body id f n h hb,
   fun h m acc k out => DubboThrift.holds_noframe inp m id h ok acc k out⟩

/-- service "ab", id 9, strict thrift message `m` call seq 5 -/
def exThrift : Bytes :=
  [0, 0, 0, 37, 0xda, 0xbc, 0, 0, 0, 37, 0, 23, 1, 0, 0, 0, 2, 0x61, 0x62, 0, 0, 0, 0, 0, 0, 0, 9,
   0x80, 1, 0, 1, 0, 0, 0, 1, 0x6d, 0, 0, 0, 5, 0]

example : (match DubboThrift.decode (fun _ => true) exThrift with
    | .frame f n => n == 41 && f.headerLength == 23 && f.svc == [0x61, 0x62] && f.id == 9 &&
        DubboThrift.encode (DubboThrift.setId f 0x0102030405060708)
          == .ok (exThrift.take 19 ++ [1, 2, 3, 4, 5, 6, 7, 8] ++ exThrift.drop 27)
    | _ => false) = true := by decide +kernel

/-! ## tars: no fast path — re-serialisation through TarsGo -/

/-- the request id is the only field of the written packet that depends on the id the stream layer sets; the length
prefix is the total length (itself included). -/
theorem tars_encode_shape (p : Tars.Req) (id : Nat) :
    Tars.encodeReq p id = Tars.envelope (Tars.reqPre p ++ Tars.wInt32 (Tars.idOf id) 4 ++ Tars.reqPost p) ∧
    (4 + (Tars.wReq { p with iRequestId := Tars.idOf id }).length < 4294967296 →
      getBE (Tars.encodeReq p id) 0 4 = (Tars.encodeReq p id).length) :=
  ⟨rfl, fun h => Tars.envelope_prefix _ h⟩

/-- **tars_canonical_fidelity_partial**: if the received frame is in TarsGo's canonical form with its map entries in
the order Go iterates them when writing (`p.context`, `p.status`), the frame `Encode` writes is the received frame with only
the request-id field re-encoded and the length prefix adjusted (what the reference `splice` computes), whatever follows
it in the buffer.  Full statement (any valid tars packet, any map order) is false of the code — tars has no raw-frame
fast path: see KNOWN_FINDINGS. -/
theorem tars_canonical_fidelity_partial (p : Tars.Req) (q : Tars.Resp) (rest : Bytes) (id : Nat)
    (hp : 4 + (Tars.wReq p).length ≤ 10485760) (hq : 4 + (Tars.wResp q).length ≤ 10485760) :
    EnvelopeRef.Tars.splice (Tars.envelope (Tars.wReq p) ++ rest) true id = some (Tars.encodeReq p id) ∧
    EnvelopeRef.Tars.splice (Tars.envelope (Tars.wResp q) ++ rest) false id = some (Tars.encodeResp q id) :=
  ⟨Tars.splice_req p rest id hp, Tars.splice_resp q rest id hq⟩

def exTarsReq : Tars.Req :=
  { iVersion := 1, cPacketType := 0, iMessageType := 0, iRequestId := 300, sServantName := [0x61], sFuncName := [0x66],
    sBuffer := [9, 9], iTimeout := 3000, context := [([0x6b], [0x76])], status := [] }

example : Tars.envelope (Tars.wReq exTarsReq) =
    [0, 0, 0, 37, 0x10, 1, 0x2c, 0x3c, 0x41, 1, 0x2c, 0x56, 1, 0x61, 0x66, 1, 0x66, 0x7d, 0, 0, 2, 9, 9,
     0x81, 0x0b, 0xb8, 0x98, 0, 1, 0x06, 1, 0x6b, 0x16, 1, 0x76, 0xa8, 0x0c] := by decide +kernel
-- forwarding with id 70000 widens the id field from SHORT to INT: the frame grows by 2 bytes and the prefix follows
example : (Tars.encodeReq exTarsReq 70000).take 14 = [0, 0, 0, 39, 0x10, 1, 0x2c, 0x3c, 0x42, 0, 1, 0x11, 0x70, 0x56] := by decide +kernel
-- negation witness: two context entries written in the other order are not what `splice` demands
example : EnvelopeRef.Tars.splice (Tars.envelope (Tars.wReq { exTarsReq with context := [([1], [2]), ([3], [4])] })) true 5
    ≠ some (Tars.encodeReq { exTarsReq with context := [([3], [4]), ([1], [2])] } 5) := by decide +kernel

/-! ## HTTP/1: request-URI pass-through (`injectCtxVarFromProtocolHeaders` → `buildUrlFromCtxVar`) -/

/-- **uri_passthrough**: for every path normaliser, unescaper and escaper (fasthttp / net/url are black boxes), every
original path and every query string: when nothing replaced the path variable, the upstream request target is the original
path byte for byte (`/` when it is empty) followed by `?query` when the query is not empty. -/
theorem uri_passthrough (O : HttpUri.Oracles) (pathOriginal query : String) :
    HttpUri.buildUrl O (HttpUri.inject O pathOriginal query) =
      (if pathOriginal = "" then "/" else pathOriginal) ++ (if query = "" then "" else "?" ++ query) :=
  HttpUri.passthrough O pathOriginal query

/-- **uri_passthrough_identical_partial**: the forwarded target equals the received one (path, `?`, query) provided
the received target has a `?` exactly when its query is non-empty.  Full statement (also "/a?" with an empty query) is
false of the code: the `?` is dropped — KNOWN_FINDINGS, witness below. -/
theorem uri_passthrough_identical_partial (O : HttpUri.Oracles) (pathOriginal query : String) (hadQ : Bool)
    (hp : pathOriginal ≠ "") (hq : hadQ = true ↔ query ≠ "") :
    HttpUri.buildUrl O (HttpUri.inject O pathOriginal query) = HttpUri.expected pathOriginal hadQ query := by
  rw [HttpUri.passthrough]
  unfold HttpUri.expected
  cases hadQ with
  | true => have : query ≠ "" := hq.mp rfl; simp [hp, this, String.append_assoc]
  | false =>
    have : query = "" := by
      by_cases h : query = ""
      · exact h
      · exact absurd (hq.mpr h) (by simp)
    simp [hp, this]

/-- a replaced path variable that is not an alias of the original path is escaped with `RequestURI` (`*` stays `*`) -/
theorem uri_rewritten (O : HttpUri.Oracles) (v : HttpUri.Vars)
    (hne : ∀ u e, Gen.C01HttpUri.passOriginal O.fhPath v.path v.pathOriginal u e = false) :
    HttpUri.buildUrl O v =
      (let r := if v.path = "*" then "*" else O.requestURI v.path
       (if r = "" then "/" else r) ++ (if v.query = "" then "" else "?" ++ v.query)) :=
  HttpUri.rewritten O v hne

def exOracles : HttpUri.Oracles :=
  { unescape := fun _ => none, fhPath := fun p => if p = "/a//%2Fb" then "/a/b" else p, requestURI := fun p => p ++ "!" }
-- normalised path differs from the original one, the unescaper fails: the original path is still what is forwarded
example : HttpUri.buildUrl exOracles (HttpUri.inject exOracles "/a//%2Fb" "x=1&y=%20") = "/a//%2Fb?x=1&y=%20" := by decide +kernel
example : HttpUri.buildUrl exOracles (HttpUri.rewrite (HttpUri.inject exOracles "/a//%2Fb" "") "/new") = "/new!" := by decide +kernel
-- negation witness for the unrestricted statement: "/a?" is forwarded as "/a"
example : HttpUri.buildUrl exOracles (HttpUri.inject exOracles "/a" "") ≠ HttpUri.expected "/a" true "" := by decide +kernel

/-! ## HTTP/1 header set through the proxy (fasthttp is a black box; this is the recorded rewriting model) -/

/-- **http1_no_invented_header**: with the regenerated forwarding flags (`SetNoDefaultContentType(true)` on both
forwarding paths) the recorded rewriting model adds no header to any forwarded request or response, whatever the
method, header list and body. -/
theorem http1_no_invented_header (method : String) (m : Http1Msg.Msg) :
    Http1Msg.reqAdds method m = [] ∧ Http1Msg.respAdds m = [] := by
  simp [Http1Msg.reqAdds, Http1Msg.respAdds, Gen.C01HttpUri.reqNoDefaultContentType, Gen.C01HttpUri.respNoDefaultContentType]

/-! ## TCP relay (streamproxy): two FIFO write queues with close-with-flush -/

/-- **relay_stream_preserved**: for *every* schedule of the two read loops and the two write loops (any interleaving,
any chunking, any number of steps), in both directions:
* what MOSN has written to one peer is a prefix of what it has read from the other — nothing invented, reordered or
  duplicated;
* as long as the receiving peer has not gone away itself, nothing is lost: written ++ still-queued = read;
* hence once the queue has drained — in particular after the sender closed immediately after its last write, which only
  appends an EOF marker *behind* the data — the receiver has got every byte. -/
theorem relay_stream_preserved (evs : List Relay.Ev) (d : Relay.Side) :
    let s := Relay.run {} evs
    (∃ x, (s.get d.other).sent ++ x = (s.get d).received) ∧
    ((s.get d.other).eofSeen = false →
      (s.get d.other).sent ++ Relay.pending (s.get d.other).wq = (s.get d).received) ∧
    ((s.get d.other).eofSeen = false → (s.get d.other).wq = [] → (s.get d.other).sent = (s.get d).received) := by
  intro s
  have hI : Relay.Dir (s.get d) (s.get d.other) := Relay.run_dir evs d
  refine ⟨?_, fun he => hI.full (hI.not_aborted he), fun he hq => ?_⟩
  · obtain ⟨x, hx⟩ := hI.safe
    exact ⟨Relay.pending (s.get d.other).wq ++ x, (List.append_assoc _ _ _).symm.trans hx⟩
  · have := hI.full (hI.not_aborted he)
    rw [hq] at this
    simpa [Relay.pending] using this

/-- a connection MOSN closed by flushing was closed only after the other peer's EOF, with an empty queue: everything the
peer sent before closing was written first -/
theorem relay_flush_before_close (evs : List Relay.Ev) (d : Relay.Side) :
    let s := Relay.run {} evs
    (s.get d.other).closed = true → (s.get d.other).aborted = false →
      (s.get d).eofSeen = true ∧ (s.get d.other).sent = (s.get d).received := by
  intro s hc ha
  have hI : Relay.Dir (s.get d) (s.get d.other) := Relay.run_dir evs d
  refine ⟨hI.flushed hc ha, ?_⟩
  have := hI.full ha
  rw [hI.closed_empty hc] at this
  simpa [Relay.pending] using this

-- the client writes "ab", "c" and closes at once; the upstream write loop runs afterwards: all three bytes, then the close
example : (let s := Relay.run {} [.read .down [0x61, 0x62], .read .down [0x63], .peerClosed .down, .write .up, .write .up, .write .up]
    (s.up.sent, s.up.closed, s.up.aborted, s.down.closed)) = ([0x61, 0x62, 0x63], true, false, true) := by decide +kernel
-- the upstream answers while the client is still open; the answer reaches the client
example : (Relay.run {} [.read .down [1], .write .up, .read .up [7, 8], .write .down, .peerClosed .up, .write .down]).down.sent = [7, 8] := by decide +kernel

/-! ## TCP relay, the peer speaks first: the read filter is registered before the read loop starts

`Model/RelayStart.lean`: the set-up calls MOSN makes on a new connection are regenerated in statement order
(`Gen/C01RelayOrder.lean`: `initializeUpstreamConnection`, `clientConnection.Connect`, `activeListener.OnNewConnection`);
the read loop hands what it reads to the registered read filters, with none registered the bytes stay in the read buffer
(and are dropped with it at EOF). -/

/-- the regenerated call orders: on the upstream connection `AddReadFilter` comes before `Connect` (which starts the read
loop: it calls `Start` before it notifies listeners and returns); on an accepted connection `CreateFilterChain` and
`InitializeReadFilters` come before `Start`.  This is the statement that stops checking when a registration is moved
behind the start of the read loop. -/
theorem relay_filter_registered_before_read_loop :
    RelayStart.safeOrder RelayStart.upReg RelayStart.upStart Gen.C01RelayOrder.upstreamCalls false = true ∧
    Gen.C01RelayOrder.upstreamCalls.contains RelayStart.upStart = true ∧
    RelayStart.connectStartsLoop = true ∧
    RelayStart.safeOrder "CreateFilterChain" RelayStart.downStart Gen.C01RelayOrder.downstreamCalls false = true ∧
    RelayStart.safeOrder "InitializeReadFilters" RelayStart.downStart Gen.C01RelayOrder.downstreamCalls false = true ∧
    Gen.C01RelayOrder.downstreamCalls.contains RelayStart.downStart = true := by decide

/-- **relay_peer_first_preserved**: for every list of set-up calls in which the read filter is registered before the read
loop is started, and EVERY schedule of set-up calls, peer writes (from the moment of accept: before, between and after the
set-up calls), peer close and read-loop iterations: nothing ever waits in the read buffer; the deliveries to the proxy,
in order, followed by what is still in the socket are exactly what the peer has sent; at EOF everything was delivered;
and fed to the relay model the deliveries reach the other connection's socket or its write queue, in order. -/
theorem relay_peer_first_preserved (reg start : String) (todo : List String)
    (ho : RelayStart.safeOrder reg start todo false = true) (evs : List RelayStart.Ev) (d : Relay.Side) :
    let st := RelayStart.run reg start { todo := todo } evs
    let r := Relay.run {} (RelayStart.toRelay d st)
    st.buf = [] ∧
    RelayStart.flat st.delivered ++ st.wire = st.peerSent ∧
    (st.eof = true → RelayStart.flat st.delivered = st.peerSent) ∧
    (r.get d.other).sent ++ Relay.pending (r.get d.other).wq ++ st.wire = st.peerSent := by
  intro st r
  have hI : RelayStart.Inv reg start st := RelayStart.run_inv reg start evs _ (RelayStart.inv_init reg start todo ho)
  refine ⟨hI.buf_empty, hI.all, ?_, ?_⟩
  · intro he
    have := hI.all
    rw [(hI.eof_done he).1] at this
    simpa using this
  · obtain ⟨h1, h2⟩ := RelayStart.relay_reads d st.delivered {} (by cases d <;> rfl) (by cases d <;> rfl)
    have hD : Relay.Dir (r.get d) (r.get d.other) := Relay.run_dir _ d
    have hfull := hD.full (hD.not_aborted (h2.trans (by cases d <;> rfl)))
    have hrecv : (r.get d).received = RelayStart.flat st.delivered := by
      have : (r.get d).received = (({} : Relay.State).get d).received ++ RelayStart.flat st.delivered := h1
      rw [this]; cases d <;> rfl
    rw [hfull, hrecv]; exact hI.all

/-- the shipped upstream set-up (regenerated order): every byte the upstream sent from the moment of accept is relayed -/
theorem relay_upstream_first_preserved (evs : List RelayStart.Ev) :
    let st := RelayStart.run RelayStart.upReg RelayStart.upStart RelayStart.upstreamInit evs
    let r := Relay.run {} (RelayStart.toRelay .up st)
    st.buf = [] ∧ RelayStart.flat st.delivered ++ st.wire = st.peerSent ∧
    (st.eof = true → RelayStart.flat st.delivered = st.peerSent) ∧
    r.down.sent ++ Relay.pending r.down.wq ++ st.wire = st.peerSent :=
  relay_peer_first_preserved _ _ _ relay_filter_registered_before_read_loop.1 evs .up

/-- the same for an accepted connection (client speaks at once, before `OnNewConnection` has finished) -/
theorem relay_downstream_first_preserved (evs : List RelayStart.Ev) :
    let st := RelayStart.run "CreateFilterChain" RelayStart.downStart RelayStart.downstreamInit evs
    let r := Relay.run {} (RelayStart.toRelay .down st)
    st.buf = [] ∧ RelayStart.flat st.delivered ++ st.wire = st.peerSent ∧
    (st.eof = true → RelayStart.flat st.delivered = st.peerSent) ∧
    r.up.sent ++ Relay.pending r.up.wq ++ st.wire = st.peerSent :=
  relay_peer_first_preserved _ _ _ relay_filter_registered_before_read_loop.2.2.2.1 evs .down

example : RelayStart.safeOrder "AddReadFilter" "Connect" ["AddConnectionEventListener", "AddReadFilter", "Connect"] false = true := by decide +kernel
-- greeting "hi" sent right after accept, read as soon as the loop runs, then the upstream closes: delivered
def exGood : RelayStart.St :=
  RelayStart.run "AddReadFilter" "Connect" { todo := ["AddConnectionEventListener", "AddReadFilter", "Connect"] }
    [.setup, .peerSend [0x68, 0x69], .setup, .setup, .loop, .peerClose, .loop]
example : (exGood.delivered, exGood.eof, (Relay.run {} (RelayStart.toRelay .up exGood ++ [.write .down])).down.sent)
    = ([[0x68, 0x69]], true, [0x68, 0x69]) := by decide +kernel
-- negation witness: with the registration behind `Connect` a loss is reachable — the greeting is read while no filter is
-- registered, stays in the read buffer and is dropped when the upstream closes (or waits there for ever while the upstream waits)
example : RelayStart.safeOrder "AddReadFilter" "Connect" ["AddConnectionEventListener", "Connect", "AddReadFilter"] false = false := by decide +kernel
def exBad (tail : List RelayStart.Ev) : RelayStart.St :=
  RelayStart.run "AddReadFilter" "Connect" { todo := ["AddConnectionEventListener", "Connect", "AddReadFilter"] }
    ([.setup, .setup, .peerSend [0x68, 0x69], .loop, .setup] ++ tail)
example : ((exBad [.peerClose, .loop]).delivered, (exBad [.peerClose, .loop]).eof, (exBad [.peerClose, .loop]).peerSent)
    = ([], true, [0x68, 0x69]) := by decide +kernel
example : (exBad [.loop, .loop]).buf = [0x68, 0x69] ∧ (exBad [.loop, .loop]).delivered = [] := by decide +kernel

/-! ## HTTP/1: the forwarded method (default, then the method variable) -/

/-- **http1_method_preserved**: for every method token (known, extension, any case) and every body (none / empty /
non-empty, however it was framed): the request the HTTP/1 client stream sends carries the method that was received.
Over the regenerated statement sequence of `clientStream.AppendHeaders` / `FillRequestHeadersFromCtxVar` and the regenerated
fact that `injectCtxVarFromProtocolHeaders` stores the received method. (A request line always has a non-empty method.) -/
theorem http1_method_preserved (recv : String) (hasBody : Bool) (h : recv ≠ "") :
    Http1Method.forwarded recv hasBody = recv := by
  cases hasBody <;>
    simp [Http1Method.forwarded, Http1Method.printed, Gen.C01HttpMethod.appendHeadersMethod, Gen.C01HttpMethod.fillMethod,
      Gen.C01HttpMethod.injectsReceivedMethod, h]

/-- whatever the header map arrives with and whether or not the headers end the stream: a set, non-empty method variable
is what is sent -/
theorem http1_method_variable_wins (endStream : Bool) (method m : String) (h : method ≠ "") :
    Gen.C01HttpMethod.appendHeadersMethod endStream true method m = method := by
  cases endStream <;> simp [Gen.C01HttpMethod.appendHeadersMethod, Gen.C01HttpMethod.fillMethod, h]

/-- **http1_method_default**: without the variable (lookup fails, or it is empty) the default rule applies, whatever the
header map arrived with: GET when the headers end the stream, POST when a body follows -/
theorem http1_method_default (endStream errNil : Bool) (method m : String) (h : errNil = false ∨ method = "") :
    Gen.C01HttpMethod.appendHeadersMethod endStream errNil method m = (if endStream then "GET" else "POST") := by
  rcases h with h | h <;> cases endStream <;>
    simp [Gen.C01HttpMethod.appendHeadersMethod, Gen.C01HttpMethod.fillMethod, h]

theorem http1_method_converted (hasBody : Bool) : Http1Method.converted hasBody = Http1Method.defaultRule hasBody := by
  cases hasBody <;> decide

example : Http1Method.forwarded "GET" true = "GET" ∧ Http1Method.forwarded "PROPFIND" false = "PROPFIND" ∧
    Http1Method.forwarded "get" true = "get" ∧ Http1Method.forwarded "HEAD" true = "HEAD" := by decide +kernel
example : Http1Method.converted true = "POST" ∧ Http1Method.converted false = "GET" := by decide +kernel
-- negation witness: with the default written AFTER the variable (guarded by "still GET?") a GET with a body leaves as POST
example : Http1Method.printed (Http1Method.swapped false true "GET" "GET") = "POST" := by decide +kernel
example : Http1Method.printed (Http1Method.swapped false true "PUT" "PUT") = "PUT" := by decide +kernel

/-! ## the forwarded frame is unchanged when it is encoded AGAIN (retry) and buffers are reused in between

`Model/Reencode.lean`: a decoded frame points at the buffer wrapping its raw bytes; the fast path of `Encode` hands out
that buffer, the connection write gives it to `PutIoBuffer` (count - 1, recycled into the global pool at 0), any other
`GetIoBuffer` of the process may take a recycled wrapper and fill it.  What each successful return of the eight encode
functions hands out (`retain` = the frame's buffer with `Count(1)`, `bare` = without, `fresh` = a buffer of its own) and
whether `doWriteIo` recycles are regenerated (`Gen/C01Retain.lean`). -/
section Reencode
open MosnVerif.Model.Reencode MosnVerif.Gen.C01Retain

/-- no encode function of the five codecs hands out a buffer the frame points at without raising its count (this is the
statement that stops checking when a `Count(1)` is dropped) -/
theorem encode_returns_keep_reference :
    ∀ r ∈ boltRequest ++ boltResponse ++ boltv2Request ++ boltv2Response ++ dubboFrame ++ thriftFrame ++ tarsRequest ++ tarsResponse,
      r ≠ .bare := by decide

theorem fast_path_keeps_reference (proto : String) (req : Bool) : fastByName proto req ≠ .bare := by
  unfold fastByName
  split <;> decide

/-- **reencode_stable**: for every codec, every frame `raw`, every in-place id overwrite `patch` (a later overwrite
hides an earlier one), whatever the pool held before the frame was decoded (`pre`), for EVERY number of tries with any
ids and EVERY traffic on the buffer pool between them (buffers taken — recycled wrappers included, in any choice of
sync.Pool — filled with anything, given back): the k-th encoding that reaches the wire is the frame with the k-th id.
In particular a retry with the same id repeats the first encoding byte for byte. -/
theorem reencode_stable (proto : String) (req : Bool) (patch : Nat → Bytes → Bytes)
    (hp : ∀ a c x, patch a (patch c x) = patch a x) (raw : Bytes) (pre : List Other) (rounds : List Round) :
    Reencode.run (fastByName proto req) writeRecycles patch raw pre rounds = rounds.map (fun r => patch r.id raw) := by
  have hw : Wf [] Reencode.empty := ⟨nofun, nofun, rfl⟩
  exact (rounds_good (fast_path_keeps_reference proto req) writeRecycles (fun a c => hp a c raw) rounds
    (decode_good patch raw (pre_wf pre hw))).snt

/-- the executable predicate's stability clause holds of the model's output -/
theorem reenc_spec_holds_on_model (proto : String) (req : Bool) (patch : Nat → Bytes → Bytes)
    (hp : ∀ a c x, patch a (patch c x) = patch a x) (raw : Bytes) (pre : List Other) (rounds : List Round) :
    specStable (rounds.map (·.id)) (Reencode.run (fastByName proto req) writeRecycles patch raw pre rounds) = true := by
  rw [reencode_stable proto req patch hp raw pre rounds]
  -- both lists are images of `rounds`, so a pair of (id, encoding) entries is a pair of rounds
  simp only [specStable, List.length_map, beq_self_eq_true, Bool.true_and, List.zip_map', List.all_map, List.all_eq_true,
    Function.comp]
  intro r _ r' _
  by_cases h : r.id = r'.id <;> simp [h]

/-! ### non-vacuity, and what dropping the `Count(1)` does -/
/-- an id overwrite at offset 1 (one byte): later overwrites hide earlier ones -/
def pid (i : Nat) : Bytes → Bytes
  | x0 :: _ :: r => x0 :: UInt8.ofNat i :: r
  | b => b
example : ∀ a c x, pid a (pid c x) = pid a x := by
  intro a c x
  match x with
  | [] => rfl
  | [_] => rfl
  | _ :: _ :: _ => rfl
-- retained reference: three tries (ids 7, 7, 9) with recycling traffic in between
example : Reencode.run .retain true pid [1, 0, 3] [.get none [5], .put 0]
    [⟨7, none, [.get (some 0) [0xEE, 0xEE, 0xEE]]⟩, ⟨7, none, [.get (some 0) [0xEE], .put 0]⟩, ⟨9, none, []⟩]
    = [[1, 7, 3], [1, 7, 3], [1, 9, 3]] := by decide +kernel
-- the bare return: the write recycles the frame's buffer; a retry sends an empty buffer ...
example : Reencode.run .bare true pid [1, 0, 3] [] [⟨7, none, []⟩, ⟨7, none, []⟩] = [[1, 7, 3], []] := by decide +kernel
-- ... or, after any other allocation took the recycled wrapper, that allocation's bytes
example : Reencode.run .bare true pid [1, 0, 3] [] [⟨7, none, [.get (some 0) [0xEE, 0xEE, 0xEE]]⟩, ⟨7, none, []⟩]
    = [[1, 7, 3], [0xEE, 7, 0xEE]] := by decide +kernel
example : specStable [7, 7] [[1, 7, 3], [0xEE, 7, 0xEE]] = false := by decide +kernel
-- without a recycling write the bare return is harmless: the defect needs the connection's PutIoBuffer
example : Reencode.run .bare false pid [1, 0, 3] [] [⟨7, none, [.get (some 0) [0xEE, 0xEE, 0xEE]]⟩, ⟨7, none, []⟩]
    = [[1, 7, 3], [1, 7, 3]] := by decide +kernel

end Reencode

/-! ## HTTP/1: message framing is hop-by-hop — the forwarded message is framed by the body that is sent

`Model/Http1Framing.lean`.  Whether `clientStream.AppendHeaders` removes the received `Transfer-Encoding` before the header
map is copied (`Gen.C01HttpFraming.dropsTransferEncoding`) and whether `serverStream.endStream` sets `SkipBody` for HEAD
(`headSkipsBody`) are regenerated; fasthttp's `Request.Write` / `Response.Write` / `Response.ReadLimitBody` are modelled
from the v1.40.0 source and validated on every `http1m q` / `http1m r` case. -/
section Http1Framing
open Http1Framing

/-- a chunked message of which nothing has arrived is not complete, whatever the fuel -/
theorem http1_dechunk_nil (fuel : Nat) : dechunk fuel [] = none := by
  cases fuel <;> simp [dechunk, sizeLine]

/-- **http1_request_transfer_encoding_dropped**: for every method class, every `endStream`, every received framing and
every body, the request that is sent never carries the received `Transfer-Encoding` -/
theorem http1_request_transfer_encoding_dropped (ignoreBody endStream : Bool) (f : Framing) (body : List UInt8) :
    (forwardReq ignoreBody endStream f body).1.te = false := by
  unfold forwardReq written copied
  split <;> simp [Gen.C01HttpFraming.dropsTransferEncoding]

/-- **http1_request_framing_complete**: for every method class (GET/HEAD or not), whatever `endStream` AppendHeaders was
called with, every received framing (no framing header, `Content-Length`, `Transfer-Encoding: chunked`, also both) of a
well-formed message (a Content-Length, if any, is the body's length) and every body (empty or not): the upstream, reading
what the forwarded head announces out of the bytes that follow it, has a complete request with exactly that body. -/
theorem http1_request_framing_complete (ignoreBody endStream : Bool) (f : Framing) (body : List UInt8)
    (wf : f.cl = none ∨ f.cl = some body.length) :
    recv (forwardReq ignoreBody endStream f body).1 (forwardReq ignoreBody endStream f body).2 = some body := by
  unfold forwardReq written copied
  split
  · simp [recv]
  · rename_i h
    have hb : body = [] := by
      cases body with
      | nil => rfl
      | cons a l => simp at h
    subst hb
    rcases wf with h | h <;> simp [recv, Gen.C01HttpFraming.dropsTransferEncoding, h]

/-- **http1_request_framing_by_body**: whenever a body is sent, or the method is neither GET nor HEAD, the forwarded framing
is `Content-Length: len(body)` and nothing else — a function of the body alone, whatever framing was received -/
theorem http1_request_framing_by_body (ignoreBody endStream : Bool) (f : Framing) (body : List UInt8)
    (h : body ≠ [] ∨ ignoreBody = false) :
    forwardReq ignoreBody endStream f body = ({ te := false, cl := some body.length }, body) := by
  unfold forwardReq written
  rcases h with h | h <;> simp [h]

example : (parsedReq "chunked0" 0).cl = none ∨ (parsedReq "chunked0" 0).cl = some ([] : List UInt8).length := by decide +kernel
example : forwardReq true true (parsedReq "chunked0" 0) [] = ({ te := false, cl := none }, []) := by decide +kernel
example : forwardReq true false (parsedReq "chunked" 2) [104, 105] = ({ te := false, cl := some 2 }, [104, 105]) := by decide +kernel
example : forwardReq false true (parsedReq "chunked0" 0) [] = ({ te := false, cl := some 0 }, []) := by decide +kernel
-- negation witness (the code before the repair copied the received Transfer-Encoding): a GET / HEAD framed chunked with an
-- empty body is printed with `Transfer-Encoding: chunked` and nothing behind it; the upstream waits for a terminating chunk
example : recv (forwardReqCopying true (parsedReq "chunked0" 0) []).1 (forwardReqCopying true (parsedReq "chunked0" 0) []).2 = none := by decide +kernel
example : recv (forwardReqCopying false (parsedReq "chunked0" 0) []).1 (forwardReqCopying false (parsedReq "chunked0" 0) []).2 = some [] := by decide +kernel
example : dechunk 9 [50, 13, 10, 104, 105, 13, 10, 48, 13, 10, 13, 10] = some [104, 105] := by decide +kernel

/-- **http1_response_framing_complete_partial**: for every request method class (HEAD or not), every final status, every
framing of the upstream's response and every body, PROVIDED the read of the upstream's response returns (`readHangs`
false): a response is forwarded and the client, reading it by RFC 7230 3.3.3, has a complete response whose body is the
upstream's (none for HEAD / 204 / 304).
Full statement: the same without the hypothesis. It does not hold: fasthttp v1.40.0 `Response.ReadLimitBody` reads a
trailer section whenever the head says chunked, also when the body is skipped (HEAD request, 204, 304) — KNOWN_FINDINGS. -/
theorem http1_response_framing_complete_partial (head : Bool) (status : Nat) (f : RFraming) (body : List UInt8)
    (hno : readHangs (head || noBodyStatus status) f = false) :
    ∃ g w, forwardResp head status f body = some (g, w) ∧
      recvResp head status g w = some (if head || noBodyStatus status then [] else body) := by
  refine ⟨_, _, by simp only [forwardResp, hno]; rfl, ?_⟩
  by_cases hs : (head || noBodyStatus status) = true
  · simp [recvResp, hs]
  · have hh : head = false := by cases head <;> simp_all
    have hn : noBodyStatus status = false := by cases h : noBodyStatus status <;> simp_all
    simp [recvResp, hh, hn]

/-- **http1_bodiless_response_framing_kept**: the response to a HEAD request and a 204 / 304 response keep the framing
headers the upstream sent (`Content-Length` of a HEAD response is representation metadata) and carry no body —
provided the upstream's head is not chunked (`readHangs`, as in `http1_response_framing_complete_partial`) -/
theorem http1_bodiless_response_framing_kept (head : Bool) (status : Nat) (f : RFraming) (body : List UInt8)
    (hs : head = true ∨ noBodyStatus status = true) (hno : readHangs true f = false) :
    forwardResp head status f body = some (f, []) := by
  rcases hs with hs | hs <;> simp [forwardResp, writtenResp, hs, hno, Gen.C01HttpFraming.headSkipsBody]

example : readHangs (false || noBodyStatus 200) (parsedResp 200 "chunked" 5) = false := by decide +kernel
example : forwardResp false 200 (parsedResp 200 "chunked" 2) [104, 105] = some ({ te := .none, cl := some 2, close := false }, [104, 105]) := by decide +kernel
example : forwardResp true 200 (parsedResp 200 "hcl" 0) [] = some ({ te := .none, cl := some 1234, close := false }, []) := by decide +kernel
example : readHangs true (parsedResp 200 "hcl" 0) = false := by decide +kernel
-- negation witnesses of the full statement: a HEAD response / a 304 that says `Transfer-Encoding: chunked` is never forwarded
example : forwardResp true 200 (parsedResp 200 "hchunked" 0) [] = none := by decide +kernel
example : forwardResp false 304 (parsedResp 304 "hchunked" 0) [] = none := by decide +kernel

end Http1Framing

/-! ## encoding the same frame OBJECT again after it was modified (retry on another host, mirror)

`Model/EncodeState.lean`: the frame object is a record of mutable parts (plain fields, header block + `Changed`, body
buffer with its read cursor, raw frame, `ContentChanged`, stored length fields) and `Encode` is a state transformer
`object → object × bytes`.  What the encoder of each codec does to each IoBuffer part (peek: `Bytes()`, `Len()`, … /
consume: `WriteTo`, `Read`, `Drain`, …) and which fields it assigns are regenerated from the Go AST of the eight encode
functions (`Gen/C01EncodeEffect.lean`). -/
section EncodeState
open MosnVerif.Model.EncodeState MosnVerif.Gen.C01EncodeEffect

/-- what the extractor found in the current source: every access of every encode function to an IoBuffer field of the
frame is non-consuming, and the only fields assigned are the three recomputed length fields (this is the statement that
stops checking when `buf.Write(x.Content.Bytes())` becomes `x.Content.WriteTo(buf)`) -/
theorem encoders_do_not_consume_the_frame : ∀ p ∈ all, benign p.2 = true := all_benign

/-- **encode_idempotent_on_frame**: for every codec whose encode function is one of the eight regenerated ones — with
ANY byte-level encoder `C.enc`, fast-path test, id setter (a later `SetRequestId` hides an earlier one) — every frame
object `o`, every list of modifications (header `Set` / `Del`, `SetData`, plain-field updates) applied before the first
encode, and every list of tries (any number, any ids): the k-th `Encode` of the SAME object writes exactly what a first
`Encode` of the modified frame with the k-th id writes. -/
theorem encode_idempotent_on_frame {F : Type} (C : Codec F) (name : String) (hC : (name, C.eff) ∈ all)
    (hid : ∀ f a b, C.setId (C.setId f a) b = C.setId f b) (o : Obj F) (mods : List (EncodeState.Mod F)) (ids : List Nat) :
    tries C ids (mods.foldl (applyMod C) o) =
      ids.map (fun i => C.enc (viewWithId C (mods.foldl (applyMod C) o).view i)) :=
  tries_stable C (all_benign _ hC) hid ids _

/-- … in particular with the same id, for every n ≥ 1 the n-th encode yields the same bytes as the first -/
theorem encode_nth_equals_first {F : Type} (C : Codec F) (name : String) (hC : (name, C.eff) ∈ all)
    (hid : ∀ f a b, C.setId (C.setId f a) b = C.setId f b) (o : Obj F) (mods : List (EncodeState.Mod F)) (i n : Nat) :
    tries C (List.replicate (n + 1) i) (mods.foldl (applyMod C) o) =
      List.replicate (n + 1) ((encode C { (mods.foldl (applyMod C) o) with fx := C.setId (mods.foldl (applyMod C) o).fx i }).2) := by
  rw [encode_idempotent_on_frame C name hC hid, encode_bytes, view_setId, List.map_replicate]

theorem boltEff_mem (k : Bolt.KindId) : ∃ name, (name, boltEff k) ∈ all := by
  cases k
  · exact ⟨"boltRequest", by simp [all, boltEff]⟩
  · exact ⟨"boltResponse", by simp [all, boltEff]⟩
  · exact ⟨"boltv2Request", by simp [all, boltEff]⟩
  · exact ⟨"boltv2Response", by simp [all, boltEff]⟩

/-- **bolt_reencode_modified** (composition with `bolt_modified_roundtrip`): take any frame either codec decoded from any
bytes, apply any list of header `Set` / `Del`, `SetData`, `Class`, then encode the same frame OBJECT for any list of tries:
try k writes `Bolt.encode` of the modified frame with id k — so, if the frame was marked dirty, either the modified message
is representable and EVERY try's output decodes to exactly the modified class / pairs / body with that try's id, or it
is not and every try is refused. -/
theorem bolt_reencode_modified (c : Codec) (b : Bytes) (f : Frame) (n : Nat) (h : decode c b = .frame f n)
    (ops : List Op) (ids : List Nat) :
    tries (boltCodec (boltEff f.kind)) ids ((ops.map modOfOp).foldl (applyMod (boltCodec (boltEff f.kind))) (ofBolt f)) =
      ids.map (fun i => encode (setId (modify ops f) i)) ∧
    ((modify ops f).hdrChanged = true ∨ (modify ops f).contentChanged = true →
      ∀ i ∈ ids,
        let m := setId (modify ops f) i
        (Ref.representable m = true ∧ ∃ out, encode m = some out ∧
          decode c out = .frame
            { kind := f.kind, fx := { f.fx with reqId := i % 2 ^ 32 }, classLen := m.cls.length,
              headerLen := BoltHeader.encodeLen m.kvs, contentLen := m.content.length, cls := m.cls, kvs := m.kvs,
              content := m.content, raw := some out, hdrChanged := false, contentChanged := false } out.length)
        ∨ (Ref.representable m = false ∧ encode m = none)) := by
  obtain ⟨name, hmem⟩ := boltEff_mem f.kind
  exact ⟨boltCodec_tries _ (all_benign _ hmem) f ops ids, fun hd i _ => bolt_modified_roundtrip c b f n h ops i hd⟩

/-- **dubbo_reencode_body** (composition with `dubbo_body_roundtrip`): after `SetData d` on a decoded dubbo frame every
try of the same frame object writes the frame that decodes to the original magic / flag / status, that try's id,
`DataLen = |d|` and payload `d`. -/
theorem dubbo_reencode_body (svcOK svcOK' : Bytes → Bool) (b : Bytes) (f : Dubbo.Frame) (n : Nat)
    (h : Dubbo.decode svcOK b = .frame f n) (d : Bytes) (ids : List Nat) (hd : 16 + d.length < 4294967296)
    (hsvc : (!Dubbo.isEvent f.flag && Dubbo.isRequest f.flag) = true → svcOK' d = true) :
    tries (dubboCodec dubboFrame) ids (applyMod (dubboCodec dubboFrame) (ofDubbo f) (.data d)) =
      ids.map (fun i => some (Dubbo.encode (Dubbo.setId (Dubbo.setData f d) i))) ∧
    ∀ i ∈ ids,
      let out := Dubbo.encode (Dubbo.setId (Dubbo.setData f d) i)
      Dubbo.decode svcOK' out =
        .frame { f with id := i % 2 ^ 64, dataLen := d.length, payload := d, raw := some out } out.length :=
  ⟨dubboCodec_tries _ (all_benign ("dubboFrame", dubboFrame) (by simp [all])) f d ids,
   fun i _ => dubbo_body_roundtrip svcOK svcOK' b f n h d i hd hsvc⟩

/-! ### non-vacuity, and what a consuming read does -/
/-- a toy byte-level encoder: id byte, header pairs count, then the visible body -/
def toyCodec (eff : Effect) : EncodeState.Codec Nat :=
  { eff := eff, isFast := fun v => v.raw.isSome && !v.changed && !v.contentChanged,
    enc := fun v => some (UInt8.ofNat v.fx :: UInt8.ofNat v.kvs.length :: UInt8.ofNat v.content.length :: v.content),
    lensOf := fun v => (0, v.kvs.length, v.content.length), setId := fun _ i => i, dataDropsRaw := false,
    onData := fun f _ => f }
def exObj : Obj Nat :=
  { fx := 0, kvs := [], changed := false, content := ⟨[0x61, 0x62], 0⟩, contentChanged := false, raw := some ⟨[9, 9], 0⟩ }
def consuming : Effect :=
  { boltv2Request with slow := [{ part := .content, field := "Content", via := "WriteTo", acc := .consume }] }
-- the regenerated effect: header Set + SetData, three tries (ids 7, 7, 8): the body is there every time
example : tries (toyCodec boltv2Request) [7, 7, 8] ([EncodeState.Mod.set [1] [2], .data [5, 6, 7]].foldl (applyMod (toyCodec boltv2Request)) exObj)
    = [some [7, 1, 3, 5, 6, 7], some [7, 1, 3, 5, 6, 7], some [8, 1, 3, 5, 6, 7]] := by decide +kernel
-- `Content.WriteTo(buf)` instead of `buf.Write(Content.Bytes())`: the first encode is right, every later one has
-- ContentLen 0 and no body
example : benign consuming = false := by decide +kernel
example : tries (toyCodec consuming) [7, 7, 8] ([EncodeState.Mod.set [1] [2]].foldl (applyMod (toyCodec consuming)) exObj)
    = [some [7, 1, 2, 0x61, 0x62], some [7, 1, 0], some [8, 1, 0]] := by decide +kernel
-- an unmodified frame takes the raw-frame block: the consuming read of the slow path is not reached
example : tries (toyCodec consuming) [7, 7] exObj = [some [7, 0, 2, 0x61, 0x62], some [7, 0, 2, 0x61, 0x62]] := by decide +kernel
-- the real bolt model behind the same transformer: a decoded request, header Set, two tries
example : tries (boltCodec boltRequest) [5, 5] ([modOfOp (.set [0x6b] [0x76])].foldl (applyMod (boltCodec boltRequest)) (ofBolt exHeartbeat))
    = [encode (setId (modify [.set [0x6b] [0x76]] exHeartbeat) 5), encode (setId (modify [.set [0x6b] [0x76]] exHeartbeat) 5)] := by
  decide +kernel

end EncodeState

/-! ## HTTP/2 and the cross-protocol pairings (`Model/H2Msg.lean`, decisions regenerated into `Gen/C01H2Map`)

Every theorem is about `fwdReqH2 / fwdRespH2` (HTTP/2 listener → HTTP/2 cluster) or `x12Req … x21Resp` (the two pairings
served by the httpTohttp2 / http2Tohttp transcoders): server stream decode → proxy variables / header maps → client stream
encode, built from the regenerated decisions.  Quantifiers: every message (any pseudo values, any number of fields, any
names and values, any repetition), every DATA framing (`w.chunks`), every flow-control schedule of the other connection
(`win`), every trailer block, every black-box result of net/url and fasthttp (`O`). -/
section H2
open MosnVerif.Model.H2Msg MosnVerif.Lemmas.H2Fwd MosnVerif.Gen

/-- **h2_fields_preserved** (request direction): every regular field reaches the upstream under its lower-cased name with the
same values, the same multiplicity and the same relative order.  Exceptions, exactly: the encoder's own fields
(`reqOwnFields` = host, content-length), the connection-specific fields (`reqConnSpecific`), user-agent (first value only),
cookie (crumbs joined, `h2_cookie_crumbs`), the `trailer` announcement (consumed by the codec). -/
theorem h2_fields_preserved (O : Oracles) (remote : H2Msg.Bytes) (win : List Nat) (w : Wire) (n : H2Msg.Bytes)
    (hown : n ∉ C01H2Map.reqOwnFields) (hconn : n ∉ C01H2Map.reqConnSpecific)
    (hua : n ≠ nUA) (hck : n ≠ nCookie) (htr : n ≠ nTrailer) (hcl : n ≠ nCL) :
    valuesAt n (fwdReqH2 O remote win w).fields = valuesOf n w.fields :=
  req_fields_preserved O remote win w n hown hconn hua hck htr hcl

/-- **h2_fields_preserved** (response direction); exceptions: the connection-specific fields `MStream.WriteHeader` deletes
(`respDropped`), transfer-encoding (only "trailers" is written), the `trailer` announcement, content-length
(`h2_resp_content_length`), content-type only in so far as `respContentType` must be empty (it is: no sniffing). -/
theorem h2_resp_fields_preserved (isHead : Bool) (win : List Nat) (w : Wire) (n : H2Msg.Bytes)
    (hdrop : n ∉ C01H2Map.respDropped) (hte : n ≠ C01H2Map.respTEName) (htr : n ≠ nTrailer) (hcl : n ≠ nCL) (hct : n ≠ nCT) :
    valuesAt n (fwdRespH2 isHead win w).fields = valuesOf n w.fields := by
  unfold fwdRespH2 srvEncode
  simp only [Lemmas.H2Msg.valuesAt_append]
  rw [valuesAt_optField_ne n nCL _ hcl, valuesAt_optField_ne n nCT _ hct,
    valuesAt_respFieldsOf _ (Lemmas.H2Msg.del_keeps Lemmas.H2Msg.keyProp_distinct _ _ (distinct_cliHdr w)) n hdrop hte,
    Lemmas.H2Msg.vals_del, cliDecode_hdr, Lemmas.H2Msg.vals_del, Lemmas.H2Msg.vals_ofFields]
  simp [Ne.symm htr, Ne.symm hcl]

set_option maxRecDepth 20000 in
/-- repeated fields, mixed case on the way in, an empty value: three `X-Dup` values and `x-empty` arrive as sent -/
example : valuesAt [120, 45, 100, 117, 112]
    (fwdReqH2 ⟨fun p => some p, id, fun _ r => r, id, fun _ => none, fun _ po _ => po⟩ [] [3]
      { pseudo := [(nMethod, [71, 69, 84]), (nPath, [47]), (nAuthority, [97])],
        fields := [([120, 45, 100, 117, 112], [49]), ([88, 45, 68, 117, 112], []), ([120, 45, 100, 117, 112], [49])],
        chunks := [], trailers := none, endOnHeaders := true }).fields = [[49], [], [49]] := by decide +kernel

/-- **h2_cookie_crumbs** (RFC 7540 8.1.2.5): several cookie fields arrive as one, joined with "; " in order -/
theorem h2_cookie_crumbs (O : Oracles) (remote : H2Msg.Bytes) (win : List Nat) (w : Wire) :
    valuesAt nCookie (fwdReqH2 O remote win w).fields =
      (if (valuesOf nCookie w.fields).length > 1 then [joinWith semiSp (valuesOf nCookie w.fields)] else valuesOf nCookie w.fields) :=
  req_cookie_crumbs O remote win w

/-- **h2_pseudo_roundtrip**: `:method`, `:path` (path and query byte for byte, an empty query's `?` included), `:authority`
(the Host field when there is none), scheme http — for every request whose path net/url prints back unchanged. -/
theorem h2_pseudo_roundtrip (O : Oracles) (remote : H2Msg.Bytes) (win : List Nat) (w : Wire)
    (hesc : O.escaped (splitTarget (pseudoGet w.pseudo nPath)).1 = some (splitTarget (pseudoGet w.pseudo nPath)).1) :
    let out := fwdReqH2 O remote win w
    pseudoGet out.pseudo nMethod = pseudoGet w.pseudo nMethod ∧
    pseudoGet out.pseudo nPath = pseudoGet w.pseudo nPath ∧
    pseudoGet out.pseudo nScheme = sHTTP ∧
    pseudoGet out.pseudo nAuthority =
      (if pseudoGet w.pseudo nAuthority = [] then (valuesOf nHost w.fields).headD [] else pseudoGet w.pseudo nAuthority) :=
  req_pseudo_roundtrip O remote win w hesc

set_option maxRecDepth 20000 in
/-- the hypothesis is satisfiable and the statement not vacuous: `/a?x=1` with the identity oracle -/
example : pseudoGet (fwdReqH2 ⟨fun p => some p, id, fun _ r => r, id, fun _ => none, fun _ po _ => po⟩ [] []
      { pseudo := [(nMethod, [71, 69, 84]), (nPath, [47, 97, 63, 120, 61, 49]), (nAuthority, [97])], fields := [],
        chunks := [], trailers := none, endOnHeaders := true }).pseudo nPath = [47, 97, 63, 120, 61, 49] := by decide +kernel
set_option maxRecDepth 20000 in
/-- negation witness for the finding on paths net/url re-escapes (`/{` → `/%7B`): the oracle result is what is forwarded -/
example : pseudoGet (fwdReqH2 ⟨fun _ => some [47, 37, 55, 66], id, fun _ r => r, id, fun _ => none, fun _ po _ => po⟩ [] []
      { pseudo := [(nMethod, [71, 69, 84]), (nPath, [47, 123]), (nAuthority, [97])], fields := [],
        chunks := [], trailers := none, endOnHeaders := true }).pseudo nPath = [47, 37, 55, 66] := by decide +kernel

/-- the status of a forwarded response is the upstream's -/
theorem h2_resp_status (isHead : Bool) (win : List Nat) (w : Wire) :
    (fwdRespH2 isHead win w).pseudo = [(nStatus, pseudoGet w.pseudo nStatus)] := by
  unfold fwdRespH2 srvEncode
  rw [cliDecode_eq]

/-- **h2_no_invented_field** (request): whatever the upstream receives under a name other than content-length (computed)
and cookie (joined) was sent under that name -/
theorem h2_no_invented_field (O : Oracles) (remote : H2Msg.Bytes) (win : List Nat) (w : Wire) (n v : H2Msg.Bytes)
    (hcl : n ≠ nCL) (hck : n ≠ nCookie) (h : v ∈ valuesAt n (fwdReqH2 O remote win w).fields) : v ∈ valuesOf n w.fields :=
  req_no_invented_field O remote win w n v hcl hck h

/-- **h2_no_invented_field** (response): no Content-Type is sniffed (`respContentType = []`, regenerated from
`MStream.WriteHeader`: the repair 96c7a35d0 stays covered), nothing but content-length is added by the encoder -/
theorem h2_resp_no_invented_field (isHead : Bool) (win : List Nat) (w : Wire) (n v : H2Msg.Bytes)
    (hcl : n ≠ nCL) (h : v ∈ valuesAt n (fwdRespH2 isHead win w).fields) : v ∈ valuesOf n w.fields := by
  -- a Date added to a response without one is the only other addition and is made by the write side outside this map
  unfold fwdRespH2 srvEncode at h
  simp only [Lemmas.H2Msg.valuesAt_append, valuesAt_optField_ne n nCL _ hcl, respContentType_nil, List.append_nil] at h
  have h0 : valuesAt n (optField nCT []) = [] := by simp [optField, valuesAt]
  rw [h0, List.append_nil] at h
  have hv' := (mem_respFieldsOf (Lemmas.H2Msg.mem_valuesAt.mp h)).2
    (Lemmas.H2Msg.del_keeps Lemmas.H2Msg.keyProp_distinct _ _ (distinct_cliHdr w))
  rw [Lemmas.H2Msg.vals_del, List.mem_ite_nil_left, cliDecode_hdr, Lemmas.H2Msg.vals_del, List.mem_ite_nil_left,
    Lemmas.H2Msg.vals_ofFields] at hv'
  exact hv'.2.2

/-- the Content-Length rule of the HTTP/2 server stream (regenerated function): HEAD / 304 keep the upstream's value, 1xx /
204 have none, an empty body that may be there gets 0 -/
theorem h2_resp_content_length (isHead : Bool) (status : Nat) (dataEmpty upValid : Bool) (up : Option H2Msg.Bytes) :
    C01H2Map.respContentLength isHead status bodyAllowed dataEmpty upValid up =
      (let kept := if upValid then up.getD [] else []
       if isHead || status == 304 then kept
       else if !bodyAllowed status then [] else if dataEmpty then [48] else kept) := by
  -- the upstream's value is kept when valid; an empty one is "kept" either way
  have kept (x : H2Msg.Bytes) : (if (x != []) then (if upValid then x else []) else x) = if upValid then x else [] := by
    cases upValid <;> by_cases hx : x = [] <;> simp [hx]
  unfold C01H2Map.respContentLength
  rw [kept]
  cases isHead <;> by_cases h3 : status = 304 <;> simp [h3]

/-- **h2_trailers_preserved** (request): same names up to case, values, multiplicity, order — announced or not, after any
body **including no DATA frame at all** -/
theorem h2_trailers_preserved (O : Oracles) (remote : H2Msg.Bytes) (win : List Nat) (w : Wire) (n : H2Msg.Bytes)
    (hopen : w.endOnHeaders = false) :
    valuesAt n ((fwdReqH2 O remote win w).trailers.getD []) = valuesOf n (w.trailers.getD []) :=
  req_trailers_preserved O remote win w n hopen

theorem h2_resp_trailers_preserved (win : List Nat) (w : Wire) (n : H2Msg.Bytes) (hopen : w.endOnHeaders = false) :
    valuesAt n ((fwdRespH2 false win w).trailers.getD []) = valuesOf n (w.trailers.getD []) := by
  unfold fwdRespH2 srvEncode
  rw [cliDecode_eq]
  simp only [hopen, srvSendsTrailers_true, C01H2Map.respEndOnHeaders, Option.isNone_some, Bool.false_and, Bool.or_false,
    Bool.false_eq_true, if_false]
  exact trailerBlock_values w.trailers n

set_option maxRecDepth 20000 in
/-- trailers after an EMPTY body (no DATA frame): forwarded as a trailer block -/
example : (fwdRespH2 false []
      { pseudo := [(nStatus, [50, 48, 48])], fields := [], chunks := [],
        trailers := some [([120, 45, 116], [49]), ([88, 45, 84], [50])], endOnHeaders := false }).trailers
    = some [([120, 45, 116], [49]), ([120, 45, 116], [50])] := by
  simp only [fwdRespH2, srvEncode, cliDecode, trailerBlock, decodeTrailers, srvSendsTrailers_true, endStreamAsModelled_true,
    cliPassesTrailers_true, respTrailerKeepsAll_true, collectFields_true]
  decide +kernel

/-- **h2_body_preserved**: the body the other side receives is the concatenation of the DATA payloads, whatever the DATA
framing of the sender (`w.chunks`) and of the forwarder (`win`) -/
theorem h2_body_preserved (O : Oracles) (remote : H2Msg.Bytes) (win : List Nat) (w : Wire)
    (hwf : w.endOnHeaders = true → w.chunks = []) : (fwdReqH2 O remote win w).body = w.body :=
  req_body_preserved O remote win w hwf

theorem h2_resp_body_preserved (win : List Nat) (w : Wire) (hwf : w.endOnHeaders = true → w.chunks = []) :
    (fwdRespH2 false win w).body = w.body := by
  unfold fwdRespH2 srvEncode Wire.body
  rw [cliDecode_eq]
  cases he : w.endOnHeaders
  · simp [Lemmas.H2Msg.flatten_splitBy, Wire.body, C01H2Map.respEndOnHeaders, endStreamAsModelled_true]
  · simp [hwf he, C01H2Map.respEndOnHeaders, endStreamAsModelled_true]

/-- independence of the DATA framing: two framings of the same bytes are forwarded to the same body -/
theorem h2_body_framing_independent (O : Oracles) (remote : H2Msg.Bytes) (win1 win2 : List Nat) (w1 w2 : Wire)
    (h1 : w1.endOnHeaders = true → w1.chunks = []) (h2 : w2.endOnHeaders = true → w2.chunks = [])
    (hb : w1.body = w2.body) : (fwdReqH2 O remote win1 w1).body = (fwdReqH2 O remote win2 w2).body := by
  rw [req_body_preserved O remote win1 w1 h1, req_body_preserved O remote win2 w2 h2, hb]

set_option maxRecDepth 20000 in
example : (fwdReqH2 ⟨fun p => some p, id, fun _ r => r, id, fun _ => none, fun _ po _ => po⟩ [] [2, 1]
      { pseudo := [], fields := [], chunks := [[1], [], [2, 3, 4], [5]], trailers := none, endOnHeaders := false }).chunks
    = [[1, 2], [3], [4, 5]] := by decide +kernel

/-- **cross_h1_h2_fields** (HTTP/1.1 → HTTP/2 request): every field outside the exact exception list — own fields,
`reqConnSpecific` = connection, proxy-connection, transfer-encoding, upgrade, keep-alive (regenerated), fasthttp's
single-valued special headers (user-agent, content-type, server), cookie (joined) — arrives with the same values,
multiplicity and order under its lower-cased name … -/
theorem cross_h1_h2_fields (O : Oracles) (remote : H2Msg.Bytes) (win : List Nat) (w : Wire) (n : H2Msg.Bytes)
    (hown : n ∉ C01H2Map.reqOwnFields) (hconn : n ∉ C01H2Map.reqConnSpecific) (hsp : n ∉ special)
    (hck : n ≠ nCookie) (hcl : n ≠ nCL) :
    valuesAt n (x12Req O remote win w).fields = valuesOf n w.fields := by
  have hua : n ≠ nUA := by intro h; apply hsp; simp [special, h]
  unfold x12Req cliEncode
  simp only [Lemmas.H2Msg.valuesAt_append, valuesAt_clField n hcl, List.append_nil, transcoders_keep_all.1, convert_true]
  rw [valuesAt_reqFieldsOf _
      (distinct_dropEmptySpecial _ (Lemmas.H2Msg.joinCookies_keeps Lemmas.H2Msg.keyProp_distinct _ (Lemmas.H2Msg.distinct_ofFields _)))
      n hown hconn hua,
    vals_dropEmptySpecial _ _ hsp, Lemmas.H2Msg.vals_joinCookies_ne _ _ (Ne.symm hck), Lemmas.H2Msg.vals_ofFields]

/-- … and no connection-specific field is ever forwarded into HTTP/2, in either converted direction -/
theorem cross_no_connection_specific_request (O : Oracles) (remote : H2Msg.Bytes) (win : List Nat) (w : Wire) (f : Field)
    (hf : f ∈ (x12Req O remote win w).fields) : f.1 ∉ C01H2Map.reqConnSpecific := by
  unfold x12Req cliEncode at hf
  simp only [List.mem_append] at hf
  cases hf with
  | inl h => exact (mem_reqFieldsOf h).1
  | inr h =>
    have := mem_clField _ _ h
    rw [this]; decide

theorem cross_no_connection_specific_response (isHead : Bool) (win : List Nat) (w : Wire) (f : Field)
    (hf : f ∈ (x21Resp isHead win w).fields) : f.1 ∉ C01H2Map.respDropped := by
  unfold x21Resp srvEncode at hf
  simp only [List.mem_append] at hf
  rcases hf with (h | h) | h
  · exact (mem_respFieldsOf h).1
  · rw [mem_optField _ _ f h]; decide
  · rw [respContentType_nil] at h; simp [optField] at h

/-- **cross_h1_h2_fields** (HTTP/1.1 upstream → HTTP/2 downstream, response) -/
theorem cross_h1_h2_resp_fields (isHead : Bool) (win : List Nat) (w : Wire) (n : H2Msg.Bytes)
    (hdrop : n ∉ C01H2Map.respDropped) (hte : n ≠ C01H2Map.respTEName) (hsp : n ∉ special) (hcl : n ≠ nCL) :
    valuesAt n (x21Resp isHead win w).fields = valuesOf n w.fields := by
  have hct : n ≠ nCT := by intro h; apply hsp; simp [special, h]
  unfold x21Resp srvEncode
  simp only [Lemmas.H2Msg.valuesAt_append, transcoders_keep_all.2.2.2, convert_true]
  rw [valuesAt_optField_ne n nCL _ hcl, valuesAt_optField_ne n nCT _ hct,
    valuesAt_respFieldsOf _
      (Lemmas.H2Msg.del_keeps Lemmas.H2Msg.keyProp_distinct _ _ (distinct_dropEmptySpecial _ (Lemmas.H2Msg.distinct_ofFields _)))
      n hdrop hte,
    Lemmas.H2Msg.vals_del, vals_dropEmptySpecial _ _ hsp, Lemmas.H2Msg.vals_ofFields]
  simp [Ne.symm hcl]

/-- **cross_h1_h2_fields** (HTTP/2 → HTTP/1.1, response and request): every value of every field is copied, except
fasthttp's special headers (`special`) and the `trailer` announcement the HTTP/2 codec consumes; in the request also
cookie (joined) and host (written from `:authority`) -/
theorem cross_h2_h1_resp_fields (w : Wire) (n : H2Msg.Bytes) (hsp : n ∉ special) (htr : n ≠ nTrailer) :
    valuesAt n (x12Resp w).fields = valuesOf n w.fields := by
  unfold x12Resp
  -- the transcoders use Add (regenerated): the conversion keeps every value
  simp only [transcoders_keep_all.2.1, convert_true]
  rw [Lemmas.H2Msg.valuesAt_toFields _ (distinct_dropEmptySpecial _ (distinct_cliHdr w)), vals_dropEmptySpecial _ _ hsp,
    cliDecode_hdr, Lemmas.H2Msg.vals_del, Lemmas.H2Msg.vals_ofFields]
  simp [Ne.symm htr]

theorem cross_h2_h1_req_fields (O : Oracles) (w : Wire) (n : H2Msg.Bytes) (hsp : n ∉ special) (htr : n ≠ nTrailer)
    (hck : n ≠ nCookie) (hh : n ≠ nHost) : valuesAt n (x21Req O w).fields = valuesOf n w.fields := by
  unfold x21Req
  simp only [transcoders_keep_all.2.2.1, convert_true]
  rw [valuesAt_cons_ne n nHost _ _ hh,
    Lemmas.H2Msg.valuesAt_toFields _
      (Lemmas.H2Msg.del_keeps Lemmas.H2Msg.keyProp_distinct _ _ (distinct_dropEmptySpecial _ (distinct_srvHdr w))),
    Lemmas.H2Msg.vals_del, vals_dropEmptySpecial _ _ hsp, srvDecode_hdr, Lemmas.H2Msg.vals_del,
    Lemmas.H2Msg.vals_joinCookies_ne _ _ (Ne.symm hck), Lemmas.H2Msg.vals_ofFields]
  simp [Ne.symm htr, Ne.symm hh]

set_option maxRecDepth 20000 in
/-- repeated Set-Cookie towards HTTP/1.1 stays two fields; with a conversion through a map[string]string (the code before the
repair, `convert false`) only the last survives -/
example : valuesAt [115, 101, 116, 45, 99, 111, 111, 107, 105, 101]
    (x12Resp { pseudo := [(nStatus, [50, 48, 48])],
               fields := [([115, 101, 116, 45, 99, 111, 111, 107, 105, 101], [97]), ([115, 101, 116, 45, 99, 111, 111, 107, 105, 101], [98])],
               chunks := [], trailers := none, endOnHeaders := true }).fields = [[97], [98]] := by
  simp only [x12Resp, cliDecode, respKeepsAll_true, cliHeaderOnly_true, transcoders_keep_all.2.1, collectFields_true, convert_true]
  decide +kernel
set_option maxRecDepth 20000 in
example : (convert false [([120], [[1], [2], [3]])]) = [([120], [[3]])] := by decide +kernel

/-- **HTTP/1.1 → HTTP/2: method, authority, path AND query** -/
theorem cross_h1_h2_pseudo (O : Oracles) (remote : H2Msg.Bytes) (win : List Nat) (w : Wire)
    (hm : pseudoGet w.pseudo nMethod ≠ []) (hh : lower ((valuesOf nHost w.fields).headD []) ≠ [])
    (hesc : O.escapedOf (x12PathUsed O (splitTarget (pseudoGet w.pseudo nPath)).1) (splitTarget (pseudoGet w.pseudo nPath)).1 =
      (splitTarget (pseudoGet w.pseudo nPath)).1)
    (hq : (splitTarget (pseudoGet w.pseudo nPath)).2.1 = true → (splitTarget (pseudoGet w.pseudo nPath)).2.2 ≠ []) :
    let out := x12Req O remote win w
    pseudoGet out.pseudo nMethod = pseudoGet w.pseudo nMethod ∧
    pseudoGet out.pseudo nPath = pseudoGet w.pseudo nPath ∧
    pseudoGet out.pseudo nAuthority = lower ((valuesOf nHost w.fields).headD []) := by
  -- `hesc`: net/url prints the original path unchanged; `hq`: a `?` is followed by a non-empty query (`/a?` loses its `?`:
  -- KNOWN_FINDINGS.txt)
  intro out
  have hp : out.pseudo = _ := x12_req_pseudo_eq O remote win w hm hh
  refine ⟨by rw [hp, pseudo4_method], ?_, by rw [hp, pseudo4_authority]⟩
  have hj := splitTarget_join (pseudoGet w.pseudo nPath)
  have hQ := splitTarget_hadQ (pseudoGet w.pseudo nPath)
  rw [hp, pseudo4_path]
  simp only [hesc]
  -- a `?` was there iff the query is not empty
  cases hb : (splitTarget (pseudoGet w.pseudo nPath)).2.1
  · rw [hb] at hj hQ
    rwa [if_pos (Classical.not_not.mp fun h => Bool.false_ne_true (hQ h))]
  · rw [hb] at hj
    rwa [if_neg (hq hb)]

set_option maxRecDepth 20000 in
/-- `POST /a//b?q=1` with `Host: H`: the original path (not fasthttp's normalisation `/a/b`) and the query arrive -/
example : pseudoGet (x12Req ⟨fun p => some p, id, fun _ r => r, fun _ => [47, 97, 47, 98], fun p => some p, fun _ po _ => po⟩ [] []
      { pseudo := [(nMethod, [80, 79, 83, 84]), (nPath, [47, 97, 47, 47, 98, 63, 113, 61, 49])], fields := [(nHost, [72])],
        chunks := [], trailers := none, endOnHeaders := false }).pseudo nPath = [47, 97, 47, 47, 98, 63, 113, 61, 49] := by decide +kernel
set_option maxRecDepth 20000 in
/-- negation witnesses of the cross-protocol findings: an empty query's `?` is dropped, trailers do not cross HTTP/1 -/
example : pseudoGet (x12Req ⟨fun p => some p, id, fun _ r => r, id, fun p => some p, fun _ po _ => po⟩ [] []
      { pseudo := [(nMethod, [71, 69, 84]), (nPath, [47, 97, 63])], fields := [(nHost, [72])],
        chunks := [], trailers := none, endOnHeaders := false }).pseudo nPath = [47, 97] := by decide +kernel
set_option maxRecDepth 20000 in
example : (x12Req ⟨fun p => some p, id, fun _ r => r, id, fun p => some p, fun _ po _ => po⟩ [] []
      { pseudo := [(nMethod, [80, 79, 83, 84]), (nPath, [47])], fields := [(nHost, [72])],
        chunks := [[1]], trailers := some [([120], [49])], endOnHeaders := false }).trailers = none := by decide +kernel

/-- **the model satisfies the reference predicate** evaluated on the implementation's output (`specReqH2`, HTTP/2 → HTTP/2
request).  PARTIAL: the full statement is `specReqH2 w (fwdReqH2 O remote win w) = true`, i.e. additionally the clause `clOK`
(a content-length at the receiver, when present, is the decimal length of the body); the model writes `natBytes n` there and
`parseNat? (natBytes n) = some n` (Nat.repr round trip) is not proved — the clause is checked on every case line instead.
Hypotheses: an authority, a path net/url prints back unchanged, field names outside the encoder's special ones
(`PlainNames`: own, connection-specific, user-agent, trailer announcement — cookie crumbs, repeated names, empty values, any
case allowed), END_STREAM on HEADERS only without DATA and trailers. -/
theorem h2_spec_holds_on_model_partial (O : Oracles) (remote : H2Msg.Bytes) (win : List Nat) (w : Wire)
    (hesc : O.escaped (splitTarget (pseudoGet w.pseudo nPath)).1 = some (splitTarget (pseudoGet w.pseudo nPath)).1)
    (hauth : pseudoGet w.pseudo nAuthority ≠ [])
    (hp : MosnVerif.Lemmas.H2Spec.PlainNames w.fields)
    (hend : w.endOnHeaders = true → w.chunks = [] ∧ w.trailers = none) :
    specReqH2core w (fwdReqH2 O remote win w) = true :=
  MosnVerif.Lemmas.H2Spec.spec_holds_on_model O remote win w hesc hauth hp hend

set_option maxRecDepth 20000 in
/-- the hypotheses hold of a request with cookie crumbs, a repeated mixed-case field, a body in three DATA frames and
trailers, and the full predicate (content-length clause included) holds of the model's output for it -/
example : specReqH2
    { pseudo := [(nMethod, [80, 79, 83, 84]), (nPath, [47, 97, 63, 120]), (nAuthority, [97]), (nScheme, sHTTP)],
      fields := [(nCookie, [97, 61, 49]), ([120, 45, 100], [49]), (nCookie, [98, 61, 50]), ([88, 45, 68], [])],
      chunks := [[1], [], [2, 3]], trailers := some [([120, 45, 116], [49])], endOnHeaders := false }
    (fwdReqH2 ⟨fun p => some p, id, fun _ r => r, id, fun _ => none, fun _ po _ => po⟩ [] [2]
      { pseudo := [(nMethod, [80, 79, 83, 84]), (nPath, [47, 97, 63, 120]), (nAuthority, [97]), (nScheme, sHTTP)],
        fields := [(nCookie, [97, 61, 49]), ([120, 45, 100], [49]), (nCookie, [98, 61, 50]), ([88, 45, 68], [])],
        chunks := [[1], [], [2, 3]], trailers := some [([120, 45, 116], [49])], endOnHeaders := false }) = true := by
  simp only [fwdReqH2, srvDecode, srvHdr, srvHost, cliEncode, trailerBlock, decodeTrailers, srvHeaderOnly_true, reqKeepsAll_true,
    reqDeletesTrailerField_true, srvPassesTrailers_true, reqTrailerKeepsAll_true, cliSendsTrailers_true,
    endStreamAsModelled_true, collectFields_true]
  decide +kernel

end H2

end MosnVerif.Props.C01
