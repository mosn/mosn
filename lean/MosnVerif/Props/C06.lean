import MosnVerif.Lemmas.WeightedCluster
import MosnVerif.Lemmas.EDF
import MosnVerif.Lemmas.EdfHeap
import MosnVerif.Lemmas.LB
import MosnVerif.Lemmas.EdfConc
import MosnVerif.Lemmas.WrrHealth
import MosnVerif.Lemmas.WcLock
/-!
# C06 — configured weights are honoured exactly (property theorems only)
-/
namespace MosnVerif.Props.C06
open MosnVerif.Model.WeightedCluster

/-- **count_exact**: for every weight vector, in *every* storage order, with distinct names, over the whole
draw space `[0, total)` each cluster is selected by exactly `weight` draws — probability `weight/total`. -/
theorem count_exact (l : List Entry) (hnd : (l.map (·.1)).Nodup) (c : String) (w : Nat)
    (hc : (c, w) ∈ l) : hits l c (total l) = w := by
  rw [hits_eq_ref]; exact hitsRef_exact l hnd c w hc

/-- **zero_never**: a zero-weight cluster is never selected, for every order and every draw. -/
theorem zero_never (l : List Entry) (hnd : (l.map (·.1)).Nodup) (c : String) (hc : (c, 0) ∈ l) (v : Nat)
    (hv : v < total l) : select l v ≠ some c := by
  intro h
  have := count_exact l hnd c 0 hc
  unfold hits at this
  rw [List.length_eq_zero_iff, List.filter_eq_nil_iff] at this
  exact this v (by simpa using hv) (by simp [h])

/-- **order_independent**: the number of draws selecting a cluster does not depend on the storage order. -/
theorem order_independent (l l' : List Entry) (hp : l.Perm l') (hnd : (l.map (·.1)).Nodup) (c : String) (w : Nat)
    (hc : (c, w) ∈ l) : hits l c (total l) = hits l' c (total l') := by
  have hnd' : (l'.map (·.1)).Nodup := (hp.map _).nodup_iff.mp hnd
  rw [count_exact l hnd c w hc, count_exact l' hnd' c w (hp.mem_iff.mp hc)]

/-- every draw in range selects *some* configured cluster (never falls through to the default). -/
theorem select_total (l : List Entry) (v : Nat) (hv : v < total l) : ∃ c, select l v = some c ∧ c ∈ l.map (·.1) := by
  rw [select_eq_ref]
  induction l generalizing v with
  | nil => simp [total] at hv
  | cons e r ih =>
    obtain ⟨n, w⟩ := e
    simp only [selectRef]
    by_cases h : v < w
    · exact ⟨n, by simp [h], by simp⟩
    · have : v - w < total r := by simp [total] at hv ⊢; omega
      obtain ⟨c, hc, hm⟩ := ih (v - w) this
      exact ⟨c, by simp [h, hc], by simp at hm ⊢; right; exact hm⟩

/-- the executable predicate evaluated on implementation outputs is implied by the model. -/
theorem spec_holds_on_model (l : List Entry) (hnd : (l.map (·.1)).Nodup) :
    specCounts l ((List.range (total l)).map (select l)) = true := by
  unfold specCounts
  simp only [List.length_map, List.length_range, beq_self_eq_true, Bool.true_and, List.all_eq_true]
  intro e he
  have := count_exact l hnd e.1 e.2 he
  unfold hits at this
  simp only [beq_iff_eq]
  rw [← this, List.filter_map, List.length_map]
  rfl

-- non-vacuity: a concrete non-trivial vector (zero weight, dominant weight, non-power-of-two total)
example : (([("a", 0), ("b", 5), ("c", 1)] : List Entry).map (·.1)).Nodup ∧
    (("a", 0) : Entry) ∈ [("a", 0), ("b", 5), ("c", 1)] ∧ 3 < total [("a", 0), ("b", 5), ("c", 1)] := by decide
example : select [("a", 0), ("b", 5), ("c", 1)] 0 = some "b" := by decide
example : select [("a", 0), ("b", 5), ("c", 1)] 5 = some "c" := by decide

/-! ## weighted round robin: the EDF scheduler (`edf.go`) over exact rationals

`Sched` is the scheduler state, `nextAndPush wf hint` one `NextAndPush` (the hint resolves exact ties of deadlines the
way the float64 implementation happened to — every theorem holds for all hints), `run` consecutive picks,
`refresh wf n pre` the scheduler `EdfLoadBalancer.refresh` builds for `n` hosts (all `Add`s, then `|pre|` warm-up picks). -/
section EDF
open MosnVerif.Model MosnVerif.Model.EDF

/-- **edf_invariant_step**: the invariant `dₑ − 1/wₑ ≤ now ≤ dₑ` (all queued `e`) is preserved by every pick, whatever
positive weight the weight function returns at that moment (least-request / peak-EWMA weights change between picks). -/
theorem edf_invariant_step (s s' : Sched) (wf : Nat → Rat) (hint : Option Nat) (i : Nat) (h : Inv s)
    (hwf : ∀ k, 0 < wf k) (hn : s.nextAndPush wf hint = some (i, s')) : Inv s' :=
  inv_next h hwf hn

/-- **edf_invariant_reachable**: in every state reachable from the constructed balancer (any warm-up, any number of
picks, any tie resolution) `dᵢ − 1/wᵢ ≤ dⱼ` holds for all queued entries `i`, `j`. -/
theorem edf_invariant_reachable (wf : Nat → Rat) (hwf : ∀ k, 0 < wf k) (n : Nat) (pre picks : List (Option Nat))
    (e f : EDF.Entry) (he : e ∈ ((refresh wf n pre).run wf picks).2.entries)
    (hf : f ∈ ((refresh wf n pre).run wf picks).2.entries) : e.deadline - 1 / e.weight ≤ f.deadline := by
  exact ((ready_refresh wf hwf n pre).run hwf picks).1.pairwise he hf

/-- the served entry always holds a minimal deadline; without hint it is the minimum of the regenerated heap order
`edfEntryLess` (earliest deadline, ties by queued order). -/
theorem edf_pick_minimal (s : Sched) (hint : Option Nat) (e : EDF.Entry) (h : s.pick hint = some e) :
    e ∈ s.entries ∧ ∀ f ∈ s.entries, e.deadline ≤ f.deadline := pick_mem_min h

/-- effective host weights are in the supported range 1..128 whatever is configured. -/
theorem wrr_weight_range (ws : List Nat) (i : Nat) : (1 : Rat) ≤ wrrWeight ws i ∧ wrrWeight ws i ≤ 128 := by
  have := fixHostWeight_range ((ws.getD i 0 : Nat) : Int)
  unfold wrrWeight wrrW
  exact ⟨by exact_mod_cast Rat.intCast_le_intCast.mpr this.1, by exact_mod_cast Rat.intCast_le_intCast.mpr this.2⟩

/-- **edf_window_bound**: for every weight vector `ws` (effective weights 1..128), every warm-up `pre`, every window
start (`before` = any picks served earlier) and every window length (`window`), every tie resolution, and all hosts
`i`, `j`: `nᵢ/wᵢ − nⱼ/wⱼ ≤ 1/wᵢ + 1/wⱼ` where `n` counts the picks inside the window.  With `i`, `j` swapped this is
`|nᵢ/wᵢ − nⱼ/wⱼ| ≤ 1/wᵢ + 1/wⱼ`. -/
theorem edf_window_bound (ws : List Nat) (pre before window : List (Option Nat)) (i j : Nat)
    (hi : i < ws.length) (hj : j < ws.length) :
    let wf := wrrWeight ws
    let s1 := ((refresh wf ws.length pre).run wf before).2
    let served := (s1.run wf window).1
    ((served.count i : Nat) : Rat) / wf i - ((served.count j : Nat) : Rat) / wf j ≤ 1 / wf i + 1 / wf j := by
  intro wf s1 served
  have hwf := wrrWeight_pos ws
  have R : Ready wf ws.length s1 := (ready_refresh wf hwf ws.length pre).run hwf before
  exact window_bound wf hwf window s1 R.1 R.2.1 (R.mem hi) (R.mem hj)

/-- the executable predicate evaluated on the implementation's pick sequence (`windowsOk`: every window, every pair)
is implied by the model: it holds of every served sequence, from every reachable state. -/
theorem edf_spec_holds_on_model (ws : List Nat) (pre before window : List (Option Nat)) :
    let wf := wrrWeight ws
    let s1 := ((refresh wf ws.length pre).run wf before).2
    windowsOk (wrrW ws) ws.length (s1.run wf window).1 = true := by
  intro wf s1
  have hw := wrrW_pos ws
  have hwf := wrrWeight_pos ws
  exact windowsOk_of_run (wrrW ws) hw ws.length window s1 ((ready_refresh wf hwf ws.length pre).run hwf before)

-- non-vacuity: weights 1, 3, 128 (effective 1, 3, 128), warm-up of one pick, a window of four picks after two picks
example : ((refresh (wrrWeight [1, 3, 128]) 3 [none]).run (wrrWeight [1, 3, 128]) [none, none]).2.entries.length = 3 := by
  decide +kernel
example : (((refresh (wrrWeight [1, 3, 200]) 3 []).run (wrrWeight [1, 3, 200]) (List.replicate 6 none)).1) = [2, 2, 2, 2, 2, 2] := by
  decide +kernel
example : (((refresh (wrrWeight [1, 2]) 2 []).run (wrrWeight [1, 2]) (List.replicate 6 none)).1) = [1, 0, 1, 1, 0, 1] := by
  decide +kernel
/-- a hint is followed exactly when it names an entry with a minimal exact deadline (here both deadlines are 1). -/
example : (((refresh (wrrWeight [1, 2]) 2 [none]).run (wrrWeight [1, 2]) [some 1, some 1]).1) = [1, 0] := by
  decide +kernel

end EDF

/-! ## the array heap of `edfheap.go` under the regenerated order `edfEntryLess` -/
section Heap
open MosnVerif.Model MosnVerif.Model.EdfHeap

/-- **heap_peek_min**: in a heap-ordered array `Peek` (cell 0) is a minimum of `edfEntryLess`: no queued entry is
less than it — earliest deadline, and among equal deadlines the earliest queued. -/
theorem heap_peek_min (h : Heap EDF.Entry) (hord : Ordered EDF.less h.elements h.size) (k : Nat) (hk : k < h.size) :
    EDF.less (h.elements k) (peek h) = false :=
  root_min less_weakOrder h.elements h.size hord k hk

/-- **heap_fix_root**: after the root's entry was replaced by anything (`NextAndPush` raises its deadline and
queuedTime in place), `Fix(0)` — `fixDown`, else `fixUp`, as written with the hole technique — yields a heap-ordered
array with the same size and the same contents. -/
theorem heap_fix_root (h : Heap EDF.Entry) (e' : EDF.Entry) (hord : Ordered EDF.less h.elements h.size) (hs : 0 < h.size) :
    let g := fix EDF.less { h with elements := upd h.elements 0 e' } 0
    Ordered EDF.less g.elements g.size ∧ g.size = h.size ∧ SameSet (upd h.elements 0 e') g.elements h.size :=
  fix_root_spec less_weakOrder h e' hord hs

/-- **heap_push**: `Push` keeps the heap order and adds exactly the pushed entry. -/
theorem heap_push (h : Heap EDF.Entry) (e : EDF.Entry) (hord : Ordered EDF.less h.elements h.size) :
    let g := push EDF.less h e
    Ordered EDF.less g.elements g.size ∧ g.size = h.size + 1 ∧ SameSet (upd h.elements h.size e) g.elements (h.size + 1) :=
  push_spec less_weakOrder h e hord

/-- **heap_scheduler_refines**: the scheduler of `edf.go` on top of the array heap of `edfheap.go` (`Add` = `Push`,
`NextAndPush` = `Peek`, update in place, `Fix(0)`) serves, for every number of hosts, every positive weight function
(re-evaluated at every pick) and every number of picks, exactly the sequence of the list scheduler
`Model/EDF.lean` without hints, about which the invariant and the window bound are proved. -/
theorem heap_scheduler_refines (wf : Nat → Rat) (hwf : ∀ k, 0 < wf k) (n k : Nat) :
    ((HSched.initWith wf n).run wf k).1 = ((EDF.initWith wf n).run wf (List.replicate k none)).1 := by
  obtain ⟨R, hQ⟩ := init_rel wf n
  exact (run_refines wf k _ _ R (EDF.ready_initWith wf hwf n).1.2 hQ).1

example : ((HSched.initWith (EDF.wrrWeight [1, 2, 3]) 3).run (EDF.wrrWeight [1, 2, 3]) 6).1 = [2, 1, 2, 0, 1, 2] := by
  decide +kernel

-- non-vacuity: three entries pushed in descending deadline order end with the earliest at the root
private def e3 (d : Rat) (q : Int) : EDF.Entry := { item := q.toNat, deadline := d, weight := 1, queued := q }
example : (peek (push EDF.less (push EDF.less (push EDF.less ⟨fun _ => default, 0⟩ (e3 3 1)) (e3 2 2)) (e3 1 3))).item = 3 := by
  decide +kernel
example : (peek (fix EDF.less { (push EDF.less (push EDF.less (push EDF.less ⟨fun _ => default, 0⟩ (e3 1 1)) (e3 2 2)) (e3 3 3)) with
    elements := upd (push EDF.less (push EDF.less (push EDF.less ⟨fun _ => default, 0⟩ (e3 1 1)) (e3 2 2)) (e3 3 3)).elements 0 (e3 5 4) } 0)).item = 2 := by
  decide +kernel

end Heap

/-! ## the weighted round-robin *balancer* (`WRRLoadBalancer.ChooseHost`) over healthy hosts -/
section WRRBalancer
open MosnVerif.Model MosnVerif.Model.EDF MosnVerif.Model.LB

/-- **wrr_lookup_window_bound**: for every host set with all hosts healthy and not all configured weights equal (then
`newWRRLoadBalancer` builds the EDF scheduler), every round-robin start, every warm-up, every number of earlier lookups
and every window of consecutive lookups, the hosts returned by `ChooseHost` satisfy
`nᵢ/wᵢ − nⱼ/wⱼ ≤ 1/wᵢ + 1/wⱼ` (with `i`, `j` swapped: the absolute value) for the effective weights
`wₖ = fixHostWeight(weightₖ) ∈ 1..128`. -/
theorem wrr_lookup_window_bound (hs : Hosts) (hall : ∀ i, i < hs.length → hAt hs i = true)
    (hneq : weightsEqual hs = false) (rr0 : Nat) (pre before window : List (Option Nat)) (i j : Nat)
    (hi : i < hs.length) (hj : j < hs.length) :
    let st0 := newState .wrr hs rr0 pre
    let st1 := (wrrServe hs st0 before).2
    let served := (wrrServe hs st1 window).1
    ((served.count (some i) : Nat) : Rat) / wrrWf hs i - ((served.count (some j) : Nat) : Rat) / wrrWf hs j
      ≤ 1 / wrrWf hs i + 1 / wrrWf hs j := by
  intro st0 st1 served
  have h2 : 2 ≤ hs.length := by
    match hs, hneq with
    | [], h => simp [weightsEqual] at h
    | [_], h => simp [weightsEqual] at h
    | _ :: _ :: _, _ => simp
  have hwf := wrrWf_pos hs
  -- the constructed scheduler
  have hs0 : st0.sched = some (refresh (wrrWf hs) hs.length pre) := by
    simp only [st0, newState, hasEdf, hneq, Bool.true_and, Bool.not_false, Bool.and_true, policyWf]
    have : decide (hs.length > 1) = true := by simp; omega
    simp [this]
  have R0 := ready_refresh (wrrWf hs) hwf hs.length pre
  have R1 := R0.run hwf before
  -- over all-healthy hosts the lookups are the scheduler's picks
  have e1 := wrrServe_eq_run hs hall h2 before st0 _ hs0 R0
  have hst1 : st1.sched = some ((refresh (wrrWf hs) hs.length pre).run (wrrWf hs) before).2 := by
    simp only [st1, e1]
  have e2 := wrrServe_eq_run hs hall h2 window st1 _ hst1 R1
  have hcount : ∀ k, served.count (some k) =
      ((((refresh (wrrWf hs) hs.length pre).run (wrrWf hs) before).2.run (wrrWf hs) window).1).count k := by
    intro k
    simp only [served, e2]
    exact count_map_some _ k
  rw [hcount i, hcount j]
  exact window_bound (wrrWf hs) hwf window _ R1.1 R1.2.1 (R1.mem hi) (R1.mem hj)

-- non-vacuity: three healthy hosts with weights 1, 3, 128
example : weightsEqual ([⟨0, 1, true, 0, 0, 1⟩, ⟨1, 3, true, 0, 0, 1⟩, ⟨2, 128, true, 0, 0, 1⟩] : Hosts) = false ∧
    ∀ i, i < 3 → hAt ([⟨0, 1, true, 0, 0, 1⟩, ⟨1, 3, true, 0, 0, 1⟩, ⟨2, 128, true, 0, 0, 1⟩] : Hosts) i = true := by
  refine ⟨by decide, ?_⟩
  intro i hi
  match i, hi with
  | 0, _ => decide
  | 1, _ => decide
  | 2, _ => decide

end WRRBalancer

/-! ## concurrent callers of the scheduler (`edf.lock`)

`Gen/EdfLock.lean` is the regenerated step program of `NextAndPush` / `Add` (statements in source order, with the `lock` /
`unlock` of `edf.lock`). `Model/EdfConc.lean` runs any number of calls (one thread id per call) against ONE shared
scheduler under an arbitrary schedule (list of thread ids), mutual exclusion by the `lock` steps. -/
section Concurrent
open MosnVerif.Model MosnVerif.Model.EDF MosnVerif.Model.EdfHeap MosnVerif.Model.EdfConc MosnVerif.Gen

/-- **edf_lock_discipline**: the regenerated step programs of `NextAndPush` and `Add` take `edf.lock` first, release it
last and never in between: the lock is held from before the peek until after the fix. -/
theorem edf_lock_discipline : lockHeld EdfLock.nextAndPush = true ∧ lockHeld EdfLock.add = true :=
  ⟨nextAndPush_lockHeld, add_lockHeld⟩

/-- **calls_serializable**: every call may run its own step program (`Add` or `NextAndPush`, any arguments). If each
program holds the lock from before its first step until after its last, then for every number of concurrent calls,
every schedule (complete or not) and every start state: the calls that have returned are exactly those that released
the mutex (`done`, no call twice), and their results and the state they leave when nobody is inside are those of
executing these calls ONE AFTER THE OTHER in the order `done`. -/
theorem calls_serializable (calls : Nat → Call Local) (hl : ∀ t, lockHeld (calls t).prog = true) (wf : Nat → Rat)
    (s0 : HSched) (sched : List Nat) :
    let c := runSched (exec wf) (initConf calls s0) sched
    let ser := serial (exec wf) calls c.done s0
    c.done.Nodup ∧ (∀ t, (c.threads t).todo = [] ↔ t ∈ c.done) ∧
    returned c = ser.2.map (·.2.result) ∧ (c.holder = none → c.shared = ser.1) := by
  intro c ser
  have I : SerInv (exec wf) calls s0 c := inv_run _ _ _ hl sched _ (inv_init _ _ _)
  exact ⟨I.nodup, finished_iff hl I, results_eq I (·.result), I.idle⟩

/-- **picks_serializable**: if the step program of `NextAndPush` holds the lock from before the peek until after the
fix, then for every number of threads and every schedule the picks handed to the callers that have returned are those
of executing the calls one after the other in some order (the order `done` in which they left the critical section). -/
theorem picks_serializable (prog : List EdfLock.Step) (hl : lockHeld prog = true) (wf : Nat → Rat) (s0 : HSched)
    (sched : List Nat) :
    let c := runSched (exec wf) (initConf (napCalls prog) s0) sched
    let ser := serial (exec wf) (napCalls prog) c.done s0
    c.done.Nodup ∧ (∀ t, (c.threads t).todo = [] ↔ t ∈ c.done) ∧
    returned c = ser.2.map (·.2.result) ∧ (c.holder = none → c.shared = ser.1) :=
  calls_serializable (napCalls prog) (fun _ => hl) wf s0 sched

/-- the regenerated critical sections, executed alone, are the sequential operations of the heap scheduler: `Add` is
`HSched.add` (push with `currentTime + 1/weight` and a fresh tick), `NextAndPush` is `HSched.nextAndPush`. -/
theorem critical_sections_are_sequential_ops (wf : Nat → Rat) (s : HSched) (item : Nat) (w : Rat) :
    (runBody (exec wf) (middle EdfLock.add) s { arg := (item, w) }).1 = s.add item w ∧
    (runBody (exec wf) (middle EdfLock.nextAndPush) s {}).1 = (seqCall s wf).2 ∧
    (runBody (exec wf) (middle EdfLock.nextAndPush) s {}).2.result = some (seqCall s wf).1 :=
  ⟨add_body_eq wf s item w, (body_eq_seqCall wf s).1, (body_eq_seqCall wf s).2⟩

-- non-vacuity of the mixed form: call 0 is `Add(host 2, weight 5)`, calls 1 and 2 are `NextAndPush`, interleaved on the
-- scheduler of weights 3, 2: the calls leave in the order 1, 0, 2; three entries are queued afterwards; call 1 is served
-- host 0 and call 2 host 1 (the added host 2 has deadline 1/3 + 1/5 > 1/2)
example :
    let calls : Nat → Call Local := fun t =>
      if t = 0 then { prog := EdfLock.add, l0 := { arg := (2, 5) } } else { prog := EdfLock.nextAndPush, l0 := {} }
    let c := runSched (exec (wrrWeight [3, 2, 5])) (initConf calls (HSched.initWith (wrrWeight [3, 2, 5]) 2))
      ([1, 1, 0, 2, 1, 0] ++ List.replicate 10 1 ++ List.replicate 5 0 ++ List.replicate 12 2)
    (∀ t, lockHeld (calls t).prog = true) ∧ c.done = [1, 0, 2] ∧ c.shared.items.size = 3 ∧
      returned c = [some (some 0), none, some (some 1)] := by
  refine ⟨?_, by decide +kernel, by decide +kernel, by decide +kernel⟩
  intro t
  by_cases h : t = 0 <;> simp [h] <;> decide

/-- **nextAndPush_serializable**: for the regenerated `NextAndPush`: under every schedule of every number of concurrent
callers the returned hosts, in the order the callers left the critical section, are the picks of the sequential
scheduler `HSched.run` (hence of the list scheduler the bound is proved about), nothing is served twice or lost, and
the scheduler is left in the sequential state. -/
theorem nextAndPush_serializable (wf : Nat → Rat) (s0 : HSched) (sched : List Nat) :
    let c := runSched (exec wf) (initConf (napCalls EdfLock.nextAndPush) s0) sched
    (returned c).filterMap (·.join) = (s0.run wf c.done.length).1 ∧
    (returned c).length = c.done.length ∧ (∀ r ∈ returned c, r.isSome) ∧
    (c.holder = none → c.shared = (s0.run wf c.done.length).2) := by
  intro c
  obtain ⟨_, _, h3, h4⟩ := picks_serializable _ edf_lock_discipline.1 wf s0 sched
  obtain ⟨e1, e2⟩ := serial_eq_seqCalls wf c.done s0
  have hr : returned c = (seqCalls s0 wf c.done.length).1.map some := h3.trans e2
  refine ⟨?_, by simp [returned], ?_, ?_⟩
  · rw [hr, List.filterMap_map, ← (seqCalls_run wf _ s0).1]
    rfl
  · intro r h; rw [hr] at h; simp at h; obtain ⟨a, _, rfl⟩ := h; rfl
  · intro h; rw [h4 h, e1, (seqCalls_run wf _ s0).2]

/-- **concurrent_window_bound**: weighted round robin with concurrent callers. For every weight vector, after any number
`b` of earlier picks (warm-up included), for every number of concurrent `NextAndPush` calls under every schedule: the
sequence *earlier picks ++ concurrently served hosts* (in the order the callers left the critical section) satisfies the
lag bound in EVERY window (executable predicate `windowsOk`, which the check evaluates on the real balancer's picks). -/
theorem concurrent_window_bound (ws : List Nat) (b : Nat) (sched : List Nat) :
    let wf := wrrWeight ws
    let s1 := (HSched.initWith wf ws.length).run wf b
    let c := runSched (exec wf) (initConf (napCalls EdfLock.nextAndPush) s1.2) sched
    windowsOk (wrrW ws) ws.length (s1.1 ++ (returned c).filterMap (·.join)) = true := by
  intro wf s1 c
  have hw := wrrW_pos ws
  have hwf := wrrWeight_pos ws
  rw [(nextAndPush_serializable wf s1.2 sched).1, ← hrun_add, heap_scheduler_refines wf hwf]
  exact windowsOk_of_run (wrrW ws) hw ws.length _ _ (ready_initWith wf hwf ws.length)

/-- **concurrent_lag_bound**: the statement's inequality for the window formed by the hosts served to concurrent
callers, from every reachable scheduler state: `nᵢ/wᵢ − nⱼ/wⱼ ≤ 1/wᵢ + 1/wⱼ` (swap `i`, `j` for the absolute value). -/
theorem concurrent_lag_bound (ws : List Nat) (b : Nat) (sched : List Nat) (i j : Nat)
    (hi : i < ws.length) (hj : j < ws.length) :
    let wf := wrrWeight ws
    let s1 := ((HSched.initWith wf ws.length).run wf b).2
    let c := runSched (exec wf) (initConf (napCalls EdfLock.nextAndPush) s1) sched
    let served := (returned c).filterMap (·.join)
    ((served.count i : Nat) : Rat) / wf i - ((served.count j : Nat) : Rat) / wf j ≤ 1 / wf i + 1 / wf j := by
  intro wf s1 c served
  have hwf := wrrWeight_pos ws
  obtain ⟨R, hQ⟩ := init_rel wf ws.length
  obtain ⟨_, Rb, Nb, Qb⟩ := run_refines wf b _ _ R (ready_initWith wf hwf ws.length).1.2 hQ
  have hserved : served = ((((EDF.initWith wf ws.length).run wf (List.replicate b none)).2).run wf
      (List.replicate c.done.length none)).1 := by
    simp only [served]
    rw [(nextAndPush_serializable wf s1 sched).1]
    exact (run_refines wf _ _ _ Rb Nb Qb).1
  rw [hserved]
  exact edf_window_bound ws [] _ _ i j hi hj

/-- three callers on weights 3, 2 running step program `prog` under `sched`. -/
private def conc32 (prog : List EdfLock.Step) (sched : List Nat) : Conf HSched Local :=
  runSched (exec (wrrWeight [3, 2])) (initConf (napCalls prog) (HSched.initWith (wrrWeight [3, 2]) 2)) sched

-- non-vacuity: three overlapping callers on weights 3, 2 (thread 0 is pre-empted inside the critical section, 1 and 2
-- then block on the mutex); the callers leave in the order 0, 2, 1 and are served 0, 1, 0 — the sequential picks
example : (conc32 EdfLock.nextAndPush
      ([0, 0, 0, 1, 2, 1, 2, 0, 0, 0, 1, 2] ++ List.replicate 8 0 ++ List.replicate 12 2 ++ List.replicate 12 1)).done = [0, 2, 1] ∧
    returned (conc32 EdfLock.nextAndPush
      ([0, 0, 0, 1, 2, 1, 2, 0, 0, 0, 1, 2] ++ List.replicate 8 0 ++ List.replicate 12 2 ++ List.replicate 12 1)) =
      [some (some 0), some (some 1), some (some 0)] := by
  decide +kernel

/-- the schedule "three callers each run up to and including the callback, then finish one after the other". -/
private def overlapSched : List Nat :=
  List.replicate 6 0 ++ List.replicate 6 1 ++ List.replicate 6 2 ++ List.replicate 7 0 ++ List.replicate 7 1 ++ List.replicate 7 2

/-- **unlock_around_callback_breaks_bound** (negative witness, machine-checked): the step program that releases `edf.lock`
around the `weightFunc` callback does not hold the lock, and on weights 3, 2 the schedule `overlapSched` serves host 0
to all three callers: every one of them peeked the same root entry (its deadline is advanced three times); all three
calls are complete and the mutex is free. The window 0,0,0 has `3/3 − 0/2 = 1 > 1/3 + 1/2`; sequentially the three
picks are 0,1,0. -/
theorem unlock_around_callback_breaks_bound :
    lockHeld unlockAroundCallback = false ∧
    [0, 1, 2].map (fun t => ((conc32 unlockAroundCallback overlapSched).threads t).loc.result) =
      [some (some 0), some (some 0), some (some 0)] ∧
    [0, 1, 2].map (fun t => ((conc32 unlockAroundCallback overlapSched).threads t).todo) = [[], [], []] ∧
    (conc32 unlockAroundCallback overlapSched).holder = none ∧
    windowsOk (wrrW [3, 2]) 2 [0, 0, 0] = false ∧
    ((HSched.initWith (wrrWeight [3, 2]) 2).run (wrrWeight [3, 2]) 3).1 = [0, 1, 0] :=
  ⟨by decide, by decide +kernel, by decide +kernel, by decide +kernel, by decide, by decide +kernel⟩

end Concurrent

/-! ## weighted round robin when host health CHANGES after the balancer was built

`EdfLoadBalancer.refresh` builds the scheduler once per host-set update; a health flip builds nothing. `Gen/EdfRefresh` is
the regenerated `refresh`: which hosts its `hosts.Range` callback adds (as a function of `host.Health()` at build time),
whether an empty scheduler is dropped, the two early returns. `Model/WrrHealth.lean`: `newStateH ws hp0 rr0 pre` is the
balancer built over configured weights `ws` while the hosts' health is `hp0`; `runEv` runs health flips (`Ev.flip`) and
lookups (`Ev.look`, the C05 model function `LB.wrrChoose` under the health pattern of that moment); a lookup is recorded
(`Rec`) with the health pattern it saw, its scheduler picks and its result; it was *served by the scheduler*
(`Rec.weighted`) iff its last pick was a healthy host; `served recs i` counts the lookups of a window that served `i`
that way (the round-robin fallback after `total` unhealthy picks in a row is the designed degradation and not counted). -/
section HealthChanges
open MosnVerif.Model MosnVerif.Model.EDF MosnVerif.Model.LB MosnVerif.Model.WrrHealth MosnVerif.Gen

/-- **refresh_adds_every_host**: for every weight vector and EVERY build-time health pattern the regenerated `refresh`
leaves the balancer in the state `LB.newState` (scheduler over ALL hosts of the set; none for < 2 hosts or equal
weights): its Range adds host `0, 1, …, n-1`, whatever their health when the balancer is built. -/
theorem refresh_adds_every_host (ws : List Nat) (hp0 : List Bool) (rr0 : Nat) (pre : List (Option Nat)) :
    newStateH ws hp0 rr0 pre = newState .wrr (mkH ws hp0) rr0 pre ∧ addedHosts ws hp0 = List.range ws.length := by
  refine ⟨newStateH_eq_newState ws hp0 rr0 pre, ?_⟩
  unfold addedHosts
  rw [rangeAdd_regenerated, pattern_length]
  exact (ready_initWith _ (wrrWeight_pos ws) _).2.2

/-- **wrr_picks_ignore_health**: for every weight vector with a scheduler (≥ 2 hosts, not all weights equal), every
build-time health pattern and every sequence of health flips and lookups: the scheduler picks made by the lookups
(skipped unhealthy ones and served ones), concatenated, are ONE run of the scheduler over all hosts — health cuts the
run into lookups, it never changes it. -/
theorem wrr_picks_ignore_health (ws : List Nat) (h2 : 2 ≤ ws.length) (hneq : wsEqual ws = false) (hp0 : List Bool)
    (rr0 : Nat) (pre : List (Option Nat)) (evs : List Ev) :
    ∃ H, ((refresh (wrrWeight ws) ws.length pre).run (wrrWeight ws) H).1 =
      allPicks (runEv ws hp0 (newStateH ws hp0 rr0 pre) evs).1 := by
  obtain ⟨⟨H, s', h, _⟩, _⟩ := runEv_isRun ws h2 evs hp0 _ _ (newStateH_sched ws h2 hneq hp0 rr0 pre) (refresh_ok ws pre)
  exact ⟨H, by rw [h]⟩

/-- **wrr_serves_all_healthy**: for every host set with a weighted balancer, every build-time health pattern `hp0`, every
sequence `before` of health flips and lookups after the build, and every window `window` of further flips and lookups:
a host that is healthy at every lookup of the window is served by a weighted pick within the window, as soon as the
window holds `serveWindow ws i = ⌊Σw/wᵢ⌋ + n + 1` lookups — in particular a host that was failing its health check when
the balancer was built and recovers later gets its weighted picks. -/
theorem wrr_serves_all_healthy (ws : List Nat) (h2 : 2 ≤ ws.length) (hneq : wsEqual ws = false) (hp0 : List Bool)
    (rr0 : Nat) (pre : List (Option Nat)) (before window : List Ev) (i : Nat) (hi : i < ws.length) :
    let mid := (runEv ws hp0 (newStateH ws hp0 rr0 pre) before).2
    let recs := (runEv ws mid.1 mid.2 window).1
    (∀ r ∈ recs, r.healthyAt i = true) → serveWindow ws i ≤ recs.length →
      ∃ r ∈ recs, r.weighted = true ∧ r.result = some i := by
  intro mid recs hh hw
  have he : expectSched ws = true := (expectSched_iff ws).mpr ⟨h2, hneq⟩
  obtain ⟨s1, ok1, run2⟩ := runEv_window ws h2 hneq hp0 rr0 pre before window
  have hpos := isRun_serves ws he s1 ok1 recs run2 i hi (by simpa [healthyThroughout] using hh) hw
  unfold served at hpos
  obtain ⟨r, hr, hp⟩ := List.countP_pos_iff.mp hpos
  simp only [Bool.and_eq_true, beq_iff_eq] at hp
  exact ⟨r, hr, hp.1, hp.2⟩

/-- **wrr_health_window_bound**: same quantification; for two hosts `i`, `j` that are healthy at every lookup of the
window, the numbers of lookups of the window that served them (by weighted picks) satisfy
`nᵢ/wᵢ − nⱼ/wⱼ ≤ 1/wᵢ + 1/wⱼ` for the effective weights (swap `i`, `j` for the absolute value) — from every reachable
scheduler state, whatever the other hosts' health does meanwhile. -/
theorem wrr_health_window_bound (ws : List Nat) (h2 : 2 ≤ ws.length) (hneq : wsEqual ws = false) (hp0 : List Bool)
    (rr0 : Nat) (pre : List (Option Nat)) (before window : List Ev) (i j : Nat) (hi : i < ws.length) (hj : j < ws.length) :
    let mid := (runEv ws hp0 (newStateH ws hp0 rr0 pre) before).2
    let recs := (runEv ws mid.1 mid.2 window).1
    (∀ r ∈ recs, r.healthyAt i = true ∧ r.healthyAt j = true) →
      ((served recs i : Nat) : Rat) / wrrWeight ws i - ((served recs j : Nat) : Rat) / wrrWeight ws j
        ≤ 1 / wrrWeight ws i + 1 / wrrWeight ws j := by
  intro mid recs hh
  obtain ⟨s1, ok1, run2⟩ := runEv_window ws h2 hneq hp0 rr0 pre before window
  exact isRun_pair_rat ws s1 ok1 recs run2 i j hi hj
    (by simpa [healthyThroughout] using fun r hr => (hh r hr).1)
    (by simpa [healthyThroughout] using fun r hr => (hh r hr).2)

/-- **wrr_health_lookup_good** (C05 under health changes): every lookup of every sequence of health flips and lookups
after the build returns a member of the host set, a healthy one when some host is healthy at that moment, and no host
only when none is — for every weight vector and build-time health pattern. -/
theorem wrr_health_lookup_good (ws : List Nat) (hp0 : List Bool) (rr0 : Nat) (pre : List (Option Nat)) (evs : List Ev) :
    ∀ r ∈ (runEv ws hp0 (newStateH ws hp0 rr0 pre) evs).1, specChoice (mkH ws r.health) r.result = true := by
  intro r hr
  have h := specH_model ws hp0 rr0 pre [] evs
  simp only [runEv] at h
  unfold specH at h
  simp only [Bool.and_eq_true, List.all_eq_true] at h
  exact lookupOk_specChoice (h.1 r hr)

/-- **wrr_health_spec_holds_on_model**: the executable predicate the check evaluates on the real balancer's lookups
(`specH`: per lookup — picks are skipped only while unhealthy, a healthy pick is returned, the fallback only after
`total` unhealthy picks and then a healthy host if there is one; per window of consecutive lookups, every start and
length — the lag bound for all pairs of hosts healthy throughout, and service within `serveWindow`) holds of every
model run, from every reachable state. -/
theorem wrr_health_spec_holds_on_model (ws : List Nat) (hp0 : List Bool) (rr0 : Nat) (pre : List (Option Nat))
    (before window : List Ev) :
    specH ws (runEv ws (runEv ws hp0 (newStateH ws hp0 rr0 pre) before).2.1
      (runEv ws hp0 (newStateH ws hp0 rr0 pre) before).2.2 window).1 = true :=
  specH_model ws hp0 rr0 pre before window

/-- weights 3, 2, 1; host 1 is unhealthy while the balancer is built and recovers before the first lookup. -/
private def recovering (step : Bool → Bool × Bool) (drops : Bool) : List Rec :=
  (runEv [3, 2, 1] [true, false, true] (newStateWith step drops [3, 2, 1] [true, false, true] 0 [])
    (Ev.flip 1 true :: List.replicate 12 (Ev.look []))).1

-- non-vacuity: with the regenerated `refresh` the recovered host 1 is served (4 of 12 lookups), host 0 six times
example : ((recovering EdfRefresh.rangeStep EdfRefresh.dropsEmpty).map (·.result) ==
      [some 0, some 1, some 0, some 2, some 1, some 0, some 0, some 1, some 0, some 2, some 1, some 0]) = true ∧
    (recovering EdfRefresh.rangeStep EdfRefresh.dropsEmpty).all (fun r => r.healthyAt 1 && r.healthyAt 0) = true ∧
    (serveWindow [3, 2, 1] 1 == 7) = true := by
  decide +kernel

/-- **filtered_refresh_starves** (negative witness, machine-checked): a `refresh` whose Range adds only the hosts that
are healthy WHEN THE BALANCER IS BUILT (`fun healthy => (healthy, true)`, scheduler dropped when empty): host 1
(weight 2), unhealthy at build time and healthy at every one of the 12 following lookups, is never picked — the
scheduler holds hosts 0 and 2 only — and the executable predicate rejects the run (window bound between hosts 0 and 1,
and no service within `serveWindow = 7` lookups); with NO host healthy at build time no scheduler exists and no lookup
makes a weighted pick at all. -/
theorem filtered_refresh_starves :
    (recovering (fun healthy => (healthy, true)) true).all (fun r => r.result != some 1 && r.healthyAt 1) = true ∧
    served (recovering (fun healthy => (healthy, true)) true) 0 = 9 ∧
    specH [3, 2, 1] (recovering (fun healthy => (healthy, true)) true) = false ∧
    specH [3, 2, 1] (recovering EdfRefresh.rangeStep EdfRefresh.dropsEmpty) = true ∧
    specH [3, 2] ((runEv [3, 2] [false, false] (newStateWith (fun healthy => (healthy, true)) true [3, 2] [false, false] 0 [])
      [Ev.flip 0 true, Ev.flip 1 true, Ev.look [], Ev.look []]).1) = false := by
  decide +kernel

end HealthChanges

/-! ## concurrent requests on ONE weighted route: the shared random generator

`RouteRuleImplBase.ClusterName` draws from one `math/rand.Rand` per rule (not safe for concurrent use) inside `rri.lock`.
`Gen/WcLock` is the regenerated lock structure of `ClusterName` and of every other shared generator / cursor of the
weighted-selection family; `Model/WcLock` runs any number of requests under every schedule, a draw being TWO atomic steps
(read the generator state; write it back and hand out the output). -/
section SharedGenerator
open MosnVerif.Gen MosnVerif.Gen.WcLock MosnVerif.Model.WcLock MosnVerif.Lemmas.WcLock

/-- **rng_lock_discipline** (regenerated fact): in `ClusterName` and in every mutex-protected site of the family
(`random` balancer, round-robin factory, least-active and peak-EWMA fallbacks) every use of the shared generator — lazy
creation, a method call, a copy of the pointer, a call through a copy — lies between `Lock()` and the matching `Unlock()`, and
the pointer does not escape (`disciplinedCreated`: the sites whose generator is created by the constructor have no lazy
creation to protect); the round-robin cursor is only accessed by `sync/atomic` read-modify-write operations; the
unlocked draw of `EdfLoadBalancer.refresh` is reachable from the constructor only. -/
theorem rng_lock_discipline :
    disciplined WcLock.clusterName = true ∧ (∀ p ∈ WcLock.lockSites, disciplinedCreated p = true) ∧
    (∀ p ∈ WcLock.atomicSites, atomicOnly p = true) ∧ WcLock.refreshOnlyFromConstructor = true := by
  decide

/-- **draws_are_a_permutation_of_stream**: requests `t = 0, 1, …` (any number) run ANY disciplined step programs (each its
own: `safe false created0` = `disciplined` when the generator is created lazily, `disciplinedCreated` when it exists from the
start); after EVERY schedule (complete or not) the outputs handed out so far, in
hand-out order, are exactly the first outputs of the generator's stream — each output used exactly once, none lost, none
handed to two requests — and the generator's state is the number of outputs handed out. -/
theorem draws_are_a_permutation_of_stream (stream : Nat → Nat) (progs : Nat → List Step) (created0 : Bool)
    (hd : ∀ t, safe false created0 (progs t) = true) (sched : List Nat) :
    let c := runSched stream (initConf progs created0) sched
    handed c = prefixOf stream c.log.length ∧ c.pos = c.log.length := by
  have h := inv_run stream sched _ (inv_init stream progs created0 hd)
  exact ⟨h.stream_eq, h.pos_eq⟩

/-- the instance for the regenerated `ClusterName`: any number of concurrent requests on one weighted route. -/
theorem clusterName_draws_follow_stream (stream : Nat → Nat) (created0 : Bool) (sched : List Nat) :
    let c := runSched stream (initConf (fun _ => WcLock.clusterName) created0) sched
    handed c = prefixOf stream c.log.length ∧ c.pos = c.log.length :=
  draws_are_a_permutation_of_stream stream _ created0 (fun _ => disciplined_safe _ _ rng_lock_discipline.1) sched

/-- **concurrent_weights_exact**: hence the exact proportions survive concurrency. Whatever the schedule of the concurrent
requests on a weighted route, the number of handed-out draws that select cluster `n` is the number of stream outputs that do;
over a full period of a generator that enumerates `[0, total)` (`stream i = i`, `total l` draws handed out) every cluster with
weight `w` is selected exactly `w` times. -/
theorem concurrent_weights_exact (l : List Entry) (hnd : (l.map (·.1)).Nodup) (n : String) (w : Nat) (hn : (n, w) ∈ l)
    (progs : Nat → List Step) (created0 : Bool) (hd : ∀ t, safe false created0 (progs t) = true) (sched : List Nat)
    (hfull : (runSched id (initConf progs created0) sched).log.length = total l) :
    ((handed (runSched id (initConf progs created0) sched)).filter (fun v => select l v == some n)).length = w := by
  have h := (draws_are_a_permutation_of_stream id progs created0 hd sched).1
  rw [h, hfull]
  have : prefixOf id (total l) = List.range (total l) := by simp [prefixOf]
  rw [this]
  exact count_exact l hnd n w hn

example : disciplined [Step.other, .lock, .initRng, .draw, .unlock, .other] = true := by decide
example : (runSched id (initConf (fun _ => WcLock.clusterName) false) [0, 0, 1, 1, 0, 0, 1, 0, 0, 1, 1, 1, 1, 1, 1, 0]).log =
    [(0, 0), (1, 1)] := by decide

/-- **draw_after_unlock_duplicates_and_loses** (negative witness, machine-checked): the shape "copy `rri.randInstance` under
the lock, call `Intn` on the copy after `Unlock()`" is not disciplined, and with two requests the schedule below lets both read
the generator state before either writes it back: both are handed output 0 of the stream, output 1 is never handed out, and
after two draws the generator has advanced by one — `handed` is not the stream prefix. Both requests are complete and the
mutex is free. -/
theorem draw_after_unlock_duplicates_and_loses :
    disciplined drawAfterUnlock = false ∧
    (let c := runSched id (initConf (fun _ => drawAfterUnlock) false) [0, 0, 0, 0, 0, 1, 1, 1, 1, 1, 0, 1, 0, 1, 0, 1]
     handed c = [0, 0] ∧ prefixOf id 2 = [0, 1] ∧ c.pos = 1 ∧ c.holder = none ∧
     [0, 1].map (fun t => ((c.threads t).todo, (c.threads t).got)) = [([], [0]), ([], [0])]) := by
  decide

end SharedGenerator

end MosnVerif.Props.C06
