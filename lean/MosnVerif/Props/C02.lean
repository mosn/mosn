import MosnVerif.Lemmas.StreamTable
import MosnVerif.Lemmas.Correlate
import MosnVerif.Model.StreamTableSpec
import MosnVerif.Lemmas.DispatchCtx
import MosnVerif.Model.DispatchCtxSpec
import MosnVerif.Lemmas.BufReuse
import MosnVerif.Lemmas.HpackOrder
import MosnVerif.Lemmas.StreamGen
import MosnVerif.Lemmas.StreamGenPool
import MosnVerif.Lemmas.H2ClientTable
import MosnVerif.Lemmas.ProxyGen
/-!
# C02 — request/response correlation on an xprotocol client stream connection (property theorems only)

About `Model/StreamTable.lean`: the per-connection id counter and table `clientStreams` of `streamConn`
(`pkg/stream/xprotocol/conn.go`), with the regenerated id generators of all five xprotocols (`Gen/StreamIds.lean`).
Every theorem quantifies over every protocol, every start value of the counter, EVERY list of operations
{new stream, one-way stream, reply frame with any request id in any order (duplicates, unknown ids, late replies),
stream reset, connection reset} and the stream objects involved.
-/
namespace MosnVerif.Props.C02
open MosnVerif.Model.StreamTable MosnVerif.Gen.StreamIds

def reach (p : Proto) (base : Int) (ops : List Op) : Conn := run (init p base) ops

/-- **refinement**: the association list behaves as a finite map — an insert / a delete is function update on
`lookup` … -/
theorem table_refines_map (t : Table) (k k' : Int) (v : Nat) :
    lookup (insert t k v) k' = (if k' = k then some v else lookup t k') ∧
    lookup (erase t k) k' = (if k' = k then none else lookup t k') :=
  ⟨lookup_insert t k v k', lookup_erase t k k'⟩

/-- … and along every run it never holds two entries for one id. -/
theorem table_keys_distinct (p : Proto) (base : Int) (ops : List Op) :
    ((reach p base ops).table.map (·.1)).Nodup := (tinv_run _ (tinv_init p base) ops).keys

/-- **at most one delivery, and only the own id**: whatever the order of replies, duplicates, resets and connection
resets, a stream object is handed at most one response, and that response carries the request id the stream was
created with. -/
theorem delivery_once_and_own (p : Proto) (base : Int) (ops : List Op) (w : Nat) :
    let s := reach p base ops
    w < s.nW → (s.waiter w).got.length ≤ 1 ∧ ∀ g, g ∈ (s.waiter w).got → g.1 = (s.waiter w).id := by
  intro s hw
  exact (tinv_run _ (tinv_init p base) ops).got w hw

/-- **unknown ids deliver nothing**: a reply whose id is not in the table leaves the whole state untouched. -/
theorem unknown_dropped (s : Conn) (id : Int) (tok : Nat) (h : lookup s.table id = none) :
    step s (.reply id tok) = s := by
  simp [step, h]

/-- **duplicates deliver nothing**: right after a reply with id `id` was processed (delivered or not), the id is not
in the table, so a second reply with the same id is dropped. -/
theorem duplicate_dropped (s : Conn) (id : Int) (tok tok' : Nat) :
    step (step s (.reply id tok)) (.reply id tok') = step s (.reply id tok) := by
  apply unknown_dropped
  simp only [step]
  cases hl : lookup s.table id with
  | none => exact hl
  | some w => exact lookup_erase_self s.table id

/-- **late reply after a reset**: once a stream that was not hit by a connection reset is reset (timeout, downstream
reset), its id is gone from the table: a late reply for it is dropped. -/
theorem late_reply_after_reset_dropped (s : Conn) (w : Nat) (tok : Nat) (hw : w < s.nW)
    (hcr : (s.waiter w).connReset = false) :
    step (step s (.resetStream w)) (.reply (s.waiter w).id tok) = step s (.resetStream w) :=
  unknown_dropped _ _ tok (lookup_after_reset s w hw hcr)

/-- **ids_distinct**: along any run (the counter is only moved by allocations), two stream objects created fewer
than one generator period apart (2^32 for bolt / boltv2 / tars, 2^64 for dubbo / dubbo-thrift) carry different ids.
The hypothesis is explicit because the code has no collision check. -/
theorem ids_distinct (p : Proto) (base : Int) (ops : List Op) (hops : ∀ op, op ∈ ops → op.isSetBase = false)
    (v w : Nat) :
    let s := reach p base ops
    v < w → w < s.nW → w - v < period p → (s.waiter v).id ≠ (s.waiter w).id := by
  intro s hvw hw hper
  have hi : IdInv s p (u64 base) :=
    idinv_run _ p (u64 base) ⟨rfl, rfl, fun w hw => by simp [init] at hw⟩ ops hops
  rw [hi.ids v (by omega), hi.ids w hw]
  exact idAt_distinct p (u64 base) (u64_range base) v w hvw hper

/-- the limitation on record: exactly one period later the generator hands out the same id again … -/
theorem wrap_collision (p : Proto) (base : Int) (n : Nat) :
    idAt p (u64 base) (n + period p) = idAt p (u64 base) n := idAt_wrap p (u64 base) (u64_range base) n

/-- … and if the older stream is still waiting, the table entry is overwritten: the reply to the older request
is delivered to the newer stream (reachable in the model: the negation of correlation without the hypothesis). -/
theorem collision_misdelivers (s : Conn) (v : Nat) (hv : v < s.nW)
    (_hold : lookup s.table (gen s.proto s.base).2 = some v) :
    lookup (step s (.newStream false)).table (gen s.proto s.base).2 = some s.nW ∧ s.nW ≠ v := by
  refine ⟨?_, by omega⟩
  rw [step_newStream]
  have : registers (!false) = true := by decide +kernel
  simp only [this, if_true]
  show lookup (insert s.table _ s.nW) _ = some s.nW
  rw [lookup_insert]; simp

/-- **correlation**: if fewer than one generator period of stream objects were created on the connection, a stream
that holds a response holds the one produced for it: whenever the request id of the delivered frame is the id of
stream `w`, the receiving stream IS `w`. Nobody receives someone else's answer. -/
theorem correlation (p : Proto) (base : Int) (ops : List Op) (hops : ∀ op, op ∈ ops → op.isSetBase = false)
    (v w : Nat) (g : Int × Nat) :
    let s := reach p base ops
    s.nW ≤ period p → v < s.nW → w < s.nW → g ∈ (s.waiter v).got → g.1 = (s.waiter w).id → v = w := by
  intro s hn hv hw hg hgw
  have hown := (delivery_once_and_own p base ops v hv).2 g hg
  have heq : (s.waiter v).id = (s.waiter w).id := by rw [← hown, hgw]
  rcases Nat.lt_trichotomy v w with h | h | h
  · exact absurd heq (ids_distinct p base ops hops v w h hw (by omega))
  · exact h
  · exact absurd heq.symm (ids_distinct p base ops hops w v h hv (by omega))

/-- **ping-pong**: when a new stream is only opened while nothing is registered on the connection (what the
ping-pong pool guarantees: exclusive leases and no reuse after an abandoned exchange — C09 `exclusive`,
`clean_reuse`), at every point at most the latest stream is registered: any response that is delivered goes to the
most recent request — the k-th response answers the k-th request. -/
theorem pingpong_fifo (p : Proto) (base : Int) (ops : List Op) (hex : Exclusive (init p base) ops) (id : Int) (w : Nat) :
    let s := reach p base ops
    lookup s.table id = some w → w = s.nW - 1 := by
  intro s hl
  have hpp : OnlyLatest s := onlyLatest_run _ (Or.inl rfl) ops hex
  rcases hpp with h | ⟨k, hk, _⟩
  · rw [h] at hl; simp [lookup_nil] at hl
  · rw [hk, lookup_cons] at hl
    by_cases hki : k = id
    · simp [hki] at hl; exact hl.symm
    · simp [hki, lookup_nil] at hl

/-- the executable per-observation predicate holds of every model state. -/
theorem spec_holds_on_model (p : Proto) (base : Int) (ops : List Op) :
    obsSpecC (obsOf (reach p base ops)) = true := by
  have h : TInv (reach p base ops) := tinv_run _ (tinv_init p base) ops
  generalize reach p base ops = s at h
  unfold obsSpecC
  simp only [Bool.and_eq_true, List.all_eq_true, decide_eq_true_eq, List.any_eq_true, beq_iff_eq]
  refine ⟨⟨?_, h.keys⟩, ?_⟩
  · intro ow how
    simp only [obsOf, List.mem_map, List.mem_range] at how
    obtain ⟨w, hw, rfl⟩ := how
    exact h.got w hw
  · intro k hk
    simp only [obsOf, List.mem_map] at hk
    obtain ⟨e, he, rfl⟩ := hk
    have ⟨h1, h2, h3⟩ := h.entry e he
    refine ⟨{ id := (s.waiter e.2).id, got := (s.waiter e.2).got, resets := (s.waiter e.2).resets }, ?_, ?_⟩
    · simp only [obsOf, List.mem_map, List.mem_range]; exact ⟨e.2, h1, rfl⟩
    · simp [h2, h3]

/-! ### non-vacuity -/
-- replies in reverse order, a duplicate and an unknown id: each stream gets exactly its own reply
example : let s := reach .bolt 0 [.newStream false, .newStream false, .reply 2 10, .reply 2 11, .reply 99 12, .reply 1 13]
    (s.waiter 0).got = [(1, 13)] ∧ (s.waiter 1).got = [(2, 10)] ∧ s.table = [] := by decide +kernel
-- crossing the uint32 wrap: ids 4294967295, 0, 1
example : let s := reach .bolt 4294967294 [.newStream false, .newStream false, .newStream false]
    (s.waiter 0).id = 4294967295 ∧ (s.waiter 1).id = 0 ∧ (s.waiter 2).id = 1 := by decide +kernel
-- tars: sign-extended int32
example : (gen .tars 2147483647).2 = 18446744071562067968 := by decide +kernel
-- an Exclusive (ping-pong) history
example : Exclusive (init .bolt 0) [.newStream false, .reply 1 0, .newStream false, .resetStream 1, .newStream false] :=
  exclusive_of_B _ _ (by decide)

/-! ## end to end: downstream connection → proxy → upstream connection and back (`Model/Correlate.lean`)

N exchanges share one downstream and one upstream connection. Every theorem quantifies over every protocol's id
generator, every start value of the upstream counter and EVERY list of events {request decoded (any client id, any
token), forward (first try or retry), upstream reply frame with any id and payload in any order, try given up for a
retry, local error reply before or after the request was forwarded (timeouts, retries used up, resets, no host),
upstream connection reset}. Where the request id of a written frame comes from is regenerated (`Gen/StreamRestore`). -/
section EndToEnd
open MosnVerif.Model.Correlate hiding step run init
open MosnVerif.Gen.StreamRestore

def reachE (p : Proto) (base : Int) (evs : List Ev) : Sys := Model.Correlate.run (Model.Correlate.init p base) evs

/-- **id restoration** (about the regenerated placement of `SetRequestId`): whatever frame an xprotocol stream is handed
— a response decoded from the upstream, the request frame object for a local (hijack) reply, the request frame to be
forwarded — and whatever request id that frame currently carries (the request frame object carries the UPSTREAM id
once it has been forwarded), the frame the stream writes carries the stream's own id. -/
theorem id_restoration (direction sid streamType frameId : Int) (withData : Bool) :
    writtenId direction sid streamType frameId withData = sid := written_restores direction sid streamType frameId withData

/-- **end_to_end_correlation**: every frame written on the downstream connection was written for an exchange `k` of
that connection, carries exactly the request id the client used for `k`, and when it has a payload `t`, then `t` is what
the upstream stream object `w` received in the (one) reply frame carrying `w`'s own id, where `w` is a stream object
opened for exchange `k` and the request frame that went out under that id carried `k`'s token: the payload is the
upstream's reply to the request derived from `k`. Error replies carry no payload (`via = none`). -/
theorem end_to_end_correlation (p : Proto) (base : Int) (evs : List Ev) (f : DFrame) :
    let s := reachE p base evs
    f ∈ s.down →
      f.ex < s.nE ∧ f.id = (s.ex f.ex).did ∧ f.pay ≠ .mixed ∧
      ∀ t, f.pay = .ok t → ∃ w, f.via = some w ∧ w < s.up.nW ∧ s.owner w = f.ex ∧
        (s.up.waiter w).got = [((s.up.waiter w).id, t)] ∧
        s.wire[w]? = some ((s.up.waiter w).id, (s.ex f.ex).tok) := by
  intro s hf
  have h : Inv s p (u64 base) := inv_run (inv_init p base) evs
  have ⟨a, b, _, d, e⟩ := h.frames f hf
  refine ⟨a, b, d, ?_⟩
  intro t ht
  obtain ⟨w, w1, w2, w3, w4⟩ := e t ht
  exact ⟨w, w1, w2, w3, w4, by rw [← w3]; exact h.wire w w2⟩

/-- **each exchange gets at most one reply** (answer or error, never both, never twice) -/
theorem at_most_one_reply (p : Proto) (base : Int) (evs : List Ev) (k : Nat) :
    ((reachE p base evs).down.filter (fun f => f.ex == k)).length ≤ 1 := by
  have h : Inv (reachE p base evs) p (u64 base) := inv_run (inv_init p base) evs
  have := List.nodup_iff_count.mp h.exNodup k
  rwa [List.count_eq_length_filter, List.filter_map, List.length_map] at this

/-- **fresh upstream ids**: the w-th request frame written on the upstream connection carries the id of the w-th
allocation of the connection's generator (never the client's id) and the token of the exchange it was opened for … -/
theorem upstream_fresh_ids (p : Proto) (base : Int) (evs : List Ev) (w : Nat) :
    let s := reachE p base evs
    w < s.up.nW → s.wire[w]? = some (idAt p (u64 base) w, (s.ex (s.owner w)).tok) ∧ s.owner w < s.nE := by
  intro s hw
  have h : Inv s p (u64 base) := inv_run (inv_init p base) evs
  exact ⟨by rw [← h.idinv.ids w hw]; exact h.wire w hw, h.ownLt w hw⟩

/-- … so two requests in flight upstream never share an id below one generator period -/
theorem upstream_ids_distinct (p : Proto) (base : Int) (v w : Nat) (hvw : v < w) (hper : w - v < period p) :
    idAt p (u64 base) v ≠ idAt p (u64 base) w := idAt_distinct p (u64 base) (u64_range base) v w hvw hper

/-- **stale_reply_dropped**: once the try in flight of exchange `k` was ended locally — by a timeout / reset error reply
(`fail`) or given up for a retry (`abandon`) — a late upstream reply carrying the id of that try changes NOTHING: no
frame downstream, no state. (A stream reset by a connection reset stays in the table, as in the code; a reply for it is
handed to a listener that ignores it — `at_most_one_reply` covers that case.) -/
theorem stale_reply_dropped (s : Sys) (k w : Nat) (hk : k < s.nE) (hd : (s.ex k).done = false)
    (hc : (s.ex k).cur = some w) (hw : w < s.up.nW) (hcr : (s.up.waiter w).connReset = false) (tok : Nat) (body : Bool) :
    Model.Correlate.step (Model.Correlate.step s (.fail k)) (.reply (s.up.waiter w).id tok body) = Model.Correlate.step s (.fail k) ∧
    Model.Correlate.step (Model.Correlate.step s (.abandon k)) (.reply (s.up.waiter w).id tok body) =
      Model.Correlate.step s (.abandon k) := by
  have hl := lookup_after_reset s.up w hw hcr
  -- either event resets the upstream stream of the try in flight, which takes its id out of the table
  have key : ∀ e, (Model.Correlate.step s e).up = Model.StreamTable.step s.up (.resetStream w) →
      Model.Correlate.step (Model.Correlate.step s e) (.reply (s.up.waiter w).id tok body) = Model.Correlate.step s e := by
    intro e h1
    have h2 : lookup (Model.Correlate.step s e).up.table (responseKey (s.up.waiter w).id) = none := by
      rw [h1, responseKey_eq]; exact hl
    generalize Model.Correlate.step s e = s' at h2
    simp [Model.Correlate.step, h2]
  exact ⟨key _ (by simp [Model.Correlate.step, hk, hd, hc]), key _ (by simp [Model.Correlate.step, hk, hd, hc])⟩

/-- **nobody receives someone else's answer**: when the client's request ids are pairwise distinct (its own
obligation), a frame carrying the id of exchange `k` WAS written for `k` … -/
theorem client_attribution (p : Proto) (base : Int) (evs : List Ev) (f : DFrame) (k : Nat) :
    let s := reachE p base evs
    (∀ i j, i < s.nE → j < s.nE → (s.ex i).did = (s.ex j).did → i = j) →
    f ∈ s.down → k < s.nE → f.id = (s.ex k).did → f.ex = k := by
  intro s hinj hf hk hid
  have h : Inv s p (u64 base) := inv_run (inv_init p base) evs
  have ⟨a, b, _⟩ := h.frames f hf
  exact hinj _ _ a hk (by rw [← b, hid])

/-- … and no request id is answered twice on the downstream connection. -/
theorem reply_ids_distinct (p : Proto) (base : Int) (evs : List Ev) :
    let s := reachE p base evs
    (∀ i j, i < s.nE → j < s.nE → (s.ex i).did = (s.ex j).did → i = j) → ((framesOf s).map (·.1)).Nodup := by
  intro s hinj
  have h : Inv s p (u64 base) := inv_run (inv_init p base) evs
  have hn := h.exNodup
  unfold framesOf
  rw [List.map_map]
  unfold List.Nodup at hn ⊢
  rw [List.pairwise_map] at hn ⊢
  refine List.Pairwise.imp_of_mem ?_ hn
  intro a b ha hb hab heq
  apply hab
  have ⟨a1, a2, _⟩ := h.frames a ha
  have ⟨b1, b2, _⟩ := h.frames b hb
  simp only [Function.comp] at heq
  exact hinj _ _ a1 b1 (by rw [← a2, ← b2, heq])

/-- the executable end-to-end predicate (what the harness evaluates on the frames the real client received) holds of
everything the model can produce, for clients with pairwise distinct ids and upstreams that answer what they were asked -/
theorem e2e_spec_holds_on_model (p : Proto) (base : Int) (evs : List Ev) (hh : Honest (Model.Correlate.init p base) evs) :
    let s := reachE p base evs
    (∀ i j, i < s.nE → j < s.nE → (s.ex i).did = (s.ex j).did → i = j) → specE2E (reqsOf s) (framesOf s) = true := by
  intro s hinj
  have h : Inv s p (u64 base) := inv_run (inv_init p base) evs
  unfold specE2E
  simp only [Bool.and_eq_true, List.all_eq_true, List.any_eq_true, decide_eq_true_eq]
  refine ⟨?_, reply_ids_distinct p base evs hinj⟩
  intro x hx
  simp only [framesOf, List.mem_map] at hx
  obtain ⟨f, hf, rfl⟩ := hx
  have ⟨a, b, _, d, _⟩ := h.frames f hf
  refine ⟨((s.ex f.ex).did, (s.ex f.ex).tok), ?_, ?_⟩
  · simp only [reqsOf, List.mem_map, List.mem_range]; exact ⟨f.ex, a, rfl⟩
  · simp only [answers, Bool.and_eq_true, beq_iff_eq]
    refine ⟨b.symm, ?_⟩
    cases hp : f.pay with
    | ok t => simp; exact token_echo p base evs hh f t hf hp
    | err => rfl
    | mixed => exact absurd hp d

/-! ### non-vacuity (end to end) -/
-- three exchanges with client ids 7, 8, 9 on an upstream connection whose counter stands at 6 (upstream ids 7, 8, 9
-- in forwarding order 2, 0, 1): replies in a third order, exchange 1 times out and its late reply is dropped
def exRun : List Ev := [.request 7 100 true, .request 8 101 true, .request 9 102 true,
  .forward 2, .forward 0, .forward 1, .reply 8 100 true, .fail 1, .reply 9 101 true, .reply 7 102 true, .reply 7 102 true]
example : framesOf (reachE .bolt 6 exRun) = [(7, .ok 100), (8, .err), (9, .ok 102)] ∧
    (reachE .bolt 6 exRun).wire = [(7, 102), (8, 100), (9, 101)] := by decide +kernel
example : honestB (Model.Correlate.init .bolt 6) exRun = true ∧ specE2E (reqsOf (reachE .bolt 6 exRun)) (framesOf (reachE .bolt 6 exRun)) = true := by
  decide +kernel
-- a retry: the first try is given up, the retry gets a fresh id, the late answer to the first try is dropped
example : framesOf (reachE .bolt 0 [.request 50 1 true, .forward 0, .abandon 0, .forward 0, .reply 1 1 true, .reply 2 1 true]) = [(50, .ok 1)] ∧
    (reachE .bolt 0 [.request 50 1 true, .forward 0, .abandon 0, .forward 0, .reply 1 1 true, .reply 2 1 true]).wire = [(1, 1), (2, 1)] := by decide +kernel
-- the hypotheses of stale_reply_dropped are satisfiable
example : let s := reachE .bolt 0 [.request 50 1 true, .forward 0]
    0 < s.nE ∧ (s.ex 0).done = false ∧ (s.ex 0).cur = some 0 ∧ 0 < s.up.nW ∧ (s.up.waiter 0).connReset = false := by decide +kernel
-- what the seeded change does: a hijack reply that takes its id from the request frame object instead of the stream
-- carries the UPSTREAM id once the request was forwarded (id operations `[copyRequestId]` instead of `[setStreamId]`)
example : applyOps false 7 9 0 [.copyRequestId] = 9 ∧ applyOps false 7 9 0 [.setStreamId] = 7 := by decide +kernel

end EndToEnd

/-! ## per-frame isolation on the server stream connection (`streamConn.Dispatch`, Model/DispatchCtx.lean)

A request is handed to its receiver together with the stream-level context it was decoded with; the receiver (the
proxy's worker) reads frame, stream and context AFTER `Dispatch` has gone on.  `genShape` is the call structure of the
loop as regenerated from conn.go on this run (is `ctxManager.Get()` a statement of the loop? behind which stream types
is `ctxManager.Next()` reached?). -/
section DispatchContext
open MosnVerif.Model.DispatchCtx

/-- the regenerated loop fetches the context inside the loop and calls `Next` behind request, one-way and response
frames alike (this is the statement that stops checking when the loop is restructured) -/
theorem dispatch_shape_per_frame : genShape.perFrame := by decide +kernel

/-- **frame_context_isolated**: for EVERY chunking (list of `Dispatch` calls, any number of frames per call) and every
frame sequence (requests, one-ways, responses, heartbeats; any ids and tokens, equal ones included), whether or not the
codec pools its frame objects in the context: every receiver reads back exactly the id, headers/body token, stream id
and raw bytes of ITS OWN frame; no context is used by two frames; no context is held by two receivers (none is
released twice). -/
theorem frame_context_isolated (pf : Bool) (calls : List (List Frame)) :
    Isolated genShape pf (run genShape pf calls) :=
  isolated_of_inv (inv_run dispatch_shape_per_frame pf calls)

/-- no message mixes exchanges, at every moment: what the receivers hold after ANY prefix of the reads is the list of
their own frames (the delivered requests are exactly the request / one-way frames, each once, in order) -/
theorem receivers_see_own_frames (pf : Bool) (calls : List (List Frame)) :
    views genShape pf (run genShape pf calls) = (calls.flatten.filter (·.kind.delivers)).map own :=
  views_eq dispatch_shape_per_frame pf calls

/-- the executable predicate of the `ctx` cases holds of the model's output (snapshots after each call, at the end,
context classes, heartbeat acknowledgements) -/
theorem ctx_spec_holds_on_model (pf : Bool) (calls : List (List Frame)) :
    specCtx calls.flatten (runA genShape pf init [] calls).2 (views genShape pf (runA genShape pf init [] calls).1)
      (deliveredClasses (runA genShape pf init [] calls).1) (runA genShape pf init [] calls).1.acks = true :=
  specCtx_on_model dispatch_shape_per_frame pf calls

/-! ### non-vacuity, and what the two seeded restructurings do -/
def q1 : Frame := ⟨.request, 1, 101, 201⟩
def q2 : Frame := ⟨.request, 2, 102, 202⟩
def o3 : Frame := ⟨.oneway, 3, 103, 203⟩
def h4 : Frame := ⟨.heartbeat, 4, 0, 204⟩
def r5 : Frame := ⟨.response, 5, 105, 205⟩
-- three requests, a heartbeat and a response in ONE read: four receivers... each with its own frame
example : views genShape true (run genShape true [[q1, o3, h4, r5, q2]]) = [own q1, own o3, own q2] ∧
    (run genShape true [[q1, o3, h4, r5, q2]]).decoded = [0, 1, 2, 3, 4] ∧ (run genShape true [[q1, o3, h4, r5, q2]]).acks = [4] := by decide +kernel
-- `Get` hoisted out of the loop: one frame per read is fine ...
example : Isolated hoistedShape true (run hoistedShape true [[q1], [q2], [o3]]) := by decide +kernel
-- ... two requests completed by one read share a context: the first receiver finds the second request
example : ¬ Isolated hoistedShape true (run hoistedShape true [[q1, q2]]) := by decide +kernel
example : views hoistedShape true (run hoistedShape true [[q1, q2]]) = [own q2, own q2] := by decide +kernel
-- also for a codec that does not pool its frames: stream id and raw bytes are the neighbour's
example : views hoistedShape false (run hoistedShape false [[q1, q2]]) = [⟨some 1, some 101, some 2, some 2, some 202⟩, own q2] := by decide +kernel
-- `Next` only behind Request frames: requests and responses alone are fine ...
example : Isolated requestOnlyShape true (run requestOnlyShape true [[q1, q2], [q1]]) := by decide +kernel
-- ... a one-way request shares its context with the frame behind it, in one read or in two, and is released twice
example : ¬ Isolated requestOnlyShape true (run requestOnlyShape true [[o3], [q1]]) := by decide +kernel
example : views requestOnlyShape true (run requestOnlyShape true [[o3], [q1]]) = [⟨some 1, some 101, none, some 1, some 201⟩, own q1] ∧
    ((run requestOnlyShape true [[o3], [q1]]).delivered.map (·.ctx)) = [0, 0] := by decide +kernel

end DispatchContext

/-! ## pooled per-request buffers (`httpBufferCtx.Reset`, Model/BufReuse.lean)

`Gen.BufReset` is regenerated from the `Reset` methods of the pooled buffer contexts: the fields of each buffers struct
and what `Reset` clears (the whole struct, a whole field, or only a sub-field such as `.Header`). -/
section BufferReuse
open MosnVerif.Model.BufReuse MosnVerif.Gen.BufReset

/-- every regenerated `Reset` (HTTP/1 stream buffers, xprotocol stream buffers, proxy buffers, bolt / boltv2 codec
buffers) resets EVERY field of its buffers struct as a whole; the HTTP/1 struct has the four messages of the model -/
theorem reset_tables_complete : (all.all fullReset) = true ∧ covers http = true := by decide +kernel

theorem http_fullReset : fullReset http = true := by decide +kernel

/-- **clean_reuse**: for EVERY sequence of exchanges (forwarded or not, with and without request body, upstream answer
with / without body, HEAD, local reply, direct response with / without body), EVERY initial pool of clean objects and
EVERY hand-out order of the pool (`pick` per exchange: any pooled object or a new one), what the client and the
upstream receive for exchange k is what they would receive from a fresh object, and it carries only tokens of
exchange k: planned status, own header tokens, exactly the planned body (none for a body-less answer), and the upstream
sees the request with exactly its own body. -/
theorem clean_reuse (xs : List (Ex × Nat)) (pool : List Obj) (hp : ∀ o ∈ pool, o = Obj.zero) :
    run http pool xs = xs.map (fun x => (serve Obj.zero x.1).2) ∧
    ∀ x ∈ xs, ownOut x.1 (serve Obj.zero x.1).2 = true :=
  ⟨run_zero http_fullReset reset_tables_complete.2 xs pool hp, fun x _ => serve_zero_own x.1⟩

/-- the same for any buffer context whose regenerated table is complete (the statement the other contexts instantiate) -/
theorem clean_reuse_of_complete (c : BufCtx) (hf : fullReset c = true) (hc : covers c = true)
    (xs : List (Ex × Nat)) (pool : List Obj) (hp : ∀ o ∈ pool, o = Obj.zero) :
    ∀ (i : Nat) (o : Out), (run c pool xs)[i]? = some o → ∃ x : Ex × Nat, xs[i]? = some x ∧ ownOut x.1 o = true := by
  intro i o h
  rw [run_zero hf hc xs pool hp, List.getElem?_map] at h
  cases hx : xs[i]? with
  | none => simp [hx] at h
  | some x =>
    simp only [hx, Option.map_some, Option.some.injEq] at h
    exact ⟨x, rfl, h ▸ serve_zero_own x.1⟩

/-- the executable predicate of the `h1b` cases holds of the model's output -/
theorem h1b_spec_holds_on_model (exs : List Ex) :
    ∀ o ∈ (run http [] (exs.map (fun e => (e, 0)))).zip exs, ownOut o.2 o.1 = true := by
  intro o ho
  obtain ⟨i, hi⟩ := List.mem_iff_getElem?.mp ho
  rw [List.getElem?_zip_eq_some] at hi
  obtain ⟨x, hx, hown⟩ := clean_reuse_of_complete http http_fullReset reset_tables_complete.2 _ [] (by intro _ h; cases h) i o.1 hi.1
  rw [List.getElem?_map, hi.2] at hx
  cases hx
  exact hown

/-! ### non-vacuity, and what a partial Reset does -/
def exUp (k : Nat) (body : Bool) : Ex := ⟨k, true, false, false, some body, none, 200⟩
def exNoRoute (k : Nat) : Ex := ⟨k, false, false, false, none, none, 404⟩
def exPost (k : Nat) : Ex := ⟨k, true, false, true, some false, none, 200⟩
/-- the seeded change: only the header of serverResponse is reset -/
def partialHttp : BufCtx := { http with clears := http.clears.map (fun p => if p.1 == "serverResponse" then (p.1, ["Header"]) else p) }
example : fullReset partialHttp = false := by decide +kernel
-- an answer with a body, then a 404 on the recycled object: with the regenerated Reset the 404 has no body ...
example : (run http [] [(exUp 0 true, 0), (exNoRoute 1, 0)]).map (·.respB) = [["r0"], []] := by decide +kernel
-- ... with the partial Reset it carries the body of exchange 0, and so does a later upstream answer without body
example : (run partialHttp [] [(exUp 0 true, 0), (exNoRoute 1, 0), (exUp 2 false, 0)]).map (·.respB) = [["r0"], ["r0"], ["r0"]] := by decide +kernel
example : (run partialHttp [] [(exUp 0 true, 0), (exNoRoute 1, 0)]).map (ownOut (exNoRoute 1)) = [false, false] := by decide +kernel
-- a new object instead of the recycled one hides it: the hand-out order matters once Reset is partial
example : (run partialHttp [] [(exUp 0 true, 0), (exNoRoute 1, 7)]).map (·.respB) = [["r0"], []] := by decide +kernel
-- client side: clientRequest not reset => a later body-less request carries an earlier request's body upstream
def partialClient : BufCtx := { http with clears := http.clears.filter (fun p => p.1 != "clientRequest") }
example : ((run partialClient [] [(exPost 0, 0), (exUp 1 false, 0)]).map (·.up)) =
    [some (["q0"], ["q0"]), some (["q1"], ["q0"])] := by decide +kernel

end BufferReuse

/-! ## HPACK encode / write atomicity on one HTTP/2 connection (Model/HpackOrder.lean)

`Gen.H2WriteLock`: EVERY function of pkg/module/http2/mhttp2.go that uses an HPACK encoder or writes HEADERS /
CONTINUATION frames (found again on each run, placed on the server or the client side by its receiver type), with its
lock / unlock / deferred unlock / HPACK-encode / frame-write actions in source order; and the names of the functions of
the other files of the package that use an encoder. -/
section HpackWriteOrder
open MosnVerif.Model.HpackOrder MosnVerif.Gen.H2WriteLock

/-- closed world of encoder users: outside mhttp2.go only the x/net code MOSN carries along touches an HPACK encoder
(its serve-loop frame writers, `ClientConn.roundTrip` / `writeRequestBody` under `wmu`, and the encode helpers the
M… functions call inside their critical sections); every function of mhttp2.go that does is in `fns`, and each of them
both encodes and writes. A new user anywhere in the package changes one of the two lists. -/
theorem h2_encoder_users :
    stockUsers = ["ClientConn.encodeHeaders", "ClientConn.encodeTrailers", "ClientConn.roundTrip", "ClientConn.writeHeader",
      "clientStream.writeRequestBody", "encKV", "encodeHeaders", "serverConn.processSetting",
      "write100ContinueHeadersFrame.writeFrame", "writePushPromise.writeFrame", "writeResHeaders.writeFrame"] ∧
    fns.map (·.name) = ["MServerConn.writeHeaders", "MClientConn.WriteHeaders", "MClientStream.writeDataAndTrailer"] ∧
    fns.all (fun f => f.acts.contains .enc && f.acts.contains .wr) = true := by decide +kernel

/-- per connection side (one encoder, one connection) there is ONE mutex that EVERY function of the side holds without
interruption from before its first encode action until after its last frame write (CONTINUATIONs included); a mutex
only some of them hold does not count -/
theorem h2_write_lock_discipline :
    (commonGuard serverFns).isEmpty = false ∧ (commonGuard clientFns).isEmpty = false ∧
    fns.all (fun f => atomicEncWrite f.acts) = true := by decide +kernel

/-- HPACK table discipline: whatever the table, a block decodes to the header list it was encoded from and leaves the
decoder's table equal to the encoder's -/
theorem hpack_block_sync (cap : Nat) (t : Model.HpackOrder.Table) (fs : List Field) :
    decBlock cap t (encBlock cap t fs).2 = some ((encBlock cap t fs).1, fs) := dec_enc_block cap fs t

/-- **hpack_wire_order**: on either connection side, ANY number of concurrent writers, each a call of ANY of the
side's regenerated functions (request headers and trailers mixed), one header block each, any header lists, any table
capacity, and EVERY interleaving the named mutexes allow (a writer is excluded only by writers holding a mutex of the
same name): at most one block is between encode and write; the wire followed by that block is the encode order, so a
peer decoding in wire order with one table reconstructs, block by block, exactly (stream, header list) as encoded —
the decoded list is a prefix of the encode order, every pair is the pair of one of the writers —, and once nothing is
in flight the tables agree. -/
theorem hpack_wire_order (side : List Fn) (hside : side = serverFns ∨ side = clientFns)
    (calls : List Fn) (hcalls : ∀ f ∈ calls, f ∈ side)
    (cap : Nat) (reqs : List (Nat × List Field)) (sched : List Nat) :
    let s := (Sys.start cap reqs (calls.map (fun f => heldAcross f.acts))).run sched
    decAll cap [] (s.wire ++ s.inFlight) = some (s.encT, s.sent) ∧
    (∃ t o, decAll cap [] s.wire = some (t, o) ∧ o <+: s.sent) ∧
    (s.pending = [] → decAll cap [] s.wire = some (s.encT, s.sent)) ∧
    (∀ x ∈ s.sent, x ∈ reqs) ∧ s.pending.length ≤ 1 := by
  obtain ⟨m, hm⟩ : ∃ m, m ∈ commonGuard side := List.isEmpty_eq_false_iff_exists_mem.mp (by
    rcases hside with rfl | rfl
    · exact h2_write_lock_discipline.1
    · exact h2_write_lock_discipline.2.1)
  refine wire_order m cap reqs _ (fun g hg => ?_) sched
  obtain ⟨f, hf, rfl⟩ := List.mem_map.mp hg
  exact commonGuard_mem hm f (hcalls f hf)

/-! ### non-vacuity, and what the seeded changes do -/
def p0 : Field := ("x-p0", "v0")
def p1 : Field := ("x-p1", "v1")
def p2 : Field := ("x-p2", "v2")
def wreqs : List (Nat × List Field) := [(1, [("x-u0", "r0"), p1]), (3, [p2, ("x-u1", "r1")]), (5, [p0, p1, p2])]
def guardsOf (fs : List Fn) : List (List String) := fs.map (fun f => heldAcross f.acts)
-- the real guards: the server function holds mu; both client functions hold hmu (WriteHeaders also mu)
example : guardsOf serverFns = [["mu"]] ∧ guardsOf clientFns = [["hmu", "mu"], ["hmu"]] ∧
    commonGuard serverFns = ["mu"] ∧ commonGuard clientFns = ["hmu"] := by decide +kernel
-- writer 2 warms the table, then writers 0 and 1 in either order: the peer sees what was sent
example : (decAll 8 [] ((Sys.start 8 wreqs (guardsOf [serverWriteHeaders, serverWriteHeaders, serverWriteHeaders])).run
      [2, 2, 1, 1, 0, 0]).wire).map (·.2) =
    some [(5, [p0, p1, p2]), (3, [p2, ("x-u1", "r1")]), (1, [("x-u0", "r0"), p1])] := by decide +kernel
-- client side, request headers (writers 0, 2) and trailers (writer 1) mixed; writer 1 tries to get between writer 0's
-- encode and write and is excluded by hmu: its steps are lost until writer 0 has written
def mixedRun : Sys :=
  (Sys.start 8 wreqs (guardsOf [clientWriteHeaders, clientTrailers, clientWriteHeaders])).run [2, 2, 0, 1, 1, 0, 1, 1]
example : mixedRun.wire.map (·.stream) = [5, 1, 3] ∧
    (decAll 8 [] mixedRun.wire).map (·.2) = some [wreqs[2], wreqs[0], wreqs[1]] := by decide +kernel
-- the mutex released between encoding and writing: no guard ...
def leaky : List Act := [.lock "mu", .enc, .enc, .unlock "mu", .wr, .wr]
example : atomicEncWrite leaky = false ∧ heldAcross leaky = [] := by decide +kernel
-- ... a lock taken again only around the write does not help either
example : atomicEncWrite [.lock "mu", .enc, .unlock "mu", .lock "mu", .wr, .unlock "mu"] = false := by decide +kernel
-- a trailing unlock after the last write is fine
example : heldAcross [.lock "mu", .enc, .wr, .wr, .unlock "mu"] = ["mu"] := by decide +kernel
-- the server mutex released before the CONTINUATION frames: no guard, no common mutex
example : commonGuard [⟨"MServerConn.writeHeaders", [.lock "mu", .enc, .enc, .wr, .unlock "mu", .wr]⟩] = [] := by decide +kernel
-- writer 0 encodes, writer 1 encodes and writes, writer 0 writes: both streams SILENTLY get the other's pool value
-- (x-p1 for x-p2 and vice versa): no decoding error, wrong header values
example : (decAll 8 [] ((Sys.start 8 wreqs [heldAcross leaky, heldAcross leaky, heldAcross leaky]).run [2, 2, 0, 1, 1, 0]).wire).map (·.2) =
    some [(5, [p0, p1, p2]), (3, [p1, ("x-u1", "r1")]), (1, [("x-u0", "r0"), p2])] := by decide +kernel
-- without a warm table the lagging decoder fails outright
example : decAll 8 [] ((Sys.start 8 [(1, [p0]), (3, [p0])] [[], []]).run [0, 1, 1, 0]).wire = none := by decide +kernel

/-- NEGATION WITNESS for "each function holds SOME mutex" (the seeded shape): WriteHeaders releases hmu after encoding
and keeps only mu across the write; the trailers path holds only hmu. Each function on its own is atomic, the side has
no common mutex, ... -/
def seededWriteHeaders : Fn :=
  ⟨"MClientConn.WriteHeaders", [.lock "mu", .deferUnlock "mu", .lock "hmu", .enc, .unlock "hmu", .wr]⟩
example : atomicEncWrite seededWriteHeaders.acts = true ∧ atomicEncWrite clientTrailers.acts = true ∧
    guardsOf [seededWriteHeaders, clientTrailers] = [["mu"], ["hmu"]] ∧
    commonGuard [seededWriteHeaders, clientTrailers] = [] := by decide +kernel
/-- ... and the schedule exists: stream 1's request warms the table; stream 5's request headers are encoded (inserting
x-checksum), stream 3's trailers are encoded AFTER them (x-checksum as an index) and written BEFORE them: wire order
3, 5 against encode order 5, 3, and the peer reads stream 3's trailers as `user-agent: go` -/
def sreqs : List (Nat × List Field) :=
  [(5, [(":path", "/b"), ("x-checksum", "abc123")]), (3, [("x-checksum", "abc123")]), (1, [("user-agent", "go")])]
def seededRun : Sys :=
  (Sys.start 8 sreqs (guardsOf [seededWriteHeaders, clientTrailers, seededWriteHeaders])).run [2, 2, 0, 1, 1, 0]
example : seededRun.sent.map (·.1) = [1, 5, 3] ∧ seededRun.wire.map (·.stream) = [1, 3, 5] ∧
    (decAll 8 [] seededRun.wire).map (·.2) =
      some [(1, [("user-agent", "go")]), (3, [("user-agent", "go")]), (5, [(":path", "/b"), ("x-checksum", "abc123")])] := by
  decide +kernel
-- the same schedule with the real functions: the trailers' steps are excluded until the headers are on the wire
def realRun : Sys :=
  (Sys.start 8 sreqs (guardsOf [clientWriteHeaders, clientTrailers, clientWriteHeaders])).run [2, 2, 0, 1, 1, 0, 1, 1]
example : realRun.wire.map (·.stream) = [1, 5, 3] ∧
    (decAll 8 [] realRun.wire).map (·.2) = some [sreqs[2], sreqs[0], sreqs[1]] := by decide +kernel

end HpackWriteOrder

/-! ## Stream objects in pooled buffers: the receiver wrapper destroys the generation it was made for (kind `sgen`)

Model/StreamGen: pooled stream objects with identity and generation, one worker per exchange, one I/O goroutine per
connection running the wrapper's `OnReceive` as the action list regenerated from pkg/stream/client.go. -/
section StreamGenerations
open MosnVerif.Model.StreamGen MosnVerif.Lemmas.StreamGen MosnVerif.Gen.RecvOrder

/-- the regenerated order of clientStreamReceiverWrapper.OnReceive is destroy, then deliver -/
theorem wrapper_destroys_before_delivering : realProg = goodProg := by decide +kernel

/-- so every schedule under the regenerated order keeps the wrapper's invariant, and with it the pool's and the wire's -/
theorem real_inv (evs : List Ev) : Inv (run realProg {} evs) := by
  rw [wrapper_destroys_before_delivering]; exact inv_run evs {} inv_init

theorem real_full (evs : List Ev) : Full (run realProg {} evs) := by
  rw [wrapper_destroys_before_delivering]; exact full_run evs {} full_init

/-- one wrapper per stream, bound to the caller's receiver, pointing at the protocol's (pooled) stream object; the
decode-error path only notifies -/
theorem wrapper_identity : wrapperPerStream = true ∧ wrapperKeepsPointer = true ∧ wrapperOnDecodeError = [.deliver] := by decide +kernel

/-- HTTP/1 clears `conn.stream`, xprotocol removes the id from the table BEFORE the receiver is notified; xprotocol and
HTTP/2 remove by the id read from the frame, never through the stream object (which may serve the next request
once its receiver was notified: HTTP/2 removes after delivering) -/
theorem tables_release_before_or_by_wire_id :
    h1HandleResponse.head? = some .unslot ∧ xHandleResponse = [.removeKey, .deliver] ∧
    Act.removeViaObj ∉ h2HandleFrame ∧ Act.destroy ∉ h2HandleFrame ∧ Act.removeKey ∈ h2HandleFrame := by decide +kernel

/-- **destroy_hits_own_generation**: for EVERY schedule of worker and I/O steps, any number of exchanges, objects and
connections and every hand-out order of the buffer pool: every DestroyStream a wrapper executes acts on the generation the
wrapper was created for, and a connection the pool takes back through it is the connection of that wrapper's own exchange
(whose response has been read: the wrapper only runs after the read) -/
theorem destroy_hits_own_generation (evs : List Ev) :
    ∀ r ∈ (run realProg {} evs).log, r.genHit = r.genMade ∧ ∀ c, r.gave = some c → c = r.own :=
  (real_inv evs).logOk

/-- until its worker has finished it (which needs the notification), an exchange's pooled object keeps the generation
and the listeners that exchange gave it: nobody re-initialises a stream object under a running wrapper -/
theorem object_stable_until_finished (evs : List Ev) (k : Nat) :
    let s := run realProg {} evs
    (s.ex k).taken = true → (s.ex k).done = false →
      (s.obj (s.ex k).obj).gen = (s.ex k).gen ∧ (s.obj (s.ex k).obj).owner = some k ∧ (s.obj (s.ex k).obj).lis = (s.ex k).conn := by
  intro s ht hd
  have := (real_inv evs).own k ht hd
  exact ⟨this.1, this.2.1, this.2.2.1⟩

/-- an exchange is notified at most once, with the answer its wrapper was started with -/
theorem notified_once (evs : List Ev) (k : Nat) :
    let s := run realProg {} evs
    (s.ex k).got = [] ∨ (s.ex k).got = [(s.ex k).rtok] := by
  intro s
  by_cases hg : (s.ex k).got = []
  · exact Or.inl hg
  · exact Or.inr ((real_inv evs).gotOk k hg).2

/-- **the pool hypothesis**, stated in C09's vocabulary and DISCHARGED for every schedule: the idle list has no
duplicates and holds only connections the pool made; an idle connection is leased to nobody (C09 `partition`); a
connection is leased to ONE exchange at a time, from its `take` until its wrapper's DestroyStream (C09 `exclusive`); an
idle or not yet dialled connection has no request in flight on it (C09 `idle_clean_always` / `lease_never_dirty`: what is
leased again carries nothing of an earlier exchange). Proved by induction over the schedule for the pool as
Model/StreamGen has it (LIFO idle list, give-back by the DestroyStream of the generation the pool client listens on); it
needs `destroy_hits_own_generation` - with the seeded deliver-before-destroy order `excl` is false (witness below). -/
theorem pool_hypothesis_holds (evs : List Ev) : PoolHyp (run realProg {} evs) :=
  (real_full evs).pool

/-- what is written on a connection and not answered yet is at most the request of its lease holder, and `conn.stream`
points at that holder: the response read next on a connection is handed to the wrapper of the exchange that asked -/
theorem wire_belongs_to_holder (evs : List Ev) (c j : Nat) :
    let s := run realProg {} evs
    j ∈ s.wire c → s.wire c = [j] ∧ s.slot c = some j ∧ (s.ex j).conn = c ∧ holds (s.ex j) := by
  intro s hj
  have h : Full s := real_full evs
  have hw := h.wire.wireOk c j hj
  have hs := h.inv.slotOk c j hw.2
  exact ⟨hw.1, hw.2, hs.2.2, hs.2.1, Or.inl hs.1⟩

/-- **no_foreign_answer** (FULL statement): for EVERY schedule `evs` - any interleaving of take / send / read / io /
finish events of any number of exchanges over any number of pooled stream objects and connections, every hand-out order
of the buffer pool - under the regenerated real order of the receiver wrapper: whatever exchange `k` is handed is the
answer to its own request. (With `notified_once`: it is handed nothing or exactly `[k]`.) -/
theorem no_foreign_answer (evs : List Ev) (k j : Nat) :
    ((run realProg {} evs).ex k).got = [j] → j = k :=
  got_own _ (real_full evs) k j

/-- … in the form the driver evaluates: handed nothing, or exactly the own answer -/
theorem got_nothing_or_own (evs : List Ev) (k : Nat) :
    ((run realProg {} evs).ex k).got = [] ∨ ((run realProg {} evs).ex k).got = [k] := by
  rcases notified_once evs k with h | h
  · exact Or.inl h
  · exact Or.inr (by rw [h, no_foreign_answer evs k _ h])

def pipeline (n : Nat) : List Ev :=
  (List.range n).flatMap (fun k => [.take k 0, .send k, .read 0, .io k, .io k, .finish k])

-- non-vacuity: a schedule in which every exchange IS answered (four exchanges through one object and one connection)
set_option maxRecDepth 8000 in
example : ∀ k < 4, ((run realProg {} (pipeline 4)).ex k).got = [k] := by decide +kernel

/-- the witness schedule: A answered, notified; its worker finishes and recycles; B takes the same object on a new
connection; the I/O goroutine goes on; C asks the pool; B and C write; B's answer arrives -/
def lateDestroy : List Ev :=
  [.take 0 0, .send 0, .read 0, .io 0, .finish 0, .take 1 0, .io 0, .take 2 1, .send 1, .send 2, .read 1, .io 2, .io 2]

/-- with the REAL order the worker's steps can only follow the whole wrapper and the same requests are harmless: everybody is answered by nobody else, each destroy hits its own generation -/
example : let s := run realProg {} [.take 0 0, .send 0, .read 0, .io 0, .io 0, .finish 0, .take 1 0, .take 2 1, .send 1, .send 2,
      .read 0, .io 1, .io 1, .read 1, .io 2, .io 2]
    (s.ex 0).got = [0] ∧ (s.ex 1).got = [1] ∧ (s.ex 2).got = [2] ∧ (s.ex 1).obj = (s.ex 0).obj ∧ (s.ex 1).gen = 2 ∧
    s.log.all (fun r => r.genHit == r.genMade) = true := by decide +kernel

/-- NEGATION WITNESS for deliver-before-destroy: the late destroy hits generation 2 of object 0 (made by B), the pool
takes B's connection back while B is in flight, C is leased it and receives B's answer -/
example : let s := run [.deliver, .destroy] {} lateDestroy
    (∃ r ∈ s.log, r.ex = 0 ∧ r.genMade = 1 ∧ r.genHit = 2 ∧ r.gave = some 1 ∧ r.own = 0) ∧
    (s.ex 2).conn = (s.ex 1).conn ∧ (s.ex 2).got = [1] ∧ (s.ex 1).got = [] := by decide +kernel

/-- … and the pool hypothesis is what breaks: B and C hold the same connection at the same time (`excl` fails) -/
example : let s := run [.deliver, .destroy] {} (lateDestroy.take 10)
    (s.ex 1).taken = true ∧ (s.ex 2).taken = true ∧ (s.ex 1).pc = none ∧ (s.ex 2).pc = none ∧
    (s.ex 1).conn = (s.ex 2).conn ∧ s.wire (s.ex 1).conn = [1, 2] := by decide +kernel

end StreamGenerations

/-! ## The HTTP/2 client stream tables (kind `h2tbl`)

Model/H2ClientTable: the module's table `MClientConn.streams` (what `HandleFrame` hands up) and the stream layer's table
`clientStreamConnection.streams` (who is notified), ids from `MClientConn.newStream`. `Gen.H2ClientTable` regenerates every
syntactic use of the two tables in the client types (closed world), the key expression of every insert / lookup / delete
site as a function of the id the site has at hand, and every guard. All theorems quantify over every start value of the id
counter and EVERY list of operations {request opened (with / without receiver), HEADERS / DATA / trailers / RST_STREAM /
WINDOW_UPDATE with any stream id in any order, GOAWAY, local reset, connection reset, connection error}. -/
section H2ClientTable
open MosnVerif.Model.H2ClientTable MosnVerif.Model.H2ClientTableSpec MosnVerif.Gen.H2ClientTable

/-- the state after an arbitrary operation list on a connection whose id counter started at `first` -/
def h2reach (first : Int) (ops : List Model.H2ClientTable.Op) : Model.H2ClientTable.Conn :=
  Model.H2ClientTable.run genShape (Model.H2ClientTable.init first) ops

/-- closed world: these are ALL uses of the two tables in the methods of the client types, WriteHeaders allocates the id,
writes HEADERS with it and registers the stream only after the write succeeded (all under cc.mu), ResetStream resets the
module stream, removes the table entry, then notifies; the stream layer registers under the module's id, only after a
successful write; a connection reset marks every stream before it resets it; the GOAWAY branch touches no stream -/
theorem h2_table_sites :
    tableSites = ["clientStreamConnection.OnEvent:range", "clientStreamConnection.ActiveStreamsNum:len",
      "clientStreamConnection.Reset:range", "clientStreamConnection.handleFrame:lookup",
      "clientStreamConnection.handleFrame:delete", "clientStreamConnection.handleFrame:delete",
      "clientStreamConnection.handleError:lookup", "clientStream.endStream:insert", "clientStream.ResetStream:delete"] ∧
    modTableSites = ["MClientConn.WriteHeaders:insert", "MClientConn.processSettings:range", "MClientConn.streamByID:lookup",
      "MClientConn.streamByID:delete"] ∧
    writeHeadersActs = [.alloc, .encode, .write, .failReturns, .insert] ∧ resetActs = [.moduleReset, .tableDelete, .notify] ∧
    insertIdIsModuleId = true ∧ insertOnlyOnSuccess = true ∧ connResetMarksThenResets = true ∧ goawayTouchesStreams = false ∧
    idInit = 1 := by decide +kernel

/-- every insert / lookup / delete site of both tables uses the id it has at hand unchanged (the frame's stream id, the
error's stream id, the stream object's own id), ids step by 2 in uint32, and every guard is the expected one: the
regenerated shape IS the shape the theorems below are proved for -/
theorem h2_shape : genShape = goodShape := by
  simp only [genShape, goodShape, Shape.mk.injEq]
  and_intros
  all_goals first
    | rfl
    | (funext a; (set_option linter.unusedSimpArgs false in simp [newStreamId, Gen.H2ClientTable.u32, validStreamID, unknownDataIsConnError, goawayLast, errCodeNo, goawayActs, goawayOverrides]); done)
    | (funext a b; (set_option linter.unusedSimpArgs false in simp [newStreamId, Gen.H2ClientTable.u32, validStreamID, unknownDataIsConnError, goawayLast, errCodeNo, goawayActs, goawayOverrides]); done)
    | (funext a b; by_cases h : a = 0 <;> simp [goawayLast, errCodeNo, h])

theorem h2_reach_inv (first : Int) (ops : List Model.H2ClientTable.Op) : HInv (h2reach first ops) := by
  unfold h2reach; rw [h2_shape]; exact hinv_run _ (hinv_init first) ops

theorem h2_reach_idinv (first : Int) (ops : List Model.H2ClientTable.Op) : IdInv (h2reach first ops) first := by
  unfold h2reach; rw [h2_shape]; exact idinv_run _ first (idinv_init first) ops

/-- **delivery_once_and_own** (HTTP/2): every stream object is handed at most ONE outcome - one response or one reset
notification, never both, never two - and every piece of a response it is handed (header, each body piece, trailer) came
in a frame carrying its OWN stream id, the header being there: header and body never come from different exchanges -/
theorem h2_delivery_once_and_own (first : Int) (ops : List Model.H2ClientTable.Op) (w : Nat) :
    let s := h2reach first ops
    (s.str w).got.length + (s.str w).resets.length ≤ 1 ∧ ∀ d ∈ (s.str w).got, Own (s.str w).id d := by
  intro s
  have h := h2_reach_inv first ops
  exact ⟨h.once w, (h.own w).1⟩

/-- the stream table is a finite map whose ids belong to registered, not yet answered stream objects; what the module
table holds the stream table holds too, for a stream that is not destroyed -/
theorem h2_tables_consistent (first : Int) (ops : List Model.H2ClientTable.Op) (k : Int) (w : Nat) :
    let s := h2reach first ops
    ((s.tbl.map (·.1)).Nodup) ∧
    (lookup s.tbl k = some w → w < s.nW ∧ (s.str w).id = k ∧ (s.str w).got = []) ∧
    (lookup s.mod k = some w → lookup s.tbl k = some w ∧ (s.str w).live = true) := by
  intro s
  have h := h2_reach_inv first ops
  exact ⟨h.tkeys, fun hl => let t := h.tentry k w hl; ⟨t.1, t.2.1, t.2.2.1⟩, fun hl => let t := h.mentry k w hl; ⟨t.1, t.2.1⟩⟩

/-- **unknown_dropped** (HTTP/2): in EVERY state, a HEADERS / DATA / trailers / RST_STREAM frame whose id the module table
does not hold (never opened, already answered, reset) is delivered to nobody: no stream object's deliveries change, no
id is allocated; a HEADERS frame with a non-zero id changes nothing at all (id 0 is a connection error) -/
theorem h2_unknown_dropped (s : Model.H2ClientTable.Conn) (id : Int) (hm : lookup s.mod id = none)
    (op : Model.H2ClientTable.Op) (hop : op.frameOn id) :
    (∀ w, ((Model.H2ClientTable.step genShape s op).str w).got = (s.str w).got) ∧
    (Model.H2ClientTable.step genShape s op).next = s.next ∧
    (∀ tok e, id ≠ 0 → Model.H2ClientTable.step genShape s (.headers id tok e) = s) := by
  rw [h2_shape]
  have h := frame_no_entry s id hm op hop
  refine ⟨fun w => (h.2.2.1 w).2.2 rfl, h.1, ?_⟩
  intro tok e hne
  unfold Model.H2ClientTable.step
  split
  · rfl
  · simp only [onHeaders, hne, if_false]
    rcases sb_cases s (G.modHeadersKey id) (G.modHeadersRemove e) with ⟨_, hsb⟩ | ⟨mw, _, hl, _⟩
    · rw [hsb]
    · have : G.modHeadersKey id = id := rfl
      rw [this, hm] at hl; simp at hl

/-- **late_reply_after_reset_dropped** (HTTP/2): once `ResetStream` ran on a stream whose request went out (timeout,
downstream reset, RST_STREAM or stream error from the peer, connection reset), whatever happens afterwards short of a
new request (`ops`), a frame carrying that stream's id is delivered to nobody -/
theorem h2_late_reply_after_reset_dropped (s : Model.H2ClientTable.Conn) (w : Nat) (r : Reason)
    (hcs : (s.str w).hasCs = true) (ops : List Model.H2ClientTable.Op) (hops : ∀ op ∈ ops, ∀ o, op ≠ .open_ o)
    (op : Model.H2ClientTable.Op) (hop : op.frameOn (s.str w).id) :
    let s1 := Model.H2ClientTable.run genShape (resetStream genShape s w r) ops
    ∀ k, ((Model.H2ClientTable.step genShape s1 op).str k).got = (s1.str k).got := by
  rw [h2_shape]
  intro s1 k
  have hm := mod_none_run _ _ (resetStream_mod_none s w r hcs) ops hops
  exact ((frame_no_entry s1 _ hm op hop).2.2.1 k).2.2 rfl

/-- **ids_distinct** (HTTP/2): the stream objects whose request went out carry ids in (0, 2^31), odd when the counter
started odd (NewClientConn: 1), and two of them fewer than 2^31 requests apart carry different ids: no id is reused
before the counter has left the valid range (after which no request goes out on the connection any more: see the
example below) -/
theorem h2_ids_distinct (first : Int) (ops : List Model.H2ClientTable.Op) (v w : Nat) :
    let s := h2reach first ops
    v < w → w < s.nW → (s.str v).hasCs = true → (s.str w).hasCs = true → w - v < 2147483648 →
      (s.str v).id ≠ (s.str w).id ∧ 0 < (s.str v).id ∧ (s.str v).id < 2147483648 ∧
      (first % 2 = 1 → (s.str v).id % 2 = 1) ∧
      (first % 4294967296 + 2 * w < 4294967296 → (s.str v).id < (s.str w).id) := by
  intro s hvw hw hv hw' hd
  have h : IdInv s first := h2_reach_idinv first ops
  have a := h.ids v (by omega)
  have b := h.ids w hw
  have va : G.valid (Model.H2ClientTable.idAt first v) = true := by rw [← a.1]; exact hv
  have vb : G.valid (Model.H2ClientTable.idAt first w) = true := by rw [← b.1]; exact hw'
  have ea := a.2; rw [if_pos va] at ea
  have eb := b.2; rw [if_pos vb] at eb
  have rv := valid_range _ (idAt_range first v) va
  rw [ea, eb]
  refine ⟨idAt_distinct first v w hvw hd, rv.1, rv.2, idAt_odd first v, ?_⟩
  intro hlt
  unfold Model.H2ClientTable.idAt; omega

/-- **goaway_resets_only_above_last** (HTTP/2): a GOAWAY resets NOBODY and removes nothing (it records the
last-stream-id and tells the pool); and when a stream that is not destroyed yet is reset later, for whatever reason
`r`, its listeners are told `r` - except that exactly the streams with an id ABOVE the recorded last-stream-id are told
ConnectionFailed (the request was not processed: retry). Every other stream object is untouched by that reset. -/
theorem h2_goaway_resets_only_above_last (s : Model.H2ClientTable.Conn) (last code : Int) (w : Nat) (r : Reason) :
    ((Model.H2ClientTable.step genShape s (.goaway last code)).str = s.str ∧
     (Model.H2ClientTable.step genShape s (.goaway last code)).tbl = s.tbl ∧
     (Model.H2ClientTable.step genShape s (.goaway last code)).mod = s.mod) ∧
    ((s.str w).live = true →
      ((resetStream genShape s w r).str w).resets =
        (s.str w).resets ++ [if 0 < s.last ∧ s.last < (s.str w).id then Reason.connFailed else r] ∧
      ∀ k, k ≠ w → (resetStream genShape s w r).str k = s.str k) := by
  rw [h2_shape]
  refine ⟨?_, resetStream_reason s w r⟩
  unfold Model.H2ClientTable.step
  split
  · exact ⟨rfl, rfl, rfl⟩
  · simp only [onGoAway]; split <;> exact ⟨rfl, rfl, rfl⟩

/-- the executable predicates evaluated on the implementation's snapshots hold of every model state (ids: below 2^31
stream objects per connection) -/
theorem h2_spec_holds_on_model (first : Int) (ops : List Model.H2ClientTable.Op) :
    obsSpec (obsOf (h2reach first ops)) = true ∧
    ((h2reach first ops).nW ≤ 2147483648 →
      obsSpecIds (first % 2 == 1) ((List.range (h2reach first ops).nW).map (fun w => ((h2reach first ops).str w).id)) = true) := by
  refine ⟨obsSpec_of_hinv _ (h2_reach_inv first ops), ?_⟩
  exact obsSpecIds_of_idinv _ first (h2_reach_idinv first ops)

/-- **nobody is answered or failed by somebody else's frame** - the step predicates evaluated between consecutive
snapshots of the implementation hold between consecutive model states: a HEADERS / DATA / trailers / RST_STREAM frame
with stream id `id` that leaves the connection open changes the deliveries and reset notifications ONLY of stream
objects registered under `id`; GOAWAY, WINDOW_UPDATE, SETTINGS and a new request change nobody's; a ResetStream of stream
object w notifies only w and answers nobody; a connection reset / connection error answers nobody -/
theorem h2_step_spec_holds_on_model (first : Int) (ops : List Model.H2ClientTable.Op) :
    let s := h2reach first ops
    (∀ id op, Model.H2ClientTable.Op.frameOn id op → (Model.H2ClientTable.step genShape s op).closed = false →
      frameStepSpec id (obsOf s) (obsOf (Model.H2ClientTable.step genShape s op)) = true) ∧
    (∀ op, ((∃ l c, op = .goaway l c) ∨ (∃ i, op = .window i) ∨ op = .noise ∨ (∃ o, op = .open_ o)) →
      quietStepSpec (obsOf s) (obsOf (Model.H2ClientTable.step genShape s op)) = true) ∧
    (∀ w, resetStepSpec (some w) (obsOf s) (obsOf (Model.H2ClientTable.step genShape s (.reset w))) = true) ∧
    resetStepSpec none (obsOf s) (obsOf (Model.H2ClientTable.step genShape s .connReset)) = true ∧
    resetStepSpec none (obsOf s) (obsOf (Model.H2ClientTable.step genShape s .connError)) = true := by
  intro s
  have h := h2_reach_inv first ops
  rw [h2_shape]
  exact ⟨fun id op hop hc => frameStepSpec_of s h id op hop hc, fun op hop => quietStepSpec_of s op hop, resetStepSpec_of s⟩

/-! ### non-vacuity and what other shapes do -/
-- three requests, answers interleaved frame by frame in another order, a duplicate END_STREAM, an unknown id, a trailer
example : let s := h2reach 1 [.open_ false, .open_ false, .open_ false, .headers 5 2 false, .headers 1 0 false, .data 5 2 false false,
      .headers 3 1 true, .headers 3 1 true, .data 1 0 false false, .headers 9 77 true, .data 5 2 true false, .trailers 1 0]
    (s.str 0).got = [⟨some ⟨1, 0⟩, [⟨1, 0⟩], some ⟨1, 0⟩⟩] ∧ (s.str 1).got = [⟨some ⟨3, 1⟩, [], none⟩] ∧
    (s.str 2).got = [⟨some ⟨5, 2⟩, [⟨5, 2⟩, ⟨5, 2⟩], none⟩] ∧ s.tbl = [] ∧ s.mod = [] ∧ s.closed = false := by decide +kernel
-- timeout, then the late answer: dropped; RST_STREAM from the peer: the stream is told RemoteReset, a later DATA is dropped
example : let s := h2reach 1 [.open_ false, .open_ false, .reset 0, .headers 1 0 false, .data 1 0 true false, .headers 3 1 false,
      .rst 3, .data 3 1 true false]
    (s.str 0).got = [] ∧ (s.str 0).resets = [.localReset] ∧ (s.str 1).got = [] ∧ (s.str 1).resets = [.remoteReset] ∧
    s.rst = [1] ∧ s.closed = false := by decide +kernel
-- GOAWAY(last = 3) in the middle resets nobody; the connection reset that follows tells 1 and 3 "terminated", 5 and 7 "failed: retry"
example : let s := h2reach 1 [.open_ false, .open_ false, .open_ false, .open_ false, .goaway 3 0, .headers 1 0 true, .connReset]
    (s.str 0).got = [⟨some ⟨1, 0⟩, [], none⟩] ∧ (s.str 0).resets = [] ∧ (s.str 1).resets = [.connTerm] ∧
    (s.str 2).resets = [.connFailed] ∧ (s.str 3).resets = [.connFailed] ∧ s.goaways = 1 := by decide +kernel
-- the 31-bit boundary: 2^31-1 is the last id that goes out; afterwards every request is refused and reset, none registered
example : let s := h2reach 2147483645 [.open_ false, .open_ false, .open_ false, .open_ false]
    (s.str 0).id = 2147483645 ∧ (s.str 1).id = 2147483647 ∧ (s.str 2).hasCs = false ∧ (s.str 2).resets = [.connFailed] ∧
    (s.str 3).hasCs = false ∧ s.wire = [2147483645, 2147483647] ∧ s.goaways = 2 := by decide +kernel
-- hypotheses of `h2_late_reply_after_reset_dropped` / `h2_unknown_dropped` are met by real states
example : ((h2reach 1 [.open_ false]).str 0).hasCs = true ∧ lookup (h2reach 1 [.open_ false, .headers 1 0 true]).mod 1 = none := by decide +kernel

/-- NEGATION WITNESS (lookup by `id-2`): the answer to the second request (id 3) is handed to the first (id 1) -/
def lookupMinus2 : Shape := { goodShape with frameLookupKey := fun id => (id - 2) % 4294967296 }
example : let s := Model.H2ClientTable.run lookupMinus2 (Model.H2ClientTable.init 1) [.open_ false, .open_ false, .headers 3 1 true]
    (s.str 0).id = 1 ∧ (s.str 0).got = [⟨some ⟨3, 1⟩, [], none⟩] ∧ (s.str 1).got = [] := by decide +kernel
/-- NEGATION WITNESS (RST_STREAM of stream k handed to stream k+2): the peer cancels request 1, request 3 is failed -/
def rstPlus2 : Shape := { goodShape with errLookupKey := fun id => (id + 2) % 4294967296 }
example : let s := Model.H2ClientTable.run rstPlus2 (Model.H2ClientTable.init 1) [.open_ false, .open_ false, .rst 1, .headers 3 1 true]
    (s.str 0).resets = [] ∧ (s.str 1).resets = [.remoteReset] ∧ (s.str 1).got = [] := by decide +kernel
/-- a ResetStream that does not remove the table entry: nobody is misdelivered (the module table still refuses the late
answer), but the entry stays for ever: the refinement `h2_tables_consistent` fails -/
def noDeleteOnReset : Shape := { goodShape with resetDeletes := fun _ => false }
example : let s := Model.H2ClientTable.run noDeleteOnReset (Model.H2ClientTable.init 1) [.open_ false, .reset 0, .headers 1 0 true]
    (s.str 0).got = [] ∧ s.tbl = [(1, 0)] ∧ s.mod = [] := by decide +kernel

end H2ClientTable

end MosnVerif.Props.C02

/-! ## Pooled proxy objects: generation tags guarding late callbacks (Model/ProxyGen, Gen.ProxyGen)

One pooled `downStream` object with its whole history, any number of exchanges taking / giving it, any number of armed
timer callbacks of any kind, EVERY schedule of {other object's newActiveStream, take, arm, fire (Stop is too late from
here), one statement of a started callback, upstream answer, cleanStream's CAS + Stop, giveStream}. An exchange IS the
generation it was given. The callbacks' statement lists are a parameter; the code's are regenerated. -/
namespace MosnVerif.Props.C02
section ProxyGenerations
open MosnVerif.Model.ProxyGen MosnVerif.Lemmas.ProxyGen
open MosnVerif.Gen.ProxyGen (Step)

/-- the invariant holds along every schedule, for every family of guarded callback shapes -/
theorem proxygen_invariant (progs : Nat → Bool × List Step) (hp : ∀ k, guarded (progs k).1 (progs k).2 = true)
    (evs : List Ev) : MosnVerif.Lemmas.ProxyGen.Inv (run progs {} evs) :=
  Lemmas.Fold.foldl_inv (P := MosnVerif.Lemmas.ProxyGen.Inv) (fun s e h => step_inv progs hp s h e) evs {}
    ⟨Nat.le_refl _, fun _ => rfl, fun h => by simp at h, fun _ h => by simp at h, fun _ h => by simp at h,
     fun _ h => by simp at h, fun _ h => by simp at h⟩

/-- **late_callback_harmless**: whatever the interleaving of Stop, clean, give, take (by the next exchange, any number of
times) and the callback's own statements: a callback armed for exchange A only ever resets the upstream stream of /
produces an error reply for (`hits`) and only ever writes the response token / expiry flag of (`touched`) exchange A
itself, and only while A still holds the object. (The one thing it may do to a later exchange B is clear B's
reuseBuffer flag - B's buffers are then not recycled; that is the code's behaviour and is harmless for correlation.) -/
theorem late_callback_harmless (progs : Nat → Bool × List Step) (hp : ∀ k, guarded (progs k).1 (progs k).2 = true)
    (evs : List Ev) :
    (∀ h ∈ (run progs {} evs).hits, h.hit = h.own ∧ h.held = true) ∧ (∀ t ∈ (run progs {} evs).touched, t.2 = t.1) :=
  ⟨(proxygen_invariant progs hp evs).hits, (proxygen_invariant progs hp evs).touched⟩

/-- **reply_produced_for_own_exchange**: every reply (the upstream's answer or a timeout error reply) is received by the
exchange it was produced for -/
theorem reply_produced_for_own_exchange (progs : Nat → Bool × List Step) (hp : ∀ k, guarded (progs k).1 (progs k).2 = true)
    (evs : List Ev) : ∀ r ∈ (run progs {} evs).replies, r.2 = r.1 :=
  (proxygen_invariant progs hp evs).replies

/-- the two timer callbacks of the code (regenerated statement lists, generation read when armed) are guarded shapes -/
theorem real_callbacks_guarded : ∀ k, guarded (realProgs k).1 (realProgs k).2 = true := by
  intro k; cases k with
  | zero => decide
  | succ n => exact (by decide : guarded (realProgs 1).1 (realProgs 1).2 = true)

/-- … so the statements above hold of the code's callbacks, for every schedule -/
theorem late_timer_callbacks_harmless (evs : List Ev) :
    (∀ h ∈ (run realProgs {} evs).hits, h.hit = h.own ∧ h.held = true) ∧
    (∀ t ∈ (run realProgs {} evs).touched, t.2 = t.1) ∧ (∀ r ∈ (run realProgs {} evs).replies, r.2 = r.1) :=
  ⟨(late_callback_harmless realProgs real_callbacks_guarded evs).1, (late_callback_harmless realProgs real_callbacks_guarded evs).2,
   reply_produced_for_own_exchange realProgs real_callbacks_guarded evs⟩

/-- the sites the model's `take` / `clean` / `give` stand for are as modelled: one fresh counter value per
newActiveStream and reuseBuffer := 1, nobody else writes ID; cleanStream = CAS first, timers stopped BEFORE giveStream,
giveStream last and the only Give; giveStream needs reuseBuffer = 1 and no reset; Reset zeroes the object; the worker
task carries the generation read before it was scheduled and its re-entry points test it first -/
theorem pool_sites_as_modelled :
    MosnVerif.Gen.ProxyGen.newStreamFreshGen = true ∧ MosnVerif.Gen.ProxyGen.newStreamSetsReuse = true ∧
    MosnVerif.Gen.ProxyGen.genWriters = 2 ∧
    MosnVerif.Gen.ProxyGen.cleanOrder = [.casCleaned, .resetUpstream, .stopTimers, .destroyFilters, .delete, .give] ∧
    MosnVerif.Gen.ProxyGen.cleanUpStopsTimers = true ∧
    MosnVerif.Gen.ProxyGen.giveNeedsReuse = true ∧ MosnVerif.Gen.ProxyGen.giveNeedsNoReset = true ∧
    MosnVerif.Gen.ProxyGen.givesElsewhere = 0 ∧ MosnVerif.Gen.ProxyGen.resetZeroes = true ∧
    MosnVerif.Gen.ProxyGen.workerCaptures = true ∧ MosnVerif.Gen.ProxyGen.workerPassesGen = true ∧
    MosnVerif.Gen.ProxyGen.processErrorTestsGen = true ∧ MosnVerif.Gen.ProxyGen.waitNotifyTestsGen = true ∧
    MosnVerif.Gen.ProxyGen.onReentryExhaustedTestsGen = true := by decide +kernel

/-- the racing schedule: A takes the object, arms timer `k`, the timer fires (callback started, nothing executed), A's
answer arrives, A cleans (Stop too late) and gives, B takes the same object, then the callback runs `n` statements -/
def lateSchedule (k n : Nat) : List Ev :=
  [.take, .arm k, .fire 0, .respond, .clean, .give, .take] ++ List.replicate n (.step 0)

-- non-vacuous: the code's callbacks DO act on their own exchange (a plain timeout), and on the racing schedule they act on nobody
example : (run realProgs {} [.take, .arm 0, .fire 0, .step 0, .step 0, .step 0, .step 0, .step 0]).hits = [⟨1, 1, true⟩] := by decide +kernel
example : (run realProgs {} [.tick, .take, .arm 1, .fire 0, .step 0, .step 0, .step 0, .step 0, .step 0, .step 0]).hits = [⟨2, 2, true⟩] := by decide +kernel
example : (run realProgs {} (lateSchedule 0 8)).hits = [] ∧ (run realProgs {} (lateSchedule 0 8)).touched = [] ∧
    (run realProgs {} (lateSchedule 0 8)).o.gen = 2 ∧ (run realProgs {} (lateSchedule 0 8)).o.reuse = false := by decide +kernel
example : (run realProgs {} (lateSchedule 1 8)).hits = [] ∧ (run realProgs {} (lateSchedule 1 8)).replies = [(1, 1)] := by decide +kernel

/-- NEGATION WITNESS (i): no generation test - A's callback takes B's response token and times B out -/
example : (run (fun _ => (true, [.noReuse, .testCleaned, .casResp, .act])) {} (lateSchedule 0 4)).hits = [⟨1, 2, true⟩] ∧
    guarded true [.noReuse, .testCleaned, .casResp, .act] = false := by decide +kernel
/-- NEGATION WITNESS (ii): the generation is read when the callback FIRES - it reads B's and the test passes -/
example : (run (fun _ => (false, [.loadGen, .noReuse, .testCleaned, .testGen, .casResp, .act])) {} (lateSchedule 0 6)).hits = [⟨1, 2, true⟩] ∧
    guarded false [.loadGen, .noReuse, .testCleaned, .testGen, .casResp, .act] = false ∧
    guarded true [.noReuse, .testCleaned, .loadGen, .testGen, .casResp, .act] = false := by decide +kernel
/-- NEGATION WITNESS (iii): the test is there but the reuseBuffer store is not: the callback passes the test while A
holds the object, A finishes and B takes the object before the CAS -/
example : (run (fun _ => (true, [.testCleaned, .testGen, .casResp, .act])) {}
      [.take, .arm 0, .fire 0, .step 0, .step 0, .respond, .clean, .give, .take, .step 0, .step 0]).hits = [⟨1, 2, true⟩] ∧
    guarded true [.testCleaned, .testGen, .casResp, .act] = false := by decide +kernel

end ProxyGenerations
end MosnVerif.Props.C02
