import MosnVerif.Lemmas.Headers
import MosnVerif.Lemmas.Retry
import MosnVerif.Lemmas.RouteFinalize
import MosnVerif.Lemmas.HeaderWiring
import MosnVerif.Lemmas.RetryPolicy
import MosnVerif.Lemmas.HeaderMaps
import MosnVerif.Lemmas.PerTryArm
/-!
# C17 — route actions, timeouts and the retry policy are applied exactly as configured (property theorems only)

Part 1: header mutations at the three levels, and the effective timeout (`Model/Headers.lean`).
Part 2 (section `Retry`): the retry policy on the attempt machine of `Model/Retry.lean` (regenerated retry decision
inside `onUpstreamHeaders` / `onUpstreamReset` / `doRetry` / the timers), local replies of redirect / direct-response routes,
prefix rewrite and redirect assembly.
Part 3: a hop's route actions on a request that arrives with state.  Part 4: the construction wiring of the header parsers.
Part 5 (section `PolicyBuild`): the retry policy FROM CONFIGURATION — the regenerated construction in
`NewRouteRuleImplBase`, the regenerated accessors (nil policy included) — into `parseProxyTimeout` and the attempt machine.
Part 6: the header mutations over the real protocol header maps.  Part 7: the per-try timer of every attempt.
-/
namespace MosnVerif.Props.C17
open MosnVerif.Model.Headers MosnVerif.Gen.HeaderMutation MosnVerif.Gen.ProxyTimeout

/-- **headers_spec (request side)**: for every three-level mutation configuration, every initial header map and every
header name, the final value of that header is the fold — in the order route → virtual host → router config, within a
level all additions in configuration order then all removals — of exactly the mutations naming it, by the documented
rule (append joins with "," onto an existing non-empty value, otherwise overwrite; removal deletes).  In particular
headers are independent of one another, and the level order is the regenerated `requestOrder`. -/
theorem headers_spec_request (l : Levels) (h : Hdrs) (k : String) :
    get (finalize requestOrder l h) k = specValue (specOps l) k (get h k) := get_finalize l h k

/-- **headers_spec (response side)** -/
theorem headers_spec_response (l : Levels) (h : Hdrs) (k : String) :
    get (finalize responseOrder l h) k = specValue (specOps l) k (get h k) := get_finalize l h k

/-- a header that no configured mutation names is passed through untouched -/
theorem untouched_preserved (l : Levels) (h : Hdrs) (k : String)
    (hk : ∀ o ∈ specOps l, o.key ≠ k) : get (finalize requestOrder l h) k = get h k := by
  rw [headers_spec_request]
  -- `specValue` is `specValueN` for the identity normal form
  exact Model.HeaderMaps.specValueN_untouched id (specOps l) k _ hk

/-- if the last mutation naming `k` (in level order) is a removal, the header is absent -/
theorem removed_absent (l : Levels) (h : Hdrs) (k : String) (pre post : List Op)
    (hs : specOps l = pre ++ [.remove k] ++ post) (hpost : ∀ o ∈ post, o.key ≠ k) :
    get (finalize requestOrder l h) k = none := by
  rw [headers_spec_request, hs]
  exact (Model.HeaderMaps.specValueN_last id pre post (.remove k) k _ rfl hpost).trans (Model.HeaderMaps.stepVal_remove _ k)

/-- if the last mutation naming `k` is an addition with append=false, the header has exactly the configured value -/
theorem overwrite_last (l : Levels) (h : Hdrs) (a : Add) (pre post : List Op) (ha : a.append = false)
    (hs : specOps l = pre ++ [.add a] ++ post) (hpost : ∀ o ∈ post, o.key ≠ a.name) :
    get (finalize requestOrder l h) a.name = some a.value := by
  rw [headers_spec_request, hs]
  exact (Model.HeaderMaps.specValueN_last id pre post (.add a) a.name _ rfl hpost).trans (Model.HeaderMaps.stepVal_overwrite _ a ha)

/-- an addition with append=true onto an existing non-empty value joins with a comma -/
theorem append_joins (v : String) (a : Add) (hv : v.length > 0) (ha : a.append = true) :
    stepVal (some v) (.add a) = some (v ++ "," ++ a.value) := by
  simp [stepVal, hv, ha]

/-- **timeout_precedence**: for every route, every header/variable content and every integer parser, the effective
timeouts computed by the regenerated `parseProxyTimeout` are: protocol-supplied variable if present and numeric, else the
request's timeout header if present and numeric, else the route's, else what was there; a global timeout that is zero
or negative becomes the default; and a per-try timeout ≥ the global timeout is disabled (0). -/
theorem timeout_precedence (parseInt : String → Option Int) (g0 t0 : Int) (hasRoute : Bool) (rg rt : Int)
    (hT hG vT vG : Option String) :
    parseProxyTimeout parseInt g0 t0 hasRoute rg rt hT hG vT vG =
      (specGlobal parseInt g0 hasRoute rg hG vG, specTry parseInt g0 t0 hasRoute rg rt hT hG vT vG) := by
  rw [parseProxyTimeout_eq]
  simp only [specTry, specGlobal, decide_eq_true_eq]
  rfl

/-- **global_timeout_positive**: for every route, every header / variable content (negative numbers included)
and every integer parser, the global timeout that comes out of the regenerated `parseProxyTimeout` is > 0 — the response
timer (`if s.timeout.GlobalTimeout > 0` in downstream.go) is therefore always armed: no request waits for a silent
upstream without a timer. (Before fix 5469cdf61 of /repo a header `x-mosn-global-timeout: -5` gave (-5 ms, 0): both timers disarmed.) -/
theorem global_timeout_positive (parseInt : String → Option Int) (g0 t0 : Int) (hasRoute : Bool) (rg rt : Int)
    (hT hG vT vG : Option String) :
    0 < (parseProxyTimeout parseInt g0 t0 hasRoute rg rt hT hG vT vG).1 := by
  rw [timeout_precedence]
  simp only [specGlobal]
  split <;> omega

-- non-vacuity: a negative header value and a negative variable value end up as the default
example : parseProxyTimeout (fun s => if s = "-5" then some (-5) else none) 0 0 true 3000000000 100000000
    none (some "-5") none none = (60000000000, 100000000) := by decide +kernel
example : parseProxyTimeout (fun s => if s = "-5" then some (-5) else none) 0 0 false 0 0
    none none none (some "-5") = (60000000000, 0) := by decide +kernel

/-- the per-try timeout that comes out is always strictly below the global one or disabled -/
theorem try_below_global (parseInt : String → Option Int) (g0 t0 : Int) (hasRoute : Bool) (rg rt : Int)
    (hT hG vT vG : Option String) :
    let r := parseProxyTimeout parseInt g0 t0 hasRoute rg rt hT hG vT vG
    r.2 = 0 ∨ r.2 < r.1 := by
  rw [timeout_precedence]
  simp only [specTry]
  split <;> omega

-- non-vacuity: a concrete three-level configuration meeting the hypotheses of `removed_absent` / `overwrite_last`
def exLevels : Levels :=
  Levels.mk (Parser.mk [Model.Headers.Add.mk "x" "1" true] ["y"]) (Parser.mk [Model.Headers.Add.mk "x" "2" true] [])
    (Parser.mk [Model.Headers.Add.mk "y" "3" false] [])
example : specOps exLevels = [.add ⟨"x", "1", true⟩] ++ [.remove "y"] ++ [.add ⟨"x", "2", true⟩, .add ⟨"y", "3", false⟩] := rfl
example : specOps exLevels = [.add ⟨"x", "1", true⟩, .remove "y", .add ⟨"x", "2", true⟩] ++ [.add ⟨"y", "3", false⟩] ++ [] := rfl
-- tests (evaluated, not proofs): the model on a concrete request
#guard get (finalize requestOrder exLevels [("x", "0"), ("y", "9")]) "x" == some "0,1,2"
#guard get (finalize requestOrder exLevels [("x", "0"), ("y", "9")]) "y" == some "3"
#guard parseProxyTimeout (fun s => s.toInt?) 0 0 true 5000000000 1000000000 none (some "300") (some "abc") none == (300000000, 0)

/-! ## Part 2 — retry policy, local replies, rewrite, redirect -/
section Retry
open MosnVerif.Model.Retry MosnVerif.Gen.RetryState MosnVerif.Gen.RouteAction

def exPolicy' : Policy := { retryOn := true, numRetries := 2, codes := [503], tryTimeout := true, disable := false }

/-- the budget the code computes from the configured `num_retries` (regenerated `newRetryState`) is `max 3 num_retries`:
a configured value below 3 is raised to 3 -/
theorem budget_floor (n : Nat) : initialBudget (n : Int) = ((max 3 n : Nat) : Int) := initialBudget_eq n

/-- **attempts_bounded**: for EVERY retry policy (retry_on, num_retries, status-code list, per-try timeout, disable flag), every
first host-selection result and EVERY sequence of per-attempt outcomes and oracle answers, the number of `pool.NewStream`
calls (admitted or refused) is at most one plus the effective retry budget `max 3 num_retries`. -/
theorem attempts_bounded (p : Policy) (host0 : Option Nat) (ls : List Label) :
    attemptCount (run p host0 ls).trace ≤ 1 + max 3 p.numRetries := by
  have h := run_good p host0 ls
  have h1 := h.rem_nonneg
  have h2 := h.bound
  rw [h.count]
  unfold budget at h2
  omega

/-- the regenerated retry decision on response headers is exactly the configured condition -/
theorem decision_on_response (p : Policy) (c : Nat) :
    doRetryCheck true p.disable p.retryOn false (c : Int) (codesInt p) "" = retryable p (.resp c) := check_resp p c

/-- the regenerated retry decision on a reset / refused stream / timer is exactly the configured condition, whatever status an
earlier attempt left in the status variable -/
theorem decision_on_reset (p : Policy) (o : Outcome) (staleAbsent : Bool) (staleCode : Int) (ho : ∀ c, o ≠ .resp c) :
    doRetryCheck true p.disable p.retryOn staleAbsent staleCode (codesInt p) (reasonOf o) = retryable p o :=
  check_reset p o staleAbsent staleCode ho

/-- every trace of the machine is accepted by the declarative acceptor `traceOk` (which the driver also evaluates on the
implementation's trace) -/
theorem trace_accepted (p : Policy) (host0 : Option Nat) (ls : List Label) : traceOk p (run p host0 ls).trace = true := by
  obtain ⟨c, hc, _⟩ := (run_good p host0 ls).acc
  simp [traceOk, hc]

/-- **retry_only_if**: wherever a host selection for attempt `k` (hence an attempt) occurs in a trace, `k` is the number of attempts
made so far, and either nothing happened before (the first attempt) or the event immediately before it is an outcome of the
outstanding attempt that is retryable under the configured policy — and before that outcome no downstream response had started,
the global timeout had not fired and the worker had not left.  (`retryable p .global = false`, so the retryable outcome itself is
never the global timeout.) -/
theorem retry_only_if (p : Policy) (host0 : Option Nat) (ls : List Label) (pre post : List Ev) (k : Nat)
    (h : (run p host0 ls).trace = pre ++ [.choose k] ++ post) :
    k = attemptCount pre ∧
    (pre = [] ∨ ∃ pre' o, pre = pre' ++ [.outcome o] ∧ retryable p o = true ∧ ∀ e ∈ pre', ends e = false) := by
  obtain ⟨c1, c2, h1, h2⟩ := run_scan_at p host0 ls h
  obtain ⟨hk, hp, _⟩ := scanStep_choose h2
  refine ⟨by rw [hk, scan_n h1]; exact (Nat.zero_add _), ?_⟩
  rcases scan_permit h1 hp with ⟨hnil, _⟩ | ⟨t', o, c', ht, hr, hs, hd⟩
  · exact Or.inl hnil
  · exact Or.inr ⟨t', o, ht, hr, (scan_alive hs hd).2⟩

/-- **fresh_host**: every `pool.NewStream` of attempt `k` is immediately preceded by a host selection made for attempt `k`
(each retry re-runs host selection; no attempt reuses the previous selection) -/
theorem fresh_host (p : Policy) (host0 : Option Nat) (ls : List Label) (pre post : List Ev) (k h : Nat)
    (ht : (run p host0 ls).trace = pre ++ [.attempt k h] ++ post) :
    ∃ pre', pre = pre' ++ [.choose k] := by
  obtain ⟨c1, c2, h1, h2⟩ := run_scan_at p host0 ls ht
  obtain ⟨hk, hc⟩ := scanStep_attempt h2
  rcases scan_chosen h1 hc with ⟨_, hinit⟩ | ⟨_, t', ht'⟩
  · cases hinit
  · exact ⟨t', hk ▸ ht'⟩

/-- no attempt after the response started / the global timeout / the worker left: once an ending event is in the trace, no
host selection and no attempt follows -/
theorem nothing_after_end (p : Policy) (host0 : Option Nat) (ls : List Label) (pre post : List Ev) (e e' : Ev)
    (h : (run p host0 ls).trace = pre ++ [e] ++ post) (he : ends e = true) (hm : e' ∈ post) :
    (∀ k, e' ≠ .choose k) ∧ (∀ k x, e' ≠ .attempt k x) := by
  obtain ⟨pa, pb, rfl⟩ := List.append_of_mem hm
  have h' : (run p host0 ls).trace = (pre ++ [e] ++ pa) ++ [e'] ++ pb := by rw [h]; simp
  have hal := fun hu => run_alive_at p host0 ls h' hu e (by simp)
  constructor
  · intro k hk; rw [hal (Or.inl ⟨k, hk⟩)] at he; cases he
  · intro k x hk; rw [hal (Or.inr ⟨k, x, hk⟩)] at he; cases he

/-- **retry_when_configured** (the converse of `retry_only_if`): whenever the outstanding attempt ends in an outcome that is retryable
under the configured policy, budget is left, the `Retries` breaker admits, a healthy host exists and the worker has a pass left,
the request IS retried: exactly one host selection and one new attempt on the selected host follow, and one unit of budget is used -/
theorem retry_when_configured (p : Policy) (s : St) (l : Label) (h : Nat)
    (hlive : s.live = true) (hrs : s.hasRS = true) (hst : s.started = false) (hrem : s.remaining ≠ 0) (hloops : s.loops ≠ 0)
    (hret : retryable p l.o = true) (hcc : l.canCreate = true) (hh : l.host = some h)
    (hpt : l.o = .perTry → p.tryTimeout = true) :
    (step p s l).trace = s.trace ++ [.outcome l.o, .choose s.attempts, .attempt s.attempts h] ∧
    (step p s l).attempts = s.attempts + 1 ∧ (step p s l).remaining = s.remaining - 1 := by
  obtain ⟨st, he⟩ := step_retries p s l h hlive hrs hst hrem hloops hret hcc hh hpt
  rw [he]
  exact ⟨rfl, rfl, rfl⟩

example : (start exPolicy' (some 0)).live = true ∧ (start exPolicy' (some 0)).hasRS = true ∧ (start exPolicy' (some 0)).started = false ∧
    (start exPolicy' (some 0)).remaining ≠ 0 ∧ (start exPolicy' (some 0)).loops ≠ 0 ∧ retryable exPolicy' (.resp 503) = true := by decide +kernel

/-- never after a response has started: once the downstream response has started (and no attempt is outstanding), whatever
arrives — a late reset of the answered upstream stream, a timer, a connection event — changes nothing: no retry decision is
taken and no upstream event is produced (the regenerated guard of `onUpstreamReset` contains `!downstreamResponseStarted`) -/
theorem started_is_final (p : Policy) (s : St) (l : Label) (h1 : s.live = false) (h2 : s.started = true) : step p s l = s :=
  step_not_live p s l h1

/-- **local_reply_no_upstream**: a route with a direct response answers with exactly the configured status and body, a route
with a redirect (and no direct response) with the configured code and the assembled location — and in both cases the exchange
contains that one reply and NO host selection and NO upstream attempt, for every policy, oracle and outcome sequence
(branch order of `chooseHost` regenerated). -/
theorem local_reply_no_upstream (r : RouteFacts) (q : Req) (p : Policy) (host0 : Option Nat) (ls : List Label) (hr : r.hasRoute = true) :
    (∀ d, r.direct = some d →
        localReply r q = some { status := d.status, location := none, body := d.body } ∧ exchange r q p host0 ls = [.reply d.status]) ∧
    (∀ rd, r.direct = none → r.redirect = some rd →
        localReply r q = some { status := rd.code, location := some (redirectLocation rd q), body := "" } ∧
        exchange r q p host0 ls = [.reply rd.code]) := by
  have ho : chooseHostOrder = [.noRoute, .direct, .redirect, .noRule, .noSnapshot, .pool] := by decide
  constructor
  · intro d hd
    have : localReply r q = some { status := d.status, location := none, body := d.body } := by
      simp [localReply, chooseBranch, ho, List.find?, branchHolds, hr, hd]
    exact ⟨this, by simp [exchange, this]⟩
  · intro rd hd hrd
    have : localReply r q = some { status := rd.code, location := some (redirectLocation rd q), body := "" } := by
      simp [localReply, chooseBranch, ho, List.find?, branchHolds, hr, hd, hrd]
    exact ⟨this, by simp [exchange, this]⟩

/-- a local reply contains no upstream attempt -/
theorem local_reply_attempts (r : RouteFacts) (q : Req) (p : Policy) (host0 : Option Nat) (ls : List Label) (lr : LocalReply)
    (h : localReply r q = some lr) : attemptCount (exchange r q p host0 ls) = 0 := by
  simp [exchange, h, attemptCount, isAttempt]

/-- **rewrite_spec** (prefix rewrite): when the path starts with the matched prefix the new path is `prefix_rewrite ++ rest`;
otherwise the prefix branch leaves the path alone (regenerated `finalizePathHeader` prefix branch) -/
theorem rewrite_spec (pr m rest : List Char) : prefixRewritePath pr m (m ++ rest) = some (pr ++ rest) := by
  simp [prefixRewritePath]

theorem rewrite_spec_no_prefix (pr m path : List Char) (h : m.isPrefixOf path = false) : prefixRewritePath pr m path = none := by
  simp [prefixRewritePath, h]

/-- `finalizePathHeader` as a whole: nothing configured or empty path ⇒ untouched and no original-path header; prefix rewrite
configured and the path starts with the matched prefix ⇒ rewritten and the original path recorded (prefix rewrite wins over
regex rewrite) -/
theorem rewrite_prefix_records_original (c : RewriteCfg) (m path : String) (rest : List Char) (re : String → String)
    (hp : c.prefixRewrite ≠ "") (hne : path ≠ "") (hpath : path.toList = m.toList ++ rest) :
    finalizePath c m path re = (String.ofList (c.prefixRewrite.toList ++ rest), some path) := by
  have hl : c.prefixRewrite.length ≠ 0 := by
    intro h; apply hp; exact String.length_eq_zero_iff.mp h
  have hd : rewriteDisabled c.prefixRewrite c.regex = false := by
    simp [rewriteDisabled, hl]
  simp [finalizePath, hd, hne, hl, hpath, prefixRewritePath]

theorem rewrite_none_configured (m path : String) (re : String → String) :
    finalizePath { prefixRewrite := "", regex := "" } m path re = (path, none) := by
  simp [finalizePath, rewriteDisabled]

/-- **redirect_spec**: scheme, host and path of the location default to the request's own when not configured (regenerated
`getStringOr`); with an unchanged scheme the host is used as is -/
theorem redirect_spec_defaults (s d : String) : getStringOr s d = if s = "" then d else s := by
  unfold getStringOr
  by_cases h : s = ""
  · subst h; simp
  · have : s.length ≠ 0 := fun hl => h (String.length_eq_zero_iff.mp hl)
    simp [h, this]

theorem redirect_spec_same_scheme (rd : Redirect) (q : Req) (hs : rd.scheme = "" ∨ rd.scheme = q.scheme) :
    redirectLocation rd q =
      urlString q.scheme (if rd.host = "" then q.host else rd.host) (if rd.path = "" then q.path else rd.path) q.query := by
  have : getStringOr rd.scheme q.scheme = q.scheme := by
    rw [redirect_spec_defaults]; rcases hs with h | h <;> simp [h]
  simp [redirectLocation, this, redirect_spec_defaults]

/-- the port is dropped exactly for `host:443` when redirecting to http and `host:80` when redirecting to https -/
theorem redirect_port_rule (scheme port : String) :
    stripPort scheme port = ((scheme = "http" ∧ port = "443") ∨ (scheme = "https" ∧ port = "80")) := by
  simp [stripPort]

-- non-vacuity / tests (evaluated): a policy with 2 retries on 503, three hosts round-robin
def exPolicy : Policy := { retryOn := true, numRetries := 2, codes := [503], tryTimeout := true, disable := false }
def exLabels : List Label :=
  [⟨.resp 503, true, some 1⟩, ⟨.connFail, true, some 2⟩, ⟨.remoteReset, true, some 0⟩, ⟨.resp 200, true, some 1⟩]
example : (run exPolicy (some 0) exLabels).trace =
    [.choose 0, .attempt 0 0, .outcome (.resp 503), .choose 1, .attempt 1 1, .outcome .connFail, .choose 2, .attempt 2 2,
     .outcome .remoteReset, .reply 502] := by decide +kernel
example : (run exPolicy (some 0) exLabels).trace = [.choose 0, .attempt 0 0, .outcome (.resp 503)] ++ [.choose 1] ++
    [.attempt 1 1, .outcome .connFail, .choose 2, .attempt 2 2, .outcome .remoteReset, .reply 502] := by decide +kernel
-- the budget is max 3 num_retries: with num_retries = 0 and retry_on, four attempts on four 503s
#guard attemptCount (run { exPolicy with numRetries := 0, codes := [] } (some 0) (List.replicate 9 ⟨.resp 503, true, some 1⟩)).trace == 4
-- the acceptor rejects a retry after a non-retryable outcome, after a reply, and an attempt without host selection
#guard traceOk exPolicy [.choose 0, .attempt 0 0, .outcome .remoteReset, .choose 1, .attempt 1 1] == false
#guard traceOk exPolicy [.choose 0, .attempt 0 0, .outcome (.resp 503), .reply 503, .choose 1, .attempt 1 1] == false
#guard traceOk exPolicy [.choose 0, .attempt 0 0, .outcome (.resp 503), .attempt 1 0] == false
#guard traceOk exPolicy [.choose 0, .attempt 0 0, .outcome .global, .choose 1, .attempt 1 1] == false
#guard traceOk exPolicy [.choose 0, .attempt 0 0, .outcome (.resp 503), .choose 1, .attempt 1 1, .outcome (.resp 200), .reply 200]
example : localReply { hasRoute := true, direct := some ⟨418, "teapot"⟩, redirect := some ⟨301, "https", "", "/n"⟩, hasRule := true, hasSnapshot := true }
    ⟨"http", "a:80", "/x", "k=v"⟩ = some ⟨418, none, "teapot"⟩ := by decide +kernel
#guard redirectLocation ⟨301, "https", "", "/n"⟩ ⟨"http", "a:80", "/x", "k=v"⟩ == "https://a/n?k=v"
#guard redirectLocation ⟨301, "", "b", ""⟩ ⟨"http", "a:80", "/x", ""⟩ == "http://b/x"
#guard finalizePath ⟨"/new", ""⟩ "/old" "/old/rest" id == ("/new/rest", some "/old/rest")

end Retry

/-! ## Part 3 — a hop's route actions on a request that ARRIVES WITH STATE

`Model/RouteFinalize.lean`: `finalizeRequest r s` is `<rule>.FinalizeRequestHeaders` on the request state `s` = (incoming header map,
path variable, host variable); `finalizePathHeader` / `finalizeRequestHeaders` and the call order of the three HTTP rules are
regenerated statement by statement (`Gen/RouteFinalize.lean`) — every read of the header map or of a variable the Go code makes
is part of the function the theorems are about.  All theorems quantify over the WHOLE incoming state: the header map is client
controlled and is written by every MOSN hop before this one. -/
section Finalize
open MosnVerif.Model.RouteFinalize MosnVerif.Gen.RouteFinalize

/-- **finalize_path_spec**: for every route, every incoming header map, host variable and received path, the path variable after
the hop is `rewrite(received path)` — a function of the route and of the received path ONLY -/
theorem finalize_path_spec (r : Route) (s : Req) : (finalizeRequest r s).path = specPath r s.path := by
  rw [finalizeRequest_eq]
  rfl

/-- the path rewrite does not depend on anything the request carries besides the path: two requests with the same received
path — whatever headers (x-mosn-original-path included) and host variable they arrive with — leave the hop with the same path -/
theorem rewrite_ignores_incoming_state (r : Route) (s s' : Req) (hp : s.path = s'.path) :
    (finalizeRequest r s).path = (finalizeRequest r s').path := by
  rw [finalize_path_spec, finalize_path_spec, hp]

/-- **finalize_headers_spec**: every header after the hop, for every incoming header map: the original-path header is the RECEIVED
path whenever a rewrite applied (whatever value arrived in it, whatever the configured mutations do to it); every other header —
and the original-path header when no rewrite applied — is the fold of exactly the configured mutations naming it over the value
that arrived (route → virtual host → router config) -/
theorem finalize_headers_spec (r : Route) (s : Req) (k : String) :
    get (finalizeRequest r s).hdrs k = specHeader r s k := by
  have ho : requestOrder = [.route, .vhost, .router] := by decide
  rw [finalizeRequest_eq]
  unfold pathResult specHeader rewrites
  cases hp : s.path with
  | none => simp [ho, get_finalize]
  | some p =>
    cases hr : specRewrite r p with
    | none => simp [ho, get_finalize, hr]
    | some np =>
      by_cases hk : k = headerOriginalPath
      · subst hk; simp [hr, get_set_same]
      · have hk' : headerOriginalPath ≠ k := fun h => hk h.symm
        simp [hr, hk, get_set_other _ _ _ _ hk', ho, get_finalize]

/-- **original_is_received**: when this hop rewrites, the recorded original path is this hop's received path, regardless of a
pre-existing x-mosn-original-path header -/
theorem original_is_received (r : Route) (s : Req) (p np : String) (hp : s.path = some p) (hr : specRewrite r p = some np) :
    (finalizeRequest r s).path = some np ∧ get (finalizeRequest r s).hdrs headerOriginalPath = some p := by
  constructor
  · rw [finalize_path_spec, hp]; simp [specPath, hr]
  · rw [finalize_headers_spec]; simp [specHeader, rewrites, hp, hr]

/-- prefix rewrite, stated outright: a received path `matched ++ rest` leaves as `prefix_rewrite ++ rest`, recorded original =
received path, for every incoming header map -/
theorem prefix_rewrite_regardless (r : Route) (s : Req) (rest : List Char) (hc : r.cfg.prefixRewrite ≠ "")
    (hp : s.path = some (String.ofList (r.matched.toList ++ rest))) (hne : r.matched.toList ++ rest ≠ []) :
    (finalizeRequest r s).path = some (r.cfg.prefixRewrite ++ String.ofList rest) ∧
    get (finalizeRequest r s).hdrs headerOriginalPath = s.path := by
  have hd : List.drop r.matched.length (r.matched.toList ++ rest) = rest := by
    have : r.matched.length = r.matched.toList.length := String.length_toList.symm
    rw [this, List.drop_left]
  have hr : specRewrite r (String.ofList (r.matched.toList ++ rest)) = some (r.cfg.prefixRewrite ++ String.ofList rest) := by
    simp [specRewrite, hc, hd]
    simpa using hne
  rw [hp]
  exact original_is_received r s _ _ hp hr

/-- **finalize_host_spec**: the host variable after the hop: `host_rewrite` when configured — unconditionally, whatever host
variable / host headers the request arrived with —, else the value of the `auto_host_rewrite_header` header AFTER the header
mutations when present, else (auto_host_rewrite on a STRICT_DNS cluster) the upstream host name, else untouched -/
theorem finalize_host_spec (r : Route) (s : Req) : (finalizeRequest r s).host = specHost r s := by
  rw [finalizeRequest_eq]
  rfl

theorem host_rewrite_regardless (r : Route) (s : Req) (hc : r.cfg.hostRewrite ≠ "") :
    (finalizeRequest r s).host = some r.cfg.hostRewrite := by
  rw [finalize_host_spec]; simp [specHost, hc]

/-- **two_hop**: a MOSN → MOSN chain.  The second hop receives what the first hop produced (its path variable, its headers —
the original-path header the first hop recorded included — and its host variable).  Each hop rewrites ITS OWN received path:
the final path is `rewrite₂(rewrite₁(p))`, and when the second hop rewrites, the recorded original is the path the second hop
received (= `rewrite₁(p)`), not the first hop's. -/
theorem two_hop (r1 r2 : Route) (s : Req) :
    (finalizeRequest r2 (finalizeRequest r1 s)).path = specPath r2 (specPath r1 s.path) ∧
    (rewrites r2 (specPath r1 s.path) = true →
      get (finalizeRequest r2 (finalizeRequest r1 s)).hdrs headerOriginalPath = specPath r1 s.path) := by
  constructor
  · rw [finalize_path_spec, finalize_path_spec]
  · intro h
    rw [finalize_headers_spec]
    simp [specHeader, finalize_path_spec, h]

-- non-vacuity / tests (evaluated)
def exRoute (prw m : String) : Route :=
  { kind := .prefix, matched := m, cfg := ⟨prw, "", false, "up.example", "", false⟩,
    levels := ⟨⟨[⟨"x-a", "1", true⟩], ["x-mosn-original-path"]⟩, ⟨[], []⟩, ⟨[], []⟩⟩, regexReplace := id, env := ⟨false, "", ""⟩ }
def exReq : Req := ⟨[("x-mosn-original-path", "/forged"), ("x-a", "0")], some "/api/users", some "client.host"⟩
example : specRewrite (exRoute "/v2" "/api") "/api/users" = some "/v2/users" := by decide +kernel
example : exReq.path = some (String.ofList ((exRoute "/v2" "/api").matched.toList ++ "/users".toList)) := by decide +kernel
#guard (finalizeRequest (exRoute "/v2" "/api") exReq).path == some "/v2/users"
#guard get (finalizeRequest (exRoute "/v2" "/api") exReq).hdrs "x-mosn-original-path" == some "/api/users"
#guard get (finalizeRequest (exRoute "/v2" "/api") exReq).hdrs "x-a" == some "0,1"
#guard (finalizeRequest (exRoute "/v2" "/api") exReq).host == some "up.example"
-- no rewrite at this hop: the configured removal of the (forged) original-path header is applied
#guard get (finalizeRequest (exRoute "/v2" "/zzz") exReq).hdrs "x-mosn-original-path" == none
-- two hops: the second hop rewrites the path it received and records that one
#guard (finalizeRequest (exRoute "/svc" "/v2") (finalizeRequest (exRoute "/v2" "/api") exReq)).path == some "/svc/users"
#guard get (finalizeRequest (exRoute "/svc" "/v2") (finalizeRequest (exRoute "/v2" "/api") exReq)).hdrs "x-mosn-original-path" == some "/v2/users"
example : rewrites (exRoute "/svc" "/v2") (specPath (exRoute "/v2" "/api") exReq.path) = true := by decide +kernel

end Finalize

/-! ## Part 4 — the parsers are built from the configured fields of their own direction (construction wiring) -/
section Wiring
open MosnVerif.Model.HeaderWiring MosnVerif.Gen.HeaderWiring

/-- **wiring_is_diagonal**: in the table regenerated from `NewConfigImpl` / `NewVirtualHostImpl` / `NewRouteRuleImplBase`,
every level's request parser is built from (request_headers_to_add, request_headers_to_remove) and its response parser from
(response_headers_to_add, response_headers_to_remove) of that level's own configuration object; no slot is missing. -/
theorem wiring_is_diagonal (lv : Level) (d : Dir) : lookup parserWiring lv d = some (diagonalRow lv d) :=
  lookup_parserWiring lv d

/-- `getHeaderParser` (regenerated nil rule) only returns the nil parser when neither list is configured -/
theorem nil_parser_only_when_unconfigured (addsNil removesNil : Bool) (h : parserIsNil addsNil removesNil = true) :
    addsNil = true ∧ removesNil = true := parserIsNil_sound _ _ h

/-- **response_headers_spec**: for EVERY three-level configuration (four independent fields per level, nil or not) and every
incoming response header map, after `FinalizeResponseHeaders` of a rule built from that configuration the value of every
header name is the fold of exactly the RESPONSE-direction mutations naming it — route, then virtual host, then router
configuration (the regenerated `responseOrder`); per level the additions in configured order (append joins onto a non-empty
value, otherwise overwrite), then that level's response removals.  No request-direction field occurs on the right. -/
theorem response_headers_spec (c : Config) (h : Hdrs) (k : String) :
    get (finalizeResponseHeaders c h) k = specValue (specOps (dirLevels c .response)) k (get h k) := by
  unfold finalizeResponseHeaders
  rw [finalizeDir_eq, headers_spec_response]

/-- the request direction, built from configuration -/
theorem request_headers_spec (c : Config) (h : Hdrs) (k : String) :
    get (finalizeRequestMutations c h) k = specValue (specOps (dirLevels c .request)) k (get h k) := by
  unfold finalizeRequestMutations
  rw [finalizeDir_eq, headers_spec_request]

/-- two configurations agree on the fields of direction `d` at every level -/
def sameDirection (c c' : Config) : Dir → Prop
  | .request => ∀ lv, (c.at lv).requestHeadersToAdd = (c'.at lv).requestHeadersToAdd ∧
      (c.at lv).requestHeadersToRemove = (c'.at lv).requestHeadersToRemove
  | .response => ∀ lv, (c.at lv).responseHeadersToAdd = (c'.at lv).responseHeadersToAdd ∧
      (c.at lv).responseHeadersToRemove = (c'.at lv).responseHeadersToRemove

/-- configurations that agree on a direction configure the same mutations for it -/
theorem dirLevels_congr (c c' : Config) (d : Dir) (hs : sameDirection c c' d) : dirLevels c d = dirLevels c' d := by
  cases d
  all_goals
    have h1 := hs .route; have h2 := hs .vhost; have h3 := hs .router
    simp only [Config.at] at h1 h2 h3
    simp only [dirLevels, h1.1, h1.2, h2.1, h2.2, h3.1, h3.2]

/-- **direction_isolation**: whatever is configured for the request direction (at any level) has no effect on responses … -/
theorem direction_isolation (c c' : Config) (hs : sameDirection c c' .response) (h : Hdrs) :
    finalizeResponseHeaders c h = finalizeResponseHeaders c' h := by
  unfold finalizeResponseHeaders
  rw [finalizeDir_eq, finalizeDir_eq, dirLevels_congr c c' .response hs]

/-- … and vice versa -/
theorem direction_isolation_request (c c' : Config) (hs : sameDirection c c' .request) (h : Hdrs) :
    finalizeRequestMutations c h = finalizeRequestMutations c' h := by
  unfold finalizeRequestMutations
  rw [finalizeDir_eq, finalizeDir_eq, dirLevels_congr c c' .request hs]

-- non-vacuity: two configurations that differ in every request field and agree on the response direction
def exCfg : Config :=
  { route := { responseHeadersToAdd := some [⟨"server", "mosn", false⟩] },
    vhost := { responseHeadersToRemove := some ["x-internal"], requestHeadersToRemove := some ["server"] },
    router := { responseHeadersToAdd := some [⟨"x-via", "m", true⟩], requestHeadersToAdd := some [⟨"x-internal", "1", true⟩] } }
def exCfg' : Config :=
  { route := { responseHeadersToAdd := some [⟨"server", "mosn", false⟩], requestHeadersToRemove := some ["x-via"] },
    vhost := { responseHeadersToRemove := some ["x-internal"] },
    router := { responseHeadersToAdd := some [⟨"x-via", "m", true⟩] } }
example : sameDirection exCfg exCfg' .response := by intro lv; cases lv <;> exact ⟨rfl, rfl⟩
example : isDiagonal parserWiring = true := by decide +kernel
-- tests (evaluated): a virtual host configuring ONLY response removals gets a parser and the removal is applied;
-- its request removal of `server` does not touch the response
#guard get (finalizeResponseHeaders exCfg [("x-internal", "7"), ("server", "up"), ("x-via", "a")]) "x-internal" == none
#guard get (finalizeResponseHeaders exCfg [("x-internal", "7"), ("server", "up"), ("x-via", "a")]) "server" == some "mosn"
#guard get (finalizeResponseHeaders exCfg [("x-internal", "7"), ("server", "up"), ("x-via", "a")]) "x-via" == some "a,m"
#guard get (finalizeRequestMutations exCfg [("x-internal", "7"), ("server", "up")]) "server" == none
#guard get (finalizeRequestMutations exCfg [("x-internal", "7"), ("server", "up")]) "x-internal" == some "7,1"

/-- negation witness: with the crossed table (virtual-host response parser fed the REQUEST removals) the table is not
diagonal, the response spec fails — the configured response removal is not applied, a request removal is applied to the
response — and, for a virtual host that only configures response removals, no parser is built at all -/
example : isDiagonal crossedWiring = false := by decide +kernel
example : get (finalizeDir crossedWiring responseOrder exCfg .response [("x-internal", "7"), ("server", "up")]) "x-internal"
    ≠ specValue (specOps (dirLevels exCfg .response)) "x-internal" (some "7") := by decide +kernel
example : (builtParser crossedWiring exCfg' .vhost .response).isNone = true := by decide +kernel
example : (builtParser parserWiring exCfg' .vhost .response).isSome = true := by decide +kernel

end Wiring

/-! ## Part 5 — the retry policy is built from the configuration for EVERY value of `retry_on`, and what the proxy reads of it

`Model/RetryPolicy.lean` over `Gen.RetryPolicyBuild` (construction guard and field expressions of `NewRouteRuleImplBase`, the four
accessors of `retryPolicyImpl` with their nil answers), composed with the regenerated `parseProxyTimeout` (Part 1) and the
attempt machine (Part 2). -/
section PolicyBuild
open MosnVerif.Model.Retry MosnVerif.Model.RetryPolicy MosnVerif.Gen.RetryPolicyBuild

/-- **policy_fields_follow_config**: for every configured `retry_policy` — every `retry_on`, per-try timeout, `num_retries`, status
code list — each configured field is what its accessor answers (`RetryOn()`, `TryTimeout()`, `NumRetries()`,
`RetryableStatusCodes()`); a route without `retry_policy` answers false / 0 / 0 / no codes. In particular `retry_on = false`
does not hide `retry_timeout` and `num_retries` from the proxy. -/
theorem policy_fields_follow_config (cfg : Option RetryCfg) : effectivePolicy cfg = specEffective cfg := by
  cases cfg with
  | none => simp [effectivePolicy, build, buildCond, accessors, specEffective, accRetryOn, accTryTimeout, accNumRetries, accStatusCodes]
  | some c =>
    obtain ⟨ro, rt, nr, sc⟩ := c
    cases ro <;>
      simp [effectivePolicy, build, buildCond, accessors, specEffective, accRetryOn, accTryTimeout, accNumRetries, accStatusCodes,
        fieldRetryOn, fieldRetryTimeout, fieldNumRetries, fieldStatusCodes, Model.RetryPolicy.codesInt]

/-- the same, field by field, for a configured policy -/
theorem policy_fields_reach_accessors (c : RetryCfg) :
    (effectivePolicy (some c)).retryOn = c.retryOn ∧ (effectivePolicy (some c)).tryTimeout = c.retryTimeout ∧
    (effectivePolicy (some c)).numRetries = (c.numRetries : Int) ∧ (effectivePolicy (some c)).statusCodes = c.statusCodes.map Int.ofNat := by
  rw [policy_fields_follow_config]; exact ⟨rfl, rfl, rfl, rfl⟩

/-- **try_timeout_effective**: the effective timeouts of a request on a route with a configured `retry_policy` are those of
`timeout_precedence` with the CONFIGURED `retry_timeout` in the route's place — for both values of `retry_on`, every header /
variable content and every integer parser. -/
theorem try_timeout_effective (parseInt : String → Option Int) (c : RetryCfg) (rg : Int) (hT hG vT vG : Option String) :
    effectiveTimeouts parseInt (some c) rg hT hG vT vG =
      (specGlobal parseInt 0 true rg hG vG, specTry parseInt 0 0 true rg c.retryTimeout hT hG vT vG) := by
  unfold effectiveTimeouts
  rw [timeout_precedence, (policy_fields_reach_accessors c).2.1]

/-- … and when neither a per-try header nor a per-try variable overrides (absent or not numeric), the per-try timeout of the
request IS the route's `retry_timeout` (disabled only when it is not below the effective global timeout) — whatever `retry_on` -/
theorem try_timeout_effective_route (parseInt : String → Option Int) (c : RetryCfg) (rg : Int) (hT hG vT vG : Option String)
    (h1 : hT.bind parseInt = none) (h2 : vT.bind parseInt = none) :
    (effectiveTimeouts parseInt (some c) rg hT hG vT vG).2 =
      if c.retryTimeout ≥ specGlobal parseInt 0 true rg hG vG then 0 else c.retryTimeout := by
  rw [try_timeout_effective]
  simp [specTry, pickTimeout, h1, h2]

/-- a per-try timer is armed for the attempts of such a request iff the configured `retry_timeout` is positive and below the global
timeout: the silent upstream is cut after `retry_timeout`, not after the global timeout -/
theorem try_timer_armed (parseInt : String → Option Int) (c : RetryCfg) (rg : Int) (hG vG : Option String) (dis : Bool)
    (hpos : 0 < c.retryTimeout) (hlt : c.retryTimeout < specGlobal parseInt 0 true rg hG vG) :
    (routePolicy parseInt (some c) rg none hG none vG dis).tryTimeout = true := by
  unfold routePolicy machinePolicy
  rw [try_timeout_effective_route parseInt c rg none hG none vG rfl rfl]
  have : ¬ c.retryTimeout ≥ specGlobal parseInt 0 true rg hG vG := by omega
  simp [this, hpos]

/-- the machine policy of a configured route: `retry_on`, `num_retries` and the code list are the configured ones -/
theorem route_policy_fields (parseInt : String → Option Int) (c : RetryCfg) (rg : Int) (hT hG vT vG : Option String) (dis : Bool) :
    let p := routePolicy parseInt (some c) rg hT hG vT vG dis
    p.retryOn = c.retryOn ∧ p.numRetries = c.numRetries ∧ p.codes = c.statusCodes ∧ p.disable = dis := by
  simp only [routePolicy, machinePolicy, policy_fields_follow_config, specEffective, toNat_codes]
  simp

/-- all labels are connect failures (stream reset ConnectionFailed or `pool.NewStream` refused with ConnectionFailure) with an
admitting breaker and a healthy next host -/
def ConnectFailures (ls : List Label) : Prop :=
  ∀ l ∈ ls, (l.o = .connFail ∨ l.o = .poolConnFail) ∧ l.canCreate = true ∧ l.host.isSome = true

/-- **connect_failure_budget_exact**: on a route with a configured `retry_policy`, a request whose attempts all end in a connect
failure makes EXACTLY `1 + min k (max 3 num_retries)` upstream attempts for `k` failures — so exactly `1 + max 3 num_retries`
once there are enough failures — REGARDLESS of `retry_on` (retries not disabled for the request), for every timeout source. -/
theorem connect_failure_budget_exact (parseInt : String → Option Int) (c : RetryCfg) (rg : Int) (hT hG vT vG : Option String)
    (h0 : Nat) (ls : List Label) (hcf : ConnectFailures ls) :
    attemptCount (run (routePolicy parseInt (some c) rg hT hG vT vG false) (some h0) ls).trace
      = 1 + min ls.length (max 3 c.numRetries) := by
  have hf := route_policy_fields parseInt c rg hT hG vT vG false
  simp only at hf
  rw [run_retried_count _ h0 ls, hf.2.1]
  intro l hl
  obtain ⟨ho, hcc, hh⟩ := hcf l hl
  refine ⟨?_, hcc, hh, ?_⟩
  · rcases ho with ho | ho <;> simp [ho, retryable, hf.2.2.2]
  · rcases ho with ho | ho <;> simp [ho]

/-- the other retryable causes (a listed status code / any 5xx without a list, connection termination, per-try timeout) use the
same budget ONLY with `retry_on` … -/
theorem other_causes_budget_with_retry_on (p : Policy) (h0 : Nat) (ls : List Label) (hall : AllRetried p ls) :
    attemptCount (run p (some h0) ls).trace = 1 + min ls.length (max 3 p.numRetries) :=
  run_retried_count p h0 ls hall

/-- … and without `retry_on` none of them is retried: exactly one attempt, whatever follows -/
theorem other_causes_not_retried_without_retry_on (p : Policy) (h0 : Nat) (l : Label) (ls : List Label) (hro : p.retryOn = false)
    (ho : (∃ c, l.o = .resp c) ∨ l.o = .termination ∨ l.o = .perTry) (hpt : l.o = .perTry → p.tryTimeout = true) :
    attemptCount (run p (some h0) (l :: ls)).trace = 1 := by
  apply run_not_retried_count p h0 l ls _ hpt
  rcases ho with ⟨c, ho⟩ | ho | ho <;> simp [ho, retryable, hro]

-- non-vacuity and the seeded defect class: retry_on = false with a per-try timeout and num_retries above the floor
def exCfgOff : RetryCfg := { retryOn := false, retryTimeout := 200000000, numRetries := 5, statusCodes := [] }
def exFails (k : Nat) : List Label := (List.range k).map (fun i => failLabel (if i % 2 = 0 then .poolConnFail else .connFail) (i + 1))

example : effectivePolicy (some exCfgOff) = ⟨false, 200000000, 5, []⟩ := by decide +kernel
example : (effectiveTimeouts (fun _ => none) (some exCfgOff) 5000000000 none none none none) = (5000000000, 200000000) := by decide +kernel
example : ConnectFailures (exFails 8) := by unfold ConnectFailures; decide +kernel
example : attemptCount (run (routePolicy (fun _ => none) (some exCfgOff) 5000000000 none none none none false) (some 0) (exFails 8)).trace = 6 := by decide +kernel
example : AllRetried { retryOn := true, numRetries := 4, codes := [], tryTimeout := true, disable := false }
    [failLabel (.resp 503) 1, failLabel .perTry 2, failLabel .termination 3] := by unfold AllRetried; decide +kernel
/-- negation witness: a construction guarded by `retry_on` (`if retry_policy != nil && retry_policy.retry_on`) hides the per-try
timeout and the configured budget of such a route: accessors of the nil policy -/
def guardedBuild (cfg : Option RetryCfg) : Option Built :=
  match cfg with
  | some c => if c.retryOn then build (some c) else none
  | none => none
example : accessors (guardedBuild (some exCfgOff)) = ⟨false, 0, 0, []⟩ := by decide +kernel
example : accessors (guardedBuild (some exCfgOff)) ≠ specEffective (some exCfgOff) := by decide +kernel
example : (parseProxyTimeout (fun _ => none) 0 0 true 5000000000 (accessors (guardedBuild (some exCfgOff))).tryTimeout none none none none).2 = 0 := by decide +kernel
example : attemptCount (run (machinePolicy (accessors (guardedBuild (some exCfgOff))) 0 false) (some 0) (exFails 8)).trace = 4 := by decide +kernel

end PolicyBuild

/-! ## Part 6 — header mutations over the REAL protocol header maps

`Model/HeaderMaps.lean`: the interface `HMap` (get / set / add / del + range, names identified through `norm`) with the
instances `common` (protocol.CommonHeader), `fh kind` (HTTP/1: fasthttp request / response header behind MOSN's wrapper),
`h2` (HTTP/2: net/http.Header), `bolt` (xprotocol key-value list with its `Changed` flag); `evaluateHeaders` regenerated
statement by statement (`Gen.HeaderEval`: which of Get / Set / Del is called with which name and value under which
condition), the wiring table and the level order regenerated as in Part 4. -/
section HeaderMapsPart
open MosnVerif.Model.HeaderMaps MosnVerif.Model.HeaderWiring MosnVerif.Gen.HeaderWiring

/-- **mutation_spec_generic**: for EVERY header map that satisfies `HeaderMapLaws` (for an observation `obs` of it: what
`Get` answers, or the first value the printed header shows), every three-level mutation configuration whose names the laws
cover, every well-formed initial map and every header name: after `Finalize{Request,Response}Headers` the observation of
that header is — up to blank (absent = present-but-empty) — the fold, in the order route → virtual host → router
configuration, additions then removals within a level, of exactly the mutations whose name the map identifies with it, by
the documented rule (`stepVal`: append joins with "," onto a non-empty value, otherwise overwrite; removal deletes).
`headers_spec_request/response` are the instance `common` (exact, see `mutation_spec_generic_strict`). -/
theorem mutation_spec_generic {M : Type} (I : HMap M) (Inv : M → Prop) (ok : String → Prop) (obs : M → String → Option String)
    (L : HeaderMapLaws I Inv ok obs) (l : Levels) (m : M) (hm : Inv m) (hok : ∀ o ∈ specOps l, ok o.key) (k : String) :
    BlankEq (obs (Model.HeaderMaps.finalize I requestOrder l m) k) (specValueN I.norm (specOps l) k (obs m k)) ∧
    BlankEq (obs (Model.HeaderMaps.finalize I responseOrder l m) k) (specValueN I.norm (specOps l) k (obs m k)) := by
  -- both regenerated orders are route, virtual host, router
  have h := Model.HeaderMaps.finalize_eq_ops I l m ▸ obs_foldl_ops L (specOps l) m k hm hok
  exact ⟨h, h⟩

/-- **mutation_spec_generic_strict**: under the exact laws (reading back gives exactly the value set, nothing after a
removal) the observation after the mutations EQUALS the reference -/
theorem mutation_spec_generic_strict {M : Type} (I : HMap M) (Inv : M → Prop) (ok : String → Prop) (obs : M → String → Option String)
    (L : HeaderMapLawsStrict I Inv ok obs) (l : Levels) (m : M) (hm : Inv m) (hok : ∀ o ∈ specOps l, ok o.key) (k : String) :
    obs (Model.HeaderMaps.finalize I requestOrder l m) k = specValueN I.norm (specOps l) k (obs m k) ∧
    obs (Model.HeaderMaps.finalize I responseOrder l m) k = specValueN I.norm (specOps l) k (obs m k) := by
  have h := Model.HeaderMaps.finalize_eq_ops I l m ▸ obs_foldl_ops_strict L (specOps l) m k hm hok
  exact ⟨h, h⟩

/-- **mutation_spec_from_config**: the same for a rule built by `router.NewRouters` FROM CONFIGURATION (regenerated wiring
table, nil-parser rule and level order) on any lawful protocol map: only that direction's fields count -/
theorem mutation_spec_from_config {M : Type} (I : HMap M) (Inv : M → Prop) (ok : String → Prop) (obs : M → String → Option String)
    (L : HeaderMapLaws I Inv ok obs) (c : Config) (d : Dir) (m : M) (hm : Inv m)
    (hok : ∀ o ∈ specOps (dirLevels c d), ok o.key) (k : String) :
    BlankEq (obs (finalizeBuilt I c d m) k) (specValueN I.norm (specOps (dirLevels c d)) k (obs m k)) := by
  rw [finalizeBuilt_eq_ops]
  exact obs_foldl_ops L _ m k hm hok

/-- untouched_preserved, generic: a header no configured mutation names (in the map's normal form) keeps its observation -/
theorem untouched_preserved_generic {M : Type} (I : HMap M) (Inv : M → Prop) (ok : String → Prop) (obs : M → String → Option String)
    (L : HeaderMapLaws I Inv ok obs) (l : Levels) (m : M) (hm : Inv m) (hok : ∀ o ∈ specOps l, ok o.key) (k : String)
    (hk : ∀ o ∈ specOps l, I.norm o.key ≠ I.norm k) :
    BlankEq (obs (Model.HeaderMaps.finalize I requestOrder l m) k) (obs m k) := by
  have h := (mutation_spec_generic I Inv ok obs L l m hm hok k).1
  rwa [specValueN_untouched I.norm _ k _ hk] at h

/-- removed_absent, generic: if the last mutation naming `k` is a removal, the header is absent (or, on a map that cannot
tell, empty) -/
theorem removed_absent_generic {M : Type} (I : HMap M) (Inv : M → Prop) (ok : String → Prop) (obs : M → String → Option String)
    (L : HeaderMapLaws I Inv ok obs) (l : Levels) (m : M) (hm : Inv m) (hok : ∀ o ∈ specOps l, ok o.key) (k r : String)
    (pre post : List Op) (hr : I.norm r = I.norm k)
    (hs : specOps l = pre ++ [.remove r] ++ post) (hpost : ∀ o ∈ post, I.norm o.key ≠ I.norm k) :
    isBlank (obs (Model.HeaderMaps.finalize I requestOrder l m) k) = true := by
  have h := (mutation_spec_generic I Inv ok obs L l m hm hok k).1
  rw [hs, specValueN_last I.norm pre post (.remove r) k _ hr hpost, stepVal_remove] at h
  rcases h with h | ⟨h, _⟩
  · rw [h]; rfl
  · exact h

/-- overwrite_last, generic: if the last mutation naming `k` is an addition with append=false, the header has exactly the
configured value (when that value is not empty; an empty one may show as absent) -/
theorem overwrite_last_generic {M : Type} (I : HMap M) (Inv : M → Prop) (ok : String → Prop) (obs : M → String → Option String)
    (L : HeaderMapLaws I Inv ok obs) (l : Levels) (m : M) (hm : Inv m) (hok : ∀ o ∈ specOps l, ok o.key) (a : Add)
    (pre post : List Op) (ha : a.append = false) (hv : a.value ≠ "")
    (hs : specOps l = pre ++ [.add a] ++ post) (hpost : ∀ o ∈ post, I.norm o.key ≠ I.norm a.name) :
    obs (Model.HeaderMaps.finalize I requestOrder l m) a.name = some a.value := by
  have h := (mutation_spec_generic I Inv ok obs L l m hm hok a.name).1
  rw [hs, specValueN_last I.norm pre post (.add a) a.name _ rfl hpost, stepVal_overwrite _ a ha] at h
  exact h.eq_of_nonblank (isBlank_some_ne hv)


/-- protocol.CommonHeader: exact laws, every name, every map, observation = `Get` -/
theorem common_header_laws : HeaderMapLawsStrict common (fun _ => True) (fun _ => True) Model.Headers.get := common_laws

/-- HTTP/2 (net/http.Header): exact laws for the first value held under a name (every name, every map, repeated values
included); `Get` agrees with it up to blank -/
theorem http2_header_laws : HeaderMapLawsStrict h2 (fun _ => True) (fun _ => True) h2First := h2_laws

/-- bolt: exact laws, every name, on frames without a repeated key (kept by `Set` and `Del`); observation = `Get` -/
theorem bolt_header_laws : HeaderMapLawsStrict bolt boltNoDup (fun _ => True) boltGet := bolt_laws

/-- HTTP/1 (fasthttp request and response header): the laws for every PLAIN name — every name but the cookie header
(`Set` adds), the names fasthttp swallows (Transfer-Encoding, Date) and the unmodelled framing names (Content-Length,
Connection, Trailer) —, mixed-case spellings and dedicated fields (Host / Content-Type / User-Agent resp. Content-Type /
Content-Encoding / Server) included; the one inexact law: a dedicated field SET TO THE EMPTY VALUE is not printed -/
theorem fasthttp_header_laws (kind : FhKind) :
    HeaderMapLaws (fh kind) (fhInv kind) (fun k => fhPlain kind k = true) (fhObs kind) := fh_laws kind

/-- the fasthttp observation is what the printed header (VisitAll, and the re-parsed wire text) shows first under the name -/
theorem fasthttp_obs_is_printed (kind : FhKind) (m : Fh) (k : String) (hi : fhInv kind m) (h : fhPlain kind k = true) :
    look (fh kind) m k = fhObs kind m k := fh_look_eq_obs kind m k hi h

/-- **fasthttp_mutation_spec**: HTTP/1, rule built from configuration: the first line the printed header shows under any
plain name after the hop = the reference over the mutations of that direction whose (case-insensitively, `Foo-Bar`
normalised) name it is -/
theorem fasthttp_mutation_spec (kind : FhKind) (c : Config) (d : Dir) (m : Fh) (hm : fhInv kind m)
    (hok : ∀ o ∈ specOps (dirLevels c d), fhPlain kind o.key = true) (k : String) (hk : fhPlain kind k = true) :
    BlankEq (look (fh kind) (finalizeBuilt (fh kind) c d m) k) (specValueN fhNorm (specOps (dirLevels c d)) k (look (fh kind) m k)) := by
  have hinv : fhInv kind (finalizeBuilt (fh kind) c d m) := by
    rw [finalizeBuilt_eq_ops]
    exact inv_foldl_ops (fh_laws kind) _ m hm hok
  rw [fh_look_eq_obs kind _ k hinv hk, fh_look_eq_obs kind m k hm hk]
  exact mutation_spec_from_config (fh kind) _ _ _ (fh_laws kind) c d m hm hok k

/-- HTTP/2 and bolt, rule built from configuration: exact -/
theorem http2_mutation_spec (c : Config) (d : Dir) (m : H2) (k : String) :
    h2First (finalizeBuilt h2 c d m) k = specValueN h2Norm (specOps (dirLevels c d)) k (h2First m k) := by
  rw [finalizeBuilt_eq_ops]
  exact obs_foldl_ops_strict h2_laws _ m k trivial (fun _ _ => trivial)

theorem bolt_mutation_spec (c : Config) (d : Dir) (m : Bolt) (hm : boltNoDup m) (k : String) :
    boltGet (finalizeBuilt bolt c d m) k = specValueN id (specOps (dirLevels c d)) k (boltGet m k) := by
  rw [finalizeBuilt_eq_ops]
  exact obs_foldl_ops_strict bolt_laws _ m k hm (fun _ _ => trivial)


/-- overwrite on fasthttp leaves ONE line with the configured value however many lines of the name arrived (since fix
5cb32f369 of /repo; `Set` alone replaces only the first: witness below) -/
theorem fasthttp_overwrite_one_line (kind : FhKind) (m : Fh) (a : Add) (ha : a.append = false)
    (h : fhPlain kind a.name = true) (hs : kind.singles.contains (fhNorm a.name) = false) :
    fhLines (applyAdd (fh kind) m a) (fhNorm a.name) = [a.value] := by
  rw [applyAdd_overwrite _ _ _ ha]
  simp only [fh, fhLines]
  rw [fhSet_plain _ _ _ _ h, fhDel_plain _ _ _ h]
  simp only [hs, Bool.false_eq_true, if_false, filter_setFirst, filter_filter_ne]
  rfl

/-- overwrite on net/http.Header leaves exactly the configured value, whatever list was there -/
theorem http2_overwrite_one_value (m : H2) (a : Add) (ha : a.append = false) :
    vals h2 (applyAdd h2 m a) a.name = [a.value] := by
  rw [applyAdd_overwrite _ _ _ ha]
  simp only [vals, h2, h2Range, h2Set, h2Del, List.flatMap_cons, List.map_cons, List.map_nil,
    List.filterMap_cons, beq_self_eq_true, if_true, List.singleton_append]
  congr 1
  rw [List.filterMap_eq_nil_iff]
  intro e he
  obtain ⟨x, hx, hxe⟩ := List.mem_flatMap.mp he
  have hk : ¬ x.1 = h2Norm a.name := by simpa using (List.mem_filter.mp hx).2
  obtain ⟨v, _, hve⟩ := List.mem_map.mp hxe
  rw [← hve]
  simp [hk]

/-- overwrite of the request cookies leaves exactly the configured cookies -/
theorem fasthttp_cookie_overwrite (m : Fh) (v : String) (hv : v ≠ "") :
    (applyAdd (fh .request) m ⟨"cookie", v, false⟩).cookies = parseCookies v ∧
    (applyAdd (fh .request) m ⟨"cookie", v, false⟩).h.filter (fun e => e.1 == "Cookie") = [] := by
  -- since fix 5cb32f369 of /repo the addition deletes first: `Set` alone would have added the cookies to the client's
  rw [applyAdd_overwrite _ _ _ rfl]
  have hb : (v == "") = false := by simpa using hv
  have hs : FhKind.request.singles.contains "Cookie" = false := by decide
  have hc : FhKind.request.cookieKey = "Cookie" := rfl
  simp only [fh, fhSet, hb, Bool.false_eq_true, if_false, fhRawSet, fhDel, fhNorm_cookie, hs, hc, beq_self_eq_true, if_true]
  unfold fhCollect
  simp only
  split
  · simp
  · have : (List.filter (fun e => e.1 == "Cookie") (List.filter (fun e => !(e.1 == "Cookie")) m.h)) = [] := filter_filter_ne _ _
    simp [this]

/-- an addition always marks the bolt frame changed (the encoder then re-serialises the header block instead of re-sending
the raw bytes: the mutation reaches the wire); a removal marks it when it removed something -/
theorem bolt_addition_marks_changed (m : Bolt) (a : Add) : (applyAdd bolt m a).changed = true := by
  obtain ⟨v, _, he⟩ := applyAdd_eq bolt m a
  rw [he]
  rfl

theorem bolt_removal_marks_changed (m : Bolt) (k : String) (h : m.kvs.any (·.1 == k) = true) :
    (applyRemove bolt m k).changed = true := by
  simp [applyRemove, removeStep_eq, HMap.ops, bolt, boltDel, h]

-- non-vacuity: maps meeting the invariants, configurations meeting `hok`
example : fhInv .request (fhDecode .request [("X-A", "1"), ("x-a", "2"), ("Host", "h"), ("Cookie", "a=1")]) := by
  constructor
  · decide
  · intro h; cases h
example : fhPlain .request "fOo-bAr" = true ∧ fhPlain .request "host" = true ∧ fhPlain .request "cookie" = false := by decide +kernel
example : boltNoDup ⟨[("service", "s"), ("Service", "S")], false⟩ := by unfold boltNoDup; decide +kernel
-- tests (evaluated): mixed-case removal, dedicated field, repeated line, per instance
example : fhRange .request (applyRemove (fh .request) (fhDecode .request [("fOo-bAr", "1"), ("FOO-BAR", "2"), ("x-b", "3")]) "foo-bar") = [("X-B", "3")] := by decide +kernel
example : fhRange .request (applyAdd (fh .request) (fhDecode .request [("Host", "h1")]) ⟨"host", "h2", false⟩) = [("Host", "h2")] := by decide +kernel
example : fhRange .request (applyAdd (fh .request) (fhDecode .request [("Host", "h1")]) ⟨"host", "", false⟩) = [] := by decide +kernel
example : fhRange .request (applyAdd (fh .request) (fhDecode .request [("X-A", "1"), ("x-a", "2")]) ⟨"x-a", "n", true⟩) = [("X-A", "1,n"), ("X-A", "2")] := by decide +kernel
example : fhRange .request (applyAdd (fh .request) (fhDecode .request [("X-A", "1"), ("x-a", "2")]) ⟨"x-a", "n", false⟩) = [("X-A", "n")] := by decide +kernel
/-- why the overwrite deletes first: `Set` alone replaces only the first of two lines / adds to the cookies -/
example : fhRange .request (fhSet .request (fhDecode .request [("X-A", "1"), ("x-a", "2")]) "x-a" "n") = [("X-A", "n"), ("X-A", "2")] := by decide +kernel
example : fhRange .request (fhSet .request (fhDecode .request [("Cookie", "a=1")]) "cookie" "c=3") = [("Cookie", "a=1; c=3")] := by decide +kernel
/-- stated exceptions (KNOWN_FINDINGS, classes x-h2-multi-append / x-bolt-dup-del / x-h1-cookie-append): machine-checked witnesses
that the multi-valued reference `stepVals` is NOT met there -/
example : h2Range (applyAdd h2 [("X-A", ["1", "2"])] ⟨"x-a", "n", true⟩) = [("X-A", "1,n")] ∧
    stepVals ["1", "2"] (.add ⟨"x-a", "n", true⟩) = ["1,n", "2"] := by decide +kernel
example : (applyRemove bolt ⟨[("k", "1"), ("k", "2")], false⟩ "k").kvs = [("k", "2")] ∧ stepVals ["1", "2"] (.remove "k") = [] := by decide +kernel
example : (applyAdd bolt ⟨[("k", "1"), ("k", "2"), ("k", "3")], false⟩ ⟨"k", "n", false⟩).kvs = [("k", "n"), ("k", "3")] := by decide +kernel
example : fhRange .request (applyAdd (fh .request) (fhDecode .request [("Cookie", "a=1")]) ⟨"cookie", "c=3", true⟩) = [("Cookie", "a=1; a=1,c=3")] := by decide +kernel
/-- a response header that still invents a Content-Type (before fix f5356a29e of /repo): the append lands on a value never sent -/
example : fhGet .response { (fhDecode .response [("x-a", "1")]) with noDefaultCT := false } "content-type" = some "text/plain; charset=utf-8" ∧
    fhGet .response (fhDecode .response [("x-a", "1")]) "content-type" = none := by decide +kernel

end HeaderMapsPart

/-! ### auto_host_rewrite on a STRICT_DNS cluster (third host-rewrite branch; driven through the proxy core by kind `ah`) -/
section AutoHost
open MosnVerif.Model.RouteFinalize MosnVerif.Gen.RouteFinalize

/-- **auto_host_rewrite_strict_dns**: with neither `host_rewrite` nor `auto_host_rewrite_header` configured,
`auto_host_rewrite` on a route whose cluster (snapshot of the cluster manager) is of type STRICT_DNS sets the host variable
to the hostname of the upstream host selected for the request — whatever host the request arrived with, for every header
mutation configuration -/
theorem auto_host_rewrite_strict_dns (r : Route) (s : Req) (h1 : r.cfg.hostRewrite = "") (h2 : r.cfg.autoHostRewriteHeader = "")
    (h3 : r.cfg.autoHostRewrite = true) (h4 : r.env.hasSnapshot = true) (h5 : r.env.clusterType = strictDNSCluster) :
    (finalizeRequest r s).host = some r.env.upstreamHostname := by
  rw [finalize_host_spec]; simp [specHost, h1, h2, h3, h4, h5]

/-- … and leaves it alone on a cluster of any other type, on a route whose cluster has no snapshot, or when switched off -/
theorem auto_host_rewrite_only_strict_dns (r : Route) (s : Req) (h1 : r.cfg.hostRewrite = "") (h2 : r.cfg.autoHostRewriteHeader = "")
    (h : r.cfg.autoHostRewrite = false ∨ r.env.hasSnapshot = false ∨ r.env.clusterType ≠ strictDNSCluster) :
    (finalizeRequest r s).host = s.host := by
  rw [finalize_host_spec]
  rcases h with h | h | h <;> simp [specHost, h1, h2, h]

def exAutoRoute (hostname : String) : Route :=
  { kind := .prefix, matched := "/", cfg := ⟨"", "", false, "", "", true⟩, levels := ⟨⟨[], []⟩, ⟨[], []⟩, ⟨[], []⟩⟩,
    regexReplace := id, env := ⟨true, "STRICT_DNS", hostname⟩ }
example : (finalizeRequest (exAutoRoute "h0.up.example") ⟨[], some "/a", some "orig.example"⟩).host = some "h0.up.example" := by decide +kernel
/-- **auto_host_rewrite_per_attempt_partial** — full statement: EVERY upstream attempt carries the hostname of ITS OWN
selected host. What holds: the first attempt does (theorem above); `doRetry` selects a new host and re-sends what the one
`FinalizeRequestHeaders` call left, so a retried attempt on host h1 carries h0's name (finding, kind `ah` retry cases).
Machine-checked negation witness: the value left for host h0 is not the reference for host h1. -/
theorem auto_host_rewrite_per_attempt_partial (r : Route) (s : Req) :
    (finalizeRequest r s).host = specHost r s := finalize_host_spec r s
example : (finalizeRequest (exAutoRoute "h0.up.example") ⟨[], some "/a", none⟩).host ≠
    specHost (exAutoRoute "h1.up.example") ⟨[], some "/a", none⟩ := by decide +kernel

end AutoHost

/-! ## Part 7 — the per-try timeout is armed for EVERY attempt, the last one the budget allows included

`Gen.PerTryArm` (regenerated from pkg/proxy/downstream.go): `armCond` = the full condition under which
`setupPerReqTimeout` creates the timer (early returns negated, enclosing conditions conjoined), its call sites
(`onUpstreamRequestSent` for the first attempt, `doRetry` for every retried one), the tests of the timer callback and what
`onPerReqTimeout` / `onResponseTimeout` hand on. `Model/PerTryArm.lean` evaluates it for every attempt the attempt machine of
Part 2 creates, on the state `setupPerReqTimeout` sees at that moment (budget left AFTER the retry decision, retry_on, …). -/
section PerTryTimer
open MosnVerif.Model.PerTryArm MosnVerif.Gen.PerTryArm MosnVerif.Model.Retry MosnVerif.Gen.RetryState

/-- **per_try_arm_condition_exact**: the regenerated condition under which the per-try timer is created is exactly
`TryTimeout > 0` — whatever the retry state, the budget left, retry_on, num_retries, the attempt … (a guard on any of them
makes the regenerated expression differ and this proof fail) -/
theorem per_try_arm_condition_exact (a : ArmState) : armCond a = decide (a.tryTimeout > 0) := armCond_exact a

/-- both call sites arm: the first complete send of a two-way request, and `doRetry` on either of its routes (global timer
already armed / not yet), after the request of the new attempt was handed to the upstream stream, with the request's per-try
timeout as duration -/
theorem per_try_arm_call_sites :
    requestSentArms true false = true ∧ (∀ g, doRetryCall g ≠ .none) ∧ doRetryArmsAfterSend = true ∧ armDurationIsTryTimeout = true :=
  ⟨requestSentArms_two_way, doRetryCall_arms, by decide, by decide⟩

/-- what the timer callback tests before it acts (stream cleaned, generation changed, response slot lost), then `onPerReqTimeout` -/
theorem per_try_callback_guards :
    callbackGuards = ["cleaned", "idChanged", "casLost"] ∧ callbackAction = "s.onPerReqTimeout" ∧
    perTryActsWhen = "!s.downstreamResponseStarted" ∧ perTryResetsUpstream = true := ⟨rfl, rfl, rfl, rfl⟩

/-- **per_try_timer_armed_every_attempt**: for EVERY retry policy (retry_on, num_retries, codes, disable), every first host
selection, EVERY history of outcomes and oracle answers and either state of the global timer at each retry: with an
effective per-try timeout > 0, every attempt the machine creates — one log entry per `pool.NewStream`, at most
1 + max 3 num_retries of them — has its per-try timer armed; in particular the LAST attempt the budget allows (created
with `retiesRemaining = 0`). -/
theorem per_try_timer_armed_every_attempt (p : Policy) (tryT : Int) (g : Nat → Bool) (host0 : Option Nat) (ls : List Label)
    (h : tryT > 0) :
    (armLog p tryT g host0 ls).length = attemptCount (run p host0 ls).trace ∧
    (∀ b ∈ armLog p tryT g host0 ls, b = true) ∧
    (armLog p tryT g host0 ls).length ≤ 1 + max 3 p.numRetries := by
  obtain ⟨h1, h2⟩ := armLog_armed p tryT g host0 ls h
  have hlen := h1.trans (run_good p host0 ls).count.symm
  exact ⟨hlen, h2, hlen ▸ attempts_bounded p host0 ls⟩

/-- **silent_attempt_bounded_by_try_timeout**: a SILENT attempt number k (no upstream event) whose request was sent at
`sent` ends at `sent + TryTimeout`, by the per-try timer, whenever that is before the global deadline — for EVERY attempt
k of every run, the last one included -/
theorem silent_attempt_bounded_by_try_timeout (p : Policy) (tryT : Int) (g : Nat → Bool) (host0 : Option Nat) (ls : List Label)
    (h : tryT > 0) (k : Nat) (hk : k < (armLog p tryT g host0 ls).length) (sent deadline : Int) (hd : sent + tryT < deadline) :
    silentEnd ((armLog p tryT g host0 ls)[k]) sent tryT deadline = (sent + tryT, .perTry) := by
  have hb := (per_try_timer_armed_every_attempt p tryT g host0 ls h).2.1 _ (List.getElem_mem hk)
  simp [silentEnd, hb, hd]

/-- tie with `try_below_global`: with the effective timeouts the regenerated `parseProxyTimeout` computes, a silent attempt
sent when the global timer starts (the first one) ALWAYS ends by its per-try timer: an enabled per-try timeout is below the
global one -/
theorem silent_attempt_within_effective_timeouts (parseInt : String → Option Int) (g0 t0 : Int) (hasRoute : Bool) (rg rt : Int)
    (hT hG vT vG : Option String) (sent : Int)
    (hpos : (parseProxyTimeout parseInt g0 t0 hasRoute rg rt hT hG vT vG).2 > 0) :
    silentEnd true sent (parseProxyTimeout parseInt g0 t0 hasRoute rg rt hT hG vT vG).2
        (sent + (parseProxyTimeout parseInt g0 t0 hasRoute rg rt hT hG vT vG).1) =
      (sent + (parseProxyTimeout parseInt g0 t0 hasRoute rg rt hT hG vT vG).2, .perTry) := by
  have hb := try_below_global parseInt g0 t0 hasRoute rg rt hT hG vT vG
  simp only at hb
  have : sent + (parseProxyTimeout parseInt g0 t0 hasRoute rg rt hT hG vT vG).2 <
      sent + (parseProxyTimeout parseInt g0 t0 hasRoute rg rt hT hG vT vG).1 := by
    rcases hb with hb | hb <;> omega
  simp [silentEnd, this]

/-- **last_attempt_reply_is_per_try**: the per-try timer firing on an attempt with no retry left (budget exhausted) is
answered at once with the timeout status 504, for the reset reason `UpstreamPerTryTimeout` that `onPerReqTimeout` hands on
(response flag UpstreamRequestTimeout) — not the global timer's `UpstreamGlobalTimeout` -/
theorem last_attempt_reply_is_per_try (p : Policy) (s : St) (c : Bool) (hst : Option Nat)
    (hl : s.live = true) (ht : p.tryTimeout = true) (hr : s.remaining = 0) (hloops : s.loops ≠ 0) :
    (step p s ⟨.perTry, c, hst⟩).trace = s.trace ++ [.outcome .perTry, .reply timeoutExceptionCode] ∧
    reasonOf .perTry = perTryReason ∧ perTryReason ≠ globalReason ∧ perTryFlag = "UpstreamRequestTimeout" := by
  refine ⟨?_, rfl, by decide +kernel, rfl⟩
  obtain ⟨st, ⟨hret, _⟩ | ⟨_, r, _, _, he⟩⟩ := step_live p s ⟨.perTry, c, hst⟩ hl (fun _ => ht)
  · exact absurd hr hret.2.2.1
  · rw [he]
    show (hijack _ (convertReasonToCode upstreamPerTryTimeout)).trace = _
    rw [hijack_eq]
    · have hcode : convertReasonToCode upstreamPerTryTimeout = timeoutExceptionCode := by decide +kernel
      show s.trace ++ [.outcome .perTry] ++ [.reply (convertReasonToCode upstreamPerTryTimeout)] = _
      rw [hcode, List.append_assoc]
      rfl
    · exact hloops

-- non-vacuity / tests: floor budget 3 (num_retries 0), three refused connects, then the LAST attempt
def exPtPolicy : Policy := { retryOn := false, numRetries := 0, codes := [], tryTimeout := true, disable := false }
def exPtFails : List Label := [⟨.poolConnFail, true, some 1⟩, ⟨.connFail, true, some 0⟩, ⟨.poolConnFail, true, some 1⟩]
example : armLog exPtPolicy 60000000 (fun _ => true) (some 0) exPtFails = [true, true, true, true] := by decide +kernel
example : (run exPtPolicy (some 0) exPtFails).remaining = 0 ∧ (run exPtPolicy (some 0) exPtFails).live = true := by decide +kernel
example : silentEnd true 45 60 1200 = (105, .perTry) := by decide +kernel
/-- negation witness for the budget-guarded variant (`if retryState != nil && retiesRemaining == 0 { return }`): the LAST
attempt gets no timer and a silent upstream holds it until the global deadline -/
example : (armLogWith armCondBudgetGuarded exPtPolicy 60000000 (fun _ => true) (some 0) exPtFails).2 = [true, true, true, false] := by decide +kernel
example : silentEnd false 45 60 1200 = (1200, .global) := by decide +kernel
example : ∃ a : ArmState, a.tryTimeout > 0 ∧ armCondBudgetGuarded a ≠ decide (a.tryTimeout > 0) :=
  ⟨{ tryTimeout := 1, hasRetryState := true, retiesRemaining := 0 }, by decide⟩

end PerTryTimer

end MosnVerif.Props.C17
