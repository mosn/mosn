import MosnVerif.Lemmas.DownstreamProps
import MosnVerif.Lemmas.TcpLedger
import MosnVerif.Gen.ResourceSites
import MosnVerif.Lemmas.PoolMuxSpec
import MosnVerif.Lemmas.PoolH2Steps
import MosnVerif.Lemmas.PoolWinLedger
import MosnVerif.Lemmas.PoolWinWitness
import MosnVerif.Lemmas.PoolMxWin
import MosnVerif.Lemmas.GaugeFlags
import MosnVerif.Model.PoolPlace
import MosnVerif.Lemmas.ResourceShareHist
/-!
# C10 — circuit-breaker and active-gauge accounting is conserved

The ledger of the shared downstream machine: `retries` = `Retries().Cur()`, `requests` = `Requests().Cur()`,
`upActive` = `UpstreamRequestActive`, `downActive` = `DownstreamRequestActive` of one request, on top of an arbitrary
ambient load `ar`, `aq` held by other requests of the cluster.  `Increase/Decrease/CanCreate` are the regenerated
functions of `resource_manager.go`; the retry bookkeeping is the regenerated `retryState.retry/reset`.
Every theorem holds for every configuration (every threshold, zero = unlimited included), every ambient load and every
schedule.  (`Connections()` is moved by the TCP proxy only and `PendingRequests()` by nothing: `breaker_sites_connections`,
`breaker_sites_pending` below; what the real pools do to `Requests()` is further down and in C09.)
-/
namespace MosnVerif.Props.C10
open MosnVerif.Model.Downstream MosnVerif.Gen.ProxyPhase MosnVerif.Gen.ProxyReason

abbrev reach (c : Cfg) (ar aq : Nat) (l : List Label) : S := run c (init ar aq) l

/-- **exact accounting**: in every reachable state each counter equals the ambient load plus what this request holds:
one retries slot exactly while a retry is in flight, one requests slot / active unit per live client stream -/
theorem ledger_exact (c : Cfg) (ar aq : Nat) (l : List Label) :
    (reach c ar aq l).retries = (ar : Int) + heldRetry c (reach c ar aq l) ∧
    (reach c ar aq l).requests = (aq : Int) + heldRequests c (reach c ar aq l) ∧
    (reach c ar aq l).upActive = (liveCount (reach c ar aq l).streams : Int) ∧
    (reach c ar aq l).downActive = (if (reach c ar aq l).cleaned then 0 else 1) :=
  ⟨(inv_run c ar aq l).k9, (inv_run c ar aq l).k10, (inv_run c ar aq l).k11, (inv_run c ar aq l).k12⟩

/-- **cur ≥ 0 always** (never below the ambient load, in particular never negative) -/
theorem cur_nonneg (c : Cfg) (ar aq : Nat) (l : List Label) :
    (ar : Int) ≤ (reach c ar aq l).retries ∧ (aq : Int) ≤ (reach c ar aq l).requests ∧
    0 ≤ (reach c ar aq l).upActive ∧ 0 ≤ (reach c ar aq l).downActive := by
  obtain ⟨h1, h2, h3, h4⟩ := ledger_exact c ar aq l
  refine ⟨?_, ?_, ?_, ?_⟩
  · rw [h1]; unfold heldRetry; split <;> omega
  · rw [h2]; unfold heldRequests; split <;> omega
  · rw [h3]; omega
  · rw [h4]; split <;> omega

/-- **quiescent ⇒ 0**: once the stream is cleaned this request holds nothing: the counters are back at the ambient
load, both active gauges of the request are 0, no timer is left armed -/
theorem quiescent_zero (c : Cfg) (ar aq : Nat) (l : List Label) (h : (reach c ar aq l).cleaned = true) :
    (reach c ar aq l).retries = ar ∧ (reach c ar aq l).requests = aq ∧ (reach c ar aq l).upActive = 0 ∧
    (reach c ar aq l).downActive = 0 ∧ (reach c ar aq l).perTry = false ∧ (reach c ar aq l).global = false := by
  obtain ⟨h1, h2, h3, h4⟩ := ledger_exact c ar aq l
  obtain ⟨hh, hl, hp, hg⟩ := (inv_run c ar aq l).k13 h
  refine ⟨?_, ?_, ?_, ?_, hp, hg⟩
  · rw [h1]; simp [heldRetry, hh]
  · rw [h2]; simp [heldRequests, hl]
  · rw [h3, hl]; rfl
  · rw [h4, h]; rfl

/-- **limit_trips**: in every reachable state the admission test of the breaker is exactly "unlimited or below the
limit" — the escape branch `cur < 0 ⇒ admit` of `resource.CanCreate` is dead code, so `max_retries` and `max_requests`
trip at their thresholds -/
theorem limit_trips (c : Cfg) (ar aq : Nat) (l : List Label) :
    (Gen.Resource.canCreate c.maxRetries (reach c ar aq l).retries = true ↔
      (c.maxRetries = 0 ∨ (reach c ar aq l).retries < c.maxRetries)) ∧
    (Gen.Resource.canCreate c.maxRequests (reach c ar aq l).requests = true ↔
      (c.maxRequests = 0 ∨ (reach c ar aq l).requests < c.maxRequests)) := by
  obtain ⟨h1, h2, _, _⟩ := cur_nonneg c ar aq l
  exact ⟨Lemmas.Resource.canCreate_iff _ _ (by omega), Lemmas.Resource.canCreate_iff _ _ (by omega)⟩

/-- with nothing held by this request, the breaker admits a retry iff the slots held by others are below the limit -/
theorem admission_when_idle (c : Cfg) (ar aq : Nat) (l : List Label) (h : rsHeld (reach c ar aq l) = false) :
    Gen.Resource.canCreate c.maxRetries (reach c ar aq l).retries = true ↔ (c.maxRetries = 0 ∨ ar < c.maxRetries) := by
  have := (limit_trips c ar aq l).1
  have h1 := (ledger_exact c ar aq l).1
  rw [this, h1]
  simp [heldRetry, h]

/-- **retry_admission**: the admission rule AT EACH RETRY DECISION.  In every reachable state, for every failure the
retry policy accepts (`doRetryCheck`) with retry budget left, the decision of the regenerated `retryState.retry` is
"retry" iff `max_retries` is unlimited or the slots held by OTHER requests are below it, and "overflow" otherwise —
whether or not this request still holds the slot of its own previous retry: `retry` gives that slot back before it asks
`CanCreate`, so a request's second, third, … consecutive retry is admitted exactly like its first (with `max_retries = 1`
and nobody else retrying, every retry of the request is admitted). -/
theorem retry_admission (c : Cfg) (ar aq : Nat) (l : List Label) (reason : Option Reason) (r : RetryState)
    (hr : (reach c ar aq l).rs = some r) (hrem : r.remaining ≠ 0) (hchk : retryCheck c (reach c ar aq l) reason = true) :
    ((rsRetry c (reach c ar aq l) reason).2 = Gen.ProxyRetry.ShouldRetry ↔ (c.maxRetries = 0 ∨ ar < c.maxRetries)) ∧
    ((rsRetry c (reach c ar aq l) reason).2 = Gen.ProxyRetry.RetryOverflow ↔ ¬ (c.maxRetries = 0 ∨ ar < c.maxRetries)) := by
  have h1 := (ledger_exact c ar aq l).1
  rw [heldRetry_eq c _ r hr] at h1
  have := retry_admit c r (reach c ar aq l).retries ar (by omega) h1 hrem
  simp only [rsRetry, retryRes, hr, hchk, Option.map_some]
  simpa using this

/-- a retry in flight holds exactly one slot on top of the ambient load … -/
example : (reach { retryOn := true, numRetries := 1, maxRetries := 2 } 1 0
    (List.replicate 12 .work ++ [.upResp 0 503 false false] ++ List.replicate 5 .work)).retries = 2 := by decide +kernel
/-- … and it is given back when the request ends -/
example : (reach { retryOn := true, numRetries := 1, maxRetries := 2 } 1 0
    (List.replicate 12 .work ++ [.upResp 0 503 false false] ++ List.replicate 5 .work ++ [.upResp 1 200 false false] ++
      List.replicate 4 .work)).retries = 1 := by decide +kernel
/-- with the limit reached by others the retry is refused and the 503 goes to the client with the overflow flag -/
example : (reach { retryOn := true, numRetries := 1, maxRetries := 1 } 1 0
    (List.replicate 12 .work ++ [.upResp 0 503 false false] ++ List.replicate 4 .work)).trace =
    [.un 0, .uh 0 true, .dh 503 true, .log 503 128] := by decide +kernel

/-- terminate while a retried attempt is live: the retry slot, the request slot and the gauges are all given back
(before the fixes 7680aa93b / 61aef8f64 this ledger ended as retries = 2, requests = 1, upActive = 1) -/
example : ((fun (s : S) => (s.cleaned, s.retries, s.requests, s.upActive, s.downActive))
    (reach { retryOn := true, numRetries := 1, maxRetries := 2, maxRequests := 2 } 1 0
      (List.replicate 12 .work ++ [.upReset 0 .StreamConnectionFailed] ++ List.replicate 5 .work ++ [.terminate 418] ++
        List.replicate 3 .work))) = (true, 1, 0, 0, 0) := by decide +kernel

/-- `max_retries = 1`, nobody else retrying: the request's first AND second consecutive retry are admitted (three attempts),
and each holds exactly one slot while it is in flight -/
example : ((fun (s : S) => (s.trace, s.retries))
    (reach { retryOn := true, numRetries := 2, maxRetries := 1 } 0 0
      (List.replicate 12 .work ++ [.upReset 0 .StreamConnectionFailed] ++ List.replicate 5 .work ++
        [.upReset 1 .StreamConnectionFailed] ++ List.replicate 5 .work))) =
    ([.un 0, .uh 0 true, .un 1, .uh 1 true, .un 2, .uh 2 true], 1) := by decide +kernel
/-- the hypotheses of `retry_admission` hold at the second decision of that schedule (slot of the first retry still held) -/
example : ((fun (s : S) => (s.rs, retryCheck { retryOn := true, numRetries := 2, maxRetries := 1 } s (some .StreamConnectionFailed)))
    (reach { retryOn := true, numRetries := 2, maxRetries := 1 } 0 0
      (List.replicate 12 .work ++ [.upReset 0 .StreamConnectionFailed] ++ List.replicate 5 .work ++
        [.upReset 1 .StreamConnectionFailed]))) = (some ⟨2, true⟩, true) := by decide +kernel

/-! ### A late response during the back-off -/

/-- **late_response_keeps_ledger**: a response frame of an attempt that was given up for a retry, landing while the worker
sleeps in `doRetry`'s back-off, leaves every counter and gauge as it was (it is ignored: C03 `late_response_ignored`); in
particular it cannot make the request finish on the old answer with the next attempt still holding its requests slot and
its active-gauge unit (what the real code did before the fix: ledger `…,up=1` on a finished exchange).  `ledger_exact`,
`cur_nonneg`, `quiescent_zero`, `limit_trips` quantify over schedules containing the label. -/
theorem late_response_keeps_ledger (c : Cfg) (ar aq : Nat) (l : List Label) (k : Nat) (d t : Bool) :
    (reach c ar aq (l ++ [.lateResp k d t])).retries = (reach c ar aq l).retries ∧
    (reach c ar aq (l ++ [.lateResp k d t])).requests = (reach c ar aq l).requests ∧
    (reach c ar aq (l ++ [.lateResp k d t])).upActive = (reach c ar aq l).upActive ∧
    (reach c ar aq (l ++ [.lateResp k d t])).downActive = (reach c ar aq l).downActive := by
  have : reach c ar aq (l ++ [.lateResp k d t]) = reach c ar aq l := by
    simp only [reach, run, List.foldl_append, List.foldl_cons, List.foldl_nil, step]
    exact lateBackoff_noop c ar aq _ k d t (inv_run c ar aq l)
  rw [this]; exact ⟨rfl, rfl, rfl, rfl⟩

/-- per-try timeout, the late frame of attempt 0 in the back-off, attempt 1 never answers, the client goes away: the
request ends with every slot and gauge given back (max_requests = 1: the slot of attempt 1 is returned by cleanStream) -/
example : ((fun (s : S) => (s.cleaned, s.retries, s.requests, s.upActive, s.downActive))
    (reach { retryOn := true, numRetries := 1, tryTimeout := true, maxRetries := 1, maxRequests := 1 } 0 0
      (List.replicate 12 .work ++ [.perTryFire, .work, .lateResp 0 true false, .work, .work, .connClose, .work]))) =
    (true, 0, 0, 0, 0) := by decide +kernel

/-! ### The back-off sleep of `doRetry` is a state of the machine -/

/-- **backoff_ledger**: `ledger_exact`, `cur_nonneg`, `quiescent_zero`, `limit_trips`, `retry_admission` quantify over EVERY
schedule of the extended label type — every label may fire while the worker is asleep in `doRetry`'s back-off (TerminateStream,
the global timer also inside `setupRetry`, the client's departure, late frames, resets …), `work` there is the wake-up.  In the
back-off itself, on every schedule, the request holds no client stream — no requests slot, no upstream gauge unit — whatever
landed during the sleep; and the label that only exists there (`gtInSetup`) changes no counter. -/
theorem backoff_ledger (c : Cfg) (ar aq : Nat) (l : List Label) (hb : backoff (reach c ar aq l) = true) :
    (reach c ar aq l).requests = aq ∧ (reach c ar aq l).upActive = 0 ∧ (reach c ar aq l).downActive = 1 ∧
    (∀ b, (reach c ar aq (l ++ [.gtInSetup b])).retries = (reach c ar aq l).retries ∧
          (reach c ar aq (l ++ [.gtInSetup b])).requests = (reach c ar aq l).requests ∧
          (reach c ar aq (l ++ [.gtInSetup b])).upActive = (reach c ar aq l).upActive) := by
  have hi := inv_run c ar aq l
  simp only [backoff, Bool.and_eq_true, beq_iff_eq] at hb
  have hcl : (reach c ar aq l).cleaned = false := by
    have := hi.k0; simp only [K0] at this; rw [hb.1] at this; simpa using this
  have hlc := hi.k23 hcl (Or.inr hb.2)
  obtain ⟨_, h2, h3, h4⟩ := ledger_exact c ar aq l
  refine ⟨by rw [h2]; simp [heldRequests, hlc], by rw [h3, hlc]; rfl, by rw [h4, hcl]; rfl, fun b => ?_⟩
  simp only [reach, run, List.foldl_append, List.foldl_cons, List.foldl_nil, step, gtInSetup]
  split <;> exact ⟨rfl, rfl, rfl⟩

/-- non-vacuity: a retry is set up with `max_retries = 1` (its slot held), TerminateStream lands in the back-off, the worker
wakes: no attempt 1, the slot is given back, every gauge is back -/
example : ((fun (s : S) => (s.cleaned, s.retries, s.requests, s.upActive, s.downActive, s.trace))
    (reach { retryOn := true, numRetries := 1, maxRetries := 1, maxRequests := 1 } 0 0
      (List.replicate 12 .work ++ [.upReset 0 .StreamConnectionFailed, .work, .terminate 418] ++ List.replicate 4 .work))) =
    (true, 0, 0, 0, 0, [.un 0, .uh 0 true, .dh 418 true, .log 418 0x2000]) := by decide +kernel
/-- … in the back-off itself the retries slot is held, nothing else -/
example : ((fun (s : S) => (backoff s, s.retries, s.requests, s.upActive))
    (reach { retryOn := true, numRetries := 1, maxRetries := 1, maxRequests := 1 } 0 0
      (List.replicate 12 .work ++ [.upReset 0 .StreamConnectionFailed, .work]))) = (true, 1, 0, 0) := by decide +kernel
/-- the global timer callback lands inside `setupRetry`: the wake-up answers 504, the slot is given back (before fac205b27
attempt 1 was created here and held its requests slot and gauge unit for ever) -/
example : ((fun (s : S) => (s.cleaned, s.retries, s.requests, s.upActive, s.downActive))
    (reach { retryOn := true, numRetries := 1, maxRetries := 1, maxRequests := 1 } 0 0
      (List.replicate 12 .work ++ [.upReset 0 .StreamConnectionFailed, .work, .gtInSetup true] ++ List.replicate 4 .work))) =
    (true, 0, 0, 0, 0) := by decide +kernel

/-!
## The TCP proxy (`pkg/filter/network/streamproxy`): the cluster's `Connections()` resource and the connection gauges

`Model/TcpLedger.lean`: any number of downstream connections (sessions) on one cluster; labels `accept` (with the
oracle answers of the host tries), close events of either connection of a session, data, and `ambInc` / `ambDec` (a
connection pool of the same cluster taking / returning a slot).  The handlers are the regenerated `Gen.TcpProxy`
(which statement moves which counter, before or after the dial, on which exit); `Increase/Decrease/CanCreate` are the
regenerated `Gen.Resource`.  Every theorem holds for every threshold `max` (0 = unlimited) and every label list.
-/
end MosnVerif.Props.C10

namespace MosnVerif.Props.C10
open MosnVerif.Model.TcpLedger MosnVerif.Lemmas.TcpLedger MosnVerif.Gen.TcpProxy

abbrev tcpReach (max : Nat) (l : List Label) : St := run max l

/-- **exact accounting**: at every label boundary `Connections().Cur()` is what the other users hold plus the number of
live upstream connections of the stream proxy (nothing when the resource is unlimited: it does not count then), both
`UpstreamConnectionActive` gauges are the number of live upstream connections, the listener's connection count is the
number of open downstream connections, and the model never left its domain -/
theorem tcp_ledger_exact (max : Nat) (l : List Label) :
    (tcpReach max l).stuck = false ∧
    (tcpReach max l).g.cur = (if max = 0 then 0 else ((tcpReach max l).amb : Int) + liveCount (tcpReach max l).ss) ∧
    (tcpReach max l).g.stats .cluster .UpstreamConnectionActive = liveCount (tcpReach max l).ss ∧
    (tcpReach max l).g.stats .host .UpstreamConnectionActive = liveCount (tcpReach max l).ss ∧
    (tcpReach max l).g.numConns = downCount (tcpReach max l).ss := by
  have h : Inv (tcpReach max l) := inv_run max l
  have hm : (tcpReach max l).max = max := run_max max l
  refine ⟨h.ok, ?_, h.cA, h.hA, h.num⟩
  rw [h.cur, hm]; unfold kappa; split <;> omega

/-- **never negative** (never below what the others hold), and a limited resource never exceeds its limit -/
theorem tcp_cur_nonneg (max : Nat) (l : List Label) :
    0 ≤ (tcpReach max l).g.cur ∧ (max ≠ 0 → ((tcpReach max l).amb : Int) ≤ (tcpReach max l).g.cur) ∧
    (max ≠ 0 → (tcpReach max l).g.cur ≤ max) ∧
    0 ≤ (tcpReach max l).g.stats .cluster .UpstreamConnectionActive ∧
    0 ≤ (tcpReach max l).g.stats .host .UpstreamConnectionActive ∧ 0 ≤ (tcpReach max l).g.numConns := by
  have h : Inv (tcpReach max l) := inv_run max l
  have hmx : (tcpReach max l).max = max := run_max max l
  obtain ⟨_, h1, h2, h3, h4⟩ := tcp_ledger_exact max l
  obtain ⟨hl, hd⟩ := counts_nonneg (tcpReach max l).ss
  refine ⟨h.cur_nonneg, ?_, ?_, by omega, by omega, by omega⟩
  · intro hm; rw [h1]; simp only [hm, if_false]; omega
  · intro hm; have := h.le (by rw [hmx]; exact hm); rw [hmx] at this; exact this

/-- **idle ⇒ zero**: when every downstream connection is closed and no queued close is left to be carried out, the stream
proxy holds nothing: the resource is back at what the others hold, all gauges are 0 -/
theorem tcp_quiescent_zero (max : Nat) (l : List Label)
    (idle : ∀ s ∈ (tcpReach max l).ss, s.downClosed = true ∧ s.upEof = false) :
    (tcpReach max l).g.cur = (if max = 0 then 0 else ((tcpReach max l).amb : Int)) ∧
    (tcpReach max l).g.stats .cluster .UpstreamConnectionActive = 0 ∧
    (tcpReach max l).g.stats .host .UpstreamConnectionActive = 0 ∧ (tcpReach max l).g.numConns = 0 := by
  have h : Inv (tcpReach max l) := inv_run max l
  obtain ⟨_, h1, h2, h3, h4⟩ := tcp_ledger_exact max l
  obtain ⟨hl, hd⟩ := counts_zero (tcpReach max l).ss fun s hs =>
    ⟨wf_idle s (h.wf s hs) (idle s hs).1 (idle s hs).2, by simp [Sess.downLive, (idle s hs).1]⟩
  rw [h1, h2, h3, h4, hl, hd]; simp

/-- **the limit trips at the threshold**: a new downstream connection (cluster known) is refused for overflow exactly
when the resource is limited and `cur = max`; a refused connection is closed and nothing is counted for it -/
theorem tcp_limit_trips (max : Nat) (l : List Label) (hn : Nat) (t0 t1 t2 : Try) :
    let st := tcpReach max l
    let c := sstep (Gen.Resource.canCreate st.max st.g.cur) {} (.accept false hn t0 t1 t2)
    (refused c.log = true ↔ (max ≠ 0 ∧ st.g.cur = max)) ∧
    (refused c.log = true → c.s.live = false ∧ c.s.downClosed = true ∧
      (step st (.sess st.ss.length (.accept false hn t0 t1 t2))).g.cur = st.g.cur) := by
  intro st c
  have h : Inv st := inv_run max l
  obtain ⟨_, g1, g2⟩ := accept_spec (Gen.Resource.canCreate st.max st.g.cur) false hn t0 t1 t2
  have href : refused c.log = true ↔ Gen.Resource.canCreate st.max st.g.cur = false := by
    show refused (sstep _ _ _).log = true ↔ _
    rw [g1]; simp
  refine ⟨by rw [href, h.canCreate_false, run_max max l], fun hr => ?_⟩
  obtain ⟨l1, l2⟩ := g2 (by rw [href.1 hr]; rfl)
  exact ⟨l1, l2, (accept_dead st false hn t0 t1 t2 l1 l2).1⟩

/-- **a failed dial gives everything back**: a new downstream connection none of whose host tries connects (refused,
dial timeout, no host chosen — whatever the host count, breaker answer and cluster lookup) leaves the resource, both
gauges and the connection count exactly as they were; in particular the breaker's next answer is unchanged -/
theorem tcp_failed_dial_restores (max : Nat) (l : List Label) (nc : Bool) (hn : Nat) (t0 t1 t2 : Try)
    (h0 : t0 ≠ .ok) (h1 : t1 ≠ .ok) (h2 : t2 ≠ .ok) :
    let st := tcpReach max l
    let st' := step st (.sess st.ss.length (.accept nc hn t0 t1 t2))
    st'.g.cur = st.g.cur ∧
    st'.g.stats .cluster .UpstreamConnectionActive = st.g.stats .cluster .UpstreamConnectionActive ∧
    st'.g.stats .host .UpstreamConnectionActive = st.g.stats .host .UpstreamConnectionActive ∧
    st'.g.numConns = st.g.numConns ∧
    Gen.Resource.canCreate st'.max st'.g.cur = Gen.Resource.canCreate st.max st.g.cur := by
  intro st st'
  obtain ⟨l1, l2⟩ := (accept_spec (Gen.Resource.canCreate st.max st.g.cur) nc hn t0 t1 t2).2.2 (by simp [h0, h1, h2])
  obtain ⟨e1, e2, e3, e4⟩ := accept_dead st nc hn t0 t1 t2 l1 l2
  exact ⟨e1, e2, e3, e4, by rw [e1, step_max]⟩

/-- two sessions on a cluster limited to one connection: the first holds the slot, the second is refused … -/
example : (fun (st : St) => (st.g.cur, st.g.numConns, st.ss.map Sess.live))
    (tcpReach 1 [.sess 0 (.accept false 2 .fail .ok .none), .sess 1 (.accept false 2 .ok .none .none)]) =
    (1, 1, [true, false]) := by decide +kernel
/-- … after the first session's client went away and the queued close was carried out the slot is free again … -/
example : (fun (st : St) => (st.g.cur, st.g.numConns, st.g.stats .cluster .UpstreamConnectionActive))
    (tcpReach 1 [.sess 0 (.accept false 2 .fail .ok .none), .sess 0 (.down .remote), .sess 0 (.up .local)]) = (0, 0, 0) := by decide +kernel
/-- … a session whose three host tries are refused counts nothing (with the increment moved before the dial this is 1) -/
example : (tcpReach 1 [.sess 0 (.accept false 3 .fail .fail .fail)]).g.cur = 0 := by decide +kernel
/-- … and the next session is admitted -/
example : (fun (st : St) => (st.g.cur, st.ss.map Sess.live))
    (tcpReach 1 [.sess 0 (.accept false 3 .fail .fail .fail), .sess 1 (.accept false 3 .ok .none .none)]) = (1, [false, true]) := by decide +kernel
/-- the hypotheses of `tcp_quiescent_zero` are met by a finished session -/
example : ∀ s ∈ (tcpReach 2 [.sess 0 (.accept false 1 .ok .none .none), .sess 0 (.up .remote), .sess 0 (.down .local)]).ss,
    s.downClosed = true ∧ s.upEof = false := by decide +kernel
/-- a pool of the same cluster holding the only slot makes the stream proxy refuse -/
example : refused (sstep (Gen.Resource.canCreate (tcpReach 1 [.ambInc]).max (tcpReach 1 [.ambInc]).g.cur) {}
    (.accept false 1 .ok .none .none)).log = true := by decide +kernel


/-!
## Who moves which breaker resource (regenerated table of every `ResourceManager().<Res>().<Op>()` call under pkg/)

The ledgers above are complete only if nothing else moves the counters.  `Gen.ResourceSites` lists every call site; the
theorems below are re-decided against the regenerated table on every run, so a new `Increase()` in a pool, a second user
of `Connections()`, or a resource handed to code outside the table stops the check.
-/
open MosnVerif.Gen.ResourceSites in
/-- `Connections()` is moved by the stream proxy only, in the two regenerated functions of `Gen.TcpProxy` (the connection
pools only read its `Max()` as a per-pool limit, against their own books: C09) -/
theorem breaker_sites_connections :
    (sites.filter fun s => s.res == .Connections && (s.op == .Increase || s.op == .Decrease || s.op == .CanCreate || s.op == .UpdateCur)) =
      [⟨"pkg/filter/network/streamproxy/streamproxy.go", "proxy.finalizeUpstreamConnectionStats", .Connections, .Decrease⟩,
       ⟨"pkg/filter/network/streamproxy/streamproxy.go", "proxy.initializeUpstreamConnection", .Connections, .CanCreate⟩,
       ⟨"pkg/filter/network/streamproxy/streamproxy.go", "proxy.initializeUpstreamConnection", .Connections, .Increase⟩] :=
  rfl

open MosnVerif.Gen.ResourceSites in
/-- `PendingRequests()` is never moved, asked or read: its counter is constantly 0 (never negative, zero when idle); the
configured `max_pending_requests` is never consulted -/
theorem breaker_sites_pending : (sites.filter fun s => s.res == .PendingRequests) = [] :=
  rfl

open MosnVerif.Gen.ResourceSites in
/-- `Requests()` is moved by the five connection pools only (each pairs an `Increase` in NewStream with a `Decrease` on
stream destroy: the ledger of C09 / `ledger_exact`), `Retries()` by `retryState` only (`retry` / `reset`: `ledger_exact`);
no counter is ever set directly (`UpdateCur`), and the only code that takes a resource manager as a whole is the handler
that copies the thresholds of an updated cluster -/
theorem breaker_sites_table :
    ((sites.filter fun s => s.res == .Requests && (s.op == .Increase || s.op == .Decrease)).map (·.file)).eraseDups =
      ["pkg/stream/http/connpool.go", "pkg/stream/http2/connpool.go", "pkg/stream/xprotocol/connpool_binding.go",
       "pkg/stream/xprotocol/connpool_multiplex.go", "pkg/stream/xprotocol/connpool_pingpong.go"] ∧
    ((sites.filter fun s => s.res == .Retries).map fun s => (s.fn, s.op)) =
      [("retryState.reset", .Decrease), ("retryState.retry", .Increase), ("retryState.shouldRetry", .CanCreate)] ∧
    (sites.filter fun s => s.op == .UpdateCur) = [] ∧
    escapes = ["pkg/upstream/cluster/cluster_manager.go:UpdateClusterResourceManagerHandler: newSnap.ClusterInfo().ResourceManager()",
               "pkg/upstream/cluster/cluster_manager.go:UpdateClusterResourceManagerHandler: oldSnap.ClusterInfo().ResourceManager()"] :=
  -- only the first clause compares strings (`eraseDups`); the filters of the others test constructors, their results are the literals
  ⟨by decide +kernel, rfl, rfl, rfl⟩


/-!
## The real pools' side of the ledger: one-way requests on the multiplex pool, the HTTP/2 pool's connection gauges

The downstream machine above replays the pools' admission (`Increase` on NewStream, `Decrease` on stream destroy).  What
the real pools do is modelled in `Model/PoolMux.lean` / `Model/PoolH2.lean` (property C09) with every counter movement
regenerated (`Gen.PoolMuxMoves`, `Gen.PoolH2`); the theorems below are the conservation statements of C10 about those
machines, for every operation list and every `max_requests`.
-/
section Pools
open MosnVerif.Model

theorem poolCanCreate_iff (m : Nat) (n : Int) (hn : 0 ≤ n) : Gen.Pool.canCreate (m : Int) n = true ↔ (m = 0 ∨ n < m) :=
  -- `Gen.Pool.canCreate` and `Gen.Resource.canCreate` are the same Go function regenerated for two packages
  MosnVerif.Lemmas.Resource.canCreate_iff m n hn

/-- **multiplex pool, exact accounting with one-way requests**: after ANY list of operations — one-way requests
(`NewStream(ctx, nil)`) among them — `Requests().Cur()` is what the other pools hold plus the requests in flight that
have a receiver (nothing when unlimited), both upstream `request_active` gauges are the number of those requests; with
none in flight everything is back at the ambient load / zero; and `max_requests` trips exactly at its threshold.  A
one-way request is never "in flight" in this sense: nothing ends it, so it must hold nothing. -/
theorem mux_ledger_exact (maxConn maxReq : Nat) (ops : List PoolMux.Op) :
    let s := PoolMux.run (PoolMux.init maxConn maxReq) ops
    s.reqCur = (if s.maxReq = 0 then 0 else (s.ext : Int) + (s.liveCount : Int)) ∧ 0 ≤ s.reqCur ∧
    s.actHost = (s.liveCount : Int) ∧ s.actCluster = (s.liveCount : Int) ∧
    (s.liveCount = 0 → s.reqCur = (if s.maxReq = 0 then 0 else (s.ext : Int)) ∧ s.actHost = 0 ∧ s.actCluster = 0) ∧
    (Gen.Pool.canCreate s.maxReq s.reqCur = true ↔ (s.maxReq = 0 ∨ s.reqCur < s.maxReq)) := by
  intro s
  have h : PoolMux.Inv s := PoolMux.inv_run _ (PoolMux.inv_init maxConn maxReq) ops
  have hnn : 0 ≤ s.reqCur := h.core.reqOk.nonneg
  refine ⟨h.core.req, hnn, h.core.act.1, h.core.act.2, ?_, poolCanCreate_iff _ _ hnn⟩
  intro h0
  refine ⟨by rw [h.core.req, h0]; simp, by rw [h.core.act.1, h0]; rfl, by rw [h.core.act.2, h0]; rfl⟩

/-- **a one-way request takes nothing**: `NewStream(ctx, nil)` — admitted or refused, in any reachable state — moves no
counter (it leaves the whole state as it was); so after any number of one-way requests the breaker answers the next
request as before.  Proved from the regenerated `receiver == nil` path of `poolMultiplex.NewStream`. -/
theorem mux_oneway_takes_nothing (maxConn maxReq : Nat) (ops : List PoolMux.Op) (k n : Nat) :
    let s := PoolMux.run (PoolMux.init maxConn maxReq) ops
    let s' := PoolMux.run s (List.replicate n (.newStreamOneway k))
    s'.reqCur = s.reqCur ∧ s'.actHost = s.actHost ∧ s'.actCluster = s.actCluster ∧
    Gen.Pool.canCreate s'.maxReq s'.reqCur = Gen.Pool.canCreate s.maxReq s.reqCur := by
  intro s s'
  have : s' = s := PoolMux.run_oneway s k n
  rw [this]; exact ⟨rfl, rfl, rfl, rfl⟩

/-- **HTTP/2 pool, exact accounting**: after any list of operations {NewStream (dial ok / refused / timed out), response,
local reset, RST_STREAM, graceful GOAWAY on a given connection, close of a given connection by either side, Shutdown,
Close, ambient load} both upstream `connection_active` gauges are 1 when the pool holds a client and 0 otherwise — every
dial that succeeded was given back exactly once, by the `NewStream` that replaced a client told to go away or by the
close of the client the pool still held, never by both and never for a connection other than the one that closed —;
the request counters count the requests in flight; once every connection is closed every gauge is 0 and the breaker is
back at the ambient load. -/
theorem h2_ledger_exact (maxReq : Nat) (ops : List PoolH2.Op) :
    let s := PoolH2.run (PoolH2.init maxReq) ops
    s.connHost = (if s.active.isSome then 1 else 0) ∧ s.connCluster = (if s.active.isSome then 1 else 0) ∧
    0 ≤ s.connHost ∧ 0 ≤ s.connCluster ∧
    s.reqCur = (if s.maxReq = 0 then 0 else (s.ext : Int) + (s.liveCount : Int)) ∧ 0 ≤ s.reqCur ∧
    s.actHost = (s.liveCount : Int) ∧ s.actCluster = (s.liveCount : Int) ∧
    ((∀ c, c < s.nConns → (s.conn c).netOpen = false) →
      s.connHost = 0 ∧ s.connCluster = 0 ∧ s.actHost = 0 ∧ s.actCluster = 0 ∧
      s.reqCur = (if s.maxReq = 0 then 0 else (s.ext : Int))) ∧
    (Gen.Pool.canCreate s.maxReq s.reqCur = true ↔ (s.maxReq = 0 ∨ s.reqCur < s.maxReq)) := by
  intro s
  have h : PoolH2.Inv s := PoolH2.inv_run _ (PoolH2.inv_init maxReq) ops
  have hnn : 0 ≤ s.reqCur := h.reqOk.nonneg
  have hg := h.gauge
  simp only [PoolH2.gaugeOf] at hg
  refine ⟨hg.1, hg.2, by rw [hg.1]; split <;> omega, by rw [hg.2]; split <;> omega, h.req, hnn, h.act.1, h.act.2, ?_,
    poolCanCreate_iff _ _ hnn⟩
  intro hall
  obtain ⟨_, c1, c2, _, a1, a2, r⟩ := PoolH2.all_closed s h hall
  exact ⟨c1, c2, a1, a2, r⟩

-- non-vacuity: with max_requests = 2, two one-way requests and then two ordinary ones are all admitted, the third ordinary
-- one overflows (with the one-way path counted like the ordinary one the FIRST ordinary request would already be the last)
example : ((PoolMux.trace (PoolMux.init 1 2) [.checkAndInit (some 0) .ok, .newStreamOneway 0, .newStreamOneway 0,
      .newStream 0, .newStream 0, .newStream 0]).map (fun x => (x.1, x.2.reqCur, x.2.actCluster))) =
    [(.ready false, 0, 0), (.ok 0, 0, 0), (.ok 0, 0, 0), (.ok 0, 1, 1), (.ok 0, 2, 2), (.overflow, 2, 2)] := by decide +kernel
-- HTTP/2: GOAWAY, replacement, both connections closed: every gauge is back at 0 (hypothesis of the idle clause met)
example : ((fun (s : PoolH2.State) => (s.connHost, s.connCluster, s.actHost, s.reqCur, (s.conn 0).netOpen, (s.conn 1).netOpen))
    (PoolH2.run (PoolH2.init 2) [.newStream .ok, .goAway 0, .newStream .ok, .connClose 0 true, .connClose 1 false])) =
    (0, 0, 0, 0, false, false) := by decide +kernel

end Pools

/-! ### HTTP/1 and ping-pong pools: every request end cause gives back exactly what NewStream took

`Model/PoolWin.lean`: what an admitted `NewStream` takes (`Gen/PoolDestroy.{h1,pp}TakeProg`) and the statement program of
`OnDestroyStream` with its give-back sites and early returns (`{h1,pp}DestroyProg`, helpers inlined) are regenerated from
the Go source; the end causes are the labels {response complete (keep-alive), response with `Connection: close`, local
reset, remote reset, connection lost mid-response}, connect failure and breaker refusal are results of `newStream`.
`liveN` = requests admitted minus requests ended, `owed x tasks` = give-backs `x` still ahead in the OnDestroyStream calls
in progress.  Proved for every program in the class `ledgerOk` (each give-back exactly once, no `return` before one of
them: every path through OnDestroyStream reaches each give-back exactly once); the regenerated programs are decided to
be in it. -/
section PoolLedger
open MosnVerif.Model.PoolWin MosnVerif.Lemmas.PoolWin MosnVerif.Lemmas.PoolWinWitness
open MosnVerif.Model.Pool (Kind Dial Res)

theorem destroy_prog_gives_back_once (k : Kind) : ledgerOk k (destroyProg k) = true := by
  cases k
  · exact ledgerOk_h1
  · exact ledgerOk_pp

/-- **request_ledger_exact**: after EVERY label of every interleaving, for both pools and every limit:
`Requests().Cur()` = slots held elsewhere + requests in flight + give-backs still ahead (0 when unlimited), and both
request_active gauges = requests in flight + their give-backs still ahead. -/
theorem request_ledger_exact (k : Kind) (maxConn maxReq : Nat) (ls : List MosnVerif.Model.PoolWin.Label) :
    let s := MosnVerif.Model.PoolWin.run (MosnVerif.Model.PoolWin.init k maxConn maxReq) ls
    s.reqCur = (if maxReq = 0 then 0 else (s.ext : Int) + s.liveN + (owed .decRes s.tasks : Nat)) ∧
    s.rqHost = s.liveN + (owed .decHost s.tasks : Nat) ∧ s.rqCluster = s.liveN + (owed .decCluster s.tasks : Nat) :=
  MosnVerif.Lemmas.PoolWinLedger.request_ledger_exact k maxConn maxReq _ (destroy_prog_gives_back_once k) ls

/-- **idle ⇒ zero**: no request in flight and no OnDestroyStream in progress ⇒ the breaker holds only what other pools
hold and both request_active gauges are 0 — after any history, whatever the end causes were. -/
theorem pool_ledger_quiescent_zero (k : Kind) (maxConn maxReq : Nat) (ls : List MosnVerif.Model.PoolWin.Label) :
    let s := MosnVerif.Model.PoolWin.run (MosnVerif.Model.PoolWin.init k maxConn maxReq) ls
    s.tasks = [] → s.liveN = 0 → s.reqCur = (if maxReq = 0 then 0 else (s.ext : Int)) ∧ s.rqHost = 0 ∧ s.rqCluster = 0 :=
  MosnVerif.Lemmas.PoolWinLedger.ledger_quiescent_zero k maxConn maxReq _ (destroy_prog_gives_back_once k) ls

/-- negation witness (`return` right after the close in HTTP/1 OnDestroyStream): outside the class; one locally reset
request leaves the pool idle with Requests().Cur() = 1 and request_active = 1, and with max_requests = 1 the next
NewStream overflows. -/
theorem return_after_close_leaks :
    ledgerOk .h1 leak = false ∧
    (MosnVerif.Model.PoolWin.run (initWith .h1 0 1 leak) leakSched).tasks = [] ∧
    (MosnVerif.Model.PoolWin.run (initWith .h1 0 1 leak) leakSched).liveN = 0 ∧
    (MosnVerif.Model.PoolWin.run (initWith .h1 0 1 leak) leakSched).reqCur = 1 ∧
    (MosnVerif.Model.PoolWin.run (initWith .h1 0 1 leak) leakSched).rqHost = 1 ∧
    (MosnVerif.Model.PoolWin.step (MosnVerif.Model.PoolWin.run (initWith .h1 0 1 leak) leakSched) (.newStream .ok)).2 = .overflow :=
  ⟨leak_not_ledgerOk, leak_tasks, leak_liveN, leak_reqCur, leak_rqHost, leak_overflow⟩

-- non-vacuity: the same history on the pool as it is gives everything back and the next request is admitted
example : (fun (s : MosnVerif.Model.PoolWin.State) => (s.tasks.length, s.liveN, s.reqCur, s.rqHost, s.rqCluster, s.cnHost))
    (MosnVerif.Model.PoolWin.run (MosnVerif.Model.PoolWin.init .h1 0 1)
      [.newStream .ok, .endStream 0 .localReset, .taskStep 0, .taskStep 0, .taskStep 0, .taskStep 0, .taskStep 0, .taskStep 0])
    = (0, 0, 0, 0, 0, 0) := by decide +kernel
example : (MosnVerif.Model.PoolWin.step (MosnVerif.Model.PoolWin.run (MosnVerif.Model.PoolWin.init .h1 0 1)
      [.newStream .ok, .endStream 0 .localReset, .taskStep 0, .taskStep 0, .taskStep 0, .taskStep 0, .taskStep 0, .taskStep 0])
      (.newStream .ok)).2 = .ok 1 := by decide +kernel
-- in the middle of OnDestroyStream the ledger counts the give-backs still ahead (HTTP/1: close first, give-backs after)
example : (fun (s : MosnVerif.Model.PoolWin.State) => (s.liveN, s.reqCur, owed .decRes s.tasks))
    (MosnVerif.Model.PoolWin.run (MosnVerif.Model.PoolWin.init .h1 0 1) [.newStream .ok, .endStream 0 .localReset, .taskStep 0]) = (0, 1, 1) := by decide +kernel

end PoolLedger

/-! ### Multiplex and HTTP/2 pools: the request ledger at every intermediate state

`Model/PoolMxWin.lean`: every handler of the two pools is a task executing its REGENERATED statement program
(`Gen/PoolDestroyMx.lean`: NewStream, OnResetStream / onStreamReset, OnDestroyStream, onConnectionEvent's close branch,
OnGoAway, deleteActiveClient, lock scopes) one statement per label; any other label — another NewStream, a request end
(response complete / local reset before or after the headers / remote reset), a connection lost with k requests in flight,
a go-away frame, a connect with a failing dial, the breaker taken elsewhere — may run between two statements; only the
pool's mutex excludes.  `pend x tasks` = movements of column `x` still ahead in the handlers in progress.  Proved for every
program set of the decidable class `ledgerOk`; the regenerated programs are decided to be in it on every run. -/
section MxPoolLedger
open MosnVerif.Lemmas.PoolMxWin
open MosnVerif.Model.PoolMxWin (dH dC dR dP pend progsOf Progs)

theorem mx_progs_ledgerOk (k : MosnVerif.Model.PoolMxWin.Kind) : ledgerOk (progsOf k) = true := by cases k <;> decide +kernel

/-- **mux_request_ledger_exact_steps**: multiplex pool, after EVERY label of every interleaving, every slot count and limit:
each request_active gauge + what the handlers in progress still owe = requests in flight + streams still to be created by
admitted NewStreams; the same for `Requests().Cur()` minus the slots held elsewhere (constant 0 when unlimited). -/
theorem mux_request_ledger_exact_steps (nSlots maxReq : Nat) (ls : List MosnVerif.Model.PoolMxWin.Label) :
    Ledger maxReq (MosnVerif.Model.PoolMxWin.run (MosnVerif.Model.PoolMxWin.init .mux nSlots maxReq) ls) :=
  request_ledger_exact_steps .mux nSlots maxReq _ (mx_progs_ledgerOk .mux) ls

/-- **h2_request_ledger_exact_steps**: the same for the HTTP/2 pool (takes BEFORE the stream is created, dial inside
NewStream under the pool's mutex, pool hears a close before the streams are reset). -/
theorem h2_request_ledger_exact_steps (maxReq : Nat) (ls : List MosnVerif.Model.PoolMxWin.Label) :
    Ledger maxReq (MosnVerif.Model.PoolMxWin.run (MosnVerif.Model.PoolMxWin.init .h2 1 maxReq) ls) :=
  request_ledger_exact_steps .h2 1 maxReq _ (mx_progs_ledgerOk .h2) ls

/-- **quiescent ⇒ zero** (both pools): no handler in progress and no request in flight ⇒ both gauges 0 and the breaker holds
exactly what the other pools hold — whatever the end causes and their interleaving were. -/
theorem mx_quiescent_zero (k : MosnVerif.Model.PoolMxWin.Kind) (nSlots maxReq : Nat) (ls : List MosnVerif.Model.PoolMxWin.Label)
    (q : (MosnVerif.Model.PoolMxWin.run (MosnVerif.Model.PoolMxWin.init k nSlots maxReq) ls).quiescent) :
    let s := MosnVerif.Model.PoolMxWin.run (MosnVerif.Model.PoolMxWin.init k nSlots maxReq) ls
    s.led.rqHost = 0 ∧ s.led.rqCluster = 0 ∧ s.led.reqCur = if maxReq = 0 then 0 else (s.led.ext : Int) :=
  ledger_quiescent maxReq _ (request_ledger_exact_steps k nSlots maxReq _ (mx_progs_ledgerOk k) ls) q

/-- the fields the witnesses look at -/
def mxView (s : MosnVerif.Model.PoolMxWin.State) : Int × Int × Int × Nat × Bool :=
  (s.led.reqCur, s.led.rqHost, s.led.rqCluster, s.led.streams.length, s.tasks.all (fun t => t.rest.isEmpty))

/-- multiplex OnDestroyStream without its `Requests().Decrease()` -/
def mxDropped : Progs := { progsOf .mux with destroy := [.decHost, .decCluster, .closeIfDrained] }
/-- HTTP/2 onStreamReset that ALSO decrements the host gauge (OnDestroyStream does it again) -/
def mxTwice : Progs := { progsOf .h2 with reset := [.decHost, .markActive] }
/-- multiplex close handler that ALSO gives the breaker slot back (OnDestroyStream of the lost stream does it again) -/
def mxCloseToo : Progs := { progsOf .mux with close := .decRes :: (progsOf .mux).close }

/-- negation witness, dropped give-back: outside the class; connect, one request, connection lost ⇒ quiescent with
`Requests().Cur()` = 1 — and with max_requests = 1 the next request overflows. -/
theorem mx_dropped_giveback_leaks :
    ledgerOk mxDropped = false ∧
    mxView (MosnVerif.Model.PoolMxWin.drain 64 (MosnVerif.Model.PoolMxWin.step (MosnVerif.Model.PoolMxWin.drain 64 (MosnVerif.Model.PoolMxWin.run (MosnVerif.Model.PoolMxWin.initWith .mux 1 1 mxDropped) [.connect 0 true, .newStream 0 true])) (.netClose 0)))
      = (1, 0, 0, 0, true) := by decide +kernel

/-- negation witness, give-back executed twice (reset path and OnDestroyStream): the gauge ends at −1. -/
theorem mx_double_giveback_negative :
    ledgerOk mxTwice = false ∧
    mxView (MosnVerif.Model.PoolMxWin.drain 64 (MosnVerif.Model.PoolMxWin.step (MosnVerif.Model.PoolMxWin.drain 64 (MosnVerif.Model.PoolMxWin.run (MosnVerif.Model.PoolMxWin.initWith .h2 1 2 mxTwice) [.newStream 0 true])) (.endStream 0 .localReset)))
      = (0, -1, 0, 0, true) ∧
    ledgerOk mxCloseToo = false ∧
    mxView (MosnVerif.Model.PoolMxWin.drain 64 (MosnVerif.Model.PoolMxWin.step (MosnVerif.Model.PoolMxWin.drain 64 (MosnVerif.Model.PoolMxWin.run (MosnVerif.Model.PoolMxWin.initWith .mux 1 2 mxCloseToo) [.connect 0 true, .newStream 0 true, .newStream 0 true])) (.netClose 0)))
      = (-1, 0, 0, 0, true) := by decide +kernel

-- non-vacuity: the same histories on the pools as they are end at zero; mid-way the ledger counts what is still ahead
example : mxView (MosnVerif.Model.PoolMxWin.drain 64 (MosnVerif.Model.PoolMxWin.step (MosnVerif.Model.PoolMxWin.drain 64 (MosnVerif.Model.PoolMxWin.run (MosnVerif.Model.PoolMxWin.init .mux 1 1) [.connect 0 true, .newStream 0 true])) (.netClose 0))) = (0, 0, 0, 0, true) := by decide +kernel
example : mxView (MosnVerif.Model.PoolMxWin.drain 64 (MosnVerif.Model.PoolMxWin.step (MosnVerif.Model.PoolMxWin.drain 64 (MosnVerif.Model.PoolMxWin.run (MosnVerif.Model.PoolMxWin.init .h2 1 2) [.newStream 0 true])) (.endStream 0 .localReset))) = (0, 0, 0, 0, true) := by decide +kernel
example : mxView (MosnVerif.Model.PoolMxWin.drain 64 (MosnVerif.Model.PoolMxWin.run (MosnVerif.Model.PoolMxWin.init .mux 1 2) [.connect 0 true, .newStream 0 true, .newStream 0 true])) = (2, 2, 2, 2, true) := by decide +kernel
-- connection lost with two requests in flight, one OnDestroyStream done and one still ahead: Cur = 1 = 0 in flight + 1 owed
example : (fun s : MosnVerif.Model.PoolMxWin.State => (s.led.reqCur, s.led.streams.length, pend dR s.tasks))
    (MosnVerif.Model.PoolMxWin.run (MosnVerif.Model.PoolMxWin.drain 64 (MosnVerif.Model.PoolMxWin.run (MosnVerif.Model.PoolMxWin.init .mux 1 2) [.connect 0 true, .newStream 0 true, .newStream 0 true]))
      [.netClose 0, .taskStep 2, .taskStep 2, .taskStep 2, .taskStep 2]) = (1, 0, -1) := by decide +kernel

end MxPoolLedger
end MosnVerif.Props.C10

/-!
## The request gauges for EVERY valuation of the request-info flags

`newActiveStream` counts every request up on the proxy-global and the per-listener downstream `request_active` gauge;
`requestMetrics` (run once by `cleanStream`) counts them down — next to a block of per-request metrics that IS nested
under `IsHealthCheck()`.  `Gen.GaugeSites` regenerates every counter / gauge movement of pkg/proxy and of the connection
pools with the conditions it is nested under (enclosing `if`s, early-return guards, switch clauses, loops, closures) and
the call sites of the carrying functions.  The theorems below hold for every valuation `ρ₀` of the condition atoms when
the request is created and every (independent: filters may set flags in between) valuation `ρ₁` when it is cleaned.
-/
namespace MosnVerif.Props.C10
section RequestGauges
open MosnVerif.Gen.GaugeSites MosnVerif.Model.GaugeFlags MosnVerif.Lemmas.GaugeFlags
open MosnVerif.Model.Downstream

/-- What the theorems on the downstream request gauge need of the regenerated table, evaluated in one pass over it: the
pairing checks, and for either owner that the movements in `newActiveStream` and in `requestMetrics` are unconditional and
that under one valuation the request's share is 1 before the clean and 0 after it. -/
theorem request_gauge_table :
    (pairsOK moves && callsOK calls && [Owner.proxy, Owner.listener].all fun o =>
      uncond (sitesOf moves startFn o reqGauge) && uncond (sitesOf moves endFn o reqGauge) &&
      gaugeAfter moves (fun _ => false) (fun _ => false) o reqGauge false == 1 &&
      gaugeAfter moves (fun _ => false) (fun _ => false) o reqGauge true == 0) = true := by
  decide +kernel

/-- **gauge_pairs_condition_matched**: in the regenerated table every movement of a downstream gauge in downstream.go is
an unconditional unit movement — `+1` in `newActiveStream`, `-1` in `requestMetrics`, one pair per owner (proxy-global,
per-listener) — and the two functions are entered once per request (`newActiveStream` from `NewStreamDetect` only,
`requestMetrics` from `cleanStream` only, under nothing but the once-guard on `downstreamCleaned`) -/
theorem gauge_pairs_condition_matched : pairsOK moves = true ∧ callsOK calls = true := by
  have h := request_gauge_table
  simp only [Bool.and_eq_true] at h
  exact h.1

/-- the value of a request's share of the gauge, computed from the regenerated movements, for EVERY valuation of the
request-info flags at creation and at clean: 1 until the stream is cleaned, 0 afterwards -/
theorem request_gauge_every_flag (ρ₀ ρ₁ : Val) (o : Owner) (ho : o = .proxy ∨ o = .listener) (cleaned : Bool) :
    gaugeAfter moves ρ₀ ρ₁ o reqGauge cleaned = if cleaned then 0 else 1 := by
  have h := request_gauge_table
  simp only [Bool.and_eq_true, List.all_eq_true, beq_iff_eq] at h
  obtain ⟨⟨⟨u0, u1⟩, d0⟩, d1⟩ := h.2 o (by rcases ho with rfl | rfl <;> simp)
  rw [gaugeAfter_uncond moves ρ₀ ρ₁ (fun _ => false) (fun _ => false) o reqGauge cleaned u0 u1]
  cases cleaned
  · exact d0
  · exact d1

/-- **ledger_exact_flags**: `ledger_exact` with the downstream gauge computed from the regenerated movements — in every
reachable state of the downstream machine (every configuration, ambient load, schedule), for both owners and EVERY flag
valuation, the gauge the Go code keeps is the machine's `downActive` -/
theorem ledger_exact_flags (c : Cfg) (ar aq : Nat) (l : List Label) (ρ₀ ρ₁ : Val) (o : Owner) (ho : o = .proxy ∨ o = .listener) :
    gaugeAfter moves ρ₀ ρ₁ o reqGauge (reach c ar aq l).cleaned = (reach c ar aq l).downActive ∧
    (reach c ar aq l).downActive = (if (reach c ar aq l).cleaned then 0 else 1) := by
  refine ⟨?_, (ledger_exact c ar aq l).2.2.2⟩
  rw [request_gauge_every_flag _ _ _ ho, (ledger_exact c ar aq l).2.2.2]

/-- **quiescent_zero_flags**: once the stream is cleaned both downstream gauges are back at zero whatever flags the
request carried (health check, failed, response code, protocol …), with the counters of `quiescent_zero` -/
theorem quiescent_zero_flags (c : Cfg) (ar aq : Nat) (l : List Label) (h : (reach c ar aq l).cleaned = true)
    (ρ₀ ρ₁ : Val) (o : Owner) (ho : o = .proxy ∨ o = .listener) :
    gaugeAfter moves ρ₀ ρ₁ o reqGauge (reach c ar aq l).cleaned = 0 ∧
    (reach c ar aq l).retries = ar ∧ (reach c ar aq l).requests = aq ∧ (reach c ar aq l).upActive = 0 := by
  obtain ⟨h1, h2, h3, _⟩ := quiescent_zero c ar aq l h
  refine ⟨?_, h1, h2, h3⟩
  rw [request_gauge_every_flag _ _ _ ho, h]; rfl

/-- the hypothesis of `quiescent_zero_flags` is satisfiable by a non-trivial schedule (a retried attempt, then a 200),
and in that state the gauge computed from the table under a health-check valuation at clean time is 0 -/
example : (reach { retryOn := true, numRetries := 1, maxRetries := 2 } 1 0
    (List.replicate 12 .work ++ [.upResp 0 503 false false] ++ List.replicate 5 .work ++ [.upResp 1 200 false false] ++
      List.replicate 4 .work)).cleaned = true := by decide +kernel
example : gaugeAfter moves (valOf {}) (valOf { hc := true, failed := true }) .listener reqGauge true = 0 :=
  request_gauge_every_flag _ _ _ (Or.inr rfl) true

/-- The pools' check on the regenerated table and on the table with a seeded conditional decrement, evaluated together:
both start from the same search for the `UpstreamRequestActive` rows. -/
theorem pool_gauge_table :
    (poolOK moves &&
      !poolOK (moves.map fun m => if m.metric == "UpstreamRequestActive" && m.op == .dec && m.file == "pkg/stream/http/connpool.go"
              then { m with conds := [⟨false, "code < 500"⟩] } else m)) = true := by
  decide +kernel

/-- **pool_request_gauge_unconditional**: in the five connection pools every movement of the upstream `request_active`
gauge is a unit movement, host and cluster gauge move together, and every DECREMENT is unconditional inside the pool's
destroy handler: no response code and no request-info flag decides whether a finished request is given back -/
theorem pool_request_gauge_unconditional : poolOK moves = true := by
  have h := pool_gauge_table
  rw [Bool.and_eq_true] at h
  exact h.1

/-- the seeded class: the countdown moved under `!IsHealthCheck()` -/
def hcTable : List Move := [
  ⟨dsFile, startFn, .proxy, reqGauge, .inc, "1", true, []⟩,
  ⟨dsFile, startFn, .listener, reqGauge, .inc, "1", true, []⟩,
  ⟨dsFile, endFn, .proxy, reqGauge, .dec, "1", true, [⟨true, "s.requestInfo.IsHealthCheck()"⟩]⟩,
  ⟨dsFile, endFn, .listener, reqGauge, .dec, "1", true, [⟨true, "s.requestInfo.IsHealthCheck()"⟩]⟩]

/-- negation witness: with the decrement under `!healthCheck` the pairing check fails, an ordinary request still returns
to zero, and a request a filter flagged as health check AFTER it was counted leaves both gauges at 1 for ever -/
theorem hc_conditional_decrement_leaks :
    pairsOK hcTable = false ∧
    gaugeAfter hcTable (valOf {}) (valOf {}) .proxy reqGauge true = 0 ∧
    gaugeAfter hcTable (valOf {}) (valOf { hc := true }) .proxy reqGauge true = 1 ∧
    gaugeAfter hcTable (valOf {}) (valOf { hc := true }) .listener reqGauge true = 1 := by decide +kernel

/-- negation witness for the pools: an upstream decrement under a response-code test is outside the class -/
theorem pool_conditional_decrement_rejected :
    poolOK (moves.map fun m => if m.metric == "UpstreamRequestActive" && m.op == .dec && m.file == "pkg/stream/http/connpool.go"
              then { m with conds := [⟨false, "code < 500"⟩] } else m) = false := by
  have h := pool_gauge_table
  rw [Bool.and_eq_true, Bool.not_eq_true'] at h
  exact h.2

end RequestGauges
end MosnVerif.Props.C10
/-! ### `place` and `listen` of NewStream as separate steps: HTTP/1, ping-pong and binding pools

`Model/PoolPlace.{h1,pp,bind}Progs`: the REGENERATED NewStream programs of the three pools (`Gen/PoolPlace`, source order;
the stream is created = `place`, the pool's listener is added = `listen`, the three takes, the closed-connection test =
`undoChk`) run in the interleaving model `Model/PoolMxWin`: one statement per step, and between ANY two statements any
other label — in particular `netClose c` between `place` and `listen`, which (where `placeVisible`, regenerated) resets the
new stream before the pool listens to it.  The theorems are the generic `request_ledger_exact_steps` (every program set of
the decidable class `ledgerOk`: where the stream is resettable from its creation, `listen` is followed by exactly one
closed-connection test) instantiated with the regenerated programs, which are DECIDED to be in the class on every run. -/
namespace MosnVerif.Props.C10
section PlaceListen
open MosnVerif.Lemmas.PoolMxWin
open MosnVerif.Model.PoolMxWin (Progs initWith run drain step stepTask)
open MosnVerif.Model.PoolPlace

theorem place_progs_ledgerOk : ledgerOk h1Progs = true ∧ ledgerOk ppProgs = true ∧ ledgerOk bindProgs = true := by decide +kernel

/-- **pp_place_listen_ledger_exact_steps**: ping-pong pool, after EVERY label of every interleaving (a connection close
between the creation of the stream and the pool's listener included), every number of connections and every limit -/
theorem pp_place_listen_ledger_exact_steps (nSlots maxReq : Nat) (ls : List MosnVerif.Model.PoolMxWin.Label) :
    Ledger maxReq (run (initWith .mux nSlots maxReq ppProgs) ls) :=
  request_ledger_exact_steps .mux nSlots maxReq _ place_progs_ledgerOk.2.1 ls

/-- **bind_place_listen_ledger_exact_steps**: the same for the binding pool (dial inside NewStream under the pool's mutex) -/
theorem bind_place_listen_ledger_exact_steps (maxReq : Nat) (ls : List MosnVerif.Model.PoolMxWin.Label) :
    Ledger maxReq (run (initWith .h2 1 maxReq bindProgs) ls) :=
  request_ledger_exact_steps .h2 1 maxReq _ place_progs_ledgerOk.2.2 ls

/-- **h1_place_listen_ledger_exact_steps**: the same for the HTTP/1 pool, whose NewStream has NO closed-connection test:
it needs none because `h1PlaceVisible = false` (regenerated from pkg/stream/http/stream.go: a connection event resets the
stream only after its request was sent) — a close between `place` and `listen` leaves the stream in flight, it ends when
its request cannot be sent, heard by the pool -/
theorem h1_place_listen_ledger_exact_steps (nSlots maxReq : Nat) (ls : List MosnVerif.Model.PoolMxWin.Label) :
    Ledger maxReq (run (initWith .mux nSlots maxReq h1Progs) ls) :=
  request_ledger_exact_steps .mux nSlots maxReq _ place_progs_ledgerOk.1 ls

/-- quiescent ⇒ zero for the three pools -/
theorem place_quiescent_zero (pg : Progs) (h : pg = h1Progs ∨ pg = ppProgs ∨ pg = bindProgs) (k : MosnVerif.Model.PoolMxWin.Kind)
    (nSlots maxReq : Nat) (ls : List MosnVerif.Model.PoolMxWin.Label) (q : (run (initWith k nSlots maxReq pg) ls).quiescent) :
    let s := run (initWith k nSlots maxReq pg) ls
    s.led.rqHost = 0 ∧ s.led.rqCluster = 0 ∧ s.led.reqCur = if maxReq = 0 then 0 else (s.led.ext : Int) := by
  have hok : ledgerOk pg = true := by
    rcases h with h | h | h <;> rw [h]
    · exact place_progs_ledgerOk.1
    · exact place_progs_ledgerOk.2.1
    · exact place_progs_ledgerOk.2.2
  exact ledger_quiescent maxReq _ (request_ledger_exact_steps k nSlots maxReq _ hok ls) q

/-- why the HTTP/1 pool is not affected, from the regenerated facts: the stream is not resettable before its request is
sent, its NewStream has no closed-connection test and is in the class all the same; were the stream resettable from its
creation (`placeVisible := true`) the same program would be OUTSIDE the class -/
theorem h1_not_affected :
    MosnVerif.Gen.PoolPlace.h1PlaceVisible = false ∧ h1Progs.nsPost.contains .undoChk = false ∧
    ledgerOk h1Progs = true ∧ ledgerOk { h1Progs with placeVisible := true } = false := by decide +kernel

/-- the ping-pong / binding NewStream as it was before the fixes: listen, takes, no closed-connection test -/
def ppUnfixed : Progs := { ppProgs with nsPost := unfixedPost }

/-- the schedule of the harness operation `Y`: a NewStream runs up to `listen`, the connection is closed, everything
runs to its end -/
def yieldSched (pg : Progs) (maxReq : Nat) : MosnVerif.Model.PoolMxWin.State :=
  let s0 := run (initWith .mux 1 maxReq pg) [.connect 0 true, .newStream 0 true]
  -- breaker test, client, refusal test, place: four statements; then the close
  let s1 := stepTask (stepTask (stepTask (stepTask s0 0) 0) 0) 0
  drain 64 (step s1 (.netClose 0))

/-- negation witness = the unfixed order: outside the class; the close between `place` and `listen` leaves the pool
quiescent with NO request in flight and `Requests().Cur()` = 1, both gauges 1 for ever (with max_requests = 1 every later
request overflows) -/
theorem unfixed_order_leaks :
    ledgerOk ppUnfixed = false ∧ mxView (yieldSched ppUnfixed 1) = (1, 1, 1, 0, true) := by decide +kernel

-- the same schedule on the pools as they are: everything given back, the request refused
example : mxView (yieldSched ppProgs 1) = (0, 0, 0, 0, true) ∧ (yieldSched ppProgs 1).bk.lastRes = .connFail := by decide +kernel
-- HTTP/1: the stream stays in flight on the closed connection (it ends at send): counted, not leaked
example : mxView (yieldSched h1Progs 1) = (1, 1, 1, 1, true) ∧ (yieldSched h1Progs 1).led.streams = [0] := by decide +kernel
-- non-vacuity of the mid-way claim: after `place`, before `listen`, with the connection closed
example : (fun s : MosnVerif.Model.PoolMxWin.State => (s.led.reqCur, s.led.streams.length, s.led.deaf.length))
    (step (stepTask (stepTask (stepTask (stepTask (run (initWith .mux 1 1 ppProgs) [.connect 0 true, .newStream 0 true]) 0) 0) 0) 0) (.netClose 0))
    = (0, 0, 0) := by decide +kernel

end PlaceListen

/-! ## The ledger across CLUSTER UPDATES: which resource-manager OBJECT the current cluster uses

`Model/ResourceShare.lean`: managers, cluster infos and hosts are OBJECTS with identity; a holder (request slot, retry slot,
stream-proxy connection) gives its unit back through the object it remembers (a cluster info, or a host whose info pointer
`InheritClusterHostsHandler` swings).  `UpdateCluster` builds a new info with a FRESH manager, runs the regenerated handler chain
(`Gen.ResourceShare.primaryChain / andHostChain`, with `handler` = UpdateClusterResourceManagerHandler and `stores` =
updateResourceValue interpreted statement by statement) and publishes.  The theorems are about `Code.gen` (the programs as they
are in the source) over EVERY history of admissions, releases and updates through either mutator, every threshold vector,
every cluster-type change, any number of hosts; the negation witnesses are the same histories under edited programs. -/
section ClusterUpdates
open MosnVerif.Model.ResourceShare MosnVerif.Gen.ResourceShare

/-- **ledger_exact_across_updates**: after every history (no threshold moved between 0 and non-zero under a held unit — see
`threshold_through_zero_leaks`), every cluster info ever built for the cluster and every host reach the manager the CURRENT
cluster uses; on that manager every limited resource counts exactly the live holders (an unlimited one is not counted), the
gauges count the live holders; with no live holder every counter and gauge is 0. -/
theorem ledger_exact_across_updates (thr0 : Thr) (nh : Nat) (ops : List Op)
    (hz : zeroStable Code.gen (init thr0 nh) ops = true) :
    (∀ i, i < (run Code.gen (init thr0 nh) ops).nInfo →
        (run Code.gen (init thr0 nh) ops).infoMgr i = (run Code.gen (init thr0 nh) ops).infoMgr (run Code.gen (init thr0 nh) ops).cur) ∧
    (∀ h, h < (run Code.gen (init thr0 nh) ops).nHost →
        mgrOf (run Code.gen (init thr0 nh) ops) (.host h) = (run Code.gen (init thr0 nh) ops).infoMgr (run Code.gen (init thr0 nh) ops).cur) ∧
    (∀ r, (curMgr (run Code.gen (init thr0 nh) ops)).cur.get r =
        if (curMgr (run Code.gen (init thr0 nh) ops)).max.get r = 0 then 0 else (count r (run Code.gen (init thr0 nh) ops).live : Int)) ∧
    (∀ r, (run Code.gen (init thr0 nh) ops).gauge.get r = (count r (run Code.gen (init thr0 nh) ops).live : Int)) ∧
    ((run Code.gen (init thr0 nh) ops).live = [] →
        ∀ r, (curMgr (run Code.gen (init thr0 nh) ops)).cur.get r = 0 ∧ (run Code.gen (init thr0 nh) ops).gauge.get r = 0) := by
  obtain ⟨hi, hl, hg⟩ := MosnVerif.Model.ResourceShare.reach (init thr0 nh) ops (inv_init _ _) (ledger_init _ _) (gauges_init _ _) hz
  have hc := hi.im _ hi.cur
  rw [curMgr_eq hi]
  refine ⟨fun i h => by rw [hi.im i h, hc], fun h hh => by rw [mgrOf_valid hi (by simpa [validPath] using hh), hc], hl, hg,
    fun he r => ⟨?_, by rw [hg r, he]; rfl⟩⟩
  rw [hl r, he]; split <;> rfl

/-- **thresholds_follow_last_update**: after an update the thresholds of the current manager are the ones of THAT update, and an
admission through any existing object is refused exactly when the resource is limited and the live holders — admitted before or
after the update — have reached the NEW threshold (the shared count). -/
theorem thresholds_follow_last_update (thr0 : Thr) (nh : Nat) (ops : List Op) (p : Bool) (thr : Thr) (st : Bool) (n : Nat)
    (hz : zeroStable Code.gen (init thr0 nh) (ops ++ [.update p thr st n]) = true) :
    (curMgr (run Code.gen (init thr0 nh) (ops ++ [.update p thr st n]))).max = thr ∧
    ∀ id r t pth, validPath (run Code.gen (init thr0 nh) (ops ++ [.update p thr st n])) t = true →
      validPath (run Code.gen (init thr0 nh) (ops ++ [.update p thr st n])) pth = true →
      ((acquire (run Code.gen (init thr0 nh) (ops ++ [.update p thr st n])) id r t pth).2 = false ↔
        (0 < thr.get r ∧ thr.get r ≤ count r (run Code.gen (init thr0 nh) (ops ++ [.update p thr st n])).live)) := by
  obtain ⟨hi, hl, _⟩ := MosnVerif.Model.ResourceShare.reach (init thr0 nh) _ (inv_init _ _) (ledger_init _ _) (gauges_init _ _) hz
  have hm : (curMgr (run Code.gen (init thr0 nh) (ops ++ [.update p thr st n]))).max = thr := by
    have hi0 := (reach_inv (init thr0 nh) ops (inv_init _ _) (gauges_init _ _)).1
    rw [show run Code.gen (init thr0 nh) (ops ++ [.update p thr st n]) = update Code.gen (run Code.gen (init thr0 nh) ops) p thr st n by
      simp only [run, List.foldl_append, List.foldl_cons, List.foldl_nil, step]]
    exact congrArg Mgr.max (update_cur _ p thr st n hi0).2
  refine ⟨hm, fun id r t pth ht hp => ?_⟩
  rw [admit_refused_iff hi hl id r ht hp, ← curMgr_eq hi, hm]

/-- **no_orphan_manager**: after every history (zero crossings included) no live holder will give its unit back to a manager other
than the one the current cluster uses — whatever the cluster types of the updates were (the type guard is gone from the handler:
fixed defect). -/
theorem no_orphan_manager (thr0 : Thr) (nh : Nat) (ops : List Op) :
    ∀ hd, hd ∈ (run Code.gen (init thr0 nh) ops).live →
      mgrOf (run Code.gen (init thr0 nh) ops) hd.rel =
        (run Code.gen (init thr0 nh) ops).infoMgr (run Code.gen (init thr0 nh) ops).cur := by
  obtain ⟨hi, _⟩ := reach_inv (init thr0 nh) ops (inv_init _ _) (gauges_init _ _)
  intro hd hm
  rw [mgrOf_valid hi (hi.lv hd hm), hi.im _ hi.cur]

/-- the type-change case as the code does it: from every state of the invariant an update that CHANGES the cluster type keeps
the manager object and its counters, and installs the new thresholds (same as a same-type update) -/
theorem type_change_keeps_manager (s : State) (hi : Inv s) (p : Bool) (thr : Thr) (n : Nat) :
    (update Code.gen s p thr false n).infoMgr (update Code.gen s p thr false n).cur = s.infoMgr s.cur ∧
    curMgr (update Code.gen s p thr false n) = ⟨thr, (curMgr s).cur⟩ :=
  update_cur s p thr false n hi

/-- the refinement theorem of the harness kind `rsh`: on every history of requests, retries, stream-proxy connections and updates
of both clusters (zero-stable by name), the observations of the OBJECT model under the regenerated programs are those of the ledger
BY NAME — i.e. the model always satisfies the predicate evaluated on the implementation's observations -/
theorem spec_share_holds_on_model (thr0 : Thr) (ops : List SOp) (hz : (Ref.init thr0).zeroStable ops = true) :
    Spec.holds thr0 ops (objTrace Code.gen (Hist.init thr0) ops) = true := by
  simp [Spec.holds, trace_eq _ _ ops (rel_init thr0) hz]

/-- every way into `UpdateCluster` runs the resource handler, before the publication: both mutators' chains contain it, the two
mutators are the only callers of `UpdateCluster` under pkg/, the adapter's Trigger* (xDS, service discovery, admin) call them;
the new cluster comes from `NewCluster` (fresh manager, counters 0), the old one from `clustersMap`, the chain gets (old, new) and
runs before `clustersMap.Store`; inherited hosts are pointed at the new info, new hosts are built with it -/
theorem update_paths_all_share :
    primaryChain.contains .resource = true ∧ andHostChain.contains .resource = true ∧
    updateCallers = ["pkg/upstream/cluster/cluster_manager.go:AddOrUpdateClusterAndHost",
                     "pkg/upstream/cluster/cluster_manager.go:AddOrUpdatePrimaryCluster"] ∧
    adapterAddOrUpdate = "AddOrUpdatePrimaryCluster" ∧ adapterAndHosts = "AddOrUpdateClusterAndHost" ∧
    update_newFromNewCluster = true ∧ update_oldFromMap = true ∧ update_handlerArgsOldNew = true ∧
    update_handlerBeforePublish = true ∧ update_publishesNew = true ∧
    newInfo_freshManager = true ∧ freshManager_cursZero = true ∧
    inherit_swingsHosts = true ∧ inherit_keepsHostSet = true ∧ newHosts_useOwnInfo = true ∧ host_infoIsMutableField = true := by
  and_intros <;> rfl

/-- the stats gauges (`UpstreamRequestActive`, `UpstreamConnectionActive`, cluster and host) are keyed by NAME in the metrics
registry: a new cluster / host object of the same name gets the SAME counter — shared by construction, no hand-over needed -/
theorem stats_gauges_shared_by_name :
    stats_clusterByName = true ∧ stats_hostByName = true ∧ stats_lookupBeforeCreate = true ∧ stats_counterGetOrRegister = true :=
  ⟨rfl, rfl, rfl, rfl⟩

/-- through which object every breaker site reaches the manager (what `objMach` assumes): request slots through the pool's host
(its CURRENT info), retry slots through the captured info, a stream-proxy connection is taken on the snapshot's info and given
back through the host; no site uses anything else -/
theorem release_paths_table :
    sites.all (fun x => x.via != .other &&
      (match x.res, x.op with
       | .req, _ => x.via == .viaHost
       | .retr, _ => x.via == .viaInfo
       | .conn, .Decrease => x.via == .viaHost
       | .conn, _ => x.via == .viaInfo
       | .pend, _ => false)) = true := by
  decide +kernel

/-! ### negation witnesses: the same histories under edited programs -/

/-- the handler gives the new cluster a manager of its own with the counters COPIED in (`UpdateCur`) instead of sharing -/
def Code.copy : Code :=
  { Code.gen with handler := [.skipIfNoOld, .read .new .new, .read .old .old,
      .copyCur .new .conn .old .conn, .copyCur .new .pend .old .pend, .copyCur .new .req .old .req, .copyCur .new .retr .old .retr] }
/-- the resource handler dropped from `AddOrUpdateClusterAndHost`'s chain -/
def Code.dropped : Code := { Code.gen with andHost := [.cleanOld, .newHosts, .transfer] }
/-- the handler as it was before the fix: nothing handed over when the cluster type differs -/
def Code.typeGuard : Code :=
  { Code.gen with handler := [.skipIfNoOld, .read .new .new, .read .old .old, .skipIfTypeDiffers, .alias .new .old, .update .old .new] }
/-- `updateResourceValue` also resets the counters -/
def Code.resetCur : Code :=
  { Code.gen with stores := Code.gen.stores ++ [⟨.p0, .conn, .cur, .lit 0⟩, ⟨.p0, .pend, .cur, .lit 0⟩, ⟨.p0, .req, .cur, .lit 0⟩, ⟨.p0, .retr, .cur, .lit 0⟩] }

def thr1 : Thr := ⟨1, 1, 1, 1⟩
/-- one retry in flight, one update (same thresholds, same type), the retry ends -/
def histShare : List Op := [.acquire 1 .retr (.info 0) (.info 0), .update true thr1 true 0, .release 1]

/-- **copy_instead_of_share_leaks**: one in-flight retry, one update, release: the decrement lands on the OLD object, the current
manager keeps `Retries().Cur() = 1` with nothing in flight — for ever (no sequence of further ends can lower it), and with
`max_retries = 1` every later retry is refused; under the real programs the same history ends at 0 -/
theorem copy_instead_of_share_leaks :
    (curMgr (run Code.copy (init thr1 1) histShare)).cur.retr = 1 ∧ (run Code.copy (init thr1 1) histShare).live = [] ∧
    (∀ ids : List Nat, (curMgr (run Code.copy (run Code.copy (init thr1 1) histShare) (ids.map .release))).cur.retr = 1) ∧
    (acquire (run Code.copy (init thr1 1) histShare) 3 .retr (.info 1) (.info 1)).2 = false ∧
    (curMgr (run Code.gen (init thr1 1) histShare)).cur.retr = 0 := by
  have h1 : (curMgr (run Code.copy (init thr1 1) histShare)).cur.retr = 1 := by decide +kernel
  have hl : (run Code.copy (init thr1 1) histShare).live = [] := by decide +kernel
  exact ⟨h1, hl, fun ids => by rw [run_release_idle Code.copy hl ids]; exact h1, by decide +kernel, by decide +kernel⟩

/-- **dropped_handler_splits_ledger**: without the resource handler in `AddOrUpdateClusterAndHost`'s chain the new cluster counts
on a manager of its own: with `max_retries = 1`, a retry in flight from before the update and a retry of a request routed after it
are BOTH admitted (the limit does not trip), and the current manager shows 1 with two in flight -/
theorem dropped_handler_splits_ledger :
    let s := run Code.dropped (init thr1 1) [.acquire 1 .retr (.info 0) (.info 0), .update false thr1 true 1, .acquire 3 .retr (.info 1) (.info 1)]
    count .retr s.live = 2 ∧ (curMgr s).cur.retr = 1 ∧
    count .retr (run Code.gen (init thr1 1) [.acquire 1 .retr (.info 0) (.info 0), .update false thr1 true 1, .acquire 3 .retr (.info 1) (.info 1)]).live = 1 := by
  decide +kernel

/-- **type_guard_orphans** (the defect that was fixed): with the type guard, a request in flight over an update that changes the
cluster type gives its slot back through its host — pointed at the NEW info by InheritClusterHostsHandler — to the fresh manager:
`Requests().Cur() = -1` with nothing in flight -/
theorem type_guard_orphans :
    let s := run Code.typeGuard (init thr1 1) [.acquire 0 .req (.host 0) (.host 0), .update true thr1 false 0, .release 0]
    (curMgr s).cur.req = -1 ∧ s.live = [] ∧
    (curMgr (run Code.gen (init thr1 1) [.acquire 0 .req (.host 0) (.host 0), .update true thr1 false 0, .release 0])).cur.req = 0 := by
  decide +kernel

/-- **reset_cur_goes_negative**: `updateResourceValue` resetting the counters: what was in flight is given back to a counter at 0 -/
theorem reset_cur_goes_negative :
    let s := run Code.resetCur (init thr1 1) [.acquire 0 .req (.host 0) (.host 0), .update true thr1 true 0, .release 0]
    (curMgr s).cur.req = -1 ∧ s.live = [] := by
  decide +kernel

/-- **threshold_through_zero_leaks** (KNOWN FINDING, the real programs): `Increase / Decrease` are no-ops while `max = 0`, so an
update that moves a threshold between 0 and non-zero under a held unit breaks the ledger.  (a) admitted unlimited (not counted),
limited to 1 by an update, released: `Cur() = -1`.  (b) admitted at limit 1 (counted), lifted to 0, released (not decremented),
limited to 1 again: `Cur() = 1` with nothing in flight and every later request refused. -/
theorem threshold_through_zero_leaks :
    (curMgr (run Code.gen (init ⟨0, 0, 0, 0⟩ 1) [.acquire 0 .req (.host 0) (.host 0), .update true thr1 true 0, .release 0])).cur.req = -1 ∧
    (let s := run Code.gen (init thr1 1) [.acquire 0 .req (.host 0) (.host 0), .update true ⟨0, 0, 0, 0⟩ true 0, .release 0, .update true thr1 true 0]
     (curMgr s).cur.req = 1 ∧ s.live = [] ∧ (acquire s 2 .req (.host 0) (.host 0)).2 = false) ∧
    zeroStable Code.gen (init ⟨0, 0, 0, 0⟩ 1) [.acquire 0 .req (.host 0) (.host 0), .update true thr1 true 0, .release 0] = false := by
  decide +kernel

-- non-vacuity: a zero-stable history with units in flight over updates through both mutators, a type change and changed thresholds
def histOk : List Op :=
  [.acquire 0 .req (.host 0) (.host 0), .acquire 1 .retr (.info 0) (.info 0), .update true ⟨2, 0, 2, 1⟩ true 0,
   .acquire 2 .req (.host 0) (.host 0), .update false ⟨1, 0, 1, 1⟩ false 1, .acquire 4 .req (.host 1) (.host 1), .release 0,
   .acquire 9 .conn (.info 2) (.host 1), .release 1, .release 2, .release 9]
example : zeroStable Code.gen (init thr1 1) histOk = true := by decide +kernel
example : (curMgr (run Code.gen (init thr1 1) (histOk.take 6))).cur = ⟨0, 0, 2, 1⟩ ∧
    (curMgr (run Code.gen (init thr1 1) (histOk.take 6))).max = ⟨1, 0, 1, 1⟩ ∧
    (run Code.gen (init thr1 1) histOk).live = [] ∧ (curMgr (run Code.gen (init thr1 1) histOk)).cur = ⟨0, 0, 0, 0⟩ := by decide +kernel
-- thresholds_follow_last_update: the request `4` above was refused at the NEW threshold 1 against the two admitted before the update
example : (acquire (run Code.gen (init thr1 1) (histOk.take 5)) 4 .req (.host 1) (.host 1)).2 = false := by decide +kernel
-- the histories of the harness: zero-stable by name, with a refusal at the new threshold, and the predicate is not trivially true
def shist : List SOp := [.start 0, .retry 0, .update true 0 ⟨1, 0, 2, 1⟩, .start 1, .update false 1 ⟨1, 0, 1, 1⟩, .start 2, .open_ 0,
  .retry 1, .fin 0, .fin 1, .close 0]
example : (Ref.init thr1).zeroStable shist = true := by decide +kernel
example : (refTrace (Ref.init thr1) shist).map (·.out) = [.a, .r, .u, .a, .u, .o, .a, .v, .e, .n, .e] := by decide +kernel
example : Spec.holds thr1 [.start 0, .retry 0, .update true 0 thr1, .fin 0]
    (objTrace Code.copy (Hist.init thr1) [.start 0, .retry 0, .update true 0 thr1, .fin 0]) = false := by decide +kernel
-- (a request slot alone is masked under `AddOrUpdatePrimaryCluster`: the inherited host is pointed at the new info, the decrement
-- follows the copy; through `AddOrUpdateClusterAndHost` the pool keeps the old host object and the copy stays for ever)
example : Spec.holds thr1 [.start 0, .update true 0 thr1, .fin 0]
    (objTrace Code.copy (Hist.init thr1) [.start 0, .update true 0 thr1, .fin 0]) = true ∧
    Spec.holds thr1 [.start 0, .update false 0 thr1, .fin 0]
    (objTrace Code.copy (Hist.init thr1) [.start 0, .update false 0 thr1, .fin 0]) = false := by decide +kernel
example : Inv (init thr1 1) := inv_init _ _
end ClusterUpdates

end MosnVerif.Props.C10
