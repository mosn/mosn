import MosnVerif.Lemmas.Route
import MosnVerif.Lemmas.RouteRegex
/-!
# C04 — route selection follows the documented precedence, deterministically (property theorems only)

`build` = `router.NewRouters` (tables), `findVirtualHost`, `selectRoute`/`allRoutes` = `MatchRoute`/`MatchAllRoutes`
on the built rules; the lookup `findHighestPriorityIndex`, the sort comparison `Less` and the matcher functions are the
regenerated `Gen.Route.*`.  `Spec.*` is the documented behaviour written from the configuration alone.
Every theorem holds for **every** regex oracle `rx` and **every** sorting function with `sort.Sort`'s contract.
-/
namespace MosnVerif.Props.C04
open MosnVerif.Model.Route

/-- **vhost_refines**: for every configuration `NewRouters` accepts, every result `sort.Sort` may produce and every
Host value (unset, empty, unparsable, any case, any port), the virtual host found is the one the documented
precedence gives: exact host + exact port, exact host + `*` port, longest matching wildcard suffix with exact port,
then with `*` port, then the default `*`; host names compared case-insensitively. -/
theorem vhost_refines (srt : List Wild → List Wild) (hs : IsSorter srt) (cfg : Config) (t : Tables)
    (hb : build srt cfg = .ok t) (host : Option Str) :
    findVirtualHost t host = Spec.vhost cfg host :=
  vhost_refines_core hs hb host

/-- the same for the **regenerated** `routersImpl.findVirtualHost` run on a request's variable context. -/
theorem vhost_refines_gen (srt : List Wild → List Wild) (hs : IsSorter srt) (cfg : Config) (t : Tables)
    (hb : build srt cfg = .ok t) (ctx : Str → Option Str) :
    Gen.Route.findVirtualHost splitGraceful t ctx = Spec.vhost cfg (ctx Gen.Route.varHost) := by
  rw [gen_findVirtualHost]; exact vhost_refines_core hs hb _

/-- **sort instability is harmless**: two sort results (e.g. different orders among equally long suffixes) never
change the selected virtual host. -/
theorem vhost_sort_irrelevant (srt srt' : List Wild → List Wild) (hs : IsSorter srt) (hs' : IsSorter srt')
    (cfg : Config) (t t' : Tables) (hb : build srt cfg = .ok t) (hb' : build srt' cfg = .ok t') (host : Option Str) :
    findVirtualHost t host = findVirtualHost t' host := by
  rw [vhost_refines srt hs cfg t hb, vhost_refines srt' hs' cfg t' hb']

/-- **case-insensitive**: Host values that differ only in letter case select the same virtual host (configured
domains are lower-cased when the tables are built, so the same holds on the configuration side by construction). -/
theorem vhost_case_insensitive (srt : List Wild → List Wild) (hs : IsSorter srt) (cfg : Config) (t : Tables)
    (hb : build srt cfg = .ok t) (h h' : Str) (heq : lower h = lower h') :
    findVirtualHost t (some h) = findVirtualHost t (some h') := by
  rw [vhost_refines srt hs cfg t hb, vhost_refines srt hs cfg t hb]
  exact vhost_case_insensitive_core cfg h h' heq

/-- the selected virtual host is a configured one (or −1 = none). -/
theorem vhost_in_range (srt : List Wild → List Wild) (hs : IsSorter srt) (cfg : Config) (t : Tables)
    (hb : build srt cfg = .ok t) (host : Option Str) :
    findVirtualHost t host = -1 ∨ (0 ≤ findVirtualHost t host ∧ findVirtualHost t host < cfg.length) := by
  rw [vhost_refines srt hs cfg t hb]; exact vhost_index_valid cfg host

/-- **rule_refines**: a rule built by `NewRouteBase` matches a request exactly when all matchers of the configured
route hold (path / prefix / regex, header conjunction, method via the request variable, variable matchers, RPC
headers), for every regex oracle and **every kind of request header map** (`req.kind`: the exact-name maps of
xprotocol / RPC, the case-insensitive HTTP/1 and HTTP/2 maps): a configured header name is matched as the request's
protocol matches names (`Spec.hdrValue`), whichever constructor (`CreateHTTPHeaderMatcher` for path / prefix / regex
rules, `CreateCommonHeaderMatcher` for RPC rules — both regenerated) built the matcher. -/
theorem rule_refines (rx : RxOracle) (req : Req) (m : MatchCfg) (rule : Rule) (h : mkRule m = .ok rule) :
    matchRule rx req rule = Spec.ruleHolds rx req m :=
  MosnVerif.Model.Route.rule_refines rx req h

/-- **header_name_rule**: what the matchers read from the request, `headers.Get(name)` of the request's header map,
is the documented rule `Spec.hdrValue`: the first header whose name equals the configured name — byte for byte on an
xprotocol / RPC map, ignoring letter case on an HTTP map (HTTP/2: pseudo headers from the request line, an empty
value counts as absent). -/
theorem header_name_rule (req : Req) (name : Str) : req.hdr name = Spec.hdrValue req name := hdr_spec req name

/-- **constructors_keep_names**: every matcher built by `CreateCommonHeaderMatcher` and by `CreateHTTPHeaderMatcher`
(regenerated) looks up a configured name *verbatim* — neither constructor normalises it — and keeps the configured
value; the entries `CreateCommonHeaderMatcher` keeps are in configuration order (for the HTTP constructor the order is
in `gen_createHttp`). -/
theorem constructors_keep_names (hs : List HeaderCfg) :
    (∀ kv ∈ Gen.Route.createCommonHeaderMatcher hs, ∃ h ∈ hs, kv.Name = h.name ∧ kv.Value.Value = h.value) ∧
    (∀ kv ∈ (Gen.Route.createHTTPHeaderMatcher hs).headers, ∃ h ∈ hs, kv.Name = h.name ∧ kv.Value.Value = h.value) ∧
    (Gen.Route.createCommonHeaderMatcher hs).map (·.Name) = (hs.filter (fun h => (newKV h).isSome)).map (·.name) := by
  refine ⟨?_, ?_, ?_⟩
  · intro kv hkv
    rw [gen_createCommon, List.mem_filterMap] at hkv
    obtain ⟨h, hh, hk⟩ := hkv
    exact ⟨h, hh, newKV_some hk⟩
  · intro kv hkv
    rw [gen_createHttp] at hkv
    simp only [List.mem_filterMap, List.mem_filter] at hkv
    obtain ⟨h, ⟨hh, _⟩, hk⟩ := hkv
    exact ⟨h, hh, newKV_some hk⟩
  · rw [gen_createCommon]
    induction hs with
    | nil => rfl
    | cons h r ih =>
      simp only [List.filterMap_cons, List.filter_cons]
      cases hk : newKV h with
      | none => simpa using ih
      | some kv => simp [ih, newKV_name hk]

/-- **rpc_matcher_refines** / **http_matcher_refines**: each constructor followed by its `Matches`, against a request
carried by any header map: the conjunction of the configured matchers under the documented name rule (plus, for
HTTP rules, the effective `method` matcher on the request variable). -/
theorem rpc_matcher_refines (rx : RxOracle) (req : Req) (hs : List HeaderCfg) :
    Gen.Route.commonMatches rx req.hdr (Gen.Route.createCommonHeaderMatcher hs) = hs.all (Spec.headerHolds rx req) := by
  rw [gen_createCommon, commonMatches_newKV]

theorem http_matcher_refines (rx : RxOracle) (req : Req) (hs : List HeaderCfg) :
    Gen.Route.httpMatches rx req.var req.hdr (Gen.Route.createHTTPHeaderMatcher hs) = Spec.httpHeadersHold rx req hs :=
  http_refines rx req hs

/-- **http_names_case_insensitive**: on an HTTP request (HTTP/1 map; HTTP/2 map for regular headers) names that differ
only in letter case read the same value — so re-casing a configured name, or the name a client sends, never changes
which route is selected. -/
theorem http_names_case_insensitive (req : Req) (n n' : Str) (hk : req.kind = .fold ∨ (req.kind = .h2 ∧ n.head? ≠ some ':' ∧ n'.head? ≠ some ':'))
    (heq : lower n = lower n') : Spec.hdrValue req n = Spec.hdrValue req n' := by
  unfold Spec.hdrValue
  rcases hk with hk | ⟨hk, h1, h2⟩
  · simp only [hk, heq]
  · simp only [hk, h1, h2, if_false, heq]

/-- **rpc_names_exact**: on an xprotocol / RPC request (keys of the map are unique) a configured name reads the value
stored under exactly that name, and nothing stored under a differently-cased name. -/
theorem rpc_names_exact (req : Req) (hk : req.kind = .exact) (hu : (req.hdrs.map (·.1)).Nodup) (n v : Str) :
    Spec.hdrValue req n = some v ↔ (n, v) ∈ req.hdrs := by
  unfold Spec.hdrValue
  simp only [hk]
  constructor
  · intro h
    obtain ⟨kv, hf, rfl⟩ := Option.map_eq_some_iff.mp h
    have hkv : kv.1 = n := by simpa using List.find?_some hf
    rw [← hkv]
    exact List.mem_of_find?_eq_some hf
  · intro hm
    cases hf : req.hdrs.find? (fun kv => decide (kv.1 = n)) with
    | none => exact absurd (List.find?_eq_none.mp hf _ hm) (by simp)
    | some kv =>
      -- keys are unique: the pair found under `n` is the pair `(n, v)`
      have hkv : kv.1 = n := by simpa using List.find?_some hf
      rw [eq_of_nodup_map (·.1) req.hdrs hu kv (List.mem_of_find?_eq_some hf) (n, v) hm hkv]
      rfl

/-- **no_query_matcher**: no rule `NewRouteBase` builds carries a query-parameter matcher (the field exists in
`BaseHTTPRouteRule`, `matchRoute` consults it, no constructor sets it): query parameters never influence selection. -/
theorem no_query_matcher (m : MatchCfg) (rule : Rule) (h : mkRule m = .ok rule) :
    match rule with
    | .prefix_ b _ | .path b _ | .regex b _ => b.configQueryParameters = none
    | _ => True := by
  unfold mkRule at h
  by_cases hp : m.prefix_ ≠ []
  · rw [if_pos hp] at h; cases h; rfl
  rw [if_neg hp] at h
  by_cases hpa : m.path ≠ []
  · rw [if_pos hpa] at h; cases h; rfl
  rw [if_neg hpa] at h
  -- the remaining kinds: a regex rule is built like the two above, the others carry no HTTP base
  split at h
  · split at h
    · cases h; rfl
    · cases h
  · split at h
    · split at h
      · cases h; trivial
      · cases h
    · split at h <;> cases h <;> trivial

/-- selection does not depend on the query-string parser (`Req.pq`), because no query-parameter matcher exists. -/
theorem query_parser_irrelevant (rx : RxOracle) (req : Req) (pq' : Str → List (Str × Str)) (m : MatchCfg) (rule : Rule)
    (h : mkRule m = .ok rule) : matchRule rx { req with pq := pq' } rule = matchRule rx req rule := by
  have hq := no_query_matcher m rule h
  have hh : ({ req with pq := pq' } : Req).hdr = req.hdr := rfl
  cases rule with
  | prefix_ b p | path b p | regex b p =>
    -- no query-parameter matcher: the closed form of the rule's `Match` does not mention the parser
    obtain ⟨⟨⟩, hm, q⟩ := b
    simp only at hq; subst hq
    simp only [matchRule, hh, prefixMatch_eq, pathMatch_eq, regexMatch_eq]
  | _ => rfl

/-- **route_first_match**: within a virtual host the selected route is the first one, in configuration order, whose
matchers all hold — for every request, i.e. every header-map kind, every multiset of carried header names. -/
theorem route_first_match (rx : RxOracle) (req : Req) (ms : List MatchCfg) (rules : List Rule)
    (h : mkRules ms = .ok rules) (j : Nat) :
    selectRoute rx req rules = some j ↔
      (∃ m, ms[j]? = some m ∧ Spec.ruleHolds rx req m = true) ∧
      ∀ i m, i < j → ms[i]? = some m → Spec.ruleHolds rx req m = false := by
  rw [select_refines rx req h, Spec.route, List.findIdx?_eq_some_iff_getElem]
  constructor
  · rintro ⟨hj, hp, hlt⟩
    refine ⟨⟨ms[j], List.getElem?_eq_getElem hj, hp⟩, fun i m hi hm => ?_⟩
    obtain ⟨_, rfl⟩ := List.getElem?_eq_some_iff.mp hm
    simpa using hlt i hi
  · rintro ⟨⟨m, hm, hp⟩, hlt⟩
    obtain ⟨hj, rfl⟩ := List.getElem?_eq_some_iff.mp hm
    exact ⟨hj, hp, fun i hi => by simp [hlt i _ hi (List.getElem?_eq_getElem (by omega))]⟩

/-- **route_none_iff**: "no route" is returned only if no configured route matches. -/
theorem route_none_iff (rx : RxOracle) (req : Req) (ms : List MatchCfg) (rules : List Rule)
    (h : mkRules ms = .ok rules) :
    selectRoute rx req rules = none ↔ ∀ m ∈ ms, Spec.ruleHolds rx req m = false := by
  rw [select_refines rx req h, Spec.route, List.findIdx?_eq_none_iff]

/-- **all_routes**: `MatchAllRoutes` returns exactly the routes whose matchers hold, in configuration order, and its
first element is what `MatchRoute` returns. -/
theorem all_routes (rx : RxOracle) (req : Req) (ms : List MatchCfg) (rules : List Rule)
    (h : mkRules ms = .ok rules) :
    allRoutes rx req rules = Spec.routesAll rx req ms ∧ (allRoutes rx req rules).head? = selectRoute rx req rules := by
  exact ⟨allRoutes_refines rx req h, allRoutes_head rx req rules⟩

/-- **answer_refines** (the property end to end): on every accepted configuration, for every request and every oracle,
`MatchRoute` / `MatchAllRoutes` return what the documented behaviour prescribes — the result is a function of
(configuration, request) only. -/
theorem answer_refines (srt : List Wild → List Wild) (hs : IsSorter srt) (cfg : Config) (t : Tables)
    (hb : build srt cfg = .ok t) (rx : RxOracle) (req : Req) :
    answer rx t cfg req = Spec.answer rx cfg req :=
  MosnVerif.Model.Route.answer_refines hs hb rx req

/-! ## regex matchers: reference semantics (Model/RouteRegex.lean)

Which matcher kinds are anchored, as the code has it: **none**.  The variable matcher `regex`
(`VariableRouteRuleImpl.Match`), the path `regex` route (`RegexRouteRuleImpl.Match`), every header matcher with
`regex: true` (`StringMatch.Matches`, HTTP and RPC rules, the lone `service` regex included) call
`regexp.MatchString`: the pattern may match anywhere in the value; only `^` / `$` written in the pattern anchor it.
Exact matchers (`value`, header `value` with `regex: false`, `path`) compare the whole string, `prefix` its beginning. -/

open MosnVerif.Model.RouteRegex in
/-- **literal_regex_is_infix**: a pattern without meta characters (`regexp.QuoteMeta p == p`) is inside the subset and
matches exactly the values that contain it as a contiguous sub-string — not only the values equal to it. -/
theorem literal_regex_is_infix (p : Str) (h : isLiteral p = true) :
    ∃ re, parseRe p = some re ∧ ∀ v, (matchesRe re v = true ↔ p <:+: v) :=
  ⟨lit p, parseRe_literal p ((isLiteral_iff p).mp h), fun v => matches_lit p v⟩

example : MosnVerif.Model.RouteRegex.isLiteral "/v1/".toList = true := by decide +kernel
/-- storing a meta-free `regex` as the item's exact value changes the answer: "/v1/" matches "/api/v1/users" -/
example : MosnVerif.Model.RouteRegex.matchString "/v1/".toList "/api/v1/users".toList = some true
    ∧ "/v1/".toList ≠ "/api/v1/users".toList := by decide +kernel
example : MosnVerif.Model.RouteRegex.matchString "^/v1/".toList "/api/v1/users".toList = some false := by decide +kernel
example : MosnVerif.Model.RouteRegex.matchString "^(GET|POST)$".toList "POST".toList = some true := by decide +kernel
example : MosnVerif.Model.RouteRegex.matchString "/v[0-9]+/".toList "/api/v12/x".toList = some true := by decide +kernel

open MosnVerif.Model.RouteRegex in
/-- under the reference oracle a literal pattern is an infix test, whatever the oracle says elsewhere -/
theorem literal_regex_unanchored (pats : Nat → Option Str) (rx : RxOracle) (id : Nat) (p : Str)
    (hp : pats id = some p) (hl : isLiteral p = true) (s : Str) :
    refRx pats rx id s = true ↔ p <:+: s := by
  simp only [refRx, hp, Option.bind_some, parseRe_literal p ((isLiteral_iff p).mp hl)]
  exact matches_lit p s

open MosnVerif.Model.RouteRegex in
/-- a variable matcher `{name, regex: p}` with a meta-free `p` holds iff the variable's value contains `p`
(a `value` configured beside it is irrelevant: the regex wins) -/
theorem literal_variable_matcher (pats : Nat → Option Str) (rx : RxOracle) (req : Req) (name value model p : Str)
    (id : Nat) (ok : Bool) (hp : pats id = some p) (hl : isLiteral p = true) :
    Spec.varItemHolds (refRx pats rx) req ⟨name, value, some ⟨id, ok⟩, model⟩ = true ↔ p <:+: (req.var name).getD [] := by
  simp only [Spec.varItemHolds]
  exact literal_regex_unanchored pats rx id p hp hl _

open MosnVerif.Model.RouteRegex in
/-- a header matcher `{name, value: p, regex: true}` with a meta-free `p` holds iff the request carries the header and
its value contains `p` -/
theorem literal_header_matcher (pats : Nat → Option Str) (rx : RxOracle) (req : Req) (name p : Str) (id : Nat)
    (hp : pats id = some p) (hl : isLiteral p = true) :
    Spec.headerHolds (refRx pats rx) req ⟨name, p, true, ⟨id, true⟩⟩ = true ↔
      ∃ v, Spec.hdrValue req name = some v ∧ p <:+: v := by
  simp only [Spec.headerHolds, if_true]
  cases hv : Spec.hdrValue req name with
  | none => simp
  | some v => simp [literal_regex_unanchored pats rx id p hp hl v]

open MosnVerif.Model.RouteRegex in
/-- **first match with the reference regex semantics**: when the regex oracle (Go's `regexp` in the correspondence
run) agrees with the reference matcher on the patterns inside the subset, `MatchRoute` / `MatchAllRoutes` return the
documented answer computed with the reference matcher -/
theorem answer_refines_reference (srt : List Wild → List Wild) (hs : IsSorter srt) (cfg : Config) (t : Tables)
    (hb : build srt cfg = .ok t) (pats : Nat → Option Str) (rx : RxOracle)
    (hrx : ∀ id s, rx id s = refRx pats rx id s) (req : Req) :
    answer rx t cfg req = Spec.answer (refRx pats rx) cfg req := by
  have e : refRx pats rx = rx := funext fun id => funext fun s => (hrx id s).symm
  rw [e]
  exact answer_refines srt hs cfg t hb rx req

open Gen.Route in
/-- the model test at the end of `ParseToVariableMatchItem` (the regenerated text carries a copy of it after every
branch on `value` and `regex`): an empty model keeps the initial `and`, any other must lower-case to `and` or `or` -/
theorem modelStage (model n : Str) (v : Option Str) (p : Option RegexId) :
    (if decide (model ≠ []) then
      if (decide (lower model ≠ modelAnd) && decide (lower model ≠ modelOr)) then none
      else some (⟨n, v, p, lower model⟩ : VarItem)
    else some ⟨n, v, p, modelAnd⟩) =
    (if model = [] then some modelAnd
      else if lower model = modelAnd ∨ lower model = modelOr then some (lower model) else none).map
      (fun m => ⟨n, v, p, m⟩) := by
  by_cases hm : model = []
  · simp [hm]
  · by_cases h1 : lower model = modelAnd <;> by_cases h2 : lower model = modelOr <;> simp [hm, h1, h2]

/-- the regenerated **parse decision** of `ParseToVariableMatchItem` equals the closed form `parseVarItem` the rule
constructor of the model uses: `value` fills `value`, `regex` is compiled (by the matcher's `regexp.Compile` oracle) into
`regexPattern` — for every pattern, meta-free or not; there is no shortcut that stores a regex as an exact value. -/
theorem gen_parseVarItem (v : VarCfg) : Gen.Route.parseToVariableMatchItem v = parseVarItem v := by
  obtain ⟨name, value, regex, model⟩ := v
  have d1 : (default : VarItem).value = none := rfl
  have d2 : (default : VarItem).regexPattern = none := rfl
  unfold Gen.Route.parseToVariableMatchItem parseVarItem
  simp only [modelStage]
  generalize (if model = [] then some Gen.Route.modelAnd
      else if lower model = Gen.Route.modelAnd ∨ lower model = Gen.Route.modelOr then some (lower model) else none) = mo
  cases regex with
  | none => by_cases hv : value = [] <;> cases mo <;> simp [VarCfg.regexText, hv, d1, d2]
  | some r =>
    obtain ⟨id, ok⟩ := r
    cases ok <;> by_cases hv : value = [] <;> cases mo <;> simp [VarCfg.regexText, VarCfg.compile, hv, d1]

/-- a configured `regex` always ends up in the item's `regexPattern` (and a configured `value` beside it in `value`) -/
theorem regex_is_compiled_not_stored (v : VarCfg) (r : Rx) (item : VarItem) (hr : v.regex = some r)
    (h : Gen.Route.parseToVariableMatchItem v = some item) :
    item.regexPattern = some r.id ∧ item.value = (if v.value = [] then none else some v.value) := by
  rw [gen_parseVarItem] at h
  rw [parseVarItem_some h]
  exact ⟨by rw [itemOf, hr]; rfl, rfl⟩

example : Gen.Route.parseToVariableMatchItem ⟨"x-mosn-path".toList, [], some ⟨1, true⟩, []⟩
    = some ⟨"x-mosn-path".toList, none, some 1, Gen.Route.modelAnd⟩ := by decide +kernel

/-- the regenerated lookup is the four-step cascade followed by the default (ties `Gen.Route` to the proofs). -/
theorem gen_lookup_is_cascade (t : Tables) (host port : Str) :
    Gen.Route.findHighestPriorityIndex t host port = findIdx t host port :=
  gen_findIdx t host port

/-- the regenerated entry loops: `GetRouteFromEntries` returns the first rule whose `Match` is non-nil,
`GetAllRoutesFromEntries` all of them in order; the regenerated variable-rule loop is the closed-form fold. -/
theorem gen_entry_loops (rx : RxOracle) (req : Req) (rules : List Rule) :
    selectRoute rx req rules = rules.findIdx? (matchRule rx req) ∧
    allRoutes rx req rules = (List.range rules.length).filter (fun i => (rules[i]?).any (matchRule rx req)) ∧
    ∀ items, Gen.Route.variableMatch rx req.var items = varLoop rx req.var items true Gen.Route.modelAnd :=
  ⟨selectRoute_eq rx req rules, allRoutes_eq rx req rules, fun items => gen_variableMatch rx req.var items⟩

/-- variable matchers that are all `and` form a plain conjunction. -/
theorem variables_and_is_conjunction (rx : RxOracle) (req : Req) (vs : List VarCfg)
    (hand : ∀ v ∈ vs, Spec.isOr v = false) (acc : Bool) :
    Spec.varsHold rx req vs acc = (acc && vs.all (Spec.varItemHolds rx req)) := by
  induction vs generalizing acc with
  | nil => simp [Spec.varsHold]
  | cons v r ih =>
    have h1 : Spec.isOr v = false := hand v (by simp)
    simp only [Spec.varsHold, h1, Bool.false_eq_true, if_false, List.all_cons]
    rw [ih (fun x hx => hand x (List.mem_cons_of_mem _ hx)), Bool.and_assoc]

theorem exists_ok_of_toBool {ε α : Type} {x : Except ε α} (h : x.toBool = true) : ∃ a, x = .ok a := by
  cases x with
  | error e => cases h
  | ok a => exact ⟨a, rfl⟩

/-- the driver's sorter satisfies the `sort.Sort` contract, so the hypotheses `IsSorter srt`, `build srt cfg = ok t`
are satisfiable -/
theorem isort_is_sorter : IsSorter isort :=
  { perm := insertWild_isIns.foldr_perm
    sorted := insertWild_isIns.foldr_pairwise (fun _ _ => Bool.eq_false_iff.mpr)
      (fun a b h => by
        rw [less_false_iff]
        simp only [Gen.Route.less, decide_eq_true_eq, Decidable.not_not] at h
        omega)
      (fun a b c h1 h2 => by rw [less_false_iff] at *; omega) }

/-- a configuration with an exact host, an exact host with port, two overlapping wildcard suffixes, a ported
wildcard, a default, mixed case -/
def exCfg : Config :=
  [ ⟨["a.cc".toList], []⟩, ⟨["A.cc:80".toList], []⟩, ⟨["*.cc".toList], []⟩, ⟨["*.b.CC".toList, "*.cc:*".toList], []⟩,
    ⟨["*".toList], []⟩ ]

example : ∃ t, build isort exCfg = .ok t := exists_ok_of_toBool (by decide +kernel)
example : Spec.vhost exCfg (some "A.CC".toList) = 0 := by decide +kernel
example : Spec.vhost exCfg (some "a.cc:80".toList) = 1 := by decide +kernel
example : Spec.vhost exCfg (some "x.b.cc".toList) = 3 := by decide +kernel          -- longest suffix wins over `*.cc`
example : Spec.vhost exCfg (some "x.a.cc".toList) = 2 := by decide +kernel
example : Spec.vhost exCfg (some "x.a.cc:81".toList) = 3 := by decide +kernel       -- wildcard port
example : Spec.vhost exCfg (some "x.org".toList) = 4 := by decide +kernel           -- default
example : Spec.vhost exCfg none = 4 ∧ Spec.vhost exCfg (some []) = 4 ∧ Spec.vhost exCfg (some "a:b:c".toList) = 4 := by decide +kernel
example : Spec.vhost [⟨["a.cc".toList], []⟩] (some "b.cc".toList) = -1 := by decide +kernel
example : lower "A.Cc:80".toList = lower "a.cC:80".toList := by decide +kernel

/-- a route list mixing kinds: the prefix rule with a method matcher shadows the later catch-all only for GET -/
def exRoutes : List MatchCfg :=
  [ ⟨"/a".toList, [], none, [], [⟨"method".toList, "GET".toList, false, ⟨0, false⟩⟩], []⟩,
    ⟨[], [], some ⟨1, true⟩, [], [], []⟩,
    ⟨[], [], none, [], [], []⟩ ]

def exReq (method path : String) : Req :=
  { var := fun k => if k = "x-mosn-method".toList then some method.toList else if k = "x-mosn-path".toList then some path.toList else none,
    dsl := fun _ => none }

example : ∃ rules, mkRules exRoutes = .ok rules := exists_ok_of_toBool (by decide +kernel)
example : Spec.route (fun _ _ => false) (exReq "GET" "/a/b") exRoutes = some 0 := by decide +kernel
example : Spec.route (fun _ _ => true) (exReq "POST" "/a/b") exRoutes = some 1 := by decide +kernel
example : Spec.route (fun _ _ => false) (exReq "POST" "/a/b") exRoutes = some 2 := by decide +kernel
example : Spec.route (fun _ _ => false) (exReq "POST" "/a/b") (exRoutes.take 2) = none := by decide +kernel

-- header names: an RPC rule and an HTTP rule keyed on `Service-Name`, then a catch-all
def exHdrRoutes : List MatchCfg :=
  [ ⟨[], [], none, [], [⟨"Service-Name".toList, "pay".toList, false, ⟨0, false⟩⟩], []⟩,
    ⟨"/".toList, [], none, [], [⟨"Service-Name".toList, "^p".toList, true, ⟨1, true⟩⟩], []⟩,
    ⟨[], [], none, [], [], []⟩ ]

def exHdrReq (kind : MapKind) (hdrs : List (String × String)) : Req :=
  { var := fun k => if k = "x-mosn-path".toList then some "/x".toList else none,
    kind := kind, hdrs := hdrs.map (fun kv => (kv.1.toList, kv.2.toList)),
    pseudo := [(":authority".toList, "a.cc".toList), (":path".toList, "/x".toList), (":method".toList, "GET".toList)] }

example : ∃ rules, mkRules exHdrRoutes = .ok rules := exists_ok_of_toBool (by decide +kernel)
-- xprotocol / RPC map: only the exact-case key matches; the lower-cased key falls through to the catch-all
example : Spec.route (fun _ _ => true) (exHdrReq .exact [("Service-Name", "pay")]) exHdrRoutes = some 0 := by decide +kernel
example : Spec.route (fun _ _ => false) (exHdrReq .exact [("service-name", "pay")]) exHdrRoutes = some 2 := by decide +kernel
example : Spec.route (fun _ _ => true) (exHdrReq .exact [("service-name", "pay"), ("Service-Name", "x")]) exHdrRoutes = some 1 := by decide +kernel
-- HTTP maps: any case matches, the first carried header of that name counts
example : Spec.route (fun _ _ => false) (exHdrReq .fold [("service-name", "pay")]) exHdrRoutes = some 0 := by decide +kernel
example : Spec.route (fun _ _ => false) (exHdrReq .fold [("SERVICE-NAME", "x"), ("Service-Name", "pay")]) exHdrRoutes = some 2 := by decide +kernel
example : Spec.route (fun _ _ => false) (exHdrReq .h2 [("service-name", "pay")]) exHdrRoutes = some 0 := by decide +kernel
example : Spec.route (fun _ _ => false) (exHdrReq .h2 [("service-name", "")]) exHdrRoutes = some 2 := by decide +kernel
example : Spec.hdrValue (exHdrReq .h2 []) ":authority".toList = some "a.cc".toList := by decide +kernel
example : Spec.hdrValue (exHdrReq .fold [(":authority", "b")]) ":Authority".toList = some ['b'] := by decide +kernel
-- hypotheses of http_names_case_insensitive / rpc_names_exact are satisfiable
example : (exHdrReq .fold [("K", "v")]).kind = .fold ∧ lower "Service-Name".toList = lower "service-NAME".toList := by decide +kernel
example : (((exHdrReq .exact [("K", "v"), ("k", "w")]).hdrs).map (·.1)).Nodup := by decide +kernel

/-- **lowercasing_breaks_exact_maps** (why the constructors must keep names verbatim): lower-casing the configured name
of an RPC rule changes the selected route on an xprotocol request that carries the configured name — the rule is
skipped for the request it is written for, and taken for a request carrying the lower-cased key. -/
theorem lowercasing_breaks_exact_maps :
    let cfg := exHdrRoutes
    let cfg' := exHdrRoutes.map (fun m => { m with headers := m.headers.map (fun h => { h with name := lower h.name }) })
    Spec.route (fun _ _ => false) (exHdrReq .exact [("Service-Name", "pay")]) cfg = some 0 ∧
    Spec.route (fun _ _ => false) (exHdrReq .exact [("Service-Name", "pay")]) cfg' = some 2 ∧
    Spec.route (fun _ _ => false) (exHdrReq .exact [("service-name", "pay")]) cfg = some 2 ∧
    Spec.route (fun _ _ => false) (exHdrReq .exact [("service-name", "pay")]) cfg' = some 0 ∧
    -- ... and is invisible on an HTTP request
    Spec.route (fun _ _ => false) (exHdrReq .fold [("Service-Name", "pay")]) cfg' = some 0 := by decide +kernel

end MosnVerif.Props.C04
