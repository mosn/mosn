import MosnVerif.Gen.TlsPolicy
/-!
Model of MOSN's TLS selection and policy layer (pkg/mtls): `tlsContext.buildMatch`, `MatchedServerName`,
`MatchedALPN`, `tlsConfigTemplate`'s ALPN filter, the provider walk of `serverContextManager.GetConfigForClient`
(loop body and tail *regenerated*: `Gen.TlsPolicy.walkStep/walkFinish`), the client-auth table (`getClientAuth`,
regenerated), the client-side verification flags (`clientVerify`, regenerated), and the inspector decision of
`serverContextManager.Conn` (`connDecision`, regenerated).

Strings are `List Char` (ASCII names: Go's `strings.ToLower` is modelled by `Char.toLower`, which agrees on ASCII).
The second half (`Spec…`) is the declarative reading of the property statement, written without the regenerated
functions and without the shared match set; it is what the driver evaluates on the implementation's outputs.
-/
namespace MosnVerif.Model.TlsSelect
open MosnVerif.Gen.TlsPolicy

abbrev Name := List Char

/-- `strings.ToLower` on ASCII -/
def lower (n : Name) : Name := n.map Char.toLower

/-- `for len(name) > 0 && name[len(name)-1] == '.' { name = name[:len(name)-1] }` -/
def stripDots (n : Name) : Name := (n.reverse.dropWhile (· == '.')).reverse

/-- `strings.Split(s, sep)` for a one-character separator (always at least one piece) -/
def splitOn (sep : Char) : Name → List Name
  | [] => [[]]
  | c :: r =>
    if c == sep then [] :: splitOn sep r
    else match splitOn sep r with
      | [] => [[c]]
      | h :: t => (c :: h) :: t

/-- `strings.Join(labels, ".")` -/
def joinDot : List Name → Name
  | [] => []
  | [a] => a
  | a :: b :: r => a ++ '.' :: joinDot (b :: r)

/-- the candidates of the loop `for i := 0; i < len(labels)-1; i++ { labels[i] = "*"; candidate := Join(labels[i:], ".") }`,
in loop order -/
def candidates : List Name → List Name
  | [] => []
  | [_] => []
  | _ :: b :: r => joinDot (['*'] :: b :: r) :: candidates (b :: r)

/-- the SNI as it is looked up: lower-cased, trailing dots removed -/
def normSni (sn : Name) : Name := stripDots (lower sn)

/-- `tlsContext.MatchedServerName` over the match set `m` -/
def matchedServerName (m : List Name) (sn : Name) : Bool :=
  m.contains (normSni sn) || (candidates (splitOn '.' (normSni sn))).any (fun c => m.contains c)

/-- `tlsContext.MatchedALPN` -/
def matchedALPN (m : List Name) (protos : List Name) : Bool :=
  protos.any (fun p => m.contains (lower p))

/-- `tlsConfigTemplate`: `NextProtos` = the pieces of the `alpn` config string whose lower-case form is in the table,
kept as written -/
def parseALPN (cfg : Name) : List Name :=
  if cfg.isEmpty then []
  else (splitOn ',' cfg).filter (fun p => (alpnSupported.map String.toList).contains (lower p))

/-- one TLS context of a listener, as far as selection reads it -/
structure Ctx where
  ready : Bool
  cn : Name            -- certificate Subject.CommonName ([] = absent)
  sans : List Name     -- certificate DNSNames
  alpnCfg : Name       -- the `alpn` config string
  serverName : Name    -- the `server_name` config string
  deriving DecidableEq, Repr

def Ctx.alpn (c : Ctx) : List Name := parseALPN c.alpnCfg

/-- `tlsContext.buildMatch`: CN (if any), the non-empty SANs, NextProtos and server_name (if set), lower-cased, in ONE
set (proved equal to the regenerated function: Props/C13 `gen_buildMatch_eq_model`) -/
def buildMatch (c : Ctx) : List Name :=
  (if c.cn.length > 0 then [lower c.cn] else []) ++ (c.sans.filter (fun s => s.length > 0)).map lower ++
    c.alpn.map lower ++ (if c.serverName.length > 0 then [lower c.serverName] else [])

def Ctx.sniMatch (c : Ctx) (sni : Name) : Bool := matchedServerName (buildMatch c) sni
def Ctx.alpnMatch (c : Ctx) (protos : List Name) : Bool := matchedALPN (buildMatch c) protos

/-- the loop of `GetConfigForClient` from provider index `i` on, with the regenerated loop body and tail -/
def walk (sni : Name) (protos : List Name) : List Ctx → Nat → Option Nat → Option Nat → Outcome
  | [], _, d, a => walkFinish d a
  | p :: r, i, d, a =>
    match walkStep d a i p.ready (p.sniMatch sni) (p.alpnMatch protos) with
    | .ret o => o
    | .next d' a' => walk sni protos r (i + 1) d' a'

/-- `serverContextManager.GetConfigForClient` -/
def select (ps : List Ctx) (sni : Name) (protos : List Name) : Outcome := walk sni protos ps 0 none none

/-! ### client authentication (server side) and upstream verification (client side) -/

/-- what the peer presents, relative to the configured CA -/
inductive Peer where
  | none | selfSigned | otherCA | rightCA | expired | stolenKey
  deriving DecidableEq, Repr

/-- crypto/x509 chain verification against the configured CA (black box; these are the expected verdicts) -/
def Peer.chainOK : Peer → Bool
  | .rightCA => true
  | .stolenKey => true      -- the certificate itself is genuine
  | _ => false

/-- the peer holds the private key of the certificate it presents (CertificateVerify) -/
def Peer.possession : Peer → Bool
  | .stolenKey => false
  | _ => true

/-- server-side result of a handshake under ClientAuthType `auth` (forked crypto/tls handshake_server: a certificate is
requested iff `auth ≥ RequestClientCert`; an empty certificate list is refused iff `requiresClientCert auth`; the chain
is verified iff `auth ≥ VerifyClientCertIfGiven` and a certificate was given; CertificateVerify is checked whenever a
certificate was given). The peer sends its certificate whenever one is requested. -/
def serverAccepts (auth : Int) (p : Peer) : Bool :=
  if auth < RequestClientCert then true
  else if p == .none then !requiresClientCert auth
  else (if auth ≥ VerifyClientCertIfGiven then p.chainOK else true) && p.possession

/-- the certificate an upstream server presents to MOSN's client side -/
inductive ServerCert where
  | rightCA | selfSigned | otherCA | expired | wrongName
  deriving DecidableEq, Repr

/-- verification is skipped altogether: no chain/hostname check and no hook -/
def verifySkipped (flags : Bool × Bool) : Bool := flags.1 && !flags.2

/-- client-side result of a handshake with the flags of `SetClientConfig` (`hookOK` = verdict of the extension hook;
an empty `server_name` without InsecureSkipVerify is refused by crypto/tls before anything is sent) -/
def clientAccepts (hookVerify insecureSkip serverNameSet : Bool) (s : ServerCert) (hookOK : Bool) : Bool :=
  let flags := clientVerify hookVerify insecureSkip
  (flags.1 || serverNameSet) && (flags.1 || s == .rightCA) && (!flags.2 || hookOK)

/-- result of `clientContextManager.Conn` -/
inductive ClientResult where
  | notls | ok | fail
  deriving DecidableEq, Repr

/-- `clientContextManager.Conn`: `if !mng.Enabled() { return c, nil }` — a provider that is not ready (sds secret
pending) leaves the upstream connection in plaintext; otherwise the handshake decides -/
def clientConn (ready hookVerify insecureSkip serverNameSet : Bool) (s : ServerCert) (hookOK : Bool) : ClientResult :=
  if !ready then .notls
  else if clientAccepts hookVerify insecureSkip serverNameSet s hookOK then .ok else .fail

/-- plaintext is served on this connection -/
def servesPlain : ConnResult → Bool
  | .raw => true
  | .plainPeeked => true
  | _ => false

/-! ### Spec: the statement read declaratively (separate name and ALPN namespaces) -/

/-- `pat` is a wildcard name `*.suffix` and `n` ends in `.suffix` -/
def isWildOf (pat n : Name) : Bool :=
  match pat with
  | '*' :: '.' :: suf => ('.' :: suf).isSuffixOf n
  | _ => false

/-- the names a context answers to: certificate names and the configured server_name -/
def Ctx.names (c : Ctx) : List Name :=
  (if c.cn ≠ [] then [c.cn] else []) ++ c.sans ++ (if c.serverName ≠ [] then [c.serverName] else [])

/-- "certificate names or server_name match the SNI exactly or by wildcard label" (host names compare
case-insensitively) -/
def nameRule (c : Ctx) (sni : Name) : Bool :=
  let n := normSni sni
  n ≠ [] && c.names.any (fun x => lower x == n || isWildOf (lower x) n)

/-- "ALPN list intersects the client's" (MOSN's ALPN tokens are accepted case-insensitively by tlsConfigTemplate) -/
def alpnRule (c : Ctx) (protos : List Name) : Bool :=
  protos.any (fun q => (c.alpn.map lower).contains (lower q))

def orElse' : Option Nat → Option Nat → Option Nat
  | some x, _ => some x
  | none, y => y

/-- the statement's precedence: first ready name match, else first ready ALPN match, else first ready -/
def specSelect (ps : List Ctx) (sni : Name) (protos : List Name) : Option Nat :=
  orElse' (ps.findIdx? (fun c => c.ready && nameRule c sni))
    (orElse' (ps.findIdx? (fun c => c.ready && alpnRule c protos)) (ps.findIdx? (fun c => c.ready)))

/-- the statement's client-auth table, with crypto/tls' numeric ClientAuthType values -/
def specClientAuth (requireClientCert verifyClient : Bool) : Int :=
  match requireClientCert, verifyClient with
  | true, true => 4    -- RequireAndVerifyClientCert
  | false, true => 3   -- VerifyClientCertIfGiven
  | true, false => 1   -- RequestClientCert
  | false, false => 0  -- NoClientCert

/-- the statement's server-side trust table -/
def specServerAccepts (requireClientCert verifyClient : Bool) (p : Peer) : Bool :=
  match requireClientCert, verifyClient with
  | true, true => p == .rightCA
  | false, true => p == .none || p == .rightCA
  | true, false => p != .stolenKey
  | false, false => true

/-- the statement's inspector rule for a TCP connection on a TLS-enabled listener whose first byte was read -/
def specPlain (inspector : Bool) (first : Nat) : Bool := inspector && first != 22

/-- predicate on an observed `Conn` result of a listener (`configured` = it has TLS contexts at all): without TLS
contexts the connection is passed through; on a TCP connection with a ready context a failed peek is an error and
otherwise plaintext is served iff the inspector rule allows it; in the remaining cases (transport not TCP, or no context
ready yet) MOSN passes the connection through, which the statement allows only under inspector mode -/
def specConn (tcp configured enabled inspector peekFailed : Bool) (first : Nat) (r : ConnResult) : Bool :=
  if !configured then r == .raw
  else if tcp && enabled then
    (if inspector && peekFailed then r == .peekError
     else servesPlain r == specPlain inspector first && r != .raw && r != .peekError)
  else r == .raw && inspector

/-- predicate on the observed client-side flags: verification is skipped iff insecure_skip; the hook survives iff it
exists and insecure_skip is off -/
def specCv (hook insecureSkip : Bool) (flags : Bool × Bool) : Bool :=
  (flags.1 && !flags.2) == insecureSkip && (flags.2 == (hook && !insecureSkip))

/-- predicate on an observed client-side result: with insecure_skip nothing is required beyond "not refused"; otherwise
the connection is TLS and succeeds exactly per the trust table (a plaintext connection is never acceptable) -/
def specClientConn (hook insecureSkip serverNameSet : Bool) (s : ServerCert) (hookOK : Bool) (r : ClientResult) : Bool :=
  if insecureSkip then r != .fail
  else r == (if (if hook then hookOK else serverNameSet && s == .rightCA) then .ok else .fail)

/-- the statement's client-side trust table -/
def specClientAccepts (hook insecureSkip serverNameSet : Bool) (s : ServerCert) (hookOK : Bool) : Bool :=
  if insecureSkip then true else if hook then hookOK else serverNameSet && s == .rightCA

end MosnVerif.Model.TlsSelect
